-- root of the library: everything except the Audit files (which only print axioms)
import SoupVerif.Generated.Builtins
import SoupVerif.Generated.Classes
import SoupVerif.Generated.Effects
import SoupVerif.Generated.Imports
import SoupVerif.Generated.Lexicon
import SoupVerif.Generated.PyInputs
import SoupVerif.Generated.PyStrings
import SoupVerif.Generated.PyParseDisp
import SoupVerif.Generated.PyMatchSel
import SoupVerif.Generated.Regexes
import SoupVerif.Generated.Tables
import SoupVerif.Generated.Wrappers
import SoupVerif.Lemmas.AttrTemplates
import SoupVerif.Lemmas.C18Inputs
import SoupVerif.Lemmas.C18Num
import SoupVerif.Lemmas.Cache
import SoupVerif.Lemmas.Calendar
import SoupVerif.Lemmas.CapsReal
import SoupVerif.Lemmas.Context
import SoupVerif.Lemmas.CssUnescape
import SoupVerif.Lemmas.Escape
import SoupVerif.Lemmas.Imports
import SoupVerif.Lemmas.Lang
import SoupVerif.Lemmas.List
import SoupVerif.Lemmas.Lits
import SoupVerif.Lemmas.Lower
import SoupVerif.Lemmas.RadioScan
import SoupVerif.Lemmas.StrLit
import SoupVerif.Lemmas.SmallFnDyn
import SoupVerif.Lemmas.MatchAlgebra
import SoupVerif.Lemmas.Memo
import SoupVerif.Lemmas.PyVal
import SoupVerif.Lemmas.Names
import SoupVerif.Lemmas.ParseCost
import SoupVerif.Lemmas.ParseCost.Caps
import SoupVerif.Lemmas.ParseCost.Compile
import SoupVerif.Lemmas.ParseCost.Iter
import SoupVerif.Lemmas.ParseCost.Steps
import SoupVerif.Lemmas.ParseCost.Twin
import SoupVerif.Lemmas.Nth
import SoupVerif.Lemmas.NthSite
import SoupVerif.Lemmas.PyLoops
import SoupVerif.Lemmas.PyStr
import SoupVerif.Lemmas.ParserProgress
import SoupVerif.Lemmas.ParserProgress.Custom
import SoupVerif.Lemmas.ParserProgress.CustomMap
import SoupVerif.Lemmas.ParserProgress.Fuel
import SoupVerif.Lemmas.ParserProgress.Rules
import SoupVerif.Lemmas.ParserProgress.Stable
import SoupVerif.Lemmas.ParserProgress.Step
import SoupVerif.Lemmas.ParserProgress.Comb
import SoupVerif.Lemmas.ParserProgress.Dispatch
import SoupVerif.Lemmas.ParserProgress.Loop
import SoupVerif.Lemmas.Pretty
import SoupVerif.Lemmas.RegexCost
import SoupVerif.Lemmas.RxBasic
import SoupVerif.Lemmas.RxDet
import SoupVerif.Lemmas.RegexCost.Bounds
import SoupVerif.Lemmas.RegexCost.Det
import SoupVerif.Lemmas.RegexCost.Ends
import SoupVerif.Lemmas.RegexCost.Excl
import SoupVerif.Lemmas.RegexCost.First
import SoupVerif.Lemmas.SatAll
import SoupVerif.Lemmas.SatCore
import SoupVerif.Lemmas.SatHas
import SoupVerif.Lemmas.SatLeaf
import SoupVerif.Lemmas.SatMain
import SoupVerif.Lemmas.SatNth
import SoupVerif.Lemmas.SatParts
import SoupVerif.Lemmas.SatRoot
import SoupVerif.Lemmas.SatTree
import SoupVerif.Lemmas.SatWords
import SoupVerif.Lemmas.Gaps
import SoupVerif.Lemmas.Spelling
import SoupVerif.Lemmas.EscapeForms
import SoupVerif.Lemmas.RxSub
import SoupVerif.Lemmas.StateLawsDir
import SoupVerif.Lemmas.StateLawsRel
import SoupVerif.Lemmas.StateLawsSem
import SoupVerif.Lemmas.StateLawsShape
import SoupVerif.Lemmas.Text
import SoupVerif.Lemmas.TreeWalk
import SoupVerif.Model.Api
import SoupVerif.Model.Cache
import SoupVerif.Model.Codec
import SoupVerif.Model.Context
import SoupVerif.Model.Escape
import SoupVerif.Model.IR
import SoupVerif.Model.Imports
import SoupVerif.Model.Inputs
import SoupVerif.Model.Lang
import SoupVerif.Model.Match
import SoupVerif.Model.MatchChecks
import SoupVerif.Model.MatchDyn
import SoupVerif.Model.Memo
import SoupVerif.Model.Nth
import SoupVerif.Model.ParseDispatch
import SoupVerif.Model.Parser
import SoupVerif.Model.ParserStep
import SoupVerif.Model.Pretty
import SoupVerif.Model.Py
import SoupVerif.Model.PyExpr
import SoupVerif.Model.PyProg
import SoupVerif.Model.PyStrings
import SoupVerif.Model.Regex
import SoupVerif.Model.Sched
import SoupVerif.Model.Sx
import SoupVerif.Model.TextWalk
import SoupVerif.Model.Tree
import SoupVerif.Properties.C01
import SoupVerif.Properties.C01Attr
import SoupVerif.Properties.C01Has
import SoupVerif.Properties.C01Ns
import SoupVerif.Properties.C01Sat
import SoupVerif.Properties.C02
import SoupVerif.Properties.C03
import SoupVerif.Properties.C03Wrappers
import SoupVerif.Properties.C04
import SoupVerif.Properties.C05
import SoupVerif.Properties.C06
import SoupVerif.Properties.C06Gen
import SoupVerif.Properties.C06GenDispatch
import SoupVerif.Properties.C06GenPseudo
import SoupVerif.Properties.C07
import SoupVerif.Properties.C07Parse
import SoupVerif.Properties.C08
import SoupVerif.Properties.C09
import SoupVerif.Properties.C10
import SoupVerif.Properties.C10Gen
import SoupVerif.Properties.C11
import SoupVerif.Properties.C11Gen
import SoupVerif.Properties.C12
import SoupVerif.Properties.C13
import SoupVerif.Properties.C14
import SoupVerif.Properties.C15
import SoupVerif.Properties.C16
import SoupVerif.Properties.C17
import SoupVerif.Properties.C18
import SoupVerif.Properties.C18Range
import SoupVerif.Properties.C19
import SoupVerif.Properties.C20
import SoupVerif.Spec.Calendar
import SoupVerif.Spec.Context
import SoupVerif.Spec.Css
import SoupVerif.Spec.CssCompile
import SoupVerif.Spec.CssHas
import SoupVerif.Spec.CssNs
import SoupVerif.Spec.CssValue
import SoupVerif.Spec.Nth
import SoupVerif.Spec.ParseCost
import SoupVerif.Spec.Pretty
import SoupVerif.Spec.RegexCost
import SoupVerif.Spec.Rfc4647
import SoupVerif.Spec.Spelling
import SoupVerif.Spec.Text
import SoupVerif.Refine.BuilderMerge
import SoupVerif.Refine.Context
import SoupVerif.Refine.Lang
import SoupVerif.Refine.Fold
import SoupVerif.Refine.Reads
import SoupVerif.Refine.Builders
import SoupVerif.Refine.Denote
import SoupVerif.Refine.Denote2
import SoupVerif.Refine.Syntax
import SoupVerif.Refine.Syntax2
import SoupVerif.Refine.Ws
import SoupVerif.Refine.Wsc
import SoupVerif.Refine.Ident
import SoupVerif.Refine.UnescapeBase
import SoupVerif.Refine.Unescape
import SoupVerif.Refine.StringTok
import SoupVerif.Refine.PrettyBase
import SoupVerif.Refine.Pretty
import SoupVerif.Refine.InputsBase
import SoupVerif.Refine.InputsNum
import SoupVerif.Refine.Inputs
import SoupVerif.Properties.C09Rx
import SoupVerif.Properties.C10Rx
import SoupVerif.Properties.C13Rx
import SoupVerif.Properties.C18Rx
import SoupVerif.Properties.C18Gen
import SoupVerif.Properties.C20Rx
import SoupVerif.Refine.Misc
import SoupVerif.Properties.C17Dir
import SoupVerif.Properties.C02Site
import SoupVerif.Properties.C19Rx
import SoupVerif.Refine.CompileAnB
import SoupVerif.Refine.CompileAttr
import SoupVerif.Refine.CompileAttrStep
import SoupVerif.Refine.CompileComb
import SoupVerif.Refine.CompileCombStep
import SoupVerif.Refine.CompileDir
import SoupVerif.Refine.CompileIdent
import SoupVerif.Refine.CompileLex
import SoupVerif.Refine.CompileLeaf
import SoupVerif.Refine.CompileNth
import SoupVerif.Refine.CompileNthRx
import SoupVerif.Refine.CompileNthStep
import SoupVerif.Refine.CompilePseudo
import SoupVerif.Refine.CompileStep
import SoupVerif.Refine.CompileTag
import SoupVerif.Properties.C09Compile
import SoupVerif.Refine.C01ParseBase
import SoupVerif.Refine.C01ParseSem
import SoupVerif.Properties.C01Parse
import SoupVerif.Properties.C01GenMatch
import SoupVerif.Properties.C01GenTag
import SoupVerif.Refine.Compile2CombStep
import SoupVerif.Refine.Compile2Custom
import SoupVerif.Refine.Compile2Tag
import SoupVerif.Refine.Compile2Values
import SoupVerif.Refine.Compile2ValuesStep
import SoupVerif.Properties.C09Compile2
import SoupVerif.Refine.NsParseBase
import SoupVerif.Refine.MatchText
import SoupVerif.Properties.C12Parse
import SoupVerif.Properties.C13Parse
import SoupVerif.Refine.C02ParseAnB
import SoupVerif.Refine.C02ParseSem
import SoupVerif.Properties.C02Parse
import SoupVerif.Refine.C05ParseBase
import SoupVerif.Refine.C05ParseImpl
import SoupVerif.Properties.C05Parse
import SoupVerif.Properties.C05GenFrame
import SoupVerif.Properties.C19Parse
import SoupVerif.Refine.C17ParseBase
import SoupVerif.Refine.C17StateKw
import SoupVerif.Properties.C17Parse
import SoupVerif.Refine.C10ParseCompound
import SoupVerif.Properties.C10Parse
import SoupVerif.Refine.C20ParseBase
import SoupVerif.Refine.C20ParseOrigin
import SoupVerif.Refine.C20ParseCtx
import SoupVerif.Properties.C20Parse
import SoupVerif.Refine.C18ParseBase
import SoupVerif.Properties.C18Parse
import SoupVerif.Refine.C11ParseBase
import SoupVerif.Refine.TextVerdict
import SoupVerif.Properties.C11Parse
import SoupVerif.Generated.PyLoops
import SoupVerif.Model.PyLoop
import SoupVerif.Properties.C18GenRange
import SoupVerif.Properties.C17GenRange
import SoupVerif.Properties.C13Gen
import SoupVerif.Model.PyCtx
import SoupVerif.Generated.PyContext
import SoupVerif.Properties.C20Gen
import SoupVerif.Model.AttrNameDyn
import SoupVerif.Generated.PyAttrName
import SoupVerif.Properties.C12GenAttr
import SoupVerif.Generated.PyAnB
import SoupVerif.Properties.C02Gen
import SoupVerif.Model.PyApiLoop
import SoupVerif.Generated.PyApi
import SoupVerif.Properties.C03Gen
import SoupVerif.Model.PyFlagLoop
import SoupVerif.Generated.PyTextFn
import SoupVerif.Properties.C19Gen
import SoupVerif.Properties.C19GenRoot
import SoupVerif.Model.SmallFnDyn
import SoupVerif.Generated.PySmallFn
import SoupVerif.Properties.C06GenCustom
import SoupVerif.Properties.C17GenSmall
import SoupVerif.Properties.C17GenOwnDir
import SoupVerif.Model.AttrSelDyn
import SoupVerif.Generated.PyAttrSel
import SoupVerif.Properties.C11GenAttrSel
import SoupVerif.Model.LangWalkDyn
import SoupVerif.Generated.PyLangWalk
import SoupVerif.Properties.C13GenWalk
import SoupVerif.Model.PyWhile
import SoupVerif.Generated.PyNth
import SoupVerif.Properties.C02GenNth
import SoupVerif.Properties.C02GenNthTerm
import SoupVerif.Model.CombDyn
import SoupVerif.Generated.PyCombinators
import SoupVerif.Properties.C06GenComb
import SoupVerif.Model.HandlersDyn
import SoupVerif.Generated.PyHandlers
import SoupVerif.Properties.C09GenHandlers
import SoupVerif.Generated.PyPseudoOpen
import SoupVerif.Properties.C06GenPseudoOpen
import SoupVerif.Model.PseudoCustomProg
import SoupVerif.Generated.PyPseudoCustom
import SoupVerif.Properties.C06GenPseudoCustom
import SoupVerif.Generated.PyAttrs
import SoupVerif.Properties.C01GenAttrs
import SoupVerif.Model.RelBranch
import SoupVerif.Generated.PyRelations
import SoupVerif.Properties.C01GenRel
import SoupVerif.Properties.C02GenType
