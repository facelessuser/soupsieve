/-
  Line and column of an offset that stands at the end of a prefix `a` of the pattern `a ++ b`, as
  functions of `a` ALONE: the line is the last line of `a`, the column one past the end of that line —
  unless `a` ends with `\r` and `b` begins with `\n` (then the offset points into a `\r\n` pair, which
  counts as a break only at its end; that case is `C20.ctx_crlf`).
  Also: offset 0 is line 1, column 1.
-/
import SoupVerif.Properties.C20
namespace SoupVerif
namespace Refine
namespace C20Parse
open Context Spec Spec.Ctx CtxLemmas

/-- The offset `|a|` in `a ++ b` does not point at the `\n` of a `\r\n` pair. -/
def CleanCut (a b : Str) : Prop := ¬ (a.getLast? = some 13 ∧ b.head? = some 10)

instance (a b : Str) : Decidable (CleanCut a b) := by unfold CleanCut; infer_instance

theorem cleanCut_tail {c : Nat} {r b : Str} (h : CleanCut (c :: r) b) : CleanCut r b := by
  intro ⟨h1, h2⟩
  apply h
  refine ⟨?_, h2⟩
  cases r with
  | nil => simp at h1
  | cons d r' => rw [List.getLast?_cons_cons]; exact h1

theorem cleanCut_of_head {a b : Str} (h : b.head? ≠ some 10) : CleanCut a b := fun hc => h hc.2

theorem cleanCut_append {u r b : Str} (h : CleanCut (u ++ r) b) : CleanCut r b := by
  induction u with
  | nil => exact h
  | cons c u ih => exact ih (cleanCut_tail h)

theorem breakUnit_append {u r b : Str} (hu : BreakUnit u r) (h : CleanCut (u ++ r) b) :
    BreakUnit u (r ++ b) := by
  cases hu with
  | crlf => exact .crlf _
  | cr r hr =>
    refine .cr _ ?_
    cases r with
    | nil => exact fun hb => h ⟨rfl, hb⟩
    | cons d r' => exact hr
  | lf => exact .lf _

theorem be_prefix : ∀ (a : Str) (pos : Nat) (b : Str), CleanCut a b →
    (breakEndsFrom pos (a ++ b)).filter (· ≤ pos + a.length) = breakEndsFrom pos a := by
  intro a
  induction a using unitInduction with
  | nil =>
    intro pos b _
    rw [List.nil_append, be_nil]
    exact be_filter_nil b pos _ (by simp)
  | unit u r hu ih =>
    intro pos b h
    rw [List.append_assoc, be_unit (breakUnit_append hu h), be_unit hu, List.filter_cons, List.length_append,
      ← Nat.add_assoc, ih (pos + u.length) b (cleanCut_append h)]
    simp
  | other c r h1 h2 ih =>
    intro pos b h
    have e2 : pos + (c :: r).length = pos + 1 + r.length := by simp; omega
    rw [List.cons_append, be_other _ _ _ h1 h2, be_other _ _ _ h1 h2, e2, ih (pos + 1) b (cleanCut_tail h)]

theorem breakEnds_prefix (a b : Str) (h : CleanCut a b) :
    (breakEnds (a ++ b)).filter (· ≤ a.length) = breakEnds a := by
  have := be_prefix a 0 b h
  simpa [breakEnds] using this

theorem breaksBefore_prefix (a b : Str) (h : CleanCut a b) :
    breaksBefore (a ++ b) a.length = breaksBefore a a.length := by
  unfold breaksBefore
  rw [breakEnds_prefix a b h, breakEnds_filter_self]

theorem lineStart_prefix (a b : Str) (h : CleanCut a b) :
    lineStart (a ++ b) a.length = lineStart a a.length := by
  unfold lineStart
  rw [breakEnds_prefix a b h, breakEnds_filter_self]

theorem breaksBefore_end (a : Str) : 1 + breaksBefore a a.length = numLines a := by
  unfold breaksBefore
  rw [breakEnds_filter_self, numLines_eq]; omega

/-- **Line and column at the end of a prefix.**  For the offset `|a|` of the pattern `a ++ b`
    (`CleanCut`: not inside a `\r\n` pair), `get_pattern_context` reports the LAST line of `a` and the
    column one past the end of that line. -/
theorem ctx_after_prefix (a b : Str) (h : CleanCut a b) :
    (getPatternContext (a ++ b) a.length).2 =
      (numLines a, a.length - lineStart a a.length + 1) := by
  have hi : a.length ≤ (a ++ b).length := by simp
  have h1 := C20.ctx_line (a ++ b) a.length hi
  have h2 := C20.ctx_col (a ++ b) a.length hi
  rw [breaksBefore_prefix a b h, breaksBefore_end] at h1
  rw [lineStart_prefix a b h] at h2
  exact Prod.ext h1 h2

theorem ctx_at_zero (p : Str) : (getPatternContext p 0).2 = (1, 1) := by
  have h1 := C20.ctx_line p 0 (Nat.zero_le _)
  have h2 := C20.ctx_col p 0 (Nat.zero_le _)
  have hf : (breakEnds p).filter (· ≤ 0) = [] := be_filter_nil p 0 0 (Nat.le_refl _)
  have hb : breaksBefore p 0 = 0 := by unfold breaksBefore; rw [hf]; rfl
  have hl : lineStart p 0 = 0 := by unfold lineStart; rw [hf]; rfl
  rw [hb] at h1
  rw [hl] at h2
  exact Prod.ext h1 h2

/-- The offset at the very end: the last line, one past its end (`C20.ctx_end_offset`). -/
theorem ctx_at_end (p : Str) :
    (getPatternContext p p.length).2 = (numLines p, p.length - lineStart p p.length + 1) := by
  rw [(C20.ctx_end_offset p).1]

theorem breakEnds_nil_of_no_break : ∀ (p : Str) (pos : Nat), (∀ c ∈ p, c ≠ 10 ∧ c ≠ 13) →
    breakEndsFrom pos p = []
  | [], pos, _ => be_nil pos
  | c :: r, pos, h => by
    have hc := h c (by simp)
    rw [be_other c r pos hc.2 hc.1]
    exact breakEnds_nil_of_no_break r (pos + 1) (fun x hx => h x (List.mem_cons_of_mem _ hx))

/-- Single-line pattern: line 1, column `offset + 1`, and the context is the pattern, a newline,
    `offset` spaces and `^` (`C20.ctx_single`). -/
theorem ctx_single_line (p : Str) (i : Nat) (h : ∀ c ∈ p, c ≠ 10 ∧ c ≠ 13) :
    getPatternContext p i = (p ++ [10] ++ caretLine i, 1, i + 1) :=
  C20.ctx_single p i (breakEnds_nil_of_no_break p 0 h)

end C20Parse
end Refine
end SoupVerif

#print axioms SoupVerif.Refine.C20Parse.ctx_after_prefix
#print axioms SoupVerif.Refine.C20Parse.ctx_at_zero
#print axioms SoupVerif.Refine.C20Parse.ctx_at_end
#print axioms SoupVerif.Refine.C20Parse.ctx_single_line
