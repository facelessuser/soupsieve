/-
  Pseudo-class tokens: `:name` (the `pseudo_class` token without its optional parenthesis part), `:name(` + gap
  (with it), and the closing `)`; the `special` and `pseudo_class_custom` slots that come first in the table fail.
  What the token table does at `:` is one equation (`matchToken_at_colon`: the `special` slot `specialTok`, then
  the custom pattern, then `pseudo_class`); the files of the special pseudo-classes and of `:--name` start from it
  (`special_token`: the token of a special pseudo-class, from what its pattern reads).
-/
import SoupVerif.Refine.CompileStep
import SoupVerif.Lemmas.ParserProgress.Dispatch
namespace SoupVerif
namespace Refine
namespace Compile
open Rx RxBasic SoupVerif.Parser ParserProgress Escape Spelling
open Wsc (gapRx unitEnd wsEnd commentEnd gapEnd)
open Ident (rxHead rxStar contStep contLen IdentFold)

def rxColonIdent : Rx := .seq [.lit 58 true, rxHead, rxStar]
def rxOpen : Rx := .group 2 (.seq [.lit 40 true, gapRx true])

theorem tok_special_name_shape : Gen.tok_special_name = .seq [.group 1 rxColonIdent, rxOpen] := rfl
theorem tok_pseudo_class_shape :
    Gen.tok_pseudo_class = .seq [.group 1 rxColonIdent, .rep 0 (some 1) true rxOpen] := rfl
theorem tok_custom_shape : Gen.tok_pseudo_class_custom =
    .group 1 (.seq [.lit 58 true, .look true false (.seq [.lit 45 true, .lit 45 true]), rxHead, rxStar]) := rfl

variable (s : Str)

theorem colonIdent_runs {i : Nat} (c : Caps) (h58 : s[i]? = some 58) :
    runs pyFoldEnv s rxColonIdent i c = runs pyFoldEnv s rxIdent (i + 1) c := by
  unfold rxColonIdent rxIdent
  rw [runs_seq, lit_ok pyFoldEnv s 58 _ i c h58, runs_seq]

theorem open_fail {j : Nat} (c : Caps) (rs : List Rx) (h : s[j]? ≠ some 40) :
    runsSeq pyFoldEnv s (rxOpen :: rs) j c = [] := by
  unfold rxOpen
  apply runsSeq_group_nil
  rw [runs_seq]
  exact lit_fail Ident.identFold_py s 40 (by omega) _ j c h

theorem open_fail_at_unit {j : Nat} (c : Caps) (rs : List Rx) (h : (contStep (s.drop j)).isSome = true) :
    runsSeq pyFoldEnv s (rxOpen :: rs) j c = [] := by
  apply open_fail
  obtain ⟨x, cs, hd, hx⟩ := contStep_head h
  rw [getElem?_of_drop_cons hd]
  intro e; cases e
  rcases hx with hx | hx
  · simp [identContChar] at hx
  · omega

/-- `:name` not followed by `(`: the `special` slot does not apply. -/
theorem special_name_none {i : Nat} {forms : List (Nat × EscForm)} {r : Str}
    (hd : s.drop i = 58 :: (renderIdentWith forms ++ r))
    (hv : validForms forms r = true) (hh : headOk forms = true) (hr : ¬ continuesIdent r)
    (h40 : r.head? ≠ some 40) :
    matchAt pyFoldEnv Gen.tok_special_name s i = none := by
  have h58 := getElem?_of_drop_cons hd
  have hd1 : s.drop (i + 1) = renderIdentWith forms ++ r := RxBasic.drop_succ_of_drop_cons hd
  have hil := lt_of_drop_cons hd
  have hscan := C09.scan_any_spelling_ctx forms r hv hh hr
  rw [← hd1] at hscan
  rw [tok_special_name_shape]
  unfold matchAt
  rw [runs_seq, RefineInputs.runsSeq_group, colonIdent_runs s [] h58,
    ident_flatMap Ident.identFold_py s (i + 1) []
      (fun x => runsSeq pyFoldEnv s [rxOpen] x.1 (RefineInputs.setCap 1 i x.1 x.2))
      (fun j c hj => open_fail_at_unit s _ _ hj), hscan]
  simp only
  rw [open_fail s _ _ (by
    rw [← List.head?_drop, drop_add_of_drop_append hd1]; exact h40)]
  rfl

/-- `:name` where the name does not begin with `-`: not a custom pseudo-class `:--name`. -/
theorem custom_none {i x : Nat} {cs : Str} (hd : s.drop i = 58 :: x :: cs) (hx : x ≠ 45) :
    matchAt pyFoldEnv Gen.tok_pseudo_class_custom s i = none := by
  have h58 := getElem?_of_drop_cons hd
  have hx1 := getElem?_of_drop_cons (RxBasic.drop_succ_of_drop_cons hd)
  rw [tok_custom_shape]
  unfold matchAt
  rw [runs_group, runs_seq, lit_ok pyFoldEnv s 58 _ i [] h58, runsSeq_cons, runs, runs_seq,
    lit_fail Ident.identFold_py s 45 (by omega) _ (i + 1) [] (by rw [hx1]; simpa using hx)]
  rfl

/-- The `pseudo_class` entry of the token table. -/
def pclassRx : TokenRx := ⟨"pseudo_class", Gen.tok_pseudo_class, Gen.tok_pseudo_class_groups⟩

def pclassTok (i j : Nat) (caps : Caps) : Token :=
  { name := "pseudo_class", rx := pclassRx, start := i, stop := j, caps := caps }

theorem skip_colon : (Gen.lexicon.tokens.take 1).all (fun t => !slotFirst 58 t) = true := by
  decide +kernel

variable (B : Builtins)

/-- The `pseudo_class_custom` entry of the token table. -/
def customRx : TokenRx := ⟨"pseudo_class_custom", Gen.tok_pseudo_class_custom, Gen.tok_pseudo_class_custom_groups⟩

/-- The token the `special` slot gives at `i`: the pseudo-class that the name read by the slot's name pattern
    selects from the table, matched with its own pattern (`SpecialPseudoPattern.match`). -/
def specialTok (s : Str) (i : Nat) : Option Token :=
  (matchAt pyFoldEnv Gen.tok_special_name s i).bind fun m =>
    (Gen.lexicon.special.find? fun e => e.1 == lower (Parser.cssUnescape pyFoldEnv Gen.lexicon
      ((Parser.group s Gen.lexicon.specialName m.2 "name").getD []))).bind fun e =>
      (matchAt pyFoldEnv e.2.rx s i).map fun jc => ⟨e.2.name, e.2, i, jc.1, jc.2⟩

theorem specialTok_none {i : Nat} (h : matchAt pyFoldEnv Gen.tok_special_name s i = none) :
    specialTok s i = none := by
  rw [specialTok, h]; rfl

/-- The token table at `:`: `pseudo_close` fails on its first character; then the `special` slot, the custom
    pattern and the `pseudo_class` token are tried in this order. -/
theorem matchToken_at_colon {i : Nat} (h58 : s[i]? = some 58) :
    matchToken (penv B s) i Gen.lexicon.tokens =
      ((specialTok s i).orElse fun _ =>
        ((matchAt pyFoldEnv Gen.tok_pseudo_class_custom s i).map fun jc =>
          (⟨"pseudo_class_custom", customRx, i, jc.1, jc.2⟩ : Token)).orElse fun _ =>
        ((matchAt pyFoldEnv Gen.tok_pseudo_class s i).map fun jc => pclassTok i jc.1 jc.2).orElse fun _ =>
        matchToken (penv B s) i (Gen.lexicon.tokens.drop 4)) := by
  have hk : keyOf s[i]? = 58 := by rw [h58]; rfl
  rw [matchToken_skip B s i 1 _ (by rw [hk]; exact skip_colon)]
  show matchToken (penv B s) i ((default, true) :: (customRx, false) ::
    (⟨"pseudo_class", Gen.tok_pseudo_class, Gen.tok_pseudo_class_groups⟩, false) :: Gen.lexicon.tokens.drop 4) = _
  unfold specialTok
  simp only [matchToken, if_true, Bool.false_eq_true, if_false, penv, customRx]
  show (match matchAt pyFoldEnv Gen.tok_special_name s i with | some (_, caps) => _ | none => _) = _
  cases matchAt pyFoldEnv Gen.tok_special_name s i with
  | none =>
    cases matchAt pyFoldEnv Gen.tok_pseudo_class_custom s i <;> cases matchAt pyFoldEnv Gen.tok_pseudo_class s i <;> rfl
  | some m =>
    obtain ⟨j', caps'⟩ := m
    simp only [Option.bind_some]
    cases Gen.lexicon.special.find? (fun e => e.1 == lower (Parser.cssUnescape pyFoldEnv Gen.lexicon
        ((Parser.group s Gen.lexicon.specialName caps' "name").getD []))) with
    | none =>
      cases matchAt pyFoldEnv Gen.tok_pseudo_class_custom s i <;>
        cases matchAt pyFoldEnv Gen.tok_pseudo_class s i <;> rfl
    | some e =>
      obtain ⟨nm, sub⟩ := e
      simp only [Option.bind_some]
      cases matchAt pyFoldEnv sub.rx s i <;> cases matchAt pyFoldEnv Gen.tok_pseudo_class_custom s i <;>
        cases matchAt pyFoldEnv Gen.tok_pseudo_class s i <;> rfl

theorem unescape_colon_forms (forms : List (Nat × EscForm)) (hv : Valid forms)
    (hcp : ∀ p ∈ forms, rangeOk p.1 p.2 = true) :
    Parser.cssUnescape pyFoldEnv Gen.lexicon (58 :: renderIdentWith forms) = 58 :: valueOf forms := by
  have hr : cssUnescapeRaises (58 :: renderIdentWith forms) = false := by
    have := SpellingLemmas.cssUnescapeRaisesAux_ident forms [] hv (by simp)
    simpa [cssUnescapeRaises, cssUnescapeRaisesAux] using this
  rw [Refine.cssUnescape_pyFold _ hr]
  have := C09.unescape_any_spelling_fine forms hv hcp
  simp only [Escape.cssUnescape] at this ⊢
  rw [← this]
  simp [cssUnescapeAux]

/-- The pseudo-class name the handlers make of a token whose `name` group holds `:` and an identifier in any
    admissible spelling: lower-cased, escapes decoded. -/
theorem colon_name (B : Builtins) (s : Str) {t : Token} {forms : List (Nat × EscForm)} {r : Str}
    (hv : validForms forms r = true) (hcp : ∀ p ∈ forms, rangeOk p.1 p.2 = true)
    (hg : t.group (penv B s) "name" = some (58 :: renderIdentWith forms)) :
    lower (Parser.cssUnescape pyFoldEnv Gen.lexicon ((t.group (penv B s) "name").getD [])) =
      58 :: lower (valueOf forms) := by
  rw [hg]
  simp only [Option.getD_some]
  rw [unescape_colon_forms forms (SpellingLemmas.validForms_nil_of forms _ hv) hcp]
  rfl

variable (fuel flags : Nat) (st : LS)

section Open
variable {i : Nat} {forms : List (Nat × EscForm)} {g₁ R : Str}

theorem open_reads (k : Nat) {g T : Str} (hg : isGap g) (hT : noGapStart T = true) :
    Reads pyFoldEnv (.group k (.seq [.lit 40 true, gapRx true])) (40 :: g) T [(k, 40 :: g)] :=
  Reads.group k (Reads.seq (ReadsSeq.cons_plain (Reads.lit 40 _) (ReadsSeq.single (Reads.gap hg hT)))) (keys_ne rfl)

/-- `:name(` gap — the name pattern of the `special` slot and the `pseudo_class` token read the same text into the
    same groups. -/
theorem colon_open_reads (hv : validForms forms (40 :: (g₁ ++ R)) = true) (hh : headOk forms = true)
    (hg : isGap g₁) (hR : noGapStart R = true) :
    Reads pyFoldEnv Gen.tok_special_name ((58 :: renderIdentWith forms) ++ (40 :: g₁)) R
      [(1, 58 :: renderIdentWith forms), (2, 40 :: g₁)] ∧
    Reads pyFoldEnv Gen.tok_pseudo_class ((58 :: renderIdentWith forms) ++ (40 :: g₁)) R
      [(1, 58 :: renderIdentWith forms), (2, 40 :: g₁)] := by
  have h1 := Reads.group 1 (Reads.prefixed 58 (R := (40 :: g₁) ++ R) hv hh
    (by simp [continuesIdent, identContChar])) (keys_ne rfl)
  have h2 := ReadsSeq.single (open_reads 2 hg hR)
  rw [tok_special_name_shape, tok_pseudo_class_shape]
  exact ⟨Reads.seq (ReadsSeq.cons h1 h2 (keys_disjoint rfl)),
    Reads.seq (ReadsSeq.cons h1 h2.opt_some (keys_disjoint rfl))⟩

end Open

/-- At `:name(` gap the `special` slot looks the lower-cased, decoded name up in its table. -/
theorem specialTok_open {i : Nat} {forms : List (Nat × EscForm)} {g₁ R : Str}
    (hd : s.drop i = 58 :: (renderIdentWith forms ++ (40 :: (g₁ ++ R))))
    (hv : validForms forms (40 :: (g₁ ++ R)) = true) (hh : headOk forms = true)
    (hcp : ∀ p ∈ forms, rangeOk p.1 p.2 = true) (hg : isGap g₁) (hR : noGapStart R = true) :
    specialTok s i = (Gen.lexicon.special.find? fun e => e.1 == 58 :: lower (valueOf forms)).bind fun e =>
      (matchAt pyFoldEnv e.2.rx s i).map fun jc => ⟨e.2.name, e.2, i, jc.1, jc.2⟩ := by
  obtain ⟨caps', hsp, hg'⟩ := (colon_open_reads (forms := forms) hv hh hg hR).1.matchAt
    (Nat.le_of_lt (lt_of_drop_cons hd))
    (show s.drop i = ((58 :: renderIdentWith forms) ++ (40 :: g₁)) ++ R by simpa using hd)
  rw [specialTok, hsp, Option.bind_some,
    show _ = some (58 :: renderIdentWith forms) from hg' Gen.lexicon.specialName "name", Option.getD_some,
    unescape_colon_forms forms (SpellingLemmas.validForms_nil_of forms _ hv) hcp]
  rfl

/-- `selector_iter` at `:name(` gap … where `name` is in the table of special pseudo-classes (`:nth-…`, `:lang`,
    the `contains` family, `:dir`) and the token `sub` the table gives for it matches. -/
theorem nextToken_nth {i j : Nat} {forms : List (Nat × EscForm)} {g₁ R : Str} {caps : Caps}
    (hd : s.drop i = 58 :: (renderIdentWith forms ++ (40 :: (g₁ ++ R))))
    (hv : validForms forms (40 :: (g₁ ++ R)) = true) (hh : headOk forms = true)
    (hcp : ∀ p ∈ forms, rangeOk p.1 p.2 = true)
    (hg : isGap g₁) (hR : noGapStart R = true) (sub : TokenRx)
    (hfind : Gen.lexicon.special.find? (fun e => e.1 == 58 :: lower (valueOf forms)) =
      some (58 :: lower (valueOf forms), sub))
    (hm : matchAt pyFoldEnv sub.rx s i = some (j, caps)) :
    nextToken (penv B s) i =
      .ok (some { name := sub.name, rx := sub, start := i, stop := j, caps := caps }) := by
  rw [nextToken_noGap B s hd (by simp [noGapStart, isCssWs]), matchToken_at_colon s B (getElem?_of_drop_cons hd),
    specialTok_open s hd hv hh hcp hg hR, hfind, Option.bind_some, hm]
  rfl

/-- The tokenizer at `:name(` gap … for a name whose token `sub` (from the table of special pseudo-classes) reads the text
    there: the token, where it ends, and the texts of its groups. -/
theorem special_token {forms : List (Nat × EscForm)} {g₁ T r : Str} {G : List (Nat × Str)} (sub : TokenRx)
    (hd : s.drop st.pos = ((58 :: renderIdentWith forms) ++ ((40 :: g₁) ++ T)) ++ r)
    (hv : validForms forms (40 :: (g₁ ++ (T ++ r))) = true) (hh : headOk forms = true)
    (hcp : ∀ p ∈ forms, rangeOk p.1 p.2 = true) (hg₁ : isGap g₁) (hT : noGapStart (T ++ r) = true)
    (hfind : Gen.lexicon.special.find? (fun e => e.1 == 58 :: lower (valueOf forms)) =
      some (58 :: lower (valueOf forms), sub))
    (hR : Reads pyFoldEnv sub.rx ((58 :: renderIdentWith forms) ++ ((40 :: g₁) ++ T)) r G) :
    ∃ t, TokenAt B s st.pos sub ((58 :: renderIdentWith forms) ++ ((40 :: g₁) ++ T)) G t := by
  have hd' : s.drop st.pos = 58 :: (renderIdentWith forms ++ (40 :: (g₁ ++ (T ++ r)))) := by simpa using hd
  obtain ⟨caps, hm, hg⟩ := hR.matchAt (Nat.le_of_lt (lt_of_drop_cons hd')) hd
  exact ⟨_, nextToken_nth s B (R := T ++ r) hd' hv hh hcp hg₁ hT sub hfind hm, rfl, rfl, rfl, hg sub⟩

/-- `:name` that no `(` follows: the optional `(` gap is absent. -/
theorem pseudo_simple_reads {forms : List (Nat × EscForm)} {r : Str} (hv : validForms forms r = true)
    (hh : headOk forms = true) (hr : ¬ continuesIdent r) (h40 : r.head? ≠ some 40) :
    Reads pyFoldEnv Gen.tok_pseudo_class (58 :: renderIdentWith forms) r [(1, 58 :: renderIdentWith forms)] := by
  rw [tok_pseudo_class_shape]
  exact Reads.seq (ReadsSeq.cons_empty (Reads.group 1 (Reads.prefixed 58 hv hh hr) (keys_ne rfl))
    (ReadsSeq.opt_none (fun s p c _ hd => open_fail s c [] (by rw [← List.head?_drop, hd]; exact h40))
      (ReadsSeq.nil r)))

/-- The tokenizer at `:name` without `(`: the `special` slot and the custom pattern do not apply. -/
theorem nextToken_pseudo_simple {i x : Nat} {forms : List (Nat × EscForm)} {xs r : Str}
    (hd : s.drop i = 58 :: (renderIdentWith forms ++ r)) (hxs : renderIdentWith forms = x :: xs)
    (hx : x ≠ 45)
    (hv : validForms forms r = true) (hh : headOk forms = true) (hr : ¬ continuesIdent r)
    (h40 : r.head? ≠ some 40) :
    ∃ t, TokenAt B s i pclassRx (58 :: renderIdentWith forms) [(1, 58 :: renderIdentWith forms)] t := by
  obtain ⟨caps, hm, hg⟩ := (pseudo_simple_reads hv hh hr h40).matchAt (Nat.le_of_lt (lt_of_drop_cons hd))
    (show s.drop i = (58 :: renderIdentWith forms) ++ r from hd)
  refine ⟨pclassTok i _ caps, ?_, rfl, rfl, rfl, hg _⟩
  rw [nextToken_noGap B s hd (by simp [noGapStart, isCssWs]), matchToken_at_colon s B (getElem?_of_drop_cons hd),
    specialTok_none s (special_name_none s hd hv hh hr h40),
    custom_none s (x := x) (cs := xs ++ r) (by rw [hd, hxs]; rfl) hx, hm]
  rfl

/-- `:name` for a name (in any admissible spelling and letter case) of the simple tables. -/
theorem step_pseudo_plain {forms : List (Nat × EscForm)} {x : Nat} {xs r : Str}
    (hd : s.drop st.pos = 58 :: (renderIdentWith forms ++ r)) (hxs : renderIdentWith forms = x :: xs)
    (hx : x ≠ 45)
    (hv : validForms forms r = true) (hh : headOk forms = true) (hr : ¬ continuesIdent r)
    (h40 : r.head? ≠ some 40) (hcp : ∀ p ∈ forms, rangeOk p.1 p.2 = true)
    (hin : inList Gen.lexicon.pseudoSimple (58 :: lower (valueOf forms)) = true ∨
      inList Gen.lexicon.pseudoSimpleNoMatch (58 :: lower (valueOf forms)) = true) :
    ∃ p idx, s.drop p = r ∧
      parseLoop pyFoldEnv Gen.lexicon B s (fuel + 1) flags st =
        parseLoop pyFoldEnv Gen.lexicon B s fuel flags
          { st with pos := p, index := idx,
                    sel := plainPseudo B (58 :: lower (valueOf forms)) st.sel, hasSelector := true } := by
  obtain ⟨t, ht⟩ := nextToken_pseudo_simple s B hd hxs hx hv hh hr h40
  have hname := colon_name B s hv hcp (ht.group "name")
  have hopen : t.group ⟨pyFoldEnv, Gen.lexicon, B, s⟩ "open" = none := ht.group "open"
  refine ⟨t.stop, t.stop, by rw [ht.stop]; exact drop_add_of_drop_append (show s.drop st.pos = _ ++ r from hd), ?_⟩
  rw [ht.loop]
  simp only [penv] at hname
  by_cases hs : inList Gen.lexicon.pseudoSimple (58 :: lower (valueOf forms)) = true
  · simp only [show pclassRx.name = "pseudo_class" from rfl, ParseDisp.modelAction_keys, ParseDisp.runAction,
      ParseDisp.runCall_pseudo_class, hopen, hname, hs, Bool.false_and, Bool.not_false, Bool.true_and,
      Bool.false_eq_true, if_false, if_true, runStep, plainPseudo]
    rfl
  · have hs' : inList Gen.lexicon.pseudoSimple (58 :: lower (valueOf forms)) = false := by simpa using hs
    have hn : inList Gen.lexicon.pseudoSimpleNoMatch (58 :: lower (valueOf forms)) = true :=
      hin.resolve_left hs
    simp only [show pclassRx.name = "pseudo_class" from rfl, ParseDisp.modelAction_keys, ParseDisp.runAction,
      ParseDisp.runCall_pseudo_class, hopen, hname, hs', hn, Bool.false_and, Bool.not_false, Bool.true_and,
      Bool.false_eq_true, if_false, if_true, runStep, plainPseudo]

theorem nextToken_pseudo_open {i x : Nat} {forms : List (Nat × EscForm)} {xs g₁ R : Str}
    (hd : s.drop i = 58 :: (renderIdentWith forms ++ (40 :: (g₁ ++ R))))
    (hxs : renderIdentWith forms = x :: xs) (hx : x ≠ 45)
    (hv : validForms forms (40 :: (g₁ ++ R)) = true) (hh : headOk forms = true)
    (hcp : ∀ p ∈ forms, rangeOk p.1 p.2 = true)
    (hg : isGap g₁) (hR : noGapStart R = true)
    (hfind : Gen.lexicon.special.find? (fun e => e.1 == 58 :: lower (valueOf forms)) = none) :
    ∃ t, TokenAt B s i pclassRx ((58 :: renderIdentWith forms) ++ (40 :: g₁))
      [(1, 58 :: renderIdentWith forms), (2, 40 :: g₁)] t := by
  have hi := Nat.le_of_lt (lt_of_drop_cons hd)
  have hd' : s.drop i = ((58 :: renderIdentWith forms) ++ (40 :: g₁)) ++ R := by simpa using hd
  obtain ⟨caps, hm, hgr⟩ := (colon_open_reads (forms := forms) hv hh hg hR).2.matchAt hi hd'
  refine ⟨pclassTok i _ caps, ?_, rfl, rfl, rfl, hgr _⟩
  rw [nextToken_noGap B s hd (by simp [noGapStart, isCssWs]), matchToken_at_colon s B (getElem?_of_drop_cons hd),
    specialTok_open s hd hv hh hcp hg hR, hfind,
    custom_none s (x := x) (cs := xs ++ (40 :: (g₁ ++ R))) (by rw [hd, hxs]; rfl) hx, hm]
  rfl

section Loop
variable (env : CharEnv) (L : Lexicon) (pattern : Str) (fuel flags : Nat) (st : LS) (t : Token)

/-- `)` closes the nested list; after an empty slot (forgiving lists) the builder is marked "no match". -/
theorem parseLoop_closeG (h : nextToken ⟨env, L, B, pattern⟩ st.pos = .ok (some t))
    (hk : t.name = "pseudo_close") (hs : st.hasSelector = true ∨ fgOf flags = true)
    (hopen : ((flags &&& FLG_OPEN) != 0) = true) :
    parseLoop env L B pattern (fuel + 1) flags st =
      .ok { (if st.hasSelector then st else { st with sel := st.sel.setNoMatch }) with
              pos := t.stop, closed := true } := by
  rw [ParseDisp.parseLoop_token _ _ _ _ _ _ _ t h, hk]
  simp only [ParseDisp.modelAction_keys, ParseDisp.runAction, hopen, if_true]
  by_cases hh : st.hasSelector = true
  · simp [hh, runStep]
  · have hh' : st.hasSelector = false := by simpa using hh
    have hf : ((flags &&& FLG_FORGIVE) != 0) = true := by
      rcases hs with hs | hs
      · exact absurd hs hh
      · exact hs
    simp [hh', hf, runStep]

end Loop

/-- `:name(` gap, for a name of the table of pseudo-classes that take a selector list — given the result
    of the nested `parse_selectors` call (which starts where the token ends) with the flags of the name. -/
theorem step_pseudo_open (fuel flags : Nat) (st : LS) {x : Nat} {forms : List (Nat × EscForm)} {xs g₁ R : Str}
    (hd : s.drop st.pos = 58 :: (renderIdentWith forms ++ (40 :: (g₁ ++ R))))
    (hxs : renderIdentWith forms = x :: xs) (hx : x ≠ 45)
    (hv : validForms forms (40 :: (g₁ ++ R)) = true) (hh : headOk forms = true)
    (hcp : ∀ p ∈ forms, rangeOk p.1 p.2 = true)
    (hg : isGap g₁) (hR : noGapStart R = true)
    (hfind : Gen.lexicon.special.find? (fun e => e.1 == 58 :: lower (valueOf forms)) = none)
    (hin : inList Gen.lexicon.pseudoComplex (58 :: lower (valueOf forms)) = true) (fl : Nat)
    (hfl : C09Compile2.fnFlags (58 :: lower (valueOf forms)) = fl)
    (l : SelList) (pos' : Nat) (custom' : Custom)
    (hsub : parseSelectors pyFoldEnv Gen.lexicon B s fuel
      (st.pos + 1 + (renderIdentWith forms).length + 1 + g₁.length)
      (st.pos + 1 + (renderIdentWith forms).length + 1 + g₁.length) fl st.custom = .ok (l, pos', custom')) :
    parseLoop pyFoldEnv Gen.lexicon B s (fuel + 1) flags st =
      parseLoop pyFoldEnv Gen.lexicon B s fuel flags
        { st with pos := pos', sel := st.sel.addSub l, hasSelector := true,
                  index := st.pos + 1 + (renderIdentWith forms).length + 1 + g₁.length, custom := custom' } := by
  subst hfl
  unfold C09Compile2.fnFlags at hsub
  obtain ⟨t, ht⟩ := nextToken_pseudo_open s B hd hxs hx hv hh hcp hg hR hfind
  have hstop : t.stop = st.pos + 1 + (renderIdentWith forms).length + 1 + g₁.length := by
    rw [ht.stop]; simp only [List.length_append, List.length_cons]; omega
  have hname := colon_name B s hv hcp (ht.group "name")
  have hopen : t.group ⟨pyFoldEnv, Gen.lexicon, B, s⟩ "open" = some (40 :: g₁) := ht.group "open"
  simp only [penv] at hname
  rw [← hstop] at hsub ⊢
  rw [ht.loop]
  simp only [show pclassRx.name = "pseudo_class" from rfl, ParseDisp.modelAction_keys, ParseDisp.runAction,
    ParseDisp.runCall_pseudo_class, hopen, hname, hin, List.isEmpty_cons, Bool.not_false, Bool.true_and, if_true,
    runStep, hsub]

def closeTok (i j : Nat) : Token :=
  { name := "pseudo_close", rx := ⟨"pseudo_close", Gen.tok_pseudo_close, Gen.tok_pseudo_close_groups⟩,
    start := i, stop := j, caps := [] }

theorem nextToken_close {i : Nat} {g₂ r : Str} (hd : s.drop i = g₂ ++ 41 :: r) (hg : isGap g₂) :
    nextToken (penv B s) i = .ok (some (closeTok i (i + g₂.length + 1))) := by
  have hng : noGapStart (41 :: r) = true := by simp [noGapStart, isCssWs]
  have hsk : skipWSC (s.drop i) = 41 :: r := by rw [hd, C09.skipWSC_append g₂ _ hg hng]
  have hil : i < s.length := lt_of_drop_append_cons hd
  rw [nextToken_text, if_neg (by rw [hsk]; exact List.cons_ne_nil _ _)]
  have hpc : matchAt pyFoldEnv Gen.tok_pseudo_close s i = some (i + g₂.length + 1, []) := by
    rw [Wsc.pseudo_close_at Wsc.caseFree_pyFold s i (by omega), hsk]
    simp only [List.head?_cons, if_true]
    rw [gapEnd_of_drop hd hg hng (by omega)]
  rw [matchToken_hit B s i 0 ⟨"pseudo_close", Gen.tok_pseudo_close, Gen.tok_pseudo_close_groups⟩ _ _ _ rfl rfl hpc]
  rfl

variable (fuel flags : Nat) (st : LS)

theorem step_closeG {g₂ r : Str} (hd : s.drop st.pos = g₂ ++ 41 :: r) (hg : isGap g₂)
    (hs : st.hasSelector = true ∨ fgOf flags = true) (hopen : ((flags &&& FLG_OPEN) != 0) = true) :
    ∃ p, s.drop p = r ∧
      parseLoop pyFoldEnv Gen.lexicon B s (fuel + 1) flags st = .ok { closeSt st with pos := p } := by
  refine ⟨st.pos + g₂.length + 1, ?_, ?_⟩
  · exact RxBasic.drop_succ_of_drop_cons (drop_add_of_drop_append hd)
  · rw [parseLoop_closeG B _ _ _ _ _ _ _ (nextToken_close s B hd hg) rfl hs hopen]
    unfold closeSt
    by_cases hh : st.hasSelector = true <;> simp [hh, closeTok]

theorem step_close {g₂ r : Str} (hd : s.drop st.pos = g₂ ++ 41 :: r) (hg : isGap g₂)
    (hs : st.hasSelector = true) (hopen : ((flags &&& FLG_OPEN) != 0) = true) :
    ∃ p, s.drop p = r ∧
      parseLoop pyFoldEnv Gen.lexicon B s (fuel + 1) flags st = .ok { st with pos := p, closed := true } := by
  obtain ⟨p, hp, h⟩ := step_closeG s B fuel flags st hd hg (Or.inl hs) hopen
  refine ⟨p, hp, ?_⟩
  rw [h, closeSt, if_pos hs]

end Compile
end Refine
end SoupVerif

#print axioms SoupVerif.Refine.Compile.pseudo_simple_reads
#print axioms SoupVerif.Refine.Compile.colon_open_reads
#print axioms SoupVerif.Refine.Compile.nextToken_nth
#print axioms SoupVerif.Refine.Compile.step_pseudo_plain
#print axioms SoupVerif.Refine.Compile.nextToken_pseudo_open
#print axioms SoupVerif.Refine.Compile.step_close
#print axioms SoupVerif.Refine.Compile.step_closeG
