/-
  What the parser model builds from the VALUES of a selector list of the smaller covered grammar, positions and spelling
  aside: the values (`Item`, `Compound`, `SelListV`), what each does to the builder (`Item.apply`, on the builders of
  `Refine/Builders.lean`), the loop over combinator–compound pairs (`foldRest`), and the compiled list they denote
  (`C09Compile.denote`: a fold that mirrors `parse_selectors`, written without positions).  `setF` and the frame lemmas:
  none of these looks at `pos`, `index` or the custom map.
-/
import SoupVerif.Refine.Builders
namespace SoupVerif

namespace C09Compile
open Rx SoupVerif.Parser ParserProgress Refine.Compile

/-- The values of an attribute selector: name, and operator text, value, lower-cased flag. -/
structure AttrV where
  name : Str
  body : Option (Str × Str × Option Nat)

/-- What `parse_attribute_selector` adds to the builder, from the values. -/
def AttrV.apply (a : AttrV) (b : SelB) : SelB :=
  match a.body with
  | none => attrBuild b a.name [] [] none
  | some (op, v, fl) => attrBuild b a.name op v (fl.map fun c => [c])

mutual
/-- The values of a simple selector, without their spelling. -/
inductive Item where
  | id (v : Str)
  | cls (v : Str)
  | attr (a : AttrV)
  | pseudo (name : Str)
  | fn (name : Str) (l : SelListV)
  /-- name, canonical An+B text (lower case, no gaps) -/
  | nth (name canon : Str)
  | nthOf (name canon : Str) (l : SelListV)
  | dir (ltr : Bool)
inductive Compound where
  | mk (tag : Option Str) (items : List Item)
inductive SelListV where
  | mk (first : Compound) (rest : List (Nat × Compound))
end

/-- Position, error index and custom map of the loop state: what the values do not determine. -/
def setF (st : LS) (p idx : Nat) (c : Custom) : LS := { st with pos := p, index := idx, custom := c }

/-- The end of `parse_selectors` for a nested list (`FLG_PSEUDO | FLG_OPEN`, with or without `FLG_NOT`,
    `FLG_FORGIVE`), for a loop state that ends in a compound. -/
def finishNested (isNot : Bool) (st : LS) : SelList :=
  .mk ((st.selectors ++ [st.sel.addRelations st.relations]).map SelB.freeze) isNot st.isHtml

/-- The end of `parse_selectors` at top level (flags 0), for a loop state that ends in a compound. -/
def finishTop (st : LS) : SelList :=
  .mk ((st.selectors ++
      [(if st.sel.tag.isNone then st.sel.setTag ⟨[42], none⟩ else st.sel).addRelations st.relations]).map
    SelB.freeze) false st.isHtml

mutual
def Item.apply (B : Builtins) : Item → SelB → SelB
  | .id v, b => b.addId v
  | .cls v, b => b.addClass v
  | .attr a, b => a.apply b
  | .pseudo n, b => plainPseudo B n b
  | .fn n l, b => b.addSub (finishNested (n == ":not".toStr) (l.loopState B true))
  | .nth n c, b => nthBuild B n c none b
  | .nthOf n c l, b => nthBuild B n c (some (finishNested false (l.loopState B true))) b
  | .dir ltr, b => dirBuild ltr b
def applyItems (B : Builtins) : List Item → SelB → SelB
  | [], b => b
  | it :: rest, b => applyItems B rest (it.apply B b)
def Compound.buildOn (B : Builtins) : Compound → SelB → SelB
  | .mk tag items, b => applyItems B items (match tag with | some n => b.setTag ⟨n, none⟩ | none => b)
/-- The loop over combinator–compound pairs, positions aside (`ip`: inside a pseudo-class). -/
def foldRest (B : Builtins) (ip : Bool) : List (Nat × Compound) → LS → LS
  | [], st => st
  | x :: rest, st =>
    foldRest B ip rest { combStep x.1 ip st with sel := x.2.buildOn B SelB.empty, hasSelector := true }
def SelListV.loopState (B : Builtins) (ip : Bool) : SelListV → LS
  | .mk first rest => foldRest B ip rest { sel := first.buildOn B SelB.empty, hasSelector := true }
end

theorem applyItems_append (B : Builtins) : ∀ (l₁ l₂ : List Item) (b : SelB),
    applyItems B (l₁ ++ l₂) b = applyItems B l₂ (applyItems B l₁ b)
  | [], l₂, b => by simp only [List.nil_append, applyItems]
  | it :: l₁, l₂, b => by simp only [List.cons_append, applyItems, applyItems_append B l₁ l₂]

theorem foldRest_append (B : Builtins) (ip : Bool) : ∀ (l₁ l₂ : List (Nat × Compound)) (st : LS),
    foldRest B ip (l₁ ++ l₂) st = foldRest B ip l₂ (foldRest B ip l₁ st)
  | [], l₂, st => by simp only [List.nil_append, foldRest]
  | x :: l₁, l₂, st => by simp only [List.cons_append, foldRest, foldRest_append B ip l₁ l₂]

/-- The flags of the nested `parse_selectors` call for `:not(` (0x43), `:is(` / `:where(` (0x441),
    `:matches(` (0x41). -/
def NestedFlags (fl : Nat) : Prop := fl = 67 ∨ fl = 1089 ∨ fl = 65

/-- The compiled selector list, from the values alone. -/
def denote (B : Builtins) (v : SelListV) : SelList := finishTop (v.loopState B false)

theorem setF_setF (st : LS) (p i : Nat) (c : Custom) (p' i' : Nat) (c' : Custom) :
    setF (setF st p i c) p' i' c' = setF st p' i' c' := rfl

/-- The loop state after a combinator (`X`, with an empty builder) and the compound behind it. -/
theorem slot_state (X : LS) (hsel : X.sel = SelB.empty) (p₁ i₁ p₂ i₂ : Nat) (v : SelB → SelB) (b : Bool)
    (cu : Custom) :
    ({ ({ X with pos := p₁, index := i₁ } : LS) with
        pos := p₂, index := i₂, custom := cu, sel := v ({ X with pos := p₁, index := i₁ } : LS).sel,
        hasSelector := b } : LS) =
      setF { X with sel := v SelB.empty, hasSelector := b } p₂ i₂ cu := by
  simp [setF, hsel]

theorem foldRest_frame (B : Builtins) (ip : Bool) : ∀ (l : List (Nat × Compound)) (st : LS)
    (p idx : Nat) (c : Custom),
    foldRest B ip l (setF st p idx c) = setF (foldRest B ip l st) p idx c
  | [], _, _, _, _ => by simp [foldRest]
  | x :: rest, st, p, idx, c => by
    rw [foldRest, foldRest, ← foldRest_frame B ip rest]
    congr 1
    by_cases h : (x.1 == 44) = true <;> simp [setF, combStep, h]

theorem foldRest_hasSelector (B : Builtins) (ip : Bool) : ∀ (l : List (Nat × Compound)) (st : LS),
    st.hasSelector = true → (foldRest B ip l st).hasSelector = true
  | [], _, h => by simpa [foldRest] using h
  | x :: rest, st, _ => by rw [foldRest]; exact foldRest_hasSelector B ip rest _ rfl

theorem SelListV.loopState_hasSelector (B : Builtins) (ip : Bool) (v : SelListV) :
    (v.loopState B ip).hasSelector = true := by
  obtain ⟨first, rest⟩ := v
  rw [SelListV.loopState]
  exact foldRest_hasSelector B ip rest _ rfl

end C09Compile

end SoupVerif
