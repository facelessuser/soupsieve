/-
  The spelled side of the larger covered grammar (`Refine/Syntax.lean` for the categories it shares with the smaller one):
  type selector with namespace prefix `STagN`, the mutual `SItem` / `SCompound` / `SSelList` of `C09Compile2` with
  `render`, `value` (in the types of `Refine/Denote2.lean`), `ok fl` for the flag word of the `parse_selectors` call that
  reads the list, `need` / `cost`, the custom table: `Tbl`, `defOf`, `tbl`, and the end of an admissible list: `InvG`, `EndOK`, `foldRest_end`.
-/
import SoupVerif.Refine.Syntax
import SoupVerif.Refine.Denote2
namespace SoupVerif

namespace C09Compile2
open Rx SoupVerif.Parser ParserProgress Escape Spelling Refine.Compile
open C09Compile (Forms identOK SValue SAttr AttrV STag SComb plainName)

/-- `ns|name`, `*|name`, `|name`, `name` (name: an identifier or `*`). -/
structure STagN where
  ns : Option SNs
  t : STag

def STagN.render (x : STagN) : Str :=
  match x.ns with
  | none => x.t.render
  | some n => n.text ++ 124 :: x.t.render

/-- Name and prefix: what `parse_tag_pattern` stores. -/
def STagN.value (x : STagN) : SelTag := ⟨x.t.value, x.ns.map SNs.value⟩

def STagN.ok (x : STagN) (r : Str) : Prop :=
  x.t.ok r ∧ match x.ns with | none => True | some n => n.ok (x.t.render ++ r)

mutual
/-- A simple selector other than the type selector, with its spelling. -/
inductive SItem where
  | id (f : Forms)
  | cls (f : Forms)
  | attr (a : SAttr)
  /-- `[ gap ns| name … ]`: an attribute selector with a namespace prefix -/
  | attrNs (ns : SNs) (a : SAttr)
  /-- `:name` -/
  | pseudo (f : Forms)
  /-- `:name(` gap list gap `)` -/
  | fn (f : Forms) (g₁ : Str) (l : SSelList) (g₂ : Str)
  /-- `:nth-…(` gap An+B gap `)` -/
  | nth (f : Forms) (g₁ : Str) (a : SAnB) (g₂ : Str)
  /-- `:nth-child(` gap An+B gap-with-ws `of` gap-with-ws list gap `)` (`of` in any letter case) -/
  | nthOf (f : Forms) (g₁ : Str) (a : SAnB) (dg1 : Str) (m : List Bool) (dg2 : Str) (l : SSelList) (g₂ : Str)
  /-- `:dir(` gap `ltr`|`rtl` gap `)`, the keyword in any letter case -/
  | dir (f : Forms) (g₁ : Str) (ltr : Bool) (m : List Bool) (g₂ : Str)
  /-- `:lang(` gap value-list gap `)` -/
  | lang (f : Forms) (g₁ : Str) (V : SValues) (g₂ : Str)
  /-- `:contains(` / `:-soup-contains(` / `:-soup-contains-own(` gap value-list gap `)` -/
  | contains (f : Forms) (g₁ : Str) (V : SValues) (g₂ : Str)
  /-- `&` -/
  | amp
  /-- `:--name`, with the definition of the name in the custom table: gap, list, gap (the text of the
      definition is NOT part of the pattern; see `SItem.tbl`) -/
  | custom (f : Forms) (g₁ : Str) (l : SSelList) (g₂ : Str)
/-- Optional type selector, then simple selectors. -/
inductive SCompound where
  | mk (tag : Option STagN) (items : List SItem)
/-- A selector list as the tokenizer sees it: a compound, then combinator–compound pairs (the comma
    being one of the combinators). -/
inductive SSelList where
  | mk (first : SCompound) (rest : List (SComb × SCompound))
end

mutual
def SItem.value : SItem → Item
  | .id f => .id (valueOf f)
  | .cls f => .cls (valueOf f)
  | .attr a => .attr [] a.value
  | .attrNs ns a => .attr ns.value a.value
  | .pseudo f => .pseudo (58 :: lower (valueOf f))
  | .fn f _ l _ => .fn (58 :: lower (valueOf f)) l.value
  | .nth f _ a _ => .nth (58 :: lower (valueOf f)) a.canon
  | .nthOf f _ a _ _ _ l _ => .nthOf (58 :: lower (valueOf f)) a.canon l.value
  | .dir _ _ ltr _ _ => .dir ltr
  | .lang _ _ V _ => .lang V.values
  | .contains f _ V _ => .contains (58 :: lower (valueOf f) == ":-soup-contains-own".toStr) V.values
  | .amp => .amp
  | .custom f _ l _ => .custom (58 :: lower (valueOf f)) l.value
def itemsValue : List SItem → List Item
  | [] => []
  | it :: rest => it.value :: itemsValue rest
def SCompound.value : SCompound → Compound
  | .mk tag items => .mk (tag.map STagN.value) (itemsValue items)
def restValue : List (SComb × SCompound) → List (Nat × Compound)
  | [] => []
  | x :: rest => (x.1.value, x.2.value) :: restValue rest
def SSelList.value : SSelList → SelListV
  | .mk first rest => .mk first.value (restValue rest)
end

theorem itemsValue_append : ∀ (l₁ l₂ : List SItem), itemsValue (l₁ ++ l₂) = itemsValue l₁ ++ itemsValue l₂
  | [], l₂ => by simp only [List.nil_append, itemsValue]
  | it :: l₁, l₂ => by simp only [List.cons_append, itemsValue, itemsValue_append l₁ l₂]

theorem restValue_append : ∀ (l₁ l₂ : List (SComb × SCompound)),
    restValue (l₁ ++ l₂) = restValue l₁ ++ restValue l₂
  | [], l₂ => by simp only [List.nil_append, restValue]
  | x :: l₁, l₂ => by simp only [List.cons_append, restValue, restValue_append l₁ l₂]

mutual
def SItem.render : SItem → Str
  | .id f => 35 :: renderIdentWith f
  | .cls f => 46 :: renderIdentWith f
  | .attr a => a.render
  | .attrNs ns a => 91 :: (a.g0 ++ (ns.text ++ 124 :: (renderIdentWith a.name ++ a.afterName)))
  | .pseudo f => 58 :: renderIdentWith f
  | .fn f g₁ l g₂ => 58 :: (renderIdentWith f ++ (40 :: (g₁ ++ (l.render ++ (g₂ ++ [41])))))
  | .nth f g₁ a g₂ => 58 :: (renderIdentWith f ++ (40 :: (g₁ ++ (a.render ++ (g₂ ++ [41])))))
  | .nthOf f g₁ a dg1 m dg2 l g₂ =>
    58 :: (renderIdentWith f ++ (40 :: (g₁ ++ (a.render ++ (dg1 ++ (mixCase m "of".toStr ++
      (dg2 ++ (l.render ++ (g₂ ++ [41])))))))))
  | .dir f g₁ ltr m g₂ =>
    58 :: (renderIdentWith f ++ (40 :: (g₁ ++ (mixCase m (dirWord ltr) ++ (g₂ ++ [41])))))
  | .lang f g₁ V g₂ => 58 :: (renderIdentWith f ++ (40 :: (g₁ ++ (V.render ++ (g₂ ++ [41])))))
  | .contains f g₁ V g₂ => 58 :: (renderIdentWith f ++ (40 :: (g₁ ++ (V.render ++ (g₂ ++ [41])))))
  | .amp => [38]
  | .custom f _ _ _ => 58 :: renderIdentWith f
def renderItems : List SItem → Str
  | [] => []
  | it :: rest => it.render ++ renderItems rest
def SCompound.render : SCompound → Str
  | .mk tag items => (match tag with | some t => t.render | none => []) ++ renderItems items
def renderRest : List (SComb × SCompound) → Str
  | [] => []
  | x :: rest => x.1.render ++ (x.2.render ++ renderRest rest)
def SSelList.render : SSelList → Str
  | .mk first rest => first.render ++ renderRest rest
end

theorem renderItems_append : ∀ (l₁ l₂ : List SItem), renderItems (l₁ ++ l₂) = renderItems l₁ ++ renderItems l₂
  | [], l₂ => by simp only [List.nil_append, renderItems]
  | it :: l₁, l₂ => by simp only [List.cons_append, renderItems, renderItems_append l₁ l₂, List.append_assoc]

theorem renderRest_append : ∀ (l₁ l₂ : List (SComb × SCompound)),
    renderRest (l₁ ++ l₂) = renderRest l₁ ++ renderRest l₂
  | [], l₂ => by simp only [List.nil_append, renderRest]
  | x :: l₁, l₂ => by simp only [List.cons_append, renderRest, renderRest_append l₁ l₂, List.append_assoc]

theorem SCompound.render_tagOnly (t : STagN) : (SCompound.mk (some t) []).render = t.render := by
  simp only [SCompound.render, renderItems, List.append_nil]

/-- No type selector and no simple selector: an empty slot of a list. -/
def SCompound.isEmpty : SCompound → Bool
  | .mk tag items => tag.isNone && items.isEmpty

theorem SCompound.isEmpty_some (t : STagN) (items : List SItem) : (SCompound.mk (some t) items).isEmpty = false := rfl

theorem SCompound.isEmpty_cons (tag : Option STagN) (it : SItem) (items : List SItem) :
    (SCompound.mk tag (it :: items)).isEmpty = false := by cases tag <;> rfl

/-- Names of the covered pseudo-classes that take a selector list. -/
def fnName2 (n : Str) : Prop :=
  n = ":not".toStr ∨ n = ":is".toStr ∨ n = ":where".toStr ∨ n = ":matches".toStr ∨ n = ":has".toStr

mutual
/-- Admissible in front of the text `r`. -/
def SItem.ok : SItem → Str → Prop
  | .id f, r => identOK f r
  | .cls f, r => identOK f r
  | .attr a, r => a.ok r
  | .attrNs ns a, r => a.ok r ∧ ns.ok (renderIdentWith a.name ++ (a.afterName ++ r))
  | .pseudo f, r => identOK f r ∧ plainName (58 :: lower (valueOf f))
  | .fn f g₁ l g₂, r =>
    identOK f (40 :: (g₁ ++ (l.render ++ (g₂ ++ 41 :: r)))) ∧ fnName2 (58 :: lower (valueOf f)) ∧
    isGap g₁ ∧ isGap g₂ ∧ l.ok (fnFlags (58 :: lower (valueOf f))) (g₂ ++ 41 :: r)
  | .nth f g₁ a g₂, r =>
    identOK f (40 :: (g₁ ++ (a.render ++ (g₂ ++ 41 :: r)))) ∧
    (nthTypeName (58 :: lower (valueOf f)) ∨ nthChildName (58 :: lower (valueOf f))) ∧
    isGap g₁ ∧ isGap g₂ ∧ a.ok
  | .nthOf f g₁ a dg1 m dg2 l g₂, r =>
    identOK f (40 :: (g₁ ++ (a.render ++ (dg1 ++ (mixCase m "of".toStr ++
      (dg2 ++ (l.render ++ (g₂ ++ 41 :: r)))))))) ∧
    nthChildName (58 :: lower (valueOf f)) ∧ isGap g₁ ∧ a.ok ∧ DescGap dg1 ∧ DescGap dg2 ∧ isGap g₂ ∧
    l.ok 65 (g₂ ++ 41 :: r)
  | .dir f g₁ ltr m g₂, r =>
    identOK f (40 :: (g₁ ++ (mixCase m (dirWord ltr) ++ (g₂ ++ 41 :: r)))) ∧
    58 :: lower (valueOf f) = ":dir".toStr ∧ isGap g₁ ∧ isGap g₂
  | .lang f g₁ V g₂, r =>
    identOK f (40 :: (g₁ ++ (V.render ++ (g₂ ++ 41 :: r)))) ∧
    58 :: lower (valueOf f) = ":lang".toStr ∧ isGap g₁ ∧ isGap g₂ ∧ V.ok (g₂ ++ 41 :: r)
  | .contains f g₁ V g₂, r =>
    identOK f (40 :: (g₁ ++ (V.render ++ (g₂ ++ 41 :: r)))) ∧
    containsName (58 :: lower (valueOf f)) ∧ isGap g₁ ∧ isGap g₂ ∧ V.ok (g₂ ++ 41 :: r)
  | .amp, _ => True
  | .custom f g₁ l g₂, r =>
    identOK f r ∧ f.take 2 = [(45, .lit), (45, .lit)] ∧ isGap g₁ ∧ isGap g₂ ∧ l.ok 1 g₂ ∧
    ∀ x ∈ g₁ ++ l.render ++ g₂, x ≠ 0
def itemsOK : List SItem → Str → Prop
  | [], _ => True
  | it :: rest, r => it.ok (renderItems rest ++ r) ∧ itemsOK rest r
def SCompound.ok : SCompound → Str → Prop
  | .mk tag items, r =>
    (match tag with | some t => t.ok (renderItems items ++ r) | none => True) ∧ itemsOK items r
/-- The combinator–compound pairs of a list parsed with the flags `fl`, `b` telling whether the slot in
    front of them is non-empty.  An EMPTY slot is allowed only at the start of a comma-separated
    alternative, and then: in a forgiving list (`FLG_FORGIVE`: `:is()`, `:where()`) when a comma or the
    end follows; in a relative list (`FLG_RELATIVE`: `:has()`) when a combinator other than the comma
    follows (a leading combinator).  The text after an empty slot begins with no gap (the token before it
    has taken it). -/
def restOK (fl : Nat) : Bool → List (SComb × SCompound) → Str → Prop
  | b, [], r => b = true ∨ (fgOf fl = true ∧ noGapStart r = true)
  | b, x :: rest, r =>
    x.1.ok ∧ x.2.ok (renderRest rest ++ r) ∧
    (b = false → noGapStart (x.1.render ++ (x.2.render ++ (renderRest rest ++ r))) = true ∧
      (if relOf fl = true then x.1.value ≠ 44 ∧ x.1.value ≠ 32 else x.1.value = 44 ∧ fgOf fl = true)) ∧
    (x.2.isEmpty = true → x.1.value = 44 ∧ (relOf fl = true ∨ fgOf fl = true)) ∧
    restOK fl (!x.2.isEmpty) rest r
def SSelList.ok (fl : Nat) : SSelList → Str → Prop
  | .mk first rest, r =>
    first.ok (renderRest rest ++ r) ∧ (first.isEmpty = true → relOf fl = true ∨ fgOf fl = true) ∧
    restOK fl (!first.isEmpty) rest r
end

theorem itemsOK_append : ∀ (a b : List SItem) (r : Str),
    itemsOK (a ++ b) r ↔ itemsOK a (renderItems b ++ r) ∧ itemsOK b r
  | [], b, r => by simp only [List.nil_append, itemsOK, true_and]
  | x :: a, b, r => by
    simp only [List.cons_append, itemsOK, itemsOK_append a b r, renderItems_append, List.append_assoc]
    exact and_assoc.symm

theorem SCompound.ok_tagOnly (t : STagN) (r : Str) : (SCompound.mk (some t) []).ok r ↔ t.ok r := by
  simp only [SCompound.ok, renderItems, itemsOK, List.nil_append, and_true]

/-- Tokens of a compound at its own level. -/
def SCompound.size : SCompound → Nat
  | .mk tag items => (if tag.isSome then 1 else 0) + items.length

def restSize : List (SComb × SCompound) → Nat
  | [] => 0
  | x :: rest => 1 + x.2.size + restSize rest

mutual
/-- Fuel the loop must still have after the token of an item (for the nested list of `:not(…)` etc.). -/
def SItem.need : SItem → Nat
  | .fn _ _ l _ => l.cost + 1
  | .nthOf _ _ _ _ _ _ l _ => l.cost + 1
  | .custom _ _ l _ => l.cost + 1
  | _ => 0
def itemsNeed : List SItem → Nat
  | [] => 0
  | it :: rest => it.need + itemsNeed rest
def SCompound.need : SCompound → Nat
  | .mk _ items => itemsNeed items
def restNeed : List (SComb × SCompound) → Nat
  | [] => 0
  | x :: rest => x.2.need + restNeed rest
/-- Fuel the loop of a nested list needs: its own tokens, the closing parenthesis, and what its items need. -/
def SSelList.cost : SSelList → Nat
  | .mk first rest => first.size + restSize rest + 1 + (first.need + restNeed rest)
end

/-- The custom table, spelled: key (lower case, unescaped, with the colon) ↦ the definition as gap, list,
    gap.  What `process_custom` must have produced from it is stated by `CuInv … []`. -/
abbrev Tbl := List (Str × Str × SSelList × Str)

def defOf (Γ : Tbl) (k : Str) : Option (Str × SSelList × Str) := (Γ.find? (fun e => e.1 == k)).map (·.2)

mutual
/-- Every `:--name` of the syntax carries the definition the table has for its key. -/
def SItem.tbl (Γ : Tbl) : SItem → Prop
  | .fn _ _ l _ => l.tbl Γ
  | .nthOf _ _ _ _ _ _ l _ => l.tbl Γ
  | .custom f g₁ l g₂ => defOf Γ (58 :: lower (valueOf f)) = some (g₁, l, g₂) ∧ l.tbl Γ
  | _ => True
def itemsTbl (Γ : Tbl) : List SItem → Prop
  | [] => True
  | it :: rest => it.tbl Γ ∧ itemsTbl Γ rest
def SCompound.tbl (Γ : Tbl) : SCompound → Prop
  | .mk _ items => itemsTbl Γ items
def restTbl (Γ : Tbl) : List (SComb × SCompound) → Prop
  | [] => True
  | x :: rest => x.2.tbl Γ ∧ restTbl Γ rest
def SSelList.tbl (Γ : Tbl) : SSelList → Prop
  | .mk first rest => first.tbl Γ ∧ restTbl Γ rest
end

/-! An admissible list ends properly: the loop over its values stops behind a compound, or behind an empty last
  alternative of a forgiving list (`EndOK`), by the invariant `InvG` of the loop state. -/

open C09Compile (setF) in
section

theorem itemsValue_isEmpty (items : List SItem) : (itemsValue items).isEmpty = items.isEmpty := by
  cases items <;> simp [itemsValue]

theorem SCompound.value_isEmpty (c : SCompound) : c.value.isEmpty = c.isEmpty := by
  obtain ⟨tag, items⟩ := c
  cases tag <;> simp [SCompound.value, Compound.isEmpty, SCompound.isEmpty, itemsValue_isEmpty]

/-- `b`: the slot just read is non-empty.  In a relative list `relations` is never used; elsewhere
    `relType` is never changed; at the start of a comma-separated alternative both have their initial
    values. -/
def InvG (fl : Nat) (b : Bool) (st : LS) : Prop :=
  st.hasSelector = b ∧ (relOf fl = true ∨ b = false → st.relations = []) ∧
    (relOf fl = false ∨ b = false → st.relType = .hasDesc)

/-- `setF` touches `pos`, `index`, `custom` only; `InvG` and `EndOK` do not look at them. -/
theorem InvG_setF (fl : Nat) (b : Bool) (st : LS) (p idx : Nat) (c : Custom) (h : InvG fl b st) :
    InvG fl b (setF st p idx c) := h

theorem firstSt_inv (B : Builtins) (fl : Nat) (c : Compound) : InvG fl (!c.isEmpty) (firstSt B fl c) :=
  ⟨rfl, fun _ => rfl, fun _ => rfl⟩

theorem InvG_step (fl c : Nat) (b b' : Bool) (st : LS) (sel : SelB) (h : InvG fl b st)
    (hc : b' = false → c = 44) :
    InvG fl b' { combStepG fl c st with sel := sel, hasSelector := b' } := by
  obtain ⟨h1, h2, h3⟩ := h
  refine ⟨rfl, ?_, ?_⟩
  · intro hcase
    by_cases hr : relOf fl = true
    · have := h2 (Or.inl hr)
      unfold combStepG combStepR
      by_cases hc44 : (c == 44) = true <;> by_cases hs : st.hasSelector = true <;> simp [hr, hc44, hs, this]
    · have hb' : b' = false := by
        rcases hcase with h | h
        · exact absurd h hr
        · exact h
      have hc44 : (c == 44) = true := by simp [hc hb']
      have hr' : relOf fl = false := by simpa using hr
      unfold combStepG combStepF
      by_cases hs : st.hasSelector = true <;> simp [hr', hs, combStep, hc44]
  · intro hcase
    by_cases hr : relOf fl = true
    · have hb' : b' = false := by
        rcases hcase with h | h
        · rw [hr] at h; cases h
        · exact h
      have hc44 : (c == 44) = true := by simp [hc hb']
      unfold combStepG combStepR
      simp [hr, hc44]
    · have hr' : relOf fl = false := by simpa using hr
      have := h3 (Or.inl hr')
      unfold combStepG combStepF
      by_cases hc44 : (c == 44) = true <;> by_cases hs : st.hasSelector = true <;>
        simp [hr', hs, combStep, hc44, this]

/-- What the end of the list needs: a compound was read, or the list is forgiving and the last
    alternative is empty. -/
def EndOK (fl : Nat) (st : LS) : Prop :=
  st.hasSelector = true ∨ (fgOf fl = true ∧ st.relations = [])

/-- The loop over the values of a prefix `ra` of an admissible list keeps `InvG`, and what follows the prefix is admissible
    behind it. -/
theorem foldRest_inv (B : Builtins) (fl : Nat) (tail : List (SComb × SCompound)) (r : Str) :
    ∀ (ra : List (SComb × SCompound)) (b : Bool) (st : LS), restOK fl b (ra ++ tail) r → InvG fl b st →
      ∃ b', restOK fl b' tail r ∧ InvG fl b' (foldRest B fl (restValue ra) st)
  | [], b, st, hok, hinv => ⟨b, hok, by simpa only [restValue, foldRest] using hinv⟩
  | x :: ra, b, st, hok, hinv => by
    rw [List.cons_append, restOK] at hok
    simp only [restValue, foldRest]
    apply foldRest_inv B fl tail r ra (!x.2.isEmpty) _ hok.2.2.2.2
    rw [SCompound.value_isEmpty]
    apply InvG_step fl _ b _ st _ hinv
    intro he
    exact (hok.2.2.2.1 (by simpa using he)).1

theorem foldRest_end (B : Builtins) (fl : Nat) : ∀ (rest : List (SComb × SCompound)) (b : Bool) (r : Str)
    (st : LS), restOK fl b rest r → InvG fl b st → EndOK fl (foldRest B fl (restValue rest) st) := by
  intro rest b r st hok hinv
  obtain ⟨b', hok', hinv'⟩ := foldRest_inv B fl [] r rest b st (by rwa [List.append_nil]) hinv
  rw [restOK] at hok'
  rcases hok' with h | h
  · exact Or.inl (hinv'.1.trans h)
  · cases b' with
    | true => exact Or.inl hinv'.1
    | false => exact Or.inr ⟨h.1, hinv'.2.1 (Or.inr rfl)⟩

theorem EndOK_closeSt (fl : Nat) (st : LS) (h : EndOK fl st) : EndOK fl (closeSt st) := by
  unfold closeSt EndOK at *
  by_cases hs : st.hasSelector = true
  · left; simp [hs]
  · have hs' : st.hasSelector = false := by simpa using hs
    rcases h with h | h
    · exact absurd h hs
    · right; simpa [hs'] using h

end

end C09Compile2

end SoupVerif
