/-
  The same for the larger covered grammar (namespace prefixes, value lists, `:has()`, `&`, custom selectors, empty slots of
  forgiving lists): `C09Compile2.Item` … `C09Compile2.denote`, for every flag word of `parse_selectors` (`finishG`: the
  clean-up after the loop), with its frame lemmas.
-/
import SoupVerif.Refine.Denote
namespace SoupVerif

namespace C09Compile2
open Rx SoupVerif.Parser ParserProgress Refine.Compile
open C09Compile (AttrV setF)

/-- What `parse_attribute_selector` adds to the builder, from the values (prefix `ns`, `[]` if none). -/
def applyAttr (ns : Str) (a : AttrV) (b : SelB) : SelB :=
  match a.body with
  | none => attrBuildNs b ns a.name [] [] none
  | some (op, v, fl) => attrBuildNs b ns a.name op v (fl.map fun c => [c])

theorem applyAttr_nil (a : AttrV) (b : SelB) : applyAttr [] a b = a.apply b := by
  unfold applyAttr AttrV.apply
  cases a.body with
  | none => rfl
  | some x => rfl

mutual
/-- The values of a simple selector, without their spelling. -/
inductive Item where
  | id (v : Str)
  | cls (v : Str)
  /-- prefix (`[]` when there is none: `[a]` and `[|a]` have the same values), name and body -/
  | attr (ns : Str) (a : AttrV)
  | pseudo (name : Str)
  | fn (name : Str) (l : SelListV)
  /-- name, canonical An+B text (lower case, no gaps) -/
  | nth (name canon : Str)
  | nthOf (name canon : Str) (l : SelListV)
  | dir (ltr : Bool)
  | lang (vs : List Str)
  /-- `own`: the name is `:-soup-contains-own` -/
  | contains (own : Bool) (vs : List Str)
  | amp
  /-- the name (lower case, with the colon) and the values of its definition -/
  | custom (name : Str) (l : SelListV)
inductive Compound where
  | mk (tag : Option SelTag) (items : List Item)
inductive SelListV where
  | mk (first : Compound) (rest : List (Nat × Compound))
end

def Compound.isEmpty : Compound → Bool
  | .mk tag items => tag.isNone && items.isEmpty

/-- The flags of the nested `parse_selectors` call of `parse_pseudo_open`, from the pseudo-class name. -/
def fnFlags (n : Str) : Nat :=
  FLG_PSEUDO ||| FLG_OPEN |||
    (if n == ":not".toStr then FLG_NOT
     else if n == ":has".toStr then FLG_RELATIVE
     else if n == ":where".toStr || n == ":is".toStr then FLG_FORGIVE else 0)

/-- The end of `parse_selectors` (clean-up of the last compound, flag post-processing, freezing) for the
    flags `fl`, positions aside. -/
def finishG (fl : Nat) (st : LS) : SelList :=
  .mk ((finalSels fl (cleanupLS fl st).selectors).map SelB.freeze) ((fl &&& FLG_NOT) != 0)
    (cleanupLS fl st).isHtml

mutual
def Item.apply (B : Builtins) : Item → SelB → SelB
  | .id v, b => b.addId v
  | .cls v, b => b.addClass v
  | .attr ns a, b => applyAttr ns a b
  | .pseudo n, b => plainPseudo B n b
  | .fn n l, b => b.addSub (finishG (fnFlags n) (closeSt (l.loopState B (fnFlags n))))
  | .nth n c, b => nthBuild B n c none b
  | .nthOf n c l, b => nthBuild B n c (some (finishG 65 (closeSt (l.loopState B 65)))) b
  | .dir ltr, b => dirBuild ltr b
  | .lang vs, b => b.addLang ⟨vs⟩
  | .contains own vs, b => b.addContains ⟨vs, own⟩
  | .amp, b => b.orFlags SEL_SCOPE
  | .custom _ l, b => b.addSub (finishG 1 (l.loopState B 1))
def applyItems (B : Builtins) : List Item → SelB → SelB
  | [], b => b
  | it :: rest, b => applyItems B rest (it.apply B b)
def Compound.buildOn (B : Builtins) : Compound → SelB → SelB
  | .mk tag items, b => applyItems B items (match tag with | some n => b.setTag n | none => b)
/-- The loop over combinator–compound pairs, positions aside, for the flags `fl`. -/
def foldRest (B : Builtins) (fl : Nat) : List (Nat × Compound) → LS → LS
  | [], st => st
  | x :: rest, st =>
    foldRest B fl rest
      { combStepG fl x.1 st with sel := x.2.buildOn B SelB.empty, hasSelector := !x.2.isEmpty }
def SelListV.loopState (B : Builtins) (fl : Nat) : SelListV → LS
  | .mk first rest =>
    foldRest B fl rest
      { initLS 0 0 fl [] with sel := first.buildOn B SelB.empty, hasSelector := !first.isEmpty }
end

theorem applyItems_append (B : Builtins) : ∀ (l₁ l₂ : List Item) (b : SelB),
    applyItems B (l₁ ++ l₂) b = applyItems B l₂ (applyItems B l₁ b)
  | [], l₂, b => by simp only [List.nil_append, applyItems]
  | it :: l₁, l₂, b => by simp only [List.cons_append, applyItems, applyItems_append B l₁ l₂]

theorem foldRest_append (B : Builtins) (fl : Nat) : ∀ (l₁ l₂ : List (Nat × Compound)) (st : LS),
    foldRest B fl (l₁ ++ l₂) st = foldRest B fl l₂ (foldRest B fl l₁ st)
  | [], l₂, st => by simp only [List.nil_append, foldRest]
  | x :: l₁, l₂, st => by simp only [List.cons_append, foldRest, foldRest_append B fl l₁ l₂]

/-- The compiled selector list, from the values alone. -/
def denote (B : Builtins) (v : SelListV) : SelList := finishG 0 (v.loopState B 0)

def firstSt (B : Builtins) (fl : Nat) (c : Compound) : LS :=
  { initLS 0 0 fl [] with sel := c.buildOn B SelB.empty, hasSelector := !c.isEmpty }

theorem loopState_eq (B : Builtins) (fl : Nat) (first : Compound) (rest : List (Nat × Compound)) :
    (SelListV.mk first rest).loopState B fl = foldRest B fl rest (firstSt B fl first) := by
  rw [SelListV.loopState]; rfl

theorem combStepG_setF (fl c : Nat) (st : LS) (p idx : Nat) (cu : Custom) :
    combStepG fl c (setF st p idx cu) = setF (combStepG fl c st) p idx cu := by
  unfold combStepG combStepR combStepF
  by_cases hr : relOf fl = true <;> by_cases h : (c == 44) = true <;>
    by_cases hs : st.hasSelector = true <;> simp [setF, combStep, hr, h, hs]

theorem foldRest_frame (B : Builtins) (fl : Nat) : ∀ (l : List (Nat × Compound)) (st : LS)
    (p idx : Nat) (c : Custom),
    foldRest B fl l (setF st p idx c) = setF (foldRest B fl l st) p idx c
  | [], _, _, _, _ => by simp [foldRest]
  | x :: rest, st, p, idx, c => by
    rw [foldRest, foldRest, ← foldRest_frame B fl rest, combStepG_setF]
    rfl

theorem initLS_frame (pos idx fl : Nat) (cust : Custom) :
    initLS pos idx fl cust = setF (initLS 0 0 fl []) pos idx cust := rfl

theorem cleanupLS_setF (fl : Nat) (st : LS) (p idx : Nat) (c : Custom) :
    cleanupLS fl (setF st p idx c) = setF (cleanupLS fl st) p idx c := by
  unfold cleanupLS
  by_cases hs : st.hasSelector = true
  · by_cases hr : ((fl &&& FLG_RELATIVE) != 0) = true <;> simp [setF, hs, hr]
  · by_cases hf : (((fl &&& FLG_FORGIVE) != 0) && (st.selectors.isEmpty || st.relations.isEmpty)) = true <;>
      simp [setF, hs, hf]

theorem finishG_setF (fl : Nat) (st : LS) (p idx : Nat) (c : Custom) :
    finishG fl (setF st p idx c) = finishG fl st := by
  unfold finishG
  rw [cleanupLS_setF]
  rfl

theorem closeSt_setF (st : LS) (p idx : Nat) (c : Custom) :
    closeSt (setF st p idx c) = setF (closeSt st) p idx c := by
  unfold closeSt
  by_cases h : st.hasSelector = true <;> simp [setF, h]

end C09Compile2

end SoupVerif
