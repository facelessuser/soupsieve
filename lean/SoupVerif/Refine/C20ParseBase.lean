/-
  Helpers for `Properties/C20Parse.lean` (which offset a given mistake in a selector TEXT gets).

  * `loop_after_list`: the loop that stands at the text `T` of a selector list of the smaller grammar
    (`Refine/Syntax.lean`; any admissible spelling) inside ANY pattern reaches a state behind `T`
    that has a selector, with fuel to spare (`C09Compile.run_list_top`, with the state forgotten).
  * `compile_at_start`: `compile` on a leading gap and a rest is the loop from the end of the gap;
    `compile_after_prefix`: the two together, on `g₁ ++ T ++ r`; `compile_after_comb`: … and one more combinator.
  * `loop_*`: what ONE more iteration of `parseLoop` does at such a position when the text goes on with
    an unmatched `)`, a character no token starts with (`noTokenStart`), a pseudo-class name of no table (the error
    kind: `pseudoErrKind`), an at-rule, a combinator with no selector before it; `finishSel_expected`: the clean-up
    after a dangling combinator.
  Only the stable names `Gen.tok_*`, `Gen.lexicon` are mentioned.
-/
import SoupVerif.Properties.C09Compile
namespace SoupVerif
namespace Refine
namespace C20Parse
open Rx RxBasic SoupVerif.Parser ParserProgress Escape Spelling Refine.Compile C09Compile

theorem pos_of_drop {s r : Str} {p : Nat} (h : s.drop p = r) (hne : r ≠ []) :
    p + r.length = s.length := by
  have h1 := congrArg List.length h
  rw [List.length_drop] at h1
  have h2 : 0 < r.length := List.length_pos_iff.mpr hne
  omega

theorem pos_of_drop_append {a r : Str} {p : Nat} (h : (a ++ r).drop p = r) (hne : r ≠ []) :
    p = a.length := by
  have := pos_of_drop h hne
  rw [List.length_append] at this
  omega

section Loop
variable (env : CharEnv) (L : Lexicon) (B : Builtins) (pattern : Str) (fuel flags : Nat)
  (st : LS) (t : Token)

/-- `)` while no pseudo-class is open: "Unmatched pseudo-class close", at the START of the token
    (the token `WSC*\)` includes the gap in front of the parenthesis). -/
theorem parseLoop_close_err (h : nextToken ⟨env, L, B, pattern⟩ st.pos = .ok (some t))
    (hk : t.name = "pseudo_close") (hs : st.hasSelector = true)
    (hopen : ((flags &&& FLG_OPEN) != 0) = false) :
    parseLoop env L B pattern (fuel + 1) flags st = .error ⟨.unmatchedClose, pattern, t.start⟩ := by
  rw [ParseDisp.parseLoop_token _ _ _ _ _ _ _ t h, hk]
  simp only [ParseDisp.modelAction_keys, ParseDisp.runAction, hs, hopen]
  rfl

/-- A combinator with no selector before it (outside `:has()` and the forgiving lists): the error
    carries the `index` of the loop state, not the position of the token. -/
theorem parseLoop_comb_err (h : nextToken ⟨env, L, B, pattern⟩ st.pos = .ok (some t))
    (hk : t.name = "combine") (hrel : ((flags &&& FLG_RELATIVE) != 0) = false)
    (hfg : ((flags &&& FLG_FORGIVE) != 0) = false) (hs : st.hasSelector = false) :
    parseLoop env L B pattern (fuel + 1) flags st =
      .error ⟨.combinatorNeedsSelector, pattern, st.index⟩ := by
  rw [ParseDisp.parseLoop_token _ _ _ _ _ _ _ t h, hk]
  simp only [ParseDisp.modelAction_keys]
  rw [ParseDisp.runAction_combine]
  simp [hrel, parseCombinator, hs, hfg, PEnv.err, runStep]

/-- `:name` (no parenthesis) for a name of neither table of argument-less pseudo-classes: a
    `SelectorSyntaxError` at the START of the token — "Invalid syntax" when the name is a known
    pseudo-class (that needs arguments), "… unsupported or invalid" otherwise. -/
theorem parseLoop_pseudo_unknown (h : nextToken ⟨env, L, B, pattern⟩ st.pos = .ok (some t))
    (hk : t.name = "pseudo_class")
    (hopen : t.group ⟨env, L, B, pattern⟩ "open" = none) (pseudo : Str)
    (hp : lower (Parser.cssUnescape env L ((t.group ⟨env, L, B, pattern⟩ "name").getD [])) = pseudo)
    (h1 : inList L.pseudoSimple pseudo = false) (h2 : inList L.pseudoSimpleNoMatch pseudo = false) :
    parseLoop env L B pattern (fuel + 1) flags st =
      .error ⟨if inList L.pseudoSupported pseudo then .invalidPseudoSyntax else .unknownPseudo,
        pattern, t.start⟩ := by
  rw [ParseDisp.parseLoop_token _ _ _ _ _ _ _ t h, hk]
  simp only [ParseDisp.modelAction_keys, ParseDisp.runAction, ParseDisp.runCall_pseudo_class, hopen, hp,
    Bool.false_eq_true, if_false, Bool.false_and, Bool.not_false, Bool.true_and, h1, h2]
  split <;> rfl

end Loop

/-- The clean-up of `parse_selectors` at top level when the loop ended without a selector (after a
    combinator, or on an empty pattern): "Expected a selector at position {index}". -/
theorem finishSel_expected (B : Builtins) (s : Str) (st : LS) (h : st.hasSelector = false) :
    finishSel pyFoldEnv Gen.lexicon B s 0 st = .error ⟨.expectedSelector, s, st.index⟩ := by
  simp [finishSel, cleanupLS, h, PEnv.err, FLG_OPEN, FLG_FORGIVE]

section Tok
variable (B : Builtins) (s : Str)

/-- No token of `css_tokens` can start with the ASCII character `c` (first sets of the regenerated
    token expressions, C07's `Rx.first`). -/
def noTokenStart (c : Nat) : Bool :=
  decide (c < 128) && Gen.lexicon.tokens.all (fun t => !slotFirst c t)

/-- The ASCII characters no token starts with: the control characters other than TAB LF FF CR, and
    `! " $ % ' ( 0-9 ; < = ? ] ^ ` { }` DEL. -/
theorem noTokenStart_iff : ∀ c, noTokenStart c = true ↔
    c ∈ [0, 1, 2, 3, 4, 5, 6, 7, 8, 11, 14, 15, 16, 17, 18, 19, 20, 21, 22, 23, 24, 25, 26, 27, 28, 29,
      30, 31, 33, 34, 36, 37, 39, 40, 48, 49, 50, 51, 52, 53, 54, 55, 56, 57, 59, 60, 61, 63, 93, 94,
      96, 123, 125, 127] := by
  intro c
  by_cases hc : c < 128
  · revert c; decide +kernel
  · constructor
    · intro h; simp [noTokenStart, hc] at h
    · intro h
      exact absurd (of_decide_eq_true
        ((List.all_eq_true (p := fun x => decide (x < 128))).mp (by decide) c h)) hc

theorem noTokenStart_facts {c : Nat} (h : noTokenStart c = true) :
    c < 128 ∧ isCssWs c = false ∧ c ≠ 47 ∧ c ≠ 91 ∧ c ≠ 46 ∧ c ≠ 35 ∧ c ≠ 58 := by
  have hmem := (noTokenStart_iff c).mp h
  -- a check of the members of the table
  clear h
  revert c
  decide

theorem noTokenStart_not_comb {c : Nat} (hc : noTokenStart c = true) :
    isComb c = false ∧ c ≠ 41 ∧ c ≠ 92 ∧ c ≠ 124 := by
  have hmem := (noTokenStart_iff c).mp hc
  clear hc
  revert c
  decide

/-- `selector_iter` at a character no token starts with: "Invalid character" at that position. -/
theorem nextToken_invalid {i c : Nat} {cs : Str} (hd : s.drop i = c :: cs)
    (hc : noTokenStart c = true) :
    nextToken (penv B s) i = .error ⟨.invalidCharacter, s, i⟩ := by
  obtain ⟨h128, hws, h47, h91, h46, h35, h58⟩ := noTokenStart_facts hc
  have hx := getElem?_of_drop_cons hd
  rw [nextToken_noGap B s hd (by simp [noGapStart, hws, h47])]
  have hk : keyOf s[i]? = c := by
    rw [hx]; show (if c < 128 then c else _) = c
    rw [if_pos h128]
  have hall : (Gen.lexicon.tokens.take Gen.lexicon.tokens.length).all
      (fun t => !slotFirst (keyOf s[i]?) t) = true := by
    rw [List.take_length, hk]
    simp only [noTokenStart, Bool.and_eq_true] at hc
    exact hc.2
  rw [matchToken_skip B s i _ _ hall, List.drop_length]
  simp [matchToken, hx, PEnv.err, h91, h46, h35, h58]

/-- The `at_rule` entry of the token table. -/
def atRx : TokenRx := ⟨"at_rule", Gen.tok_at_rule, Gen.tok_at_rule_groups⟩

theorem tok_at_rule_shape : Gen.tok_at_rule = .seq [.lit 64 true, Ident.rxHead, Ident.rxStar] := rfl

theorem skip_at : (Gen.lexicon.tokens.take 6).all (fun t => !slotFirst 64 t) = true := by
  decide +kernel

theorem noGapStart_comb {c : Nat} (hcomb : isComb c = true) (rest : Str) :
    noGapStart (c :: rest) = true := by
  simp only [isComb, Bool.or_eq_true, beq_iff_eq] at hcomb
  rcases hcomb with ((h | h) | h) | h <;> subst h <;> simp [noGapStart, isCssWs]

theorem nextToken_comb {i c j : Nat} {g rest : Str} {caps : Caps} (hd : s.drop i = g ++ c :: rest)
    (hg : isGap g) (hcomb : isComb c = true)
    (hm : matchAt pyFoldEnv Gen.tok_combine s i = some (j, caps)) :
    nextToken (penv B s) i = .ok (some (combTok i j caps)) := by
  have hsk : skipWSC (s.drop i) = c :: rest := by
    rw [hd, C09.skipWSC_append g _ hg (noGapStart_comb hcomb rest)]
  obtain ⟨x, hx, hcs⟩ : ∃ x, s[i]? = some x ∧ combStart x = true := by
    cases g with
    | nil => exact ⟨c, getElem?_of_drop_cons (by rw [hd]; rfl), by simp [combStart, hcomb]⟩
    | cons y ys =>
      refine ⟨y, getElem?_of_drop_cons (by rw [hd]; rfl), ?_⟩
      rcases gap_head hg y (by simp) with h | h <;> simp [combStart, h]
  exact nextToken_combine B s hx hcs (by rw [hsk]; simp)
    (by rw [hsk]; simp only [List.head?_cons]; intro h; cases h; simp [isComb] at hcomb) hm

theorem le_length_of_drop {i : Nat} {g r : Str} (hd : s.drop i = g ++ r) (hr : r ≠ []) : i ≤ s.length := by
  rcases Nat.lt_or_ge s.length i with h | h
  · rw [List.drop_eq_nil_of_le (by omega)] at hd
    exact absurd (List.append_eq_nil_iff.mp hd.symm).2 hr
  · exact h

theorem nextToken_comb_any {i c : Nat} {g rest : Str} (hd : s.drop i = g ++ c :: rest) (hg : isGap g)
    (hcomb : isComb c = true) :
    ∃ j caps, nextToken (penv B s) i = .ok (some (combTok i j caps)) := by
  have hi := le_length_of_drop s hd (List.cons_ne_nil c rest)
  have hm := combine_matchAt (env := pyFoldEnv) Wsc.caseFree_pyFold s i
  rw [lazyHead_comb Wsc.caseFree_pyFold Ident.identFold_py s c rest hcomb _ i (by omega) hi
    (by rw [hd, C09.skipWSC_append g _ hg (noGapStart_comb hcomb rest)])] at hm
  exact ⟨_, _, nextToken_comb B s hd hg hcomb hm⟩

end Tok

section Steps
variable (B : Builtins) (s : Str) (fuel flags : Nat) (st : LS)

theorem loop_unmatched_close {g rest : Str} (hd : s.drop st.pos = g ++ 41 :: rest) (hg : isGap g)
    (hs : st.hasSelector = true) (hopen : ((flags &&& FLG_OPEN) != 0) = false) :
    parseLoop pyFoldEnv Gen.lexicon B s (fuel + 1) flags st = .error ⟨.unmatchedClose, s, st.pos⟩ :=
  parseLoop_close_err pyFoldEnv Gen.lexicon B s fuel flags st _ (nextToken_close s B hd hg) rfl hs hopen

theorem loop_invalid_char {c : Nat} {cs : Str} (hd : s.drop st.pos = c :: cs)
    (hc : noTokenStart c = true) :
    parseLoop pyFoldEnv Gen.lexicon B s (fuel + 1) flags st = .error ⟨.invalidCharacter, s, st.pos⟩ :=
  ParseDisp.parseLoop_of_error _ _ _ _ _ _ _ (nextToken_invalid B s hd hc)

/-- `@ident`: NotImplementedError, at the start of the token. -/
theorem loop_at_rule {forms : List (Nat × EscForm)} {r : Str}
    (hd : s.drop st.pos = 64 :: (renderIdentWith forms ++ r))
    (hv : validForms forms r = true) (hh : headOk forms = true) (hr : ¬ continuesIdent r) :
    parseLoop pyFoldEnv Gen.lexicon B s (fuel + 1) flags st = .error ⟨.atRule, s, st.pos⟩ := by
  obtain ⟨t, ht⟩ := TokenAt.of_slot B s (n := 6) (tr := atRx) rfl (tok_at_rule_shape ▸ Reads.prefixed 64 hv hh hr)
    (show s.drop st.pos = (64 :: renderIdentWith forms) ++ r from hd) rfl (by simp [noGapStart, isCssWs]) skip_at
  rw [ht.loop]
  simp only [show atRx.name = "at_rule" from rfl, ParseDisp.modelAction_keys, ParseDisp.runAction,
    ParseDisp.notImplementedKind, ht.name, runStep, ParseDisp.Offset.eval, ht.start]
  rfl

theorem loop_leading_comb {c : Nat} {g rest : Str} (hd : s.drop st.pos = g ++ c :: rest) (hg : isGap g)
    (hcomb : isComb c = true) (hrel : ((flags &&& FLG_RELATIVE) != 0) = false)
    (hfg : ((flags &&& FLG_FORGIVE) != 0) = false) (hs : st.hasSelector = false) :
    parseLoop pyFoldEnv Gen.lexicon B s (fuel + 1) flags st =
      .error ⟨.combinatorNeedsSelector, s, st.index⟩ := by
  obtain ⟨j, caps, h⟩ := nextToken_comb_any B s hd hg hcomb
  exact parseLoop_comb_err pyFoldEnv Gen.lexicon B s fuel flags st _ h rfl hrel hfg hs

/-- The kind of error an argument-less pseudo-class of no table gets. -/
def pseudoErrKind (name : Str) : ErrKind :=
  if inList Gen.lexicon.pseudoSupported name then .invalidPseudoSyntax else .unknownPseudo

theorem loop_unknown_pseudo {forms : List (Nat × EscForm)} {r : Str}
    (hd : s.drop st.pos = 58 :: (renderIdentWith forms ++ r))
    (hx : (renderIdentWith forms).head? ≠ some 45)
    (hv : validForms forms r = true) (hh : headOk forms = true) (hr : ¬ continuesIdent r)
    (h40 : r.head? ≠ some 40) (hcp : ∀ p ∈ forms, rangeOk p.1 p.2 = true)
    (h1 : inList Gen.lexicon.pseudoSimple (58 :: lower (valueOf forms)) = false)
    (h2 : inList Gen.lexicon.pseudoSimpleNoMatch (58 :: lower (valueOf forms)) = false) :
    parseLoop pyFoldEnv Gen.lexicon B s (fuel + 1) flags st =
      .error ⟨pseudoErrKind (58 :: lower (valueOf forms)), s, st.pos⟩ := by
  obtain ⟨x, xs, hxs, _⟩ := headOk_first forms hh
  have hx' : x ≠ 45 := by rw [hxs] at hx; simpa using hx
  obtain ⟨t, hnt, hk, hstart, _, hg⟩ := nextToken_pseudo_simple s B hd hxs hx' hv hh hr h40
  have hg2 : t.group (penv B s) "open" = none := hg "open"
  have hname := colon_name B s hv hcp (hg "name")
  simp only [penv] at hnt hg2 hname
  rw [parseLoop_pseudo_unknown pyFoldEnv Gen.lexicon B s fuel flags st _ hnt hk hg2 _ hname h1 h2, hstart]
  rfl

theorem combStep_hasSelector (c : Nat) (ip : Bool) (st : LS) : (combStep c ip st).hasSelector = false := by
  by_cases h : (c == 44) = true <;> simp [combStep, h]

end Steps

/-- `compile` on a NUL-free pattern that begins with a gap `g₁` and then text `r` that is not a gap: the
    loop starts at `|g₁|` with `index = 0`. -/
theorem compile_at_start (B : Builtins) (g₁ r : Str) (hg₁ : isGap g₁) (hng : noGapStart r = true)
    (hne : r ≠ []) (h0 : ∀ x ∈ g₁ ++ r, x ≠ 0) :
    Parser.compile pyFoldEnv Gen.lexicon B (g₁ ++ r) [] 0 =
      match parseLoop pyFoldEnv Gen.lexicon B (g₁ ++ r) (2 * (g₁ ++ r).length + 7) 0
          (initLS g₁.length 0 0 []) with
      | .error e => .error e
      | .ok st =>
        match finishSel pyFoldEnv Gen.lexicon B (g₁ ++ r) 0 st with
        | .error e => .error e
        | .ok x => .ok x.1 := by
  rw [compile_unfold B _ 0 h0]
  have hstart : (g₁ ++ r).drop (startIndex (penv B (g₁ ++ r))) = r := by
    rw [startIndex_drop, C09.skipWSC_append g₁ r hg₁ hng]
  rw [pos_of_drop_append hstart hne]
  rfl

/-- The loop at the text of a selector list `l` of the covered grammar (admissible in front of `r`, which is
    not the continuation of an identifier), with fuel for it: after the tokens of `l` it stands in front of
    `r` with a selector, and at least two units of fuel are left. -/
theorem loop_after_list (B : Builtins) (s r : Str) (l : SSelList) (p₀ fuel : Nat)
    (hd : s.drop p₀ = l.render ++ r) (hok : l.ok r) (hr : SafeStart r) (hfuel : l.cost + 1 ≤ fuel) :
    ∃ (st : LS) (k : Nat), s.drop st.pos = r ∧ st.hasSelector = true ∧
      parseLoop pyFoldEnv Gen.lexicon B s fuel 0 (initLS p₀ 0 0 []) =
        parseLoop pyFoldEnv Gen.lexicon B s (k + 2) 0 st := by
  obtain ⟨p, idx, k, hp, hk, h⟩ := run_list_top B s l p₀ fuel r hd hok hr (by omega)
  obtain ⟨k, rfl⟩ : ∃ k', k = k' + 2 := ⟨k - 2, by omega⟩
  exact ⟨setF (l.value.loopState B false) p idx [], k, hp, l.value.loopState_hasSelector B false, h⟩

/-- `compile` on `g₁ ++ T ++ r` (`T = l.render` a selector list of the covered grammar, admissible in
    front of `r`; `r` not empty and not the continuation of an identifier): after the tokens of `T` the loop
    stands at `|g₁ ++ T|` with a selector, and at least two units of fuel are left. -/
theorem compile_after_prefix (B : Builtins) (g₁ r : Str) (l : SSelList) (hg₁ : isGap g₁)
    (hok : l.ok r) (hr : SafeStart r) (hne : r ≠ [])
    (h0 : ∀ x ∈ g₁ ++ l.render ++ r, x ≠ 0) :
    ∃ (st : LS) (k : Nat), st.pos = (g₁ ++ l.render).length ∧
      (g₁ ++ l.render ++ r).drop st.pos = r ∧ st.hasSelector = true ∧
      Parser.compile pyFoldEnv Gen.lexicon B (g₁ ++ l.render ++ r) [] 0 =
        match parseLoop pyFoldEnv Gen.lexicon B (g₁ ++ l.render ++ r) (k + 2) 0 st with
        | .error e => .error e
        | .ok st =>
          match finishSel pyFoldEnv Gen.lexicon B (g₁ ++ l.render ++ r) 0 st with
          | .error e => .error e
          | .ok x => .ok x.1 := by
  have hs : g₁ ++ l.render ++ r = g₁ ++ (l.render ++ r) := List.append_assoc ..
  have hc := compile_at_start B g₁ (l.render ++ r) hg₁ (l.render_noGap r r hok)
    (fun h => hne (List.append_eq_nil_iff.mp h).2) (hs ▸ h0)
  rw [← hs] at hc
  have hfuel : l.cost + 1 ≤ 2 * (g₁ ++ l.render ++ r).length + 7 := by
    have := l.cost_le r hok
    simp only [List.length_append]
    omega
  obtain ⟨st, k, hd, hsel, hloop⟩ := loop_after_list B (g₁ ++ l.render ++ r) r l g₁.length _
    (by rw [hs, List.drop_left' rfl]) hok hr hfuel
  exact ⟨st, k, pos_of_drop_append hd hne, hd, hsel, by rw [hc, hloop]⟩

/-- … and after one more combinator `cb` (`g c g'` with `c` one of `,` `+` `>` `~`, or a descendant gap) followed by
    text `R` that does not begin with a gap — and, after a descendant gap (`hdesc`), is not empty and begins neither with
    a combinator character nor with `)`, which the `combine` token would take in: the loop stands at `|g₁ ++ T ++ cb|`
    WITHOUT a selector, `index` is that position too, and at least one unit of fuel is left. -/
theorem compile_after_comb (B : Builtins) (g₁ R : Str) (l : SSelList) (cb : SComb) (hg₁ : isGap g₁)
    (hcb : cb.ok) (hok : l.ok (cb.render ++ R)) (hR : noGapStart R = true)
    (hdesc : ∀ g, cb = .desc g → R ≠ [] ∧ (∀ c ∈ R.head?, isComb c = false) ∧ R.head? ≠ some 41)
    (h0 : ∀ x ∈ g₁ ++ l.render ++ (cb.render ++ R), x ≠ 0) :
    ∃ (st : LS) (k : Nat), st.pos = (g₁ ++ l.render ++ cb.render).length ∧ st.index = st.pos ∧
      (g₁ ++ l.render ++ (cb.render ++ R)).drop st.pos = R ∧ st.hasSelector = false ∧
      Parser.compile pyFoldEnv Gen.lexicon B (g₁ ++ l.render ++ (cb.render ++ R)) [] 0 =
        match parseLoop pyFoldEnv Gen.lexicon B (g₁ ++ l.render ++ (cb.render ++ R)) (k + 1) 0 st with
        | .error e => .error e
        | .ok st =>
          match finishSel pyFoldEnv Gen.lexicon B (g₁ ++ l.render ++ (cb.render ++ R)) 0 st with
          | .error e => .error e
          | .ok x => .ok x.1 := by
  obtain ⟨y, ys, hy, hhead⟩ := cb.render_head hcb
  have hsafe : SafeStart (cb.render ++ R) := by
    rw [hy, List.cons_append]
    apply safeStart_of_combHead
    rcases hhead with h | h | h
    · exact Or.inl h
    · exact Or.inr (Or.inl h)
    · exact Or.inr (Or.inr (Or.inl h))
  obtain ⟨st, k, _, hd, hs, hcmp⟩ := compile_after_prefix B g₁ _ l hg₁ hok hsafe (by rw [hy]; simp) h0
  -- the position behind the combinator, from the text left there
  have hposR : ∀ p, (g₁ ++ l.render ++ (cb.render ++ R)).drop p = R → p ≤ (g₁ ++ l.render ++ (cb.render ++ R)).length →
      p = (g₁ ++ l.render ++ cb.render).length := by
    intro p hp hle
    have := congrArg List.length hp
    simp only [List.length_drop, List.length_append] at this hle ⊢
    omega
  generalize g₁ ++ l.render ++ (cb.render ++ R) = s at *
  cases cb with
  | sym g₂ c g₃ =>
    obtain ⟨hg₂, hg₃, hcomb⟩ := hcb
    obtain ⟨p, hp, hle, hstep⟩ := step_comb B s (k + 1) 0 st (c := c) (g₁ := g₂) (g₂ := g₃) (R := R)
      (by rw [hd]; simp [SComb.render]) hg₂ hg₃ hcomb hR rfl hs
    exact ⟨{ combStep c ((0 &&& FLG_PSEUDO) != 0) st with pos := p, index := p }, k, hposR p hp hle, rfl, hp,
      combStep_hasSelector c ((0 &&& FLG_PSEUDO) != 0) st, by rw [hcmp, hstep]⟩
  | desc g =>
    obtain ⟨hne, hRc, hR41⟩ := hdesc g rfl
    obtain ⟨p, hp, hle, hstep⟩ := step_desc B s (k + 1) 0 st (g := g) (R := R)
      (by rw [hd]; rfl) hcb hR hne hRc hR41 rfl hs
    exact ⟨{ combStep 32 ((0 &&& FLG_PSEUDO) != 0) st with pos := p, index := p }, k, hposR p hp hle, rfl, hp,
      combStep_hasSelector 32 ((0 &&& FLG_PSEUDO) != 0) st, by rw [hcmp, hstep]⟩

end C20Parse
end Refine
end SoupVerif

#print axioms SoupVerif.Refine.C20Parse.compile_after_prefix
#print axioms SoupVerif.Refine.C20Parse.compile_at_start
#print axioms SoupVerif.Refine.C20Parse.compile_after_comb
#print axioms SoupVerif.Refine.C20Parse.loop_unmatched_close
#print axioms SoupVerif.Refine.C20Parse.loop_invalid_char
#print axioms SoupVerif.Refine.C20Parse.loop_at_rule
#print axioms SoupVerif.Refine.C20Parse.loop_leading_comb
#print axioms SoupVerif.Refine.C20Parse.loop_unknown_pseudo
