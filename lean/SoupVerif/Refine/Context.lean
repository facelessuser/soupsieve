/-
  Refinement: the hand scanner `Context.splitLines` (Model/Context.lean) computes exactly
  `RE_PATTERN_LINE_SPLIT.finditer(pattern)` as computed by the regex-engine model on the regular
  expression regenerated from the source (`Gen.util_RE_PATTERN_LINE_SPLIT`), for ALL strings.
-/
import SoupVerif.Model.Context
import SoupVerif.Generated.Regexes
import SoupVerif.Lemmas.RxBasic
import SoupVerif.Lemmas.Context
import SoupVerif.Lemmas.StrLit
namespace SoupVerif
namespace Refine
namespace Context
open Rx RxBasic SoupVerif.Context CtxLemmas

/-- The match CPython's scanner accepts at `pos`: the first run of the backtracking engine, or —
    when the previous match was empty and ended here (`state->must_advance`) — the first run that
    is not empty (the engine rejects an empty top-level success at the start position and
    backtracks). -/
def firstRun (env : CharEnv) (r : Rx) (s : Str) (pos : Nat) (mustAdvance : Bool) : Option (Nat × Caps) :=
  if mustAdvance then (runs env s r pos []).find? (fun x => x.1 != pos)
  else matchAt env r s pos

/-- CPython (≥ 3.7) `pattern.finditer(s)` as `(m.start(), m.end())`, faithful also for empty
    matches: the scanner searches from `pos`; no match at `pos`: try `pos + 1` (up to and including
    `len(s)`); a match `(pos, e)` is emitted and the next search starts at `e`, with
    `must_advance = (e == pos)`, which forbids an *empty* match at the first position tried
    (a non-empty match starting there is allowed: `re.finditer('|a', 'a')` gives `(0,0),(0,1),(1,1)`). -/
def finditerAux (env : CharEnv) (r : Rx) (s : Str) : Nat → Nat → Bool → List (Nat × Nat)
  | 0, _, _ => []
  | fuel + 1, pos, adv =>
    if pos > s.length then [] else
    match firstRun env r s pos adv with
    | none => finditerAux env r s fuel (pos + 1) false
    | some (e, _) => (pos, e) :: finditerAux env r s fuel e (e == pos)

/-- The fuel allows two steps per position `0 … len(s)` (a step either advances `pos` or turns `must_advance` on at
    the same `pos`) and one to run off the end.  That it suffices is proved for `RE_PATTERN_LINE_SPLIT` only
    (`finditerAux_end`, `withLast_scan`), not for every expression. -/
def finditer (env : CharEnv) (r : Rx) (s : Str) : List (Nat × Nat) :=
  finditerAux env r s (2 * s.length + 3) 0 false

/-- The scan loop without `must_advance`: an empty match at `pos` simply continues at `pos + 1`, so two
    matches never start at the same position; fuel `s.length + 2`.  It agrees with `finditer` on this
    regular expression (`finditerSimple_eq_finditer`), not in general (see the examples at the end). -/
def finditerSimpleAux (env : CharEnv) (r : Rx) (s : Str) : Nat → Nat → List (Nat × Nat)
  | 0, _ => []
  | fuel + 1, pos =>
    if pos > s.length then [] else
    match matchAt env r s pos with
    | none => finditerSimpleAux env r s fuel (pos + 1)
    | some (e, _) => (pos, e) :: finditerSimpleAux env r s fuel (if e > pos then e else pos + 1)

def finditerSimple (env : CharEnv) (r : Rx) (s : Str) : List (Nat × Nat) :=
  finditerSimpleAux env r s (s.length + 2) 0

/-- The `for m in finditer` loop's view: every match together with the value of `last`
    (the end of the previous match, `last0` for the first). -/
def withLast : Nat → List (Nat × Nat) → List Match
  | _, [] => []
  | last, (a, b) :: ms => (last, a, b) :: withLast b ms

/-- The explicit term `(?:\r\n|(?!\r\n)[\n\r])|$`. -/
def lineSplitRx : Rx :=
  .alt [.alt [.seq [.lit 13 false, .lit 10 false],
              .seq [.look true true (.seq [.lit 13 false, .lit 10 false]),
                    .set false [.ch 10, .ch 13] false]],
        .eol]

theorem lineSplit_shape : Gen.util_RE_PATTERN_LINE_SPLIT = lineSplitRx := rfl

/-! In the five lemmas that follow, `simp` runs the engine on the three alternatives of `lineSplitRx` at a position
    whose next characters are given; what it leaves for `omega` is whether `$` matches there (`i = s.length`,
    or `i + 1 = s.length` in front of a final `\n`), which the bound `hlt` on `i` decides. -/

theorem runs_crlf (env : CharEnv) (s : Str) (i : Nat) (h0 : s[i]? = some 13) (h1 : s[i+1]? = some 10) :
    runs env s lineSplitRx i [] = [(i + 2, [])] := by
  have hlt := lt_of_getElem?_some h1
  simp [lineSplitRx, runs, runsAlt, runsSeq, h0, h1, setHas, itemHas]
  omega

theorem runs_cr (env : CharEnv) (s : Str) (i : Nat) (h0 : s[i]? = some 13) (h1 : s[i+1]? ≠ some 10) :
    runs env s lineSplitRx i [] = [(i + 1, [])] := by
  have hlt := lt_of_getElem?_some h0
  cases h : s[i+1]? with
  | none =>
    simp [lineSplitRx, runs, runsAlt, runsSeq, h0, h, setHas, itemHas]
    omega
  | some d =>
    have hd : d ≠ 10 := by intro e; rw [h, e] at h1; exact h1 rfl
    simp [lineSplitRx, runs, runsAlt, runsSeq, h0, h, hd, setHas, itemHas]
    omega

/-- `\n`: a match of width 1 first; the `$` before a final `\n` comes second. -/
theorem runs_lf (env : CharEnv) (s : Str) (i : Nat) (h0 : s[i]? = some 10) :
    runs env s lineSplitRx i [] = (i + 1, []) :: (if i + 1 = s.length then [(i, [])] else []) := by
  have hlt := lt_of_getElem?_some h0
  by_cases hl : i + 1 = s.length
  · simp [lineSplitRx, runs, runsAlt, runsSeq, h0, hl, setHas, itemHas]
  · simp [lineSplitRx, runs, runsAlt, runsSeq, h0, hl, setHas, itemHas]
    omega

theorem runs_other (env : CharEnv) (s : Str) (i c : Nat) (h0 : s[i]? = some c) (h13 : c ≠ 13)
    (h10 : c ≠ 10) : runs env s lineSplitRx i [] = [] := by
  have hlt := lt_of_getElem?_some h0
  simp [lineSplitRx, runs, runsAlt, runsSeq, h0, h13, h10, setHas, itemHas]
  omega

theorem runs_end (env : CharEnv) (s : Str) : runs env s lineSplitRx s.length [] = [(s.length, [])] := by
  simp [lineSplitRx, runs, runsAlt, runsSeq]

theorem runs_unit (env : CharEnv) {s u r : Str} {pos : Nat} (hu : BreakUnit u r)
    (hd : s.drop pos = u ++ r) : ∃ tl, runs env s lineSplitRx pos [] = (pos + u.length, []) :: tl := by
  cases hu with
  | crlf =>
    exact ⟨_, runs_crlf env s pos (getElem?_of_drop_cons hd)
      (getElem?_of_drop_cons (drop_succ_of_drop_cons hd))⟩
  | cr r hr =>
    exact ⟨_, runs_cr env s pos (getElem?_of_drop_cons hd)
      (by rw [← List.head?_drop, drop_succ_of_drop_cons hd]; exact hr)⟩
  | lf => exact ⟨_, runs_lf env s pos (getElem?_of_drop_cons hd)⟩

theorem firstRun_false (env : CharEnv) (r : Rx) (s : Str) (pos : Nat) :
    firstRun env r s pos false = (runs env s r pos []).head? := rfl

theorem firstRun_true (env : CharEnv) (r : Rx) (s : Str) (pos : Nat) :
    firstRun env r s pos true = (runs env s r pos []).find? (fun x => x.1 != pos) := rfl

theorem finditerAux_hit (env : CharEnv) (r : Rx) (s : Str) (fuel pos e : Nat) (c : Caps)
    (tl : List (Nat × Caps)) (hpos : pos ≤ s.length) (hr : runs env s r pos [] = (e, c) :: tl)
    (he : pos < e) :
    finditerAux env r s (fuel + 1) pos false = (pos, e) :: finditerAux env r s fuel e false := by
  rw [finditerAux, if_neg (by omega), firstRun_false, hr]
  have : (e == pos) = false := by simpa using Nat.ne_of_gt he
  simp [this]

theorem finditerAux_miss (env : CharEnv) (r : Rx) (s : Str) (fuel pos : Nat)
    (hpos : pos ≤ s.length) (hr : runs env s r pos [] = []) :
    finditerAux env r s (fuel + 1) pos false = finditerAux env r s fuel (pos + 1) false := by
  rw [finditerAux, if_neg (by omega), firstRun_false, hr]
  rfl

theorem finditerAux_end (env : CharEnv) (s : Str) (fuel : Nat) :
    finditerAux env lineSplitRx s (fuel + 3) s.length false = [(s.length, s.length)] := by
  rw [finditerAux, if_neg (by omega), firstRun_false, runs_end]
  simp only [List.head?_cons, beq_self_eq_true]
  rw [finditerAux, if_neg (by omega), firstRun_true, runs_end]
  simp only [List.find?_cons, bne_self_eq_false, List.find?_nil]
  rw [finditerAux, if_pos (by omega)]

/-- A loop `F fuel pos` that emits a non-empty first run of `lineSplitRx` and goes on at its end, moves on by
    one character where `lineSplitRx` has no run, and emits the empty match once at the end of the input (with `k` units
    of fuel): its view `withLast` on the suffix at `pos` is the hand scanner. -/
theorem withLast_scan (env : CharEnv) (s : Str) (F : Nat → Nat → List (Nat × Nat)) (k : Nat)
    (hit : ∀ fuel pos e c tl, pos ≤ s.length → runs env s lineSplitRx pos [] = (e, c) :: tl → pos < e →
      F (fuel + 1) pos = (pos, e) :: F fuel e)
    (miss : ∀ fuel pos, pos ≤ s.length → runs env s lineSplitRx pos [] = [] → F (fuel + 1) pos = F fuel (pos + 1))
    (stop : ∀ fuel, F (fuel + k) s.length = [(s.length, s.length)]) :
    ∀ (t : Str) (pos last fuel : Nat), s.drop pos = t → pos ≤ s.length → (s.length - pos) + k ≤ fuel →
      withLast last (F fuel pos) = splitLinesAux t pos last := by
  intro t
  induction t using unitInduction with
  | nil =>
    intro pos last fuel hd hle hf
    have hp : pos = s.length := by have := List.drop_eq_nil_iff.mp hd; omega
    subst hp
    obtain ⟨f, rfl⟩ : ∃ f, fuel = f + k := ⟨fuel - k, by omega⟩
    rw [stop, sl_nil]; rfl
  | unit u r hu ih =>
    intro pos last fuel hd hle hf
    obtain ⟨tl, hr⟩ := runs_unit env hu hd
    have hlen := hu.length_bounds
    have hd' : s.drop (pos + u.length) = r := by rw [← List.drop_drop, hd, List.drop_left' rfl]
    have hle' : pos + u.length ≤ s.length := by
      have := congrArg List.length hd
      rw [List.length_drop, List.length_append] at this
      omega
    obtain ⟨f, rfl⟩ : ∃ f, fuel = f + 1 := ⟨fuel - 1, by omega⟩
    rw [hit f pos _ _ tl hle hr (by omega), sl_unit hu, withLast, ih _ _ f hd' hle' (by omega)]
  | other c r h13 h10 ih =>
    intro pos last fuel hd hle hf
    have h0 := getElem?_of_drop_cons hd
    have hd1 := drop_succ_of_drop_cons hd
    have hlt := lt_of_drop_cons hd
    obtain ⟨f, rfl⟩ : ∃ f, fuel = f + 1 := ⟨fuel - 1, by omega⟩
    rw [miss f pos hle (runs_other env s pos c h0 h13 h10), sl_other _ _ _ _ h13 h10]
    exact ih _ _ f hd1 (by omega) (by omega)

theorem finditerSimpleAux_hit (env : CharEnv) (r : Rx) (s : Str) (fuel pos e : Nat) (c : Caps)
    (tl : List (Nat × Caps)) (hpos : pos ≤ s.length) (hr : runs env s r pos [] = (e, c) :: tl)
    (he : pos < e) :
    finditerSimpleAux env r s (fuel + 1) pos = (pos, e) :: finditerSimpleAux env r s fuel e := by
  rw [finditerSimpleAux, if_neg (by omega), matchAt, hr]
  simp [he]

theorem finditerSimpleAux_miss (env : CharEnv) (r : Rx) (s : Str) (fuel pos : Nat)
    (hpos : pos ≤ s.length) (hr : runs env s r pos [] = []) :
    finditerSimpleAux env r s (fuel + 1) pos = finditerSimpleAux env r s fuel (pos + 1) := by
  rw [finditerSimpleAux, if_neg (by omega), matchAt, hr]
  rfl

theorem finditerSimpleAux_end (env : CharEnv) (s : Str) (fuel : Nat) :
    finditerSimpleAux env lineSplitRx s (fuel + 2) s.length = [(s.length, s.length)] := by
  rw [finditerSimpleAux, if_neg (by omega), matchAt, runs_end]
  simp only [List.head?_cons, Nat.lt_irrefl, if_false, gt_iff_lt]
  rw [finditerSimpleAux, if_pos (by omega)]

theorem withLast_spans (last : Nat) (ms : List (Nat × Nat)) :
    (withLast last ms).map (fun m => (m.2.1, m.2.2)) = ms := by
  induction ms generalizing last with
  | nil => rfl
  | cons m ms ih => obtain ⟨a, b⟩ := m; simp [withLast, ih]

theorem withLast_lasts (last : Nat) (ms : List (Nat × Nat)) :
    (withLast last ms).map (fun m => m.1) = (last :: ms.map (fun m => m.2)).dropLast := by
  induction ms generalizing last with
  | nil => rfl
  | cons m ms ih => obtain ⟨a, b⟩ := m; simp [withLast, ih]

theorem withLast_ends (last : Nat) (ms : List (Nat × Nat)) :
    (withLast last ms).map (fun m => m.2.2) = ms.map (fun m => m.2) := by
  induction ms generalizing last with
  | nil => rfl
  | cons m ms ih => obtain ⟨a, b⟩ := m; simp [withLast, ih]

theorem withLast_of_map (last : Nat) (l : List Match) :
    withLast last (l.map (fun m => (m.2.1, m.2.2))) = l ↔
      l.map (fun m => m.1) = (last :: l.map (fun m => m.2.2)).dropLast := by
  induction l generalizing last with
  | nil => simp [withLast]
  | cons m l ih =>
    obtain ⟨x, a, b⟩ := m
    cases l with
    | nil => simp [withLast]; exact eq_comm
    | cons m' l' =>
      have := ih b
      simp only [List.map_cons, withLast, List.cons.injEq, Prod.mk.injEq, and_true,
        List.dropLast_cons_cons] at this ⊢
      rw [this]
      constructor
      · rintro ⟨rfl, h⟩; exact ⟨rfl, h⟩
      · rintro ⟨rfl, h⟩; exact ⟨rfl, h⟩

/-- `splitLines s` is exactly the sequence of
    `(last, m.start(0), m.end(0))` seen by `for m in RE_PATTERN_LINE_SPLIT.finditer(s)` with
    `last = 0` initially and `last = m.end(0)` after each iteration. -/
theorem splitLines_eq_withLast_finditer (env : CharEnv) (s : Str) :
    Context.splitLines s = withLast 0 (finditer env Gen.util_RE_PATTERN_LINE_SPLIT s) := by
  rw [lineSplit_shape, finditer, splitLines]
  exact (withLast_scan env s (fun fuel pos => finditerAux env lineSplitRx s fuel pos false) 3
    (finditerAux_hit env lineSplitRx s) (finditerAux_miss env lineSplitRx s) (finditerAux_end env s)
    s 0 0 _ rfl (by omega) (by omega)).symm

theorem finditer_lineSplit (env : CharEnv) (s : Str) :
    finditer env Gen.util_RE_PATTERN_LINE_SPLIT s =
      (Context.splitLines s).map (fun m => (m.2.1, m.2.2)) := by
  rw [splitLines_eq_withLast_finditer env s, withLast_spans]

/-- The `last` components of `splitLines s` are `0` followed by the
    ends of the matches, the final end dropped: `last` is the end of the previous match. -/
theorem splitLines_last (s : Str) :
    (Context.splitLines s).map (fun m => m.1) =
      (0 :: (Context.splitLines s).map (fun m => m.2.2)).dropLast := by
  rw [splitLines_eq_withLast_finditer asciiEnv s, withLast_lasts, withLast_ends]

/-- The loop without `must_advance` gives the same matches on this regular expression. -/
theorem splitLines_eq_withLast_finditerSimple (env : CharEnv) (s : Str) :
    Context.splitLines s = withLast 0 (finditerSimple env Gen.util_RE_PATTERN_LINE_SPLIT s) := by
  rw [lineSplit_shape, finditerSimple, splitLines]
  exact (withLast_scan env s (finditerSimpleAux env lineSplitRx s) 2
    (finditerSimpleAux_hit env lineSplitRx s) (finditerSimpleAux_miss env lineSplitRx s) (finditerSimpleAux_end env s)
    s 0 0 _ rfl (by omega) (by omega)).symm

theorem finditerSimple_lineSplit (env : CharEnv) (s : Str) :
    finditerSimple env Gen.util_RE_PATTERN_LINE_SPLIT s =
      (Context.splitLines s).map (fun m => (m.2.1, m.2.2)) := by
  rw [splitLines_eq_withLast_finditerSimple env s, withLast_spans]

theorem finditerSimple_eq_finditer (env : CharEnv) (s : Str) :
    finditerSimple env Gen.util_RE_PATTERN_LINE_SPLIT s =
      finditer env Gen.util_RE_PATTERN_LINE_SPLIT s := by
  rw [finditerSimple_lineSplit, finditer_lineSplit]

/-! ### Sanity checks of the `finditer` model against CPython 3.12
    (`[(m.start(), m.end()) for m in re.finditer(...)]`) -/

example : finditer asciiEnv Gen.util_RE_PATTERN_LINE_SPLIT "a\n".toStr = [(1, 2), (2, 2)] := by decide_lit
example : finditer asciiEnv Gen.util_RE_PATTERN_LINE_SPLIT "a\r\n".toStr = [(1, 3), (3, 3)] := by decide_lit
example : finditer asciiEnv Gen.util_RE_PATTERN_LINE_SPLIT "\n\n".toStr = [(0, 1), (1, 2), (2, 2)] := by decide_lit
example : finditer asciiEnv Gen.util_RE_PATTERN_LINE_SPLIT "".toStr = [(0, 0)] := by decide_lit
example : finditer asciiEnv Gen.util_RE_PATTERN_LINE_SPLIT "a\n\nb".toStr = [(1, 2), (2, 3), (4, 4)] := by decide_lit
example : finditer asciiEnv Gen.util_RE_PATTERN_LINE_SPLIT "ab\r".toStr = [(2, 3), (3, 3)] := by decide_lit
example : finditer asciiEnv Gen.util_RE_PATTERN_LINE_SPLIT "\r\r\n".toStr = [(0, 1), (1, 3), (3, 3)] := by decide_lit
/-- `re.finditer('|a', 'aa')` = `(0,0),(0,1),(1,1),(1,2),(2,2)`: an empty and a non-empty match may
    start at the same position; the loop without `must_advance` misses the non-empty ones. -/
example : finditer asciiEnv (.alt [.seq [], .lit 97 false]) "aa".toStr =
    [(0, 0), (0, 1), (1, 1), (1, 2), (2, 2)] := by decide_lit
example : finditerSimple asciiEnv (.alt [.seq [], .lit 97 false]) "aa".toStr =
    [(0, 0), (1, 1), (2, 2)] := by decide_lit
/-- `re.finditer('$|\n', 'a\n')` = `(1,1),(1,2),(2,2)`. -/
example : finditer asciiEnv (.alt [.eol, .lit 10 false]) "a\n".toStr = [(1, 1), (1, 2), (2, 2)] := by
  decide_lit

#print axioms splitLines_eq_withLast_finditer
#print axioms finditer_lineSplit
#print axioms splitLines_last
#print axioms finditerSimple_lineSplit
#print axioms finditerSimple_eq_finditer

end Context
end Refine
end SoupVerif
