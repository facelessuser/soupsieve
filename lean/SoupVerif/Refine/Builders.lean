/-
  What each handler of the parser model builds once the texts of its token's groups are decoded, positions aside;
  the loop state after a combinator (`parse_combinator` / `parse_has_combinator` in every mode, `CombValid`: when they
  do not raise) and after the closing parenthesis.  The `*_facts` / `*_frame` lemmas: none of these looks at `pos`,
  `index` or the custom map.
-/
import SoupVerif.Model.ParserStep
import SoupVerif.Generated.Lexicon
namespace SoupVerif
namespace Refine
namespace Compile
open Rx SoupVerif.Parser ParserProgress

/-! `is_relative`, `is_forgive`, `is_pseudo` of `parse_selectors`: the three flags that the loop looks at. -/

def relOf (fl : Nat) : Bool := (fl &&& FLG_RELATIVE) != 0
def fgOf (fl : Nat) : Bool := (fl &&& FLG_FORGIVE) != 0
def ipOf (fl : Nat) : Bool := (fl &&& FLG_PSEUDO) != 0

/-- `parse_attribute_selector` once name, operator, value and case flag are known (no namespace). -/
def attrBuild (sel : SelB) (attr op value : Str) (case_ : Option Str) : SelB :=
  let (ic, isType) : Bool × Bool :=
    match case_ with
    | some c => (c == "i".toStr, false)
    | none => if lower attr == "type".toStr then (true, true) else (false, false)
  let hasWs := (Rx.search pyFoldEnv Gen.lexicon.reWs value).isSome
  let pattern : Option Rx := if op.isEmpty then none else some (attrPattern op value ic hasWs)
  let pattern2 : Option Rx :=
    if isType then pattern.map (fun _ => attrPattern op value false hasWs) else none
  let selAttr : AttrSel := { attrName := attr, pfx := [], pattern := pattern, xmlTypePattern := pattern2 }
  if op.head? == some 33 then sel.addSub (.mk [(SelB.empty.addAttr selAttr).freeze] true false)
  else sel.addAttr selAttr

/-- `parse_attribute_selector` once prefix, name, operator, value and case flag are known. -/
def attrBuildNs (sel : SelB) (ns attr op value : Str) (case_ : Option Str) : SelB :=
  let (ic, isType) : Bool × Bool :=
    match case_ with
    | some c => (c == "i".toStr, false)
    | none => if lower attr == "type".toStr then (true, true) else (false, false)
  let hasWs := (Rx.search pyFoldEnv Gen.lexicon.reWs value).isSome
  let pattern : Option Rx := if op.isEmpty then none else some (attrPattern op value ic hasWs)
  let pattern2 : Option Rx :=
    if isType then pattern.map (fun _ => attrPattern op value false hasWs) else none
  let selAttr : AttrSel := { attrName := attr, pfx := ns, pattern := pattern, xmlTypePattern := pattern2 }
  if op.head? == some 33 then sel.addSub (.mk [(SelB.empty.addAttr selAttr).freeze] true false)
  else sel.addAttr selAttr

theorem attrBuild_eq (sel : SelB) (attr op value : Str) (case_ : Option Str) :
    attrBuild sel attr op value case_ = attrBuildNs sel [] attr op value case_ := rfl

/-- The `value` binding: quotes stripped and string-unescaped, or identifier-unescaped. -/
def rawValue (raw : Str) : Str :=
  match raw.head? with
  | some q => if q == 34 || q == 39 then Parser.cssUnescape pyFoldEnv Gen.lexicon (slice raw 1 (raw.length - 1)) true
              else Parser.cssUnescape pyFoldEnv Gen.lexicon raw
  | none => Parser.cssUnescape pyFoldEnv Gen.lexicon raw

/-- What a pseudo-class without arguments does to the builder: the table of simple pseudo-classes, or
    "no match" for the recognised ones that can never match. -/
def plainPseudo (B : Builtins) (name : Str) (sel : SelB) : SelB :=
  if inList Gen.lexicon.pseudoSimple name then
    applySimplePseudo ⟨pyFoldEnv, Gen.lexicon, B, []⟩ name sel
  else sel.setNoMatch

/-- The state after `)`. -/
def closeSt (st : LS) : LS :=
  { (if st.hasSelector then st else { st with sel := st.sel.setNoMatch }) with closed := true }

/-- Names of the pseudo-classes with an An+B argument. -/
def nthChildName (n : Str) : Prop := n = ":nth-child".toStr ∨ n = ":nth-last-child".toStr

def nthTypeName (n : Str) : Prop := n = ":nth-of-type".toStr ∨ n = ":nth-last-of-type".toStr

/-- What `parse_pseudo_nth` adds to the builder, from the name, the canonical An+B text and the compiled
    `of S` list (if any). -/
def nthBuild (B : Builtins) (name canon : Str) (ofSel : Option SelList) (sel : SelB) : SelB :=
  let anb := parseAnB ⟨pyFoldEnv, Gen.lexicon, B, []⟩ canon
  let e := SelList.mk [] false false
  if name == ":nth-of-type".toStr then sel.addNth [nthOf anb.1 anb.2.1 anb.2.2 true false e]
  else if name == ":nth-last-of-type".toStr then sel.addNth [nthOf anb.1 anb.2.1 anb.2.2 true true e]
  else if name == ":nth-child".toStr then
    sel.addNth [nthOf anb.1 anb.2.1 anb.2.2 false false (ofSel.getD B.nthOfSDefault)]
  else if name == ":nth-last-child".toStr then
    sel.addNth [nthOf anb.1 anb.2.1 anb.2.2 false true (ofSel.getD B.nthOfSDefault)]
  else sel

/-- What `:dir()` adds to the builder. -/
def dirBuild (ltr : Bool) (sel : SelB) : SelB :=
  sel.addSub (.mk [(SelB.empty.setFlags (if ltr then SEL_DIR_LTR else SEL_DIR_RTL)).freeze] false true)

/-- Names of the `contains` family. -/
def containsName (n : Str) : Prop :=
  n = ":contains".toStr ∨ n = ":-soup-contains".toStr ∨ n = ":-soup-contains-own".toStr

/-- `parse_combinator` when a compound has been read: `,` closes the complex selector, the other
    combinators move the compound into `relations`. -/
def combStep (c : Nat) (isPseudo : Bool) (st : LS) : LS :=
  let sel := if st.sel.tag.isNone && !isPseudo then st.sel.setTag ⟨[42], none⟩ else st.sel
  if c == 44 then
    { st with selectors := st.selectors ++ [sel.addRelations st.relations], relations := [],
              sel := .empty, hasSelector := false }
  else
    { st with relations := [(sel.addRelations st.relations).setRelType (combRel c)],
              sel := .empty, hasSelector := false }

/-- `parse_combinator` (its branches that do not raise): after a compound as `combStep`; without one (a
    forgiving list, at a comma) the empty slot becomes a selector that matches nothing. -/
def combStepF (c : Nat) (ip : Bool) (st : LS) : LS :=
  if st.hasSelector then combStep c ip st
  else { st with selectors := st.selectors ++ [st.sel.setNoMatch], relations := [], sel := .empty,
                 hasSelector := false }

/-- `parse_has_combinator` (its branches that do not raise). -/
def combStepR (c : Nat) (st : LS) : LS :=
  if c == 44 then
    { st with selectors := (modifyLast st.selectors (·.addRelations [st.sel.setRelType st.relType])) ++
                [SelB.empty],
              relType := .hasDesc, sel := .empty, hasSelector := false }
  else if st.hasSelector then
    { st with selectors := modifyLast st.selectors (·.addRelations [st.sel.setRelType st.relType]),
              relType := combHasRel c, sel := .empty, hasSelector := false }
  else { st with relType := combHasRel c, sel := .empty, hasSelector := false }

/-- The combinator step for the flag word `fl`: `parse_has_combinator` in a relative list, `parse_combinator` elsewhere. -/
def combStepG (fl c : Nat) (st : LS) : LS :=
  if relOf fl then combStepR c st else combStepF c (ipOf fl) st

/-- When the combinator `c` does not raise in the state `st`. -/
def CombValid (fl c : Nat) (st : LS) : Prop :=
  if relOf fl = true then
    (c = 44 → st.hasSelector = true) ∧ (c ≠ 44 → st.hasSelector = true ∨ st.relType = .hasDesc)
  else st.hasSelector = true ∨ (fgOf fl = true ∧ c = 44)

theorem CombValid.of_sel {fl c : Nat} {st : LS} (hrel : relOf fl = false) (hs : st.hasSelector = true) :
    CombValid fl c st := by
  unfold CombValid
  rw [if_neg (by simp [hrel])]
  exact Or.inl hs

theorem combStepG_of_sel {fl c : Nat} {st : LS} (hrel : relOf fl = false) (hs : st.hasSelector = true) :
    combStepG fl c st = combStep c (ipOf fl) st := by
  simp [combStepG, combStepF, hrel, hs]

theorem combStep_facts (c : Nat) (ip : Bool) (st : LS) :
    (combStep c ip st).hasSelector = false ∧ (combStep c ip st).sel = SelB.empty ∧
      (combStep c ip st).custom = st.custom := by
  by_cases h : (c == 44) = true <;> simp [combStep, h]

theorem combStep_frame (c : Nat) (ip : Bool) (st : LS) (p idx : Nat) :
    { combStep c ip { st with pos := p } with index := idx } =
      { combStep c ip st with pos := p, index := idx } := by
  by_cases h : (c == 44) = true <;> simp [combStep, h]

theorem combStepG_facts (fl c : Nat) (st : LS) :
    (combStepG fl c st).hasSelector = false ∧ (combStepG fl c st).sel = SelB.empty ∧
      (combStepG fl c st).custom = st.custom := by
  unfold combStepG combStepR combStepF
  by_cases hr : relOf fl = true <;> by_cases h : (c == 44) = true <;>
    by_cases hs : st.hasSelector = true <;> simp [combStep, hr, h, hs]

theorem combStepG_frame (fl c : Nat) (st : LS) (p idx : Nat) :
    { combStepG fl c { st with pos := p } with index := idx } =
      { combStepG fl c st with pos := p, index := idx } := by
  unfold combStepG combStepR combStepF
  by_cases hr : relOf fl = true <;> by_cases h : (c == 44) = true <;>
    by_cases hs : st.hasSelector = true <;> simp [combStep, hr, h, hs]

end Compile
end Refine

end SoupVerif
