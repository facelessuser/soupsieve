/-
  Engine lemmas about `IDENTIFIER` beyond its first run (needed where the engine may backtrack into an
  identifier: the optional namespace prefix of `tag` and `attribute`), from the scanners of `Refine/Ident.lean`;
  and what the pieces of the token regexes read (`Refine/Reads.lean`): a gap (`Reads.gap`; in front of a
  continuation that fails wherever a unit starts, `gap_then_drop`), an identifier, an identifier behind a character
  (`Reads.prefixed`) — each from the scanner of the piece.
-/
import SoupVerif.Refine.CompileLex
namespace SoupVerif
namespace Refine
namespace Compile
open Rx RxBasic SoupVerif.Parser ParserProgress Escape Spelling
open Ident (rxHead rxStar rxContSet contStep contLen IdentFold)
open Wsc (gapEnd)


theorem contStep_head {t : Str} (h : (contStep t).isSome = true) :
    ∃ c cs, t = c :: cs ∧ (identContChar c = true ∨ c = 92) := by
  cases t with
  | nil => simp [contStep] at h
  | cons c cs =>
    refine ⟨c, cs, rfl, ?_⟩
    by_cases hc : identContChar c = true
    · exact Or.inl hc
    · right
      simp only [contStep, hc, Bool.false_eq_true, if_false] at h
      by_cases h92 : c = 92
      · exact h92
      · simp [escLen, h92] at h

theorem lit_fail {env : CharEnv} (h : IdentFold env) (s : Str) (k : Nat)
    (hk : k < 65 ∨ (91 ≤ k ∧ k ≤ 96) ∨ (123 ≤ k ∧ k ≤ 127)) (rs : List Rx) (j : Nat) (c : Caps)
    (hj : s[j]? ≠ some k) : runsSeq env s (.lit k true :: rs) j c = [] := by
  rw [runsSeq_char (isChar_lit env s k true)]
  cases hx : s[j]? with
  | none => rfl
  | some x =>
    have : x ≠ k := by intro e; subst e; exact hj hx
    simp [Ident.fold_eq_const h k hk, this]

theorem lit_ok (env : CharEnv) (s : Str) (k : Nat) (rs : List Rx) (j : Nat) (c : Caps)
    (hj : s[j]? = some k) : runsSeq env s (.lit k true :: rs) j c = runsSeq env s rs (j + 1) c := by
  rw [runsSeq_char (isChar_lit env s k true), hj]
  simp

theorem lit_fail_at_unit {env : CharEnv} (h : IdentFold env) (s : Str) (k : Nat)
    (hk : k < 65 ∨ (91 ≤ k ∧ k ≤ 96) ∨ (123 ≤ k ∧ k ≤ 127))
    (hk' : identContChar k = false ∧ k ≠ 92) (rs : List Rx) (j : Nat) (c : Caps)
    (hj : (contStep (s.drop j)).isSome = true) : runsSeq env s (.lit k true :: rs) j c = [] := by
  obtain ⟨x, cs, hd, hx⟩ := contStep_head hj
  apply lit_fail h s k hk
  rw [getElem?_of_drop_cons hd]
  intro e
  cases e
  rcases hx with hx | hx
  · rw [hk'.1] at hx; cases hx
  · exact hk'.2 hx

def rxIdent : Rx := .seq [rxHead, rxStar]
def rxName : Rx := .alt [rxIdent, .lit 42 true]

/-- End position of the identifier scanned at `i`, via the pieces the engine lemmas speak of. -/
theorem scanIdent_end {s : Str} {i : Nat} {m r : Str} (h : scanIdent (s.drop i) = some (m, r)) :
    ∃ n, Escape.headLen (s.drop i) = some n ∧ i + n + contLen (s.drop (i + n)) = i + m.length := by
  unfold scanIdent at h
  cases hh : Escape.headLen (s.drop i) with
  | none => rw [hh] at h; cases h
  | some n =>
    rw [hh] at h
    simp only [Option.map_some, Option.some.injEq] at h
    have hb := Ident.headLen_bounds hh
    have := Ident.scanCont_length hb.2
    rw [h, List.drop_drop] at this
    exact ⟨n, rfl, by simp only at this; omega⟩

theorem ident_runs_nil {env : CharEnv} (h : IdentFold env) (s : Str) (i : Nat) (caps : Caps)
    (hs : scanIdent (s.drop i) = none) : runs env s rxIdent i caps = [] := by
  have hh : Escape.headLen (s.drop i) = none := by
    unfold scanIdent at hs
    cases hh : Escape.headLen (s.drop i) with
    | none => rfl
    | some n => rw [hh] at hs; cases hs
  unfold rxIdent
  rw [runs_seq, (Ident.scans_head h).runsSeq_cons, hh]

theorem scanIdent_star (cs : Str) : scanIdent (42 :: cs) = none := by
  simp [scanIdent, Escape.headLen, Escape.startLen, identStartChar, escLen]

theorem runsSeq_group_nil (env : CharEnv) (s : Str) (k : Nat) (r : Rx) (rs : List Rx) (i : Nat) (caps : Caps)
    (h : runs env s r i caps = []) : runsSeq env s (.group k r :: rs) i caps = [] := by
  rw [RefineInputs.runsSeq_group, h]; rfl

/-- The runs of `IDENTIFIER` in front of a continuation `K` that gives nothing wherever a further loop unit starts:
    only the identifier the scanner takes is left. -/
theorem ident_flatMap {env : CharEnv} (h : IdentFold env) (s : Str) (i : Nat) (caps : Caps)
    {β : Type} (K : Nat × Caps → List β)
    (hk : ∀ j c, (contStep (s.drop j)).isSome = true → K (j, c) = []) :
    (runs env s rxIdent i caps).flatMap K =
      match scanIdent (s.drop i) with
      | none => []
      | some m => K (i + m.1.length, caps) := by
  cases hs : scanIdent (s.drop i) with
  | none => rw [ident_runs_nil h s i caps hs]; rfl
  | some m =>
    obtain ⟨n, h1, h2⟩ := scanIdent_end (m := m.1) (r := m.2) hs
    -- the runs of the loop: the longest first, every other one ends where a further unit begins
    obtain ⟨_, rest, e1, e2⟩ :=
      unitEnds_cut ((Ident.scans_contAlt h).unit_bounds Ident.contStep_pos) (s.drop (i + n))
    unfold rxIdent
    rw [runs_seq, (Ident.scans_head h).runsSeq_cons, h1]
    dsimp only
    rw [RxBasic.runsSeq_single, show rxStar = .rep 0 none true (.alt [Ident.rxContSet, Ident.rxEsc]) from rfl,
      (Ident.scans_contAlt h).runs_star Ident.contStep_pos, e1, List.map_cons, List.flatMap_cons,
      List.flatMap_eq_nil_iff.mpr (fun x hx => by
        obtain ⟨m', hm', rfl⟩ := List.mem_map.1 hx
        exact hk _ _ (by rw [← List.drop_drop]; exact (e2 m' hm').2)),
      List.append_nil, Ident.unitsLen_cont, h2]

/-- `IDENTIFIER` followed by a continuation `rs` that fails wherever a further loop unit starts (an identifier
    character or an escape): only the identifier the scanner takes continues. -/
theorem ident_then_scan {env : CharEnv} (h : IdentFold env) (s : Str) (i : Nat) (caps : Caps) (rs : List Rx)
    (hk : ∀ j c, (contStep (s.drop j)).isSome = true → runsSeq env s rs j c = []) :
    runsSeq env s (rxIdent :: rs) i caps =
      match scanIdent (s.drop i) with
      | none => []
      | some m => runsSeq env s rs (i + m.1.length) caps := by
  rw [runsSeq_cons]
  exact ident_flatMap h s i caps (fun x => runsSeq env s rs x.1 x.2) hk

theorem name_then {env : CharEnv} (h : IdentFold env) (s : Str) (i : Nat) (caps : Caps) (rs : List Rx)
    (hk : ∀ j c, (contStep (s.drop j)).isSome = true → runsSeq env s rs j c = []) :
    runsSeq env s (rxName :: rs) i caps =
      (match scanIdent (s.drop i) with
        | none => []
        | some m => runsSeq env s rs (i + m.1.length) caps) ++
      (if s[i]? = some 42 then runsSeq env s rs (i + 1) caps else []) := by
  unfold rxName
  rw [runsSeq_cons, runs_alt, runsAlt_cons, runsAlt_cons, runsAlt_nil, List.append_nil,
    List.flatMap_append, ← runsSeq_cons, ← runsSeq_cons, ident_then_scan h s i caps rs hk]
  congr 1
  by_cases h42 : s[i]? = some 42
  · rw [if_pos h42, lit_ok env s 42 rs i caps h42]
  · rw [if_neg h42, lit_fail h s 42 (by omega) rs i caps h42]


theorem gapEnd_of_drop {s : Str} {p : Nat} {g r : Str} (hd : s.drop p = g ++ r) (hg : isGap g)
    (hr : noGapStart r = true) (hp : p ≤ s.length) : gapEnd s p = p + g.length := by
  unfold gapEnd
  rw [hd, C09.skipWSC_append g r hg hr]
  have := congrArg List.length hd
  rw [List.length_drop, List.length_append] at this
  omega

theorem Reads.ident_env {env : CharEnv} (h : IdentFold env) {f : List (Nat × EscForm)} {R : Str}
    (hv : validForms f R = true) (hh : headOk f = true) (hr : ¬ continuesIdent R) :
    Reads env rxIdent (renderIdentWith f) R [] :=
  Reads.of_head fun s p c _ hd => by
    unfold rxIdent
    rw [runs_seq, Ident.head?_ident h, hd, C09.scan_any_spelling_ctx f R hv hh hr]; rfl

theorem unitsLen_gap {g R : Str} (hg : isGap g) (hR : noGapStart R = true) :
    unitsLen Wsc.wscUnit (g ++ R) = g.length := by
  rw [Wsc.unitsLen_wsc, C09.skipWSC_append g R hg hR, List.length_append, Nat.add_sub_cancel]

theorem Reads.gap {g R : Str} (hg : isGap g) (hR : noGapStart R = true) : Reads pyFoldEnv (Wsc.gapRx true) g R [] :=
  Reads.of_head fun s p c _ hd => by
    rw [show Wsc.gapRx true = .rep 0 none true (Wsc.wscRx true) from rfl,
      (Wsc.scans_wsc true fun _ => Wsc.caseFree_pyFold).star_head Wsc.wscUnit_pos, hd, unitsLen_gap hg hR]

/-- `WSC*` on such a gap, followed by a continuation that fails wherever a unit starts: the continuation runs from
    behind the gap. -/
theorem gap_then_drop (s : Str) {p : Nat} {g r : Str} (caps : Caps) (rs : List Rx) (hd : s.drop p = g ++ r)
    (hg : isGap g) (hr : noGapStart r = true)
    (hk : ∀ j c, (Wsc.unitEnd s j).isSome = true → runsSeq pyFoldEnv s rs j c = []) :
    runsSeq pyFoldEnv s (Wsc.gapRx true :: rs) p caps = runsSeq pyFoldEnv s rs (p + g.length) caps := by
  rw [show Wsc.gapRx true = .rep 0 none true (Wsc.wscRx true) from rfl,
    (Wsc.scans_wsc true fun _ => Wsc.caseFree_pyFold).star_then Wsc.wscUnit_pos s rs
      (fun j c hj => hk j c (by rw [Wsc.unitEnd_eq]; simpa [atDrop] using hj)) p caps, hd, unitsLen_gap hg hr]

theorem Reads.ident {f : List (Nat × EscForm)} {R : Str} (hv : validForms f R = true)
    (hh : headOk f = true) (hr : ¬ continuesIdent R) : Reads pyFoldEnv rxIdent (renderIdentWith f) R [] :=
  Reads.ident_env Ident.identFold_py hv hh hr

/-- A character `k` with an identifier behind it: `#IDENTIFIER`, `.IDENTIFIER`, `:IDENTIFIER`. -/
theorem Reads.prefixed (k : Nat) {f : List (Nat × EscForm)} {R : Str} (hv : validForms f R = true)
    (hh : headOk f = true) (hr : ¬ continuesIdent R) :
    Reads pyFoldEnv (.seq [.lit k true, rxHead, rxStar]) (k :: renderIdentWith f) R [] :=
  Reads.seq (ReadsSeq.cons_plain (Reads.lit k _) (ReadsSeq.of_seq (Reads.ident hv hh hr)))

end Compile
end Refine
end SoupVerif

#print axioms SoupVerif.Refine.Compile.name_then
