/-
  Which token `selector_iter` yields at a position: a token regex whose first-set (C07's `Rx.first`, sound by
  `Rx.first_sound`) does not contain the next character fails, so `Parser.matchToken` passes over it.  The
  first-sets of the regenerated token regexes are evaluated in the kernel: an edit of a token regex in the
  source that changes its first characters breaks the proofs here.  The same first sets show that a piece of a
  token regex has no run where a gap unit begins (`runs_nil_at_unit`, `fail_at_unit`).
-/
import SoupVerif.Properties.C09Rx
import SoupVerif.Lemmas.RegexCost.Det
import SoupVerif.Refine.Reads
import SoupVerif.Refine.Syntax2
namespace SoupVerif

namespace Refine
namespace Compile
open Rx RxBasic SoupVerif.Parser ParserProgress Escape Spelling

/-- Key (in the C07 character-set abstraction for Python's IGNORECASE specials) of a character. -/
abbrev keyOf (o : Option Nat) : Nat := key foldSpecials o

/-- A regex whose first set (`Rx.first`, sound by `Rx.first_sound`) does not contain the next character has no
    run, whatever the captures so far. -/
theorem runs_nil_of_first {r : Rx} {s : Str} {j : Nat} (c : Caps)
    (h : first foldSpecials r (keyOf s[j]?) = false) : runs pyFoldEnv s r j c = [] := by
  cases hr : runs pyFoldEnv s r j c with
  | nil => rfl
  | cons x xs =>
    have hm : x.1 ∈ ends pyFoldEnv s r j := by
      rw [← runs_map_fst pyFoldEnv s r j c, hr]; exact List.mem_cons_self ..
    have := first_sound pyFoldEnv pyFoldEnv_ok s r j x.1 hm
    simp only [CSet.mem] at this
    rw [h] at this; cases this

theorem runsSeq_nil_of_first (as rs : List Rx) {s : Str} {j : Nat} (c : Caps)
    (h : first foldSpecials (.seq as) (keyOf s[j]?) = false) : runsSeq pyFoldEnv s (as ++ rs) j c = [] := by
  rw [RefineInputs.runsSeq_append, ← runs_seq, runs_nil_of_first c h]; rfl

theorem matchAt_none_of_first {r : Rx} {s : Str} {i : Nat}
    (h : first foldSpecials r (keyOf s[i]?) = false) : matchAt pyFoldEnv r s i = none := by
  unfold matchAt
  rw [runs_nil_of_first [] h]; rfl


open Wsc (unitEnd wsEnd commentEnd) in
theorem unit_start_char {s : Str} {j : Nat} (h : (unitEnd s j).isSome = true) :
    ∃ x, s[j]? = some x ∧ (isCssWs x = true ∨ x = 47) := by
  unfold unitEnd wsEnd commentEnd at h
  cases hx : s[j]? with
  | none => rw [hx] at h; simp at h
  | some x =>
    refine ⟨x, rfl, ?_⟩
    rw [hx] at h
    by_cases hw : isCssWs x = true
    · exact Or.inl hw
    · right
      have hw' : isCssWs x = false := by simpa using hw
      simp only [hw', Bool.false_eq_true, if_false] at h
      by_cases h47 : x = 47
      · exact h47
      · simp [h47] at h

theorem gap_head {g : Str} (hg : isGap g) : ∀ y ∈ g.head?, isCssWs y = true ∨ y = 47 := by
  cases g with
  | nil => intro y hy; simp at hy
  | cons c cs =>
    intro y hy
    simp only [List.head?_cons, Option.mem_def, Option.some.injEq] at hy
    subst hy
    by_cases hw : isCssWs c = true
    · exact Or.inl hw
    · by_cases h47 : c = 47
      · exact Or.inr h47
      · exfalso
        have : noGapStart (c :: cs) = true := by simp [noGapStart, hw, h47]
        have := SpellingLemmas.skipWSC_of_noGapStart _ this
        unfold isGap at hg
        rw [hg] at this; cases this

/-- Keys of the characters a gap unit begins with: white space and `/`. -/
def unitKeys : List Nat := [9, 10, 12, 13, 32, 47]

theorem unit_key {s : Str} {j : Nat} (h : (Wsc.unitEnd s j).isSome = true) : keyOf s[j]? ∈ unitKeys := by
  obtain ⟨x, hx, h'⟩ := unit_start_char h
  simp only [isCssWs, Bool.or_eq_true, beq_iff_eq] at h'
  have hlt : x < 128 := by omega
  rw [hx]
  show (if x < 128 then x else _) ∈ unitKeys
  rw [if_pos hlt]
  simp only [unitKeys, List.mem_cons, List.not_mem_nil, or_false]; omega

/-- A regex whose first set holds none of `unitKeys` cannot begin where a gap unit begins: a fact about the first
    set of a fixed regex, evaluated on the six keys. -/
theorem runs_nil_at_unit (r : Rx) (hf : unitKeys.all (fun k => !first foldSpecials r k) = true)
    (s : Str) (j : Nat) (c : Caps) (h : (Wsc.unitEnd s j).isSome = true) : runs pyFoldEnv s r j c = [] :=
  runs_nil_of_first c (by simpa using List.all_eq_true.mp hf _ (unit_key h))

theorem fail_at_unit (as rs : List Rx) (hf : unitKeys.all (fun k => !first foldSpecials (.seq as) k) = true)
    (s : Str) (j : Nat) (c : Caps) (h : (Wsc.unitEnd s j).isSome = true) :
    runsSeq pyFoldEnv s (as ++ rs) j c = [] := by
  rw [RefineInputs.runsSeq_append, ← runs_seq, runs_nil_at_unit _ hf s j c h]; rfl

/-- The regex whose success is necessary for slot `t` of the token table to yield a token. -/
def slotRx (t : TokenRx × Bool) : Rx := if t.2 then Gen.lexicon.specialName.rx else t.1.rx

def slotFirst (k : Nat) (t : TokenRx × Bool) : Bool := first foldSpecials (slotRx t) k

variable (B : Builtins) (s : Str)

/-- The parser environment of the statements: Python's IGNORECASE folding, the regenerated lexicon. -/
abbrev penv : PEnv := ⟨pyFoldEnv, Gen.lexicon, B, s⟩

theorem matchToken_skip_one (i : Nat) (t : TokenRx × Bool) (rest : List (TokenRx × Bool))
    (h : slotFirst (keyOf s[i]?) t = false) :
    matchToken (penv B s) i (t :: rest) = matchToken (penv B s) i rest := by
  obtain ⟨t, sp⟩ := t
  cases sp with
  | true =>
    have : matchAt pyFoldEnv Gen.lexicon.specialName.rx s i = none := matchAt_none_of_first h
    simp only [matchToken, if_true, this]
  | false =>
    have : matchAt pyFoldEnv t.rx s i = none := matchAt_none_of_first h
    simp only [matchToken, Bool.false_eq_true, if_false, this]

theorem matchToken_skip (i : Nat) : ∀ (n : Nat) (toks : List (TokenRx × Bool)),
    (toks.take n).all (fun t => !slotFirst (keyOf s[i]?) t) = true →
    matchToken (penv B s) i toks = matchToken (penv B s) i (toks.drop n)
  | 0, _, _ => rfl
  | _ + 1, [], _ => rfl
  | n + 1, t :: rest, h => by
    simp only [List.take_succ_cons, List.all_cons, Bool.and_eq_true, Bool.not_eq_true'] at h
    rw [matchToken_skip_one B s i t rest h.1, List.drop_succ_cons]
    exact matchToken_skip i n rest h.2

theorem matchToken_hit (i n : Nat) (t : TokenRx) (rest : List (TokenRx × Bool)) (j : Nat) (caps : Caps)
    (hdrop : Gen.lexicon.tokens.drop n = (t, false) :: rest)
    (hskip : (Gen.lexicon.tokens.take n).all (fun t => !slotFirst (keyOf s[i]?) t) = true)
    (hm : matchAt pyFoldEnv t.rx s i = some (j, caps)) :
    matchToken (penv B s) i Gen.lexicon.tokens =
      some { name := t.name, rx := t, start := i, stop := j, caps := caps } := by
  rw [matchToken_skip B s i n _ hskip, hdrop]
  simp only [matchToken, Bool.false_eq_true, if_false, hm]

/-- `selector_iter` on a text: it stops where only a gap is left, and consults the token table everywhere else. -/
theorem nextToken_text (i : Nat) :
    nextToken (penv B s) i =
      if skipWSC (s.drop i) = [] then .ok none
      else match matchToken (penv B s) i Gen.lexicon.tokens with
        | some t => .ok (some t)
        | none =>
          let c := s[i]?.getD 0
          let k := if c == 91 then ErrKind.malformedAttribute
            else if c == 46 then .malformedClass
            else if c == 35 then .malformedId
            else if c == 58 then .malformedPseudo
            else .invalidCharacter
          .error ((penv B s).err k i) := by
  unfold nextToken
  by_cases h1 : i + 1 > (penv B s).pattern.length
  · have : s.drop i = [] := List.drop_eq_nil_of_le (by have : i + 1 > s.length := h1; omega)
    rw [if_pos h1, this]; rfl
  · rw [if_neg h1]
    have h2 : (matchAt (penv B s).env (penv B s).L.reWsEnd (penv B s).pattern i).isSome =
        (skipWSC (s.drop i) == []) :=
      Wsc.ws_end_isSome pyFoldEnv s i (by have : ¬ (i + 1 > s.length) := h1; omega)
    rw [h2]
    by_cases hg : skipWSC (s.drop i) = []
    · rw [if_pos hg, hg]; rfl
    · rw [if_neg hg, if_neg (by simpa using hg)]; rfl

theorem nextToken_noGap {i c : Nat} {cs : Str} (hd : s.drop i = c :: cs)
    (hng : noGapStart (c :: cs) = true) :
    nextToken (penv B s) i =
      match matchToken (penv B s) i Gen.lexicon.tokens with
      | some t => .ok (some t)
      | none =>
        let c := s[i]?.getD 0
        let k := if c == 91 then ErrKind.malformedAttribute
          else if c == 46 then .malformedClass
          else if c == 35 then .malformedId
          else if c == 58 then .malformedPseudo
          else .invalidCharacter
        .error ((penv B s).err k i) := by
  rw [nextToken_text, hd, SpellingLemmas.skipWSC_of_noGapStart _ hng, if_neg (List.cons_ne_nil _ _)]

/- The token table (`css_tokens`, tried in this order by `selector_iter`), with the slot numbers the `skip_*`
   and `matchToken_hit` lemmas use: 0 `pseudo_close`, 1 the special pseudo-classes (by name), 2
   `pseudo_class_custom`, 3 `pseudo_class`, 4 `pseudo_element`, 5 `amp`, 6 `at_rule`, 7 `id`, 8 `class`, 9 `tag`,
   10 `attribute`, 11 `combine`. -/
theorem skip_hash : (Gen.lexicon.tokens.take 7).all (fun t => !slotFirst 35 t) = true := by
  decide +kernel
theorem skip_dot : (Gen.lexicon.tokens.take 8).all (fun t => !slotFirst 46 t) = true := by
  decide +kernel

/-- `t` is the token `selector_iter` yields at `i`: it comes from the table entry `tr`, covers the text `W`, and
    `m.group(name)` is the text `G` lists for the group the name stands for. -/
structure TokenAt (i : Nat) (tr : TokenRx) (W : Str) (G : List (Nat × Str)) (t : Token) : Prop where
  next : nextToken (penv B s) i = .ok (some t)
  name : t.name = tr.name
  start : t.start = i
  stop : t.stop = i + W.length
  group : ∀ name : String, t.group (penv B s) name = groupText tr G name

/-- An ordinary slot `n` of the token table whose regex reads `W` at `i`, the slots before it failing on the first
    character `c` of `W`. -/
theorem TokenAt.of_slot {i n c : Nat} {tr : TokenRx} {rest : List (TokenRx × Bool)} {W R cs : Str}
    {G : List (Nat × Str)} (hdrop : Gen.lexicon.tokens.drop n = (tr, false) :: rest)
    (hR : Reads pyFoldEnv tr.rx W R G) (hd : s.drop i = W ++ R) (hcs : W ++ R = c :: cs)
    (hng : noGapStart (c :: cs) = true)
    (hskip : (Gen.lexicon.tokens.take n).all (fun t => !slotFirst (keyOf (some c)) t) = true) :
    ∃ t, TokenAt B s i tr W G t := by
  have hd' : s.drop i = c :: cs := hd.trans hcs
  obtain ⟨caps, hm, hg⟩ := hR.matchAt (Nat.le_of_lt (lt_of_drop_cons hd')) hd
  refine ⟨⟨tr.name, tr, i, i + W.length, caps⟩, ?_, rfl, rfl, rfl, hg tr⟩
  rw [nextToken_noGap B s hd' hng,
    matchToken_hit B s i n tr _ _ _ hdrop (by rw [getElem?_of_drop_cons hd']; exact hskip) hm]

end Compile
end Refine
end SoupVerif

#print axioms SoupVerif.Refine.Compile.matchAt_none_of_first
#print axioms SoupVerif.Refine.Compile.matchToken_skip
#print axioms SoupVerif.Refine.Compile.TokenAt.of_slot
