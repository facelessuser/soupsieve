/-
  The optional namespace prefix `(?:(?:IDENTIFIER|\*)?\|)?` of the `tag` and `attribute` tokens (`SNs`, `Refine/Syntax.lean`: a prefix
  that is present, with its spelling; `ns_reads`: what the prefix pattern reads, present or absent), and the `tag` token
  `(?:(?:IDENTIFIER|\*)?\|)?(?:IDENTIFIER|\*)` on a type selector written as an identifier in any admissible spelling or
  `*`, with or without prefix (`tag_reads`).
-/
import SoupVerif.Refine.CompileIdent
namespace SoupVerif
namespace Refine
namespace Compile
open Rx RxBasic SoupVerif.Parser ParserProgress Escape Spelling
open Ident (rxHead rxStar contStep contLen IdentFold)
open C09Compile (identOK)

def rxNsBody : Rx := .group 1 (.seq [.rep 0 (some 1) true rxName, .lit 124 true])
def rxNsOpt : Rx := .rep 0 (some 1) true rxNsBody

theorem tok_tag_shape : Gen.tok_tag = .seq [rxNsOpt, .group 2 rxName] := rfl

/-- First characters of a type selector: `*`, `-`, a backslash, an identifier-start character. -/
def tagStart (c : Nat) : Bool := c == 42 || c == 45 || c == 92 || identStartChar c

theorem tagStart_key (c : Nat) (h : tagStart c = true) : tagStart (keyOf (some c)) = true := by
  show tagStart (if c < 128 then c else if isSpecial foldSpecials c = true then c + 2 else 128) = true
  by_cases hc : c < 128
  · rw [if_pos hc]; exact h
  · rw [if_neg hc]
    split <;> simp [tagStart, identStartChar] <;> omega

theorem skip_tag : ∀ k ∈ keys foldSpecials, tagStart k = true →
    (Gen.lexicon.tokens.take 9).all (fun t => !slotFirst k t) = true := by decide +kernel

theorem skip_tag' {c : Nat} (h : tagStart c = true) :
    (Gen.lexicon.tokens.take 9).all (fun t => !slotFirst (keyOf (some c)) t) = true :=
  skip_tag _ (key_mem_keys _ _) (tagStart_key c h)

open SpellingLemmas in
theorem headOk_first (forms : List (Nat × EscForm)) (hh : headOk forms = true) :
    ∃ c cs, renderIdentWith forms = c :: cs ∧ (c = 45 ∨ c = 92 ∨ identStartChar c = true) := by
  cases forms with
  | nil => simp [headOk] at hh
  | cons p rest =>
    obtain ⟨c, f⟩ := p
    rw [renderIdentWith_cons]
    cases f with
    | lit =>
      refine ⟨c, renderIdentWith rest, by simp [renderForm], ?_⟩
      simp only [headOk, isLit, Bool.and_true] at hh
      by_cases h45 : c = 45
      · exact Or.inl h45
      · have : (c == 45) = false := by simpa using h45
        rw [this] at hh
        simp only [Bool.false_eq_true, if_false] at hh
        exact Or.inr (Or.inr hh)
    | bs => exact ⟨92, c :: renderIdentWith rest, by simp [renderForm], Or.inr (Or.inl rfl)⟩
    | hex d m w =>
      exact ⟨92, hexText c d m ++ wsText w ++ renderIdentWith rest, by simp [renderForm],
        Or.inr (Or.inl rfl)⟩

/-- The first character of an identifier begins nothing else of the grammar: it is no white space, quote, `)`, `*`, `,`,
    `/` or `|`. -/
theorem identHead_ne {c : Nat} (h : c = 45 ∨ c = 92 ∨ identStartChar c = true) :
    isCssWs c = false ∧ c ≠ 34 ∧ c ≠ 39 ∧ c ≠ 41 ∧ c ≠ 42 ∧ c ≠ 44 ∧ c ≠ 47 ∧ c ≠ 124 := by
  rcases h with h | h | h
  · subst h; decide
  · subst h; decide
  · simp only [identStartChar, Bool.or_eq_true, Bool.and_eq_true, decide_eq_true_eq, beq_iff_eq] at h
    refine ⟨by simp [isCssWs]; omega, by omega, by omega, by omega, by omega, by omega, by omega, by omega⟩

theorem scanIdent_none_of_head {t : Str} (h : ∀ c ∈ t.head?, tagStart c = false) : scanIdent t = none := by
  cases t with
  | nil => rfl
  | cons c cs =>
    have hc := h c (by simp)
    simp only [tagStart, Bool.or_eq_false_iff, beq_eq_false_iff_ne] at hc
    obtain ⟨⟨⟨_, h45⟩, h92⟩, hst⟩ := hc
    simp [scanIdent, Escape.headLen, Escape.startLen, hst, escLen, h45, h92]

/-- `(?:(?:IDENT|\*)?\|)?` gives only its empty run when the text at `a` is an identifier that is not
    followed by `|` — or is followed by `|` after which the continuation fails (as in `[a|=b]`). -/
theorem nsOpt_then {env : CharEnv} (h : IdentFold env) (s : Str) (a : Nat) (caps : Caps) (rs : List Rx)
    (h0 : s[a]? ≠ some 124) (h42 : s[a]? ≠ some 42)
    (hbar : ∀ m, scanIdent (s.drop a) = some m → s[a + m.1.length]? = some 124 →
      ∀ c', runsSeq env s rs (a + m.1.length + 1) c' = []) :
    runsSeq env s (rxNsOpt :: rs) a caps = runsSeq env s rs a caps := by
  unfold rxNsOpt
  rw [RefineInputs.runsSeq_opt]
  have : runsSeq env s (rxNsBody :: rs) a caps = [] := by
    unfold rxNsBody
    rw [RefineInputs.runsSeq_group, runs_seq, RefineInputs.runsSeq_opt,
      lit_fail h s 124 (by omega) [] a caps h0, List.append_nil]
    have hk : ∀ j c, (contStep (s.drop j)).isSome = true →
        runsSeq env s [.lit 124 true] j c = [] :=
      fun j c hj => lit_fail_at_unit h s 124 (by omega) (by decide) [] j c hj
    rw [name_then h s a caps [.lit 124 true] hk, if_neg h42, List.append_nil]
    cases hs : scanIdent (s.drop a) with
    | none => rfl
    | some m =>
      simp only
      by_cases hb : s[a + m.1.length]? = some 124
      · rw [lit_ok env s 124 [] _ caps hb, runsSeq_nil]
        simp only [List.flatMap_cons, List.flatMap_nil, List.append_nil]
        exact hbar m hs hb _
      · rw [lit_fail h s 124 (by omega) [] _ caps hb]; rfl
  rw [this, List.nil_append]

theorem not_cont_bar (rest : Str) : ¬ continuesIdent (124 :: rest) := by
  simp [continuesIdent, identContChar]

/-- First character of prefix + bar. -/
def nsStart (c : Nat) : Bool := c == 124 || tagStart c

theorem nsStart_head {c : Nat} (h : nsStart c = true) :
    isCssWs c = false ∧ c ≠ 47 ∧ isComb c = false ∧ c ≠ 41 := by
  simp only [nsStart, tagStart, identStartChar, Bool.or_eq_true, Bool.and_eq_true, decide_eq_true_eq,
    beq_iff_eq] at h
  refine ⟨by simp [isCssWs]; omega, by omega, by simp [isComb]; omega, by omega⟩

theorem nsStart_noGap {c : Nat} (cs : Str) (h : nsStart c = true) : noGapStart (c :: cs) = true := by
  simp [noGapStart, (nsStart_head h).1, (nsStart_head h).2.1]

theorem SNs.head (ns : SNs) (rest : Str) (hok : ns.ok rest) :
    ∃ c cs, ns.text ++ 124 :: rest = c :: cs ∧ nsStart c = true := by
  cases ns with
  | empty => exact ⟨124, rest, rfl, by decide⟩
  | star => exact ⟨42, 124 :: rest, rfl, by decide⟩
  | name f =>
    obtain ⟨_, hh, _⟩ := hok
    obtain ⟨c, cs, hcs, hc⟩ := headOk_first f hh
    refine ⟨c, cs ++ 124 :: rest, by simp [SNs.text, hcs], ?_⟩
    rcases hc with hc | hc | hc <;> simp [nsStart, tagStart, hc]

theorem nsInner_runs {env : CharEnv} (h : IdentFold env) (s : Str) (a : Nat) (caps : Caps) (ns : SNs)
    (rest : Str) (hd : s.drop a = ns.text ++ 124 :: rest) (hok : ns.ok rest) :
    runs env s (.seq [.rep 0 (some 1) true rxName, .lit 124 true]) a caps =
      [(a + ns.text.length + 1, caps)] := by
  obtain ⟨c0, cs0, hc0, _⟩ := ns.head rest hok
  have hal : a < s.length := lt_of_drop_cons (hd.trans hc0)
  have hk : ∀ j c, (contStep (s.drop j)).isSome = true → runsSeq env s [.lit 124 true] j c = [] :=
    fun j c hj => lit_fail_at_unit h s 124 (by omega) (by decide) [] j c hj
  rw [runs_seq, RefineInputs.runsSeq_opt, name_then h s a caps [.lit 124 true] hk]
  cases ns with
  | empty =>
    simp only [SNs.text, List.nil_append] at hd
    have h0 := getElem?_of_drop_cons hd
    have hs : scanIdent (s.drop a) = none := by
      rw [hd]; exact scanIdent_none_of_head (by simp [tagStart, identStartChar])
    rw [hs, if_neg (by rw [h0]; simp), lit_ok env s 124 [] a caps h0, runsSeq_nil]
    rfl
  | star =>
    simp only [SNs.text, List.cons_append, List.nil_append] at hd
    have h0 := getElem?_of_drop_cons hd
    have h1 := getElem?_of_drop_cons (RxBasic.drop_succ_of_drop_cons hd)
    have hs : scanIdent (s.drop a) = none := by rw [hd]; exact scanIdent_star _
    rw [hs, if_pos h0, lit_ok env s 124 [] (a + 1) caps h1, runsSeq_nil,
      lit_fail h s 124 (by omega) [] a caps (by rw [h0]; simp)]
    rfl
  | name f =>
    obtain ⟨hv, hh, _⟩ := hok
    simp only [SNs.text] at hd ⊢
    have hs : scanIdent (s.drop a) = some (renderIdentWith f, 124 :: rest) := by
      rw [hd]; exact C09.scan_any_spelling_ctx f _ hv hh (not_cont_bar rest)
    obtain ⟨c, cs, hcs, hc⟩ := headOk_first f hh
    have h0 : s[a]? = some c := getElem?_of_drop_cons (s := s) (p := a) (by rw [hd, hcs]; rfl)
    obtain ⟨_, _, _, _, h42, _, _, h124⟩ := identHead_ne hc
    have hbar : s[a + (renderIdentWith f).length]? = some 124 :=
      getElem?_of_drop_cons (drop_add_of_drop_append hd)
    rw [hs, if_neg (by rw [h0]; simpa using h42)]
    simp only
    rw [lit_ok env s 124 [] _ caps hbar, runsSeq_nil,
      lit_fail h s 124 (by omega) [] a caps (by rw [h0]; simpa using h124)]
    rfl

/-- The text of the optional namespace prefix with its bar. -/
def nsBar : Option SNs → Str
  | none => []
  | some n => n.text ++ [124]

/-- Group 1 with the prefix and its bar, when there is a prefix. -/
def nsGroups : Option SNs → List (Nat × Str)
  | none => []
  | some n => [(1, n.text ++ [124])]

/-- `(?:(?:IDENT|\*)?\|)?` in front of `rs`: a prefix that is present is read into group 1; for an absent one the
    caller shows that the prefix pattern changes nothing (`nsOpt_then`). -/
theorem ns_reads (ns : Option SNs) {rs : List Rx} {W R : Str} {G : List (Nat × Str)}
    (h : ReadsSeq pyFoldEnv rs W R G) (hG : ∀ g ∈ G, g.1 ≠ 1)
    (hnone : ns = none → ∀ (s : Str) (p : Nat) (c : Caps), p ≤ s.length → s.drop p = W ++ R →
      runsSeq pyFoldEnv s (rxNsOpt :: rs) p c = runsSeq pyFoldEnv s rs p c)
    (hsome : ∀ n, ns = some n → n.ok (W ++ R)) :
    ReadsSeq pyFoldEnv (rxNsOpt :: rs) (nsBar ns ++ W) R (nsGroups ns ++ G) := by
  cases ns with
  | none => exact ReadsSeq.skip (hnone rfl) h
  | some n =>
    refine ReadsSeq.opt_some (ReadsSeq.cons (Reads.group 1 (Reads.of_head fun s p c _ hd => ?_) (keys_ne rfl)) h
      (fun g hg g' hg' => by cases List.mem_singleton.mp hg; exact hG g' hg'))
    rw [nsInner_runs Ident.identFold_py s p c n _ (by simpa [nsBar] using hd) (hsome n rfl)]
    simp [nsBar, Nat.add_assoc]

theorem skip_tag_bar : (Gen.lexicon.tokens.take 9).all (fun t => !slotFirst 124 t) = true := by
  decide +kernel

theorem skip_ns' {c : Nat} (h : nsStart c = true) :
    (Gen.lexicon.tokens.take 9).all (fun t => !slotFirst (keyOf (some c)) t) = true := by
  simp only [nsStart, Bool.or_eq_true, beq_iff_eq] at h
  rcases h with h | h
  · subst h; exact skip_tag_bar
  · exact skip_tag' h

/-- `(?:IDENTIFIER|\*)?\|` has no run at `i` when no `|` follows the identifier / `*` / nothing. -/
theorem nsBody_fail {env : CharEnv} (h : IdentFold env) (s : Str) (i : Nat) (caps : Caps)
    (h0 : s[i]? ≠ some 124)
    (h1 : ∀ m, scanIdent (s.drop i) = some m → s[i + m.1.length]? ≠ some 124)
    (h2 : s[i]? = some 42 → s[i + 1]? ≠ some 124) :
    runs env s rxNsBody i caps = [] := by
  unfold rxNsBody
  rw [runs_group]
  have : runs env s (.seq [.rep 0 (some 1) true rxName, .lit 124 true]) i caps = [] := by
    rw [runs_seq, runsSeq_cons, runs_opt, List.flatMap_append]
    have hk : ∀ j c, (contStep (s.drop j)).isSome = true →
        runsSeq env s [.lit 124 true] j c = [] :=
      fun j c hj => lit_fail_at_unit h s 124 (by omega) (by decide) [] j c hj
    have e1 := name_then h s i caps [.lit 124 true] hk
    rw [runsSeq_cons] at e1
    rw [e1]
    have e3 : (if s[i]? = some 42 then runsSeq env s [.lit 124 true] (i + 1) caps else []) = [] := by
      split
      · rename_i h42; exact lit_fail h s 124 (by omega) [] _ caps (h2 h42)
      · rfl
    have e4 : runsSeq env s [.lit 124 true] i caps = [] := lit_fail h s 124 (by omega) [] i caps h0
    rw [e3]
    simp only [List.flatMap_cons, List.flatMap_nil, List.append_nil, e4]
    cases hs : scanIdent (s.drop i) with
    | none => rfl
    | some m => exact lit_fail h s 124 (by omega) [] _ caps (h1 m hs)
  rw [this]; rfl

theorem Reads.name_ident {f : List (Nat × EscForm)} {R : Str} (hv : validForms f R = true)
    (hh : headOk f = true) (hr : ¬ continuesIdent R) : Reads pyFoldEnv rxName (renderIdentWith f) R [] :=
  Reads.alt_left (Reads.ident hv hh hr)

theorem Reads.name_star (R : Str) : Reads pyFoldEnv rxName [42] R [] :=
  Reads.alt_right
    (fun s p c _ hd => ident_runs_nil Ident.identFold_py s p c (by rw [hd]; exact scanIdent_star R))
    (Reads.alt_left (Reads.lit 42 R))

/-- The `tag` token on a name `W` (an identifier or `*`) with an optional prefix; `hnone`: without a prefix the text
    does not begin like one (`nsBody_fail`). -/
theorem tag_reads (ns : Option SNs) {W R : Str} (hW : Reads pyFoldEnv rxName W R [])
    (hnone : ns = none → ∀ (s : Str) (p : Nat) (c : Caps), p ≤ s.length → s.drop p = W ++ R →
      runs pyFoldEnv s rxNsBody p c = [])
    (hsome : ∀ n, ns = some n → n.ok (W ++ R)) :
    Reads pyFoldEnv Gen.tok_tag (nsBar ns ++ W) R (nsGroups ns ++ [(2, W)]) := by
  rw [tok_tag_shape]
  exact Reads.seq (ns_reads ns (ReadsSeq.single (Reads.group 2 hW (keys_ne rfl))) (keys_ne rfl)
    (fun hn s p c hp hd => by
      unfold rxNsOpt
      rw [RefineInputs.runsSeq_opt, runsSeq_nil_of_runs_nil _ (hnone hn s p c hp hd), List.nil_append])
    hsome)

theorem tag_reads_ident {f : List (Nat × EscForm)} {R : Str} (hv : validForms f R = true) (hh : headOk f = true)
    (hr : ¬ continuesIdent R) (hbar : R.head? ≠ some 124) :
    Reads pyFoldEnv Gen.tok_tag (renderIdentWith f) R [(2, renderIdentWith f)] :=
  tag_reads none (Reads.name_ident hv hh hr)
    (fun _ s p c _ hd => by
      obtain ⟨x, xs, hxs, hx⟩ := headOk_first f hh
      have hx0 := getElem?_of_drop_cons (s := s) (p := p) (by rw [hd, hxs]; rfl)
      obtain ⟨_, _, _, _, h42, _, _, h124⟩ := identHead_ne hx
      have hscan := C09.scan_any_spelling_ctx f R hv hh hr
      rw [← hd] at hscan
      refine nsBody_fail Ident.identFold_py s p c ?_ ?_ ?_
      · rw [hx0]; intro e; cases e; exact h124 rfl
      · intro m hm
        rw [hscan] at hm; cases hm
        rw [← List.head?_drop, drop_add_of_drop_append hd]; exact hbar
      · rw [hx0]; intro e; cases e; exact absurd rfl h42)
    (fun _ h => by cases h)

theorem tag_reads_star {R : Str} (hbar : R.head? ≠ some 124) : Reads pyFoldEnv Gen.tok_tag [42] R [(2, [42])] :=
  tag_reads none (Reads.name_star R)
    (fun _ s p c _ hd => by
      have hx0 := getElem?_of_drop_cons (s := s) (p := p) hd
      refine nsBody_fail Ident.identFold_py s p c (by rw [hx0]; simp) ?_ ?_
      · intro m hm; rw [hd] at hm; rw [show ([42] ++ R) = 42 :: R from rfl, scanIdent_star] at hm; cases hm
      · intro _
        rw [← List.head?_drop, RxBasic.drop_succ_of_drop_cons hd]; exact hbar)
    (fun _ h => by cases h)

/-- The `tag` entry of the token table. -/
def tagRx : TokenRx := ⟨"tag", Gen.tok_tag, Gen.tok_tag_groups⟩

end Compile
end Refine
end SoupVerif

#print axioms SoupVerif.Refine.Compile.nsOpt_then
#print axioms SoupVerif.Refine.Compile.nsInner_runs
#print axioms SoupVerif.Refine.Compile.ns_reads
#print axioms SoupVerif.Refine.Compile.tag_reads
