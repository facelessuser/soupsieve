/-
  Refinement of the pretty-printer's token scanners (`Model/Pretty.lean`): general lemmas.  The scanners work
  on the suffix `s.drop i` and return lengths, the engine on `s` and positions.  The first run of `X* t …` /
  `X+ t …` is what the backtracking scanners `starThen` / `plusThen` compute, with NO assumption that `t` lies
  outside the class `X` (the engine gives characters back, and so does `starThen`): `starThen_ends`, on the ends of
  the runs of `X` as `Lemmas/RxDet.lean` lists them.  The body of a string literal
  is a scanner in the sense of `Lemmas/RxDet.lean` (`strUnit`), and the closing quote stands at one end of its runs
  at most, where `strBody` says (`strEnds`).  `Agree env penv` ties a `PrettyEnv` (the three character predicates
  of the hand model) to a `CharEnv` of the engine.
-/
import SoupVerif.Model.Pretty
import SoupVerif.Lemmas.RxDet
import SoupVerif.Lemmas.Lower
import SoupVerif.Refine.Fold

namespace SoupVerif
namespace PrettyRefine
open Rx RxBasic
open Pretty (PrettyEnv starThen plusThen runLen strBody identStart classBody wordBody)

theorem runLen_eq_takeWhile (P : Nat → Bool) : ∀ r : Str, runLen P r = (r.takeWhile P).length
  | [] => rfl
  | c :: rest => by
    rw [runLen, List.takeWhile_cons]
    cases hc : P c with
    | true => simp [runLen_eq_takeWhile P rest]
    | false => simp

theorem starThen_nil (P : Nat → Bool) (term : Nat) : starThen P term [] = none := rfl

theorem starThen_cons (P : Nat → Bool) (term c : Nat) (rest : Str) :
    starThen P term (c :: rest) =
      match (if P c then starThen P term rest else none) with
      | some k => some (k + 1)
      | none => if c = term then some 1 else none := by
  rw [starThen]; rfl

theorem strBody_nil (q : Nat) : strBody q [] = none := rfl

theorem strBody_quote (q : Nat) (rest : Str) : strBody q (q :: rest) = some 1 := by
  rw [strBody.eq_def]; simp

theorem strBody_esc_nil (q : Nat) (hq : q ≠ 92) : strBody q [92] = none := by
  rw [strBody.eq_def]; simp [hq.symm]

theorem strBody_esc (q : Nat) (hq : q ≠ 92) (d : Nat) (rest : Str) :
    strBody q (92 :: d :: rest) = if d = 10 then none else (strBody q rest).map (· + 2) := by
  rw [strBody.eq_def]; simp [hq.symm]

theorem strBody_other (q x : Nat) (h1 : x ≠ q) (h2 : x ≠ 92) (rest : Str) :
    strBody q (x :: rest) = (strBody q rest).map (· + 1) := by
  rw [strBody.eq_def]; simp [h1, h2]

/-- A literal that only matches itself (`ht`: folding identifies it with nothing else), alone: it tests the head of
    the rest of the text. -/
theorem runsSeq_lit_head (env : CharEnv) (s : Str) (q : Nat) (ic : Bool)
    (ht : ∀ x, (if ic then env.fold x == env.fold q else x == q) = (x == q)) (p : Nat) (c : Caps) :
    runsSeq env s [.lit q ic] p c = if ((s.drop p).head? == some q) = true then [(p + 1, c)] else [] := by
  cases hd : s.drop p with
  | nil => rw [runsSeq_char_nil (isChar_lit env s q ic) _ c hd]; rfl
  | cons x r =>
    rw [runsSeq_char_cons (isChar_lit env s q ic) _ c hd, ht, runsSeq_nil]
    by_cases hx : x = q <;> simp [hx]

theorem charLen_isSome (P : Nat → Bool) (t : Str) : ((charLen P t).isSome = true) = (1 ≤ runLen P t) := by
  cases t with
  | nil => simp [charLen_nil, runLen]
  | cons c r => rw [charLen_cons, runLen]; by_cases hc : P c = true <;> simp [hc]

/-- Of the ends of the runs of `P` after which `term` stands, the first (the longest run: the engine gives characters
    back one at a time), `term` included: what `starThen` computes. -/
theorem starThen_ends (P : Nat → Bool) (term : Nat) : ∀ t : Str,
    ((endsSat (fun r => r.head? == some term) (charLen P) t).head?).map (· + 1) = starThen P term t
  | [] => by rw [endsSat_none _ (charLen_nil P)]; rfl
  | c :: rest => by
    rw [starThen_cons, ← starThen_ends P term rest]
    by_cases hc : P c = true
    · rw [endsSat_some (n := 1) _ (by rw [charLen_cons, if_pos hc]) (by simp), List.drop_succ_cons, List.drop_zero,
        List.head?_append, List.head?_map]
      simp only [hc, if_true, List.head?_cons, beq_iff_eq, Option.some.injEq]
      cases (endsSat (fun r => r.head? == some term) (charLen P) rest).head? with
      | some m => simp only [Option.map_some, Option.some_or, Option.some.injEq]; omega
      | none => by_cases hct : c = term <;> simp [hct]
    · rw [endsSat_none _ (by rw [charLen_cons, if_neg hc])]
      simp only [hc, Bool.false_eq_true, if_false, List.head?_cons, beq_iff_eq, Option.some.injEq]
      by_cases hct : c = term <;> simp [hct]

/-- The repeated body of `RE_DQSTR` / `RE_SQSTR`. -/
def strBodyRx (q : Nat) : Rx :=
  .alt [.seq [.lit 92 false, .any false], .set true [.ch q, .ch 92] false]

/-- The unit `(?:\\.|[^q\\])` at the head of a text: an escape pair (not `\` + newline), or one character other than
    the quote and the backslash. -/
def strUnit (q : Nat) : Str → Option Nat
  | [] => none
  | x :: r =>
    if x = q then none
    else if x = 92 then (match r with | d :: _ => if d = 10 then none else some 2 | [] => none)
    else some 1

theorem strUnit_quote (q : Nat) (r : Str) : strUnit q (q :: r) = none := by simp [strUnit]

theorem strUnit_esc_nil (q : Nat) (hq : q ≠ 92) : strUnit q [92] = none := by simp [strUnit, hq.symm]

theorem strUnit_esc (q : Nat) (hq : q ≠ 92) (d : Nat) (r : Str) :
    strUnit q (92 :: d :: r) = if d = 10 then none else some 2 := by simp [strUnit, hq.symm]

theorem strUnit_other (q x : Nat) (h1 : x ≠ q) (h2 : x ≠ 92) (r : Str) : strUnit q (x :: r) = some 1 := by
  simp [strUnit, h1, h2]

theorem strUnit_pos (q : Nat) (t : Str) : strUnit q t ≠ some 0 := by
  rcases t with _ | ⟨x, _ | ⟨d, r⟩⟩ <;> simp only [strUnit] <;> (repeat' split) <;> simp

/-- `[^q\\]` -/
theorem set_notQuote (env : CharEnv) (q c : Nat) :
    setHas env true [.ch q, .ch 92] false c = (!(q == c) && !(92 == c)) := by
  simp [setHas, itemHas]

/-- The string body is a scanner: an escape pair and a plain character exclude each other. -/
theorem scans_strBodyRx (env : CharEnv) (q : Nat) (hq : q ≠ 92) : Scans env (strBodyRx q) (strUnit q) := by
  have hA := (scans_lit env 92).seq_cons (Scans.char fun s => isChar_any env s false).seq_single
  have hB := (Scans.char fun s => isChar_congr (isChar_set env s true [.ch q, .ch 92] false) (set_notQuote env q)).alt_cons
    (Scans.alt_nil env) (fun _ _ => rfl)
  refine (hA.alt_cons hB ?_).congr fun t => ?_
  · -- an escape pair starts with `\`, which the class excludes
    rintro (_ | ⟨x, r⟩) h
    · cases h
    · by_cases hx : x = 92
      · subst hx; simp [charLen_cons]
      · rw [andThen_none (by simp [charLen_cons, hx])] at h; cases h
  · rcases t with _ | ⟨x, r⟩
    · rfl
    by_cases h2 : x = 92
    · subst h2
      rw [andThen_some (n := 1) rfl, List.drop_succ_cons, List.drop_zero]
      rcases r with _ | ⟨d, r⟩
      · rw [strUnit_esc_nil q hq]; simp [charLen_cons, charLen_nil]
      · rw [strUnit_esc q hq]
        by_cases h3 : d = 10 <;> simp [charLen_cons, h3]
    · rw [andThen_none (by simp [charLen_cons, h2])]
      by_cases h1 : x = q
      · subst h1; rw [strUnit_quote]; simp [charLen_cons]
      · rw [strUnit_other q x h1 h2]; simp [charLen_cons, Ne.symm h1, Ne.symm h2]

/-- Of the places where a run of string units can end, a quote stands at one at most: where `strBody` says. -/
theorem strEnds (q : Nat) (hq : q ≠ 92) (t : Str) :
    (endsSat (fun r => r.head? == some q) (strUnit q) t).map (· + 1) = (strBody q t).toList := by
  have hq' : ¬ (92 = q) := fun e => hq e.symm
  fun_induction strBody q t with
  | case1 => rw [endsSat_none _ rfl]; rfl
  | case2 rest => rw [endsSat_none _ (strUnit_quote q rest)]; simp
  | case3 rest' h => rw [endsSat_none _ (by rw [strUnit_esc q hq, if_pos rfl])]; simp [h]
  | case4 d rest' hd h ih =>
    rw [endsSat_some _ (n := 2) (by rw [strUnit_esc q hq, if_neg hd]) (by simp), List.drop_succ_cons,
      List.drop_succ_cons, List.drop_zero]
    simp only [List.head?_cons, beq_iff_eq, Option.some.injEq, h, if_false, List.append_nil, List.map_map]
    rw [toList_map, ← ih, List.map_map]
    apply List.map_congr_left; intro m _; simp only [Function.comp]; omega
  | case5 h => rw [endsSat_none _ (strUnit_esc_nil q hq)]; simp [h]
  | case6 c rest h1 h2 ih =>
    rw [endsSat_some _ (n := 1) (strUnit_other q c h1 h2 rest) (by simp), List.drop_succ_cons, List.drop_zero]
    simp only [List.head?_cons, beq_iff_eq, Option.some.injEq, h1, if_false, List.append_nil, List.map_map]
    rw [toList_map, ← ih, List.map_map]
    apply List.map_congr_left; intro m _; simp only [Function.comp]; omega

/-- What ties the three character predicates of the hand model to an engine environment.
    `alpha` is the meaning of the class item `a-z` under IGNORECASE (`itemHas_az`);
    `lit` says that the four non-letters that occur case-insensitively in the token regexes
    (`(`, `.`, `=`, `_`) are matched by themselves only (true of every folding with `Refine.LetterFold`: `lit_of_fix`). -/
structure Agree (env : CharEnv) (penv : PrettyEnv) : Prop where
  space : ∀ c, penv.isSpace c = env.isSpace c
  digit : ∀ c, penv.isDigit c = env.isDigit c
  alpha : ∀ c, penv.isAlphaI c =
    ((97 ≤ c && c ≤ 122) || (97 ≤ env.fold c && env.fold c ≤ 122))
  lit : ∀ t, (t = 40 ∨ t = 46 ∨ t = 61 ∨ t = 95) → ∀ c, (env.fold c = env.fold t ↔ c = t)

theorem itemHas_az {env : CharEnv} {penv : PrettyEnv} (h : Agree env penv) (c : Nat) :
    itemHas env true c (.range 97 122) = penv.isAlphaI c := by
  rw [h.alpha]; simp [itemHas]

theorem itemHas_ch {env : CharEnv} {penv : PrettyEnv} (h : Agree env penv) (t : Nat)
    (ht : t = 40 ∨ t = 46 ∨ t = 61 ∨ t = 95) (c : Nat) :
    itemHas env true c (.ch t) = (c == t) := by
  simp only [itemHas, if_true]
  have := h.lit t ht c
  rw [Bool.eq_iff_iff]
  simp only [beq_iff_eq]
  rw [← this]; exact eq_comm

theorem lit_ic {env : CharEnv} {penv : PrettyEnv} (h : Agree env penv) (t : Nat)
    (ht : t = 40 ∨ t = 46 ∨ t = 61 ∨ t = 95) (ic : Bool) (c : Nat) :
    (if ic then env.fold c == env.fold t else c == t) = (c == t) := by
  cases ic with
  | false => rfl
  | true =>
    simp only [if_true]
    rw [Bool.eq_iff_iff]
    simp only [beq_iff_eq]
    exact h.lit t ht c

/-- `(?i)[a-z_]` -/
theorem set_identStart1 {env : CharEnv} {penv : PrettyEnv} (h : Agree env penv) (c : Nat) :
    setHas env false [.range 97 122, .ch 95] true c = identStart penv c := by
  simp only [setHas, List.any_cons, List.any_nil, itemHas_az h, itemHas_ch h 95 (by simp),
    identStart]
  cases penv.isAlphaI c <;> cases (c == 95) <;> rfl

/-- `(?i)[_a-z]` -/
theorem set_identStart2 {env : CharEnv} {penv : PrettyEnv} (h : Agree env penv) (c : Nat) :
    setHas env false [.ch 95, .range 97 122] true c = identStart penv c := by
  simp only [setHas, List.any_cons, List.any_nil, itemHas_az h, itemHas_ch h 95 (by simp),
    identStart]
  cases penv.isAlphaI c <;> cases (c == 95) <;> rfl

/-- `(?i)[_a-z\d\.]` -/
theorem set_classBody {env : CharEnv} {penv : PrettyEnv} (h : Agree env penv) (c : Nat) :
    setHas env false [.ch 95, .range 97 122, .cat .digit, .ch 46] true c = classBody penv c := by
  simp only [setHas, List.any_cons, List.any_nil, itemHas_az h, itemHas_ch h 95 (by simp),
    itemHas_ch h 46 (by simp), classBody, h.digit]
  simp only [itemHas, catHas]
  cases penv.isAlphaI c <;> cases (c == 95) <;> cases env.isDigit c <;> cases (c == 46) <;> rfl

/-- `(?i)[_a-z\d]` -/
theorem set_wordBody {env : CharEnv} {penv : PrettyEnv} (h : Agree env penv) (c : Nat) :
    setHas env false [.ch 95, .range 97 122, .cat .digit] true c = wordBody penv c := by
  simp only [setHas, List.any_cons, List.any_nil, itemHas_az h, itemHas_ch h 95 (by simp),
    wordBody, h.digit]
  simp only [itemHas, catHas]
  cases penv.isAlphaI c <;> cases (c == 95) <;> cases env.isDigit c <;> rfl

/-- `\s` -/
theorem set_space (env : CharEnv) (c : Nat) :
    setHas env false [.cat .space] false c = env.isSpace c := by
  simp [setHas, itemHas, catHas]

/-- `\d` -/
theorem set_digit (env : CharEnv) (c : Nat) :
    setHas env false [.cat .digit] false c = env.isDigit c := by
  simp [setHas, itemHas, catHas]

/-- `(?i)[a-z]` under ASCII folding: the ASCII letters. -/
theorem lowerCp_alpha (c : Nat) :
    Pretty.isAsciiAlpha c = ((97 ≤ c && c ≤ 122) || (97 ≤ lowerCp c && lowerCp c ≤ 122)) := by
  rw [Bool.eq_iff_iff]
  simp only [Pretty.isAsciiAlpha, Bool.or_eq_true, Bool.and_eq_true, decide_eq_true_eq]
  unfold lowerCp
  split <;> omega

/-- Under a folding that moves only upper-case letters and non-ASCII code points, and those to `a` or beyond
    (`Refine.LetterFold.fix_or_letter`), the four non-letters are matched by themselves only. -/
theorem lit_of_fix {env : CharEnv}
    (hf : ∀ x, env.fold x = x ∨ (97 ≤ env.fold x ∧ ((65 ≤ x ∧ x ≤ 90) ∨ 128 ≤ x)))
    (t : Nat) (ht : t = 40 ∨ t = 46 ∨ t = 61 ∨ t = 95) (c : Nat) : env.fold c = env.fold t ↔ c = t := by
  have e : env.fold t = t := by rcases hf t with e | e <;> omega
  rw [e]
  exact ⟨fun h => by rcases hf c with e' | e' <;> omega, fun h => h ▸ e⟩

theorem agree_ascii : Agree asciiEnv Pretty.asciiEnv where
  space := fun _ => rfl
  digit := fun _ => rfl
  alpha := lowerCp_alpha
  lit := lit_of_fix Refine.letterFold_ascii.fix_or_letter

theorem pyFold_cases (c : Nat) :
    (c = 304 ∧ pyFoldEnv.fold c = 105) ∨ (c = 305 ∧ pyFoldEnv.fold c = 105) ∨
    (c = 383 ∧ pyFoldEnv.fold c = 115) ∨ (c = 8490 ∧ pyFoldEnv.fold c = 107) ∨
    (c ≠ 304 ∧ c ≠ 305 ∧ c ≠ 383 ∧ c ≠ 8490 ∧ pyFoldEnv.fold c = lowerCp c) := by
  by_cases h1 : c = 304
  · subst h1; exact Or.inl ⟨rfl, rfl⟩
  by_cases h2 : c = 305
  · subst h2; exact Or.inr (Or.inl ⟨rfl, rfl⟩)
  by_cases h3 : c = 383
  · subst h3; exact Or.inr (Or.inr (Or.inl ⟨rfl, rfl⟩))
  by_cases h4 : c = 8490
  · subst h4; exact Or.inr (Or.inr (Or.inr (Or.inl ⟨rfl, rfl⟩)))
  refine Or.inr (Or.inr (Or.inr (Or.inr ⟨h1, h2, h3, h4, ?_⟩)))
  have e1 : (c == 304) = false := by simpa using h1
  have e2 : (c == 305) = false := by simpa using h2
  have e3 : (c == 383) = false := by simpa using h3
  have e4 : (c == 8490) = false := by simpa using h4
  simp only [pyFoldEnv, foldSpecials, List.lookup, e1, e2, e3, e4]

/-- Every engine environment that folds like `pyFoldEnv` (whatever its `\s`, `\d`) agrees with the
    hand environment that has the same `\s`, `\d` and Python's `(?i)[a-z]`
    (ASCII letters, U+0130, U+0131, U+017F, U+212A). -/
theorem agree_pyFold (env : CharEnv) (hfold : env.fold = pyFoldEnv.fold) :
    Agree env ⟨env.isSpace, env.isDigit, Pretty.pyEnv.isAlphaI⟩ where
  space := fun _ => rfl
  digit := fun _ => rfl
  alpha := by
    intro c
    rw [hfold]
    show (Pretty.isAsciiAlpha c || c == 304 || c == 305 || c == 383 || c == 8490) = _
    rcases pyFold_cases c with ⟨rfl, hf⟩ | ⟨rfl, hf⟩ | ⟨rfl, hf⟩ | ⟨rfl, hf⟩ | ⟨h1, h2, h3, h4, hf⟩
    · rw [hf]; rfl
    · rw [hf]; rfl
    · rw [hf]; rfl
    · rw [hf]; rfl
    · rw [hf, ← lowerCp_alpha]
      simp only [beq_false_of_ne h1, beq_false_of_ne h2, beq_false_of_ne h3, beq_false_of_ne h4, Bool.or_false]
  lit := lit_of_fix (hfold ▸ Refine.letterFold_py.fix_or_letter)

/-- `pyFoldEnv` with CPython's `\d` (Unicode 15.0 `Nd`) instead of the ASCII digits. -/
def pyFoldEnvNd : CharEnv := { pyFoldEnv with isDigit := Pretty.pyEnv.isDigit }

theorem agree_py : Agree pyFoldEnvNd Pretty.pyEnv := agree_pyFold pyFoldEnvNd rfl

/-- The driver's `pyFoldEnv` (ASCII `\d`) against the hand environment with ASCII `\d`. -/
theorem agree_pyFold_ascii :
    Agree pyFoldEnv { Pretty.pyEnv with isDigit := fun c => 48 ≤ c && c ≤ 57 } :=
  agree_pyFold pyFoldEnv rfl

end PrettyRefine
end SoupVerif
