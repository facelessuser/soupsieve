/-
  What a regular expression READS first on a text, and which texts its groups then hold.

  `Reads env r w R G`: wherever `w ++ R` stands in a subject, the first run of `r` from there ends behind `w`, and
  afterwards every group listed in `G` holds the text listed with it, all other groups being as before.  The first
  run is what `Rx.matchAt` returns, so a token regex that reads the rendering of a token is all the tokenizer needs
  (`Reads.matchAt`), which also says what `m.group(name)` is: `groupText t G name`, the text listed for the group the name
  stands for.

  The statements compose along the regex (sequence, group, alternative, optional, star).  Only the head of each run
  list is followed, so no part needs to know that the continuation fails after its shorter runs; a failure fact is
  needed only where a part is absent or where the exact run lists of a part are already known to be those of what
  follows it.
-/
import SoupVerif.Model.Parser
import SoupVerif.Lemmas.RxBasic
import SoupVerif.Lemmas.RxDet
namespace SoupVerif
namespace Refine
namespace Compile
open Rx RxBasic RefineInputs SoupVerif.Parser

theorem drop_add_of_drop_append {s : Str} {p : Nat} {a r : Str} (h : s.drop p = a ++ r) :
    s.drop (p + a.length) = r := by
  rw [← List.drop_drop, h, List.drop_left' rfl]

theorem slice_of_drop_append {s : Str} {p : Nat} {a r : Str} (h : s.drop p = a ++ r) :
    slice s p (p + a.length) = a := by
  unfold slice
  rw [h, Nat.add_sub_cancel_left, List.take_left' rfl]

theorem length_le_of_drop_append {s : Str} {p : Nat} {a r : Str} (hp : p ≤ s.length) (h : s.drop p = a ++ r) :
    p + a.length ≤ s.length := by
  have := congrArg List.length h
  simp only [List.length_drop, List.length_append] at this; omega

theorem head?_flatMap_cons {α β} (a : α) (l : List α) (k : α → List β) (b : β)
    (h : (k a).head? = some b) : ((a :: l).flatMap k).head? = some b := by
  rw [List.flatMap_cons]; exact head?_append_of_some h

/-! ### Groups that hold a text; what a regex reads -/

/-- Group `k` of the captures `c` holds the text `x` of the subject `s` (what `m.group(k)` returns). -/
def Holds (s : Str) (c : Caps) (k : Nat) (x : Str) : Prop :=
  (capSpan c k).map (fun ab => slice s ab.1 ab.2) = some x

/-- `r` reads `w` first in front of `R`; afterwards the groups of `G` hold the texts listed, the others are as
    before. -/
def Reads (env : CharEnv) (r : Rx) (w R : Str) (G : List (Nat × Str)) : Prop :=
  ∀ (s : Str) (p : Nat) (c : Caps), p ≤ s.length → s.drop p = w ++ R →
    ∃ c', (runs env s r p c).head? = some (p + w.length, c') ∧
      (∀ g ∈ G, Holds s c' g.1 g.2) ∧ ∀ k, (∀ g ∈ G, g.1 ≠ k) → capSpan c' k = capSpan c k

/-- The same for a sequence of regular expressions. -/
def ReadsSeq (env : CharEnv) (rs : List Rx) (w R : Str) (G : List (Nat × Str)) : Prop :=
  ∀ (s : Str) (p : Nat) (c : Caps), p ≤ s.length → s.drop p = w ++ R →
    ∃ c', (runsSeq env s rs p c).head? = some (p + w.length, c') ∧
      (∀ g ∈ G, Holds s c' g.1 g.2) ∧ ∀ k, (∀ g ∈ G, g.1 ≠ k) → capSpan c' k = capSpan c k

/-- The side conditions on group numbers, from an evaluation of the key lists. -/
theorem keys_ne {G : List (Nat × Str)} {k : Nat} (h : (G.map (·.1)).all (· != k) = true) :
    ∀ g ∈ G, g.1 ≠ k := by
  intro g hg
  have := List.all_eq_true.mp h g.1 (List.mem_map.mpr ⟨g, hg, rfl⟩)
  simpa using this

theorem keys_disjoint {G₁ G₂ : List (Nat × Str)}
    (h : (G₁.map (·.1)).all (fun k => (G₂.map (·.1)).all (· != k)) = true) :
    ∀ g ∈ G₁, ∀ g' ∈ G₂, g'.1 ≠ g.1 := by
  intro g hg
  exact keys_ne (List.all_eq_true.mp h g.1 (List.mem_map.mpr ⟨g, hg, rfl⟩))

variable {env : CharEnv}

/-! ### A group-free regular expression whose first run is known -/

theorem Reads.of_head {r : Rx} {w R : Str}
    (h : ∀ (s : Str) (p : Nat) (c : Caps), p ≤ s.length → s.drop p = w ++ R →
      (runs env s r p c).head? = some (p + w.length, c)) : Reads env r w R [] :=
  fun s p c hp hd => ⟨c, h s p c hp hd, (fun _ hg => by cases hg), fun _ _ => rfl⟩

theorem Reads.of_scans {r : Rx} {len : Str → Option Nat} (h : Scans env r len) {w R : Str}
    (hl : len (w ++ R) = some w.length) : Reads env r w R [] :=
  Reads.of_head fun _ _ c _ hd => h.head hd hl c

theorem Reads.lit (k : Nat) (R : Str) : Reads env (.lit k true) [k] R [] :=
  Reads.of_scans (Scans.char fun s => isChar_lit env s k true) (by simp [charLen])

theorem runsSeq_nil_of_runs_nil {s : Str} {r : Rx} (rs : List Rx) {p : Nat} {c : Caps}
    (h : runs env s r p c = []) : runsSeq env s (r :: rs) p c = [] := by
  rw [runsSeq_cons, h]; rfl

/-! ### A sequence reads the texts of its pieces one after the other, with their groups -/

theorem ReadsSeq.nil (R : Str) : ReadsSeq env [] [] R [] :=
  fun s p c _ _ => ⟨c, by rw [runsSeq_nil]; rfl, (fun _ hg => by cases hg), fun _ _ => rfl⟩

theorem ReadsSeq.single {r : Rx} {w R : Str} {G : List (Nat × Str)} (h : Reads env r w R G) :
    ReadsSeq env [r] w R G := by
  intro s p c hp hd; rw [runsSeq_single]; exact h s p c hp hd

theorem ReadsSeq.cons {r : Rx} {rs : List Rx} {w₁ w₂ R : Str} {G₁ G₂ : List (Nat × Str)}
    (h₁ : Reads env r w₁ (w₂ ++ R) G₁) (h₂ : ReadsSeq env rs w₂ R G₂)
    (hdis : ∀ g ∈ G₁, ∀ g' ∈ G₂, g'.1 ≠ g.1) :
    ReadsSeq env (r :: rs) (w₁ ++ w₂) R (G₁ ++ G₂) := by
  intro s p c hp hd
  rw [List.append_assoc] at hd
  obtain ⟨c₁, hr₁, hG₁, hF₁⟩ := h₁ s p c hp hd
  obtain ⟨ys, hr⟩ := List.head?_eq_some_iff.mp hr₁
  obtain ⟨c₂, hr₂, hG₂, hF₂⟩ := h₂ s _ c₁ (length_le_of_drop_append hp hd) (drop_add_of_drop_append hd)
  refine ⟨c₂, ?_, ?_, ?_⟩
  · rw [runsSeq_cons, hr]
    apply head?_flatMap_cons
    rw [hr₂, List.length_append, Nat.add_assoc]
  · intro g hg
    rcases List.mem_append.mp hg with hg | hg
    · -- a group of the first part: the rest of the sequence has left it alone
      unfold Holds
      rw [hF₂ g.1 (fun g' hg' => hdis g hg g' hg')]
      exact hG₁ g hg
    · exact hG₂ g hg
  · intro k hk
    rw [hF₂ k (fun g hg => hk g (List.mem_append_right _ hg)),
      hF₁ k (fun g hg => hk g (List.mem_append_left _ hg))]

theorem ReadsSeq.cons_plain {r : Rx} {rs : List Rx} {w₁ w₂ R : Str} {G : List (Nat × Str)}
    (h₁ : Reads env r w₁ (w₂ ++ R) []) (h₂ : ReadsSeq env rs w₂ R G) :
    ReadsSeq env (r :: rs) (w₁ ++ w₂) R G :=
  ReadsSeq.cons h₁ h₂ (fun _ hg => by cases hg)

theorem ReadsSeq.cons_tail {r : Rx} {rs : List Rx} {w₁ w₂ R : Str} {G : List (Nat × Str)}
    (h₁ : Reads env r w₁ (w₂ ++ R) G) (h₂ : ReadsSeq env rs w₂ R []) :
    ReadsSeq env (r :: rs) (w₁ ++ w₂) R G :=
  List.append_nil G ▸ ReadsSeq.cons h₁ h₂ (fun _ _ _ hg' => by cases hg')

/-- The rest of the sequence reads nothing (optional parts that are absent). -/
theorem ReadsSeq.cons_empty {r : Rx} {rs : List Rx} {w R : Str} {G : List (Nat × Str)}
    (h₁ : Reads env r w R G) (h₂ : ReadsSeq env rs [] R []) : ReadsSeq env (r :: rs) w R G :=
  List.append_nil w ▸ ReadsSeq.cons_tail (w₂ := []) h₁ h₂

theorem Reads.seq {rs : List Rx} {w R : Str} {G : List (Nat × Str)} (h : ReadsSeq env rs w R G) :
    Reads env (.seq rs) w R G := by
  intro s p c hp hd; rw [runs_seq]; exact h s p c hp hd

theorem ReadsSeq.of_seq {rs : List Rx} {w R : Str} {G : List (Nat × Str)} (h : Reads env (.seq rs) w R G) :
    ReadsSeq env rs w R G := by
  intro s p c hp hd; rw [← runs_seq]; exact h s p c hp hd

/-! ### A group holds the text its body reads -/

theorem Reads.group (k : Nat) {r : Rx} {w R : Str} {G : List (Nat × Str)} (h : Reads env r w R G)
    (hk : ∀ g ∈ G, g.1 ≠ k) : Reads env (.group k r) w R ((k, w) :: G) := by
  intro s p c hp hd
  obtain ⟨c', hr, hG, hF⟩ := h s p c hp hd
  refine ⟨setCap k p (p + w.length) c', ?_, ?_, ?_⟩
  · rw [runs_group_setCap, List.head?_map, hr]; rfl
  · intro g hg
    rcases List.mem_cons.mp hg with rfl | hg
    · unfold Holds
      rw [capSpan_setCap_self, Option.map_some, slice_of_drop_append hd]
    · unfold Holds
      rw [capSpan_setCap_ne _ (Ne.symm (hk g hg))]
      exact hG g hg
  · intro j hj
    rw [capSpan_setCap_ne _ (hj (k, w) (List.mem_cons_self ..)),
      hF j (fun g hg => hj g (List.mem_cons_of_mem _ hg))]

/-! ### An alternative reads what its first branch with a run reads; parts of a sequence that read nothing -/

theorem Reads.alt_left {r : Rx} {rs : List Rx} {w R : Str} {G : List (Nat × Str)} (h : Reads env r w R G) :
    Reads env (.alt (r :: rs)) w R G := by
  intro s p c hp hd
  obtain ⟨c', hr, rest⟩ := h s p c hp hd
  exact ⟨c', by rw [runs_alt, runsAlt_cons]; exact head?_append_of_some hr, rest⟩

theorem Reads.alt_right {r : Rx} {rs : List Rx} {w R : Str} {G : List (Nat × Str)}
    (hn : ∀ (s : Str) (p : Nat) (c : Caps), p ≤ s.length → s.drop p = w ++ R → runs env s r p c = [])
    (h : Reads env (.alt rs) w R G) : Reads env (.alt (r :: rs)) w R G := by
  intro s p c hp hd
  obtain ⟨c', hr, rest⟩ := h s p c hp hd
  exact ⟨c', by rw [runs_alt, runsAlt_cons, hn s p c hp hd, List.nil_append, ← runs_alt]; exact hr, rest⟩

theorem ReadsSeq.opt_some {r : Rx} {rs : List Rx} {w R : Str} {G : List (Nat × Str)}
    (h : ReadsSeq env (r :: rs) w R G) : ReadsSeq env (.rep 0 (some 1) true r :: rs) w R G := by
  intro s p c hp hd
  obtain ⟨c', hr, rest⟩ := h s p c hp hd
  exact ⟨c', by rw [runsSeq_opt]; exact head?_append_of_some hr, rest⟩

/-- An optional part that is absent: with it the sequence has no run. -/
theorem ReadsSeq.opt_none {r : Rx} {rs : List Rx} {w R : Str} {G : List (Nat × Str)}
    (hn : ∀ (s : Str) (p : Nat) (c : Caps), p ≤ s.length → s.drop p = w ++ R → runsSeq env s (r :: rs) p c = [])
    (h : ReadsSeq env rs w R G) : ReadsSeq env (.rep 0 (some 1) true r :: rs) w R G := by
  intro s p c hp hd
  obtain ⟨c', hr, rest⟩ := h s p c hp hd
  exact ⟨c', by rw [runsSeq_opt, hn s p c hp hd]; exact hr, rest⟩

/-- A part in front of which the run lists are known to be those of what follows it. -/
theorem ReadsSeq.skip {r : Rx} {rs : List Rx} {w R : Str} {G : List (Nat × Str)}
    (he : ∀ (s : Str) (p : Nat) (c : Caps), p ≤ s.length → s.drop p = w ++ R →
      runsSeq env s (r :: rs) p c = runsSeq env s rs p c)
    (h : ReadsSeq env rs w R G) : ReadsSeq env (r :: rs) w R G := by
  intro s p c hp hd
  rw [he s p c hp hd]; exact h s p c hp hd

/-- Parts `as` in front of `rs` for which it is known that, on `w`, the first run of the whole is that of `rs` behind
    `w` whenever `rs` has one (the form of the lemmas that follow a continuation through a piece). -/
theorem ReadsSeq.append_head {as rs : List Rx} {w w₂ R : Str} {G : List (Nat × Str)}
    (hc : ∀ (s : Str) (p : Nat) (c : Caps) (b : Nat × Caps), p ≤ s.length → s.drop p = w ++ (w₂ ++ R) →
      (runsSeq env s rs (p + w.length) c).head? = some b → (runsSeq env s (as ++ rs) p c).head? = some b)
    (h : ReadsSeq env rs w₂ R G) : ReadsSeq env (as ++ rs) (w ++ w₂) R G := by
  intro s p c hp hd
  rw [List.append_assoc] at hd
  obtain ⟨c', hr, hG, hF⟩ := h s _ c (length_le_of_drop_append hp hd) (drop_add_of_drop_append hd)
  exact ⟨c', by rw [List.length_append, ← Nat.add_assoc]; exact hc s p c _ hp hd hr, hG, hF⟩

theorem ReadsSeq.append_eq {as rs : List Rx} {w w₂ R : Str} {G : List (Nat × Str)}
    (he : ∀ (s : Str) (p : Nat) (c : Caps), p ≤ s.length → s.drop p = w ++ (w₂ ++ R) →
      runsSeq env s (as ++ rs) p c = runsSeq env s rs (p + w.length) c)
    (h : ReadsSeq env rs w₂ R G) : ReadsSeq env (as ++ rs) (w ++ w₂) R G :=
  ReadsSeq.append_head (fun s p c _ hp hd hr => by rw [he s p c hp hd]; exact hr) h

/-! ### The greedy star of a group-free unit -/

/-- The loop of `r*` on a text made of non-empty units, each read by `r` in front of the units behind it, then `R`
    where `r` has no run: its first run takes all the units.  (The captures may change from unit to unit, the
    groups stay as they are.) -/
theorem iter_reads {r : Rx} {R : Str} (s : Str)
    (hend : ∀ (p : Nat) (c : Caps), p ≤ s.length → s.drop p = R → runs env s r p c = []) :
    ∀ (items : List Str) (fuel count p : Nat) (c : Caps),
      (∀ pre x post, items = pre ++ x :: post → x ≠ [] ∧ Reads env r x (post.flatten ++ R) []) →
      s.length - p + 2 ≤ fuel → p ≤ s.length → s.drop p = items.flatten ++ R →
      ∃ c', (iter (fun p c => runs env s r p c) 0 none true fuel count p c).head? =
          some (p + items.flatten.length, c') ∧ ∀ k, capSpan c' k = capSpan c k
  | [], fuel, count, p, c, _, hf, hp, hd => by
    obtain ⟨k, rfl⟩ : ∃ k, fuel = k + 1 := ⟨fuel - 1, by omega⟩
    refine ⟨c, ?_, fun _ => rfl⟩
    rw [iter_succ]
    simp only [if_true, RxBasic.canMore, Nat.zero_le, ge_iff_le]
    rw [hend p c hp (by simpa using hd)]
    simp
  | x :: rest, fuel, count, p, c, hit, hf, hp, hd => by
    obtain ⟨k, rfl⟩ : ∃ k, fuel = k + 1 := ⟨fuel - 1, by omega⟩
    obtain ⟨hne, hx⟩ := hit [] x rest rfl
    have hd' : s.drop p = x ++ (rest.flatten ++ R) := by simpa using hd
    obtain ⟨c₁, hb, _, hF₁⟩ := hx s p c hp hd'
    have hxl : 1 ≤ x.length := by cases x with | nil => exact absurd rfl hne | cons _ _ => simp
    have hp2 := length_le_of_drop_append hp hd'
    obtain ⟨c', ih, hF⟩ := iter_reads s hend rest k (count + 1) (p + x.length) c₁
      (fun pre y post e => hit (x :: pre) y post (by rw [e]; rfl))
      (by omega) hp2 (drop_add_of_drop_append hd')
    obtain ⟨ys, hr⟩ := List.head?_eq_some_iff.mp hb
    refine ⟨c', ?_, fun j => (hF j).trans (hF₁ j (fun _ hg => by cases hg))⟩
    rw [iter_succ]
    simp only [if_true, RxBasic.canMore, Nat.zero_le, ge_iff_le]
    apply head?_append_of_some
    rw [hr]
    apply head?_flatMap_cons
    -- the unit is not empty, so the loop goes on behind it
    have : (decide (p + x.length > p) || decide (count + 1 < 0)) = true := by simp; omega
    simp only [this, if_true]
    rw [ih]
    simp [Nat.add_assoc]

theorem Reads.star {r : Rx} {R : Str} (items : List Str)
    (hit : ∀ pre x post, items = pre ++ x :: post → x ≠ [] ∧ Reads env r x (post.flatten ++ R) [])
    (hend : ∀ (s : Str) (p : Nat) (c : Caps), p ≤ s.length → s.drop p = R → runs env s r p c = []) :
    Reads env (.rep 0 none true r) items.flatten R [] := by
  intro s p c hp hd
  obtain ⟨c', h, hF⟩ := iter_reads s (hend s) items (s.length - p + 0 + 2) 0 p c hit (by omega) hp hd
  exact ⟨c', by rw [runs]; exact h, (fun _ hg => by cases hg), fun k _ => hF k⟩

/-! ### What the tokenizer and the handlers take from it -/

/-- The text the groups listed in `G` give for group `k`: that of the first entry for `k`, none when `k` is not
    listed. -/
def textOf (G : List (Nat × Str)) (k : Nat) : Option Str := (G.find? (fun g => g.1 == k)).map (·.2)

/-- `m.group(name)` for a token entry `t` whose numbered groups hold the texts listed in `G`: the text listed for the
    group the name stands for; none for a name the entry does not have, and for a group that took no part. -/
def groupText (t : TokenRx) (G : List (Nat × Str)) (name : String) : Option Str :=
  (t.groups.find? (fun g => g.1 == name)).bind fun g => textOf G g.2

/-- The match the tokenizer finds where a regex reads `w`: it ends behind `w`, and `m.group(name)` is the text listed
    for the group the name stands for. -/
theorem Reads.matchAt {r : Rx} {w R : Str} {G : List (Nat × Str)} (h : Reads env r w R G) {s : Str} {i : Nat}
    (hi : i ≤ s.length) (hd : s.drop i = w ++ R) :
    ∃ caps, Rx.matchAt env r s i = some (i + w.length, caps) ∧
      ∀ (t : TokenRx) (name : String), Parser.group s t caps name = groupText t G name := by
  obtain ⟨c', hr, hG, hF⟩ := h s i [] hi hd
  refine ⟨c', hr, fun t name => ?_⟩
  unfold Parser.group groupText textOf
  cases t.groups.find? (fun g => g.1 == name) with
  | none => rfl
  | some nk =>
    obtain ⟨_, k⟩ := nk
    show (capSpan c' k).map _ = (G.find? (fun g => g.1 == k)).map (·.2)
    cases hk : G.find? (fun g => g.1 == k) with
    | some g =>
      have hgk : g.1 = k := by simpa using List.find?_some hk
      rw [← hgk]
      exact hG g (List.mem_of_find?_eq_some hk)
    | none =>
      simp only [hF k (fun g hg => by simpa using List.find?_eq_none.mp hk g hg)]
      rfl

end Compile
end Refine
end SoupVerif
