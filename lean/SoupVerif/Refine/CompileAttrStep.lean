/-
  What `selector_iter` and the parser loop do at an attribute selector; what `VALUE` reads on a spelled value
  (`C09Compile.SValue`, `Refine/Syntax.lean`) and what the handlers decode it to.
-/
import SoupVerif.Refine.CompileAttr
import SoupVerif.Refine.CompileStep
namespace SoupVerif
namespace Refine
namespace Compile
open Rx RxBasic SoupVerif.Parser ParserProgress Escape Spelling

theorem skip_bracket : (Gen.lexicon.tokens.take 10).all (fun t => !slotFirst 91 t) = true := by
  decide +kernel

/-- The `attribute` entry of the token table. -/
def attrRx : TokenRx := ⟨"attribute", Gen.tok_attribute, Gen.tok_attribute_groups⟩

variable (B : Builtins) (s : Str)

/-- `parse_attribute_selector` on a token whose five groups are known (`nsg`: the prefix without its bar). -/
theorem parseAttribute_of_groups (t : Token) (sel : SelB) (nsg : Option Str) (name : Str) (op val cs : Option Str)
    (h1 : t.group (penv B s) "attr_ns" = nsg.map (· ++ [124]))
    (h2 : t.group (penv B s) "attr_name" = some name)
    (h3 : t.group (penv B s) "cmp" = op) (h4 : t.group (penv B s) "value" = val)
    (h5 : t.group (penv B s) "case" = cs) :
    parseAttribute (penv B s) t sel =
      attrBuildNs sel ((nsg.map (Parser.cssUnescape pyFoldEnv Gen.lexicon)).getD [])
        (Parser.cssUnescape pyFoldEnv Gen.lexicon name) (op.getD [])
        (if (op.getD []).isEmpty then [] else rawValue (val.getD []))
        (cs.bind fun c => if c.isEmpty then none else some (lower c)) := by
  unfold parseAttribute attrBuildNs rawValue
  cases nsg with
  | none =>
    simp only [h1, h2, h3, h4, h5, Option.map_none, Option.getD_none]
    cases cs with
    | none => rfl
    | some c => by_cases hc : c.isEmpty = true <;> simp only [Option.bind_some, hc] <;> rfl
  | some P =>
    have e1 : (P ++ [124]).isEmpty = false := by simp
    have e2 : (P ++ [124]).take ((P ++ [124]).length - 1) = P := by simp
    simp only [h1, h2, h3, h4, h5, Option.map_some, Option.getD_some, e1, e2]
    cases cs with
    | none => rfl
    | some c => by_cases hc : c.isEmpty = true <;> simp only [Option.bind_some, hc] <;> rfl

variable (fuel flags : Nat) (st : LS)

theorem tail_safe_93 {g4 : Str} (hg4 : isGap g4) (R : Str) : ¬ continuesIdent (g4 ++ 93 :: R) :=
  gap_tail_safe hg4 93 R (by decide)

theorem op_isEmpty {op : Str} (hop : op = [61] ∨ ∃ x, isCmp x = true ∧ op = [x, 61]) :
    op.isEmpty = false := by
  rcases hop with h | ⟨x, _, h⟩ <;> subst h <;> rfl

theorem nsValue_eq (ns : Option SNs) (rest : Str) (hok : ∀ n, ns = some n → n.ok rest) :
    ((ns.map SNs.text).map (Parser.cssUnescape pyFoldEnv Gen.lexicon)).getD [] = nsValue ns := by
  cases ns with
  | none => rfl
  | some n => exact n.unescape rest (hok n rfl)

/-- The loop at `[`, from what the `attribute` token reads there and the texts of its five groups. -/
theorem step_attr_of_reads {cs W r : Str} {G : List (Nat × Str)} (hd : s.drop st.pos = 91 :: cs)
    (hW : s.drop st.pos = W ++ r) (hR : Reads pyFoldEnv Gen.tok_attribute W r G)
    (nsg : Option Str) (name : Str) (op val cse : Option Str)
    (h1 : textOf G 1 = nsg.map (· ++ [124])) (h2 : textOf G 2 = some name)
    (h3 : textOf G 3 = op) (h4 : textOf G 4 = val) (h5 : textOf G 5 = cse) :
    ∃ p idx, s.drop p = r ∧
      parseLoop pyFoldEnv Gen.lexicon B s (fuel + 1) flags st =
        parseLoop pyFoldEnv Gen.lexicon B s fuel flags
          { st with pos := p, index := idx,
                    sel := attrBuildNs st.sel ((nsg.map (Parser.cssUnescape pyFoldEnv Gen.lexicon)).getD [])
                      (Parser.cssUnescape pyFoldEnv Gen.lexicon name) (op.getD [])
                      (if (op.getD []).isEmpty then [] else rawValue (val.getD []))
                      (cse.bind fun c => if c.isEmpty then none else some (lower c)),
                    hasSelector := true } := by
  obtain ⟨t, ht⟩ := TokenAt.of_slot B s (n := 10) (tr := attrRx) rfl hR hW (hW.symm.trans hd)
    (by simp [noGapStart, isCssWs]) skip_bracket
  refine ⟨t.stop, t.stop, by rw [ht.stop]; exact drop_add_of_drop_append hW, ?_⟩
  rw [C09.parseLoop_attribute _ _ _ _ _ _ _ _ ht.next ht.name,
    parseAttribute_of_groups B s t st.sel nsg name op val cse
      ((ht.group "attr_ns").trans h1) ((ht.group "attr_name").trans h2) ((ht.group "cmp").trans h3)
      ((ht.group "value").trans h4) ((ht.group "case").trans h5)]

/-- `[ g0 ns|? name g4 ]`. -/
theorem step_attr_noop {g0 g4 r : Str} {nf : List (Nat × EscForm)} (ns : Option SNs)
    (hd : s.drop st.pos = 91 :: (g0 ++ (nsBar ns ++ (renderIdentWith nf ++ (g4 ++ 93 :: r)))))
    (hg0 : isGap g0) (hg4 : isGap g4) (hns : ∀ n, ns = some n → n.ok (renderIdentWith nf ++ (g4 ++ 93 :: r)))
    (hv : validForms nf (g4 ++ 93 :: r) = true) (hh : headOk nf = true)
    (hcp : ∀ p ∈ nf, rangeOk p.1 p.2 = true) :
    ∃ p idx, s.drop p = r ∧
      parseLoop pyFoldEnv Gen.lexicon B s (fuel + 1) flags st =
        parseLoop pyFoldEnv Gen.lexicon B s fuel flags
          { st with pos := p, index := idx, sel := attrBuildNs st.sel (nsValue ns) (valueOf nf) [] [] none,
                    hasSelector := true } := by
  have hR := attr_reads hg0 (W := nsBar ns ++ (renderIdentWith nf ++ (g4 ++ [93]))) (R := r)
    (by cases ns with
        | none => simpa [nsBar] using ident_noGap hh _
        | some n =>
          obtain ⟨c, cs, hc, hcs⟩ := n.head _ (hns n rfl)
          simp only [nsBar, List.append_assoc, List.cons_append, List.nil_append]
          rw [hc]; exact nsStart_noGap cs hcs)
    (ns_reads ns (attr_name_noop_reads hg4 hv hh) (keys_ne rfl)
      (fun _ => nsOpt_skip_noop _ hg4 hv hh) (fun n hn => by simpa using hns n hn))
  have hW : s.drop st.pos = ([91] ++ (g0 ++ (nsBar ns ++ (renderIdentWith nf ++ (g4 ++ [93]))))) ++ r := by
    rw [hd]; simp
  obtain ⟨p, idx, hp, h⟩ := step_attr_of_reads B s fuel flags st hd hW hR (ns.map SNs.text) (renderIdentWith nf)
    none none none (by cases ns <;> rfl) (by cases ns <;> rfl) (by cases ns <;> rfl) (by cases ns <;> rfl)
    (by cases ns <;> rfl)
  refine ⟨p, idx, hp, ?_⟩
  rw [h, nsValue_eq ns _ hns, unescape_forms nf hv hcp]
  rfl

/-- `[ g0 ns|? name g1 op g2 VALUE F g4 ]`, for any value text `V` that `VALUE` reads, described by its decoding,
    and the flag part `F`: nothing, or a gap and one of `i I s S`. -/
theorem step_attr_op {g0 g1 g2 g4 op V F r : Str} {nf : List (Nat × EscForm)} (ns : Option SNs) (v : Str)
    (cse : Option Str)
    (hd : s.drop st.pos =
      91 :: (g0 ++ (nsBar ns ++ (renderIdentWith nf ++ (g1 ++ (op ++ (g2 ++ (V ++ (F ++ (g4 ++ 93 :: r))))))))))
    (hg0 : isGap g0) (hg1 : isGap g1) (hg2 : isGap g2) (hg4 : isGap g4)
    (hF : (F = [] ∧ cse = none) ∨
      ∃ g3 f, F = g3 ++ [f] ∧ isGap g3 ∧ isFlag f = true ∧ cse = some [lowerCp f])
    (hns : ∀ n, ns = some n →
      n.ok (renderIdentWith nf ++ (g1 ++ (op ++ (g2 ++ (V ++ (F ++ (g4 ++ 93 :: r))))))))
    (hop : op = [61] ∨ ∃ x, isCmp x = true ∧ op = [x, 61])
    (hv : validForms nf (g1 ++ (op ++ (g2 ++ (V ++ (F ++ (g4 ++ 93 :: r)))))) = true) (hh : headOk nf = true)
    (hcp : ∀ p ∈ nf, rangeOk p.1 p.2 = true)
    (hVng : noGapStart (V ++ (F ++ (g4 ++ 93 :: r))) = true)
    (hval : Reads pyFoldEnv rxValue V (F ++ (g4 ++ 93 :: r)) [])
    (hdec : rawValue V = v) :
    ∃ p idx, s.drop p = r ∧
      parseLoop pyFoldEnv Gen.lexicon B s (fuel + 1) flags st =
        parseLoop pyFoldEnv Gen.lexicon B s fuel flags
          { st with pos := p, index := idx, sel := attrBuildNs st.sel (nsValue ns) (valueOf nf) op v cse,
                    hasSelector := true } := by
  -- the flag part: what it reads into group 5, and the flag the handler makes of it
  obtain ⟨GF, c5, hFr, hGF, hform, hc5⟩ : ∃ GF c5, ReadsSeq pyFoldEnv [rxFlagOpt] F ((g4 ++ [93]) ++ r) GF ∧
      (∀ g ∈ GF, g.1 = 5) ∧ (GF = [] ∧ c5 = none ∨ ∃ x, GF = [(5, x)] ∧ c5 = some x) ∧
      (c5.bind fun c => if c.isEmpty then none else some (lower c)) = cse := by
    rcases hF with ⟨rfl, rfl⟩ | ⟨g3, f, rfl, hg3, hf, rfl⟩
    · exact ⟨[], none, flag_none hg4, (fun _ hg => by cases hg), Or.inl ⟨rfl, rfl⟩, rfl⟩
    · exact ⟨_, some [f], flag_some hg3 hf, (fun g hg => by cases List.mem_singleton.mp hg; rfl),
        Or.inr ⟨_, rfl, rfl⟩, rfl⟩
  have hR := attr_reads hg0 (R := r)
    (W := nsBar ns ++ (renderIdentWith nf ++ ((g1 ++ (op ++ (g2 ++ (V ++ F)))) ++ (g4 ++ [93]))))
    (by cases ns with
        | none => simpa [nsBar] using ident_noGap hh _
        | some n =>
          obtain ⟨c, cs, hc, hcs⟩ := n.head _ (hns n rfl)
          simp only [nsBar, List.append_assoc, List.cons_append, List.nil_append] at hc ⊢
          rw [hc]; exact nsStart_noGap cs hcs)
    (ns_reads ns
      (attr_name_op_reads hg1 hg2 hg4 hop hv hh hVng (by simpa using hval) hFr hGF)
      (fun g hg => by
        rcases List.mem_cons.mp hg with rfl | hg
        · simp
        · rcases List.mem_cons.mp hg with rfl | hg
          · simp
          · rcases List.mem_cons.mp hg with rfl | hg
            · simp
            · rw [hGF g hg]; decide)
      (fun _ s p c hp hd => nsOpt_skip_op hg1 hop (by simpa using hv) hh s p c hp (by simpa using hd))
      (fun n hn => by simpa using hns n hn))
  have hW : s.drop st.pos = ([91] ++ (g0 ++ (nsBar ns ++
      (renderIdentWith nf ++ ((g1 ++ (op ++ (g2 ++ (V ++ F)))) ++ (g4 ++ [93])))))) ++ r := by
    rw [hd]; simp
  have hgt : textOf (nsGroups ns ++ (2, renderIdentWith nf) :: (3, op) :: (4, V) :: GF) 1 =
        (ns.map SNs.text).map (· ++ [124]) ∧
      textOf (nsGroups ns ++ (2, renderIdentWith nf) :: (3, op) :: (4, V) :: GF) 5 = c5 := by
    rcases hform with ⟨rfl, rfl⟩ | ⟨x, rfl, rfl⟩ <;> cases ns <;> exact ⟨rfl, rfl⟩
  obtain ⟨p, idx, hp, h⟩ := step_attr_of_reads B s fuel flags st hd hW hR (ns.map SNs.text) (renderIdentWith nf)
    (some op) (some V) c5 hgt.1 (by cases ns <;> rfl) (by cases ns <;> rfl) (by cases ns <;> rfl) hgt.2
  refine ⟨p, idx, hp, ?_⟩
  rw [h, nsValue_eq ns _ hns, unescape_forms nf hv hcp, hc5]
  simp only [Option.getD_some, op_isEmpty hop, Bool.false_eq_true, if_false, hdec]

theorem rawValue_ident (vf : List (Nat × EscForm)) (hv : Valid vf) (hh : headOk vf = true)
    (hcp : ∀ p ∈ vf, rangeOk p.1 p.2 = true) : rawValue (renderIdentWith vf) = valueOf vf := by
  obtain ⟨x, xs, hxs, hx⟩ := headOk_first vf hh
  have hne : (x == 34 || x == 39) = false := by
    simp only [Bool.or_eq_false_iff, beq_eq_false_iff_ne]
    exact ⟨(identHead_ne hx).2.1, (identHead_ne hx).2.2.1⟩
  unfold rawValue
  rw [hxs]
  simp only [List.head?_cons, hne, Bool.false_eq_true, if_false]
  rw [← hxs]
  exact unescape_forms vf hv hcp

theorem rawValue_quoted (q : Nat) (ps : List StrPiece) (hq : q = 34 ∨ q = 39)
    (hv : validStr q ps [] = true) (hr : ∀ p ∈ ps, pieceRangeOk p = true) :
    rawValue (q :: (renderStrWith ps ++ [q])) = strValue ps := by
  have hqq : (q == 34 || q == 39) = true := by rcases hq with h | h <;> subst h <;> rfl
  unfold rawValue
  simp only [List.head?_cons, hqq, if_true]
  rw [C09.slice_quoted]
  exact C09Rx.string_any_spelling_rx q ps hv hr

theorem svalue_head (v : C09Compile.SValue) (t : Str) (hok : v.ok t) :
    ∃ x xs, v.render = x :: xs ∧ isCssWs x = false ∧ x ≠ 47 ∧ x ≠ 44 ∧ x ≠ 41 := by
  cases v with
  | ident f =>
    obtain ⟨x, xs, hxs, hx⟩ := headOk_first f hok.1.2.1
    obtain ⟨hw, _, _, h41, _, h44, h47, _⟩ := identHead_ne hx
    exact ⟨x, xs, hxs, hw, h47, h44, h41⟩
  | str q ps =>
    refine ⟨q, renderStrWith ps ++ [q], rfl, ?_⟩
    rcases hok.1 with h | h <;> subst h <;> decide

end Compile
end Refine

namespace C09Compile
open Escape Spelling Refine.Compile

theorem SValue.render_noGap (v : SValue) (r t : Str) (hok : v.ok r) : noGapStart (v.render ++ t) = true := by
  obtain ⟨x, xs, hx, hw, h47, _⟩ := svalue_head v r hok
  simp [hx, Spelling.noGapStart, hw, h47]

theorem SValue.reads (v : SValue) (t : Str) (hok : v.ok t) : Reads pyFoldEnv rxValue v.render t [] := by
  cases v with
  | ident f => exact Reads.value_ident hok.1.1 hok.1.2.1 hok.2
  | str q ps => exact Reads.value_quoted hok.1 hok.2.1

/-- The `value` binding of the handlers decodes it to the value spelled. -/
theorem SValue.raw (v : SValue) (t : Str) (hok : v.ok t) : rawValue v.render = v.value := by
  cases v with
  | ident f =>
    obtain ⟨⟨hv, hh, hcp⟩, _⟩ := hok
    exact rawValue_ident f (SpellingLemmas.validForms_nil_of f t hv) hh hcp
  | str q ps => exact rawValue_quoted q ps hok.1 hok.2.1 hok.2.2

end C09Compile
end SoupVerif

#print axioms SoupVerif.Refine.Compile.step_attr_noop
#print axioms SoupVerif.Refine.Compile.step_attr_op
#print axioms SoupVerif.Refine.Compile.rawValue_ident
#print axioms SoupVerif.Refine.Compile.rawValue_quoted
