/-
  What `C09Compile2.denote` builds for a selector list that consists of ONE compound (`denote_one`), the matcher on it
  (`matchEl_one`; on a builder in normal form `matchSel_freeze_mkB`, `matchEl_mkB`), and attribute selectors with a
  namespace prefix on a builder in normal form (`applyAttr_mkB`, `partsOk_attr`, `denote_tag_ns`, `denote_attr_ns`).
-/
import SoupVerif.Refine.Syntax2
import SoupVerif.Refine.C01ParseSem
import SoupVerif.Lemmas.SatParts
import SoupVerif.Properties.C01Attr
namespace SoupVerif
namespace NsParse
open SoupVerif.Parser ParserProgress Refine.Compile
open C09Compile (AttrV)
open C09Compile2 (Item Compound SelListV denote finishG foldRest applyItems applyAttr)
open C01Parse (mkB implB implTag flagV)
open Css (AttrTest AttrOp CaseFlag Parts addSimple compileAttr emptyList)

/-- The compiled list of a one-compound selector list: the builder of the compound, the implied `*`
    (top level: `FLG_PSEUDO` is not set), frozen. -/
theorem denote_one (B : Builtins) (cp : Compound) (h : cp.isEmpty = false) :
    denote B (.mk cp []) = .mk [(implB false (cp.buildOn B SelB.empty)).freeze] false false := by
  simp [denote, finishG, SelListV.loopState, foldRest, cleanupLS, finalSels, initLS, h, implB,
    C01Parse.addRelations_nil]

theorem freeze_mkB (p : Parts) (tag : Option SelTag) :
    (mkB p tag [] .none).freeze = p.toSel tag emptyList .none := by
  rw [SelB.freeze, C01Parse.size_mkB]
  exact C01Parse.freezeF_mkB _ p tag [] .none

theorem matchEl_one (c : Ctx) (l : Loc) (e : Elem) (kids : List Node) (hf : l.focus = .elem e kids)
    (s : Sel) : matchEl c (.mk [s] false false) l = (!e.isDoc && matchSel c l e s) := by
  simp only [matchEl, hf, SatCore.matchList_single]

/-- The matcher on a compound in normal form without relation: the type selector and the fields of `Parts`.  `p.flags < 4`:
    only `SEL_EMPTY` (1) and `SEL_ROOT` (2), the two flags the specification's compiler sets (`SatParts.addSimple_leaf_flags`);
    `partsOk` tests no other. -/
theorem matchSel_freeze_mkB (c : Ctx) (l : Loc) (e : Elem) (p : Parts) (tag : Option SelTag) (hp : p.flags < 4) :
    matchSel c l e (mkB p tag [] .none).freeze = (matchTag c e tag && SatCore.partsOk c l e p) := by
  rw [freeze_mkB, SatCore.matchSel_toSel c l e p tag _ _ hp, SatCore.relOk_empty, Bool.and_true]

theorem matchEl_mkB (c : Ctx) (l : Loc) (e : Elem) (kids : List Node) (hf : l.focus = .elem e kids)
    (p : Parts) (tag : Option SelTag) (hp : p.flags < 4) :
    matchEl c (.mk [(mkB p tag [] .none).freeze] false false) l =
      (!e.isDoc && (matchTag c e tag && SatCore.partsOk c l e p)) := by
  rw [matchEl_one c l e kids hf, matchSel_freeze_mkB c l e p tag hp]

/-- The values of `[name]` / `[name op value flag]` (the prefix aside). -/
def attrV (name : Str) (test : Option AttrTest) : AttrV :=
  ⟨name, test.map fun t => (t.op.text, t.value, flagV t.flag)⟩

/-- `parse_attribute_selector` with a prefix, on a builder in normal form: the `SelectorAttribute` of
    `Css.compileAttr`, in the `attributes` list — or, for `!=`, in a negated sub-list. -/
theorem applyAttr_mkB (p : Parts) (tag : Option SelTag) (ns name : Str) (test : Option AttrTest) :
    applyAttr ns (attrV name test) (mkB p tag [] .none) =
      mkB (addSimple p (.attr ns name test)) tag [] .none := by
  cases test with
  | none => exact C01Parse.attrBuildNs_none p tag ns name
  | some t => exact C01Parse.attrBuildNs_some p tag ns name t

theorem addSimple_attr_flags (p : Parts) (ns name : Str) (test : Option AttrTest) :
    (addSimple p (.attr ns name test)).flags = p.flags :=
  SatParts.addSimple_attr_flags p ns name test

/-- What the matcher checks for one attribute selector appended to the builder: the CSS reading
    `Css.satAttr`. -/
theorem partsOk_attr (c : Ctx) (l : Loc) (e : Elem) (p : Parts) (ns name : Str) (test : Option AttrTest)
    (hfold : ∀ t, test = some t → Css.caseInsensitive c name t.flag = true → c.env.fold = lowerCp) :
    SatCore.partsOk c l e (addSimple p (.attr ns name test)) =
      (SatCore.partsOk c l e p && Css.satAttr c e ns name test) :=
  SatParts.partsOk_attr c l e p (fun op v s ic h => C01Attr.attrPattern_sem c.env op v s ic h) ns name test
    hfold

/-- `ns|E`, `*|E`, `|E`, `E` alone: the IR is one selector whose only filled field is the tag (name VALUE and
    prefix VALUE). -/
theorem denote_tag_ns (B : Builtins) (t : SelTag) :
    denote B (.mk (.mk (some t) []) []) = .mk [({} : Parts).toSel (some t) emptyList .none] false false := by
  rw [denote_one B _ (by simp [Compound.isEmpty])]
  simp only [Compound.buildOn, applyItems]
  rw [C01Parse.mkB_empty, C01Parse.setTag_mkB, C01Parse.implB_mkB, freeze_mkB]
  rfl

/-- `[ns|a …]` behind an optional type selector: the IR is one selector with the tag (the implied `*` when none
    is written) and the `SelectorAttribute` of `Css.compileAttr ns name test` (for `!=`: inside a negated
    sub-list). -/
theorem denote_attr_ns (B : Builtins) (tag : Option SelTag) (ns name : Str) (test : Option AttrTest) :
    denote B (.mk (.mk tag [.attr ns (attrV name test)]) []) =
      .mk [(addSimple {} (.attr ns name test)).toSel (implTag false tag) emptyList .none] false false := by
  rw [denote_one B _ (by cases tag <;> simp [Compound.isEmpty])]
  have : (Compound.mk tag [.attr ns (attrV name test)]).buildOn B SelB.empty =
      mkB (addSimple {} (.attr ns name test)) tag [] .none := by
    simp only [Compound.buildOn, applyItems, Item.apply]
    cases tag with
    | none => exact applyAttr_mkB {} none ns name test
    | some t => exact applyAttr_mkB {} (some t) ns name test
  rw [this, C01Parse.implB_mkB, freeze_mkB]

end NsParse
end SoupVerif
