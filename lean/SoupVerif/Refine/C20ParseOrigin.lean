/-
  WHICH pattern an error of the parser model reports.

  `Err.pattern` is the `self.pattern` of the `CSSParser` instance that raised.  `C06.err_offset_in_range`
  bounds the offset by the length of THAT text; this file says which text it is: the (NUL-replaced) pattern
  given to `compile`, or the (NUL-replaced) definition of one of the custom selectors given to `compile` —
  the nested `CSSParser(selector, custom=self.custom, …)` of `parse_pseudo_class_custom` reports against
  the definition it parses.  Proved as an instance (`originRules`) of the rules of the parser's recursion
  (`run_rules`, `Lemmas/ParserProgress/Rules.lean`), with the invariant "the source texts still in the custom map
  are among those of the map given".
-/
import SoupVerif.Properties.C06
namespace SoupVerif
namespace Refine
namespace C20Parse
open Rx SoupVerif.Parser ParserProgress

/-- The (NUL-replaced) source texts of the not yet compiled entries. -/
def srcs : Custom → List Str
  | [] => []
  | e :: c => (match e.2 with | .src t => [nulFix t] | .compiled _ => []) ++ srcs c

theorem mem_srcs {c : Custom} {x : Str} :
    x ∈ srcs c ↔ ∃ e ∈ c, ∃ t, e.2 = .src t ∧ x = nulFix t := by
  induction c with
  | nil => exact ⟨fun h => (nomatch h), fun ⟨_, he, _⟩ => (nomatch he)⟩
  | cons e c ih =>
    obtain ⟨k, v⟩ := e
    rw [srcs, List.mem_append, ih]
    constructor
    · rintro (h | ⟨e, he, h⟩)
      · cases v with
        | src t => exact ⟨_, List.mem_cons_self .., t, rfl, List.mem_singleton.mp h⟩
        | compiled l => nomatch h
      · exact ⟨e, List.mem_cons_of_mem _ he, h⟩
    · rintro ⟨e, he, t, ht, hx⟩
      rcases List.mem_cons.mp he with rfl | he
      · left
        show x ∈ (match v with | .src t => [nulFix t] | .compiled _ => [])
        rw [show v = .src t from ht]
        exact List.mem_singleton.mpr hx
      · exact Or.inr ⟨e, he, t, ht, hx⟩

theorem srcs_erase_sub (c : Custom) (k : Str) : ∀ x ∈ srcs (c.erase k), x ∈ srcs c := by
  intro x hx
  obtain ⟨e, he, h⟩ := mem_srcs.mp hx
  exact mem_srcs.mpr ⟨e, (List.mem_filter.mp he).1, h⟩

theorem srcs_get_src (c : Custom) (k t : Str) (h : c.get? k = some (.src t)) : nulFix t ∈ srcs c := by
  obtain ⟨e, hf, he⟩ := Option.map_eq_some_iff.mp h
  exact mem_srcs.mpr ⟨e, List.mem_of_find?_eq_some hf, t, he, rfl⟩

theorem mem_set {c : Custom} {k : Str} {v : CustomVal} {e : Str × CustomVal} (he : e ∈ c.set k v) :
    e ∈ c ∨ e = (k, v) := by
  unfold Custom.set at he
  split at he
  · obtain ⟨e', he', rfl⟩ := List.mem_map.mp he
    by_cases hk : (e'.1 == k) = true
    · rw [if_pos hk]; exact Or.inr rfl
    · rw [if_neg hk]; exact Or.inl he'
  · rcases List.mem_append.mp he with h | h
    · exact Or.inl h
    · exact Or.inr (List.mem_singleton.mp h)

theorem srcs_set_compiled_sub (c : Custom) (k : Str) (l : SelList) :
    ∀ x ∈ srcs (c.set k (.compiled l)), x ∈ srcs c := by
  intro x hx
  obtain ⟨e, he, t, ht, hxt⟩ := mem_srcs.mp hx
  rcases mem_set he with h | rfl
  · exact mem_srcs.mpr ⟨e, h, t, ht, hxt⟩
  · cases ht

theorem srcs_set_src (c : Custom) (k v : Str) :
    ∀ x ∈ srcs (c.set k (.src v)), x = nulFix v ∨ x ∈ srcs c := by
  intro x hx
  obtain ⟨e, he, t, ht, hxt⟩ := mem_srcs.mp hx
  rcases mem_set he with h | rfl
  · exact Or.inr (mem_srcs.mpr ⟨e, h, t, ht, hxt⟩)
  · cases ht; exact Or.inl hxt

/-- The error names the pattern being parsed or a definition still in the map. -/
def From (pattern : Str) (c : Custom) (e : Err) : Prop := e.pattern = pattern ∨ e.pattern ∈ srcs c

/-- Of a run of `parseSelectors` on `pattern` under the map `c` (the `PS` of `originRules`): an error comes `From` the
    pattern or `c`; the map returned holds no definition text that `c` does not hold. -/
def SelPostO (pattern : Str) (c : Custom) : M SelRes → Prop
  | .error e => From pattern c e
  | .ok (_, _, c') => ∀ x ∈ srcs c', x ∈ srcs c

/-- The same of a run of `parseLoop` from the state `s` (the `PL` of `originRules`), with the bound on `index` the error
    sites read. -/
def LoopPostO (pattern : Str) (s : LS) : M LS → Prop
  | .error e => From pattern s.custom e
  | .ok s' => s'.index ≤ pattern.length ∧ ∀ x ∈ srcs s'.custom, x ∈ srcs s.custom

theorem LoopPostO.weaken {pattern : Str} {s s' : LS} {r : M LS} (h : LoopPostO pattern s' r)
    (hc : ∀ x ∈ srcs s'.custom, x ∈ srcs s.custom) : LoopPostO pattern s r := by
  rcases r with e | s''
  · rcases h with h | h
    · exact Or.inl h
    · exact Or.inr (hc _ h)
  · exact ⟨h.1, fun x hx => hc x (h.2 x hx)⟩

section
variable (env : CharEnv) (L : Lexicon) (B : Builtins)

/-- The origin of errors as an instance of the rules of the parser's recursion: an error names the pattern being
    parsed or a definition still in the map, and the map never gains a source text. -/
theorem originRules : Rules env L B ParseCost.unitWeight (fun pattern _ _ _ c r _ => SelPostO pattern c r)
    (fun pattern s r _ => LoopPostO pattern s r) where
  selOut _ _ _ _ _ _ := Or.inl rfl
  loopOut _ _ _ hi := ⟨hi, fun _ hx => hx⟩
  selErr _ _ _ _ _ _ _ _ _ h := h
  selFin pattern pos idx fl c s' _ _ _ _ h := by
    show SelPostO pattern c (finishSel env L B pattern fl s')
    generalize hr : finishSel env L B pattern fl s' = r
    rcases r with e | ⟨l, p', c'⟩
    · exact Or.inl (finishSel_error h.1 hr).1
    · obtain ⟨rfl, rfl⟩ := finishSel_ok hr
      exact h.2
  stop _ _ _ hi := ⟨hi, fun _ hx => hx⟩
  raise _ _ _ _ he := Or.inl he.1
  close _ _ _ hi _ _ h2 h3 _ := ⟨h2 ▸ hi, h3 ▸ fun _ hx => hx⟩
  cont _ _ _ _ _ _ _ _ h3 _ hI := hI.weaken (h3 ▸ fun _ hx => hx)
  nestErr _ _ _ _ _ _ _ _ _ _ hS := hS
  nestOk _ _ _ _ _ _ _ _ _ _ _ _ _ _ _ _ k3 _ hS hI := hI.weaken (k3 ▸ hS)
  customErr _ s _ pseudo text _ _ _ _ _ hget _ hS :=
    Or.inr (hS.elim (· ▸ srcs_get_src s.custom pseudo text hget) (srcs_erase_sub s.custom pseudo _))
  customOk _ s _ pseudo _ _ l _ c' _ _ _ _ _ _ _ _ _ _ k3 _ hS hI := by
    refine hI.weaken ?_
    rw [k3]
    exact fun y hy => srcs_erase_sub s.custom pseudo y (hS y (srcs_set_compiled_sub c' pseudo l y hy))

theorem invO_all (hL : LexOK L) (f : Nat) (pattern : Str) (pos idx fl : Nat) (c : Custom)
    (hp : pos ≤ pattern.length) (hi : idx ≤ pattern.length) :
    SelPostO pattern c (parseSelectors env L B pattern f pos idx fl c) :=
  ((run_rules hL (originRules env L B) f).1 pattern pos idx fl c hp hi).2

end

theorem foldlM_customStep_srcs (env : CharEnv) (L : Lexicon) :
    ∀ (custom : List (Str × Str)) (acc c : Custom), custom.foldlM (customStep env L) acc = .ok c →
      ∀ x ∈ srcs c, x ∈ srcs acc ∨ ∃ kv ∈ custom, x = nulFix kv.2
  | [], acc, c, h => by
    simp only [List.foldlM_nil] at h
    cases h
    exact fun x hx => Or.inl hx
  | kv :: rest, acc, c, h => by
    rw [List.foldlM_cons] at h
    generalize hstep : customStep env L acc kv = r at h
    rcases r with e | acc'
    · cases h
    · have ih := foldlM_customStep_srcs env L rest acc' c h
      intro x hx
      have hacc' : ∀ y ∈ srcs acc', y = nulFix kv.2 ∨ y ∈ srcs acc := by
        unfold customStep at hstep
        simp only [] at hstep
        split at hstep
        · cases hstep
        · split at hstep
          · cases hstep
          · cases hstep
            exact srcs_set_src acc _ kv.2
      rcases ih x hx with h1 | ⟨kv', hm, rfl⟩
      · rcases hacc' x h1 with h2 | h2
        · exact Or.inr ⟨kv, List.mem_cons_self .., h2⟩
        · exact Or.inl h2
      · exact Or.inr ⟨kv', List.mem_cons_of_mem _ hm, rfl⟩

theorem processCustom_srcs {env : CharEnv} {L : Lexicon} {custom : List (Str × Str)} {c : Custom}
    (h : processCustom env L custom = .ok c) : ∀ x ∈ srcs c, ∃ kv ∈ custom, x = nulFix kv.2 := by
  intro x hx
  rw [processCustom_eq] at h
  rcases foldlM_customStep_srcs env L custom [] c h x hx with h1 | h1
  · simp [srcs] at h1
  · exact h1

/-- **Which text an error of `compile` is reported against.**  Either it is one of the two
    `process_custom` errors (raised without a pattern: empty pattern, offset 0 in the model), or it is a
    parser error and its pattern is the NUL-replaced pattern given to `compile` or the NUL-replaced
    definition of one of the custom selectors given to `compile`. -/
theorem compile_error_origin (env : CharEnv) (B : Builtins) (pattern : Str) (custom : List (Str × Str))
    (flags : Nat) {e : Err} (h : compile env Gen.lexicon B pattern custom flags = .error e) :
    ((e.kind = .badCustomName ∨ e.kind = .customCollision) ∧ e.pattern = [] ∧ e.offset = 0) ∨
    ((e.kind ≠ .badCustomName ∧ e.kind ≠ .customCollision) ∧
      (e.pattern = nulFix pattern ∨ ∃ kv ∈ custom, e.pattern = nulFix kv.2)) := by
  rcases C06.compile_error_cases env B pattern custom flags h with hc | ⟨c, hc, hp⟩
  · exact Or.inl (processCustom_error hc)
  · right
    have hs := startIndex_le ⟨env, Gen.lexicon, B, nulFix pattern⟩
    refine ⟨(C06.parseSelectors_no_pybug env B flags hs (Nat.zero_le _)
      (C06.allotted_ge_need env Gen.lexicon B pattern custom hc) hp).2, ?_⟩
    have := invO_all env Gen.lexicon B C06.lexicon_ok (C06.allotted pattern custom)
      (nulFix pattern) (startIndex ⟨env, Gen.lexicon, B, nulFix pattern⟩) 0 flags c hs (Nat.zero_le _)
    rw [hp] at this
    rcases this with h1 | h1
    · exact Or.inl h1
    · exact Or.inr (processCustom_srcs hc _ h1)

end C20Parse
end Refine
end SoupVerif

#print axioms SoupVerif.Refine.C20Parse.invO_all
#print axioms SoupVerif.Refine.C20Parse.compile_error_origin
