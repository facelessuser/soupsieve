/-
  Custom selectors `:--name`: the `pseudo_class_custom` token, what the parser loop does with it (look-up
  in the custom map; a source text is compiled — with the name removed from the map — and memoised).  The facts
  about `Custom.get?` / `erase` / `set` that the invariant of the map needs are in `Lemmas/ParserProgress/CustomMap.lean`.
-/
import SoupVerif.Refine.CompilePseudo
import SoupVerif.Lemmas.ParserProgress.Dispatch
import SoupVerif.Lemmas.ParserProgress.CustomMap
namespace SoupVerif
namespace Refine
namespace Compile
open Rx RxBasic SoupVerif.Parser ParserProgress Escape Spelling
open Ident (rxHead rxStar contStep contLen IdentFold)

variable (s : Str)

/-- The `pseudo_class_custom` token on `:--name`: behind the colon the look-ahead sees the two dashes. -/
theorem custom_reads {forms : List (Nat × EscForm)} {r : Str}
    (hv : validForms ((45, .lit) :: (45, .lit) :: forms) r = true)
    (hh : headOk ((45, .lit) :: (45, .lit) :: forms) = true) (hr : ¬ continuesIdent r) :
    Reads pyFoldEnv Gen.tok_pseudo_class_custom (58 :: renderIdentWith ((45, .lit) :: (45, .lit) :: forms)) r
      [(1, 58 :: renderIdentWith ((45, .lit) :: (45, .lit) :: forms))] := by
  rw [tok_custom_shape]
  refine Reads.group 1 (Reads.seq (ReadsSeq.cons_plain (Reads.lit 58 _)
    (ReadsSeq.skip (fun s p c _ hd => ?_) (ReadsSeq.of_seq (Reads.ident hv hh hr))))) (keys_ne rfl)
  have hd' : s.drop p = 45 :: 45 :: (renderIdentWith forms ++ r) := by
    rw [hd]; simp [SpellingLemmas.renderIdentWith_cons, renderForm]
  have hlook : runs pyFoldEnv s (.look true false (.seq [.lit 45 true, .lit 45 true])) p c = [(p, c)] := by
    rw [runs, runs_seq, lit_ok pyFoldEnv s 45 _ p c (getElem?_of_drop_cons hd'),
      lit_ok pyFoldEnv s 45 _ (p + 1) c (getElem?_of_drop_cons (RxBasic.drop_succ_of_drop_cons hd')), runsSeq_nil]
    rfl
  rw [RxBasic.runsSeq_cons, hlook]
  simp

variable (B : Builtins)

/-- The tokenizer at `:--name` (no `(` behind it): the token, where it ends, and the key its name decodes to. -/
theorem nextToken_custom {i : Nat} {forms : List (Nat × EscForm)} {r : Str}
    (hd : s.drop i = 58 :: (renderIdentWith ((45, .lit) :: (45, .lit) :: forms) ++ r))
    (hv : validForms ((45, .lit) :: (45, .lit) :: forms) r = true)
    (hh : headOk ((45, .lit) :: (45, .lit) :: forms) = true) (hr : ¬ continuesIdent r)
    (h40 : r.head? ≠ some 40) (hcp : ∀ p ∈ (45, EscForm.lit) :: (45, .lit) :: forms, rangeOk p.1 p.2 = true) :
    ∃ t : Token, nextToken (penv B s) i = .ok (some t) ∧ t.name = "pseudo_class_custom" ∧ s.drop t.stop = r ∧
      lower (Parser.cssUnescape pyFoldEnv Gen.lexicon ((t.group (penv B s) "name").getD [])) =
        58 :: lower (valueOf ((45, .lit) :: (45, .lit) :: forms)) := by
  have hd' : s.drop i = (58 :: renderIdentWith ((45, .lit) :: (45, .lit) :: forms)) ++ r := hd
  obtain ⟨caps, hm, hg⟩ := (custom_reads hv hh hr).matchAt (Nat.le_of_lt (lt_of_drop_cons hd)) hd'
  refine ⟨Token.mk "pseudo_class_custom" customRx i _ caps, ?_, rfl, drop_add_of_drop_append hd',
    colon_name B s hv hcp (hg _ "name")⟩
  rw [nextToken_noGap B s hd (by simp [noGapStart, isCssWs]), matchToken_at_colon s B (getElem?_of_drop_cons hd),
    specialTok_none s (special_name_none s hd hv hh hr h40), hm]
  rfl

section Loop
variable (env : CharEnv) (L : Lexicon) (pattern : Str) (fuel flags : Nat) (st : LS) (t : Token)

theorem parseLoop_custom_compiled (h : nextToken ⟨env, L, B, pattern⟩ st.pos = .ok (some t))
    (hk : t.name = "pseudo_class_custom") (l : SelList)
    (hget : st.custom.get? (lower (Parser.cssUnescape env L ((t.group ⟨env, L, B, pattern⟩ "name").getD []))) =
      some (.compiled l)) :
    parseLoop env L B pattern (fuel + 1) flags st =
      parseLoop env L B pattern fuel flags
        { st with pos := t.stop, sel := st.sel.addSub l, hasSelector := true, index := t.stop } := by
  rw [ParseDisp.parseLoop_token _ _ _ _ _ _ _ t h, hk]
  simp only [ParseDisp.modelAction_keys, ParseDisp.runAction, ParseDisp.runCall_custom, hget]
  rfl

theorem parseLoop_custom_src (h : nextToken ⟨env, L, B, pattern⟩ st.pos = .ok (some t))
    (hk : t.name = "pseudo_class_custom") (key text : Str)
    (hkey : lower (Parser.cssUnescape env L ((t.group ⟨env, L, B, pattern⟩ "name").getD [])) = key)
    (hget : st.custom.get? key = some (.src text))
    (l : SelList) (p : Nat) (cu : Custom)
    (hsub : parseSelectors env L B (text.map (fun c => if c == 0 then 0xFFFD else c)) fuel
      (startIndex ⟨env, L, B, text.map (fun c => if c == 0 then 0xFFFD else c)⟩) 0 FLG_PSEUDO
      (st.custom.erase key) = .ok (l, p, cu)) :
    parseLoop env L B pattern (fuel + 1) flags st =
      parseLoop env L B pattern fuel flags
        { st with pos := t.stop, sel := st.sel.addSub l, hasSelector := true, index := t.stop,
                  custom := cu.set key (.compiled l) } := by
  rw [ParseDisp.parseLoop_token _ _ _ _ _ _ _ t h, hk]
  simp only [ParseDisp.modelAction_keys, ParseDisp.runAction, ParseDisp.runCall_custom, hkey, hget, runStep, hsub]

end Loop

end Compile
end Refine
end SoupVerif

#print axioms SoupVerif.Refine.Compile.custom_reads
#print axioms SoupVerif.Refine.Compile.nextToken_custom
#print axioms SoupVerif.Refine.Compile.parseLoop_custom_src
