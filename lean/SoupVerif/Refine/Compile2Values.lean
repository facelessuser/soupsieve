/-
  Value lists `VALUE (WSC* , WSC* VALUE)*` of `:lang(…)`, `:contains(…)`, `:-soup-contains(…)`,
  `:-soup-contains-own(…)`: the tokens `pseudo_lang` / `pseudo_contains` (one regular
  expression, reached through the `special` slot) on a spelled value list (`SValues`, `Refine/Syntax.lean`): the token reads the whole list
  (`values_reads`, `lang_reads`).  Of `RE_VALUES` only the shape of the regenerated `Gen.cp_RE_VALUES` is here; `RE_VALUES.finditer`
  on the text of the `values` group is `Refine/Compile2ValuesStep.lean`.
-/
import SoupVerif.Refine.CompileAttrStep
import SoupVerif.Refine.CompilePseudo
namespace SoupVerif
namespace Refine
namespace Compile
open Rx RxBasic SoupVerif.Parser ParserProgress Escape Spelling
open Wsc (gapRx unitEnd wsEnd commentEnd gapEnd)
open Ident (rxHead rxStar contStep contLen IdentFold)
open C09Compile (SValue identOK)


theorem validForms_head (f : List (Nat × EscForm)) (r r' : Str) (h : r.head? = r'.head?) :
    validForms f r = validForms f r' := by
  induction f with
  | nil => rfl
  | cons p rest ih =>
    obtain ⟨c, fm⟩ := p
    rw [SpellingLemmas.validForms_cons, SpellingLemmas.validForms_cons, ih]
    congr 2
    cases hr : renderIdentWith rest with
    | nil => simpa using h
    | cons y ys => simp

theorem continuesIdent_head (r r' : Str) (h : r.head? = r'.head?) : continuesIdent r = continuesIdent r' := by
  cases r <;> cases r' <;> simp [continuesIdent] at h ⊢
  subst h; rfl

theorem svalue_ok_head (v : SValue) (r r' : Str) (h : r.head? = r'.head?) (hok : v.ok r) : v.ok r' := by
  cases v with
  | ident f =>
    obtain ⟨⟨hv, hh, hcp⟩, hr⟩ := hok
    exact ⟨⟨by rw [← validForms_head f r r' h]; exact hv, hh, hcp⟩,
      by rw [← continuesIdent_head r r' h]; exact hr⟩
  | str q ps => exact hok

theorem svalue_ok_nil (v : SValue) (r : Str) (hok : v.ok r) : v.ok [] := by
  cases v with
  | ident f =>
    obtain ⟨⟨hv, hh, hcp⟩, _⟩ := hok
    exact ⟨⟨SpellingLemmas.validForms_nil_of f r hv, hh, hcp⟩, by simp [continuesIdent]⟩
  | str q ps => exact hok

theorem renderVRest_head (rest : List (Str × Str × SValue)) (hne : rest ≠ []) (r : Str) :
    (renderVRest rest ++ r).head? = (renderVRest rest ++ []).head? := by
  cases rest with
  | nil => exact absurd rfl hne
  | cons x rest =>
    cases hx : x.1 with
    | nil => simp [renderVRest, hx]
    | cons y ys => simp [renderVRest, hx]

theorem svalue_ok_ctx (v : SValue) (rest : List (Str × Str × SValue)) (r : Str)
    (hok : v.ok (renderVRest rest ++ r)) : v.ok (renderVRest rest ++ []) := by
  by_cases hne : rest = []
  · subst hne; exact svalue_ok_nil v _ hok
  · exact svalue_ok_head v _ _ (renderVRest_head rest hne r) hok

theorem vrestOK_nil : ∀ (rest : List (Str × Str × SValue)) (r : Str), vrestOK rest r → vrestOK rest []
  | [], _, _ => trivial
  | x :: rest, r, h => ⟨h.1, h.2.1, svalue_ok_ctx x.2.2 rest r h.2.2.1, vrestOK_nil rest r h.2.2.2⟩

theorem SValues.ok_nil (V : SValues) (r : Str) (h : V.ok r) : V.ok [] :=
  ⟨svalue_ok_ctx V.first V.rest r h.1, vrestOK_nil V.rest r h.2⟩

def vSep : Rx := .seq [gapRx true, .lit 44 true, gapRx true]
def vBody : Rx := .seq [gapRx true, .lit 44 true, gapRx true, rxValue]
def rxValues : Rx := .group 3 (.seq [rxValue, .rep 0 none true vBody])

theorem tok_lang_shape :
    Gen.tok_pseudo_lang = .seq [.group 1 rxColonIdent, rxOpen, rxValues, gapRx true, .lit 41 true] := rfl
theorem tok_contains_shape :
    Gen.tok_pseudo_contains = .seq [.group 1 rxColonIdent, rxOpen, rxValues, gapRx true, .lit 41 true] := rfl
theorem re_values_shape : Gen.cp_RE_VALUES = .alt [.group 1 rxValue, .group 2 vSep] := rfl

section
variable (s : Str)

theorem unit_start_ne {j x : Nat} (h : (unitEnd s j).isSome = true) (hx : isCssWs x = false ∧ x ≠ 47) :
    s[j]? ≠ some x := by
  obtain ⟨y, hy, h'⟩ := unit_start_char h
  rw [hy]
  intro e; cases e
  rcases h' with h' | h'
  · rw [hx.1] at h'; cases h'
  · exact hx.2 h'

theorem fail_lit44 (rs : List Rx) (j : Nat) (c : Caps) (h : (unitEnd s j).isSome = true) :
    runsSeq pyFoldEnv s (.lit 44 true :: rs) j c = [] :=
  lit_fail Ident.identFold_py s 44 (by omega) rs j c (unit_start_ne s h (by decide))

/-- One `gap , gap value` unit of a value list. -/
def vItem (x : Str × Str × SValue) : Str := x.1 ++ 44 :: (x.2.1 ++ x.2.2.render)

theorem vbody_reads (x : Str × Str × SValue) {T : Str} (hgl : isGap x.1) (hgr : isGap x.2.1) (hv : x.2.2.ok T) :
    Reads pyFoldEnv vBody (vItem x) T [] :=
  Reads.seq (ReadsSeq.cons_plain (Reads.gap hgl (by simp [noGapStart, isCssWs]))
    (ReadsSeq.cons_plain (Reads.lit 44 _)
      (ReadsSeq.cons_plain (Reads.gap hgr (x.2.2.render_noGap _ _ hv)) (ReadsSeq.single (x.2.2.reads T hv)))))

theorem vbody_nil {p : Nat} {g R : Str} (c : Caps) (hd : s.drop p = g ++ 41 :: R) (hg : isGap g) :
    runs pyFoldEnv s vBody p c = [] := by
  have hpl : p ≤ s.length := Nat.le_of_lt (lt_of_drop_append_cons hd)
  unfold vBody
  rw [runs_seq,
    gap_then_drop s c _ hd hg (by simp [noGapStart, isCssWs])
      (fun j c' hj => fail_lit44 s _ j c' hj)]
  exact lit_fail Ident.identFold_py s 44 (by omega) _ _ c
    (by rw [getElem?_of_drop_cons (drop_add_of_drop_append hd)]; simp)

theorem vrest_length_pos (x : Str × Str × SValue) (rest : List (Str × Str × SValue)) :
    1 ≤ (renderVRest (x :: rest)).length := by
  simp [renderVRest]; omega

theorem flatten_vItems : ∀ rest : List (Str × Str × SValue), (rest.map vItem).flatten = renderVRest rest
  | [] => rfl
  | x :: rest => by simp [vItem, renderVRest, flatten_vItems rest]

/-- Every unit of the spelled rest of a list is read by `WSC*,WSC*VALUE` in front of the units behind it. -/
theorem vItems_read (R : Str) : ∀ rest : List (Str × Str × SValue), vrestOK rest R →
    ∀ pre x post, rest.map vItem = pre ++ x :: post →
      x ≠ [] ∧ Reads pyFoldEnv vBody x (post.flatten ++ R) []
  | [], _, pre, x, post, e => by cases pre <;> cases e
  | y :: ys, hok, [], x, post, e => by
    obtain ⟨hgl, hgr, hv, _⟩ := hok
    obtain ⟨rfl, rfl⟩ := List.cons.inj e
    refine ⟨by simp [vItem], ?_⟩
    rw [flatten_vItems]
    exact vbody_reads y hgl hgr hv
  | y :: ys, hok, z :: pre, x, post, e =>
    vItems_read R ys hok.2.2.2 pre x post (List.cons.inj e).2

/-- The `values` group on a spelled value list in front of `gap )`: the first value, then the greedy loop takes
    every further unit and stops in front of the gap, where no `,` follows. -/
theorem values_reads (V : SValues) {g R : Str} (hok : V.ok (g ++ 41 :: R)) (hg : isGap g) :
    Reads pyFoldEnv rxValues V.render ((g ++ [41]) ++ R) [(3, V.render)] := by
  have hr : V.render = V.first.render ++ (V.rest.map vItem).flatten := by rw [flatten_vItems]; rfl
  have hT : (g ++ [41]) ++ R = g ++ 41 :: R := by simp
  rw [hr, hT]
  exact Reads.group 3 (Reads.seq (ReadsSeq.cons_plain
    (V.first.reads _ (by simpa [flatten_vItems] using hok.1))
    (ReadsSeq.single (Reads.star (V.rest.map vItem) (vItems_read _ V.rest hok.2)
      (fun s p c _ hd => vbody_nil s c hd hg))))) (keys_ne rfl)

/-- The token `pseudo_lang` / `pseudo_contains` (the same expression) on `:name( gap values gap )`. -/
theorem lang_reads {forms : List (Nat × EscForm)} {g₁ g₂ R : Str} (V : SValues)
    (hv : validForms forms (40 :: (g₁ ++ (V.render ++ (g₂ ++ 41 :: R)))) = true) (hh : headOk forms = true)
    (hg₁ : isGap g₁) (hg₂ : isGap g₂) (hV : V.ok (g₂ ++ 41 :: R)) :
    Reads pyFoldEnv Gen.tok_pseudo_lang
      ((58 :: renderIdentWith forms) ++ ((40 :: g₁) ++ (V.render ++ (g₂ ++ [41])))) R
      [(1, 58 :: renderIdentWith forms), (2, 40 :: g₁), (3, V.render)] := by
  rw [tok_lang_shape]
  exact Reads.seq
    (ReadsSeq.cons
      (Reads.group 1 (Reads.prefixed 58 (by simpa using hv) hh (by simp [continuesIdent, identContChar]))
        (keys_ne rfl))
      (ReadsSeq.cons
        (open_reads 2 hg₁ (by
          have := V.first.render_noGap _ (renderVRest V.rest ++ (g₂ ++ 41 :: R)) hV.1
          simpa [SValues.render] using this))
        (ReadsSeq.cons_tail (values_reads V hV hg₂)
          (ReadsSeq.cons_plain (Reads.gap hg₂ (by simp [noGapStart, isCssWs])) (ReadsSeq.single (Reads.lit 41 R))))
        (keys_disjoint rfl))
      (keys_disjoint rfl))

end

end Compile
end Refine
end SoupVerif

#print axioms SoupVerif.Refine.Compile.values_reads
#print axioms SoupVerif.Refine.Compile.lang_reads
