/-
  The white-space unit of the source's `{WS}` (`[ \t]`, or a newline: `\r\n` as one unit, else one of `\n \f \r`) as a
  scanner of texts in the calculus of `Lemmas/RxDet.lean`: `scans_nl`, `scans_ws` (scanner `wsUnit`, in terms of
  `Escape.wsLen`), and `scans_wsOpt` for `(?:WS|(?![ \t\r\n\f]))`, the end of a hexadecimal escape.  The terms carry
  the IGNORECASE flag `ic` as a parameter; case folding does not touch these characters (`fold_beq`, `itemHas_ch`).
-/
import SoupVerif.Refine.Fold
import SoupVerif.Spec.Spelling
import SoupVerif.Lemmas.RxDet
namespace SoupVerif
namespace Refine
namespace Wsc
open Rx RxBasic Escape Spelling

theorem fold_beq {env : CharEnv} (h : CaseFree env) {c : Nat} (hc : c < 65) (x : Nat) :
    (env.fold x == env.fold c) = (x == c) := by
  have := h c x hc
  by_cases hx : x = c
  · subst hx; rw [beq_self_eq_true, beq_self_eq_true]
  · have h2 : ¬ env.fold x = env.fold c := fun e => hx (this.1 e)
    rw [beq_eq_false_iff_ne.mpr h2, beq_eq_false_iff_ne.mpr hx]

theorem itemHas_ch {env : CharEnv} (ic : Bool) (h : ic = true → CaseFree env) {a : Nat} (ha : a < 65)
    (x : Nat) : itemHas env ic x (.ch a) = (x == a) := by
  cases ic
  · show (a == x) = (x == a); exact BEq.comm
  · show (env.fold a == env.fold x) = (x == a); rw [← fold_beq (h rfl) ha x]; exact BEq.comm

/-- `\r\n` -/
def crlfRx (ic : Bool) : Rx := .seq [.lit 13 ic, .lit 10 ic]

/-- `NEWLINE = (?:\r\n|(?!\r\n)[\n\f\r])`, the second alternative of `WS` -/
def nlRx (ic : Bool) : Rx :=
  .alt [crlfRx ic, .seq [.look true true (crlfRx ic), .set false [.ch 10, .ch 12, .ch 13] ic]]

/-- `WS = (?:[ \t]|(?:\r\n|(?!\r\n)[\n\f\r]))` -/
def wsRx (ic : Bool) : Rx :=
  .alt [.set false [.ch 32, .ch 9] ic,
    .alt [crlfRx ic, .seq [.look true true (crlfRx ic), .set false [.ch 10, .ch 12, .ch 13] ic]]]

section
variable {env : CharEnv} (ic : Bool) (hcf : ic = true → CaseFree env) (s : Str)
include hcf

theorem isChar_litc {c : Nat} (hc : c < 65) : IsChar env s (.lit c ic) (fun x => x == c) := by
  refine isChar_congr (isChar_lit env s c ic) ?_
  intro x; cases ic
  · rfl
  · exact fold_beq (hcf rfl) hc x

theorem isChar_blank : IsChar env s (.set false [.ch 32, .ch 9] ic) (fun x => x == 32 || x == 9) := by
  refine isChar_congr (isChar_set env s _ _ ic) ?_
  intro x
  simp only [setHas, List.any_cons, List.any_nil, itemHas_ch ic hcf (show 32 < 65 by omega),
    itemHas_ch ic hcf (show 9 < 65 by omega)]
  cases (x == 32) <;> cases (x == 9) <;> rfl

theorem isChar_nl : IsChar env s (.set false [.ch 10, .ch 12, .ch 13] ic)
    (fun x => x == 10 || x == 12 || x == 13) := by
  refine isChar_congr (isChar_set env s _ _ ic) ?_
  intro x
  simp only [setHas, List.any_cons, List.any_nil, itemHas_ch ic hcf (show 10 < 65 by omega),
    itemHas_ch ic hcf (show 12 < 65 by omega), itemHas_ch ic hcf (show 13 < 65 by omega)]
  cases (x == 10) <;> cases (x == 12) <;> cases (x == 13) <;> rfl

theorem isChar_wsSet : IsChar env s (.set false [.ch 32, .ch 9, .ch 13, .ch 10, .ch 12] ic) isCssWs := by
  refine isChar_congr (isChar_set env s _ _ ic) ?_
  intro x
  simp only [setHas, List.any_cons, List.any_nil, itemHas_ch ic hcf (show 32 < 65 by omega),
    itemHas_ch ic hcf (show 9 < 65 by omega), itemHas_ch ic hcf (show 13 < 65 by omega),
    itemHas_ch ic hcf (show 10 < 65 by omega), itemHas_ch ic hcf (show 12 < 65 by omega), isCssWs,
    Bool.or_false, Bool.bne_false, Bool.or_assoc]

end

theorem crlf_beq_false {x : Nat} {o : Option Nat} (hc : ¬ (x = 13 ∧ o = some 10)) :
    (x == 13 && o == some 10) = false := by
  rw [Bool.and_eq_false_iff]
  by_cases hx : x = 13
  · right; simpa using fun h => hc ⟨hx, h⟩
  · left; simpa using hx

/-- `\r\n` at the head of a text. -/
def crlfLen : Str → Option Nat
  | [] => none
  | c :: cs => if (c == 13 && cs.head? == some 10) = true then some 2 else none

/-- The `NEWLINE` unit at the head of a text: `\r\n` as one unit, else one of `\n`, `\f`, `\r`. -/
def nlUnit : Str → Option Nat
  | [] => none
  | c :: cs => if (c == 10 || c == 13 || c == 12) = true then some (wsLen (c :: cs)) else none

/-- The `WS` unit at the head of a text. -/
def wsUnit (t : Str) : Option Nat := if wsLen t = 0 then none else some (wsLen t)

theorem crlfLen_cons (c : Nat) (cs : Str) :
    crlfLen (c :: cs) = if (c == 13 && cs.head? == some 10) = true then some 2 else none := rfl

theorem nlUnit_cons (c : Nat) (cs : Str) :
    nlUnit (c :: cs) = if (c == 10 || c == 13 || c == 12) = true then some (wsLen (c :: cs)) else none := rfl

theorem crlfLen_some {c n : Nat} {cs : Str} (h : crlfLen (c :: cs) = some n) : c = 13 ∧ cs.head? = some 10 := by
  rw [crlfLen_cons] at h
  split at h
  · rename_i hc; simpa using hc
  · cases h

theorem crlfLen_none {c : Nat} {cs : Str} (h : crlfLen (c :: cs) = none) : ¬ (c = 13 ∧ cs.head? = some 10) := by
  rintro ⟨rfl, h10⟩
  rw [crlfLen_cons, h10] at h; cases h

theorem nl_comm (c : Nat) : (c == 10 || c == 13 || c == 12) = (c == 10 || c == 12 || c == 13) := by
  cases (c == 10) <;> cases (c == 13) <;> cases (c == 12) <;> rfl

theorem isCssWs_of_nl {c : Nat} (h : (c == 10 || c == 12 || c == 13) = true) : isCssWs c = true := by
  simp only [isCssWs, Bool.or_eq_true, beq_iff_eq] at h ⊢; omega

theorem isCssWs_of_blank {c : Nat} (h : (c == 32 || c == 9) = true) : isCssWs c = true := by
  simp only [isCssWs, Bool.or_eq_true, beq_iff_eq] at h ⊢; omega

theorem not_nl_of_blank {c : Nat} (h : (c == 32 || c == 9) = true) : (c == 10 || c == 13 || c == 12) = false := by
  simp only [Bool.or_eq_true, beq_iff_eq] at h
  simp only [Bool.or_eq_false_iff, beq_eq_false_iff_ne]; omega

theorem not_ws_of {c : Nat} (hb : (c == 32 || c == 9) = false) (hn : (c == 10 || c == 13 || c == 12) = false) :
    isCssWs c = false := by
  simp only [Bool.or_eq_false_iff, beq_eq_false_iff_ne] at hb hn
  simp only [isCssWs, Bool.or_eq_false_iff, beq_eq_false_iff_ne]; omega

theorem wsLen_crlf (cs : Str) (h : cs.head? = some 10) : wsLen (13 :: cs) = 2 := by
  rw [wsLen, h]; rfl

theorem wsLen_ws {c : Nat} (cs : Str) (hw : isCssWs c = true) (hc : ¬ (c = 13 ∧ cs.head? = some 10)) :
    wsLen (c :: cs) = 1 := by
  rw [wsLen, crlf_beq_false hc, hw]; rfl

theorem wsLen_cons_not {c : Nat} (cs : Str) (hw : isCssWs c = false) : wsLen (c :: cs) = 0 := by
  have hc : ¬ (c = 13 ∧ cs.head? = some 10) := by rintro ⟨rfl, _⟩; cases hw
  rw [wsLen, crlf_beq_false hc, hw]; rfl

theorem wsLen_pos {c : Nat} (cs : Str) (hw : isCssWs c = true) : wsLen (c :: cs) ≠ 0 := by
  by_cases hc : c = 13 ∧ cs.head? = some 10
  · obtain ⟨rfl, h10⟩ := hc; rw [wsLen_crlf cs h10]; exact Nat.succ_ne_zero 1
  · rw [wsLen_ws cs hw hc]; exact Nat.succ_ne_zero 0

section
variable {env : CharEnv} (ic : Bool) (hcf : ic = true → CaseFree env) (s : Str)
include hcf

theorem scans_litc {c : Nat} (hc : c < 65) : Scans env (.lit c ic) (charLen (· == c)) :=
  .char fun s => isChar_litc ic hcf s hc

theorem scans_crlf : Scans env (crlfRx ic) crlfLen := by
  refine ((scans_litc ic hcf (show 13 < 65 by omega)).seq_cons
    ((scans_litc ic hcf (show 10 < 65 by omega)).seq_cons (Scans.seq_nil env))).congr ?_
  rintro (_ | ⟨c, cs⟩)
  · rfl
  · cases hc : (c == 13) with
    | false => rw [andThen_none (by rw [charLen_cons, hc]; rfl), crlfLen_cons, hc]; rfl
    | true =>
      rw [andThen_some (n := 1) (by rw [charLen_cons, hc]; rfl), List.drop_succ_cons, List.drop_zero, crlfLen_cons, hc]
      cases cs with
      | nil => rfl
      | cons d ds =>
        cases hd : (d == 10) with
        | false => rw [andThen_none (by rw [charLen_cons, hd]; rfl)]; simp [hd]
        | true => rw [andThen_some (n := 1) (by rw [charLen_cons, hd]; rfl)]; simp [hd]

/-- `NEWLINE = (?:\r\n|(?!\r\n)[\n\f\r])` is the scanner `nlUnit`: the look-ahead makes the two alternatives
    exclusive, so `\r\n` is taken whole. -/
theorem scans_nl : Scans env (nlRx ic) nlUnit := by
  have hcrlf := scans_crlf ic hcf
  have hone := hcrlf.notAhead.seq_cons ((Scans.char fun s => isChar_nl ic hcf s).seq_cons (Scans.seq_nil env))
  refine (hcrlf.alt_cons (hone.alt_cons (Scans.alt_nil env) fun _ _ => rfl) ?_).congr ?_
  · intro t ht
    rw [andThen_none (by rw [ht]; rfl)]; rfl
  · rintro (_ | ⟨c, cs⟩)
    · rfl
    · cases hcr : crlfLen (c :: cs) with
      | some n =>
        obtain ⟨rfl, h10⟩ := crlfLen_some hcr
        rw [crlfLen_cons, beq_self_eq_true, Bool.true_and, h10] at hcr
        have hn : 2 = n := Option.some.inj hcr
        subst hn
        rw [nlUnit_cons, if_pos (show (13 == 10 || 13 == 13 || 13 == 12) = true from rfl), wsLen_crlf cs h10]
        rfl
      | none =>
        rw [andThen_some (n := 0) (by rw [hcr]; rfl), List.drop_zero, nlUnit_cons]
        cases hn : (c == 10 || c == 12 || c == 13) with
        | false =>
          rw [andThen_none (by rw [charLen_cons, hn]; rfl), if_neg (by rw [nl_comm, hn]; exact Bool.false_ne_true)]; rfl
        | true =>
          rw [andThen_some (n := 1) (by rw [charLen_cons, hn]; rfl), if_pos (by rw [nl_comm, hn]),
            wsLen_ws cs (isCssWs_of_nl hn) (crlfLen_none hcr)]
          rfl

theorem scans_ws : Scans env (wsRx ic) wsUnit := by
  refine ((Scans.char fun s => isChar_blank ic hcf s).alt_cons
    ((scans_nl ic hcf).alt_cons (Scans.alt_nil env) fun _ _ => rfl) ?_).congr ?_
  · rintro (_ | ⟨c, cs⟩) ht
    · cases ht
    · rw [charLen_cons] at ht
      cases hb : (c == 32 || c == 9) with
      | false => rw [hb] at ht; cases ht
      | true => rw [nlUnit_cons, if_neg (by rw [not_nl_of_blank hb]; exact Bool.false_ne_true)]; rfl
  · rintro (_ | ⟨c, cs⟩)
    · rfl
    · rw [charLen_cons, nlUnit_cons, wsUnit]
      cases hb : (c == 32 || c == 9) with
      | true => rw [wsLen_ws cs (isCssWs_of_blank hb) (fun h => by rw [h.1] at hb; cases hb)]; rfl
      | false =>
        cases hn : (c == 10 || c == 13 || c == 12) with
        | true =>
          have hpos : wsLen (c :: cs) ≠ 0 := wsLen_pos cs (isCssWs_of_nl (by rw [← nl_comm, hn]))
          rw [if_neg hpos]; rfl
        | false => rw [wsLen_cons_not cs (not_ws_of hb hn)]; rfl

/-- `(?:WS|(?![ \t\r\n\f]))`, the end of a hexadecimal escape, is the scanner that takes the white-space unit if
    there is one and nothing otherwise. -/
theorem scans_wsOpt :
    Scans env (.alt [wsRx ic, .look true true (.set false [.ch 32, .ch 9, .ch 13, .ch 10, .ch 12] ic)])
      fun t => some (wsLen t) := by
  refine ((scans_ws ic hcf).alt_cons
    ((Scans.char fun s => isChar_wsSet ic hcf s).notAhead.alt_cons (Scans.alt_nil env) fun _ _ => rfl) ?_).congr ?_
  · rintro (_ | ⟨c, cs⟩) ht
    · cases ht
    · rw [charLen_cons]
      cases hw : isCssWs c with
      | true => rfl
      | false => rw [wsUnit, wsLen_cons_not cs hw] at ht; cases ht
  · rintro (_ | ⟨c, cs⟩)
    · rfl
    · rw [wsUnit, charLen_cons]
      cases hw : isCssWs c with
      | true => rw [if_neg (wsLen_pos cs hw)]; rfl
      | false => rw [wsLen_cons_not cs hw]; rfl

end

end Wsc
end Refine
end SoupVerif
