/-
  Helpers for `Properties/C05Parse.lean`: what `C09Compile2.denote` / `SelListV.loopState` build for the COMMA
  of two selector lists (the values of `A , B` are the values of `A`, the comma, the values of `B`), in every
  non-relative mode of `parse_selectors`; and the spelled comma `commaS` with its text, values and side
  conditions.
-/
import SoupVerif.Refine.Syntax2
import SoupVerif.Refine.C01ParseSem
namespace SoupVerif
namespace C05ParseBase
open SoupVerif.Parser ParserProgress Refine.Compile Spelling
open C09Compile (SComb)
open C09Compile2
open C01Parse (implB)

/-- The values of `A , B`. -/
def commaV : SelListV → SelListV → SelListV
  | .mk a ra, .mk b rb => .mk a (ra ++ (44, b) :: rb)

/-- `A g₁ , g₂ B`: the spelled comma of two spelled lists. -/
def commaS : SSelList → Str → Str → SSelList → SSelList
  | .mk a ra, g₁, g₂, .mk b rb => .mk a (ra ++ (.sym g₁ 44 g₂, b) :: rb)

theorem renderRest_comma (ra rb : List (SComb × SCompound)) (g₁ g₂ : Str) (b : SCompound) (r : Str) :
    renderRest (ra ++ (SComb.sym g₁ 44 g₂, b) :: rb) ++ r =
      renderRest ra ++ (g₁ ++ 44 :: (g₂ ++ (b.render ++ (renderRest rb ++ r)))) := by
  simp [renderRest_append, renderRest, SComb.render]

theorem restTbl_append (Γ : Tbl) : ∀ (r₁ r₂ : List (SComb × SCompound)),
    restTbl Γ (r₁ ++ r₂) ↔ restTbl Γ r₁ ∧ restTbl Γ r₂
  | [], r₂ => by simp [restTbl]
  | x :: r₁, r₂ => by simp [restTbl, restTbl_append Γ r₁ r₂, and_assoc]

theorem commaS_value (A B : SSelList) (g₁ g₂ : Str) : (commaS A g₁ g₂ B).value = commaV A.value B.value := by
  obtain ⟨a, ra⟩ := A
  obtain ⟨b, rb⟩ := B
  simp [commaS, commaV, SSelList.value, restValue_append, restValue, SComb.value]

theorem commaS_render (A B : SSelList) (g₁ g₂ : Str) :
    (commaS A g₁ g₂ B).render = A.render ++ (g₁ ++ 44 :: g₂) ++ B.render := by
  obtain ⟨a, ra⟩ := A
  obtain ⟨b, rb⟩ := B
  simp [commaS, SSelList.render, renderRest_append, renderRest, SComb.render]

theorem commaS_tbl (Γ : Tbl) (A B : SSelList) (g₁ g₂ : Str) (hA : A.tbl Γ) (hB : B.tbl Γ) :
    (commaS A g₁ g₂ B).tbl Γ := by
  obtain ⟨a, ra⟩ := A
  obtain ⟨b, rb⟩ := B
  rw [SSelList.tbl] at hA hB
  rw [commaS, SSelList.tbl, restTbl_append]
  exact ⟨hA.1, hA.2, by rw [restTbl]; exact hB⟩

theorem restOK_comma (fl : Nat) (hrel : relOf fl = false) (g₁ g₂ : Str) (hg₁ : isGap g₁) (hg₂ : isGap g₂)
    (b : SCompound) (rb : List (SComb × SCompound)) (r : Str)
    (hb : b.ok (renderRest rb ++ r)) (hbe : b.isEmpty = true → relOf fl = true ∨ fgOf fl = true)
    (hrb : restOK fl (!b.isEmpty) rb r) :
    ∀ (ra : List (SComb × SCompound)) (x : Bool),
      restOK fl x ra (g₁ ++ 44 :: (g₂ ++ (b.render ++ (renderRest rb ++ r)))) →
      restOK fl x (ra ++ (.sym g₁ 44 g₂, b) :: rb) r
  | [], x, h => by
    rw [restOK] at h
    rw [List.nil_append, restOK]
    refine ⟨⟨hg₁, hg₂, by decide⟩, hb, ?_, ?_, hrb⟩
    · intro hx
      rcases h with h | h
      · rw [hx] at h; cases h
      · refine ⟨by simpa [SComb.render] using h.2, ?_⟩
        rw [hrel]
        exact ⟨rfl, h.1⟩
    · intro he
      exact ⟨rfl, hbe he⟩
  | y :: ra, x, h => by
    rw [restOK] at h
    obtain ⟨h1, h2, h3, h4, h5⟩ := h
    rw [List.cons_append, restOK, renderRest_comma]
    exact ⟨h1, h2, h3, h4, restOK_comma fl hrel g₁ g₂ hg₁ hg₂ b rb r hb hbe hrb ra _ h5⟩

/-- **The side conditions of `A , B`** from those of its parts: `A` admissible in front of the comma text,
    `B` in front of what follows the list (flags without `FLG_RELATIVE`). -/
theorem commaS_ok (fl : Nat) (hrel : relOf fl = false) (A B : SSelList) (g₁ g₂ r : Str)
    (hg₁ : isGap g₁) (hg₂ : isGap g₂)
    (hA : A.ok fl (g₁ ++ 44 :: (g₂ ++ (B.render ++ r)))) (hB : B.ok fl r) :
    (commaS A g₁ g₂ B).ok fl r := by
  obtain ⟨a, ra⟩ := A
  obtain ⟨b, rb⟩ := B
  rw [SSelList.ok] at hA hB
  rw [SSelList.render, List.append_assoc] at hA
  obtain ⟨ha1, ha2, ha3⟩ := hA
  obtain ⟨hb1, hb2, hb3⟩ := hB
  rw [commaS, SSelList.ok, renderRest_comma]
  exact ⟨ha1, ha2, restOK_comma fl hrel g₁ g₂ hg₁ hg₂ b rb r hb1 hb2 hb3 ra _ ha3⟩

/-- `P` in front of the list of finished complex selectors. -/
def addSels (P : List SelB) (st : LS) : LS := { st with selectors := P ++ st.selectors }

theorem combStepG_addSels (fl c : Nat) (hrel : relOf fl = false) (P : List SelB) (st : LS) :
    combStepG fl c (addSels P st) = addSels P (combStepG fl c st) := by
  unfold combStepG combStepF combStep addSels
  by_cases hs : st.hasSelector = true <;> by_cases hc : (c == 44) = true <;> simp [hrel, hs, hc]

theorem foldRest_addSels (B : Builtins) (fl : Nat) (hrel : relOf fl = false) (P : List SelB) :
    ∀ (rest : List (Nat × Compound)) (st : LS),
      foldRest B fl rest (addSels P st) = addSels P (foldRest B fl rest st)
  | [], st => by simp [foldRest]
  | x :: rest, st => by
    rw [foldRest, foldRest, combStepG_addSels fl x.1 hrel, ← foldRest_addSels B fl hrel P rest]
    rfl

/-- What the loop leaves alone in a non-relative list (it touches `sel`, `selectors`, `hasSelector`,
    `relations` only). -/
def fixedOf (st : LS) : Bool × Rel × Bool × Nat × Nat × Custom :=
  (st.closed, st.relType, st.isHtml, st.index, st.pos, st.custom)

theorem combStepG_fixed (fl c : Nat) (hrel : relOf fl = false) (st : LS) :
    fixedOf (combStepG fl c st) = fixedOf st := by
  unfold combStepG combStepF combStep fixedOf
  by_cases hs : st.hasSelector = true <;> by_cases hc : (c == 44) = true <;> simp [hrel, hs, hc]

theorem foldRest_fixed (B : Builtins) (fl : Nat) (hrel : relOf fl = false) :
    ∀ (rest : List (Nat × Compound)) (st : LS), fixedOf (foldRest B fl rest st) = fixedOf st
  | [], _ => rfl
  | x :: rest, st => by
    rw [foldRest, foldRest_fixed B fl hrel rest]
    exact combStepG_fixed fl x.1 hrel st

/-- The complex selectors of a list whose loop ended in `st` (non-relative flags): the finished ones and the
    last one — with the implied `*` — or, for an empty last slot of a forgiving list, a selector that matches
    nothing. -/
def endSels (fl : Nat) (st : LS) : List SelB :=
  st.selectors ++
    [if st.hasSelector then (implB (ipOf fl) st.sel).addRelations st.relations else st.sel.setNoMatch]

theorem cleanupLS_selectors (fl : Nat) (hrel : relOf fl = false) (st : LS) (h : EndOK fl st) :
    (cleanupLS fl st).selectors = endSels fl st ∧ (cleanupLS fl st).isHtml = st.isHtml := by
  have hrel' : ((fl &&& FLG_RELATIVE) != 0) = false := hrel
  unfold cleanupLS endSels
  by_cases hs : st.hasSelector = true
  · simp only [hs, if_true, hrel', Bool.false_eq_true, if_false]
    exact ⟨rfl, trivial⟩
  · have hs' : st.hasSelector = false := by simpa using hs
    rcases h with h | ⟨hf, hr⟩
    · exact absurd h hs
    · have hf' : ((fl &&& FLG_FORGIVE) != 0) = true := hf
      simp [hs', hf', hr]

/-- The comma step on the final state of `A`, then the first slot of `B`: the first slot of `B` on a fresh
    state, with `A`'s complex selectors in front. -/
theorem comma_step (B : Builtins) (fl : Nat) (hrel : relOf fl = false) (st : LS) (h : EndOK fl st)
    (hfix : fixedOf st = (false, .hasDesc, (fl &&& FLG_HTML) != 0, 0, 0, [])) (b : Compound) :
    ({ combStepG fl 44 st with sel := b.buildOn B SelB.empty, hasSelector := !b.isEmpty } : LS) =
      addSels (endSels fl st) (firstSt B fl b) := by
  have hrel' : ((fl &&& FLG_RELATIVE) != 0) = false := hrel
  obtain ⟨sel, sels, hs, cl, rels, rt, ih, idx, pos, cu⟩ := st
  simp only [fixedOf, Prod.mk.injEq] at hfix
  obtain ⟨rfl, rfl, rfl, rfl, rfl, rfl⟩ := hfix
  unfold combStepG combStepF combStep addSels firstSt initLS endSels
  cases hs with
  | true => simp [hrel, hrel', implB, ipOf]
  | false =>
    rcases h with h | ⟨_, hr⟩
    · cases h
    · simp only at hr
      subst hr
      simp [hrel, hrel']

theorem firstSt_fixed (B : Builtins) (fl : Nat) (c : Compound) :
    fixedOf (firstSt B fl c) = (false, .hasDesc, (fl &&& FLG_HTML) != 0, 0, 0, []) := rfl

theorem loopState_fixed (B : Builtins) (fl : Nat) (hrel : relOf fl = false) (X : SelListV) :
    fixedOf (X.loopState B fl) = (false, .hasDesc, (fl &&& FLG_HTML) != 0, 0, 0, []) := by
  obtain ⟨a, ra⟩ := X
  rw [loopState_eq, foldRest_fixed B fl hrel, firstSt_fixed]

/-- **The loop state of `A , B`** (non-relative flags, `A` ended properly): the loop state of `B` with the
    complex selectors of `A` in front. -/
theorem loopState_comma (B : Builtins) (fl : Nat) (hrel : relOf fl = false) (X Y : SelListV)
    (h : EndOK fl (X.loopState B fl)) :
    (commaV X Y).loopState B fl = addSels (endSels fl (X.loopState B fl)) (Y.loopState B fl) := by
  obtain ⟨a, ra⟩ := X
  obtain ⟨b, rb⟩ := Y
  rw [commaV, loopState_eq, foldRest_append, foldRest, ← loopState_eq]
  rw [comma_step B fl hrel _ h (loopState_fixed B fl hrel (.mk a ra)), foldRest_addSels B fl hrel,
    ← loopState_eq]

theorem loopState_fields (B : Builtins) (fl : Nat) (hrel : relOf fl = false) (X : SelListV) :
    (X.loopState B fl).closed = false ∧ (X.loopState B fl).relType = .hasDesc ∧
    (X.loopState B fl).isHtml = ((fl &&& FLG_HTML) != 0) := by
  have h := loopState_fixed B fl hrel X
  simp only [fixedOf, Prod.mk.injEq] at h
  exact ⟨h.1, h.2.1, h.2.2.1⟩

theorem endSels_addSels (fl : Nat) (P : List SelB) (st : LS) :
    endSels fl (addSels P st) = P ++ endSels fl st := by
  simp only [endSels, addSels, List.append_assoc]
  rfl

theorem closeSt_addSels (P : List SelB) (st : LS) : closeSt (addSels P st) = addSels P (closeSt st) := by
  unfold closeSt addSels
  by_cases h : st.hasSelector = true <;> simp [h]

theorem EndOK_addSels (fl : Nat) (P : List SelB) (st : LS) (h : EndOK fl st) : EndOK fl (addSels P st) := h

theorem endSels_closeSt (fl : Nat) (st : LS) : endSels fl (closeSt st) = endSels fl st := by
  unfold closeSt endSels
  by_cases h : st.hasSelector = true
  · simp [h]
  · have h' : st.hasSelector = false := by simpa using h
    obtain ⟨sel, sels, hs, cl, rels, rt, ih, idx, pos, cu⟩ := st
    simp only at h'
    subst h'
    cases sel
    simp [SelB.setNoMatch]

/-- `finishG` for non-relative flags that set none of the `SEL_*` post-processing bits. -/
theorem finishG_eq (fl : Nat) (hrel : relOf fl = false) (hfin : ∀ s, finalSels fl s = s) (st : LS)
    (h : EndOK fl st) :
    finishG fl st = .mk ((endSels fl st).map SelB.freeze) ((fl &&& FLG_NOT) != 0) st.isHtml := by
  obtain ⟨h1, h2⟩ := cleanupLS_selectors fl hrel st h
  rw [finishG, hfin, h1, h2]

theorem endOK_of_ok (B : Builtins) (fl : Nat) (L : SSelList) (r : Str) (hok : L.ok fl r) :
    EndOK fl (L.value.loopState B fl) := by
  obtain ⟨a, ra⟩ := L
  rw [SSelList.ok] at hok
  rw [SSelList.value, loopState_eq]
  apply foldRest_end B fl ra (!a.isEmpty) r _ hok.2.2
  have := firstSt_inv B fl a.value
  rwa [SCompound.value_isEmpty] at this

end C05ParseBase
end SoupVerif
