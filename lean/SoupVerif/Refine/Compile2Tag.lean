/-
  The `tag` token with a namespace prefix (`ns|name`, `ns|*`, `*|name`, `|name`, …) on a type selector of the
  covered grammar, and what the parser loop does with it (`Refine/CompileTag.lean`: `tag_reads`, `CompileStep`:
  `step_tag`).
-/
import SoupVerif.Refine.CompileStep
namespace SoupVerif
namespace Refine
namespace Compile
open Rx RxBasic SoupVerif.Parser ParserProgress Escape Spelling
open C09Compile (STag identOK)

/-- A type selector of the covered grammar (`*` or an identifier) is what `(?:IDENTIFIER|\*)` reads. -/
theorem STag.reads (t : STag) (r : Str) (ht : t.ok r) (hr : ¬ continuesIdent r) :
    Reads pyFoldEnv rxName t.render r [] := by
  cases t with
  | star => exact Reads.name_star r
  | name f => exact Reads.name_ident ht.1 ht.2.1 hr

theorem STag.unescape (t : STag) (r : Str) (ht : t.ok r) :
    Parser.cssUnescape pyFoldEnv Gen.lexicon t.render = t.value := by
  cases t with
  | star => decide
  | name f =>
    obtain ⟨hv, _, hcp⟩ := ht
    exact unescape_forms f hv hcp

variable (B : Builtins) (s : Str) (fuel flags : Nat) (st : LS)

theorem step_tag_ns (ns : SNs) (t : STag) {r : Str}
    (hd : s.drop st.pos = ns.text ++ 124 :: (t.render ++ r)) (hns : ns.ok (t.render ++ r)) (ht : t.ok r)
    (hr : ¬ continuesIdent r) (hs : st.hasSelector = false) :
    parseLoop pyFoldEnv Gen.lexicon B s (fuel + 1) flags st =
      parseLoop pyFoldEnv Gen.lexicon B s fuel flags
        { st with pos := st.pos + ns.text.length + 1 + t.render.length,
                  sel := st.sel.setTag ⟨t.value, some ns.value⟩, hasSelector := true,
                  index := st.pos + ns.text.length + 1 + t.render.length } := by
  obtain ⟨c, cs, hcs, hc⟩ := ns.head _ hns
  have h := step_tag B s fuel flags st (some ns) t.value (W := t.render) (R := r) (by simpa [nsBar] using hd)
    ⟨c, cs, by simpa [nsBar] using hcs, hc⟩
    (tag_reads (some ns) (STag.reads t r ht hr) (fun h => by cases h) (fun n hn => by cases hn; exact hns))
    (fun n hn => by cases hn; exact hns) (STag.unescape t r ht) hs
  have e : st.pos + (nsBar (some ns) ++ t.render).length = st.pos + ns.text.length + 1 + t.render.length := by
    simp [nsBar]; omega
  rw [h, e]
  rfl

end Compile
end Refine
end SoupVerif

#print axioms SoupVerif.Refine.Compile.step_tag_ns
