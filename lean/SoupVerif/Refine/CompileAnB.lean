/-
  `parse_pseudo_nth`'s reading of An+B through `RE_NTH`: the result depends only on the sign, the digits,
  the presence of `n`, and the second sign and digits — not on the gaps between them.
-/
import SoupVerif.Refine.CompileNthRx
namespace SoupVerif
namespace Refine
namespace Compile
open Rx RxBasic SoupVerif.Parser ParserProgress Escape Spelling
open Wsc (gapRx unitEnd wsEnd commentEnd gapEnd)

theorem re_nth_shape (s : Str) :
    Gen.cp_RE_NTH = .seq (linRx (Wrap.grp s 1) (Wrap.grp s 2) (Wrap.grp s 3) (Wrap.grp s 4)) := rfl

/-- The arithmetic of `parse_pseudo_nth`, from the texts of the groups `s1`, `a`, `s2`, `b`. -/
def anbCore (s1 : Option Str) (a : Str) (s2 : Option Str) (b : Option Str) : Int × Bool × Int :=
  let s1' : Str := if s1 == some [45] then [45] else []
  let var := a.getLast? == some 110
  let s1'' := if a.head? == some 110 then s1' ++ [49]
    else if var then s1' ++ a.take (a.length - 1)
    else s1' ++ a
  let s2' : Str := if s2 == some [45] then [45] else []
  let s2'' := match b with
    | some b => if b.isEmpty then [48] else s2' ++ b
    | none => [48]
  (parseInt s1'', var, parseInt s2'')

theorem parseAnB_of_match (P : PEnv) (content : Str) (j : Nat) (caps : Caps)
    (h1 : (content == "even".toStr) = false) (h2 : (content == "odd".toStr) = false)
    (hm : matchAt P.env P.L.reNth.rx content 0 = some (j, caps)) :
    parseAnB P content =
      anbCore (Parser.group content P.L.reNth caps "s1") ((Parser.group content P.L.reNth caps "a").getD [])
        (Parser.group content P.L.reNth caps "s2") (Parser.group content P.L.reNth caps "b") := by
  unfold parseAnB
  simp only [h1, h2, Bool.false_eq_true, if_false, hm]
  rfl

theorem nth_spans (s : Str) (sg : Option Nat) (D : Str) (n : Option Nat) (T : Option (Str × Nat × Str × Str)) :
    let caps := linCaps (Wrap.grp s 1) (Wrap.grp s 2) (Wrap.grp s 3) (Wrap.grp s 4) 0 [] sg D n T
    let i1 := sg.toList.length
    let i2 := i1 + D.length + n.toList.length
    capSpan caps 1 = sg.map (fun _ => (0, 1)) ∧
    capSpan caps 2 = some (i1, i2) ∧
    capSpan caps 3 = T.map (fun q => (i2 + q.1.length, i2 + q.1.length + 1)) ∧
    capSpan caps 4 = T.map (fun q => (i2 + q.1.length + 1 + q.2.2.1.length,
      i2 + q.1.length + 1 + q.2.2.1.length + q.2.2.2.length)) := by
  cases sg with
  | none =>
    cases T with
    | none => simp [linCaps, linRestCaps, Wrap.grp, capSpan]
    | some q => obtain ⟨g, s2, g', D2⟩ := q; simp [linCaps, linRestCaps, Wrap.grp, capSpan]
  | some x =>
    cases T with
    | none => simp [linCaps, linRestCaps, Wrap.grp, capSpan]
    | some q => obtain ⟨g, s2, g', D2⟩ := q; simp [linCaps, linRestCaps, Wrap.grp, capSpan]

theorem slice_mid (a m r : Str) (i j : Nat) (hi : i = a.length) (hj : j = a.length + m.length) :
    slice (a ++ (m ++ r)) i j = m := by
  subst hi hj
  unfold slice
  rw [List.drop_left' rfl, Nat.add_sub_cancel_left, List.take_left' rfl]

theorem ne_of_head {content kw : Str} {h k : Nat} (hc : content.head? = some h) (hk : kw.head? = some k)
    (hne : h ≠ k) : (content == kw) = false := by
  rw [beq_eq_false_iff_ne]
  intro e
  rw [e, hk] at hc
  exact hne (Option.some.inj hc).symm

variable (B : Builtins) (pat : Str)

/-- `RE_NTH` on `[-+]? digits n? (gap [-+] gap digits)?`: the match and the texts of the four named groups
    (what both the hand model `parseAnB` and the translated An+B block read). -/
theorem lin_groups (sg : Option Nat) (D : Str) (n : Option Nat) (T : Option (Str × Nat × Str × Str))
    (hok : (SAnB.lin sg D n T).ok) :
    ((SAnB.lin sg D n T).render == "even".toStr) = false ∧ ((SAnB.lin sg D n T).render == "odd".toStr) = false ∧
    ∃ j caps, matchAt pyFoldEnv Gen.cp_RE_NTH (SAnB.lin sg D n T).render 0 = some (j, caps) ∧
      Parser.group (SAnB.lin sg D n T).render Gen.lexicon.reNth caps "s1" = sg.map (fun x => [x]) ∧
      Parser.group (SAnB.lin sg D n T).render Gen.lexicon.reNth caps "a" = some (D ++ n.toList) ∧
      Parser.group (SAnB.lin sg D n T).render Gen.lexicon.reNth caps "s2" = T.map (fun q => [q.2.1]) ∧
      Parser.group (SAnB.lin sg D n T).render Gen.lexicon.reNth caps "b" = T.map (fun q => q.2.2.2) := by
  obtain ⟨hsg, hD, hn, hne, hT⟩ := hok
  obtain ⟨h, hh, h101, h111⟩ : ∃ h, (SAnB.lin sg D n T).render.head? = some h ∧ h ≠ 101 ∧ h ≠ 111 := by
    obtain ⟨h, t, hr, hh⟩ := SAnB.lin_head (sg := sg) (D := D) (n := n) (T := T) ⟨hsg, hD, hn, hne, hT⟩
    refine ⟨h, by rw [hr]; rfl, ?_⟩
    simp only [isSign, isDigit, isN, Bool.or_eq_true, Bool.and_eq_true, beq_iff_eq, decide_eq_true_eq] at hh
    omega
  refine ⟨ne_of_head hh rfl h101, ne_of_head hh rfl h111, 0 + (SAnB.lin sg D n T).render.length, (linCaps (Wrap.grp (SAnB.lin sg D n T).render 1) (Wrap.grp (SAnB.lin sg D n T).render 2) (Wrap.grp (SAnB.lin sg D n T).render 3) (Wrap.grp (SAnB.lin sg D n T).render 4) 0 [] sg D n T), ?_, ?_, ?_, ?_, ?_⟩
  · show matchAt pyFoldEnv Gen.cp_RE_NTH _ 0 = some (0 + (SAnB.lin sg D n T).render.length, (linCaps (Wrap.grp (SAnB.lin sg D n T).render 1) (Wrap.grp (SAnB.lin sg D n T).render 2) (Wrap.grp (SAnB.lin sg D n T).render 3) (Wrap.grp (SAnB.lin sg D n T).render 4) 0 [] sg D n T))
    rw [re_nth_shape (SAnB.lin sg D n T).render]
    unfold matchAt
    rw [runs_seq]
    exact lin_head _ _ _ _ 0 [] sg D n T [] (by simp [SAnB.render]) hsg hD hn hne hT (by simp)
      (by intro _ x hx; rw [SpellingLemmas.skipWSC_nil] at hx; simp at hx)
  all_goals obtain ⟨e1, e2, e3, e4⟩ := nth_spans (SAnB.lin sg D n T).render sg D n T
  · have f1 : Gen.cp_RE_NTH_groups.find? (fun g => g.1 == "s1") = some ("s1", 1) := by decide
    show Parser.group _ ⟨"RE_NTH", Gen.cp_RE_NTH, Gen.cp_RE_NTH_groups⟩ _ "s1" = _
    simp only [Parser.group, f1, e1]
    cases sg with
    | none => rfl
    | some x => simp [SAnB.render, slice]
  · have f2 : Gen.cp_RE_NTH_groups.find? (fun g => g.1 == "a") = some ("a", 2) := by decide
    show Parser.group _ ⟨"RE_NTH", Gen.cp_RE_NTH, Gen.cp_RE_NTH_groups⟩ _ "a" = _
    simp only [Parser.group, f2, e2, Option.map_some]
    congr 1
    have := slice_mid sg.toList (D ++ n.toList) (tailText T) sg.toList.length
      (sg.toList.length + D.length + n.toList.length) rfl (by simp only [List.length_append]; omega)
    simpa [SAnB.render, List.append_assoc] using this
  · have f3 : Gen.cp_RE_NTH_groups.find? (fun g => g.1 == "s2") = some ("s2", 3) := by decide
    show Parser.group _ ⟨"RE_NTH", Gen.cp_RE_NTH, Gen.cp_RE_NTH_groups⟩ _ "s2" = _
    simp only [Parser.group, f3, e3]
    cases T with
    | none => rfl
    | some q =>
      obtain ⟨g, s2, g', D2⟩ := q
      simp only [Option.map_some, Option.some.injEq]
      have := slice_mid (sg.toList ++ (D ++ (n.toList ++ g))) [s2] (g' ++ D2)
        (sg.toList.length + D.length + n.toList.length + g.length)
        (sg.toList.length + D.length + n.toList.length + g.length + 1)
        (by simp only [List.length_append]; omega)
        (by simp only [List.length_append, List.length_cons, List.length_nil]; omega)
      simpa [SAnB.render, tailText, List.append_assoc] using this
  · have f4 : Gen.cp_RE_NTH_groups.find? (fun g => g.1 == "b") = some ("b", 4) := by decide
    show Parser.group _ ⟨"RE_NTH", Gen.cp_RE_NTH, Gen.cp_RE_NTH_groups⟩ _ "b" = _
    simp only [Parser.group, f4, e4]
    cases T with
    | none => rfl
    | some q =>
      obtain ⟨g, s2, g', D2⟩ := q
      simp only [Option.map_some, Option.some.injEq]
      have := slice_mid (sg.toList ++ (D ++ (n.toList ++ (g ++ (s2 :: g'))))) D2 []
        (sg.toList.length + D.length + n.toList.length + g.length + 1 + g'.length)
        (sg.toList.length + D.length + n.toList.length + g.length + 1 + g'.length + D2.length)
        (by simp only [List.length_append, List.length_cons]; omega)
        (by simp only [List.length_append, List.length_cons]; omega)
      simpa [SAnB.render, tailText, List.append_assoc] using this

/-- `parse_pseudo_nth` on `[-+]? digits n? (gap [-+] gap digits)?` in lower case: the gaps are irrelevant. -/
theorem parseAnB_lin (sg : Option Nat) (D : Str) (n : Option Nat) (T : Option (Str × Nat × Str × Str))
    (hok : (SAnB.lin sg D n T).ok) :
    parseAnB (penv B pat) (SAnB.lin sg D n T).render =
      anbCore (sg.map fun x => [x]) (D ++ n.toList) (T.map fun q => [q.2.1]) (T.map fun q => q.2.2.2) := by
  obtain ⟨h1, h2, j, caps, hm, g1, g2, g3, g4⟩ := lin_groups sg D n T hok
  rw [parseAnB_of_match (penv B pat) _ j caps h1 h2 hm]
  show anbCore (Parser.group _ Gen.lexicon.reNth caps "s1") ((Parser.group _ Gen.lexicon.reNth caps "a").getD [])
    (Parser.group _ Gen.lexicon.reNth caps "s2") (Parser.group _ Gen.lexicon.reNth caps "b") = _
  rw [g1, g2, g3, g4]
  rfl

theorem head?_lower (t : Str) : (lower t).head? = t.head?.map lowerCp := by
  cases t <;> rfl

theorem isGap_lower {g : Str} (h : isGap g) : isGap (lower g) := by
  unfold isGap at h ⊢
  rw [SpellingLemmas.skipWSC_lower g.length g (Nat.le_refl _), h]; rfl

theorem lower_digits (D : Str) (h : ∀ x ∈ D, isDigit x = true) : lower D = D :=
  lower_of_no_upper D fun x hx => by
    have hd := h x hx
    simp only [isDigit, Bool.and_eq_true, decide_eq_true_eq] at hd
    omega

theorem lowerCp_sign (x : Nat) (h : isSign x = true) : lowerCp x = x := by
  simp only [isSign, Bool.or_eq_true, beq_iff_eq] at h
  rcases h with h | h <;> subst h <;> rfl

theorem lowerCp_n (x : Nat) (h : isN x = true) : lowerCp x = 110 := by
  simp only [isN, Bool.or_eq_true, beq_iff_eq] at h
  rcases h with h | h <;> subst h <;> rfl

/-- The lower-cased text of a spelled An+B is again one (with lower-cased gaps). -/
def lowerTail : Option (Str × Nat × Str × Str) → Option (Str × Nat × Str × Str)
  | none => none
  | some (g, s2, g', D2) => some (lower g, s2, lower g', D2)

theorem lower_lin (sg : Option Nat) (D : Str) (n : Option Nat) (T : Option (Str × Nat × Str × Str))
    (hok : (SAnB.lin sg D n T).ok) :
    lower (SAnB.lin sg D n T).render = (SAnB.lin sg D (n.map fun _ => 110) (lowerTail T)).render ∧
      (SAnB.lin sg D (n.map fun _ => 110) (lowerTail T)).ok := by
  obtain ⟨hsg, hD, hn, hne, hT⟩ := hok
  constructor
  · simp only [SAnB.render, SpellingLemmas.lower_append, lower_digits D hD]
    congr 1
    · cases sg with
      | none => rfl
      | some x => show [lowerCp x] = [x]; rw [lowerCp_sign x (hsg x rfl)]
    · congr 1
      congr 1
      · cases n with
        | none => rfl
        | some x => show [lowerCp x] = [110]; rw [lowerCp_n x (hn x rfl)]
      · cases T with
        | none => rfl
        | some q =>
          obtain ⟨g, s2, g', D2⟩ := q
          obtain ⟨_, _, hs2, _, _, hD2⟩ := hT
          simp only [tailText, lowerTail, SpellingLemmas.lower_append]
          congr 1
          show lowerCp s2 :: lower (g' ++ D2) = _
          rw [lowerCp_sign s2 hs2, SpellingLemmas.lower_append, lower_digits D2 hD2]
  · refine ⟨hsg, hD, ?_, ?_, ?_⟩
    · intro x hx
      cases n with
      | none => cases hx
      | some y => simp at hx; subst hx; rfl
    · rcases hne with h | h
      · exact Or.inl h
      · right; cases n with | none => cases h | some y => rfl
    · cases T with
      | none => trivial
      | some q =>
        obtain ⟨g, s2, g', D2⟩ := q
        obtain ⟨h1, h2, h3, h4, h5, h6⟩ := hT
        refine ⟨?_, isGap_lower h2, h3, isGap_lower h4, h5, h6⟩
        cases n with | none => cases h1 | some y => rfl

theorem canon_ok (sg : Option Nat) (D : Str) (n : Option Nat) (T : Option (Str × Nat × Str × Str))
    (hok : (SAnB.lin sg D n T).ok) :
    (SAnB.lin sg D n T).canon =
      (SAnB.lin sg D (n.map fun _ => 110) (T.map fun q => ([], q.2.1, [], q.2.2.2))).render ∧
    (SAnB.lin sg D (n.map fun _ => 110) (T.map fun q => ([], q.2.1, [], q.2.2.2))).ok := by
  obtain ⟨hsg, hD, hn, hne, hT⟩ := hok
  refine ⟨rfl, hsg, hD, ?_, ?_, ?_⟩
  · intro x hx
    cases n with
    | none => cases hx
    | some y => simp at hx; subst hx; rfl
  · rcases hne with h | h
    · exact Or.inl h
    · right; cases n with | none => cases h | some y => rfl
  · cases T with
    | none => trivial
    | some q =>
      obtain ⟨g, s2, g', D2⟩ := q
      obtain ⟨h1, h2, h3, h4, h5, h6⟩ := hT
      refine ⟨?_, C09.gap_nil, h3, C09.gap_nil, h5, h6⟩
      cases n with | none => cases h1 | some y => rfl

theorem parseAnB_kw (P : PEnv) : parseAnB P "even".toStr = (2, true, 0) ∧ parseAnB P "odd".toStr = (2, true, 1) := by
  constructor
  · simp [parseAnB]
  · have : ("odd".toStr == "even".toStr) = false := by decide
    simp [parseAnB, this]

/-- **An+B does not depend on its spelling**: `parse_pseudo_nth`'s reading of the lower-cased group text is
    its reading of the canonical text (lower case, no gaps). -/
theorem parseAnB_spelled (B' : Builtins) (pat' : Str) (a : SAnB) (hok : a.ok) :
    parseAnB (penv B pat) (lower a.render) = parseAnB (penv B' pat') a.canon := by
  cases a with
  | even m =>
    have hl := lower_even m
    simp only [SAnB.render, SAnB.canon, hl]
    rw [(parseAnB_kw _).1, (parseAnB_kw _).1]
  | odd m =>
    have hl := lower_odd m
    simp only [SAnB.render, SAnB.canon, hl]
    rw [(parseAnB_kw _).2, (parseAnB_kw _).2]
  | lin sg D n T =>
    obtain ⟨h1, h2⟩ := lower_lin sg D n T hok
    obtain ⟨h3, h4⟩ := canon_ok sg D n T hok
    rw [h1, h3, parseAnB_lin B pat _ _ _ _ h2, parseAnB_lin B' pat' _ _ _ _ h4]
    cases T with
    | none => rfl
    | some q => obtain ⟨g, s2, g', D2⟩ := q; rfl

end Compile
end Refine
end SoupVerif

#print axioms SoupVerif.Refine.Compile.parseAnB_lin
#print axioms SoupVerif.Refine.Compile.isGap_lower
#print axioms SoupVerif.Refine.Compile.parseAnB_spelled
