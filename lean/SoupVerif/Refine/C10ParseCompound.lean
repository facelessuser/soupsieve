/-
  Compounds made of an optional type selector and `#id`, `.class` and attribute selectors (the leaf items), in the CSS
  reading of `Spec/Css.lean`.  In front, the value test an attribute selector spells (`C12Parse.testOf`).

  `Css.Parts` / `C01Parse.mkB` is the normal form of ONE item (`apply_leaf`: a leaf item appends to the builder what the
  specification's compiler appends for the simple selector it spells) and of the IR equality `applyItems_simples` (the
  builder after the leaf items IS `mkB (Css.compileParts …)`; the matcher on it: `partsOk_compileParts`).  The VERDICT on
  the text of such a compound goes through `ListText.compound_verdict` ("the type passes and every item alone holds",
  `Refine/TextVerdict.lean`, from `Refine/BuilderMerge.lean`; as propositions `ListText.compound_iff`) and `holds_leaf` (what a leaf item alone demands is
  `Css.satSimple` of what it spells; along a compound `all_holds_simples`): `compound_simple_text`, the general theorem the
  text-level files of C10, C11 and C12 specialise.
-/
import SoupVerif.Refine.TextVerdict
namespace SoupVerif
namespace C12Parse
open SoupVerif.Parser Refine.Compile Spelling
open C09Compile (AttrV SAttr SAttrOp opText STag)
open C09Compile2 (STagN SItem SCompound itemsOK renderItems itemsValue applyItems applyAttr Item)
open Css (AttrTest AttrOp CaseFlag Parts addSimple)
open C01Parse (mkB implB implTag)
open NsParse

/-- The operator an operator text (`!=`, `^=`, `$=`, `*=`, `~=`, `|=`, `=`) stands for.  Every other text reads as `=`: the
    grammar writes no other (`SAttr.ok`: `isCmp`), so nothing depends on that branch. -/
def opOf (op : Str) : AttrOp :=
  if op = [33, 61] then .ne else if op = [94, 61] then .pre else if op = [36, 61] then .suf
  else if op = [42, 61] then .sub else if op = [126, 61] then .word else if op = [124, 61] then .dash
  else .eq

/-- The case flag a lower-cased flag character stands for (`i`, `s`; none written: `.none`). -/
def flagOf : Option Nat → CaseFlag
  | some c => if c = 105 then .i else if c = 115 then .s else .none
  | none => .none

/-- The value test `op value flag` of an attribute selector, from its VALUES (`none` for `[name]`): the `test` argument of
    `Css.Simple.attr`. -/
def testOf (a : AttrV) : Option AttrTest := a.body.map fun b => ⟨opOf b.1, b.2.1, flagOf b.2.2⟩

theorem value_attrV (a : SAttr) (r : Str) (hok : a.ok r) :
    a.value = attrV (valueOf a.name) (testOf a.value) := by
  obtain ⟨g0, name, body, g4⟩ := a
  cases body with
  | none => rfl
  | some b =>
    obtain ⟨g1, op, g2, v, fl⟩ := b
    obtain ⟨_, _, _, _, _, hop, _, hfl⟩ := hok
    have h1 : (C01Parse.flagV (flagOf (fl.map fun x => lowerCp x.2))) = fl.map fun x => lowerCp x.2 := by
      cases fl with
      | none => rfl
      | some gf =>
        obtain ⟨g3, f⟩ := gf
        have := (hfl g3 f rfl).2
        simp only [isFlag, Bool.or_eq_true, beq_iff_eq] at this
        rcases this with ((rfl | rfl) | rfl) | rfl <;> rfl
    have h2 : (opOf (opText op)).text = opText op := by
      cases op with
      | none => rfl
      | some x =>
        have := hop x rfl
        simp only [isCmp, Bool.or_eq_true, beq_iff_eq] at this
        rcases this with ((((rfl | rfl) | rfl) | rfl) | rfl) | rfl <;> decide
    simp only [SAttr.value, attrV, testOf, Option.map_some, h1, h2]

theorem forms_value_ne_nil {f : C09Compile.Forms} {r : Str} (h : C09Compile.identOK f r) : valueOf f ≠ [] := by
  obtain ⟨_, hh, _⟩ := h
  cases f with
  | nil => simp [headOk] at hh
  | cons x xs => simp [valueOf]

end C12Parse

namespace C10Parse
open Spelling SoupVerif.Parser Refine.Compile
open C09Compile (Forms identOK AttrV SAttr SAttrOp SValue opText STag)
open C09Compile2 (STagN SItem SCompound itemsOK renderItems itemsValue applyItems applyAttr Item)
open Css (AttrTest AttrOp CaseFlag Parts addSimple compileParts Simple satSimple)
open C01Parse (mkB implB implTag)
open C12Parse (testOf)

/-- The simple selector of `Spec/Css.lean` an item spells, by VALUE (`none` for the other items). -/
def simpleOf : SItem → Option Simple
  | .id f => some (.id (valueOf f))
  | .cls f => some (.cls (valueOf f))
  | .attr a => some (.attr [] (valueOf a.name) (testOf a.value))
  | .attrNs ns a => some (.attr ns.value (valueOf a.name) (testOf a.value))
  | _ => none

def simplesOf (items : List SItem) : List Simple := items.filterMap simpleOf

theorem simplesOf_cons {it : SItem} {sm : Simple} (hsm : simpleOf it = some sm) (rest : List SItem) :
    simplesOf (it :: rest) = sm :: simplesOf rest := by
  simp [simplesOf, hsm]

/-- A leaf item on a builder in normal form: it appends what the specification's compiler appends for the simple
    selector it spells. -/
theorem apply_leaf (B : Builtins) (p : Parts) (tag : Option SelTag) {it : SItem} {sm : Simple} {r : Str}
    (hsm : simpleOf it = some sm) (hok : it.ok r) :
    it.value.apply B (mkB p tag [] .none) = mkB (addSimple p sm) tag [] .none := by
  cases it <;> simp only [simpleOf, Option.some.injEq, reduceCtorEq] at hsm <;> subst hsm
  case id f => rfl
  case cls f => rfl
  case attr a =>
    exact (congrArg (applyAttr [] · _) (C12Parse.value_attrV a _ hok)).trans (NsParse.applyAttr_mkB p tag _ _ _)
  case attrNs ns a =>
    exact (congrArg (applyAttr ns.value · _) (C12Parse.value_attrV a _ hok.1)).trans (NsParse.applyAttr_mkB p tag _ _ _)

theorem partsOk_leaf (c : Ctx) (l : Loc) (e : Elem) (p : Parts) (s : Simple) (h : SatParts.LeafOK c s) :
    SatCore.partsOk c l e (addSimple p s) = (SatCore.partsOk c l e p && satSimple c l e s) :=
  SatParts.partsOk_leaf c l e p (fun op v s ic h => C01Attr.attrPattern_sem c.env op v s ic h) s h

/-- The builder after the leaf items of a compound IS `mkB` of the specification's compiler
    (`Spec/CssCompile.compileParts`) on the simple selectors they spell. -/
theorem applyItems_simples (B : Builtins) (tag : Option SelTag) (r : Str) : ∀ (items : List SItem) (p : Parts),
    itemsOK items r → (∀ it ∈ items, (simpleOf it).isSome = true) →
    applyItems B (itemsValue items) (mkB p tag [] .none) = mkB (compileParts p (simplesOf items)) tag [] .none
  | [], p, _, _ => by simp [itemsValue, applyItems, simplesOf, compileParts]
  | it :: rest, p, hok, hall => by
    rw [itemsOK] at hok
    obtain ⟨sm, hsm⟩ := Option.isSome_iff_exists.mp (hall it (by simp))
    rw [itemsValue, applyItems, apply_leaf B p tag hsm hok.1,
      applyItems_simples B tag r rest _ hok.2 (fun i hi => hall i (by simp [hi])), simplesOf_cons hsm, compileParts]

theorem partsOk_compileParts (c : Ctx) (l : Loc) (e : Elem) : ∀ (ss : List Simple) (p : Parts),
    (∀ s ∈ ss, SatParts.LeafOK c s) →
    SatCore.partsOk c l e (compileParts p ss) = (SatCore.partsOk c l e p && ss.all (satSimple c l e))
  | [], p, _ => by simp [compileParts]
  | s :: rest, p, h => by
    rw [compileParts, partsOk_compileParts c l e rest _ (fun x hx => h x (by simp [hx])),
      partsOk_leaf c l e p s (h s (by simp)), List.all_cons, Bool.and_assoc]

/-- What the matcher needs of the simple selector a leaf item spells: the grammar cannot write an empty id; a
    case-insensitive attribute comparison is the caller's hypothesis. -/
theorem leafOK_of (c : Ctx) {it : SItem} {sm : Simple} {r : Str} (hsm : simpleOf it = some sm) (hok : it.ok r)
    (hfold : ∀ ns name t, sm = .attr ns name (some t) → Css.caseInsensitive c name t.flag = true →
      c.env.fold = lowerCp) : SatParts.LeafOK c sm := by
  cases it <;> simp only [simpleOf, Option.some.injEq, reduceCtorEq] at hsm <;> subst hsm
  case id f => exact C12Parse.forms_value_ne_nil hok
  case cls f => trivial
  case attr a => exact fun t ht => hfold _ _ t (by rw [ht])
  case attrNs ns a => exact fun t ht => hfold _ _ t (by rw [ht])

/-- **What a leaf item alone demands of the element** (`Item.holds`, the matcher on the item's own frozen builder) **is
    what the simple selector it spells means in the CSS reading** (`Css.satSimple`): the item's own builder is `mkB` of
    the specification's compiler (`apply_leaf`), and on that normal form the matcher is `partsOk`. -/
theorem holds_leaf (B : Builtins) (c : Ctx) (l : Loc) (e : Elem) {it : SItem} {sm : Simple} {r : Str}
    (hsm : simpleOf it = some sm) (hok : it.ok r)
    (hfold : ∀ ns name t, sm = .attr ns name (some t) → Css.caseInsensitive c name t.flag = true →
      c.env.fold = lowerCp) :
    Item.holds B c l e it.value = satSimple c l e sm := by
  have hl := leafOK_of c hsm hok hfold
  rw [Item.holds, C01Parse.mkB_empty, apply_leaf B {} none hsm hok,
    NsParse.matchSel_freeze_mkB c l e _ none (by rw [SatParts.addSimple_leaf_flags c _ _ hl]; decide), C12.tag_none,
    Bool.true_and, partsOk_leaf c l e _ _ hl, SatParts.partsOk_init, Bool.true_and]

theorem all_holds_simples (B : Builtins) (c : Ctx) (l : Loc) (e : Elem) (r : Str) : ∀ (items : List SItem),
    itemsOK items r → (∀ it ∈ items, (simpleOf it).isSome = true) →
    (∀ ns name t, Simple.attr ns name (some t) ∈ simplesOf items →
      Css.caseInsensitive c name t.flag = true → c.env.fold = lowerCp) →
    (itemsValue items).all (Item.holds B c l e) = (simplesOf items).all (satSimple c l e)
  | [], _, _, _ => rfl
  | it :: rest, hok, hall, hfold => by
    rw [itemsOK] at hok
    obtain ⟨sm, hsm⟩ := Option.isSome_iff_exists.mp (hall it (by simp))
    rw [simplesOf_cons hsm] at hfold ⊢
    rw [itemsValue, List.all_cons, List.all_cons,
      holds_leaf B c l e hsm hok.1 (fun ns name t h => hfold ns name t (by simp [h])),
      all_holds_simples B c l e r rest hok.2 (fun i hi => hall i (by simp [hi]))
        (fun ns name t h => hfold ns name t (by simp [h]))]

theorem tbl_of_simple (tag : Option STagN) : ∀ (items : List SItem),
    (∀ it ∈ items, (simpleOf it).isSome = true) → (SCompound.mk tag items).tbl [] := by
  intro items hall
  rw [SCompound.tbl]
  induction items with
  | nil => simp [C09Compile2.itemsTbl]
  | cons it rest ih =>
    rw [C09Compile2.itemsTbl]
    refine ⟨?_, ih (fun i hi => hall i (by simp [hi]))⟩
    have := hall it (by simp)
    cases it <;> simp [simpleOf] at this <;> simp [SItem.tbl]

open C12Parse (matchText TagCond)

/-- **Parser and matcher on the text of a compound** made of an optional type selector (with or without a
    namespace prefix) and any number of `#id`, `.class` and attribute selectors, in ANY spelling, between two
    gaps: the parser model accepts, and the matcher model accepts the element `e` exactly when `e` is not the
    document object, its type passes (`TagCond`) and every simple selector holds in the CSS reading of
    `Spec/Css.lean` (`satSimple`: `idOf c e = some v`, `hasClass c e v`, `satAttr …`), taken on the VALUES. -/
theorem compound_simple_text (c : Ctx) (l : Loc) (e : Elem) (kids : List Node)
    (hf : l.focus = .elem e kids) (tag : Option STagN) (items : List SItem) (g₁ g₂ : Str)
    (hg₁ : isGap g₁) (hg₂ : isGap g₂) (hok : (SCompound.mk tag items).ok g₂)
    (hne : (SCompound.mk tag items).isEmpty = false)
    (hall : ∀ it ∈ items, (simpleOf it).isSome = true)
    (h0 : ∀ x ∈ g₁ ++ (SCompound.mk tag items).render ++ g₂, x ≠ 0)
    (hfold : ∀ ns name t, Simple.attr ns name (some t) ∈ simplesOf items →
      Css.caseInsensitive c name t.flag = true → c.env.fold = lowerCp) :
    ∃ b, matchText c (g₁ ++ (SCompound.mk tag items).render ++ g₂) l = .ok b ∧
      (b = true ↔ e.isDoc = false ∧ TagCond c e (tag.map STagN.value) ∧
        ∀ sm ∈ simplesOf items, satSimple c l e sm = true) := by
  refine (C05Parse.ListText.of_compound hg₁ hg₂ hok hne (tbl_of_simple tag items hall) h0).compound_iff c l e kids hf ?_
  rw [all_holds_simples _ c l e g₂ items hok.2 hall hfold, List.all_eq_true]

end C10Parse
end SoupVerif
