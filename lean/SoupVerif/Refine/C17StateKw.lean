/-
  The fourteen keywords of C17 that stand for a built-in selector list: their name (`StateKw.name`, lower case, no
  colon), the field of the table of built-in lists the parser reads (`StateKw.pick`) and the regenerated list (`StateKw.list`).
-/
import SoupVerif.Generated.Lexicon
namespace SoupVerif
namespace Refine.C17Parse
open SoupVerif.Parser

/-- The keywords of C17 that `parse_pseudo_class` answers by appending a pre-compiled selector list. -/
inductive StateKw where
  | enabled | disabled | required | optional | readWrite | readOnly | inRange | outOfRange
  | link | anyLink | checked | dflt | indeterminate | placeholderShown
  deriving DecidableEq, Repr

namespace StateKw

/-- The keyword, lower case, without the colon. -/
def name : StateKw → Str
  | enabled => "enabled".toStr
  | disabled => "disabled".toStr
  | required => "required".toStr
  | optional => "optional".toStr
  | readWrite => "read-write".toStr
  | readOnly => "read-only".toStr
  | inRange => "in-range".toStr
  | outOfRange => "out-of-range".toStr
  | link => "link".toStr
  | anyLink => "any-link".toStr
  | checked => "checked".toStr
  | dflt => "default".toStr
  | indeterminate => "indeterminate".toStr
  | placeholderShown => "placeholder-shown".toStr

/-- The entry of the table of built-in lists that stands for the keyword. -/
def pick (B : Builtins) : StateKw → SelList
  | enabled => B.enabled
  | disabled => B.disabled
  | required => B.required
  | optional => B.optional
  | readWrite => B.readWrite
  | readOnly => B.readOnly
  | inRange => B.inRange
  | outOfRange => B.outOfRange
  | link => B.link
  | anyLink => B.link
  | checked => B.checked
  | dflt => B.dflt
  | indeterminate => B.indeterminate
  | placeholderShown => B.placeholderShown

/-- The list regenerated from `css_parser.py` (`Generated/Builtins.lean`). -/
def list : StateKw → SelList
  | enabled => Gen.CSS_ENABLED
  | disabled => Gen.CSS_DISABLED
  | required => Gen.CSS_REQUIRED
  | optional => Gen.CSS_OPTIONAL
  | readWrite => Gen.CSS_READ_WRITE
  | readOnly => Gen.CSS_READ_ONLY
  | inRange => Gen.CSS_IN_RANGE
  | outOfRange => Gen.CSS_OUT_OF_RANGE
  | link => Gen.CSS_LINK
  | anyLink => Gen.CSS_LINK
  | checked => Gen.CSS_CHECKED
  | dflt => Gen.CSS_DEFAULT
  | indeterminate => Gen.CSS_INDETERMINATE
  | placeholderShown => Gen.CSS_PLACEHOLDER_SHOWN

theorem pick_builtinsRec (K : StateKw) : K.pick Gen.builtinsRec = K.list := by cases K <;> rfl

theorem list_isHtml (K : StateKw) : K.list.isHtml = true := by cases K <;> rfl

end StateKw

end Refine.C17Parse
end SoupVerif
