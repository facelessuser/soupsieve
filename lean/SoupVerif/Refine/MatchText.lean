/-
  Text in, answer out: the compositions the `*Parse` modules state their theorems about — `C01Parse.selectText` (pattern
  text → parser model → `SoupSieve.select`) and `C12Parse.matchText` / `matchTextApi` (… → `CSSMatch.match` on one
  element), with the regenerated lexicon and built-in lists, as the driver's end-to-end service runs them; how a verdict
  is read off the parser's result (`selectText_ok`, `matchText_ok`) and off a theorem about `matchText` (`ok_true_of`,
  `ok_false_of`, `on_text`); and what every verdict
  says about the element's type, in terms of URIs and local names: `NsCond`, `NameCond`, `TagCond`
  (`matchNamespace_iff`, `matchTagname_iff`; `matchTag_implTag_iff`: the type selector written, or the implied `*`), and
  about its attributes, over the ones `designates` (`Lemmas/Names.lean`) selects: `Passes`, `AttrHolds` (`satAttr_iff`).
  Nothing here depends on which grammar a text is read in.
-/
import SoupVerif.Properties.C12
import SoupVerif.Refine.C01ParseSem
import SoupVerif.Generated.Builtins
namespace SoupVerif

namespace C01Parse

/-- The text → parser → matcher composition of the driver's end-to-end service (request 17 of
    `Driver/Main.lean`, query kind 0): compile the pattern text with the parser model (no custom selectors,
    flags 0, Python's IGNORECASE folding, the regenerated lexicon and built-in lists) and run
    `SoupSieve.select` with the result. -/
def selectText (E : Env) (isXml : Bool) (ns : List (Str × Str)) (pattern : Str) (tag : Loc) (limit : Int) :
    Except Parser.Err (List Loc) :=
  match Parser.compile pyFoldEnv Gen.lexicon Gen.builtinsRec pattern [] 0 with
  | .ok l => .ok (select E isXml ns l tag limit)
  | .error e => .error e

/-- What `selectText` returns once the parser's result on the text is known. -/
theorem selectText_ok {E : Env} {isXml : Bool} {ns : List (Str × Str)} {pattern : Str} {tag : Loc} {limit : Int}
    {sl : SelList} (h : Parser.compile pyFoldEnv Gen.lexicon Gen.builtinsRec pattern [] 0 = .ok sl) :
    selectText E isXml ns pattern tag limit = .ok (select E isXml ns sl tag limit) := by
  rw [selectText, h]

end C01Parse

namespace C12Parse
open C01Parse (implTag)

/-- The text → parser → matcher composition on ONE element (the driver's end-to-end service with a `match`
    query; `SoupSieve.match` is `matchText (mkCtx …)`): compile the pattern text with the parser model (no
    custom selectors, flags 0, Python's IGNORECASE folding, the regenerated lexicon and built-in lists) and
    run `CSSMatch.match` with the result. -/
def matchText (c : Ctx) (pattern : Str) (l : Loc) : Except Parser.Err Bool :=
  match Parser.compile pyFoldEnv Gen.lexicon Gen.builtinsRec pattern [] 0 with
  | .ok sl => .ok (matchEl c sl l)
  | .error e => .error e

/-- What `matchText` answers once the parser's result on the text is known. -/
theorem matchText_ok {c : Ctx} {pattern : Str} {l : Loc} {sl : SelList}
    (h : Parser.compile pyFoldEnv Gen.lexicon Gen.builtinsRec pattern [] 0 = .ok sl) :
    matchText c pattern l = .ok (matchEl c sl l) := by
  rw [matchText, h]

/-- `SoupSieve.match(tag)` on the pattern text, with the caller's namespace map `ns`. -/
def matchTextApi (E : Env) (isXml : Bool) (ns : List (Str × Str)) (pattern : Str) (tag : Loc) :
    Except Parser.Err Bool :=
  matchText (mkCtx E isXml ns tag) pattern tag

theorem matchTextApi_eq (E : Env) (isXml : Bool) (ns : List (Str × Str)) (pattern : Str) (tag : Loc) :
    matchTextApi E isXml ns pattern tag =
      match Parser.compile pyFoldEnv Gen.lexicon Gen.builtinsRec pattern [] 0 with
      | .ok sl => .ok (matchTagApi E isXml ns sl tag)
      | .error e => .error e := rfl

theorem ok_true_of {x : Except Parser.Err Bool} {P : Prop} (h : ∃ b, x = .ok b ∧ (b = true ↔ P)) (hp : P) :
    x = .ok true := by
  obtain ⟨b, h1, h2⟩ := h
  rw [h1, h2.mpr hp]

theorem ok_false_of {x : Except Parser.Err Bool} {P : Prop} (h : ∃ b, x = .ok b ∧ (b = true ↔ P)) (hp : ¬ P) :
    x = .ok false := by
  obtain ⟨b, h1, h2⟩ := h
  cases b with
  | false => exact h1
  | true => exact absurd (h2.mp rfl) hp

/-- A verdict proved about the text a spelling renders to, read on that text written out; the two texts are
    compared by the kernel (`by decide_lit`: left to the unifier the comparison is slow to check). -/
theorem on_text {c : Ctx} {t t' : Str} {l : Loc} {r : Except Parser.Err Bool} (ht : t = t')
    (h : matchText c t l = r) : matchText c t' l = r := ht ▸ h

open C12 (uri NameEq) in
section
open Names


/-- The name test of a type selector with the name VALUE `n`: the universal selector, or the element's
    local name under the case rule of the document kind. -/
def NameCond (c : Ctx) (e : Elem) (n : Str) : Prop := n = "*".toStr ∨ NameEq c n e.name

theorem matchTagname_iff (c : Ctx) (e : Elem) (t : SelTag) :
    matchTagname c e t = true ↔ NameCond c e t.name := by
  unfold matchTagname NameCond C12.NameEq Ctx.tagName
  cases hx : c.isXml
  · simp only [Bool.not_false, if_true, Bool.or_eq_true, beq_iff_eq, star_toStr, lower_eq_star,
      Bool.false_eq_true, if_false]
    exact Or.comm
  · simp only [Bool.not_true, Bool.false_eq_true, if_false, Bool.or_eq_true, beq_iff_eq, star_toStr, if_true]
    exact Or.comm

/-- The namespace test of a type selector whose prefix VALUE is `pfx` (`none`: no prefix written), in terms
    of URIs: the element's (`uri c e`) and the ones the caller's map gives. -/
def NsCond (c : Ctx) (e : Elem) : Option Str → Prop
  | none => c.nsGet [] = none ∨ c.nsGet [] = some (uri c e)
  | some p =>
    if p = [] then uri c e = []
    else if p = "*".toStr then True
    else ∃ u, c.nsGet p = some u ∧ uri c e = u

theorem matchNamespace_iff (c : Ctx) (e : Elem) (t : SelTag) :
    matchNamespace c e t = true ↔ NsCond c e t.pfx := by
  obtain ⟨n, pfx⟩ := t
  cases pfx with
  | none => exact C12.ns_default c e n
  | some p =>
    by_cases hp : p = []
    · subst hp; simpa [NsCond] using C12.ns_none c e n
    · by_cases hs : p = "*".toStr
      · subst hs; simp only [NsCond, hp, if_false, if_true, C12.ns_any]
      · rw [C12.ns_prefix c e n p hp hs]; simp only [NsCond, hp, hs, if_false]

/-- What a compound says about the element's type: nothing but the default namespace (the implied `*`)
    when no type selector is written. -/
def TagCond (c : Ctx) (e : Elem) : Option SelTag → Prop
  | none => NsCond c e none
  | some t => NsCond c e t.pfx ∧ NameCond c e t.name

theorem matchTag_implTag_iff (c : Ctx) (e : Elem) (t : Option SelTag) :
    matchTag c e (implTag false t) = true ↔ TagCond c e t := by
  cases t with
  | none =>
    show matchTag c e (some ⟨[42], none⟩) = true ↔ _
    rw [C12.tag_some, Bool.and_eq_true, matchNamespace_iff, matchTagname_iff]
    simp [TagCond, NameCond]
  | some t =>
    show matchTag c e (some t) = true ↔ _
    rw [C12.tag_some, Bool.and_eq_true, matchNamespace_iff, matchTagname_iff]
    rfl

/-- The implied `*` of a top-level compound without type selector, written out. -/
theorem matchTag_star_iff (c : Ctx) (e : Elem) : matchTag c e (some ⟨[42], none⟩) = true ↔ TagCond c e none :=
  matchTag_implTag_iff c e none

end

section
open Names
open Css (AttrTest AttrOp)

/-- The value test of `[… a op v flag]` on one attribute (`Spec/CssValue.lean`; for `!=` this is the `=`
    test, negated one level up). -/
def Passes (c : Ctx) (a : Str) (t : AttrTest) (x : Attr) : Prop :=
  Css.valTest t.op t.value (Css.caseInsensitive c a t.flag) (nvalJoin (normalizeValue x.val)) = true

/-- An attribute selector with name `a` and test `test` holds of `e`, `D` being the attributes its prefix and
    name designate: SOME designated attribute (passes the test); for `!=`: NO designated attribute has the
    value. -/
def AttrHolds (c : Ctx) (e : Elem) (a : Str) (test : Option AttrTest) (D : Attr → Prop) : Prop :=
  match test with
  | none => ∃ x ∈ e.attrs, D x
  | some t =>
    if t.op = AttrOp.ne then ¬ ∃ x ∈ e.attrs, D x ∧ Passes c a t x
    else ∃ x ∈ e.attrs, D x ∧ Passes c a t x

theorem AttrHolds_congr (c : Ctx) (e : Elem) (a : Str) (test : Option AttrTest) (D D' : Attr → Prop)
    (h : ∀ x, D x ↔ D' x) : AttrHolds c e a test D ↔ AttrHolds c e a test D' := by
  have : D = D' := funext fun x => propext (h x)
  rw [this]

theorem satAttr_iff (c : Ctx) (e : Elem) (p a : Str) (test : Option AttrTest) :
    Css.satAttr c e p a test = true ↔ AttrHolds c e a test (fun x => designates c p a x = true) := by
  unfold Css.satAttr AttrHolds
  rw [Names.mav_eq]
  cases test with
  | none => simp
  | some t =>
    by_cases hop : t.op = AttrOp.ne
    · simp [hop, Passes]
    · have : (t.op == AttrOp.ne) = false := by simpa using hop
      simp [hop, this, Passes]

end

end C12Parse
end SoupVerif
