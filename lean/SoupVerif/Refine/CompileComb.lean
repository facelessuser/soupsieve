/-
  The `combine` token `WSC*?(?P<relation>[,+>~]|WS(?!WSC*[,+>~]))WSC*`: its lazy star and its look-ahead
  related to the hand scanner `skipWSC`.
-/
import SoupVerif.Refine.CompileIdent
namespace SoupVerif
namespace Refine
namespace Compile
open Rx RxBasic SoupVerif.Parser ParserProgress Escape Spelling
open Wsc (CaseFree wscRx wsRx gapRx unitEnd wsEnd commentEnd gapEnd)
open Ident (IdentFold)

def combSet : Rx := .set false [.ch 44, .ch 43, .ch 62, .ch 126] true
def relRx : Rx := .alt [combSet, .seq [wsRx true, .look true true (.seq [gapRx true, combSet])]]

theorem tok_combine_shape :
    Gen.tok_combine = .seq [.rep 0 none false (wscRx true), .group 1 relRx, gapRx true] := rfl

theorem isChar_comb {env : CharEnv} (h : IdentFold env) (s : Str) : IsChar env s combSet isComb := by
  apply isChar_congr (isChar_set env s _ _ _)
  intro x
  have h44 := Ident.fold_const_eq h 44 (by omega) x
  have h43 := Ident.fold_const_eq h 43 (by omega) x
  have h62 := Ident.fold_const_eq h 62 (by omega) x
  have h126 := Ident.fold_const_eq h 126 (by omega) x
  simp [setHas, itemHas, isComb, h44, h43, h62, h126, Bool.or_assoc]

/-- `WSC*?` followed by `rs`: the first success of `rs` at the successive unit boundaries. -/
theorem lazyGap_head {env : CharEnv} (hcf : CaseFree env) (s : Str) (rs : List Rx) (i : Nat) (caps : Caps) :
    (runsSeq env s (.rep 0 none false (wscRx true) :: rs) i caps).head? =
      lazyHead (unitEnd s) (fun p => (runsSeq env s rs p caps).head?) (s.length - i + 0 + 2) i :=
  lazy_then (fun p c => Wsc.wsc_runs true (fun _ => hcf) s p c) (fun _ _ h => (Wsc.unitEnd_bounds h).1) rs i caps

theorem unit_start_not_comb {s : Str} {j x : Nat} (h : (unitEnd s j).isSome = true) (hx : s[j]? = some x) :
    isComb x = false := by
  obtain ⟨y, hy, h'⟩ := unit_start_char h
  rw [hx] at hy; cases hy
  rcases h' with hw | rfl
  · simp only [isCssWs, Bool.or_eq_true, beq_iff_eq] at hw
    rcases hw with (((e | e) | e) | e) | e <;> subst e <;> rfl
  · rfl

section
variable {env : CharEnv} (hcf : CaseFree env) (hif : IdentFold env) (s : Str)
include hcf hif

omit hcf in
theorem comb_at (j : Nat) (c : Caps) (rs : List Rx) :
    runsSeq env s (combSet :: rs) j c =
      match s[j]? with
      | some x => if isComb x then runsSeq env s rs (j + 1) c else []
      | none => [] :=
  runsSeq_char (isChar_comb hif s) rs j c

omit hcf in
theorem comb_fail_at_unit (j : Nat) (c : Caps) (rs : List Rx) (h : (unitEnd s j).isSome = true) :
    runsSeq env s (combSet :: rs) j c = [] := by
  rw [runsSeq_char (isChar_comb hif s)]
  cases hx : s[j]? with
  | none => rfl
  | some x => simp [unit_start_not_comb h hx]

/-- The body of the look-ahead `(?!WSC*[,+>~])` at `p`: succeeds iff the maximal gap from `p` is
    followed by a combinator character. -/
theorem lookBody (p : Nat) (caps : Caps) (hp : p ≤ s.length) :
    (runsSeq env s [gapRx true, combSet] p caps).isEmpty =
      !(match (skipWSC (s.drop p)).head? with | some x => isComb x | none => false) := by
  rw [Wsc.gap_then true (fun _ => hcf) s p hp caps [combSet]
    (fun j c hj => comb_fail_at_unit hif s j c [] hj)]
  rw [runsSeq_char (isChar_comb hif s), ← Wsc.gapEnd_drop s p hp, List.head?_drop]
  cases s[gapEnd s p]? with
  | none => rfl
  | some x =>
    simp only [runsSeq_nil]
    cases isComb x <;> rfl

theorem rel_runs (p : Nat) :
    runs env s relRx p [] =
      (match s[p]? with | some x => if isComb x then [(p + 1, [])] else [] | none => []) ++
      (match wsEnd s p with
        | some p' =>
          if (match (skipWSC (s.drop p')).head? with | some x => isComb x | none => false)
          then [] else [(p', [])]
        | none => []) := by
  unfold relRx
  rw [runs_alt, runsAlt_cons, runsAlt_cons, runsAlt_nil, List.append_nil,
    ← RxBasic.runsSeq_single, comb_at hif, runs_seq, runsSeq_cons,
    Wsc.ws_runs true (fun _ => hcf)]
  simp only [runsSeq_nil]
  congr 1
  · have hb : ∀ p', wsEnd s p = some p' → p' ≤ s.length := by
      intro p' hw
      have : unitEnd s p = some p' := by unfold unitEnd; rw [hw]
      exact (Wsc.unitEnd_bounds this).2
    generalize wsEnd s p = w at hb ⊢
    cases w with
    | none => rfl
    | some p' =>
      simp only [one, List.flatMap_cons, List.flatMap_nil, List.append_nil]
      rw [RxBasic.runsSeq_single, runs, runs_seq, lookBody hcf hif s p' [] (hb p' rfl)]
      cases (match (skipWSC (s.drop p')).head? with | some x => isComb x | none => false) <;> simp

/-- The continuation of `WSC*?` in `combine`, at a unit boundary `p`. -/
def relK (env : CharEnv) (s : Str) (p : Nat) : Option (Nat × Caps) :=
  (runsSeq env s [.group 1 relRx, gapRx true] p []).head?

omit hif hcf in
theorem relK_of_nil (p : Nat) (h : runs env s relRx p [] = []) : relK env s p = none := by
  unfold relK
  rw [runsSeq_cons, runs_group, h]; rfl

omit hif in
theorem relK_of_head (p q : Nat) (rest : List (Nat × Caps)) (hq : q ≤ s.length)
    (h : runs env s relRx p [] = (q, []) :: rest) :
    relK env s p = some (gapEnd s q, [(1, p, q)]) := by
  unfold relK
  rw [runsSeq_cons, runs_group, h]
  simp only [List.map_cons, List.flatMap_cons, List.filter_nil]
  apply head?_append_of_some
  rw [RxBasic.runsSeq_single]
  obtain ⟨_, _, _, _, rest', h', _⟩ := Wsc.gap_runs true (fun _ => hcf) s q hq [(1, p, q)]
  rw [h']; rfl

theorem relK_comb (p c : Nat) (hc : s[p]? = some c) (hcomb : isComb c = true) :
    relK env s p = some (gapEnd s (p + 1), [(1, p, p + 1)]) := by
  have hlt := RxBasic.lt_of_getElem?_some hc
  have := rel_runs hcf hif s p
  rw [hc] at this
  simp only [hcomb, if_true, List.cons_append, List.nil_append] at this
  exact relK_of_head hcf s p (p + 1) _ (by omega) this

theorem relK_comment (p : Nat) (hw : wsEnd s p = none) (hu : (unitEnd s p).isSome = true) :
    relK env s p = none := by
  apply relK_of_nil
  rw [rel_runs hcf hif s p, hw]
  cases hx : s[p]? with
  | none => rfl
  | some x => simp [unit_start_not_comb hu hx]

theorem relK_ws_comb (p p' c : Nat) (r : Str) (hw : wsEnd s p = some p')
    (hr : skipWSC (s.drop p') = c :: r) (hcomb : isComb c = true) : relK env s p = none := by
  apply relK_of_nil
  have hu : (unitEnd s p).isSome = true := by unfold unitEnd; rw [hw]; rfl
  rw [rel_runs hcf hif s p, hw]
  simp only [hr, List.head?_cons, hcomb, if_true, List.append_nil]
  cases hx : s[p]? with
  | none => rfl
  | some x => simp [unit_start_not_comb hu hx]

/-- At a whitespace unit after which the gap leads to something else: the descendant combinator. -/
theorem relK_ws_desc (p p' : Nat) (hw : wsEnd s p = some p')
    (hr : ∀ c ∈ (skipWSC (s.drop p')).head?, isComb c = false) :
    relK env s p = some (gapEnd s p', [(1, p, p')]) := by
  have hu : unitEnd s p = some p' := by unfold unitEnd; rw [hw]
  have hb := Wsc.unitEnd_bounds hu
  have hnc : (match (skipWSC (s.drop p')).head? with | some x => isComb x | none => false) = false := by
    cases hh : (skipWSC (s.drop p')).head? with
    | none => rfl
    | some x => exact hr x (by simp [hh])
  have := rel_runs hcf hif s p
  rw [hw] at this
  simp only [hnc, Bool.false_eq_true, if_false] at this
  have hx : (match s[p]? with | some x => if isComb x = true then [(p + 1, ([] : Caps))] else [] | none => []) = [] := by
    cases hx : s[p]? with
    | none => rfl
    | some x => simp [unit_start_not_comb (by rw [hu]; rfl) hx]
  rw [hx, List.nil_append] at this
  exact relK_of_head hcf s p p' [] hb.2 this

omit hcf hif in
theorem gapEnd_of_skip_self {pos : Nat} (hp : pos ≤ s.length) (h : skipWSC (s.drop pos) = s.drop pos) :
    gapEnd s pos = pos := by
  unfold gapEnd; rw [h, List.length_drop]; omega

theorem lazyHead_comb (c : Nat) (R : Str) (hcomb : isComb c = true) :
    ∀ (fuel pos : Nat), s.length - pos + 1 ≤ fuel → pos ≤ s.length → skipWSC (s.drop pos) = c :: R →
      lazyHead (unitEnd s) (relK env s) fuel pos =
        some (gapEnd s (gapEnd s pos + 1), [(1, gapEnd s pos, gapEnd s pos + 1)])
  | 0, _, hf, _, _ => by omega
  | fuel + 1, pos, hf, hp, hsk => by
    rw [lazyHead]
    cases hu : unitEnd s pos with
    | none =>
      have h1 := Wsc.skip_none hu
      have hg := gapEnd_of_skip_self s hp h1
      rw [hsk] at h1
      have hc := getElem?_of_drop_cons h1.symm
      rw [relK_comb hcf hif s pos c hc hcomb, hg]
    | some q =>
      have hb := Wsc.unitEnd_bounds hu
      have hsq : skipWSC (s.drop q) = c :: R := by rw [← Wsc.skip_unit hu]; exact hsk
      have hk : relK env s pos = none := by
        cases hw : wsEnd s pos with
        | none => exact relK_comment hcf hif s pos hw (by rw [hu]; rfl)
        | some p' =>
          have : q = p' := by
            unfold unitEnd at hu; rw [hw] at hu; exact (Option.some.inj hu).symm
          subst this
          exact relK_ws_comb hcf hif s pos q c R hw hsq hcomb
      rw [hk]
      simp only
      rw [lazyHead_comb c R hcomb fuel q (by omega) hb.2 hsq]
      have : gapEnd s q = gapEnd s pos := by unfold gapEnd; rw [hsq, hsk]
      rw [this]

end

theorem DescGap.isGap {g : Str} (h : DescGap g) : isGap g := by
  induction h with
  | ws c g hc hg => exact C09.gap_ws c g hc hg
  | comment cs t hd _ ih =>
    unfold Spelling.isGap
    rw [SpellingLemmas.skipWSC_comment cs t hd]; exact ih

theorem DescGap.ne_nil {g : Str} (h : DescGap g) : g ≠ [] := by
  cases h <;> simp

section
variable {env : CharEnv} (hcf : CaseFree env) (hif : IdentFold env) (s : Str)
include hcf hif

theorem lazyHead_desc (R : Str) (hR : noGapStart R = true) (hRc : ∀ c ∈ R.head?, isComb c = false) :
    ∀ (g : Str), DescGap g → ∀ (fuel pos : Nat), s.length - pos + 1 ≤ fuel → s.drop pos = g ++ R →
      ∃ p p', lazyHead (unitEnd s) (relK env s) fuel pos = some (pos + g.length, [(1, p, p')]) ∧
        wsEnd s p = some p' := by
  intro g hg
  induction hg with
  | ws c g' hc hg' =>
    intro fuel pos hf hd
    cases fuel with
    | zero => omega
    | succ fuel =>
      have hx := getElem?_of_drop_cons (s := s) (p := pos) (by rw [hd]; rfl)
      have hlt := RxBasic.lt_of_getElem?_some hx
      obtain ⟨p', hw⟩ : ∃ p', wsEnd s pos = some p' := by
        unfold wsEnd; rw [hx]; simp only [hc, if_true]
        split <;> exact ⟨_, rfl⟩
      have hu : unitEnd s pos = some p' := by unfold unitEnd; rw [hw]
      have hb := Wsc.unitEnd_bounds hu
      have hsk : skipWSC (s.drop p') = R := by
        rw [← Wsc.skip_unit hu, hd, C09.skipWSC_append (c :: g') R (C09.gap_ws c g' hc hg') hR]
      have hk := relK_ws_desc hcf hif s pos p' hw (by rw [hsk]; exact hRc)
      refine ⟨pos, p', ?_, hw⟩
      rw [lazyHead, hk]
      simp only
      have : gapEnd s p' = pos + (c :: g').length := by
        unfold gapEnd; rw [hsk]
        have := congrArg List.length hd
        rw [List.length_drop, List.length_append] at this
        omega
      rw [this]
  | comment cs t hdc _ ih =>
    intro fuel pos hf hd
    cases fuel with
    | zero => omega
    | succ fuel =>
      have hd0 : s.drop pos = 47 :: 42 :: (cs ++ R) := by rw [hd]; rfl
      have hx0 := getElem?_of_drop_cons hd0
      have hd1 := RxBasic.drop_succ_of_drop_cons hd0
      have hx1 := getElem?_of_drop_cons hd1
      have hd2 : s.drop (pos + 2) = cs ++ R := RxBasic.drop_succ_of_drop_cons hd1
      have hw : wsEnd s pos = none := by unfold wsEnd; rw [hx0]; rfl
      have hdc' := Wsc.dropComment_drop s (pos + 2)
      rw [hd2, SpellingLemmas.dropComment_append cs t R hdc] at hdc'
      cases hce : Wsc.cmtEnd s (pos + 2) with
      | none => rw [hce] at hdc'; cases hdc'
      | some q =>
        rw [hce] at hdc'
        simp only [Option.map_some, Option.some.injEq] at hdc'
        have hu : unitEnd s pos = some q := by
          unfold unitEnd; rw [hw]
          simp only [commentEnd, hx0, hx1, and_self, if_true]; exact hce
        have hb := Wsc.unitEnd_bounds hu
        have hk := relK_comment hcf hif s pos hw (by rw [hu]; rfl)
        obtain ⟨p, p', h1, h2⟩ := ih fuel q (by omega) hdc'.symm
        refine ⟨p, p', ?_, h2⟩
        rw [lazyHead, hk]
        simp only [hu]
        rw [h1]
        have e1 := congrArg List.length hd0
        have e2 := congrArg List.length hdc'
        simp only [List.length_drop, List.length_append, List.length_cons] at e1 e2
        congr 2
        simp only [List.length_cons]
        omega

end

theorem combine_matchAt {env : CharEnv} (hcf : CaseFree env) (s : Str) (i : Nat) :
    matchAt env Gen.tok_combine s i = lazyHead (unitEnd s) (relK env s) (s.length - i + 0 + 2) i := by
  rw [tok_combine_shape]
  unfold matchAt
  rw [runs_seq, lazyGap_head hcf]
  rfl

/-- `g₁ c g₂` with `c` one of `,` `+` `>` `~`: one `combine` token up to the end of `g₂`, the relation
    group is the character `c`. -/
theorem combine_matchAt_comb {env : CharEnv} (hcf : CaseFree env) (hif : IdentFold env) (s : Str) (i c : Nat)
    (g₁ g₂ R : Str) (hd : s.drop i = g₁ ++ c :: (g₂ ++ R)) (hg₁ : isGap g₁) (hg₂ : isGap g₂)
    (hcomb : isComb c = true) (hR : noGapStart R = true) :
    ∃ e stop, matchAt env Gen.tok_combine s i = some (stop, [(1, e, e + 1)]) ∧
      slice s e (e + 1) = [c] ∧ s.drop stop = R ∧ i < stop := by
  have hi : i ≤ s.length := Nat.le_of_lt (lt_of_drop_append_cons hd)
  have hcng : noGapStart (c :: (g₂ ++ R)) = true := by
    simp only [isComb, Bool.or_eq_true, beq_iff_eq] at hcomb
    rcases hcomb with ((h | h) | h) | h <;> subst h <;> simp [noGapStart, isCssWs]
  have hsk : skipWSC (s.drop i) = c :: (g₂ ++ R) := by
    rw [hd, C09.skipWSC_append g₁ _ hg₁ hcng]
  have he := Wsc.gapEnd_drop s i hi
  rw [hsk] at he
  have hlt := lt_of_drop_cons he
  have he1 : s.drop (gapEnd s i + 1) = g₂ ++ R := RxBasic.drop_succ_of_drop_cons he
  have hstop := Wsc.gapEnd_drop s (gapEnd s i + 1) (by omega)
  rw [he1, C09.skipWSC_append g₂ R hg₂ hR] at hstop
  refine ⟨gapEnd s i, gapEnd s (gapEnd s i + 1), ?_, ?_, hstop, ?_⟩
  · rw [combine_matchAt hcf, lazyHead_comb hcf hif s c (g₂ ++ R) hcomb _ i (by omega) hi hsk]
  · exact slice_of_drop_append (a := [c]) he
  · have h1 := (Wsc.gap_runs (env := env) true (fun _ => hcf) s i hi []).2.1
    have h2 := (Wsc.gap_runs (env := env) true (fun _ => hcf) s (gapEnd s i + 1) (by omega) []).2.1
    omega

/-- A gap with a whitespace unit, not followed by a combinator character: one `combine` token, the
    relation group is that whitespace unit. -/
theorem combine_matchAt_desc {env : CharEnv} (hcf : CaseFree env) (hif : IdentFold env) (s : Str) (i : Nat)
    (g R : Str) (hd : s.drop i = g ++ R) (hg : DescGap g)
    (hR : noGapStart R = true) (hRc : ∀ c ∈ R.head?, isComb c = false) :
    ∃ p p', matchAt env Gen.tok_combine s i = some (i + g.length, [(1, p, p')]) ∧
      wsEnd s p = some p' := by
  rw [combine_matchAt hcf]
  exact lazyHead_desc hcf hif s R hR hRc g hg _ i (by omega) hd

theorem wsEnd_slice {s : Str} {p p' : Nat} (h : wsEnd s p = some p') :
    ∀ x ∈ slice s p p', isPySpace x = true := by
  unfold wsEnd at h
  cases hx : s[p]? with
  | none => rw [hx] at h; cases h
  | some x =>
    rw [hx] at h
    simp only at h
    have hd := Wsc.drop_cons_of hx
    by_cases hw : isCssWs x = true
    · have hxs : isPySpace x = true := by
        simp only [isCssWs, Bool.or_eq_true, beq_iff_eq] at hw
        rcases hw with (((e | e) | e) | e) | e <;> subst e <;> rfl
      rw [if_pos hw] at h
      split at h
      · next hc =>
        cases h
        have hd' := Wsc.drop_cons_of hc.2
        intro y hy
        unfold slice at hy
        rw [hd, hd'] at hy
        simp only [show p + 2 - p = 2 by omega, List.take_succ_cons, List.take_zero,
          List.mem_cons, List.not_mem_nil, or_false] at hy
        rcases hy with rfl | rfl
        · exact hxs
        · rfl
      · cases h
        intro y hy
        unfold slice at hy
        rw [hd] at hy
        simp only [show p + 1 - p = 1 by omega, List.take_succ_cons, List.take_zero,
          List.mem_cons, List.not_mem_nil, or_false] at hy
        subst hy; exact hxs
    · rw [if_neg hw] at h; cases h

end Compile
end Refine
end SoupVerif

#print axioms SoupVerif.Refine.Compile.lazyGap_head
#print axioms SoupVerif.Refine.Compile.combine_matchAt_comb
#print axioms SoupVerif.Refine.Compile.combine_matchAt_desc
