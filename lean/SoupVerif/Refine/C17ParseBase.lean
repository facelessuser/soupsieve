/-
  The state pseudo-classes of C17 from the selector TEXT, parser side (for `Properties/C17Parse.lean`): what
  `parse_pseudo_class` does on a state keyword, `:root`, `:empty` is read off the name chain translated from the
  source (`C06GenPseudo.state_branch`, `plainPseudo_of_mem`); `pseudoList f` is the one-item pattern `:f` in the
  grammar of `C09Compile`, `oneSub L` / `oneFlag v` the IR of a top-level compound holding one nested list / one
  flag; `compile_state`, `compile_root`, `compile_empty`, `compile_dir` give the parser model on the text through
  `C09Compile.compile_eq_denote`.
-/
import SoupVerif.Properties.C09Compile
import SoupVerif.Properties.C06GenPseudo
namespace SoupVerif
namespace Refine.C17Parse
open SoupVerif.Parser Spelling Escape Refine.Compile
open C09Compile (Forms identOK SItem SCompound SSelList plainName denote)

namespace StateKw

theorem name_simple (K : StateKw) : inList Gen.lexicon.pseudoSimple (58 :: K.name) = true := by
  obtain ⟨ks, a, k, h, hk, hkn, -⟩ := C06GenPseudo.state_branch K
  exact hkn ▸ C06GenPseudo.simple_of_mem h hk

theorem name_plain (K : StateKw) : plainName (58 :: K.name) := Or.inl K.name_simple

end StateKw

/-- `:f` as a selector list of `C09Compile`'s grammar: one compound, no type selector, one item. -/
def pseudoList (f : Forms) : SSelList := .mk (.mk none [.pseudo f]) []

theorem pseudoList_render (f : Forms) : (pseudoList f).render = 58 :: renderIdentWith f := by
  simp [pseudoList, SSelList.render, SCompound.render, C09Compile.renderItems, SItem.render,
    C09Compile.renderRest]

theorem pseudoList_ok (f : Forms) (r : Str) (hf : identOK f r) (hn : plainName (58 :: lower (valueOf f))) :
    (pseudoList f).ok r := by
  simp only [pseudoList, SSelList.ok, SCompound.ok, C09Compile.itemsOK, C09Compile.restOK, SItem.ok,
    C09Compile.renderItems, C09Compile.renderRest, List.nil_append]
  exact ⟨⟨trivial, ⟨⟨hf, hn⟩, trivial⟩, Or.inr (by simp)⟩, trivial⟩

/-- `ct.SelectorList()` -/
abbrev noRel : SelList := .mk [] false false

/-- The compiled form of a pattern whose only content is the nested list `L`: one compound `*` (the type
    selector every top-level compound is given) whose `selectors` hold `L`; no flags. -/
def oneSub (L : SelList) : SelList :=
  .mk [.mk (some ⟨[42], none⟩) [] [] [] [] [L] noRel .none [] [] 0] false false

/-- … whose only content is the flag `v`. -/
def oneFlag (v : Nat) : SelList :=
  .mk [.mk (some ⟨[42], none⟩) [] [] [] [] [] noRel .none [] [] v] false false

/-- `parse_pseudo_class` on a state keyword: the built-in list is appended to the `selectors` of the
    compound being built. -/
theorem plainPseudo_state (B : Builtins) (K : StateKw) (b : SelB) :
    plainPseudo B (58 :: K.name) b = b.addSub (K.pick B) := by
  obtain ⟨ks, a, k, h, hk, hkn, hr⟩ := C06GenPseudo.state_branch K
  rw [← hkn, C06GenPseudo.plainPseudo_of_mem B h hk, hr]

theorem plainPseudo_root (B : Builtins) (b : SelB) :
    plainPseudo B ":root".toStr b = b.orFlags SEL_ROOT :=
  C06GenPseudo.plainPseudo_of_mem B (ks := [":root"]) (a := .orFlag SEL_ROOT) (by decide) (by decide) b

theorem plainPseudo_empty (B : Builtins) (b : SelB) :
    plainPseudo B ":empty".toStr b = b.orFlags SEL_EMPTY :=
  C06GenPseudo.plainPseudo_of_mem B (ks := [":empty"]) (a := .orFlag SEL_EMPTY) (by decide) (by decide) b

theorem denote_pseudo (B : Builtins) (f : Forms) :
    denote B (pseudoList f).value =
      C09Compile.finishTop { sel := plainPseudo B (58 :: lower (valueOf f)) SelB.empty, hasSelector := true } := by
  rfl

theorem denote_state (B : Builtins) (K : StateKw) (f : Forms) (hK : lower (valueOf f) = K.name) :
    denote B (pseudoList f).value = oneSub (K.pick B) := by
  rw [denote_pseudo, hK, plainPseudo_state]
  rfl

theorem denote_root (B : Builtins) (f : Forms) (hK : lower (valueOf f) = "root".toStr) :
    denote B (pseudoList f).value = oneFlag SEL_ROOT := by
  rw [denote_pseudo, hK, show 58 :: "root".toStr = ":root".toStr by decide_lit, plainPseudo_root]
  rfl

theorem denote_empty (B : Builtins) (f : Forms) (hK : lower (valueOf f) = "empty".toStr) :
    denote B (pseudoList f).value = oneFlag SEL_EMPTY := by
  rw [denote_pseudo, hK, show 58 :: "empty".toStr = ":empty".toStr by decide_lit, plainPseudo_empty]
  rfl

/-- **The parser model on `:name`** (`name` in any admissible spelling of a keyword of the tables of
    pseudo-classes without arguments, between two gaps). -/
theorem compile_pseudo (B : Builtins) (f : Forms) (g₁ g₂ : Str) (hg₁ : isGap g₁) (hg₂ : isGap g₂)
    (hf : identOK f g₂) (hn : plainName (58 :: lower (valueOf f)))
    (h0 : ∀ x ∈ g₁ ++ 58 :: renderIdentWith f ++ g₂, x ≠ 0) :
    Parser.compile pyFoldEnv Gen.lexicon B (g₁ ++ 58 :: renderIdentWith f ++ g₂) [] 0 =
      .ok (denote B (pseudoList f).value) := by
  have := C09Compile.compile_eq_denote B g₁ g₂ (pseudoList f) hg₁ hg₂ (pseudoList_ok f g₂ hf hn)
    (by rw [pseudoList_render]; exact h0)
  rwa [pseudoList_render] at this

theorem compile_state (B : Builtins) (K : StateKw) (f : Forms) (g₁ g₂ : Str) (hg₁ : isGap g₁) (hg₂ : isGap g₂)
    (hf : identOK f g₂) (hK : lower (valueOf f) = K.name)
    (h0 : ∀ x ∈ g₁ ++ 58 :: renderIdentWith f ++ g₂, x ≠ 0) :
    Parser.compile pyFoldEnv Gen.lexicon B (g₁ ++ 58 :: renderIdentWith f ++ g₂) [] 0 =
      .ok (oneSub (K.pick B)) := by
  rw [compile_pseudo B f g₁ g₂ hg₁ hg₂ hf (by rw [hK]; exact K.name_plain) h0, denote_state B K f hK]

theorem compile_root (B : Builtins) (f : Forms) (g₁ g₂ : Str) (hg₁ : isGap g₁) (hg₂ : isGap g₂)
    (hf : identOK f g₂) (hK : lower (valueOf f) = "root".toStr)
    (h0 : ∀ x ∈ g₁ ++ 58 :: renderIdentWith f ++ g₂, x ≠ 0) :
    Parser.compile pyFoldEnv Gen.lexicon B (g₁ ++ 58 :: renderIdentWith f ++ g₂) [] 0 =
      .ok (oneFlag SEL_ROOT) := by
  rw [compile_pseudo B f g₁ g₂ hg₁ hg₂ hf (by rw [hK]; exact Or.inl (by decide)) h0, denote_root B f hK]

theorem compile_empty (B : Builtins) (f : Forms) (g₁ g₂ : Str) (hg₁ : isGap g₁) (hg₂ : isGap g₂)
    (hf : identOK f g₂) (hK : lower (valueOf f) = "empty".toStr)
    (h0 : ∀ x ∈ g₁ ++ 58 :: renderIdentWith f ++ g₂, x ≠ 0) :
    Parser.compile pyFoldEnv Gen.lexicon B (g₁ ++ 58 :: renderIdentWith f ++ g₂) [] 0 =
      .ok (oneFlag SEL_EMPTY) := by
  rw [compile_pseudo B f g₁ g₂ hg₁ hg₂ hf (by rw [hK]; exact Or.inl (by decide)) h0, denote_empty B f hK]

/-- `:dir(` gap `ltr`|`rtl` gap `)` (the keyword in any letter case) as a selector list of the grammar. -/
def dirPat (f : Forms) (g₁ : Str) (ltr : Bool) (m : List Bool) (g₂ : Str) : SSelList :=
  .mk (.mk none [.dir f g₁ ltr m g₂]) []

theorem dirPat_render (f : Forms) (g₁ : Str) (ltr : Bool) (m : List Bool) (g₂ : Str) :
    (dirPat f g₁ ltr m g₂).render =
      58 :: (renderIdentWith f ++ (40 :: (g₁ ++ (mixCase m (dirWord ltr) ++ (g₂ ++ [41]))))) := by
  simp [dirPat, SSelList.render, SCompound.render, C09Compile.renderItems, SItem.render,
    C09Compile.renderRest]

theorem dirPat_ok (f : Forms) (g₁ : Str) (ltr : Bool) (m : List Bool) (g₂ r : Str)
    (hf : identOK f (40 :: (g₁ ++ (mixCase m (dirWord ltr) ++ (g₂ ++ 41 :: r)))))
    (hn : lower (valueOf f) = "dir".toStr) (hg₁ : isGap g₁) (hg₂ : isGap g₂) :
    (dirPat f g₁ ltr m g₂).ok r := by
  simp only [dirPat, SSelList.ok, SCompound.ok, C09Compile.itemsOK, C09Compile.restOK, SItem.ok,
    C09Compile.renderItems, C09Compile.renderRest, List.nil_append]
  exact ⟨⟨trivial, ⟨⟨hf, by rw [hn]; rfl, hg₁, hg₂⟩, trivial⟩, Or.inr (by simp)⟩, trivial⟩

/-- The list `parse_pseudo_dir` appends: HTML-only, one compound holding the direction flag. -/
def dirIR (ltr : Bool) : SelList :=
  .mk [.mk none [] [] [] [] [] noRel .none [] [] (if ltr then SEL_DIR_LTR else SEL_DIR_RTL)] false true

theorem denote_dir (B : Builtins) (f : Forms) (g₁ : Str) (ltr : Bool) (m : List Bool) (g₂ : Str) :
    denote B (dirPat f g₁ ltr m g₂).value = oneSub (dirIR ltr) := by
  cases ltr <;> rfl

/-- **The parser model on `:dir(ltr)` / `:dir(rtl)`** in any spelling, between two gaps. -/
theorem compile_dir (B : Builtins) (f : Forms) (g₁ : Str) (ltr : Bool) (m : List Bool) (g₂ g₀ g₃ : Str)
    (hg₀ : isGap g₀) (hg₃ : isGap g₃)
    (hf : identOK f (40 :: (g₁ ++ (mixCase m (dirWord ltr) ++ (g₂ ++ 41 :: g₃)))))
    (hn : lower (valueOf f) = "dir".toStr) (hg₁ : isGap g₁) (hg₂ : isGap g₂)
    (h0 : ∀ x ∈ g₀ ++ 58 :: (renderIdentWith f ++ (40 :: (g₁ ++ (mixCase m (dirWord ltr) ++ (g₂ ++ [41]))))) ++ g₃,
      x ≠ 0) :
    Parser.compile pyFoldEnv Gen.lexicon B
      (g₀ ++ 58 :: (renderIdentWith f ++ (40 :: (g₁ ++ (mixCase m (dirWord ltr) ++ (g₂ ++ [41]))))) ++ g₃) [] 0 =
      .ok (oneSub (dirIR ltr)) := by
  have := C09Compile.compile_eq_denote B g₀ g₃ (dirPat f g₁ ltr m g₂) hg₀ hg₃
    (dirPat_ok f g₁ ltr m g₂ g₃ hf hn hg₁ hg₂) (by rw [dirPat_render]; exact h0)
  rwa [dirPat_render, denote_dir] at this

#print axioms compile_state
#print axioms compile_root
#print axioms compile_empty
#print axioms compile_dir

end Refine.C17Parse
end SoupVerif
