/-
  General engine lemmas for the refinement proofs of `css_match.Inputs` (`Refine/Inputs.lean`): positions read as
  suffixes (`s.drop i`), grouped repetitions of a one-character test, linear patterns of literals and two-digit
  groups against their scanner (`Piece`, `scan`, `runs_pieces`, `pieces_groups`), and the list facts tying
  `splitAt1` to `takeWhile` / `dropWhile`.
-/
import SoupVerif.Lemmas.RxBasic
import SoupVerif.Model.Inputs
namespace SoupVerif
namespace RefineInputs
open Rx RxBasic Inputs

theorem spanLen_drop (s : Str) (P : Nat → Bool) (i : Nat) :
    spanLen s P i = ((s.drop i).takeWhile P).length := rfl

theorem drop_span (s : Str) (P : Nat → Bool) (i : Nat) :
    s.drop (i + spanLen s P i) = (s.drop i).dropWhile P := by
  rw [← List.drop_drop, spanLen_drop]
  generalize s.drop i = t
  induction t with
  | nil => rfl
  | cons x t ih =>
    by_cases hx : P x = true
    · simp [hx, ih]
    · simp [hx]

theorem span_of_drop {s t : Str} {i : Nat} (P : Nat → Bool) (h : s.drop i = t) :
    spanLen s P i = (t.takeWhile P).length ∧ s.drop (i + spanLen s P i) = t.dropWhile P := by
  subst h; exact ⟨rfl, drop_span s P i⟩

theorem take_span (s : Str) (P : Nat → Bool) (i : Nat) :
    (s.drop i).take (spanLen s P i) = (s.drop i).takeWhile P := by
  rw [spanLen_drop]
  generalize s.drop i = t
  induction t with
  | nil => rfl
  | cons x t ih =>
    by_cases hx : P x = true
    · simp [hx, ih]
    · simp [hx]

/-- `m.group(idx)`: the slice of `s` at the span of group `idx` (empty when the group is unset). -/
def grp (s : Str) (caps : Caps) (idx : Nat) : Str :=
  match capSpan caps idx with
  | some (a, b) => (s.drop a).take (b - a)
  | none => []

/-- `(?P<idx>P{n})` followed by a continuation. -/
theorem runsSeq_group_exact {env : CharEnv} {s : Str} {r : Rx} {P : Nat → Bool} (h : IsChar env s r P)
    (idx n : Nat) (g : Bool) (rs : List Rx) (i : Nat) (caps : Caps) :
    runsSeq env s (.group idx (.rep n (some n) g r) :: rs) i caps =
      if n ≤ spanLen s P i then runsSeq env s rs (i + n) (setCap idx i (i + n) caps) else [] := by
  rw [runsSeq_cons, runs_group_setCap, runs_rep_char_exact h]
  by_cases hn : n ≤ spanLen s P i
  · simp [hn]
  · simp [hn]

/-- `(?P<idx>P{mn,})` followed by a continuation that fails wherever a `P` character stands. -/
theorem runsSeq_group_rep_cut {env : CharEnv} {s : Str} {r : Rx} {P : Nat → Bool} (h : IsChar env s r P)
    (idx mn : Nat) (rs : List Rx) (i : Nat) (caps : Caps)
    (hcut : ∀ j x c, s[j]? = some x → P x = true → runsSeq env s rs j c = []) :
    runsSeq env s (.group idx (.rep mn none true r) :: rs) i caps =
      if mn ≤ spanLen s P i then
        runsSeq env s rs (i + spanLen s P i) (setCap idx i (i + spanLen s P i) caps)
      else [] := by
  rw [runsSeq_cons, runs_group_setCap, runs_rep_char h, List.flatMap_map]
  simp only [room]
  by_cases hmn : mn ≤ spanLen s P i
  · rw [if_pos hmn]
    have := flatMap_down_cut caps (fun x => runsSeq env s rs x.1 (setCap idx i x.1 x.2))
      (spanLen s P i - mn) (i + mn) (by
      intro j h1 h2
      obtain ⟨x, hx, hPx⟩ := span_inside s P (j - i) i (by omega)
      rw [show i + (j - i) = j by omega] at hx
      exact hcut j x _ hx hPx)
    rw [show i + mn + (spanLen s P i - mn) = i + spanLen s P i by omega] at this
    exact this
  · rw [if_neg hmn, down_empty caps (by omega)]; rfl

theorem runsSeq_lit (env : CharEnv) (s : Str) (ch : Nat) (rs : List Rx) (i : Nat) (caps : Caps) :
    runsSeq env s (.lit ch false :: rs) i caps =
      match s.drop i with
      | x :: _ => if x = ch then runsSeq env s rs (i + 1) caps else []
      | [] => [] := by
  rw [runsSeq_char (isChar_lit env s ch false)]
  cases hd : s.drop i with
  | nil => rw [getElem?_of_drop_nil hd]
  | cons x t => rw [getElem?_of_drop_cons hd]; simp

/-- `[0-9]` as it is generated. -/
abbrev dg : Rx := .set false [.range 48 57] false

theorem isChar_digit (env : CharEnv) (s : Str) :
    IsChar env s dg isDigit := by
  apply isChar_congr (isChar_set env s _ _ _)
  intro c
  simp [setHas, itemHas, isDigit]

/-- `2 ≤` the digit span, on an explicit suffix. -/
def two (t : Str) : Bool :=
  match t with
  | a :: b :: _ => isDigit a && isDigit b
  | _ => false

theorem two_le_span (s : Str) (i : Nat) : (2 ≤ spanLen s isDigit i) = (two (s.drop i) = true) := by
  rw [spanLen_drop]
  generalize s.drop i = t
  rcases t with _ | ⟨a, _ | ⟨b, t⟩⟩
  · simp [two]
  · by_cases ha : isDigit a = true <;> simp [two, ha]
  · by_cases ha : isDigit a = true <;> by_cases hb : isDigit b = true <;>
      simp [two, ha, hb]

/-- `(?P<idx>[0-9]{2})` followed by a continuation, suffix view. -/
theorem runsSeq_g2 (env : CharEnv) (s : Str) (idx : Nat) (g : Bool) (rs : List Rx) (i : Nat) (caps : Caps) :
    runsSeq env s (.group idx (.rep 2 (some 2) g dg) :: rs) i caps =
      if two (s.drop i) = true then runsSeq env s rs (i + 2) (setCap idx i (i + 2) caps) else [] := by
  rw [runsSeq_group_exact (isChar_digit env s)]
  simp only [two_le_span]

/-- Read the leading digits `y`, require the separator `c` next, and continue with `f y rest`. -/
def afterDigits {α : Type} (c : Nat) (f : Str → Str → Option α) (s : Str) : Option α :=
  match s.dropWhile isDigit with
  | x :: r => if x = c then f (s.takeWhile isDigit) r else none
  | [] => none

theorem afterDigits_nil {α : Type} (c : Nat) (f : Str → Str → Option α) : afterDigits c f [] = none := rfl

theorem afterDigits_cons {α : Type} (c : Nat) (f : Str → Str → Option α) (x : Nat) (s : Str) :
    afterDigits c f (x :: s) =
      if isDigit x = true then afterDigits c (fun y r => f (x :: y) r) s
      else if x = c then f [] s else none := by
  unfold afterDigits
  by_cases hx : isDigit x = true
  · simp [hx]
  · simp [hx]

theorem afterDigits_none {α : Type} (c : Nat) (s : Str) :
    afterDigits (α := α) c (fun _ _ => none) s = none := by
  unfold afterDigits
  split
  · split <;> rfl
  · rfl

theorem splitAt1_digits {α : Type} (c : Nat) (hc : isDigit c = false) (f : Str → Str → Option α) :
    ∀ s : Str, ((splitAt1 c s).bind fun p => if p.1.all isDigit = true then f p.1 p.2 else none) =
      afterDigits c f s
  | [] => rfl
  | x :: s => by
    rw [splitAt1, afterDigits_cons]
    by_cases hx : x = c
    · subst hx
      simp [hc]
    · have hx' : (x == c) = false := by simpa using hx
      rw [hx']
      simp only [Bool.false_eq_true, if_false]
      by_cases hd : isDigit x = true
      · have ih := splitAt1_digits c hc (fun y r => f (x :: y) r) s
        simp only [hd, if_true]
        rw [← ih]
        cases splitAt1 c s with
        | none => rfl
        | some p => simp [hd]
      · simp only [hd]
        simp only [Bool.false_eq_true, if_false, hx]
        cases splitAt1 c s with
        | none => rfl
        | some p => simp [hd]

/-! ### Linear patterns of literals and two-digit groups, up to the end of the input -/

/-- A piece of a linear pattern: a literal character or a capturing group of exactly two digits. -/
inductive Piece where
  | lit (c : Nat)
  | two (idx : Nat)
  deriving DecidableEq, Repr

/-- The regular expression of a piece, as `sre` compiles it. -/
def Piece.rx : Piece → Rx
  | .lit c => .lit c false
  | .two k => .group k (.rep 2 (some 2) true dg)

/-- The group numbers of a pattern. -/
def keys : List Piece → List Nat
  | [] => []
  | .lit _ :: ps => keys ps
  | .two k :: ps => k :: keys ps

/-- Scanner for a linear pattern that must consume the whole of `t`: the texts of the groups. -/
def scan : List Piece → Str → Option (List (Nat × Str))
  | [], t => if t = [] then some [] else none
  | .lit c :: ps, t =>
    match t with
    | x :: t' => if x = c then scan ps t' else none
    | [] => none
  | .two k :: ps, t =>
    match t with
    | a :: b :: t' => if (isDigit a && isDigit b) = true then (scan ps t').map ((k, [a, b]) :: ·) else none
    | _ => none

/-- The text of group `k` in a scan result. -/
def get (g : List (Nat × Str)) (k : Nat) : Str := (g.lookup k).getD []

/-- The captures after the engine has run a pattern from position `i`. -/
def capsOf : List Piece → Nat → Caps → Caps
  | [], _, caps => caps
  | .lit _ :: ps, i, caps => capsOf ps (i + 1) caps
  | .two k :: ps, i, caps => capsOf ps (i + 2) (setCap k i (i + 2) caps)

theorem drop_cons_facts {s t : Str} {i x : Nat} (h : s.drop i = x :: t) :
    i + 1 ≤ s.length ∧ s.drop (i + 1) = t :=
  ⟨lt_of_drop_cons h, drop_succ_of_drop_cons h⟩

theorem runs_pieces (env : CharEnv) (s : Str) : ∀ (ps : List Piece) (i : Nat) (caps : Caps), i ≤ s.length →
    runsSeq env s (ps.map Piece.rx ++ [.eos]) i caps =
      if (scan ps (s.drop i)).isSome = true then [(s.length, capsOf ps i caps)] else []
  | [], i, caps, hi => by
    simp only [List.map_nil, List.nil_append, runsSeq_eos, scan, capsOf]
    by_cases h : i = s.length
    · subst h; simp
    · have : s.drop i ≠ [] := by
        intro h'; rw [List.drop_eq_nil_iff] at h'; omega
      simp [h, this]
  | .lit c :: ps, i, caps, hi => by
    simp only [List.map_cons, List.cons_append, Piece.rx, runsSeq_lit, scan, capsOf]
    cases hd : s.drop i with
    | nil => simp
    | cons x t =>
      obtain ⟨h1, h2⟩ := drop_cons_facts hd
      by_cases hx : x = c
      · simp only [hx, if_true]
        rw [runs_pieces env s ps (i + 1) caps h1, h2]
      · simp [hx]
  | .two k :: ps, i, caps, hi => by
    simp only [List.map_cons, List.cons_append, Piece.rx, runsSeq_g2, scan, capsOf]
    rcases hd : s.drop i with _ | ⟨a, _ | ⟨b, t⟩⟩
    · simp [two]
    · simp [two]
    · obtain ⟨h1, h2⟩ := drop_cons_facts hd
      obtain ⟨h3, h4⟩ := drop_cons_facts h2
      by_cases hab : (isDigit a && isDigit b) = true
      · simp only [two, hab, if_true]
        rw [runs_pieces env s ps (i + 2) _ h3, h4]
        simp
      · simp [two, hab]

theorem scan_keys : ∀ (ps : List Piece) (t : Str) (g : List (Nat × Str)),
    scan ps t = some g → g.map Prod.fst = keys ps
  | [], t, g, h => by
    simp only [scan] at h
    split at h
    · cases h; rfl
    · cases h
  | .lit c :: ps, t, g, h => by
    simp only [scan] at h
    split at h
    · split at h
      · exact scan_keys ps _ g h
      · cases h
    · cases h
  | .two k :: ps, t, g, h => by
    simp only [scan] at h
    split at h
    · split at h
      · rw [Option.map_eq_some_iff] at h
        obtain ⟨g', hg', rfl⟩ := h
        simp [keys, scan_keys ps _ g' hg']
      · cases h
    · cases h

theorem lookup_none_of_keys {g : List (Nat × Str)} {k : Nat} (h : k ∉ g.map Prod.fst) :
    g.lookup k = none := by
  induction g with
  | nil => rfl
  | cons e g ih =>
    obtain ⟨k', u⟩ := e
    simp only [List.map_cons, List.mem_cons, not_or] at h
    have : (k == k') = false := by simpa using h.1
    simp only [List.lookup_cons, this]
    exact ih h.2

theorem grp_setCap_self (s : Str) (idx a b : Nat) (c : Caps) :
    grp s (setCap idx a b c) idx = (s.drop a).take (b - a) := by
  unfold grp; rw [capSpan_setCap_self]

theorem grp_setCap_ne (s : Str) {idx idx' : Nat} (a b : Nat) (c : Caps) (h : idx' ≠ idx) :
    grp s (setCap idx' a b c) idx = grp s c idx := by
  unfold grp; rw [capSpan_setCap_ne _ h]

theorem grp_capsOf (s : Str) : ∀ (ps : List Piece) (i : Nat) (caps : Caps) (g : List (Nat × Str)),
    scan ps (s.drop i) = some g → (keys ps).Nodup → ∀ k,
      grp s (capsOf ps i caps) k = (g.lookup k).getD (grp s caps k)
  | [], i, caps, g, h, _, k => by
    simp only [scan] at h
    split at h
    · cases h; rfl
    · cases h
  | .lit c :: ps, i, caps, g, h, hn, k => by
    simp only [scan] at h
    split at h
    · rename_i x t' hd
      obtain ⟨-, h2⟩ := drop_cons_facts hd
      split at h
      · rw [← h2] at h
        exact grp_capsOf s ps (i + 1) caps g h hn k
      · cases h
    · cases h
  | .two idx :: ps, i, caps, g, h, hn, k => by
    simp only [scan] at h
    split at h
    · rename_i a b t' hd
      obtain ⟨-, h2⟩ := drop_cons_facts hd
      obtain ⟨-, h4⟩ := drop_cons_facts h2
      split at h
      · rw [Option.map_eq_some_iff] at h
        obtain ⟨g', hg', rfl⟩ := h
        rw [← h4] at hg'
        simp only [keys, List.nodup_cons] at hn
        have ih := grp_capsOf s ps (i + 2) (setCap idx i (i + 2) caps) g' hg' hn.2 k
        simp only [capsOf]
        rw [ih]
        by_cases hk : k = idx
        · subst hk
          have hnone : g'.lookup k = none :=
            lookup_none_of_keys (by rw [scan_keys ps _ g' hg']; exact hn.1)
          rw [hnone, grp_setCap_self, hd]
          simp
        · have : (k == idx) = false := by simpa using hk
          rw [List.lookup_cons, this, grp_setCap_ne s _ _ _ (Ne.symm hk)]
      · cases h
    · cases h

theorem scan_two_single (k : Nat) (u : Str) :
    scan [.two k] u = if is2 u = true then some [(k, u)] else none := by
  rcases u with _ | ⟨a, _ | ⟨b, _ | ⟨c, t⟩⟩⟩
  · simp [scan, is2]
  · simp [scan, is2]
  · by_cases ha : isDigit a = true <;> by_cases hb : isDigit b = true <;> simp [scan, is2, ha, hb]
  · simp [scan, is2]

theorem scan_split (c : Nat) (hc : isDigit c = false) (ps2 : List Piece) :
    ∀ (ps1 : List Piece), (∀ p ∈ ps1, p ≠ .lit c) → ∀ t : Str,
      scan (ps1 ++ .lit c :: ps2) t =
        (splitAt1 c t).bind fun p => (scan ps1 p.1).bind fun g1 => (scan ps2 p.2).map (g1 ++ ·)
  | [], _, t => by
    rcases t with _ | ⟨x, t⟩
    · simp [scan, splitAt1]
    · by_cases hx : x = c
      · subst hx
        simp [scan, splitAt1]
      · have hx' : (x == c) = false := by simpa using hx
        simp only [List.nil_append, scan, splitAt1, hx, hx', if_false]
        cases splitAt1 c t <;> simp
  | .lit d :: ps1, hno, t => by
    have hd : d ≠ c := by
      intro h; exact hno (.lit d) (by simp) (by rw [h])
    have ih := scan_split c hc ps2 ps1 (fun p hp => hno p (by simp [hp]))
    rcases t with _ | ⟨x, t⟩
    · simp [scan, splitAt1]
    · by_cases hx : x = c
      · subst hx
        simp [scan, splitAt1, Ne.symm hd]
      · have hx' : (x == c) = false := by simpa using hx
        simp only [List.cons_append, scan, splitAt1, hx']
        rw [ih t]
        cases splitAt1 c t with
        | none => simp
        | some q => by_cases hxd : x = d <;> simp [hxd]
  | .two k :: ps1, hno, t => by
    have ih := scan_split c hc ps2 ps1 (fun p hp => hno p (by simp [hp]))
    rcases t with _ | ⟨a, _ | ⟨b, t⟩⟩
    · simp [scan, splitAt1]
    · by_cases ha : a = c <;> simp [scan, splitAt1, ha]
    · by_cases ha : a = c
      · subst ha
        simp [scan, splitAt1, hc]
      · have ha' : (a == c) = false := by simpa using ha
        by_cases hb : b = c
        · subst hb
          simp [scan, splitAt1, ha', hc]
        · have hb' : (b == c) = false := by simpa using hb
          simp only [List.cons_append, scan, splitAt1, ha', hb']
          rw [ih t]
          cases splitAt1 c t with
          | none => simp
          | some q =>
            by_cases hd : isDigit a = true ∧ isDigit b = true <;> cases h1 : scan ps1 q.1 <;>
              simp [hd, h1, Option.map_map, Function.comp_def]

theorem scan_two_lit_two (c : Nat) (hc : isDigit c = false) (i j : Nat) (r : Str) :
    scan [.two i, .lit c, .two j] r =
      (splitAt1 c r).bind fun p => if is2 p.1 = true ∧ is2 p.2 = true then some [(i, p.1), (j, p.2)] else none := by
  rw [show [Piece.two i, .lit c, .two j] = [.two i] ++ .lit c :: [.two j] from rfl,
    scan_split c hc [.two j] [.two i] (by simp)]
  cases splitAt1 c r with
  | none => rfl
  | some p =>
    simp only [Option.bind_some, scan_two_single]
    cases is2 p.1 <;> cases is2 p.2 <;> simp

/-- A linear pattern from the start of the input to its end: the texts of all groups. -/
theorem pieces_groups (env : CharEnv) (s : Str) (ps : List Piece) (hn : (keys ps).Nodup) :
    (runsSeq env s (.bos :: (ps.map Piece.rx ++ [.eos])) 0 []).head?.map (fun p k => grp s p.2 k) =
      (scan ps s).map get := by
  rw [runsSeq_bos, runs_pieces env s ps 0 [] (Nat.zero_le _), List.drop_zero]
  cases hsc : scan ps s with
  | none => rfl
  | some g =>
    simp only [Option.isSome_some, if_true, List.head?_cons, Option.map_some, Option.some.injEq]
    funext k
    rw [grp_capsOf s ps 0 [] g hsc hn k]
    rfl

theorem splitAt1_afterDigits {α β : Type} (c c' : Nat) (hc : isDigit c = false) (hcc : c ≠ c')
    (G : Str → α → Option β) :
    ∀ (s : Str) (F : Str → Str → Option α),
      ((splitAt1 c s).bind fun p => (afterDigits c' F p.1).bind (G p.2)) =
        afterDigits c' (fun y r => (splitAt1 c r).bind fun q => (F y q.1).bind (G q.2)) s
  | [], F => by simp [splitAt1, afterDigits_nil]
  | x :: s, F => by
    rw [afterDigits_cons, splitAt1]
    by_cases hx : x = c
    · subst hx
      simp [afterDigits_nil, hc, hcc]
    · have hx' : (x == c) = false := by simpa using hx
      simp only [hx', Bool.false_eq_true, if_false]
      by_cases hd : isDigit x = true
      · simp only [hd, if_true]
        rw [← splitAt1_afterDigits c c' hc hcc G s (fun y r => F (x :: y) r)]
        cases splitAt1 c s with
        | none => rfl
        | some p => simp [afterDigits_cons, hd]
      · simp only [hd]
        by_cases hx2 : x = c'
        · subst hx2
          simp only [if_true]
          cases splitAt1 c s with
          | none => rfl
          | some p => simp [afterDigits_cons, hd]
        · simp only [hx2, if_false]
          cases splitAt1 c s with
          | none => rfl
          | some p => simp [afterDigits_cons, hd, hx2]

end RefineInputs
end SoupVerif
