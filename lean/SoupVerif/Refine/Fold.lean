/-
  Case folding under the token regexes.  `css_parser.py` compiles every token pattern with `re.I`,
  so each literal and each class of the regenerated regexes compares folded code points.
  `LetterFold` is what the refinement proofs need of the folding; under it the literals that are
  not letters and the hexadecimal classes mean what they say; `C18Parse.FoldsAscii` is the weaker demand of the
  matcher's case-insensitive literal tests (folding identifies what ASCII lower-casing identifies).  The last
  section relates `LetterFold` to the hypotheses `CaseFree`, `IdentFold`, `FoldOK` under which the token files state their theorems.
-/
import SoupVerif.Lemmas.RxBasic
import SoupVerif.Lemmas.Escape
namespace SoupVerif
namespace Refine
open Rx RxBasic Escape EscapeLemmas

/-- The folding moves only upper-case ASCII letters and non-ASCII code points, and those to `a` or
    beyond; onto `a`–`f` it sends exactly `A`–`F` (besides `a`–`f`), each to its lower-case form. -/
structure LetterFold (env : CharEnv) : Prop where
  fix_or_letter : ∀ x, env.fold x = x ∨ (97 ≤ env.fold x ∧ ((65 ≤ x ∧ x ≤ 90) ∨ 128 ≤ x))
  hex : ∀ x, 97 ≤ env.fold x → env.fold x ≤ 102 → (65 ≤ x ∧ x ≤ 70) ∨ (97 ≤ x ∧ x ≤ 102)
  upper : ∀ x, 65 ≤ x → x ≤ 70 → env.fold x = x + 32

/-- ASCII lower-casing, except that non-ASCII code points may fold to `g` (103) or beyond: Python's four
    `foldSpecials` fold to `i`, `s`, `k`, so none of them is read as a hex digit `a`–`f` (97–102). -/
theorem letterFold_of_lower {env : CharEnv}
    (h : ∀ x, env.fold x = lowerCp x ∨ (128 ≤ x ∧ 103 ≤ env.fold x)) : LetterFold env := by
  refine ⟨fun x => ?_, fun x => ?_, fun x => ?_⟩ <;>
    (rcases h x with e | e
     · rw [e]; unfold lowerCp; split <;> omega
     · omega)

theorem fold_foldEnv (sp : Specials) (x : Nat) :
    (foldEnv sp).fold x = lowerCp x ∨ (x, (foldEnv sp).fold x) ∈ sp := by
  show (match sp.lookup x with | some a => a | none => lowerCp x) = lowerCp x ∨
    (x, (match sp.lookup x with | some a => a | none => lowerCp x)) ∈ sp
  cases hl : sp.lookup x with
  | none => exact Or.inl rfl
  | some a => exact Or.inr (lookup_mem _ _ _ hl)

theorem letterFold_foldEnv (sp : Specials) (h : ∀ p ∈ sp, 128 ≤ p.1 ∧ 103 ≤ p.2) :
    LetterFold (foldEnv sp) :=
  letterFold_of_lower fun x => (fold_foldEnv sp x).imp id (h _)

theorem letterFold_ascii : LetterFold asciiEnv := letterFold_of_lower fun _ => Or.inl rfl

theorem letterFold_py : LetterFold pyFoldEnv := letterFold_foldEnv foldSpecials (by decide)

namespace C18Parse

/-- The engine's case folding identifies what ASCII lower-casing identifies (true of `asciiEnv` and of
    `pyFoldEnv`, whose four extra identifications concern non-ASCII code points). -/
def FoldsAscii (env : CharEnv) : Prop := ∀ x y, lowerCp x = lowerCp y → env.fold x = env.fold y

theorem foldsAscii_ascii : FoldsAscii asciiEnv := fun _ _ h => h

theorem foldsAscii_py : FoldsAscii pyFoldEnv := by
  -- ASCII lower-casing fixes the four code points folded specially and sends nothing else to them
  have key : ∀ x y, (x = 304 ∨ x = 305 ∨ x = 383 ∨ x = 8490) → lowerCp x = lowerCp y → y = x := by
    intro x y hx h
    unfold lowerCp at h
    rcases hx with rfl | rfl | rfl | rfl <;> (simp at h; split at h <;> omega)
  have lk : ∀ x, ¬ (x = 304 ∨ x = 305 ∨ x = 383 ∨ x = 8490) → foldSpecials.lookup x = none := by
    intro x hx
    have hne : ∀ k, x ≠ k → (x == k) = false := fun k hk => by simpa using hk
    simp [foldSpecials, List.lookup, hne 304 (by omega), hne 305 (by omega), hne 383 (by omega),
      hne 8490 (by omega)]
  intro x y h
  show (match foldSpecials.lookup x with | some a => a | none => lowerCp x) =
    (match foldSpecials.lookup y with | some a => a | none => lowerCp y)
  by_cases hx : x = 304 ∨ x = 305 ∨ x = 383 ∨ x = 8490
  · rw [key x y hx h]
  · by_cases hy : y = 304 ∨ y = 305 ∨ y = 383 ∨ y = 8490
    · rw [key y x hy h.symm]
    · rw [lk x hx, lk y hy]; exact h

end C18Parse

/-- A range that does not lie within `A`–`Z` is tested on the code point and on its fold. -/
theorem itemHas_range {env : CharEnv} {lo hi : Nat} (hr : 90 < hi ∨ lo < 65) (x : Nat) :
    itemHas env true x (.range lo hi) =
      ((lo ≤ x && x ≤ hi) || (lo ≤ env.fold x && env.fold x ≤ hi)) := by
  have : (decide (65 ≤ lo) && decide (hi ≤ 90)) = false := by
    rw [Bool.and_eq_false_iff, decide_eq_false_iff_not, decide_eq_false_iff_not]; omega
  simp only [itemHas, Bool.true_and, this, Bool.false_and, Bool.or_false]

namespace LetterFold
variable {env : CharEnv} (h : LetterFold env)
include h

theorem fold_fix {c : Nat} (hc : c < 65 ∨ (90 < c ∧ c < 97) ∨ (122 < c ∧ c < 128)) :
    env.fold c = c := by
  rcases h.fix_or_letter c with e | e <;> omega

/-- A code point below `A` or between `Z` and `a` is matched literally. -/
theorem fold_beq {c : Nat} (hc : c < 65 ∨ (90 < c ∧ c < 97)) (x : Nat) :
    (env.fold x == env.fold c) = (x == c) := by
  rw [h.fold_fix (c := c) (by omega), Bool.eq_iff_iff, beq_iff_eq, beq_iff_eq]
  rcases h.fix_or_letter x with e | e <;> omega

theorem isChar_lit (s : Str) {c : Nat} (hc : c < 65 ∨ (90 < c ∧ c < 97)) :
    IsChar env s (.lit c true) (fun x => x == c) :=
  isChar_congr (RxBasic.isChar_lit env s c true) (h.fold_beq hc)

theorem itemHas_ch {c : Nat} (hc : c < 65 ∨ (90 < c ∧ c < 97)) (x : Nat) :
    itemHas env true x (.ch c) = (x == c) := by
  show (env.fold c == env.fold x) = (x == c)
  rw [Bool.beq_comm]; exact h.fold_beq hc x

/-- `[a-f0-9]` under `re.I`. -/
theorem setHas_hex (x : Nat) : setHas env false [.range 97 102, .range 48 57] true x = isHex x := by
  have h2 := h.hex x
  have h3 := h.upper x
  rw [Bool.eq_iff_iff, isHex_iff]
  simp only [setHas, List.any, itemHas_range (show 90 < 102 ∨ _ from .inl (by omega)),
    itemHas_range (show _ ∨ 48 < 65 from .inr (by omega)), Bool.or_false, bne_iff_ne, ne_eq,
    Bool.not_eq_false, Bool.or_eq_true, Bool.and_eq_true, decide_eq_true_eq]
  rcases h.fix_or_letter x with e | e
  · rw [e] at h3 ⊢; omega
  · generalize env.fold x = f at *; omega

theorem isChar_hex (s : Str) : IsChar env s (.set false [.range 97 102, .range 48 57] true) isHex :=
  isChar_congr (isChar_set env s _ _ _) h.setHas_hex

/-- `[^\r\n\fa-f0-9]` under `re.I`. -/
theorem setHas_nonhex (x : Nat) :
    setHas env true [.ch 13, .ch 10, .ch 12, .range 97 102, .range 48 57] true x =
      (!isHex x && !(x == 10 || x == 13 || x == 12)) := by
  have hh := h.setHas_hex x
  simp only [setHas, List.any, Bool.or_false, Bool.bne_false, Bool.bne_true,
    h.itemHas_ch (show 13 < 65 ∨ _ from .inl (by omega)),
    h.itemHas_ch (show 10 < 65 ∨ _ from .inl (by omega)),
    h.itemHas_ch (show 12 < 65 ∨ _ from .inl (by omega))] at hh ⊢
  rw [hh]
  cases isHex x <;> cases (x == 13) <;> cases (x == 10) <;> cases (x == 12) <;> rfl

end LetterFold

/-! ### The hypotheses under which the token refinements are stated

  `FoldOK → IdentFold → LetterFold → CaseFree`: each file states its theorems under the weakest of
  them that its regular expression needs (`CaseFree`: only characters below `A` occur, as in `WSC`;
  `IdentFold`: the negated classes of `IDENTIFIER` need the fold of a moved code point to be a
  letter; `FoldOK`: ASCII lower-casing outright, for the values).  All four hold of `asciiEnv`,
  of `pyFoldEnv`, and of `foldEnv sp` for suitable `sp`. -/

namespace Ident

/-- The case-folding facts used: a code point is either fixed by `fold`, or it is an upper-case
    ASCII letter or a non-ASCII code point and folds to a lower-case ASCII letter; and only
    `A-F`, `a-f` fold into `a-f`, `A-F` onto `a-f`. -/
structure IdentFold (env : CharEnv) : Prop where
  id_or_letter : ∀ c, env.fold c = c ∨
    (97 ≤ env.fold c ∧ env.fold c ≤ 122 ∧ ((65 ≤ c ∧ c ≤ 90) ∨ 128 ≤ c))
  hex : ∀ c, 97 ≤ env.fold c → env.fold c ≤ 102 → (65 ≤ c ∧ c ≤ 70) ∨ (97 ≤ c ∧ c ≤ 102)
  upper : ∀ c, 65 ≤ c → c ≤ 70 → env.fold c = c + 32

/-- ASCII lower-casing, except that non-ASCII code points may fold to one of `g`–`z`. -/
theorem identFold_of_lower {env : CharEnv}
    (h : ∀ x, env.fold x = lowerCp x ∨ (128 ≤ x ∧ 103 ≤ env.fold x ∧ env.fold x ≤ 122)) :
    IdentFold env := by
  refine ⟨fun x => ?_, fun x => ?_, fun x => ?_⟩ <;>
    (rcases h x with e | e
     · rw [e]; unfold lowerCp; split <;> omega
     · omega)

theorem identFold_ascii : IdentFold asciiEnv := identFold_of_lower fun _ => Or.inl rfl

theorem identFold_foldEnv (sp : Specials)
    (hsp : ∀ q ∈ sp, 128 ≤ q.1 ∧ 103 ≤ q.2 ∧ q.2 ≤ 122) : IdentFold (foldEnv sp) :=
  identFold_of_lower fun x => (fold_foldEnv sp x).imp id (hsp _)

theorem identFold_py : IdentFold pyFoldEnv := identFold_foldEnv foldSpecials (by decide)

theorem IdentFold.letterFold {env : CharEnv} (h : IdentFold env) : LetterFold env :=
  ⟨fun x => (h.id_or_letter x).imp id fun e => ⟨e.1, e.2.2⟩, h.hex, h.upper⟩

end Ident

namespace Wsc

/-- Folding identifies no code point with a character below `A`. -/
def CaseFree (env : CharEnv) : Prop := ∀ c x, c < 65 → (env.fold x = env.fold c ↔ x = c)

theorem caseFree_of_letterFold {env : CharEnv} (h : LetterFold env) : CaseFree env :=
  fun c x hc => by simpa using Bool.eq_iff_iff.mp (h.fold_beq (.inl hc) x)

/-- The case folding of `re.I` on `str` patterns: four code points beside ASCII lower-casing. -/
theorem pyFold_fold (x : Nat) : pyFoldEnv.fold x =
    if x = 304 then 105 else if x = 305 then 105 else if x = 383 then 115 else if x = 8490 then 107
    else lowerCp x := by
  show (match foldSpecials.lookup x with | some a => a | none => lowerCp x) = _
  by_cases h1 : x = 304
  · subst h1; rfl
  by_cases h2 : x = 305
  · subst h2; rfl
  by_cases h3 : x = 383
  · subst h3; rfl
  by_cases h4 : x = 8490
  · subst h4; rfl
  have e1 : (x == 304) = false := by simpa using h1
  have e2 : (x == 305) = false := by simpa using h2
  have e3 : (x == 383) = false := by simpa using h3
  have e4 : (x == 8490) = false := by simpa using h4
  have : foldSpecials.lookup x = none := by
    simp only [foldSpecials, List.lookup, e1, e2, e3, e4]
  rw [this]; simp [h1, h2, h3, h4]

theorem caseFree_ascii : CaseFree asciiEnv := caseFree_of_letterFold letterFold_ascii

theorem caseFree_pyFold : CaseFree pyFoldEnv := caseFree_of_letterFold letterFold_py

end Wsc

namespace StringTok

/-- What `Refine/StringTok.lean` needs of the case folding: it is ASCII lower-casing, except that some non-ASCII
    code points may fold to a lower-case ASCII letter from `g` to `z` (never to a hex digit, a quote,
    a backslash, white space, …). -/
def FoldOK (env : CharEnv) : Prop :=
  ∀ x, env.fold x = lowerCp x ∨ (128 ≤ x ∧ 103 ≤ env.fold x ∧ env.fold x ≤ 122)

theorem foldOK_ascii : FoldOK asciiEnv := fun _ => Or.inl rfl

theorem foldOK_foldEnv (sp : Specials)
    (h : ∀ p ∈ sp, 128 ≤ p.1 ∧ 103 ≤ p.2 ∧ p.2 ≤ 122) : FoldOK (foldEnv sp) :=
  fun x => (fold_foldEnv sp x).imp id (h _)

theorem foldOK_py : FoldOK pyFoldEnv := foldOK_foldEnv foldSpecials (by decide)

theorem FoldOK.identFold {env : CharEnv} (h : FoldOK env) : Ident.IdentFold env :=
  Ident.identFold_of_lower h

theorem FoldOK.letterFold {env : CharEnv} (h : FoldOK env) : LetterFold env :=
  h.identFold.letterFold

end StringTok

end Refine
end SoupVerif
