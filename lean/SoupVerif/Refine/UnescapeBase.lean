/-
  Engine-level lemmas for the refinement proof of `css_unescape` (`Refine/Unescape.lean`): the four
  capture-group alternatives of `RE_CSS_ESC` / `RE_CSS_STR_ESC` under a case-folding environment, on the
  white-space pieces of `Refine/Ws.lean` and the comment piece of `Refine/Wsc.lean`.
-/
import SoupVerif.Refine.Wsc
namespace SoupVerif
namespace Refine
open Rx RxBasic Escape EscapeLemmas

def isNL (c : Nat) : Bool := c == 10 || c == 13 || c == 12

theorem setHas_notNL {env : CharEnv} (h : LetterFold env) (x : Nat) :
    setHas env true [.ch 13, .ch 10, .ch 12] true x = !isNL x := by
  simp only [setHas, List.any, h.itemHas_ch (c := 13) (by omega), h.itemHas_ch (c := 10) (by omega),
    h.itemHas_ch (c := 12) (by omega), isNL]
  cases (x == 13) <;> cases (x == 10) <;> cases (x == 12) <;> rfl

/-- group 1: `(\\[a-f0-9]{1,6}W?)` -/
def rxG1 (w : Rx) : Rx :=
  .group 1 (.seq [.lit 92 true, .rep 1 (some 6) true (.set false [.range 97 102, .range 48 57] true),
    .rep 0 (some 1) true w])
/-- group 2: `(\\[^\r\n\f])` -/
def rxG2 : Rx := .group 2 (.seq [.lit 92 true, .set true [.ch 13, .ch 10, .ch 12] true])
/-- group 3: `(\\\Z)` -/
def rxG3 : Rx := .group 3 (.seq [.lit 92 true, .eos])
/-- group 4: `(\\NEWLINE)` -/
def rxG4 : Rx := .group 4 (.seq [.lit 92 true, Wsc.nlRx true])

theorem runs_WS {env : CharEnv} (h : LetterFold env) (s : Str) (j : Nat) (caps : Caps) :
    runs env s (Wsc.wsRx true) j caps =
      if wsLen (s.drop j) = 0 then [] else [(j + wsLen (s.drop j), caps)] := by
  rw [(Wsc.scans_ws true fun _ => Wsc.caseFree_of_letterFold h).runs, atDrop, Wsc.wsUnit]
  split <;> rfl

/-! ### `COMMENTS`: a match needs `/*` and a later `*/` -/

theorem cmtEndL_of_no_close : ∀ (t : Str) (p : Nat), hasCommentClose t = false → Wsc.cmtEndL t p = none
  | [], _, _ => rfl
  | a :: rest, p, h => by
    rw [hasCommentClose, Bool.or_eq_false_iff] at h
    rw [Wsc.cmtEndL, if_neg (by rw [h.1]; exact Bool.false_ne_true), cmtEndL_of_no_close rest _ h.2]

theorem runs_comment_nil {env : CharEnv} (h : LetterFold env) (s : Str) (j : Nat) (caps : Caps)
    (hc : commentAt (s.drop j) = false) : runs env s (Wsc.commentRx true) j caps = [] := by
  rw [Wsc.comment_runs true (fun _ => Wsc.caseFree_of_letterFold h) s j caps]
  have : Wsc.commentEnd s j = none := by
    unfold Wsc.commentEnd
    split
    · next hc2 =>
      rw [Wsc.drop_cons_of hc2.1, Wsc.drop_cons_of hc2.2] at hc
      exact cmtEndL_of_no_close _ _ (by simpa [commentAt] using hc)
    · rfl
  rw [this]; rfl

theorem runs_group_L92_nil {env : CharEnv} (h : LetterFold env) (s : Str) (n : Nat) (rs : List Rx)
    (i : Nat) (caps : Caps) (h0 : s[i]? ≠ some 92) :
    runs env s (.group n (.seq (.lit 92 true :: rs))) i caps = [] := by
  rw [runs_group, runs_seq, runsSeq_char (h.isChar_lit s (c := 92) (by omega))]
  cases hx : s[i]? with
  | none => rfl
  | some x =>
    have : x ≠ 92 := by intro e; rw [hx, e] at h0; exact h0 rfl
    simp [this]

/-- Group 1 (`\\` hex{1,6} `w`?) where a hex digit follows the backslash: the digit run is maximal
    (up to 6), then the first result of `w?`. -/
theorem head_G1 {env : CharEnv} (h : LetterFold env) (s : Str) (w : Rx) (i d e : Nat)
    (h0 : s[i]? = some 92) (h1 : s[i + 1]? = some d) (hd : isHex d = true)
    (hw : (runs env s w (i + 1 + hexRun 6 (s.drop (i + 1))) [] ++
            [(i + 1 + hexRun 6 (s.drop (i + 1)), [])]).head? = some (e, [])) :
    (runs env s (rxG1 w) i []).head? = some (e, [(1, i, e)]) := by
  have hk : 1 ≤ hexRun 6 (s.drop (i + 1)) := by
    rw [Wsc.drop_cons_of h1, hexRun, hd]; simp
  unfold rxG1
  rw [runs_group, runs_seq, runsSeq_char (h.isChar_lit s (c := 92) (by omega)), h0]
  simp only [beq_self_eq_true, if_true]
  rw [runsSeq_cons, runs_rep_char (h.isChar_hex s),
    show room s isHex (some 6) 0 (i + 1) = hexRun 6 (s.drop (i + 1)) by simp only [room, spanLen, hexRun_eq_min]]
  generalize hexRun 6 (s.drop (i + 1)) = k at hw hk
  rw [show i + 1 + k = (i + k) + 1 by omega, down_cons [] (by omega), List.flatMap_cons]
  simp only
  rw [RxBasic.runsSeq_single, runs_opt, List.head?_map]
  rw [show i + 1 + k = (i + k) + 1 by omega] at hw
  rw [head?_append_of_some hw]
  rfl

theorem runs_G1_nil {env : CharEnv} (h : LetterFold env) (s : Str) (w : Rx) (i : Nat) (caps : Caps)
    (h1 : ∀ d, s[i + 1]? = some d → isHex d = false) : runs env s (rxG1 w) i caps = [] := by
  have hroom : room s isHex (some 6) 0 (i + 1) = 0 := by
    simp only [room]
    cases hx : s[i + 1]? with
    | none => rw [spanLen_of_none hx]; rfl
    | some d => rw [spanLen_of_not hx (h1 d hx)]; rfl
  have hrest : runsSeq env s [.rep 1 (some 6) true (.set false [.range 97 102, .range 48 57] true),
      .rep 0 (some 1) true w] (i + 1) caps = [] := by
    rw [runsSeq_cons, runs_rep_char (h.isChar_hex s), hroom, down_empty caps (by omega)]
    rfl
  unfold rxG1
  rw [runs_group, runs_seq, runsSeq_char (h.isChar_lit s (c := 92) (by omega))]
  cases hx : s[i]? with
  | none => rfl
  | some x =>
    simp only
    split
    · rw [hrest]; rfl
    · rfl

theorem runs_G2 {env : CharEnv} (h : LetterFold env) (s : Str) (i : Nat) (h0 : s[i]? = some 92) :
    runs env s rxG2 i [] =
      match s[i + 1]? with
      | some d => if isNL d then [] else [(i + 2, [(2, i, i + 2)])]
      | none => [] := by
  unfold rxG2
  rw [runs_group, runs_seq, runsSeq_char (h.isChar_lit s (c := 92) (by omega)), h0]
  simp only [beq_self_eq_true, if_true]
  rw [RxBasic.runsSeq_single, (isChar_set env s true [.ch 13, .ch 10, .ch 12] true) (i + 1) []]
  unfold charBody
  cases s[i + 1]? with
  | none => rfl
  | some d =>
    simp only [setHas_notNL h]
    cases hn : isNL d <;> simp

theorem runs_G3 {env : CharEnv} (h : LetterFold env) (s : Str) (i : Nat) (h0 : s[i]? = some 92) :
    runs env s rxG3 i [] = if i + 1 = s.length then [(i + 1, [(3, i, i + 1)])] else [] := by
  unfold rxG3
  rw [runs_group, runs_seq, runsSeq_char (h.isChar_lit s (c := 92) (by omega)), h0]
  simp only [beq_self_eq_true, if_true]
  rw [RxBasic.runsSeq_single, runs_eos]
  split <;> rfl

theorem runs_G4 {env : CharEnv} (h : LetterFold env) (s : Str) (i : Nat) (h0 : s[i]? = some 92) :
    runs env s rxG4 i [] =
      match s[i + 1]? with
      | some d => if isNL d then
          [(i + 1 + wsLen (s.drop (i + 1)), [(4, i, i + 1 + wsLen (s.drop (i + 1)))])] else []
      | none => [] := by
  unfold rxG4
  rw [runs_group, runs_seq, runsSeq_char (h.isChar_lit s (c := 92) (by omega)), h0]
  simp only [beq_self_eq_true, if_true]
  rw [RxBasic.runsSeq_single, (Wsc.scans_nl true fun _ => Wsc.caseFree_of_letterFold h).runs, atDrop]
  cases h1 : s[i + 1]? with
  | none => rw [List.drop_eq_nil_of_le (by simpa using h1)]; rfl
  | some d =>
    rw [Wsc.drop_cons_of h1, Wsc.nlUnit_cons, ← Wsc.drop_cons_of h1]
    by_cases hn : (d == 10 || d == 13 || d == 12) = true <;> simp [isNL, hn, one]

end Refine
end SoupVerif
