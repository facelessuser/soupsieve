/-
  C01 ↔ parser, the semantic half: the VALUES of a CSS-shaped selector AST (`Spec/Css.lean`) as the
  value trees of the smaller grammar (`C09Compile.SelListV`, `Refine/Denote.lean`): `listV`; and the proof that the
  position-free fold `C09Compile.denote` over these values builds exactly the IR `Css.compileList` (`Spec/CssCompile.lean`) writes down.
  Which ASTs that covers is the decidable predicate `Spellable` (`sp*`: the intersection of the two grammars).  The builders are
  compared in a normal form, `mkB` (a `_Selector` by its filled fields) with the implied `*` as `implB`: every builder
  operation on a `mkB` is a `mkB` again (the `*_mkB` equations).

  No text occurs in this file: spelling (identifiers, strings, gaps) is the business of
  `Refine/C01ParseBase.lean` and `Properties/C01Parse.lean`.
-/
import SoupVerif.Refine.Syntax
import SoupVerif.Spec.CssCompile
import SoupVerif.Refine.Wsc
import SoupVerif.Properties.C06GenPseudo
import SoupVerif.Lemmas.List
namespace SoupVerif
namespace C01Parse
open Css SoupVerif.Parser Refine.Compile
open C09Compile (Item SelListV AttrV denote finishTop finishNested foldRest applyItems foldRest_append)

/-- A value that can be written as an identifier: not empty, no NUL (the parser replaces NUL by U+FFFD
    before tokenizing). -/
def identOkB (v : Str) : Bool := !v.isEmpty && v.all (fun c => c != 0)

mutual
/-- Simple selectors of the intersection of the two grammars: no namespace prefix on attributes, no
    `:has`, no empty `:not()` / `:is()`; identifiers non-empty and NUL-free, attribute values NUL-free. -/
def spSimple : Simple → Bool
  | .id v => identOkB v
  | .cls v => identOkB v
  | .attr ns name test =>
    ns.isEmpty && identOkB name &&
      (match test with
       | none => true
       | some t => t.value.all (fun c => c != 0))
  | .neg L => !L.isEmpty && spList L
  | .is L => !L.isEmpty && spList L
  | .has _ => false
  | .root => true
  | .empty => true
  | .firstChild => true
  | .lastChild => true
  | .onlyChild => true
  | .firstOfType => true
  | .lastOfType => true
  | .onlyOfType => true
def spParts : List Simple → Bool
  | [] => true
  | s :: rest => spSimple s && spParts rest
/-- Compounds: the type selector without namespace prefix (`NsSpec.default`), not the empty compound. -/
def spCompound : Css.Compound → Bool
  | .mk tag parts =>
    (match tag with
     | none => !parts.isEmpty
     | some t => t.ns == NsSpec.default &&
        (match t.name with
         | none => true
         | some n => identOkB n)) && spParts parts
def spComplex : Complex → Bool
  | .one cp => spCompound cp
  | .comb L _ R => spComplex L && spCompound R
def spList : List Complex → Bool
  | [] => true
  | x :: rest => spComplex x && spList rest
end

/-- The selector lists of C01's grammar that the grammar of `C09Compile` can spell. -/
def Spellable (L : List Complex) : Prop := L ≠ [] ∧ spList L = true

instance (L : List Complex) : Decidable (Spellable L) := by unfold Spellable; infer_instance

/-- The combinator character `parse_combinator` sees. -/
def combChar : Comb → Nat
  | .desc => 32 | .child => 62 | .sib => 126 | .adj => 43

/-- The lower-cased flag character. -/
def flagV : CaseFlag → Option Nat
  | .none => none | .i => some 105 | .s => some 115

mutual
def simpleV : Simple → Item
  | .id v => .id v
  | .cls v => .cls v
  | .attr _ name test => .attr ⟨name, test.map fun t => (t.op.text, t.value, flagV t.flag)⟩
  | .neg L => .fn ":not".toStr (listV L)
  | .is L => .fn ":is".toStr (listV L)
  | .has _ => .pseudo [58]                          -- outside the domain
  | .root => .pseudo ":root".toStr
  | .empty => .pseudo ":empty".toStr
  | .firstChild => .pseudo ":first-child".toStr
  | .lastChild => .pseudo ":last-child".toStr
  | .onlyChild => .pseudo ":only-child".toStr
  | .firstOfType => .pseudo ":first-of-type".toStr
  | .lastOfType => .pseudo ":last-of-type".toStr
  | .onlyOfType => .pseudo ":only-of-type".toStr
def partsV : List Simple → List Item
  | [] => []
  | s :: rest => simpleV s :: partsV rest
def compoundV : Css.Compound → C09Compile.Compound
  | .mk tag parts => .mk (tag.map fun t => t.name.getD [42]) (partsV parts)
/-- The leftmost compound of a complex selector … -/
def complexFirst : Complex → C09Compile.Compound
  | .one cp => compoundV cp
  | .comb L _ _ => complexFirst L
/-- … and the combinator–compound pairs after it, left to right. -/
def complexRest : Complex → List (Nat × C09Compile.Compound)
  | .one _ => []
  | .comb L k R => complexRest L ++ [(combChar k, compoundV R)]
/-- Further members of a list: each preceded by the comma. -/
def selsV : List Complex → List (Nat × C09Compile.Compound)
  | [] => []
  | x :: rest => (44, complexFirst x) :: (complexRest x ++ selsV rest)
/-- The values of a selector list (as the tokenizer sees it: the comma is a combinator). -/
def listV : List Complex → SelListV
  | [] => .mk (.mk none []) []                      -- outside the domain
  | x :: rest => .mk (complexFirst x) (complexRest x ++ selsV rest)
end

/-- The builder `_Selector` whose filled fields are `p`, `tag`, `relations`, `rel_type`. -/
def mkB (p : Parts) (tag : Option SelTag) (rels : List SelB) (rt : Rel) : SelB :=
  .mk tag p.ids p.classes p.attrs p.nth p.subs rels rt [] [] p.flags false

/-- The implied universal selector, on the tag field. -/
def implTag (ip : Bool) (tag : Option SelTag) : Option SelTag :=
  if tag.isNone && !ip then some ⟨[42], none⟩ else tag

theorem mkB_empty : SelB.empty = mkB {} none [] .none := rfl

/-- `parse_combinator`'s / `parse_selectors`' implied `*`. -/
def implB (ip : Bool) (b : SelB) : SelB := if b.tag.isNone && !ip then b.setTag ⟨[42], none⟩ else b

theorem implB_mkB (ip : Bool) (p : Parts) (tag : Option SelTag) (rels : List SelB) (rt : Rel) :
    implB ip (mkB p tag rels rt) = mkB p (implTag ip tag) rels rt := by
  cases tag <;> cases ip <;> rfl

theorem addRelations_mkB (p : Parts) (tag : Option SelTag) (r : List SelB) (rt : Rel) :
    (mkB p tag [] rt).addRelations r = mkB p tag r rt := by
  simp [mkB, SelB.addRelations]

theorem setRelType_mkB (p : Parts) (tag : Option SelTag) (r : List SelB) (rt rt' : Rel) :
    (mkB p tag r rt).setRelType rt' = mkB p tag r rt' := rfl

theorem freezeF_mkB (fuel : Nat) (p : Parts) (tag : Option SelTag) (rels : List SelB) (rt : Rel) :
    SelB.freezeF (fuel + 1) (mkB p tag rels rt) =
      p.toSel tag
        (match rels with
         | [] => .mk [] false false
         | first :: rest => .mk [SelB.freezeF fuel (first.addRelations rest)] false false) rt := by
  cases rels <;> simp [mkB, SelB.freezeF, Parts.toSel]

theorem size_mkB (p : Parts) (tag : Option SelTag) (rels : List SelB) (rt : Rel) :
    (mkB p tag rels rt).size = 1 + SelB.sizeList rels := by
  simp [mkB, SelB.size]

theorem addAttr_mkB (p : Parts) (tag : Option SelTag) (r : List SelB) (rt : Rel) (a : AttrSel) :
    (mkB p tag r rt).addAttr a = mkB { p with attrs := p.attrs ++ [a] } tag r rt := rfl

theorem addSub_mkB (p : Parts) (tag : Option SelTag) (r : List SelB) (rt : Rel) (l : SelList) :
    (mkB p tag r rt).addSub l = mkB { p with subs := p.subs ++ [l] } tag r rt := rfl

theorem addId_mkB (p : Parts) (tag : Option SelTag) (r : List SelB) (rt : Rel) (v : Str) :
    (mkB p tag r rt).addId v = mkB { p with ids := p.ids ++ [v] } tag r rt := rfl

theorem addClass_mkB (p : Parts) (tag : Option SelTag) (r : List SelB) (rt : Rel) (v : Str) :
    (mkB p tag r rt).addClass v = mkB { p with classes := p.classes ++ [v] } tag r rt := rfl

theorem addNth_mkB (p : Parts) (tag : Option SelTag) (r : List SelB) (rt : Rel) (l : List NthSel) :
    (mkB p tag r rt).addNth l = mkB { p with nth := p.nth ++ l } tag r rt := rfl

theorem orFlags_mkB (p : Parts) (tag : Option SelTag) (r : List SelB) (rt : Rel) (f : Nat) :
    (mkB p tag r rt).orFlags f = mkB { p with flags := p.flags ||| f } tag r rt := rfl

theorem setTag_mkB (p : Parts) (tag : Option SelTag) (r : List SelB) (rt : Rel) (t : SelTag) :
    (mkB p tag r rt).setTag t = mkB p (some t) r rt := rfl

theorem addRelations_nil (b : SelB) : b.addRelations [] = b := by
  cases b; simp [SelB.addRelations]

theorem type_str : "type".toStr = [116, 121, 112, 101] := SatLeaf.type_toStr

theorem freeze_attrOnly (a : AttrSel) : (SelB.empty.addAttr a).freeze = attrOnlySel a := by
  simp [SelB.freeze, SelB.empty, SelB.addAttr, SelB.size, SelB.sizeList, SelB.freezeF, attrOnlySel, emptyList]

theorem opText_isEmpty (op : AttrOp) : op.text.isEmpty = false := by cases op <;> rfl

theorem opText_head_bang (op : AttrOp) : (op.text.head? == some 33) = (op == .ne) := by cases op <;> rfl

/-- `parse_attribute_selector` for `[ns|name]` on a builder in normal form. -/
theorem attrBuildNs_none (p : Parts) (tag : Option SelTag) (ns name : Str) :
    attrBuildNs (mkB p tag [] .none) ns name [] [] none =
      mkB (addSimple p (.attr ns name none)) tag [] .none := by
  simp only [attrBuildNs, addSimple, compileAttr]
  by_cases hty : (lower name == "type".toStr) = true <;> simp only [hty] <;> rfl

/-- … and for `[ns|name op value flag]`: the `SelectorAttribute` of `Css.compileAttr`, in the `attributes`
    list — or, for `!=`, in a negated sub-list. -/
theorem attrBuildNs_some (p : Parts) (tag : Option SelTag) (ns name : Str) (t : AttrTest) :
    attrBuildNs (mkB p tag [] .none) ns name t.op.text t.value ((flagV t.flag).map fun c => [c]) =
      mkB (addSimple p (.attr ns name (some t))) tag [] .none := by
  obtain ⟨op, v, fl⟩ := t
  have hws : (Rx.search pyFoldEnv Gen.lexicon.reWs v).isSome = v.any isCssWs :=
    Refine.Wsc.re_ws_search pyFoldEnv v
  -- the operator enters through `opText_isEmpty` and `opText_head_bang` only; then both sides compute for
  -- each flag (and, without a flag, for `type` or not)
  simp only [attrBuildNs, opText_isEmpty, opText_head_bang, hws, addSimple, compileAttr, SatLeaf.type_toStr]
  cases op == AttrOp.ne <;> cases fl
  case false.none | true.none => cases lower name == [116, 121, 112, 101] <;> rfl
  all_goals rfl

theorem attr_sem_none (p : Parts) (tag : Option SelTag) (name : Str) :
    attrBuild (mkB p tag [] .none) name [] [] none =
      mkB (addSimple p (.attr [] name none)) tag [] .none :=
  attrBuildNs_none p tag [] name

theorem attr_sem_some (p : Parts) (tag : Option SelTag) (name : Str) (t : AttrTest) :
    attrBuild (mkB p tag [] .none) name t.op.text t.value ((flagV t.flag).map fun c => [c]) =
      mkB (addSimple p (.attr [] name (some t))) tag [] .none :=
  attrBuildNs_some p tag [] name t

/-- The names of the eight pseudo-classes without argument (without the colon).  `kwName s = some n` is how the lemmas
    below say "`s` is one of them"; `n` is the literal their evaluations run on (`kw_lookup`, `C01Parse.kw_text`). -/
def kwName : Simple → Option String
  | .root => some "root"
  | .empty => some "empty"
  | .firstChild => some "first-child"
  | .lastChild => some "last-child"
  | .onlyChild => some "only-child"
  | .firstOfType => some "first-of-type"
  | .lastOfType => some "last-of-type"
  | .onlyOfType => some "only-of-type"
  | _ => none

/-- What `applySimplePseudo` does for them: `:root`, `:empty` are flag bits, the others `SelectorNth`
    records. -/
def kwAction : Simple → Option ParseDisp.PseudoAction
  | .root => some (.orFlag SEL_ROOT)
  | .empty => some (.orFlag SEL_EMPTY)
  | .firstChild => some (.appendNth [⟨1, false, 0, false, false⟩])
  | .lastChild => some (.appendNth [⟨1, false, 0, false, true⟩])
  | .onlyChild => some (.appendNth [⟨1, false, 0, false, false⟩, ⟨1, false, 0, false, true⟩])
  | .firstOfType => some (.appendNth [⟨1, false, 0, true, false⟩])
  | .lastOfType => some (.appendNth [⟨1, false, 0, true, true⟩])
  | .onlyOfType => some (.appendNth [⟨1, false, 0, true, false⟩, ⟨1, false, 0, true, true⟩])
  | _ => none

/-- The parser reads the name `Css.renderSimple` writes. -/
theorem simpleV_kw {s : Simple} {n : String} (h : kwName s = some n) : simpleV s = .pseudo (renderSimple s) := by
  cases s <;> cases h <;> rfl

/-- The two look-ups of the parser.  One evaluation for all eight names, so that the kernel reads each of
    the names `modelPseudoAction` compares with only once. -/
theorem kw_lookup {s : Simple} {n : String} (h : kwName s = some n) :
    inList Gen.lexicon.pseudoSimple (renderSimple s) = true ∧
      ParseDisp.modelPseudoAction (renderSimple s) = kwAction s := by
  have all : ∀ s ∈ [Simple.root, .empty, .firstChild, .lastChild, .onlyChild, .firstOfType, .lastOfType,
      .onlyOfType],
      inList Gen.lexicon.pseudoSimple (renderSimple s) = true ∧
        ParseDisp.modelPseudoAction (renderSimple s) = kwAction s := by
    decide +kernel
  cases s <;> cases h <;> exact all _ (by simp)

theorem kw_sem (B : Builtins) (p : Parts) (tag : Option SelTag) {s : Simple} {n : String}
    (h : kwName s = some n) :
    (simpleV s).apply B (mkB p tag [] .none) = mkB (addSimple p s) tag [] .none := by
  rw [simpleV_kw h, Item.apply, plainPseudo, if_pos (kw_lookup h).1,
    C06GenPseudo.applySimplePseudo_eq_runPseudo, (kw_lookup h).2]
  cases s <;> cases h <;> rfl

def cTag : Css.Compound → Option SelTag
  | .mk tag _ => tag.map TypeSel.toSelTag

def cParts : Css.Compound → Parts
  | .mk _ parts => compileParts {} parts

/-- The builder after the tokens of a compound. -/
def cpB (cp : Css.Compound) : SelB := mkB (cParts cp) (cTag cp) [] .none

/-- The builder of a complex selector as `parse_combinator` nests it (right to left): the rightmost
    compound on top, what stands to its left in `relations`, each with the combinator as `rel_type`. -/
def chainB (ip : Bool) : Complex → Rel → SelB
  | .one cp, rt => mkB (cParts cp) (implTag ip (cTag cp)) [] rt
  | .comb L k R, rt => mkB (cParts R) (implTag ip (cTag R)) [chainB ip L k.rel] rt

def lastSel : Complex → SelB
  | .one cp => cpB cp
  | .comb _ _ R => cpB R

def relsOf (ip : Bool) : Complex → List SelB
  | .one _ => []
  | .comb L k _ => [chainB ip L k.rel]

def clen : Complex → Nat
  | .one _ => 1
  | .comb L _ _ => clen L + 1

/-- The loop state at the end of the complex selector `x`, the earlier members of the list being `S`. -/
def stOf (ip : Bool) (S : List SelB) (x : Complex) : LS :=
  { selectors := S, sel := lastSel x, relations := relsOf ip x, hasSelector := true }

/-- What `parse_selectors` freezes at the end. -/
def outOf (ip : Bool) (st : LS) : List SelB :=
  st.selectors ++ [(implB ip st.sel).addRelations st.relations]

theorem chain_eq (ip : Bool) (x : Complex) :
    (implB ip (lastSel x)).addRelations (relsOf ip x) = chainB ip x .none := by
  cases x <;> simp only [lastSel, relsOf, chainB, cpB, implB_mkB, addRelations_mkB]

theorem chain_setRelType (ip : Bool) (x : Complex) (rt rt' : Rel) :
    (chainB ip x rt).setRelType rt' = chainB ip x rt' := by
  cases x <;> rfl

theorem size_chainB (ip : Bool) : ∀ (x : Complex) (rt : Rel), (chainB ip x rt).size = clen x
  | .one cp, rt => by simp [chainB, size_mkB, SelB.sizeList, clen]
  | .comb L k R, rt => by
    simp only [chainB, size_mkB, SelB.sizeList, clen, size_chainB ip L k.rel]
    omega

theorem combRel_combChar (k : Comb) : combRel (combChar k) = k.rel := by
  cases k <;> rfl

theorem combChar_ne_comma (k : Comb) : (combChar k == 44) = false := by
  cases k <;> rfl

theorem compileCompound_eq (cp : Css.Compound) (rel : SelList) (rt : Rel) :
    compileCompound cp rel rt = (cParts cp).toSel (cTag cp) rel rt := by
  cases cp; simp [compileCompound, cParts, cTag]

theorem cTag_withImplied (cp : Css.Compound) : cTag cp.withImplied = implTag false (cTag cp) := by
  obtain ⟨tag, parts⟩ := cp
  cases tag <;> rfl

theorem cParts_withImplied (cp : Css.Compound) : cParts cp.withImplied = cParts cp := by
  obtain ⟨tag, parts⟩ := cp
  cases tag <;> rfl

theorem implTag_true (t : Option SelTag) : implTag true t = t := by
  simp [implTag]

theorem freeze_chain_nested : ∀ (x : Complex) (n : Nat) (rt : Rel), clen x ≤ n →
    SelB.freezeF n (chainB true x rt) = compileRT x rt
  | .one cp, n, rt, h => by
    obtain ⟨m, rfl⟩ : ∃ m, n = m + 1 := ⟨n - 1, by simp [clen] at h; omega⟩
    rw [chainB, freezeF_mkB, compileRT, compileCompound_eq, implTag_true]
    rfl
  | .comb L k R, n, rt, h => by
    obtain ⟨m, rfl⟩ : ∃ m, n = m + 1 := ⟨n - 1, by simp [clen] at h; omega⟩
    rw [chainB, freezeF_mkB, compileRT, compileCompound_eq, implTag_true]
    simp only [addRelations_nil]
    rw [freeze_chain_nested L m k.rel (by simp [clen] at h; omega)]

theorem clen_withImplied : ∀ (x : Complex), clen x.withImplied = clen x
  | .one _ => rfl
  | .comb L _ _ => by rw [Complex.withImplied, clen, clen, clen_withImplied L]

/-- The top-level chain is the nested chain of the selector with the implied `*` written out. -/
theorem chainB_false : ∀ (x : Complex) (rt : Rel), chainB false x rt = chainB true x.withImplied rt
  | .one cp, rt => by
    rw [Complex.withImplied, chainB, chainB, cTag_withImplied, cParts_withImplied, implTag_true]
  | .comb L k R, rt => by
    rw [Complex.withImplied, chainB, chainB, chainB_false L, cTag_withImplied, cParts_withImplied,
      implTag_true]

theorem freeze_chain_top : ∀ (x : Complex) (n : Nat) (rt : Rel), clen x ≤ n →
    SelB.freezeF n (chainB false x rt) = compileRT x.withImplied rt := fun x n rt h => by
  rw [chainB_false]
  exact freeze_chain_nested x.withImplied n rt (by rwa [clen_withImplied])

theorem compileSels_eq_map (L : List Complex) : compileSels L = L.map fun x => compileRT x .none := by
  induction L with
  | nil => simp [compileSels]
  | cons x xs ih => simp [compileSels, ih]

theorem freeze_chains_nested (L : List Complex) :
    (L.map fun y => chainB true y .none).map SelB.freeze = compileSels L := by
  rw [compileSels_eq_map, List.map_map]
  apply List.map_congr_left
  intro x _
  simp only [Function.comp, SelB.freeze, size_chainB]
  exact freeze_chain_nested x _ _ (by omega)

theorem freeze_chains_top (L : List Complex) :
    (L.map fun y => chainB false y .none).map SelB.freeze = L.map compileTop := by
  rw [List.map_map]
  apply List.map_congr_left
  intro x _
  simp only [Function.comp, SelB.freeze, size_chainB, compileTop, compileComplex]
  exact freeze_chain_top x _ _ (by omega)

theorem finishTop_eq (st : LS) :
    finishTop st = .mk ((outOf false st).map SelB.freeze) false st.isHtml := by
  simp [finishTop, outOf, implB]

theorem finishNested_eq (n : Bool) (st : LS) :
    finishNested n st = .mk ((outOf true st).map SelB.freeze) n st.isHtml := by
  simp [finishNested, outOf, implB]

theorem identOkB_ne_nil {v : Str} (h : identOkB v = true) : v ≠ [] := by
  intro e; subst e; simp [identOkB] at h

theorem combStep_implB (c : Nat) (ip : Bool) (st : LS) :
    combStep c ip st =
      if c == 44 then
        { st with selectors := st.selectors ++ [(implB ip st.sel).addRelations st.relations], relations := [],
                  sel := .empty, hasSelector := false }
      else
        { st with relations := [((implB ip st.sel).addRelations st.relations).setRelType (combRel c)],
                  sel := .empty, hasSelector := false } := rfl

theorem foldRest_comb (B : Builtins) (ip : Bool) (k : Comb) (cv : C09Compile.Compound) (S : List SelB)
    (L : Complex) :
    foldRest B ip [(combChar k, cv)] (stOf ip S L) =
      { selectors := S, sel := cv.buildOn B SelB.empty, relations := [chainB ip L k.rel],
        hasSelector := true } := by
  rw [foldRest, foldRest, combStep_implB]
  simp only [combChar_ne_comma, Bool.false_eq_true, if_false, stOf, chain_eq, chain_setRelType,
    combRel_combChar]

theorem foldRest_comma (B : Builtins) (ip : Bool) (cv : C09Compile.Compound) (S : List SelB) (x : Complex)
    (rest : List (Nat × C09Compile.Compound)) :
    foldRest B ip ((44, cv) :: rest) (stOf ip S x) =
      foldRest B ip rest
        { selectors := S ++ [chainB ip x .none], sel := cv.buildOn B SelB.empty, hasSelector := true } := by
  rw [foldRest, combStep_implB]
  simp only [beq_self_eq_true, if_true, stOf, chain_eq]

mutual
/-- One simple selector: what the parser adds to the builder is what `addSimple` adds to `Parts`. -/
theorem simple_sem (B : Builtins) : ∀ (s : Simple), spSimple s = true → ∀ (p : Parts) (tag : Option SelTag),
    (simpleV s).apply B (mkB p tag [] .none) = mkB (addSimple p s) tag [] .none
  | .id v, _, p, tag => by simp only [simpleV, Item.apply, addSimple, addId_mkB]
  | .cls v, _, p, tag => by simp only [simpleV, Item.apply, addSimple, addClass_mkB]
  | .attr ns name test, h, p, tag => by
    have hns : ns = [] := by
      simp only [spSimple, Bool.and_eq_true, List.isEmpty_iff] at h
      exact h.1.1
    subst hns
    cases test with
    | none => simpa only [simpleV, Item.apply, AttrV.apply, Option.map_none] using attr_sem_none p tag name
    | some t => simpa only [simpleV, Item.apply, AttrV.apply, Option.map_some] using attr_sem_some p tag name t
  | .neg L, h, p, tag => by
    simp only [spSimple, Bool.and_eq_true, Bool.not_eq_true', List.isEmpty_eq_false_iff] at h
    obtain ⟨h1, h2⟩ := loop_sem B L h.2 h.1 true
    simp only [simpleV, Item.apply, addSimple, finishNested_eq, h1, h2, freeze_chains_nested, addSub_mkB]
    rfl
  | .is L, h, p, tag => by
    simp only [spSimple, Bool.and_eq_true, Bool.not_eq_true', List.isEmpty_eq_false_iff] at h
    obtain ⟨h1, h2⟩ := loop_sem B L h.2 h.1 true
    simp only [simpleV, Item.apply, addSimple, finishNested_eq, h1, h2, freeze_chains_nested, addSub_mkB]
    cases L with
    | nil => exact absurd rfl h.1
    | cons x xs => rfl
  | .has _, h, _, _ => by simp [spSimple] at h
  | .root, _, p, tag | .empty, _, p, tag | .firstChild, _, p, tag | .lastChild, _, p, tag
  | .onlyChild, _, p, tag | .firstOfType, _, p, tag | .lastOfType, _, p, tag | .onlyOfType, _, p, tag =>
    kw_sem B p tag rfl
theorem parts_sem (B : Builtins) : ∀ (ps : List Simple), spParts ps = true → ∀ (p : Parts) (tag : Option SelTag),
    applyItems B (partsV ps) (mkB p tag [] .none) = mkB (compileParts p ps) tag [] .none
  | [], _, p, tag => by simp only [partsV, applyItems, compileParts]
  | s :: rest, h, p, tag => by
    simp only [spParts, Bool.and_eq_true] at h
    rw [partsV, applyItems, simple_sem B s h.1, parts_sem B rest h.2, compileParts]
theorem compound_sem (B : Builtins) : ∀ (cp : Css.Compound), spCompound cp = true →
    (compoundV cp).buildOn B SelB.empty = cpB cp
  | .mk tag parts, h => by
    simp only [spCompound, Bool.and_eq_true] at h
    have hp := parts_sem B parts h.2
    cases tag with
    | none =>
      simp only [compoundV, Option.map_none, C09Compile.Compound.buildOn, mkB_empty, hp]
      rfl
    | some t =>
      obtain ⟨ns, nm⟩ := t
      have hns : ns = NsSpec.default := by
        have := h.1
        simp only [Bool.and_eq_true, beq_iff_eq] at this
        exact this.1
      subst hns
      simp only [compoundV, Option.map_some, C09Compile.Compound.buildOn, mkB_empty, setTag_mkB, hp]
      rfl
/-- The loop through the combinator–compound pairs of one complex selector. -/
theorem complex_sem (B : Builtins) : ∀ (x : Complex), spComplex x = true → ∀ (ip : Bool) (S : List SelB),
    foldRest B ip (complexRest x)
      { selectors := S, sel := (complexFirst x).buildOn B SelB.empty, hasSelector := true } = stOf ip S x
  | .one cp, h, ip, S => by
    simp only [spComplex] at h
    simp only [complexRest, complexFirst, foldRest, compound_sem B cp h, stOf, lastSel, relsOf]
  | .comb L k R, h, ip, S => by
    simp only [spComplex, Bool.and_eq_true] at h
    rw [complexRest, complexFirst, foldRest_append, complex_sem B L h.1, foldRest_comb, compound_sem B R h.2]
    rfl
theorem list_sem (B : Builtins) : ∀ (xs : List Complex), spList xs = true → ∀ (ip : Bool) (x : Complex)
    (S : List SelB),
    outOf ip (foldRest B ip (selsV xs) (stOf ip S x)) = S ++ (x :: xs).map (fun y => chainB ip y .none) ∧
      (foldRest B ip (selsV xs) (stOf ip S x)).isHtml = false
  | [], _, ip, x, S => by
    simp only [selsV, foldRest, outOf, stOf, chain_eq, List.map_cons, List.map_nil, and_self]
  | y :: ys, h, ip, x, S => by
    simp only [spList, Bool.and_eq_true] at h
    rw [selsV, foldRest_comma, foldRest_append, complex_sem B y h.1]
    obtain ⟨h1, h2⟩ := list_sem B ys h.2 ip y (S ++ [chainB ip x .none])
    refine ⟨?_, h2⟩
    rw [h1]
    simp
/-- The whole loop of `parse_selectors` on a non-empty list. -/
theorem loop_sem (B : Builtins) : ∀ (L : List Complex), spList L = true → L ≠ [] → ∀ (ip : Bool),
    outOf ip ((listV L).loopState B ip) = L.map (fun y => chainB ip y .none) ∧
      ((listV L).loopState B ip).isHtml = false
  | [], _, h, _ => absurd rfl h
  | x :: xs, h, _, ip => by
    simp only [spList, Bool.and_eq_true] at h
    rw [listV, SelListV.loopState, foldRest_append]
    have := complex_sem B x h.1 ip []
    rw [this]
    simpa using list_sem B xs h.2 ip x []
end

/-- The structure computed from the token values of `L` (the position-free fold that mirrors
    `parse_selectors`) is the IR `compileList` writes down: one `Sel` per complex selector, the implied
    universal `*` on every top-level compound without a type selector, nothing implied inside
    `:not()` / `:is()`, `is_html = False`. -/
theorem denote_listV (B : Builtins) (L : List Complex) (h : Spellable L) :
    denote B (listV L) = compileList L := by
  obtain ⟨h1, h2⟩ := loop_sem B L h.2 h.1 false
  rw [denote, finishTop_eq, h1, h2, freeze_chains_top, compileList]

#print axioms denote_listV

end C01Parse
end SoupVerif
