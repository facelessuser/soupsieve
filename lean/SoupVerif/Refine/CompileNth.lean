/-
  The tokens `pseudo_nth_child` / `pseudo_nth_type` (reached through the `special` slot of the token
  table): `:nth-child(` gap An+B ( gap `)` | gap-with-whitespace `of` gap-with-whitespace ), and
  `:nth-of-type(` gap An+B gap `)`.
-/
import SoupVerif.Refine.CompileAnB
import SoupVerif.Refine.CompilePseudo
import SoupVerif.Refine.CompileComb
namespace SoupVerif
namespace Refine
namespace Compile
open Rx RxBasic SoupVerif.Parser ParserProgress Escape Spelling
open Wsc (gapRx wsRx unitEnd)
open Ident (rxHead rxStar contStep contLen IdentFold)

def open3 : Rx := .group 3 (.seq [.lit 40 true, gapRx true])
def nthHeadRx (s : Str) : Rx := .group 1 (.seq [.group 2 rxColonIdent, open3, .group 4 (rxAnbU s)])
def commentsRx : Rx := .rep 0 none true (Wsc.commentRx true)
def ofRx : Rx :=
  .group 5 (.seq [commentsRx, wsRx true, gapRx true, .lit 111 true, .lit 102 true,
    commentsRx, wsRx true, gapRx true])

theorem tok_nth_type_shape (s : Str) :
    Gen.tok_pseudo_nth_type = .seq [nthHeadRx s, gapRx true, .lit 41 true] := rfl
theorem tok_nth_child_shape (s : Str) :
    Gen.tok_pseudo_nth_child = .seq [nthHeadRx s, .alt [.seq [gapRx true, .lit 41 true], ofRx]] := rfl

variable (s : Str)

theorem anb_nil_at_unit {j : Nat} (c : Caps) (h : (unitEnd s j).isSome = true) :
    runs pyFoldEnv s (rxAnbU s) j c = [] := by
  rw [show rxAnbU s = rxAnbU [] from rfl]
  exact runs_nil_at_unit (rxAnbU []) (by decide +kernel) s j c h

theorem ws_nil_at_comment {j : Nat} (c : Caps) (rs : List Rx) (h : (Wsc.cmtUnit (s.drop j)).isSome = true) :
    runsSeq pyFoldEnv s (wsRx true :: rs) j c = [] := by
  obtain ⟨n, hn⟩ := Option.isSome_iff_exists.mp h
  obtain ⟨r, hd, _⟩ := Wsc.cmtUnit_some hn
  rw [(Wsc.scans_ws true fun _ => Wsc.caseFree_pyFold).runsSeq_cons, hd, Wsc.wsUnit,
    if_pos (Wsc.wsLen_cons_not _ rfl)]

/-- The comments at the head of a gap with a whitespace unit: behind them stands the white space, and the rest of
    the gap. -/
theorem DescGap.comments {g : Str} (hg : DescGap g) (R : Str) :
    ∃ w g'', (g ++ R).drop (unitsLen Wsc.cmtUnit (g ++ R)) = w :: (g'' ++ R) ∧ isCssWs w = true ∧
      Spelling.isGap g'' ∧
      unitsLen Wsc.cmtUnit (g ++ R) + 1 + g''.length = g.length := by
  induction hg with
  | ws w g' hw hg' =>
    have hn : Wsc.cmtUnit ((w :: g') ++ R) = none := by
      cases hu : Wsc.cmtUnit ((w :: g') ++ R) with
      | none => rfl
      | some n =>
        obtain ⟨r, he, _⟩ := Wsc.cmtUnit_some hu
        rw [List.cons_append, List.cons.injEq] at he
        rw [he.1] at hw; cases hw
    rw [unitsLen_none hn]
    exact ⟨w, g', rfl, hw, hg', by simp; omega⟩
  | comment cs t hdc _ ih =>
    obtain ⟨w, g'', h1, h2, h3, h4⟩ := ih
    have hdr := Wsc.dropComment_eq (cs ++ R) 2
    rw [SpellingLemmas.dropComment_append cs t R hdc] at hdr
    cases he : Wsc.cmtEndL (cs ++ R) 2 with
    | none => rw [he] at hdr; cases hdr
    | some e =>
      rw [he] at hdr
      simp only [Option.map_some, Option.some.injEq] at hdr
      have hb := Wsc.cmtEndL_bounds _ _ _ he
      have hu : Wsc.cmtUnit ((47 :: 42 :: cs) ++ R) = some e := he
      have hde : ((47 :: 42 :: cs) ++ R).drop e = t ++ R := by
        rw [hdr, show e = (e - 2) + 1 + 1 by omega]; rfl
      have hl := congrArg List.length hde
      simp only [List.length_drop, List.length_append, List.length_cons] at hl hb
      rw [unitsLen_some hu ⟨by omega, by simp only [List.length_append, List.length_cons]; omega⟩, hde,
        ← List.drop_drop, hde]
      exact ⟨w, g'', h1, h2, h3, by simp only [List.length_cons]; omega⟩

/-- `COMMENTS* WS WSC*` on a gap with a whitespace unit, in front of a text that begins with no gap: what follows
    starts behind the gap. -/
theorem descgap_then {p : Nat} {g R : Str} (c : Caps) (rs : List Rx) (b : Nat × Caps)
    (hd : s.drop p = g ++ R) (hg : DescGap g) (hR : noGapStart R = true)
    (hk : (runsSeq pyFoldEnv s rs (p + g.length) c).head? = some b) :
    (runsSeq pyFoldEnv s (commentsRx :: wsRx true :: gapRx true :: rs) p c).head? = some b := by
  obtain ⟨w, g'', hdk, hw, hg'', hlen⟩ := hg.comments R
  have hcf : true = true → Wsc.CaseFree pyFoldEnv := fun _ => Wsc.caseFree_pyFold
  have hn : Wsc.wsUnit (w :: (g'' ++ R)) = some (wsLen (w :: (g'' ++ R))) := if_neg (Wsc.wsLen_pos _ hw)
  have hu : Wsc.wscUnit (w :: (g'' ++ R)) = some (wsLen (w :: (g'' ++ R))) := by rw [Wsc.wscUnit, hn]; rfl
  have hl := unitsLen_gap (C09.gap_ws w g'' hw hg'') hR
  rw [List.cons_append, unitsLen_some hu (Wsc.wscUnit_bounds hu)] at hl
  rw [commentsRx, (Wsc.scans_cmt true fun _ => Wsc.caseFree_pyFold).star_then Wsc.cmtUnit_pos s _ (fun j c hj => ws_nil_at_comment s c _ hj) p c,
    (Wsc.scans_ws true hcf).runsSeq_cons, ← List.drop_drop, hd, hdk, hn]
  dsimp only
  obtain ⟨rest, hruns⟩ := List.head?_eq_some_iff.mp
    ((Wsc.scans_wsc true hcf).star_head Wsc.wscUnit_pos s (p + unitsLen Wsc.cmtUnit (g ++ R) + wsLen (w :: (g'' ++ R))) c)
  rw [RxBasic.runsSeq_cons, show gapRx true = .rep 0 none true (Wsc.wscRx true) from rfl, hruns,
    ← List.drop_drop, ← List.drop_drop, hd, hdk]
  refine head?_flatMap_cons _ _ _ _ ?_
  rw [← hk]
  congr 2
  simp only [List.length_cons] at hl
  omega

theorem fail_lit41 (rs : List Rx) (j : Nat) (c : Caps) (h : (unitEnd s j).isSome = true) :
    runsSeq pyFoldEnv s (.lit 41 true :: rs) j c = [] := by
  apply lit_fail Ident.identFold_py s 41 (by omega)
  intro e
  exact Wsc.unitEnd_some_not_paren h e

theorem SAnB.head (a : SAnB) (hok : a.ok) :
    ∃ x xs, a.render = x :: xs ∧ isCssWs x = false ∧ x ≠ 47 := by
  cases a with
  | even m =>
    obtain ⟨y, ys, hw, h⟩ := head_of_lower_letter (k := 101) (kw := "ven".toStr) (lower_even m) (by omega)
    exact ⟨y, ys, by rw [SAnB.render, hw], h⟩
  | odd m =>
    obtain ⟨y, ys, hw, h⟩ := head_of_lower_letter (k := 111) (kw := "dd".toStr) (lower_odd m) (by omega)
    exact ⟨y, ys, by rw [SAnB.render, hw], h⟩
  | lin sg D n T =>
    obtain ⟨h, t, hr, hh⟩ := SAnB.lin_head hok
    refine ⟨h, t, hr, ?_⟩
    simp only [isSign, isDigit, isN, Bool.or_eq_true, Bool.and_eq_true, beq_iff_eq, decide_eq_true_eq] at hh
    exact ⟨by simp [isCssWs]; omega, by omega⟩

theorem descgap_reads {g w R : Str} {rs : List Rx} {G : List (Nat × Str)} (hg : DescGap g)
    (hw : noGapStart (w ++ R) = true) (h : ReadsSeq pyFoldEnv rs w R G) :
    ReadsSeq pyFoldEnv (commentsRx :: wsRx true :: gapRx true :: rs) (g ++ w) R G :=
  ReadsSeq.append_head (as := [commentsRx, wsRx true, gapRx true])
    (fun s _ c b _ hd hr => descgap_then s c rs b hd hg hw hr) h

/-- The An+B micro-syntax (no groups inside) on a spelled An+B in front of a text that cannot prolong it. -/
theorem Reads.anb (s₀ : Str) (a : SAnB) (hok : a.ok) {R : Str}
    (hR1 : ∀ x ∈ R.head?, isDigit x = false ∧ isN x = false)
    (hR2 : ∀ x ∈ (skipWSC R).head?, isSign x = false) : Reads pyFoldEnv (rxAnbU s₀) a.render R [] :=
  Reads.of_head fun s p c _ hd => by
    rw [show rxAnbU s₀ = rxAnbU s from rfl]
    exact anb_head a hok p c R hd hR1 hR2

section Tokens
variable {forms : List (Nat × EscForm)} {g₁ g₂ R : Str} (a : SAnB)

theorem close_tail_facts (hg₂ : isGap g₂) :
    (∀ x ∈ ((g₂ ++ [41]) ++ R).head?, isDigit x = false ∧ isN x = false) ∧
    (∀ x ∈ (skipWSC ((g₂ ++ [41]) ++ R)).head?, isSign x = false) := by
  have e : (g₂ ++ [41]) ++ R = g₂ ++ 41 :: R := by simp
  rw [e]
  constructor
  · exact gap_append_head hg₂ (by intro x hx; simp at hx; subst hx; exact ⟨rfl, rfl⟩)
  · rw [C09.skipWSC_append g₂ _ hg₂ (by simp [noGapStart, isCssWs])]
    intro x hx; simp at hx; subst hx; rfl

/-- The head `:name(` gap An+B of the `nth` tokens: the whole in group 1, name, parenthesis and An+B in 2, 3, 4. -/
theorem nth_head_reads (s₀ : Str) (hok : a.ok) {T : Str}
    (hv : validForms forms (40 :: (g₁ ++ (a.render ++ T))) = true) (hh : headOk forms = true) (hg₁ : isGap g₁)
    (hT1 : ∀ x ∈ T.head?, isDigit x = false ∧ isN x = false)
    (hT2 : ∀ x ∈ (skipWSC T).head?, isSign x = false) :
    Reads pyFoldEnv (nthHeadRx s₀) ((58 :: renderIdentWith forms) ++ ((40 :: g₁) ++ a.render)) T
      [(1, (58 :: renderIdentWith forms) ++ ((40 :: g₁) ++ a.render)), (2, 58 :: renderIdentWith forms),
       (3, 40 :: g₁), (4, a.render)] := by
  obtain ⟨x, xs, hx, hxw, hx47⟩ := a.head hok
  exact Reads.group 1 (Reads.seq (ReadsSeq.cons
    (Reads.group 2 (Reads.prefixed 58 (by simpa using hv) hh (by simp [continuesIdent, identContChar])) (keys_ne rfl))
    (ReadsSeq.cons (open_reads 3 hg₁ (by rw [hx]; simp [noGapStart, hxw, hx47]))
      (ReadsSeq.single (Reads.group 4 (Reads.anb s₀ a hok hT1 hT2) (keys_ne rfl))) (keys_disjoint rfl))
    (keys_disjoint rfl))) (keys_ne rfl)

/-- `:nth-of-type(` gap An+B gap `)`. -/
theorem nth_type_reads (hok : a.ok)
    (hv : validForms forms (40 :: (g₁ ++ (a.render ++ (g₂ ++ 41 :: R)))) = true) (hh : headOk forms = true)
    (hg₁ : isGap g₁) (hg₂ : isGap g₂) :
    Reads pyFoldEnv Gen.tok_pseudo_nth_type
      ((58 :: renderIdentWith forms) ++ ((40 :: g₁) ++ (a.render ++ (g₂ ++ [41])))) R
      [(1, (58 :: renderIdentWith forms) ++ ((40 :: g₁) ++ a.render)), (2, 58 :: renderIdentWith forms),
       (3, 40 :: g₁), (4, a.render)] := by
  obtain ⟨hT1, hT2⟩ := close_tail_facts (R := R) hg₂
  rw [tok_nth_type_shape [], show (58 :: renderIdentWith forms) ++ ((40 :: g₁) ++ (a.render ++ (g₂ ++ [41]))) =
    ((58 :: renderIdentWith forms) ++ ((40 :: g₁) ++ a.render)) ++ (g₂ ++ [41]) by simp]
  exact Reads.seq (ReadsSeq.cons_tail (nth_head_reads a [] hok (by simpa using hv) hh hg₁ hT1 hT2)
    (ReadsSeq.cons_plain (Reads.gap hg₂ (by simp [noGapStart, isCssWs])) (ReadsSeq.single (Reads.lit 41 R))))

/-- `:nth-child(` gap An+B gap `)`: the first alternative behind the head. -/
theorem nth_child_reads (hok : a.ok)
    (hv : validForms forms (40 :: (g₁ ++ (a.render ++ (g₂ ++ 41 :: R)))) = true) (hh : headOk forms = true)
    (hg₁ : isGap g₁) (hg₂ : isGap g₂) :
    Reads pyFoldEnv Gen.tok_pseudo_nth_child
      ((58 :: renderIdentWith forms) ++ ((40 :: g₁) ++ (a.render ++ (g₂ ++ [41])))) R
      [(1, (58 :: renderIdentWith forms) ++ ((40 :: g₁) ++ a.render)), (2, 58 :: renderIdentWith forms),
       (3, 40 :: g₁), (4, a.render)] := by
  obtain ⟨hT1, hT2⟩ := close_tail_facts (R := R) hg₂
  rw [tok_nth_child_shape [], show (58 :: renderIdentWith forms) ++ ((40 :: g₁) ++ (a.render ++ (g₂ ++ [41]))) =
    ((58 :: renderIdentWith forms) ++ ((40 :: g₁) ++ a.render)) ++ (g₂ ++ [41]) by simp]
  exact Reads.seq (ReadsSeq.cons_tail (nth_head_reads a [] hok (by simpa using hv) hh hg₁ hT1 hT2)
    (ReadsSeq.single (Reads.alt_left (Reads.seq
      (ReadsSeq.cons_plain (Reads.gap hg₂ (by simp [noGapStart, isCssWs])) (ReadsSeq.single (Reads.lit 41 R)))))))

/-- `:nth-child(` gap An+B gap-with-ws `of` gap-with-ws — the `of S` form: no `)` follows the first gap, the second
    alternative reads up to where `S` begins, into group 5. -/
theorem nth_child_of_reads {dg1 dg2 ofw : Str} (hok : a.ok)
    (hv : validForms forms (40 :: (g₁ ++ (a.render ++ (dg1 ++ (ofw ++ (dg2 ++ R)))))) = true)
    (hh : headOk forms = true) (hg₁ : isGap g₁) (hdg1 : DescGap dg1) (hdg2 : DescGap dg2)
    (hof : lower ofw = "of".toStr) (hR : noGapStart R = true) :
    Reads pyFoldEnv Gen.tok_pseudo_nth_child
      ((58 :: renderIdentWith forms) ++ ((40 :: g₁) ++ (a.render ++ (dg1 ++ (ofw ++ dg2))))) R
      [(1, (58 :: renderIdentWith forms) ++ ((40 :: g₁) ++ a.render)), (2, 58 :: renderIdentWith forms),
       (3, 40 :: g₁), (4, a.render), (5, dg1 ++ (ofw ++ dg2))] := by
  -- the first letter of `of`: no white space, no `/`, no digit, `n`, sign or `)`
  obtain ⟨o, t, rfl, ho⟩ : ∃ o t, ofw = o :: t ∧ lowerCp o = 111 := by
    cases ofw with
    | nil => cases hof
    | cons o t => exact ⟨o, t, rfl, (List.cons.inj hof).1⟩
  simp only [lowerCp] at ho
  have hofng : ∀ T, noGapStart ((o :: t) ++ T) = true := fun T => by
    have h1 : isCssWs o = false := by simp [isCssWs]; split at ho <;> omega
    have h2 : o ≠ 47 := by split at ho <;> omega
    simp [noGapStart, h1, h2]
  have hT1 : ∀ y ∈ ((dg1 ++ ((o :: t) ++ dg2)) ++ R).head?, isDigit y = false ∧ isN y = false := by
    rw [List.append_assoc]
    apply gap_append_head hdg1.isGap
    intro y hy
    simp only [List.cons_append, List.head?_cons, Option.mem_def, Option.some.injEq] at hy
    subst hy
    constructor
    · simp [isDigit]; split at ho <;> omega
    · simp [isN]; split at ho <;> omega
  have hT2 : ∀ y ∈ (skipWSC ((dg1 ++ ((o :: t) ++ dg2)) ++ R)).head?, isSign y = false := by
    rw [List.append_assoc, List.append_assoc, C09.skipWSC_append dg1 _ hdg1.isGap (hofng _)]
    intro y hy
    simp only [List.cons_append, List.head?_cons, Option.mem_def, Option.some.injEq] at hy
    subst hy
    simp [isSign]; split at ho <;> omega
  rw [tok_nth_child_shape [],
    show (58 :: renderIdentWith forms) ++ ((40 :: g₁) ++ (a.render ++ (dg1 ++ ((o :: t) ++ dg2)))) =
      ((58 :: renderIdentWith forms) ++ ((40 :: g₁) ++ a.render)) ++ (dg1 ++ ((o :: t) ++ dg2)) by simp]
  refine Reads.seq (ReadsSeq.cons (nth_head_reads a [] hok (by simpa using hv) hh hg₁ hT1 hT2)
    (ReadsSeq.single (Reads.alt_right (fun s p c hp hd => ?_) (Reads.alt_left (Reads.group 5 (Reads.seq
      (descgap_reads hdg1 (by rw [List.append_assoc]; exact hofng _)
        (kw_reads (kw := "of".toStr) (by decide) hof
          (List.append_nil dg2 ▸ descgap_reads (w := []) hdg2 hR (ReadsSeq.nil R))))) (keys_ne rfl)))))
    (keys_disjoint rfl))
  -- behind the first gap stands `o`, not `)`
  have hd' : s.drop p = dg1 ++ (o :: (t ++ (dg2 ++ R))) := by simpa using hd
  rw [runs_seq, gap_then_drop s _ _ hd' hdg1.isGap (by simpa using hofng (dg2 ++ R))
    (fun j c' hj => fail_lit41 s [] j c' hj)]
  apply lit_fail Ident.identFold_py s 41 (by omega)
  rw [getElem?_of_drop_cons (drop_add_of_drop_append hd')]
  intro e; cases e; simp at ho

end Tokens

end Compile
end Refine
end SoupVerif

#print axioms SoupVerif.Refine.Compile.descgap_then
#print axioms SoupVerif.Refine.Compile.nth_type_reads
#print axioms SoupVerif.Refine.Compile.nth_child_reads
#print axioms SoupVerif.Refine.Compile.nth_child_of_reads
