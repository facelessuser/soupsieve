/-
  Refinement: the hand-written scanner `Escape.scanPrefixed` / `Escape.scanIdent`
  (Model/Escape.lean) computes exactly what the regex engine model computes on the token regexes
  `Gen.tok_id` (`\#IDENTIFIER`) and `Gen.tok_class` (`\.IDENTIFIER`) regenerated from the source.
  On the way: what a backslash starts, for `CSS_ESCAPES` and for `CSS_STRING_ESCAPES` at once, is the scanner
  `bsLen` (`scans_bs`, over `scans_hexPart`); `Refine/StringTok.lean` takes it from here.
-/
import SoupVerif.Refine.Ws
import SoupVerif.Lemmas.Spelling
import SoupVerif.Generated.Regexes
import SoupVerif.Lemmas.RxDet
namespace SoupVerif
namespace Refine
namespace Ident
open Rx RxBasic Escape EscapeLemmas SpellingLemmas

def rxHex : Rx := .set false [.range 97 102, .range 48 57] true
def rxCrlf : Rx := .seq [.lit 13 true, .lit 10 true]
def rxWs : Rx :=
  .alt [.set false [.ch 32, .ch 9] true,
        .alt [rxCrlf, .seq [.look true true rxCrlf, .set false [.ch 10, .ch 12, .ch 13] true]]]
def rxWsOpt : Rx := .alt [rxWs, .look true true (.set false [.ch 32, .ch 9, .ch 13, .ch 10, .ch 12] true)]
def rxHexRun : Rx :=
  .alt [.seq [.rep 1 (some 5) true rxHex, .look true true rxHex], .rep 6 (some 6) true rxHex]
def rxNonHex : Rx := .set true [.ch 13, .ch 10, .ch 12, .range 97 102, .range 48 57] true
def rxEsc : Rx := .seq [.lit 92 true, .alt [.seq [rxHexRun, rxWsOpt], rxNonHex, .eos]]
def rxStartSet : Rx := .set true [.range 0 47, .range 48 64, .range 91 94, .ch 96, .range 123 127] true
def rxContSet : Rx :=
  .set true [.range 0 44, .ch 46, .ch 47, .range 58 64, .range 91 94, .ch 96, .range 123 127] true
def rxHead : Rx :=
  .alt [.seq [.rep 0 (some 1) true (.lit 45 true), .alt [rxStartSet, rxEsc]],
        .seq [.lit 45 true, .lit 45 true]]
def rxStar : Rx := .rep 0 none true (.alt [rxContSet, rxEsc])

/-- Shape of `css_tokens[id]` = `\#IDENTIFIER` (compiled `re.I | re.X | re.U`). -/
theorem tok_id_shape : Gen.tok_id = .seq [.lit 35 true, rxHead, rxStar] := rfl
/-- Shape of `css_tokens[class]` = `\.IDENTIFIER`. -/
theorem tok_class_shape : Gen.tok_class = .seq [.lit 46 true, rxHead, rxStar] := rfl

theorem fold_eq_const {env : CharEnv} (h : IdentFold env) (k : Nat)
    (hk : k < 65 ∨ (91 ≤ k ∧ k ≤ 96) ∨ (123 ≤ k ∧ k ≤ 127)) (x : Nat) :
    (env.fold x == env.fold k) = (x == k) := by
  rw [h.letterFold.fold_fix (c := k) (by omega), Bool.eq_iff_iff, beq_iff_eq, beq_iff_eq]
  rcases h.id_or_letter x with h1 | h1 <;> omega

theorem fold_const_eq {env : CharEnv} (h : IdentFold env) (k : Nat)
    (hk : k < 65 ∨ (91 ≤ k ∧ k ≤ 96) ∨ (123 ≤ k ∧ k ≤ 127)) (x : Nat) :
    (env.fold k == env.fold x) = (x == k) := by
  rw [← fold_eq_const h k hk x, Bool.beq_comm]

/-- A range that holds neither letters nor non-ASCII code points is met only in person: what the
    folding moves, it moves to a letter. -/
theorem itemHas_range_plain {env : CharEnv} (h : IdentFold env) (lo hi : Nat)
    (hr : lo ≤ hi ∧ (hi < 65 ∨ (90 < lo ∧ hi < 97) ∨ (122 < lo ∧ hi < 128))) (c : Nat) :
    itemHas env true c (.range lo hi) = (decide (lo ≤ c) && decide (c ≤ hi)) := by
  rw [itemHas_range (by omega)]
  rcases h.id_or_letter c with e | e
  · rw [e, Bool.or_self]
  · have : (decide (lo ≤ env.fold c) && decide (env.fold c ≤ hi)) = false := by
      rw [Bool.and_eq_false_iff, decide_eq_false_iff_not, decide_eq_false_iff_not]; omega
    rw [this, Bool.or_false]

theorem set_start {env : CharEnv} (h : IdentFold env) (c : Nat) :
    setHas env true [.range 0 47, .range 48 64, .range 91 94, .ch 96, .range 123 127] true c
      = identStartChar c := by
  rw [Bool.eq_iff_iff, identStartChar_iff]
  simp only [setHas, List.any, itemHas_range_plain h 0 47 (by omega),
    itemHas_range_plain h 48 64 (by omega), itemHas_range_plain h 91 94 (by omega),
    itemHas_range_plain h 123 127 (by omega),
    show itemHas env true c (.ch 96) = (c == 96) from fold_const_eq h 96 (by omega) c,
    Bool.or_false, Bool.bne_true, Bool.not_eq_true', Bool.or_eq_false_iff, Bool.and_eq_false_iff,
    decide_eq_false_iff_not, beq_eq_false_iff_ne, ne_eq]
  omega

theorem set_cont {env : CharEnv} (h : IdentFold env) (c : Nat) :
    setHas env true [.range 0 44, .ch 46, .ch 47, .range 58 64, .range 91 94, .ch 96, .range 123 127] true c
      = identContChar c := by
  rw [Bool.eq_iff_iff, identContChar_iff]
  simp only [setHas, List.any, itemHas_range_plain h 0 44 (by omega),
    itemHas_range_plain h 58 64 (by omega), itemHas_range_plain h 91 94 (by omega),
    itemHas_range_plain h 123 127 (by omega),
    show itemHas env true c (.ch 96) = (c == 96) from fold_const_eq h 96 (by omega) c,
    show itemHas env true c (.ch 46) = (c == 46) from fold_const_eq h 46 (by omega) c,
    show itemHas env true c (.ch 47) = (c == 47) from fold_const_eq h 47 (by omega) c,
    Bool.or_false, Bool.bne_true, Bool.not_eq_true', Bool.or_eq_false_iff, Bool.and_eq_false_iff,
    decide_eq_false_iff_not, beq_eq_false_iff_ne, ne_eq]
  omega

/-! ### The hexadecimal digits of an escape and `(?:WS|(?![ \t\r\n\f]))` behind them -/

theorem isChar_hex {env : CharEnv} (h : LetterFold env) (s : Str) : IsChar env s rxHex isHex :=
  h.isChar_hex s

theorem hexRun_eq_span (s : Str) (p k : Nat) : hexRun k (s.drop p) = min (spanLen s isHex p) k :=
  hexRun_eq_min k (s.drop p)

theorem look_nothex {env : CharEnv} (h : LetterFold env) (s : Str) (j : Nat) (caps : Caps) :
    runsSeq env s [.look true true rxHex] j caps =
      match s[j]? with
      | some x => if isHex x then [] else [(j, caps)]
      | none => [(j, caps)] := by
  rw [runsSeq_cons, runs, isChar_hex h s j caps]
  unfold charBody
  cases s[j]? with
  | none => simp [runsSeq_nil]
  | some x => by_cases hx : isHex x = true <;> simp [hx, runsSeq_nil]

/-- The hexadecimal digits of an escape: at least one, at most six, as many as there are. -/
def hexLen (t : Str) : Option Nat := if 1 ≤ hexRun 6 t then some (hexRun 6 t) else none

/-- `(?:[a-f0-9]{1,5}(?![a-f0-9])|[a-f0-9]{6})` is the scanner `hexLen`: exactly the maximal run of hex digits,
    cut at 6. -/
theorem scans_hexRun {env : CharEnv} (h : LetterFold env) : Scans env rxHexRun hexLen := by
  refine ⟨fun t n hn => ?_, fun s p caps => ?_⟩
  · unfold hexLen at hn; split at hn <;> cases hn; exact hexRun_le 6 t
  have hruns : runs env s rxHexRun p caps =
      if 1 ≤ spanLen s isHex p then [(p + min (spanLen s isHex p) 6, caps)] else [] := by
    unfold rxHexRun
    rw [runs_alt, runsAlt_cons, runsAlt_cons, runsAlt_nil, runs_seq,
      runsSeq_rep_char_cut_max (isChar_hex h s) 1 5 _ p caps
        (fun j x hx hPx => by rw [look_nothex h, hx]; exact if_pos hPx),
      runs_rep_char_exact (isChar_hex h s), List.append_nil, look_nothex h]
    generalize hn : spanLen s isHex p = n
    have hend : (match s[p + n]? with
        | some x => if isHex x = true then [] else [(p + n, caps)]
        | none => [(p + n, caps)]) = [(p + n, caps)] := by
      cases hx : s[p + n]? with
      | none => rfl
      | some x => exact if_neg (by rw [span_end s isHex n p hn x hx]; exact Bool.false_ne_true)
    rw [hend]
    by_cases h1 : 1 ≤ n
    · by_cases h5 : n ≤ 5
      · rw [if_pos ⟨h1, h5⟩, if_neg (by omega), if_pos h1, show min n 6 = n by omega]; rfl
      · rw [if_neg (fun hc => h5 hc.2), if_pos (by omega), if_pos h1, show min n 6 = 6 by omega]; rfl
    · rw [if_neg (fun hc => h1 hc.1), if_neg (by omega), if_neg h1]; rfl

  rw [hruns]; unfold atDrop hexLen
  rw [hexRun_eq_span]
  by_cases h1 : 1 ≤ spanLen s isHex p
  · rw [if_pos h1, if_pos (by omega)]; rfl
  · rw [if_neg h1, if_neg (by omega)]; rfl

/-- Hex digits and their terminator, as composed from `hexLen` and the white-space unit. -/
def hexPart : Str → Option Nat := andThen hexLen (andThen (fun t => some (wsLen t)) fun _ => some 0)

theorem hexPart_hex {d : Nat} (ds : Str) (hd : isHex d = true) :
    hexPart (d :: ds) = some (hexRun 6 (d :: ds) + wsLen ((d :: ds).drop (hexRun 6 (d :: ds)))) := by
  have h1 : 1 ≤ hexRun 6 (d :: ds) := by rw [hexRun, if_pos hd]; omega
  unfold hexPart andThen hexLen
  rw [if_pos h1]; rfl

theorem hexPart_not {d : Nat} (ds : Str) (hd : isHex d = false) : hexPart (d :: ds) = none := by
  have h0 : ¬ 1 ≤ hexRun 6 (d :: ds) := by rw [hexRun, hd]; simp
  unfold hexPart andThen hexLen
  rw [if_neg h0]; rfl

theorem hexPart_nil : hexPart [] = none := rfl

theorem scans_hexPart {env : CharEnv} (h : LetterFold env) : Scans env (.seq [rxHexRun, rxWsOpt]) hexPart :=
  (scans_hexRun h).seq_cons
    ((Wsc.scans_wsOpt true fun _ => Wsc.caseFree_of_letterFold h).seq_cons (Scans.seq_nil env))

/-! ### `CSS_ESCAPES` and `CSS_STRING_ESCAPES` -/

/-- `\` followed by hex digits and their terminator, by a character that is neither a hex digit nor a
    newline, or by what `x` scans (the end of the input in an identifier, a newline unit in a string). -/
def bsLen (x : Str → Option Nat) : Str → Option Nat
  | [] => none
  | c :: cs =>
    if c == 92 then
      match escOf cs with
      | .hex k w => some (1 + k + w)
      | .ch _ => some 2
      | _ => (x cs).map (1 + ·)
    else none

/-- The two escape grammars at once: `\` then hex digits with their terminator, or a character that is neither
    a hex digit nor a newline, or `X`: `\Z` in `CSS_ESCAPES`, `NEWLINE` in `CSS_STRING_ESCAPES`.  `X` needs to be the
    scanner `x` only inside the subject (behind the backslash the position is inside), which `\Z` is. -/
theorem scans_bs {env : CharEnv} (h : LetterFold env) {X : Rx} {x : Str → Option Nat}
    (hle : ∀ t n, x t = some n → n ≤ t.length)
    (hX : ∀ s p c, p ≤ s.length → runs env s X p c = one (atDrop x s p) c)
    (hx : ∀ d ds, isHex d = true ∨ (d == 10 || d == 13 || d == 12) = false → x (d :: ds) = none) :
    Scans env (.seq [.lit 92 true, .alt [.seq [rxHexRun, rxWsOpt], rxNonHex, X]]) (bsLen x) := by
  have hhex := scans_hexPart h
  have hnon : Scans env rxNonHex (charLen fun d => !isHex d && !(d == 10 || d == 13 || d == 12)) :=
    .char fun s => isChar_congr (isChar_set env s _ _ _) h.setHas_nonhex
  -- a character that is neither a hex digit nor a newline: `X` does not start there
  have h2 : ∀ t, (charLen (fun d => !isHex d && !(d == 10 || d == 13 || d == 12)) t).isSome = true → x t = none := by
    rintro (_ | ⟨d, ds⟩) ht
    · cases ht
    · cases hP : (!isHex d && !(d == 10 || d == 13 || d == 12)) with
      | false => rw [charLen_cons, hP] at ht; cases ht
      | true =>
        rw [Bool.and_eq_true, Bool.not_eq_true', Bool.not_eq_true'] at hP
        exact hx d ds (.inr hP.2)
  -- hex digits: neither of the other two starts with one
  have h1 : ∀ t, (hexPart t).isSome = true →
      ((charLen (fun d => !isHex d && !(d == 10 || d == 13 || d == 12)) t).orElse fun _ => x t) = none := by
    rintro (_ | ⟨d, ds⟩) ht
    · cases ht
    · cases hd : isHex d with
      | false => rw [hexPart_not ds hd] at ht; cases ht
      | true => rw [charLen_cons, hd, hx d ds (.inl hd)]; rfl
  refine (Scans.char_then (fun s => h.isChar_lit s (c := 92) (by omega))
    (g := fun t => (hexPart t).orElse fun _ =>
      (charLen (fun d => !isHex d && !(d == 10 || d == 13 || d == 12)) t).orElse fun _ => x t) ?_ ?_).congr ?_
  · intro t n hn
    cases hp : hexPart t with
    | some a => rw [hp] at hn; cases hn; exact hhex.le t _ hp
    | none =>
      rw [hp] at hn
      cases hc : charLen (fun d => !isHex d && !(d == 10 || d == 13 || d == 12)) t with
      | some a => rw [Option.orElse_none, hc] at hn; cases hn; exact hnon.le t _ hc
      | none => rw [Option.orElse_none, hc] at hn; exact hle t n hn
  · intro s p c hp
    rw [runs_alt, runsAlt_cons, runsAlt_cons, runsAlt_cons, runsAlt_nil, List.append_nil, hhex.runs, hnon.runs,
      hX s p c hp, one_append (fun ht => by unfold atDrop at ht ⊢; rw [h2 _ (by simpa using ht)]; rfl), atDrop_orElse,
      one_append (fun ht => by unfold atDrop at ht ⊢; dsimp only; rw [h1 _ (by simpa using ht)]; rfl),
      atDrop_orElse]
  · rintro (_ | ⟨c, cs⟩)
    · rfl
    · cases hc : (c == 92) with
      | false => rw [andThen_none (by rw [charLen_cons, hc]; rfl), bsLen, hc]; rfl
      | true =>
        rw [beq_iff_eq] at hc; subst hc
        rw [andThen_some (n := 1) (f := charLen (· == 92)) (t := 92 :: cs) rfl, List.drop_succ_cons, List.drop_zero,
          bsLen, beq_self_eq_true, if_pos rfl]
        cases cs with
        | nil => rw [hexPart_nil, escOf]; cases x [] <;> rfl
        | cons d ds =>
          rw [escOf]
          cases hd : isHex d with
          | true =>
            rw [hexPart_hex ds hd, if_pos rfl]
            simp only [Option.orElse_some, Option.map_some]; congr 1; omega
          | false =>
            rw [hexPart_not ds hd, if_neg (by decide), charLen_cons]
            cases hn : (d == 10 || d == 13 || d == 12) with
            | true =>
              simp only [hd, Bool.not_false, Bool.not_true, Bool.and_false, Bool.false_eq_true, if_false, if_true]
              cases x (d :: ds) <;> rfl
            | false =>
              simp only [hd, Bool.not_false, Bool.and_self, if_true, Bool.false_eq_true, if_false]
              rfl

/-- `\Z` is, inside the subject, the scanner of the empty text. -/
theorem runs_eos_inside (env : CharEnv) (s : Str) (p : Nat) (c : Caps) (hp : p ≤ s.length) :
    runs env s .eos p c = one (atDrop (fun t => if t = [] then some 0 else none) s p) c := by
  rw [runs_eos]; unfold atDrop
  by_cases h : p = s.length
  · subst h; simp [one]
  · have : s.drop p ≠ [] := by
      intro e; have := congrArg List.length e; rw [List.length_drop] at this; simp at this; omega
    simp [h, this, one]

theorem scans_esc {env : CharEnv} (h : LetterFold env) : Scans env rxEsc escLen := by
  refine (scans_bs h (fun t n hn => by split at hn <;> cases hn; exact Nat.zero_le _)
    (fun s p c hp => runs_eos_inside env s p c hp) fun d ds _ => rfl).congr ?_
  rintro (_ | ⟨c, cs⟩)
  · rfl
  · cases hc : (c == 92) with
    | false => have hc' : c ≠ 92 := by simpa using hc
               simp [bsLen, escLen, hc']
    | true =>
      rw [beq_iff_eq] at hc; subst hc
      rw [escLen_bs, bsLen, beq_self_eq_true, if_pos rfl]
      cases cs with
      | nil => rfl
      | cons d ds =>
        rw [escOf]
        cases hd : isHex d with
        | true => rfl
        | false => cases hn : (d == 10 || d == 13 || d == 12) <;> rfl

/-- One iteration of the `*` loop of `IDENTIFIER`: an identifier character or an escape. -/
def contStep : Str → Option Nat
  | [] => none
  | c :: cs => if identContChar c then some 1 else escLen (c :: cs)

/-- Length of what the `*` loop takes. -/
def contLen (t : Str) : Nat := (scanCont 0 t).1.length

theorem contStep_bounds {t : Str} {n : Nat} (h : contStep t = some n) : 1 ≤ n ∧ n ≤ t.length := by
  cases t with
  | nil => simp [contStep] at h
  | cons c cs =>
    rw [contStep] at h
    split at h
    · cases h; simp
    · exact escLen_bounds h

theorem contLen_stop {t : Str} (h : contStep t = none) : contLen t = 0 := by
  cases t with
  | nil => simp [contLen, scanCont]
  | cons c cs =>
    rw [contStep] at h
    unfold contLen
    rw [scanCont_zero_cons]
    split at h
    · cases h
    · rename_i hc; simp [hc, h]

theorem contLen_step {t : Str} {n : Nat} (h : contStep t = some n) :
    contLen t = n + contLen (t.drop n) := by
  have hb := contStep_bounds h
  cases t with
  | nil => simp [contStep] at h
  | cons c cs =>
    rw [contStep] at h
    unfold contLen
    rw [scanCont_zero_cons]
    split at h
    · rename_i hc; cases h; simp [hc]; omega
    · rename_i hc
      simp only [hc, h, Bool.false_eq_true, if_false]
      rw [scanCont_take (n - 1) cs (by simp at hb; omega)]
      obtain ⟨m, rfl⟩ : ∃ m, n = m + 1 := ⟨n - 1, by omega⟩
      simp only [List.length_cons, List.length_append, List.length_take, Nat.add_sub_cancel,
        List.drop_succ_cons]
      simp only [List.length_cons] at hb
      omega

theorem contStep_pos (t : Str) : contStep t ≠ some 0 := fun h => by have := (contStep_bounds h).1; omega

theorem scans_lit {env : CharEnv} (h : IdentFold env) (k : Nat)
    (hk : k < 65 ∨ (91 ≤ k ∧ k ≤ 96) ∨ (123 ≤ k ∧ k ≤ 127)) : Scans env (.lit k true) (charLen (· == k)) :=
  .char fun s => isChar_congr (isChar_lit env s k true) (fold_eq_const h k hk)

/-- `(?:[^…]|CSS_ESCAPES)`, one step of the loop of `IDENTIFIER`, is the scanner `contStep`: an identifier
    character is not a backslash. -/
theorem scans_contAlt {env : CharEnv} (h : IdentFold env) : Scans env (.alt [rxContSet, rxEsc]) contStep := by
  have hne : ∀ {c : Nat}, identContChar c = true → c ≠ 92 := by
    rintro c hc rfl; exact absurd hc (by decide)
  refine ((Scans.char fun s => isChar_congr (isChar_set env s _ _ _) (set_cont h)).alt_cons
    ((scans_esc h.letterFold).alt_cons (Scans.alt_nil env) fun _ _ => rfl) ?_).congr ?_
  · rintro (_ | ⟨c, cs⟩) ht
    · cases ht
    · rw [charLen_cons] at ht
      cases hc : identContChar c with
      | false => rw [hc] at ht; cases ht
      | true => rw [escLen_of_ne cs (hne hc)]; rfl
  · rintro (_ | ⟨c, cs⟩)
    · rfl
    · rw [charLen_cons, contStep]
      cases hc : identContChar c with
      | false => cases escLen (c :: cs) <;> rfl
      | true => rfl

theorem unitsLen_cont (t : Str) : unitsLen contStep t = contLen t :=
  unitsLen_eq (fun _ _ h => contStep_bounds h) contLen (fun t => by
    cases hs : contStep t with
    | none => exact contLen_stop hs
    | some n => exact contLen_step hs) t

/-! ### The head `(?:-?(?:[^...]|CSS_ESCAPES)|--)` -/

theorem headLen_bounds {t : Str} {n : Nat} (h : headLen t = some n) : 1 ≤ n ∧ n ≤ t.length := by
  cases t with
  | nil => simp [headLen] at h
  | cons c cs =>
    rw [headLen] at h
    split at h
    · cases hs : startLen cs with
      | some m =>
        rw [hs] at h; cases h
        have := startLen_bounds hs
        simp; omega
      | none =>
        rw [hs] at h
        cases cs with
        | nil => simp at h
        | cons d ds =>
          by_cases hdd : ((d :: ds).head? == some 45) = true
          · rw [if_pos hdd] at h; cases h; simp
          · rw [if_neg hdd] at h; cases h
    · exact startLen_bounds h

theorem head_ne_dash_of_startLen : ∀ {cs : Str} {n : Nat}, startLen cs = some n → cs.head? ≠ some 45
  | d :: ds, n, hs, hh => by
    simp only [List.head?_cons, Option.some.injEq] at hh; subst hh; rw [startLen_dash] at hs; cases hs

theorem scans_startAlt {env : CharEnv} (h : IdentFold env) : Scans env (.alt [rxStartSet, rxEsc]) startLen := by
  have hne : ∀ {c : Nat}, identStartChar c = true → c ≠ 92 := by
    rintro c hc rfl; exact absurd hc (by decide)
  refine ((Scans.char fun s => isChar_congr (isChar_set env s _ _ _) (set_start h)).alt_cons
    ((scans_esc h.letterFold).alt_cons (Scans.alt_nil env) fun _ _ => rfl) ?_).congr ?_
  · rintro (_ | ⟨c, cs⟩) ht
    · cases ht
    · rw [charLen_cons] at ht
      cases hc : identStartChar c with
      | false => rw [hc] at ht; cases ht
      | true => rw [escLen_of_ne cs (hne hc)]; rfl
  · rintro (_ | ⟨c, cs⟩)
    · rfl
    · rw [charLen_cons, startLen]
      cases hc : identStartChar c with
      | false => cases escLen (c :: cs) <;> rfl
      | true => rfl

theorem dash_then (g : Str → Option Nat) (cs : Str) :
    andThen (charLen (· == 45)) g (45 :: cs) = (g cs).map (1 + ·) :=
  andThen_some (f := charLen (· == 45)) (t := 45 :: cs) rfl

theorem not_dash_then (g : Str → Option Nat) {c : Nat} (cs : Str) (hc : c ≠ 45) :
    andThen (charLen (· == 45)) g (c :: cs) = none :=
  andThen_none (by rw [charLen_cons, if_neg (by simpa using hc)])

/-- The head of `IDENTIFIER`, `(?:-?(?:[^…]|CSS_ESCAPES)|--)`, is the scanner `headLen`: what can follow the
    optional dash cannot itself begin with a dash, so `-?` gives nothing back; `--` is tried only then. -/
theorem scans_head {env : CharEnv} (h : IdentFold env) : Scans env rxHead headLen := by
  have hdash := scans_lit h 45 (by omega)
  have hdd := hdash.seq_cons (hdash.seq_cons (Scans.seq_nil env))
  refine ((hdash.opt_cons (scans_startAlt h).seq_single ?_).alt_cons
    (hdd.alt_cons (Scans.alt_nil env) fun _ _ => rfl) ?_).congr ?_
  · rintro (_ | ⟨c, cs⟩) ht
    · cases ht
    · by_cases hc : c = 45
      · subst hc; exact startLen_dash cs
      · rw [not_dash_then _ cs hc] at ht; cases ht
  · rintro (_ | ⟨c, cs⟩) ht
    · cases ht
    · by_cases hc : c = 45
      · subst hc
        rw [dash_then, startLen_dash] at ht
        cases hs : startLen cs with
        | none => rw [hs] at ht; cases ht
        | some n =>
          have hd := head_ne_dash_of_startLen hs
          rw [dash_then]
          cases cs with
          | nil => rfl
          | cons d ds => rw [not_dash_then _ ds (by simpa using hd)]; rfl
      · rw [not_dash_then _ cs hc]; rfl
  · rintro (_ | ⟨c, cs⟩)
    · rfl
    · by_cases hc : c = 45
      · subst hc
        rw [dash_then, dash_then, startLen_dash, headLen, if_pos (show (45 == 45) = true from rfl)]
        cases hs : startLen cs with
        | some n => show some (1 + n) = some (n + 1); rw [Nat.add_comm]
        | none =>
          cases cs with
          | nil => rfl
          | cons d ds =>
            by_cases hd : d = 45
            · subst hd; rw [dash_then]; rfl
            · rw [not_dash_then _ ds hd, List.head?_cons, if_neg (by simpa using hd)]; rfl
      · rw [not_dash_then _ cs hc, not_dash_then _ cs hc, headLen, if_neg (by simpa using hc)]
        cases startLen (c :: cs) <;> rfl

theorem scanCont_length {n : Nat} {t : Str} (hn : n ≤ t.length) :
    (scanCont n t).1.length = n + contLen (t.drop n) := by
  rw [scanCont_take n t hn]; simp [contLen, hn]

/-- `IDENTIFIER` at any position and with any captures: its first run is what `scanIdent` reads. -/
theorem head?_ident {env : CharEnv} (h : IdentFold env) (s : Str) (i : Nat) (c : Caps) :
    (runsSeq env s [rxHead, rxStar] i c).head? = (scanIdent (s.drop i)).map fun r => (i + r.1.length, c) := by
  unfold scanIdent
  rw [(scans_head h).runsSeq_cons]
  cases hh : headLen (s.drop i) with
  | none => rfl
  | some n =>
    have hb := headLen_bounds hh
    dsimp only
    rw [runsSeq_single, show rxStar = .rep 0 none true (.alt [rxContSet, rxEsc]) from rfl,
      (scans_contAlt h).star_head contStep_pos, unitsLen_cont]
    simp only [Option.map_some]
    rw [scanCont_length hb.2, List.drop_drop, Nat.add_assoc]

/-- `IDENTIFIER` alone (the sub-term of the token regexes), at any position. -/
theorem matchAt_ident {env : CharEnv} (h : IdentFold env) (s : Str) (i : Nat) :
    matchAt env (.seq [rxHead, rxStar]) s i =
      (scanIdent (s.drop i)).map fun r => (i + r.1.length, []) := by
  unfold matchAt; rw [runs_seq]; exact head?_ident h s i []

theorem matchAt_prefixed {env : CharEnv} (h : IdentFold env) (q : Nat)
    (hq : q < 65 ∨ (91 ≤ q ∧ q ≤ 96) ∨ (123 ≤ q ∧ q ≤ 127)) (s : Str) (i : Nat) :
    matchAt env (.seq [.lit q true, rxHead, rxStar]) s i =
      (scanPrefixed q (s.drop i)).map fun r => (i + r.1.length, []) := by
  unfold matchAt
  rw [runs_seq, (scans_lit h q hq).runsSeq_cons]
  cases hd : s.drop i with
  | nil => rfl
  | cons c cs =>
    rw [charLen_cons, scanPrefixed]
    cases hc : (c == q) with
    | false => rfl
    | true =>
      rw [if_pos rfl, head?_ident h, drop_succ_of_drop_cons hd]
      cases scanIdent cs with
      | none => rfl
      | some r => simp only [Option.map_some, if_true, List.length_cons, Nat.add_assoc, Nat.add_comm 1]

/-- `css_tokens[id]` (`\#IDENTIFIER`, flags `re.I|re.X|re.U`): for every subject `s` and start
    position `i`, `pattern.match(s, i)` of the regex regenerated from the source is exactly the
    hand scanner on the suffix: same success, end = `i +` length of the token text (the token text
    includes the prefix character), no captures. -/
theorem tok_id_matchAt {env : CharEnv} (h : IdentFold env) (s : Str) (i : Nat) :
    matchAt env Gen.tok_id s i = (scanPrefixed 35 (s.drop i)).map fun r => (i + r.1.length, []) := by
  rw [tok_id_shape]; exact matchAt_prefixed h 35 (by omega) s i

theorem tok_class_matchAt {env : CharEnv} (h : IdentFold env) (s : Str) (i : Nat) :
    matchAt env Gen.tok_class s i = (scanPrefixed 46 (s.drop i)).map fun r => (i + r.1.length, []) := by
  rw [tok_class_shape]; exact matchAt_prefixed h 46 (by omega) s i

/-- The scanner's result is determined by the engine's: token text and rest are the subject cut
    at the engine's end position. -/
theorem scanPrefixed_of_matchAt {env : CharEnv} {r : Rx} {q : Nat} {s : Str} {i : Nat}
    (hm : matchAt env r s i = (scanPrefixed q (s.drop i)).map fun r => (i + r.1.length, [])) :
    scanPrefixed q (s.drop i) =
      (matchAt env r s i).map fun m => ((s.drop i).take (m.1 - i), s.drop m.1) := by
  rw [hm]
  cases hp : scanPrefixed q (s.drop i) with
  | none => rfl
  | some r =>
    have hsplit := scanPrefixed_split hp
    simp only [Option.map_some, Nat.add_sub_cancel_left, Option.some.injEq]
    rw [← List.drop_drop, ← hsplit]
    simp

theorem tok_id_scan {env : CharEnv} (h : IdentFold env) (s : Str) (i : Nat) :
    scanPrefixed 35 (s.drop i) =
      (matchAt env Gen.tok_id s i).map fun m => ((s.drop i).take (m.1 - i), s.drop m.1) :=
  scanPrefixed_of_matchAt (tok_id_matchAt h s i)

theorem tok_class_scan {env : CharEnv} (h : IdentFold env) (s : Str) (i : Nat) :
    scanPrefixed 46 (s.drop i) =
      (matchAt env Gen.tok_class s i).map fun m => ((s.drop i).take (m.1 - i), s.drop m.1) :=
  scanPrefixed_of_matchAt (tok_class_matchAt h s i)

/-- At position 0, under Python's folding and under the ASCII environment. -/
theorem tok_id_eq_scan (s : Str) :
    (matchAt pyFoldEnv Gen.tok_id s 0).map (·.1) = (scanPrefixed 35 s).map fun r => r.1.length := by
  rw [tok_id_matchAt identFold_py s 0, List.drop_zero]; cases scanPrefixed 35 s <;> simp

theorem tok_id_eq_scan_ascii (s : Str) :
    (matchAt asciiEnv Gen.tok_id s 0).map (·.1) = (scanPrefixed 35 s).map fun r => r.1.length := by
  rw [tok_id_matchAt identFold_ascii s 0, List.drop_zero]; cases scanPrefixed 35 s <;> simp

theorem tok_class_eq_scan (s : Str) :
    (matchAt pyFoldEnv Gen.tok_class s 0).map (·.1) = (scanPrefixed 46 s).map fun r => r.1.length := by
  rw [tok_class_matchAt identFold_py s 0, List.drop_zero]; cases scanPrefixed 46 s <;> simp

theorem tok_class_eq_scan_ascii (s : Str) :
    (matchAt asciiEnv Gen.tok_class s 0).map (·.1) = (scanPrefixed 46 s).map fun r => r.1.length := by
  rw [tok_class_matchAt identFold_ascii s 0, List.drop_zero]; cases scanPrefixed 46 s <;> simp

#print axioms tok_id_matchAt
#print axioms tok_class_matchAt
#print axioms tok_id_scan
#print axioms tok_class_scan
#print axioms matchAt_ident
#print axioms tok_id_eq_scan
#print axioms tok_id_eq_scan_ascii
#print axioms tok_class_eq_scan
#print axioms tok_class_eq_scan_ascii

end Ident
end Refine
end SoupVerif
