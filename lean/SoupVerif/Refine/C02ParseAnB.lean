/-
  C02 from the selector TEXT: the CSS value of an An+B spelling, and that `parse_pseudo_nth` computes it.

  ## The micro-syntax (CSS Syntax Module Level 3, §6 "The An+B microsyntax")

      <an+b> = odd | even | <integer>
             | <n-dimension> | '+'?† n | -n
             | <ndashdigit-dimension> | '+'?† <ndashdigit-ident> | <dashndashdigit-ident>
             | <n-dimension> <signed-integer> | '+'?† n <signed-integer> | -n <signed-integer>
             | <ndash-dimension> <signless-integer> | '+'?† n- <signless-integer> | -n- <signless-integer>
             | <n-dimension> ['+' | '-'] <signless-integer> | '+'?† n ['+' | '-'] <signless-integer>
             | -n ['+' | '-'] <signless-integer>

  i.e., character-wise:  `even` | `odd` | `[+-]? DIGITS` | `[+-]? DIGITS? n ( ws* [+-] ws* DIGITS )?`
  with `n`, `even`, `odd` ASCII case-insensitive, no white space between the leading sign, the digits and
  `n`, and white space (and, between tokens, comments) allowed on both sides of the second sign.
  Value: `even` ↦ (2, 0); `odd` ↦ (2, 1); `<integer>` ↦ (0, integer); otherwise `A` is the signed integer
  in front of `n` (`n`, `+n` ↦ 1; `-n` ↦ -1), `B` the signed integer after it, 0 when absent.

  ## What soupsieve's `NTH` token / `RE_NTH` accept (`SAnB`, `SAnB.ok`: `Refine/Syntax.lean`; `anb_head`: `Refine/CompileNthRx.lean`)

      (?:[-+])?(?:[0-9]+n?|n)(?:(?<=n)WSC*(?:[-+])WSC*(?:[0-9]+))?|even|odd          (re.I)

  = exactly the character-wise grammar above, `WSC` being CSS white space or a complete comment.
  Accepted (checked against the real library as well): `even`, `ODD`, `5`, `+5`, `-5`, `007`, `n`, `N`,
  `+n`, `-n`, `2n`, `-0n+0`, `n+3`, `n+ 3`, `n +3`, `n + 3`, `-n- 1`, `n/**/+/**/3`, `+007n-08`.
  Rejected, as by CSS: `- n`, `+ n`, `3 n`, `2 n`, `+ 5`, `1 + 2`, `2n+-1`, `2n + + 1`, `2n- -1`, `2n+`,
  `n2`, `-even`, `1.0`, non-ASCII digits or signs.
  Rejected although CSS accepts them: identifiers written with escapes (`e\76 en`, `\6e`) — soupsieve does
  not unescape inside the An+B argument.  Nothing is accepted that CSS rejects.
  (Python's `int()` refuses more than 4300 digits and `parse_pseudo_nth` then raises; the model's `parseInt`
  has no such limit — outside the quantifiers here as everywhere in the parser model.)

  `anbValue : SAnB → Int × Int` below is the SPEC: the CSS value `(A, B)` of a spelled An+B, written from the
  table above, independently of `parseAnB` / `anbCore` (positional value of the digit strings; no `int()`, no
  string surgery).
-/
import SoupVerif.Refine.CompileAnB
-- `10 ^ n` in `decVal` below is Mathlib's power of the monoid `Nat` (`Monoid.npow`), not core's `Nat.pow`; this import keeps
-- that reading whatever the files above happen to import.
import Mathlib.Algebra.Group.Nat.Defs
namespace SoupVerif
namespace Refine
namespace C02Parse
open Rx RxBasic SoupVerif.Parser Escape Spelling Refine.Compile

/-- Positional value of a string of ASCII digits (most significant first). -/
def decVal : Str → Nat
  | [] => 0
  | d :: ds => (d - 48) * 10 ^ ds.length + decVal ds

/-- The sign a `[-+]?` slot stands for. -/
def sgn (s : Option Nat) : Int := if s = some 45 then -1 else 1

/-- **The CSS value `(A, B)` of a spelled An+B** (CSS Syntax §6.2): `even` ↦ (2, 0); `odd` ↦ (2, 1);
    `[+-]? DIGITS` ↦ (0, ±DIGITS); `[+-]? DIGITS? n` ↦ (±DIGITS or ±1, 0);
    `… n gap [+-] gap DIGITS` ↦ (A, ±DIGITS).  Gaps and letter case do not matter. -/
def anbValue : SAnB → Int × Int
  | .even _ => (2, 0)
  | .odd _ => (2, 1)
  | .lin sg D none _ => (0, sgn sg * (decVal D : Int))
  | .lin sg D (some _) T =>
    (sgn sg * (if D = [] then 1 else (decVal D : Int)),
     match T with
     | none => 0
     | some (_, s2, _, D2) => sgn (some s2) * (decVal D2 : Int))

/-- Is the `An` term present (`even`, `odd` stand for `2n`, `2n+1`). -/
def hasN : SAnB → Bool
  | .even _ => true
  | .odd _ => true
  | .lin _ _ n _ => n.isSome

theorem foldl_dec (D : Str) (acc : Nat) :
    D.foldl (fun acc c => acc * 10 + (c - 48)) acc = acc * 10 ^ D.length + decVal D := by
  induction D generalizing acc with
  | nil => simp [decVal]
  | cons d ds ih =>
    rw [List.foldl_cons, ih, decVal, List.length_cons, Nat.pow_succ]
    rw [Nat.add_mul, Nat.mul_assoc, Nat.mul_comm 10, Nat.add_assoc]

theorem parseInt_neg (D : Str) : parseInt (45 :: D) = - (decVal D : Int) := by
  simp [parseInt, foldl_dec]

theorem parseInt_pos (D : Str) (h : D.head? ≠ some 45) : parseInt D = (decVal D : Int) := by
  unfold parseInt
  split
  · exact absurd rfl h
  · simp [foldl_dec]

theorem digits_head_ne (D : Str) (hD : ∀ x ∈ D, isDigit x = true) (k : Nat) (hk : k < 48 ∨ 57 < k) :
    D.head? ≠ some k := by
  cases D with
  | nil => simp
  | cons d ds =>
    have := hD d (by simp)
    simp only [isDigit, Bool.and_eq_true, decide_eq_true_eq] at this
    simp only [List.head?_cons, ne_eq, Option.some.injEq]
    omega

theorem digits_getLast_ne (D : Str) (hD : ∀ x ∈ D, isDigit x = true) (k : Nat) (hk : k < 48 ∨ 57 < k) :
    D.getLast? ≠ some k := by
  intro h
  have hm := List.mem_of_getLast? h
  have := hD k hm
  simp only [isDigit, Bool.and_eq_true, decide_eq_true_eq] at this
  omega

/-- The sign prefix `parse_pseudo_nth` builds from a sign group. -/
theorem sign_prefix (sg : Option Nat) (D : Str) (h : D.head? ≠ some 45) :
    parseInt ((if (sg.map fun x => [x]) == some [45] then [45] else []) ++ D) = sgn sg * (decVal D : Int) := by
  cases sg with
  | none => simp [sgn, parseInt_pos D h]
  | some x =>
    by_cases hx : x = 45
    · subst hx
      simp [sgn, parseInt_neg]
    · simp [sgn, hx, parseInt_pos D h]

theorem parseAnB_canon_lin (B : Builtins) (pat : Str) (sg : Option Nat) (D : Str) (n : Option Nat)
    (T : Option (Str × Nat × Str × Str)) (hok : (SAnB.lin sg D n T).ok) :
    parseAnB (penv B pat) (SAnB.lin sg D n T).canon =
      if n.isSome then ((anbValue (.lin sg D n T)).1, true, (anbValue (.lin sg D n T)).2)
      else ((anbValue (.lin sg D n T)).2, false, 0) := by
  obtain ⟨h3, h4⟩ := canon_ok sg D n T hok
  rw [h3, parseAnB_lin B pat _ _ _ _ h4]
  obtain ⟨hsg, hD, hn, hne, hT⟩ := hok
  have h45 := digits_head_ne D hD 45 (by omega)
  cases n with
  | none =>
    have hT' : T = none := by
      cases T with
      | none => rfl
      | some q => obtain ⟨g, s2, g', D2⟩ := q; exact absurd hT.1 (by simp)
    subst hT'
    have hl : (D.getLast? == some 110) = false := by
      rw [beq_eq_false_iff_ne]; exact digits_getLast_ne D hD 110 (by omega)
    have hh : (D.head? == some 110) = false := by
      rw [beq_eq_false_iff_ne]; exact digits_head_ne D hD 110 (by omega)
    simp only [anbCore, Option.map_none, Option.toList_none, List.append_nil]
    simp only [hl, hh, Bool.false_eq_true, if_false, Option.isSome_none, anbValue, sign_prefix sg D h45]
    rfl
  | some y =>
    have hl : ((D ++ [110]).getLast? == some 110) = true := by simp
    have htk : (D ++ [110]).take ((D ++ [110]).length - 1) = D := by simp
    have hB : parseInt (match T.map (fun q => q.2.2.2) with
        | some b => if b.isEmpty then [48]
          else (if (T.map fun q => [q.2.1]) == some [45] then [45] else []) ++ b
        | none => [48]) = (anbValue (.lin sg D (some y) T)).2 := by
      cases T with
      | none => simp [anbValue]; decide
      | some q =>
        obtain ⟨g, s2, g', D2⟩ := q
        obtain ⟨_, _, _, _, hne2, hD2⟩ := hT
        have h2 := sign_prefix (some s2) D2 (digits_head_ne D2 hD2 45 (by omega))
        have he : D2.isEmpty = false := by cases D2 with | nil => exact absurd rfl hne2 | cons _ _ => rfl
        simp only [Option.map_some, he, Bool.false_eq_true, if_false, anbValue]
        exact h2
    have hA : parseInt (if (D ++ [110]).head? == some 110 then
          (if (sg.map fun x => [x]) == some [45] then [45] else []) ++ [49]
        else (if (sg.map fun x => [x]) == some [45] then [45] else []) ++ D) =
        (anbValue (.lin sg D (some y) T)).1 := by
      cases D with
      | nil =>
        have := sign_prefix sg [49] (by decide)
        simp only [List.nil_append, List.head?_cons, beq_self_eq_true, if_true, anbValue]
        rw [this]; rfl
      | cons d ds =>
        have hd : (((d :: ds) ++ [110]).head? == some 110) = false := by
          have := digits_head_ne (d :: ds) hD 110 (by omega)
          simpa using this
        rw [hd]
        simp only [Bool.false_eq_true, if_false, anbValue, sign_prefix sg (d :: ds) h45]
        simp
    simp only [anbCore, Option.map_some, Option.toList_some, Option.map_map, hl, htk, if_true,
      Option.isSome_some]
    refine Prod.ext ?_ (Prod.ext rfl ?_)
    · exact hA
    · exact hB

/-- **`parse_pseudo_nth` computes the CSS value** (exact triple).  For every accepted spelling `x`, the
    triple `(a, var, b)` read from the canonical text is `(A, True, B)` when the `An` term is present and
    `(B, False, 0)` for a bare `<integer>`, with `(A, B) = anbValue x`. -/
theorem parseAnB_canon_eq (B : Builtins) (pat : Str) (x : SAnB) (hok : x.ok) :
    parseAnB (penv B pat) x.canon =
      if hasN x then ((anbValue x).1, true, (anbValue x).2) else ((anbValue x).2, false, 0) := by
  cases x with
  | even m => exact (parseAnB_kw _).1
  | odd m => exact (parseAnB_kw _).2
  | lin sg D n T => exact parseAnB_canon_lin B pat sg D n T hok

/-- The same for what the parser actually reads: the lower-cased text of the token's group. -/
theorem parseAnB_text_eq (B : Builtins) (pat : Str) (x : SAnB) (hok : x.ok) :
    parseAnB (penv B pat) (lower x.render) =
      if hasN x then ((anbValue x).1, true, (anbValue x).2) else ((anbValue x).2, false, 0) := by
  rw [parseAnB_spelled B pat B pat x hok, parseAnB_canon_eq B pat x hok]

theorem anbValue_noN (x : SAnB) (h : hasN x = false) : (anbValue x).1 = 0 := by
  cases x with
  | even m => cases h
  | odd m => cases h
  | lin sg D n T =>
    cases n with
    | none => rfl
    | some y => cases h

/-- The positions an nth record `(a, var, b)` designates, as `match_nth` reads it
    (`idx = a * count + b if var else a`, `count = 0, 1, …`; `C02Site.matchNth_iff`, `Properties/C02Site.lean`, for
    `var = true`, `C02Site.matchNth_const_iff`, `Lemmas/NthSite.lean`, for `var = false`). -/
def Designates (r : Int × Bool × Int) (pos : Nat) : Prop :=
  if r.2.1 = true then ∃ n : Nat, r.1 * (n : Int) + r.2.2 = (pos : Int) else r.1 = (pos : Int)

/-- **`parse_anb_value`**: the set of positions designated by the record `parse_pseudo_nth` builds for
    an accepted spelling `x` is `{A·n + B | n ≥ 0}` with `(A, B)` the CSS value of `x`. -/
theorem parse_anb_value (B : Builtins) (pat : Str) (x : SAnB) (hok : x.ok) (pos : Nat) :
    Designates (parseAnB (penv B pat) x.canon) pos ↔
      ∃ n : Nat, (anbValue x).1 * (n : Int) + (anbValue x).2 = (pos : Int) := by
  rw [parseAnB_canon_eq B pat x hok]
  cases h : hasN x with
  | true => simp [Designates]
  | false =>
    simp only [Designates, Bool.false_eq_true, if_false, anbValue_noN x h, Int.zero_mul, Int.zero_add]
    exact ⟨fun e => ⟨0, e⟩, fun ⟨_, e⟩ => e⟩

theorem parse_anb_value_text (B : Builtins) (pat : Str) (x : SAnB) (hok : x.ok) (pos : Nat) :
    Designates (parseAnB (penv B pat) (lower x.render)) pos ↔
      ∃ n : Nat, (anbValue x).1 * (n : Int) + (anbValue x).2 = (pos : Int) := by
  rw [parseAnB_spelled B pat B pat x hok]
  exact parse_anb_value B pat x hok pos

/-- `-n+3` -/
def exNeg : SAnB := .lin (some 45) [] (some 110) (some ([], 43, [], [51]))
/-- `2N - /**/1` -/
def exGaps : SAnB := .lin none [50] (some 78) (some ([32], 45, [32, 47, 42, 42, 47], [49]))
/-- `+5` -/
def exInt : SAnB := .lin (some 43) [53] none none
/-- `007` -/
def exZeros : SAnB := .lin none [48, 48, 55] none none

example : exNeg.render = "-n+3".toStr ∧ exGaps.render = "2N - /**/1".toStr ∧ exInt.render = "+5".toStr := by decide
example : exNeg.ok ∧ exGaps.ok ∧ exInt.ok ∧ exZeros.ok := by
  refine ⟨?_, ?_, ?_, ?_⟩ <;> simp +decide [exNeg, exGaps, exInt, exZeros, SAnB.ok, tailOK]
example : anbValue exNeg = (-1, 3) ∧ anbValue exGaps = (2, -1) ∧ anbValue exInt = (0, 5) ∧
    anbValue exZeros = (0, 7) ∧ anbValue (.even [true, false]) = (2, 0) ∧ anbValue (.odd []) = (2, 1) := by decide

end C02Parse
end Refine
end SoupVerif

#print axioms SoupVerif.Refine.C02Parse.parseAnB_canon_eq
#print axioms SoupVerif.Refine.C02Parse.parse_anb_value
#print axioms SoupVerif.Refine.C02Parse.parse_anb_value_text
