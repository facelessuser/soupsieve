/-
  Helpers for `Properties/C18Parse.lean`: `:in-range` / `:out-of-range` from the selector TEXT and the
  attribute STRINGS.

  First the spec-level vocabulary of its statements (`RangeType`, `RVal`, `ValidStr`, `RVal.lt`, `Reads`,
  `WeekGuard`): nothing in it mentions a regular expression, `parseValue` or the IR.
  Then the bridges to the model, used by `Properties/C18Parse.lean` and not visible in its statements: valid strings
  are what `parseValue` accepts (under `WeekGuard`), `ltP` on the parsed values is `RVal.lt`, and so
  `Spec.OutOfRange` transfers from the parsed values to the readings.
-/
import SoupVerif.Properties.C18Range
import SoupVerif.Lemmas.Lits
import SoupVerif.Refine.Fold
namespace SoupVerif
namespace Refine.C18Parse
open Inputs

/-- The `type` keywords of `<input>` for which `:in-range` / `:out-of-range` are defined. -/
inductive RangeType where
  | date | month | week | time | datetimeLocal | number | range
  deriving DecidableEq, Repr

/-- The keyword (lower case). -/
def RangeType.name : RangeType → String
  | .date => "date"
  | .month => "month"
  | .week => "week"
  | .time => "time"
  | .datetimeLocal => "datetime-local"
  | .number => "number"
  | .range => "range"

/-- What a valid value string denotes. -/
inductive RVal where
  /-- the calendar day `y-m-d` -/
  | date (y m d : Nat)
  /-- the month `y-m` -/
  | month (y m : Nat)
  /-- ISO week `w` of ISO year `y` -/
  | week (y w : Nat)
  /-- the time of day `h:mi` -/
  | time (h mi : Nat)
  /-- the local date-time `y-m-d h:mi` -/
  | datetime (y m d h mi : Nat)
  /-- the decimal number `(-1)^neg · mant · 10^exp` -/
  | num (neg : Bool) (mant : Nat) (exp : Int)
  deriving Repr

/-- "`s` is a valid HTML string of type `ty`, denoting `x`" (the grammars and calendar of `Spec/Calendar.lean`). -/
def ValidStr : RangeType → Str → RVal → Prop
  | .date, s, .date y m d => Spec.validDateStr s y m d
  | .month, s, .month y m => Spec.validMonthStr s y m
  | .week, s, .week y w => Spec.validWeekStr s y w
  | .time, s, .time h mi => Spec.validTimeStr s h mi
  | .datetimeLocal, s, .datetime y m d h mi => Spec.validDateTimeStr s y m d h mi
  | .number, s, .num neg mant exp => Spec.numShape s neg mant exp
  | .range, s, .num neg mant exp => Spec.numShape s neg mant exp
  | _, _, _ => False

/-- The integer `(-1)^neg · mant · 10^(exp - k)` (for `k ≤ exp`): the decimal scaled by `10^(-k)`. -/
def decScaled (neg : Bool) (mant : Nat) (exp k : Int) : Int :=
  (if neg then -1 else 1) * ((mant : Int) * 10 ^ (exp - k).toNat)

/-- Chronological / numeric order of the denoted values.
    Days: by day number (days since 0001-01-01).  Months: by `12·y + m`.  Weeks: by the day number of their
    Monday.  Times: by minutes since midnight.  Local date-times: by minutes since 0001-01-01 00:00.
    Numbers: by value (both decimals scaled to the smaller of the two exponents). -/
def RVal.lt : RVal → RVal → Prop
  | .date y1 m1 d1, .date y2 m2 d2 => Spec.dayNumber y1 m1 d1 < Spec.dayNumber y2 m2 d2
  | .month y1 m1, .month y2 m2 => y1 * 12 + m1 < y2 * 12 + m2
  | .week y1 w1, .week y2 w2 =>
    Spec.week1Monday y1 + 7 * (w1 - 1) < Spec.week1Monday y2 + 7 * (w2 - 1)
  | .time h1 i1, .time h2 i2 => h1 * 60 + i1 < h2 * 60 + i2
  | .datetime y1 m1 d1 h1 i1, .datetime y2 m2 d2 h2 i2 =>
    Spec.dayNumber y1 m1 d1 * 1440 + h1 * 60 + i1 < Spec.dayNumber y2 m2 d2 * 1440 + h2 * 60 + i2
  | .num n1 m1 e1, .num n2 m2 e2 =>
    decScaled n1 m1 e1 (min e1 e2) < decScaled n2 m2 e2 (min e1 e2)
  | _, _ => False

/-- The reading of an attribute (`none` = the element does not carry it): `some x` when it is a valid string
    denoting `x`, `none` when it is absent or not a valid string. -/
def Reads (ty : RangeType) (a : Option Str) (r : Option RVal) : Prop :=
  match r with
  | some x => ∃ s, a = some s ∧ ValidStr ty s x
  | none => ∀ s, a = some s → ∀ x, ¬ ValidStr ty s x

/-- The guard of `C18.week_valid_partial`, stated on the attribute string: for `type=week`, whatever
    `YYYY…-Www` shape the string has, it is not the case that 31 December of `y` lies in ISO week 1 of `y+1`
    and `w = 53`.  (For the other six types the guard is empty.) -/
def WeekGuard (ty : RangeType) (a : Option Str) : Prop :=
  ty = .week → ∀ s, a = some s → ∀ y w, Spec.weekShape s y w → ¬ (Spec.dec31InNextWeek1 y ∧ w = 53)

theorem weekGuard_of_ne (ty : RangeType) (a : Option Str) (h : ty ≠ .week) : WeekGuard ty a :=
  fun h' => absurd h' h

theorem weekGuard_none (ty : RangeType) : WeekGuard ty none := fun _ s h => by cases h

/-- The model's value for a denoted value. -/
def toP : RVal → PVal
  | .date y m d => .ints [y, m, d]
  | .month y m => .ints [y, m]
  | .week y w => .ints [y, w]
  | .time h mi => .ints [h, mi]
  | .datetime y m d h mi => .ints [y, m, d, h, mi]
  | .num neg mant exp => .num neg mant exp

theorem name_time_iff (ty : RangeType) : ty.name.toStr = "time".toStr ↔ ty = .time := by
  cases ty <;> decide_lit

/-- The keywords of `RangeType` are the seven types whose values `parse_value` reads. -/
theorem isRangeType_iff (t : Str) : C08.isRangeType t = true ↔ ∃ ty : RangeType, t = ty.name.toStr := by
  constructor
  · intro h
    simp only [C08.isRangeType, List.any_cons, List.any_nil, Bool.or_false, Bool.or_eq_true, beq_iff_eq] at h
    rcases h with rfl | rfl | rfl | rfl | rfl | rfl | rfl
    · exact ⟨.date, rfl⟩
    · exact ⟨.month, rfl⟩
    · exact ⟨.week, rfl⟩
    · exact ⟨.time, rfl⟩
    · exact ⟨.datetimeLocal, rfl⟩
    · exact ⟨.number, rfl⟩
    · exact ⟨.range, rfl⟩
  · rintro ⟨ty, rfl⟩
    cases ty <;>
      simp only [RangeType.name, C08.isRangeType, List.any_cons, beq_self_eq_true, Bool.true_or, Bool.or_true]

/-- A valid string is accepted by `parse_value`, with the value it denotes (weeks included: the code never
    rejects a genuine ISO week). -/
theorem parse_of_valid (ty : RangeType) (s : Str) (x : RVal) (h : ValidStr ty s x) :
    parseValue ty.name.toStr s = some (toP x) := by
  cases ty <;> cases x <;> simp only [ValidStr] at h
  · exact (C18.parse_date_spec s _).2 ⟨_, _, _, h, rfl⟩
  · exact (C18.parse_month_spec s _).2 ⟨_, _, h, rfl⟩
  · exact C18.parse_week_never_rejects_valid s _ _ h
  · exact (C18.parse_time_spec s _).2 ⟨_, _, h, rfl⟩
  · exact (C18.parse_datetime_spec s _).2 ⟨_, _, _, _, _, h, rfl⟩
  · exact ((C18.parse_number_spec s _).1).2 ⟨_, _, _, h, rfl⟩
  · exact ((C18.parse_number_spec s _).2).2 ⟨_, _, _, h, rfl⟩

/-- Conversely — for weeks under the guard of `week_valid_partial`. -/
theorem valid_of_parse (ty : RangeType) (s : Str) (v : PVal) (hg : WeekGuard ty (some s))
    (h : parseValue ty.name.toStr s = some v) : ∃ x, ValidStr ty s x ∧ v = toP x := by
  cases ty
  · obtain ⟨y, m, d, hv, rfl⟩ := (C18.parse_date_spec s v).1 h
    exact ⟨.date y m d, hv, rfl⟩
  · obtain ⟨y, m, hv, rfl⟩ := (C18.parse_month_spec s v).1 h
    exact ⟨.month y m, hv, rfl⟩
  · have hg' : ∀ y, Inputs.shapeWeek s = some (y, 53) → ¬ Spec.dec31InNextWeek1 y := by
      intro y hy hx
      exact hg rfl s rfl y 53 ((Inputs.shapeWeek_iff s y 53).1 hy) ⟨hx, rfl⟩
    obtain ⟨y, w, hv, rfl⟩ := (C18.parse_week_valid_partial s v hg').1 h
    exact ⟨.week y w, hv, rfl⟩
  · obtain ⟨hh, mi, hv, rfl⟩ := (C18.parse_time_spec s v).1 h
    exact ⟨.time hh mi, hv, rfl⟩
  · obtain ⟨y, m, d, hh, mi, hv, rfl⟩ := (C18.parse_datetime_spec s v).1 h
    exact ⟨.datetime y m d hh mi, hv, rfl⟩
  · obtain ⟨n, m, e, hv, rfl⟩ := ((C18.parse_number_spec s v).1).1 h
    exact ⟨.num n m e, hv, rfl⟩
  · obtain ⟨n, m, e, hv, rfl⟩ := ((C18.parse_number_spec s v).2).1 h
    exact ⟨.num n m e, hv, rfl⟩

theorem validStr_unique (ty : RangeType) (s : Str) (x x' : RVal) (h : ValidStr ty s x)
    (h' : ValidStr ty s x') : x = x' := by
  have e := (parse_of_valid ty s x h).symm.trans (parse_of_valid ty s x' h')
  cases ty <;> cases x <;> simp only [ValidStr] at h <;> cases x' <;> simp only [ValidStr] at h' <;>
    (cases e; rfl)

theorem reads_exists (ty : RangeType) (a : Option Str) : ∃ r, Reads ty a r := by
  by_cases h : ∃ s x, a = some s ∧ ValidStr ty s x
  · obtain ⟨s, x, hs, hx⟩ := h
    exact ⟨some x, s, hs, hx⟩
  · exact ⟨none, fun s hs x hx => h ⟨s, x, hs, hx⟩⟩

theorem reads_unique (ty : RangeType) (a : Option Str) (r r' : Option RVal) (h : Reads ty a r)
    (h' : Reads ty a r') : r = r' := by
  cases r with
  | none =>
    cases r' with
    | none => rfl
    | some x' => obtain ⟨s, hs, hx⟩ := h'; exact absurd hx (h s hs x')
  | some x =>
    obtain ⟨s, hs, hx⟩ := h
    cases r' with
    | none => exact absurd hx (h' s hs x)
    | some x' =>
      obtain ⟨s', hs', hx'⟩ := h'
      rw [hs] at hs'; cases hs'
      rw [validStr_unique ty s x x' hx hx']

theorem reads_none_absent (ty : RangeType) : Reads ty none none := fun s h => by cases h

/-- What `match_range` gets from `Inputs.parse_value` for an attribute that is absent or holds a string. -/
theorem parseValueE_of_reads (ty : RangeType) (a : Option Str) (r : Option RVal) (h : Reads ty a r)
    (hg : WeekGuard ty a) :
    parseValueE ty.name.toStr (a.map NVal.str) = .ok (r.map toP) := by
  cases a with
  | none =>
    cases r with
    | none => rfl
    | some x => obtain ⟨s, hs, -⟩ := h; cases hs
  | some s =>
    show Except.ok (parseValue ty.name.toStr s) = _
    cases r with
    | some x =>
      obtain ⟨s', hs, hx⟩ := h
      cases hs
      rw [parse_of_valid ty s x hx]; rfl
    | none =>
      cases hp : parseValue ty.name.toStr s with
      | none => rfl
      | some v =>
        obtain ⟨x, hx, -⟩ := valid_of_parse ty s v hg hp
        exact absurd hx (h s rfl x)

theorem decScaled_eq_numVal (neg : Bool) (mant : Nat) (exp k : Int) :
    decScaled neg mant exp k = Inputs.numVal neg mant exp k := by
  unfold decScaled Inputs.numVal
  cases neg <;> simp

/-- The scale of the comparison does not matter: any common exponent `k` below both gives the same answer. -/
theorem num_lt_any_scale (n1 : Bool) (m1 : Nat) (e1 : Int) (n2 : Bool) (m2 : Nat) (e2 : Int) (k : Int)
    (hk1 : k ≤ e1) (hk2 : k ≤ e2) :
    RVal.lt (.num n1 m1 e1) (.num n2 m2 e2) ↔ decScaled n1 m1 e1 k < decScaled n2 m2 e2 k := by
  simp only [RVal.lt, decScaled_eq_numVal]
  rw [C18.ltP_num_spec n1 m1 e1 n2 m2 e2 k hk1 hk2,
    C18.ltP_num_spec n1 m1 e1 n2 m2 e2 (min e1 e2) (by omega) (by omega)]

/-- For integers written without exponent: the usual order on integers. -/
theorem num_lt_int (n1 : Bool) (m1 : Nat) (n2 : Bool) (m2 : Nat) :
    RVal.lt (.num n1 m1 0) (.num n2 m2 0) ↔
      (if n1 then -(m1 : Int) else m1) < (if n2 then -(m2 : Int) else m2) := by
  rw [num_lt_any_scale n1 m1 0 n2 m2 0 0 (by omega) (by omega)]
  unfold decScaled
  cases n1 <;> cases n2 <;> simp

/-- The model's comparison of the parsed values is the chronological / numeric order of the denoted values. -/
theorem ltP_iff_lt (ty : RangeType) (s s' : Str) (x x' : RVal) (h : ValidStr ty s x) (h' : ValidStr ty s' x') :
    Inputs.ltP (toP x) (toP x') = true ↔ RVal.lt x x' := by
  cases ty <;> cases x <;> simp only [ValidStr] at h <;> cases x' <;> simp only [ValidStr] at h'
  · exact C18.order_date_mono _ _ _ _ _ _ h.2 h'.2
  · obtain ⟨-, -, a1, b1⟩ := h
    obtain ⟨-, -, a2, b2⟩ := h'
    exact C18.order_month_mono _ _ _ _ a1 b1 a2 b2
  · obtain ⟨-, y1, a1, b1⟩ := h
    obtain ⟨-, y2, a2, b2⟩ := h'
    exact C18.order_week_mono _ _ _ _ y1 y2 a1 b1 a2 b2
  · exact C18.order_time_mono _ _ _ _ h.2.2 h'.2.2
  · obtain ⟨-, v1, hh1, hi1⟩ := h
    obtain ⟨-, v2, hh2, hi2⟩ := h'
    exact C18.order_datetime_mono _ _ _ _ _ _ _ _ _ _ v1 v2 hh1 hi1 hh2 hi2
  · simp only [toP, RVal.lt, decScaled_eq_numVal]
    exact (C18.ltP_num_spec _ _ _ _ _ _ _ (by omega) (by omega)).symm
  · simp only [toP, RVal.lt, decScaled_eq_numVal]
    exact (C18.ltP_num_spec _ _ _ _ _ _ _ (by omega) (by omega)).symm

/-- `Spec.OutOfRange` only looks at the order among the values that are present. -/
theorem outOfRange_congr {α β : Type} (f : α → β) (lt : α → α → Prop) (lt' : β → β → Prop) (P : α → Prop)
    (hlt : ∀ a b, P a → P b → (lt' (f a) (f b) ↔ lt a b)) (w w' : Prop) (hw : w' ↔ w)
    (mn mx v : Option α) (hmn : ∀ a, mn = some a → P a) (hmx : ∀ a, mx = some a → P a)
    (hv : ∀ a, v = some a → P a) :
    Spec.OutOfRange lt' w' (mn.map f) (mx.map f) (v.map f) ↔ Spec.OutOfRange lt w mn mx v := by
  cases v with
  | none => simp [Spec.OutOfRange]
  | some x =>
    have px := hv x rfl
    cases mn with
    | none =>
      cases mx with
      | none => simp [Spec.OutOfRange]
      | some b => simp [Spec.OutOfRange, hlt b x (hmx b rfl) px]
    | some a =>
      have pa := hmn a rfl
      cases mx with
      | none => simp [Spec.OutOfRange, hlt x a px pa]
      | some b =>
        have pb := hmx b rfl
        simp only [Spec.OutOfRange, Option.map_some, hlt b a pb pa, hlt b x pb px, hlt x a px pa, hw]

/-- The model's out-of-range test on the parsed values = out of range for the chronological / numeric order on
    the readings. -/
theorem outOfRange_transfer (ty : RangeType) (aMn aMx aV : Option Str) (mn mx v : Option RVal)
    (rmn : Reads ty aMn mn) (rmx : Reads ty aMx mx) (rv : Reads ty aV v) :
    Spec.OutOfRange C18.ltV (ty.name.toStr = "time".toStr) (mn.map toP) (mx.map toP) (v.map toP) ↔
      Spec.OutOfRange RVal.lt (ty = .time) mn mx v := by
  apply outOfRange_congr toP RVal.lt C18.ltV (fun x => ∃ s, ValidStr ty s x)
  · rintro a b ⟨s, hs⟩ ⟨s', hs'⟩
    exact ltP_iff_lt ty s s' a b hs hs'
  · exact name_time_iff ty
  · rintro a rfl; obtain ⟨s, -, hs⟩ := rmn; exact ⟨s, hs⟩
  · rintro a rfl; obtain ⟨s, -, hs⟩ := rmx; exact ⟨s, hs⟩
  · rintro a rfl; obtain ⟨s, -, hs⟩ := rv; exact ⟨s, hs⟩

/-- Strings with the same ASCII lower-casing pass the case-insensitive literal test. -/
theorem litsEq_of_lower (env : CharEnv) (hfold : FoldsAscii env) :
    ∀ (v s : Str), lower s = lower v → C11.litsEq env true v s = true
  | [], [] => fun _ => rfl
  | [], _ :: _ => fun h => by simp [lower] at h
  | _ :: _, [] => fun h => by simp [lower] at h
  | c :: v, x :: t => fun h => by
    simp only [lower, List.map_cons, List.cons.injEq] at h
    simp only [C11.litsEq, C11.chEq, if_true, Bool.and_eq_true, beq_iff_eq]
    exact ⟨hfold x c h.1, litsEq_of_lower env hfold v t h.2⟩

end Refine.C18Parse
end SoupVerif
