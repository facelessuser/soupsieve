/-
  `&`: the token and the loop step.
-/
import SoupVerif.Refine.CompileStep
import SoupVerif.Lemmas.ParserProgress.Dispatch
namespace SoupVerif
namespace Refine
namespace Compile
open Rx RxBasic SoupVerif.Parser ParserProgress Escape Spelling

variable (B : Builtins) (s : Str) (fuel flags : Nat) (st : LS)

theorem skip_amp : (Gen.lexicon.tokens.take 5).all (fun t => !slotFirst 38 t) = true := by
  decide +kernel

theorem step_amp {r : Str} (hd : s.drop st.pos = 38 :: r) :
    ∃ p idx, s.drop p = r ∧
      parseLoop pyFoldEnv Gen.lexicon B s (fuel + 1) flags st =
        parseLoop pyFoldEnv Gen.lexicon B s fuel flags
          { st with pos := p, index := idx, sel := st.sel.orFlags SEL_SCOPE, hasSelector := true } := by
  obtain ⟨t, ht⟩ := TokenAt.of_slot B s (n := 5) (tr := ⟨"amp", Gen.tok_amp, Gen.tok_amp_groups⟩) rfl
    (Reads.lit 38 r) hd rfl (by simp [noGapStart, isCssWs]) skip_amp
  refine ⟨t.stop, t.stop, by rw [ht.stop]; exact RxBasic.drop_succ_of_drop_cons hd, ?_⟩
  rw [ht.loop]
  simp only [ParseDisp.modelAction_keys]
  rfl

end Compile
end Refine
end SoupVerif

#print axioms SoupVerif.Refine.Compile.step_amp
