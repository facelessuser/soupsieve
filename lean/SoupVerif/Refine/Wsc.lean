/-
  The hand scanner `Spelling.skipWSC` (`Spec/Spelling.lean`) computes what the regex-engine model computes on the
  `{WSC}*` of the source, for all subjects and positions: on `Gen.cp_RE_WS` (`{WS}`), `Gen.cp_RE_WS_BEGIN` (`^{WSC}*`),
  `Gen.cp_RE_WS_END` (`{WSC}*$`) and `Gen.tok_pseudo_close` (`{WSC}*\)`, compiled with `re.I`).  A comment has at most
  one run, ending at the first `*/`; with the white-space unit of `Refine/Ws.lean` this makes `WSC` a scanner of texts
  (`wscUnit`; `Scans`, `Lemmas/RxDet.lean`), and the greedy star over it ends first where `skipWSC` stops (`gapEnd`).
-/
import SoupVerif.Refine.Ws
import SoupVerif.Lemmas.Gaps
import SoupVerif.Generated.Regexes
import SoupVerif.Lemmas.RxDet
namespace SoupVerif
namespace Refine
namespace Wsc
open Rx RxBasic Escape Spelling SpellingLemmas

/-- `[^/*][^*]*\*+` -/
def loopBody (ic : Bool) : Rx :=
  .seq [.set true [.ch 47, .ch 42] ic, .rep 0 none true (.notLit 42 ic), .rep 1 none true (.lit 42 ic)]
/-- `COMMENTS = /\*[^*]*\*+(?:[^/*][^*]*\*+)*/` -/
def commentRx (ic : Bool) : Rx :=
  .seq [.lit 47 ic, .lit 42 ic, .rep 0 none true (.notLit 42 ic), .rep 1 none true (.lit 42 ic),
    .rep 0 none true (loopBody ic), .lit 47 ic]
/-- `WSC = (?:WS|COMMENTS)` -/
def wscRx (ic : Bool) : Rx := .alt [wsRx ic, commentRx ic]
/-- `WSC*` -/
def gapRx (ic : Bool) : Rx := .rep 0 none true (wscRx ic)

theorem re_ws_shape : Gen.cp_RE_WS = wsRx false := rfl
theorem re_ws_begin_shape : Gen.cp_RE_WS_BEGIN = .seq [.bos, gapRx false] := rfl
theorem re_ws_end_shape : Gen.cp_RE_WS_END = .seq [gapRx false, .eol] := rfl
theorem pseudo_close_shape : Gen.tok_pseudo_close = .seq [gapRx true, .lit 41 true] := rfl

-- the explicit term, once, so that the parametrised definitions above cannot drift
example : gapRx false = .rep 0 none true (.alt [
    .alt [.set false [.ch 32, .ch 9] false, .alt [.seq [.lit 13 false, .lit 10 false],
      .seq [.look true true (.seq [.lit 13 false, .lit 10 false]), .set false [.ch 10, .ch 12, .ch 13] false]]],
    .seq [.lit 47 false, .lit 42 false, .rep 0 none true (.notLit 42 false), .rep 1 none true (.lit 42 false),
      .rep 0 none true (.seq [.set true [.ch 47, .ch 42] false, .rep 0 none true (.notLit 42 false),
        .rep 1 none true (.lit 42 false)]), .lit 47 false]]) := rfl

/-- The characters of `\*` and of `[^*]` in `COMMENTS`. -/
def isStar (x : Nat) : Bool := x == 42
def notStar (x : Nat) : Bool := !(x == 42)

section
variable {env : CharEnv} (ic : Bool) (hcf : ic = true → CaseFree env) (s : Str)
include hcf

theorem isChar_star : IsChar env s (.lit 42 ic) isStar := isChar_litc ic hcf s (by omega)

theorem isChar_notStar : IsChar env s (.notLit 42 ic) notStar := by
  refine isChar_congr (isChar_notLit env s 42 ic) ?_
  intro x; cases ic
  · rfl
  · show (!(env.fold x == env.fold 42)) = _
    rw [fold_beq (hcf rfl) (by omega) x]; rfl

theorem isChar_notSlashStar : IsChar env s (.set true [.ch 47, .ch 42] ic)
    (fun x => !(x == 47) && !(x == 42)) := by
  refine isChar_congr (isChar_set env s _ _ ic) ?_
  intro x
  simp only [setHas, List.any_cons, List.any_nil, itemHas_ch ic hcf (show 47 < 65 by omega),
    itemHas_ch ic hcf (show 42 < 65 by omega)]
  cases (x == 47) <;> cases (x == 42) <;> rfl

end

/-! ### Where a comment ends: the first `*/` -/

/-- End of the first `*/` in the suffix `t` that starts at absolute position `p`. -/
def cmtEndL : Str → Nat → Option Nat
  | [], _ => none
  | a :: rest, p => if a == 42 && rest.head? == some 47 then some (p + 2) else cmtEndL rest (p + 1)

/-- End of the first `*/` that starts at or after position `p` of `s`. -/
def cmtEnd (s : Str) (p : Nat) : Option Nat := cmtEndL (s.drop p) p

theorem cmtEndL_bounds : ∀ (t : Str) (p e : Nat), cmtEndL t p = some e → p + 2 ≤ e ∧ e ≤ p + t.length
  | [], _, _, h => by simp [cmtEndL] at h
  | a :: rest, p, e, h => by
    rw [cmtEndL] at h
    split at h
    · next hc =>
      cases rest with
      | nil => simp at hc
      | cons b r => simp at h; subst h; simp
    · have := cmtEndL_bounds rest (p + 1) e h
      simp only [List.length_cons]; omega

theorem dropComment_eq : ∀ (t : Str) (p : Nat),
    dropComment t = (cmtEndL t p).map (fun e => t.drop (e - p))
  | [], _ => rfl
  | a :: rest, p => by
    rw [dropComment_cons, cmtEndL]
    split
    · simp only [Option.map_some, show p + 2 - p = 2 by omega]
      cases rest <;> rfl
    · rw [dropComment_eq rest (p + 1)]
      cases h : cmtEndL rest (p + 1) with
      | none => rfl
      | some e =>
        have := (cmtEndL_bounds rest (p + 1) e h).1
        simp only [Option.map_some]
        rw [show e - p = (e - (p + 1)) + 1 by omega, List.drop_succ_cons]

theorem cmtEnd_bounds {s : Str} {p e : Nat} (h : cmtEnd s p = some e) : p + 2 ≤ e ∧ e ≤ s.length := by
  have := cmtEndL_bounds _ _ _ h
  rw [List.length_drop] at this
  have hp : p < s.length := by
    rcases Nat.lt_or_ge p s.length with h' | h'
    · exact h'
    · unfold cmtEnd at h; rw [List.drop_eq_nil_of_le h'] at h; simp [cmtEndL] at h
  omega

theorem dropComment_drop (s : Str) (p : Nat) :
    dropComment (s.drop p) = (cmtEnd s p).map (fun e => s.drop e) := by
  rw [dropComment_eq (s.drop p) p]
  unfold cmtEnd
  cases h : cmtEndL (s.drop p) p with
  | none => rfl
  | some e =>
    have := (cmtEndL_bounds _ _ _ h).1
    simp only [Option.map_some, List.drop_drop]
    congr 2; omega

theorem drop_cons_of {s : Str} {p x : Nat} (h : s[p]? = some x) : s.drop p = x :: s.drop (p + 1) := by
  have hlt := lt_of_getElem?_some h
  rw [List.drop_eq_getElem_cons hlt]
  congr 1
  rw [List.getElem?_eq_getElem hlt] at h; exact Option.some.inj h

theorem cmtEnd_none {s : Str} {p : Nat} (h : s[p]? = none) : cmtEnd s p = none := by
  unfold cmtEnd
  rw [List.drop_eq_nil_of_le (by simpa using h)]; rfl

theorem cmtEnd_step {s : Str} {p x : Nat} (h : s[p]? = some x) :
    cmtEnd s p = if x == 42 && s[p + 1]? == some 47 then some (p + 2) else cmtEnd s (p + 1) := by
  unfold cmtEnd
  rw [drop_cons_of h, cmtEndL, List.head?_drop]

theorem cmtEnd_skip1 {s : Str} {p x : Nat} (h : s[p]? = some x) (hx : x ≠ 42) :
    cmtEnd s p = cmtEnd s (p + 1) := by
  rw [cmtEnd_step h]; simp [hx]

theorem cmtEnd_skip (s : Str) : ∀ (a p : Nat), (∀ n, n < a → ∃ x, s[p + n]? = some x ∧ x ≠ 42) →
    cmtEnd s p = cmtEnd s (p + a)
  | 0, _, _ => rfl
  | a + 1, p, h => by
    obtain ⟨x, hx, hne⟩ := h 0 (by omega)
    rw [Nat.add_zero] at hx
    rw [cmtEnd_skip1 hx hne, cmtEnd_skip s a (p + 1) (fun n hn => by
      obtain ⟨y, hy, hy'⟩ := h (n + 1) (by omega)
      exact ⟨y, by rw [← hy]; congr 1; omega, hy'⟩)]
    congr 1; omega

/-- After a run of stars (at a position that holds no star): `/` closes the comment, anything else
    continues the search. -/
def loopEnd (s : Str) (r : Nat) : Option Nat := if s[r]? = some 47 then some (r + 1) else cmtEnd s r

theorem cmtEnd_stars (s : Str) : ∀ (b q : Nat), (∀ n, n < b + 1 → s[q + n]? = some 42) →
    s[q + (b + 1)]? ≠ some 42 → cmtEnd s q = loopEnd s (q + (b + 1))
  | 0, q, h, _ => by
    have h0 : s[q]? = some 42 := h 0 (by omega)
    rw [cmtEnd_step h0]
    unfold loopEnd
    by_cases h47 : s[q + 1]? = some 47
    · simp [h47]
    · simp [h47]
  | b + 1, q, h, hend => by
    have h0 : s[q]? = some 42 := h 0 (by omega)
    have h1 := h 1 (by omega)
    rw [cmtEnd_step h0, h1]
    simp only [show (some 42 == some 47) = false by decide, Bool.and_false, Bool.false_eq_true, if_false]
    rw [cmtEnd_stars s b (q + 1) (fun n hn => by
      have := h (n + 1) (by omega); rw [← this]; congr 1; omega)
      (by rw [show q + 1 + (b + 1) = q + (b + 1 + 1) by omega]; exact hend)]
    congr 1; omega

theorem star_span {s : Str} {q : Nat} (hq : q ≤ s.length) (hb : 1 ≤ spanLen s isStar q) :
    ∃ b, spanLen s isStar q = b + 1 ∧ q + (b + 1) ≤ s.length ∧
      (∀ n, n < b + 1 → s[q + n]? = some 42) ∧ s[q + (b + 1)]? ≠ some 42 := by
  obtain ⟨b, hb'⟩ : ∃ b, spanLen s isStar q = b + 1 := ⟨spanLen s isStar q - 1, by omega⟩
  refine ⟨b, hb', by rw [← hb']; exact span_le_length hq, ?_, ?_⟩
  · intro n hn
    obtain ⟨y, hy, hPy⟩ := span_inside s isStar n q (by omega)
    rw [hy]; congr 1; simpa [isStar] using hPy
  · intro he
    have := span_end s isStar (b + 1) q hb' 42 he
    simp [isStar] at this

section
variable {env : CharEnv} (ic : Bool) (hcf : ic = true → CaseFree env) (s : Str)
include hcf

theorem stars_runs (j : Nat) (caps : Caps) :
    runs env s (.rep 1 none true (.lit 42 ic)) j caps = down caps (j + 1) (j + spanLen s isStar j) := by
  rw [runs_rep_char (isChar_star ic hcf s)]; rfl

/-- `[^/*][^*]*\*+`: one character that is neither `/` nor `*`, the non-stars after it, then every
    non-empty part of the run of stars that follows (longest first). -/
theorem loopBody_runs (r : Nat) (caps : Caps) :
    runs env s (loopBody ic) r caps =
      match s[r]? with
      | some x =>
        if (!(x == 47) && !(x == 42)) = true then
          down caps (r + 1 + spanLen s notStar (r + 1) + 1)
            (r + 1 + spanLen s notStar (r + 1) + spanLen s isStar (r + 1 + spanLen s notStar (r + 1)))
        else []
      | none => [] := by
  unfold loopBody
  rw [runs_seq, runsSeq_char (isChar_notSlashStar ic hcf s)]
  cases hx : s[r]? with
  | none => rfl
  | some x =>
    simp only
    split
    · rw [runsSeq_rep_char_cut (isChar_notStar ic hcf s) 0 _ (r + 1) caps, if_pos (Nat.zero_le _),
        runsSeq_single, stars_runs _ hcf]
      intro j y hy hny
      rw [runsSeq_single, stars_runs _ hcf,
        spanLen_of_not hy (by simpa [isStar, notStar] using hny), down_empty caps (by omega)]
    · rfl

theorem slash_runs (j : Nat) (c : Caps) :
    runsSeq env s [.lit 47 ic] j c =
      match s[j]? with
      | some x => if (x == 47) = true then [(j + 1, c)] else []
      | none => [] := by
  rw [runsSeq_char (isChar_litc ic hcf s (show 47 < 65 by omega))]
  simp only [runsSeq_nil]
  cases s[j]? <;> rfl

theorem loop_at_star {j : Nat} (h : s[j]? = some 42) (f count : Nat) (caps : Caps) :
    iter (fun p c => runs env s (loopBody ic) p c) 0 none true (f + 1) count j caps = [(j, caps)] := by
  rw [iter_star_succ, loopBody_runs _ hcf, h]; rfl

/-- `(?:[^/*][^*]*\*+)*/` started right after a run of stars: exactly one way, to the first `*/`. -/
theorem loop_runs : ∀ (fuel count r : Nat) (caps : Caps), s.length - r + 1 ≤ fuel → r ≤ s.length →
    s[r]? ≠ some 42 →
    (iter (fun p c => runs env s (loopBody ic) p c) 0 none true fuel count r caps).flatMap
        (fun x => runsSeq env s [.lit 47 ic] x.1 x.2) = one (loopEnd s r) caps := by
  intro fuel
  induction fuel with
  | zero => intro _ _ _ hf; omega
  | succ fuel ih =>
    intro count r caps hf hr hns
    rw [iter_star_succ, List.flatMap_append, List.flatMap_assoc]
    simp only [List.flatMap_cons, List.flatMap_nil, List.append_nil]
    unfold loopEnd
    cases hx : s[r]? with
    | none =>
      rw [loopBody_runs _ hcf, hx, slash_runs _ hcf, hx, cmtEnd_none hx]; rfl
    | some x =>
      by_cases h47 : x = 47
      · subst h47
        rw [loopBody_runs _ hcf, hx, slash_runs _ hcf, hx]; rfl
      · have h42 : x ≠ 42 := by intro e; subst e; exact hns hx
        have hlt := lt_of_getElem?_some hx
        have hcond : (!(x == 47) && !(x == 42)) = true := by simp [h47, h42]
        rw [loopBody_runs _ hcf, hx, slash_runs _ hcf, hx]
        simp only
        rw [if_pos hcond, if_neg (by simpa using h47), if_neg (by simpa using h47), List.append_nil]
        generalize hq : r + 1 + spanLen s notStar (r + 1) = q
        have hqle : q ≤ s.length := by
          rw [← hq]; exact span_le_length (by omega)
        have hskip : cmtEnd s r = cmtEnd s q := by
          rw [cmtEnd_skip1 hx h42, ← hq]
          apply cmtEnd_skip
          intro n hn
          obtain ⟨y, hy, hPy⟩ := span_inside s notStar n (r + 1) hn
          exact ⟨y, hy, by simpa [notStar] using hPy⟩
        rw [hskip]
        rcases Nat.eq_zero_or_pos (spanLen s isStar q) with hb | hb
        · -- no star: the end of the input
          rw [hb, down_empty caps (by omega)]
          have hnone : s[q]? = none := by
            cases hy : s[q]? with
            | none => rfl
            | some y =>
              exfalso
              have hny := span_end s notStar _ (r + 1) rfl y (by rw [hq]; exact hy)
              have : isStar y = true := by simpa [isStar, notStar] using hny
              have := spanLen_pos hy this
              omega
          rw [cmtEnd_none hnone]; rfl
        · obtain ⟨b, hb', hrle, hstar, hend⟩ := star_span hqle hb
          rw [cmtEnd_stars s b q hstar hend, hb']
          obtain ⟨fuel', rfl⟩ : ∃ f, fuel = f + 1 := ⟨fuel - 1, by omega⟩
          rw [show q + (b + 1) = q + 1 + b by omega, flatMap_down_cut caps _ b (q + 1)]
          · simp only [show q + 1 + b > r by omega, if_true]
            exact ih (count + 1) (q + 1 + b) caps (by omega) (by omega)
              (by rw [show q + 1 + b = q + (b + 1) by omega]; exact hend)
          · intro j hj1 hj2
            have hj : s[j]? = some 42 := by
              have := hstar (j - q) (by omega)
              rwa [show q + (j - q) = j by omega] at this
            simp only [show j > r by omega, if_true]
            rw [loop_at_star ic hcf s hj]
            simp only [List.flatMap_cons, List.flatMap_nil, List.append_nil]
            rw [slash_runs _ hcf, hj]; rfl

/-- `\*+(?:[^/*][^*]*\*+)*/` from a position: the stars are taken greedily and never given back. -/
theorem comment_tail_runs (q : Nat) (caps : Caps) (hq : q ≤ s.length) (hstar : s[q]? = some 42) :
    runsSeq env s [.rep 1 none true (.lit 42 ic), .rep 0 none true (loopBody ic), .lit 47 ic] q caps =
      one (cmtEnd s q) caps := by
  rw [runsSeq_rep_char_cut (isChar_star ic hcf s) 1 _ q caps]
  · have hb := spanLen_pos (P := isStar) hstar rfl
    obtain ⟨b, hb', hrle, hst, hend⟩ := star_span hq hb
    rw [if_pos hb, hb', cmtEnd_stars s b q hst hend, runsSeq_cons, runs]
    exact loop_runs ic hcf s _ 0 _ caps (by omega) hrle hend
  · intro j x hx hsx
    have hj : s[j]? = some 42 := by rw [hx]; congr 1; simpa [isStar] using hsx
    rw [runsSeq_cons, runs, show s.length - j + 0 + 2 = (s.length - j + 1) + 1 by omega,
      loop_at_star ic hcf s hj]
    simp only [List.flatMap_cons, List.flatMap_nil, List.append_nil]
    rw [slash_runs _ hcf, hj]; rfl

/-- `[^*]*\*+(?:[^/*][^*]*\*+)*/` (the comment after its `/*`): exactly one way, to the first `*/`. -/
theorem comment_body_runs (p : Nat) (caps : Caps) (hp : p ≤ s.length) :
    runsSeq env s [.rep 0 none true (.notLit 42 ic), .rep 1 none true (.lit 42 ic),
        .rep 0 none true (loopBody ic), .lit 47 ic] p caps = one (cmtEnd s p) caps := by
  rw [runsSeq_rep_char_cut (isChar_notStar ic hcf s) 0 _ p caps, if_pos (Nat.zero_le _)]
  · have hskip : cmtEnd s p = cmtEnd s (p + spanLen s notStar p) := by
      apply cmtEnd_skip
      intro n hn
      obtain ⟨y, hy, hPy⟩ := span_inside s notStar n p hn
      exact ⟨y, hy, by simpa [notStar] using hPy⟩
    rw [hskip]
    cases hy : s[p + spanLen s notStar p]? with
    | none =>
      rw [cmtEnd_none hy, runsSeq_cons, stars_runs _ hcf, spanLen_of_none hy, down_empty caps (by omega)]
      rfl
    | some y =>
      have hny := span_end s notStar _ p rfl y hy
      have hy42 : y = 42 := by simpa [notStar] using hny
      subst hy42
      exact comment_tail_runs ic hcf s _ caps (span_le_length hp) hy
  · intro j y hy hny
    rw [runsSeq_cons, stars_runs _ hcf,
      spanLen_of_not hy (by simpa [isStar, notStar] using hny), down_empty caps (by omega)]
    rfl

/-- Where the comment that starts at `i` ends. -/
def commentEnd (s : Str) (i : Nat) : Option Nat :=
  if s[i]? = some 47 ∧ s[i + 1]? = some 42 then cmtEnd s (i + 2) else none

/-- `COMMENTS`: at most one run, from `/*` to the first `*/` after it. -/
theorem comment_runs (i : Nat) (caps : Caps) :
    runs env s (commentRx ic) i caps = one (commentEnd s i) caps := by
  unfold commentRx commentEnd
  rw [runs_seq, runsSeq_char (isChar_litc ic hcf s (show 47 < 65 by omega))]
  cases h0 : s[i]? with
  | none => simp [one]
  | some x =>
    by_cases hx : x = 47
    · subst hx
      simp only [beq_self_eq_true, if_true, true_and]
      rw [runsSeq_char (isChar_litc ic hcf s (show 42 < 65 by omega))]
      cases h1 : s[i + 1]? with
      | none => simp [one]
      | some y =>
        by_cases hy : y = 42
        · subst hy
          simp only [beq_self_eq_true, if_true]
          exact comment_body_runs ic hcf s (i + 1 + 1) caps (by have := lt_of_getElem?_some h1; omega)
        · simp [hy, one]
    · simp [hx, one]

/-- Where the `WS` unit that starts at `i` ends: CRLF is one unit. -/
def wsEnd (s : Str) (i : Nat) : Option Nat :=
  match s[i]? with
  | some x =>
    if isCssWs x then (if x = 13 ∧ s[i + 1]? = some 10 then some (i + 2) else some (i + 1)) else none
  | none => none

omit hcf in
theorem wsEnd_eq (s : Str) (i : Nat) :
    wsEnd s i = if wsLen (s.drop i) = 0 then none else some (i + wsLen (s.drop i)) := by
  unfold wsEnd
  cases h0 : s[i]? with
  | none => rw [List.drop_eq_nil_of_le (by simpa using h0)]; rfl
  | some x =>
    rw [drop_cons_of h0]
    simp only [wsLen, List.head?_drop]
    by_cases hc : x = 13 ∧ s[i + 1]? = some 10
    · obtain ⟨rfl, h1⟩ := hc
      simp [h1, isCssWs]
    · have hb := crlf_beq_false hc
      simp only [hc, hb, if_false, Bool.false_eq_true]
      cases isCssWs x <;> simp

theorem ws_runs (s : Str) (i : Nat) (caps : Caps) :
    runs env s (wsRx ic) i caps = one (wsEnd s i) caps := by
  rw [(scans_ws ic hcf).runs, wsEnd_eq]; unfold atDrop wsUnit
  split <;> rfl

/-- Where the `WSC` unit that starts at `i` ends. -/
def unitEnd (s : Str) (i : Nat) : Option Nat :=
  match wsEnd s i with
  | some e => some e
  | none => commentEnd s i

theorem wsc_runs (i : Nat) (caps : Caps) :
    runs env s (wscRx ic) i caps = one (unitEnd s i) caps := by
  unfold wscRx unitEnd
  rw [runs_alt, runsAlt_cons, runsAlt_cons, runsAlt_nil, ws_runs _ hcf, comment_runs _ hcf, List.append_nil]
  cases h : wsEnd s i with
  | none => rfl
  | some e =>
    have : s[i]? ≠ some 47 := by
      intro h47
      unfold wsEnd at h
      rw [h47] at h
      simp [isCssWs] at h
    unfold commentEnd
    rw [if_neg (fun hc => this hc.1)]; rfl

end

theorem unitEnd_cases {s : Str} {p q : Nat} (h : unitEnd s p = some q) :
    (0 < wsLen (s.drop p) ∧ q = p + wsLen (s.drop p)) ∨
      (s[p]? = some 47 ∧ s[p + 1]? = some 42 ∧ cmtEnd s (p + 2) = some q) := by
  unfold unitEnd at h
  rw [wsEnd_eq] at h
  by_cases hw : wsLen (s.drop p) = 0
  · rw [if_pos hw] at h
    change commentEnd s p = some q at h
    unfold commentEnd at h
    by_cases hc : s[p]? = some 47 ∧ s[p + 1]? = some 42
    · rw [if_pos hc] at h; exact .inr ⟨hc.1, hc.2, h⟩
    · rw [if_neg hc] at h; cases h
  · rw [if_neg hw] at h
    change some (p + wsLen (s.drop p)) = some q at h
    cases h; exact .inl ⟨by omega, rfl⟩

theorem unitEnd_bounds {s : Str} {p q : Nat} (h : unitEnd s p = some q) : p < q ∧ q ≤ s.length := by
  rcases unitEnd_cases h with ⟨h1, rfl⟩ | ⟨_, _, h3⟩
  · have := EscapeLemmas.wsLen_le (s.drop p)
    rw [List.length_drop] at this
    omega
  · have := cmtEnd_bounds h3; omega

theorem skip_unit {s : Str} {p q : Nat} (h : unitEnd s p = some q) :
    skipWSC (s.drop p) = skipWSC (s.drop q) := by
  rcases unitEnd_cases h with ⟨_, rfl⟩ | ⟨h0, h1, h3⟩
  · rw [← List.drop_drop, skipWSC_drop_wsLen]
  · rw [drop_cons_of h0, drop_cons_of h1]
    apply skipWSC_comment
    rw [dropComment_drop, h3]; rfl

theorem skip_none {s : Str} {p : Nat} (h : unitEnd s p = none) : skipWSC (s.drop p) = s.drop p := by
  unfold unitEnd at h
  cases hw : wsEnd s p with
  | some e => rw [hw] at h; cases h
  | none =>
    rw [hw] at h
    cases h0 : s[p]? with
    | none => rw [List.drop_eq_nil_of_le (by simpa using h0)]; rfl
    | some x =>
      have hnws : isCssWs x = false := by
        unfold wsEnd at hw
        rw [h0] at hw
        simp only at hw
        cases hx : isCssWs x with
        | false => rfl
        | true => rw [hx] at hw; simp only [if_true] at hw; split at hw <;> cases hw
      rw [drop_cons_of h0]
      by_cases hc : x = 47 ∧ s[p + 1]? = some 42
      · obtain ⟨rfl, h1⟩ := hc
        rw [drop_cons_of h1]
        apply skipWSC_open
        rw [dropComment_drop]
        simp only [commentEnd, h0, h1, and_self, if_true] at h
        rw [h]; rfl
      · apply skipWSC_other x _ hnws
        rw [List.head?_drop]
        cases hx : (x == 47) with
        | false => rfl
        | true =>
          have hx' : x = 47 := by simpa using hx
          have : s[p + 1]? ≠ some 42 := fun e => hc ⟨hx', e⟩
          simp [this]

/-! ### The `WSC` unit as a scanner of texts -/

/-- The comment at the head of a text: its length. -/
def cmtUnit : Str → Option Nat
  | a :: b :: r => if (a == 47 && b == 42) = true then cmtEndL r 2 else none
  | _ => none

/-- The `WSC` unit at the head of a text: its length. -/
def wscUnit (t : Str) : Option Nat := (wsUnit t).orElse fun _ => cmtUnit t

theorem cmtEndL_shift : ∀ (t : Str) (p : Nat), cmtEndL t p = (cmtEndL t 0).map (p + ·)
  | [], _ => rfl
  | a :: rest, p => by
    rw [cmtEndL, cmtEndL]
    split
    · rfl
    · rw [cmtEndL_shift rest (p + 1), cmtEndL_shift rest (0 + 1), Option.map_map]
      congr 1; funext n; show p + 1 + n = p + (0 + 1 + n); omega

theorem commentEnd_eq (s : Str) (i : Nat) : commentEnd s i = atDrop cmtUnit s i := by
  unfold commentEnd atDrop
  cases h0 : s[i]? with
  | none => rw [List.drop_eq_nil_of_le (by simpa using h0), if_neg (fun h => by cases h.1)]; rfl
  | some a =>
    rw [drop_cons_of h0]
    cases h1 : s[i + 1]? with
    | none => rw [List.drop_eq_nil_of_le (by simpa using h1), if_neg (fun h => by cases h.2)]; rfl
    | some b =>
      rw [drop_cons_of h1, cmtUnit]
      by_cases hc : a = 47 ∧ b = 42
      · obtain ⟨rfl, rfl⟩ := hc
        rw [if_pos ⟨rfl, rfl⟩, if_pos (show (47 == 47 && 42 == 42) = true from rfl), cmtEnd,
          cmtEndL_shift _ (i + 2), cmtEndL_shift _ 2, Option.map_map]
        congr 1; funext n; show i + 2 + n = i + (2 + n); omega
      · rw [if_neg (fun h => hc ⟨Option.some.inj h.1, Option.some.inj h.2⟩), if_neg]
        · rfl
        · intro h
          rw [Bool.and_eq_true, beq_iff_eq, beq_iff_eq] at h
          exact hc h

theorem cmtUnit_some {t : Str} {n : Nat} (h : cmtUnit t = some n) :
    ∃ r, t = 47 :: 42 :: r ∧ cmtEndL r 2 = some n := by
  match t, h with
  | [], h => cases h
  | [_], h => cases h
  | a :: b :: r, h =>
    rw [cmtUnit] at h
    by_cases hc : (a == 47 && b == 42) = true
    · rw [if_pos hc] at h
      simp only [Bool.and_eq_true, beq_iff_eq] at hc
      exact ⟨r, by rw [hc.1, hc.2], h⟩
    · rw [if_neg hc] at h; cases h

theorem cmtUnit_pos (t : Str) : cmtUnit t ≠ some 0 := fun h => by
  obtain ⟨r, _, hr⟩ := cmtUnit_some h
  have := (cmtEndL_bounds r 2 0 hr).1; omega

theorem scans_cmt {env : CharEnv} (ic : Bool) (hcf : ic = true → CaseFree env) : Scans env (commentRx ic) cmtUnit where
  le t n h := by
    obtain ⟨r, rfl, hr⟩ := cmtUnit_some h
    have := (cmtEndL_bounds r 2 n hr).2
    simp only [List.length_cons]; omega
  runs s p c := by rw [comment_runs ic hcf, commentEnd_eq]

theorem unitEnd_eq (s : Str) (i : Nat) : unitEnd s i = atDrop wscUnit s i := by
  unfold unitEnd
  rw [wsEnd_eq, commentEnd_eq]
  unfold atDrop wscUnit wsUnit
  by_cases hw : wsLen (s.drop i) = 0
  · rw [if_pos hw, if_pos hw]; rfl
  · rw [if_neg hw, if_neg hw]; rfl

theorem wscUnit_bounds {t : Str} {n : Nat} (h : wscUnit t = some n) : 0 < n ∧ n ≤ t.length := by
  have := unitEnd_bounds (s := t) (p := 0) (q := 0 + n) (by rw [unitEnd_eq, atDrop, List.drop_zero, h]; rfl)
  omega

theorem wscUnit_pos (t : Str) : wscUnit t ≠ some 0 := fun h => Nat.lt_irrefl 0 (wscUnit_bounds h).1

/-- What the star over `WSC` takes is what `skipWSC` skips. -/
theorem unitsLen_wsc (t : Str) : unitsLen wscUnit t = t.length - (skipWSC t).length :=
  unitsLen_eq (fun _ _ => wscUnit_bounds) (fun t => t.length - (skipWSC t).length) (fun t => by
    have he := unitEnd_eq t 0
    rw [atDrop, List.drop_zero] at he
    cases hu : wscUnit t with
    | none =>
      rw [hu] at he
      have := skip_none he
      rw [List.drop_zero] at this
      rw [this]; exact Nat.sub_self _
    | some n =>
      rw [hu] at he
      have hs := skip_unit (q := 0 + n) he
      rw [List.drop_zero, Nat.zero_add] at hs
      have hb := wscUnit_bounds hu
      have hl := skipWSC_length_le (t.drop n)
      rw [List.length_drop] at hl
      show t.length - (skipWSC t).length = n + ((t.drop n).length - (skipWSC (t.drop n)).length)
      rw [hs, List.length_drop]; omega) t

theorem scans_wsc {env : CharEnv} (ic : Bool) (hcf : ic = true → CaseFree env) : Scans env (wscRx ic) wscUnit :=
  ⟨fun _ _ h => (wscUnit_bounds h).2, fun s p c => by rw [wsc_runs ic hcf, unitEnd_eq]⟩

/-- The end of the maximal gap. -/
def gapEnd (s : Str) (i : Nat) : Nat := s.length - (skipWSC (s.drop i)).length

theorem gapEnd_drop (s : Str) (i : Nat) (_hi : i ≤ s.length) : s.drop (gapEnd s i) = skipWSC (s.drop i) := by
  obtain ⟨g, _, hs⟩ := skipWSC_prefix (s.drop i)
  have hsplit : s = (s.take i ++ g) ++ skipWSC (s.drop i) := by
    rw [List.append_assoc, ← hs, List.take_append_drop]
  have hlen : gapEnd s i = (s.take i ++ g).length := by
    have := congrArg List.length hsplit
    rw [List.length_append] at this
    unfold gapEnd; omega
  have h2 : ((s.take i ++ g) ++ skipWSC (s.drop i)).drop (s.take i ++ g).length = skipWSC (s.drop i) :=
    List.drop_left' rfl
  rw [← hsplit] at h2
  rw [hlen]; exact h2

/-- The runs of `WSC*` from `i`: first the end of the maximal gap (what `skipWSC` leaves starts
    there), then only positions before it at which a further unit starts. -/
theorem gap_runs {env : CharEnv} (ic : Bool) (hcf : ic = true → CaseFree env) (s : Str) (i : Nat)
    (hi : i ≤ s.length) (caps : Caps) :
    s.drop (gapEnd s i) = skipWSC (s.drop i) ∧ i ≤ gapEnd s i ∧ gapEnd s i ≤ s.length ∧
    unitEnd s (gapEnd s i) = none ∧
    ∃ rest, runs env s (gapRx ic) i caps = (gapEnd s i, caps) :: rest ∧
      ∀ x ∈ rest, x.2 = caps ∧ x.1 < gapEnd s i ∧ (unitEnd s x.1).isSome = true := by
  obtain ⟨hstop, rest, h1, h2⟩ := unitEnds_cut (fun _ _ => wscUnit_bounds) (s.drop i)
  have hle := unitsLen_le wscUnit (s.drop i)
  have hl := skipWSC_length_le (s.drop i)
  rw [List.length_drop] at hle hl
  have hg : gapEnd s i = i + unitsLen wscUnit (s.drop i) := by
    rw [unitsLen_wsc, List.length_drop, gapEnd]; omega
  rw [hg]
  refine ⟨by rw [← hg]; exact gapEnd_drop s i hi, Nat.le_add_right _ _, by omega,
    by rw [unitEnd_eq, atDrop, ← List.drop_drop, hstop]; rfl,
    rest.map (fun n => (i + n, caps)), ?_, ?_⟩
  · rw [show gapRx ic = .rep 0 none true (wscRx ic) from rfl, (scans_wsc ic hcf).runs_star wscUnit_pos, h1]; rfl
  · intro x hx
    obtain ⟨m, hm, rfl⟩ := List.mem_map.1 hx
    refine ⟨rfl, Nat.add_lt_add_left (h2 m hm).1 i, ?_⟩
    rw [unitEnd_eq, atDrop, ← List.drop_drop]
    have := (h2 m hm).2
    cases hu : wscUnit ((s.drop i).drop m) with
    | none => rw [hu] at this; cases this
    | some _ => rfl

theorem gap_matchAt {env : CharEnv} (ic : Bool) (hcf : ic = true → CaseFree env) (s : Str) (i : Nat)
    (hi : i ≤ s.length) : matchAt env (gapRx ic) s i = some (gapEnd s i, []) := by
  obtain ⟨_, _, _, _, rest, h, _⟩ := gap_runs ic hcf s i hi []
  unfold matchAt; rw [h]; rfl

/-- `WSC*` followed by a continuation `k` that fails wherever a unit starts: the star gives nothing
    back. -/
theorem gap_then {env : CharEnv} (ic : Bool) (hcf : ic = true → CaseFree env) (s : Str) (i : Nat)
    (hi : i ≤ s.length) (caps : Caps) (rs : List Rx)
    (hk : ∀ j c, (unitEnd s j).isSome = true → runsSeq env s rs j c = []) :
    runsSeq env s (gapRx ic :: rs) i caps = runsSeq env s rs (gapEnd s i) caps := by
  have hl := skipWSC_length_le (s.drop i)
  rw [List.length_drop] at hl
  rw [show gapRx ic = .rep 0 none true (wscRx ic) from rfl,
    (scans_wsc ic hcf).star_then wscUnit_pos s rs
      (fun j c hj => hk j c (by rw [unitEnd_eq, atDrop]; simpa using hj)) i caps,
    unitsLen_wsc, List.length_drop, gapEnd]
  congr 1; omega

/-- `RE_WS_BEGIN = ^{WSC}*` (no case-insensitive part: any environment). At 0 it matches the maximal
    gap at the head of `s`; elsewhere it does not match. -/
theorem ws_begin_at (env : CharEnv) (s : Str) (i : Nat) (hi : i ≤ s.length) :
    matchAt env Gen.cp_RE_WS_BEGIN s i = if i = 0 then some (gapEnd s 0, []) else none := by
  rw [re_ws_begin_shape]
  unfold matchAt
  rw [runs_seq, runsSeq_cons, runs_bos]
  by_cases h0 : i = 0
  · subst h0
    simp only [if_true, List.flatMap_cons, List.flatMap_nil, List.append_nil, runsSeq_single]
    exact gap_matchAt false (fun h => by cases h) s 0 hi
  · simp [h0]

theorem ws_begin (env : CharEnv) (s : Str) :
    (matchAt env Gen.cp_RE_WS_BEGIN s 0).map (·.1) = some (s.length - (skipWSC s).length) := by
  rw [ws_begin_at env s 0 (Nat.zero_le _)]
  simp [gapEnd]

/-- The model's `Parser.startIndex` reads `(RE_WS_BEGIN.match(pattern)).end()`: the text from there on is
    `skipWSC pattern`. -/
theorem ws_begin_drop (env : CharEnv) (s : Str) :
    ∃ j, matchAt env Gen.cp_RE_WS_BEGIN s 0 = some (j, []) ∧ s.drop j = skipWSC s := by
  refine ⟨gapEnd s 0, by rw [ws_begin_at env s 0 (Nat.zero_le _)]; rfl, ?_⟩
  have := gapEnd_drop s 0 (Nat.zero_le _)
  rwa [List.drop_zero] at this

theorem unitEnd_some_not_paren {s : Str} {j : Nat} (h : (unitEnd s j).isSome = true) : s[j]? ≠ some 41 := by
  intro h41
  unfold unitEnd wsEnd commentEnd at h
  rw [h41] at h
  simp [isCssWs] at h

/-- `pseudo_close = {WSC}*\)` (compiled with re.I): matches iff what `skipWSC` leaves begins with `)`;
    the match ends right after that `)`; no group is set. -/
theorem pseudo_close_at {env : CharEnv} (hcf : CaseFree env) (s : Str) (i : Nat) (hi : i ≤ s.length) :
    matchAt env Gen.tok_pseudo_close s i =
      if (skipWSC (s.drop i)).head? = some 41 then some (gapEnd s i + 1, []) else none := by
  rw [pseudo_close_shape]
  unfold matchAt
  rw [runs_seq, gap_then true (fun _ => hcf) s i hi [] [.lit 41 true]]
  · rw [runsSeq_char (isChar_litc true (fun _ => hcf) s (show 41 < 65 by omega)), runsSeq_nil,
      ← gapEnd_drop s i hi, List.head?_drop]
    cases h : s[gapEnd s i]? with
    | none => simp
    | some x =>
      by_cases hx : x = 41
      · subst hx; simp
      · simp [hx]
  · intro j c hj
    have := unitEnd_some_not_paren hj
    rw [runsSeq_char (isChar_litc true (fun _ => hcf) s (show 41 < 65 by omega))]
    cases h : s[j]? with
    | none => rfl
    | some x =>
      have hx : x ≠ 41 := by intro e; subst e; exact this h
      simp [hx]

theorem pseudo_close {env : CharEnv} (hcf : CaseFree env) (s : Str) (i : Nat) (hi : i ≤ s.length) :
    (matchAt env Gen.tok_pseudo_close s i).map (·.1) =
      (if (skipWSC (s.drop i)).head? = some 41 then
        some (s.length - (skipWSC (s.drop i)).length + 1) else none) := by
  rw [pseudo_close_at hcf s i hi]
  split <;> rfl

/-- `RE_WS_END = {WSC}*$` (any environment): matches at `i` iff the rest of `s` is a gap; the match
    then ends at the end of `s`.  (`$` also holds before a final `\n`, but that `\n` is itself a
    unit of the gap, so this adds nothing.) -/
theorem ws_end_at (env : CharEnv) (s : Str) (i : Nat) (hi : i ≤ s.length) :
    matchAt env Gen.cp_RE_WS_END s i = if skipWSC (s.drop i) = [] then some (s.length, []) else none := by
  rw [re_ws_end_shape]
  unfold matchAt
  obtain ⟨hd, h1, h2, h3, rest, h4, h5⟩ := gap_runs (env := env) false (fun h => by cases h) s i hi []
  rw [runs_seq, runsSeq_cons, h4, List.flatMap_cons]
  simp only [runsSeq_single]
  by_cases hg : skipWSC (s.drop i) = []
  · have he : gapEnd s i = s.length := by unfold gapEnd; rw [hg]; rfl
    rw [if_pos hg, he, runs]
    simp
  · rw [if_neg hg]
    have hlt : gapEnd s i < s.length := by
      rcases Nat.lt_or_ge (gapEnd s i) s.length with h | h
      · exact h
      · exfalso; apply hg; rw [← hd, List.drop_eq_nil_of_le h]
    -- `$` fails at every boundary: before the last one a unit starts at a position that is not the
    -- last character, and the last one is followed by something that is not a lone final `\n`
    have hfail : ∀ j c, j ≤ gapEnd s i → (j < gapEnd s i → (unitEnd s j).isSome = true) →
        runs env s .eol j c = [] := by
      intro j c hj hu
      rw [runs]
      have hne : ¬ (j = s.length) := by omega
      by_cases hl : j + 1 = s.length ∧ s[j]? = some 10
      · exfalso
        have hje : j = gapEnd s i := by omega
        have : unitEnd s j = some (j + 1) := by
          unfold unitEnd wsEnd; rw [hl.2]; simp [isCssWs]
        rw [hje, h3] at this; cases this
      · have : (j == s.length || (j + 1 == s.length && s[j]? == some 10)) = false := by
          rw [Bool.or_eq_false_iff]
          refine ⟨by simpa using hne, ?_⟩
          by_cases ha : j + 1 = s.length
          · have : s[j]? ≠ some 10 := fun e => hl ⟨ha, e⟩
            simp [this]
          · simp [ha]
        rw [this]; rfl
    rw [hfail _ _ (Nat.le_refl _) (fun h => absurd h (Nat.lt_irrefl _)), List.nil_append]
    have : rest.flatMap (fun x => runs env s .eol x.1 x.2) = [] := by
      rw [List.flatMap_eq_nil_iff]
      intro x hx
      obtain ⟨_, hx2, hx3⟩ := h5 x hx
      exact hfail x.1 x.2 (by omega) (fun _ => hx3)
    rw [this]; rfl

/-- What `Parser.nextToken` tests. -/
theorem ws_end_isSome (env : CharEnv) (s : Str) (i : Nat) (hi : i ≤ s.length) :
    (matchAt env Gen.cp_RE_WS_END s i).isSome = (skipWSC (s.drop i) == []) := by
  rw [ws_end_at env s i hi]
  by_cases hg : skipWSC (s.drop i) = []
  · rw [if_pos hg, hg]; rfl
  · rw [if_neg hg]; simp [hg]

/-- `RE_WS = {WS}` (any environment): one whitespace unit, CRLF counting as one. -/
theorem re_ws_at (env : CharEnv) (s : Str) (i : Nat) :
    matchAt env Gen.cp_RE_WS s i = (wsEnd s i).map (fun e => (e, [])) := by
  rw [re_ws_shape]
  unfold matchAt
  rw [ws_runs false (fun h => by cases h) s i []]
  cases wsEnd s i <;> rfl

theorem wsEnd_isSome (s : Str) (i : Nat) :
    (wsEnd s i).isSome = match s[i]? with | some x => isCssWs x | none => false := by
  unfold wsEnd
  cases s[i]? with
  | none => rfl
  | some x =>
    simp only
    cases isCssWs x
    · rfl
    · simp only [if_true]; split <;> rfl

theorem re_ws_searchFrom (env : CharEnv) (s : Str) : ∀ (fuel i : Nat), s.length - i + 1 ≤ fuel →
    (searchFrom env Gen.cp_RE_WS s fuel i).isSome = (s.drop i).any isCssWs := by
  intro fuel
  induction fuel with
  | zero => intro _ hf; omega
  | succ fuel ih =>
    intro i hf
    rw [searchFrom, re_ws_at]
    have hsome := wsEnd_isSome s i
    cases h0 : s[i]? with
    | none =>
      rw [h0] at hsome
      have hnone : wsEnd s i = none := by
        cases hw : wsEnd s i with
        | none => rfl
        | some e => rw [hw] at hsome; cases hsome
      have hge : s.length ≤ i := by simpa using h0
      rw [hnone, List.drop_eq_nil_of_le hge]
      simp only [Option.map_none, show ¬ i < s.length by omega, if_false]
      rfl
    | some x =>
      have hsome' : (wsEnd s i).isSome = isCssWs x := by rw [hsome, h0]
      have hlt := lt_of_getElem?_some h0
      rw [drop_cons_of h0, List.any_cons, ← hsome']
      cases hw : wsEnd s i with
      | some e => rfl
      | none =>
        simp only [Option.map_none, hlt, if_true]
        rw [ih (i + 1) (by omega)]; rfl

/-- `RE_WS.search(value) is not None` (what `Parser` tests on an attribute value): `value` contains a
    CSS whitespace character. -/
theorem re_ws_search (env : CharEnv) (s : Str) :
    (search env Gen.cp_RE_WS s).isSome = s.any isCssWs := by
  unfold search
  rw [re_ws_searchFrom env s _ 0 (by omega), List.drop_zero]

#print axioms caseFree_ascii
#print axioms caseFree_pyFold
#print axioms gap_runs
#print axioms gap_matchAt
#print axioms ws_begin_at
#print axioms ws_begin
#print axioms ws_begin_drop
#print axioms pseudo_close_at
#print axioms pseudo_close
#print axioms ws_end_at
#print axioms ws_end_isSome
#print axioms re_ws_at
#print axioms re_ws_search

end Wsc
end Refine
end SoupVerif
