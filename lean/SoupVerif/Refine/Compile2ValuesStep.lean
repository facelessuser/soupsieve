/-
  `Parser.parseValues` (= `RE_VALUES.finditer` + `css_unescape`, run by the engine on the regenerated
  `Gen.cp_RE_VALUES`) on the text of a spelled value list, and what the parser loop does at `:lang(…)` and
  at the `contains` family.
-/
import SoupVerif.Refine.Compile2Values
import SoupVerif.Lemmas.StrLit
import SoupVerif.Lemmas.ParserProgress.Dispatch
namespace SoupVerif
namespace Refine
namespace Compile
open Rx RxBasic SoupVerif.Parser ParserProgress Escape Spelling
open Wsc (gapRx unitEnd wsEnd commentEnd gapEnd)
open Ident (rxHead rxStar contStep contLen IdentFold)
open C09Compile (SValue identOK)

section
variable (s : Str)

theorem value_nil_of_head {i : Nat} (c : Caps) (h : ∀ x, s[i]? = some x → isCssWs x = true ∨ x = 47 ∨ x = 44) :
    runs pyFoldEnv s rxValue i c = [] := by
  apply value_runs_nil
  · constructor <;>
    · intro e
      rcases h _ e with h | h | h
      · simp [isCssWs] at h
      · omega
      · omega
  · cases hx : s[i]? with
    | none =>
      rw [List.drop_eq_nil_of_le (by
        rcases Nat.lt_or_ge i s.length with hl | hl
        · rw [List.getElem?_eq_getElem hl] at hx; cases hx
        · exact hl)]
      rfl
    | some x =>
      rw [Wsc.drop_cons_of hx]
      apply scanIdent_none_of_head
      intro c hc
      simp only [List.head?_cons, Option.mem_def, Option.some.injEq] at hc
      subst hc
      rcases h _ hx with h | h | h
      · simp only [isCssWs, Bool.or_eq_true, beq_iff_eq] at h
        rcases h with (((e | e) | e) | e) | e <;> subst e <;> rfl
      · subst h; rfl
      · subst h; rfl

/-- `RE_VALUES` on a value: group 1. -/
theorem re_values_value {v : SValue} {T : Str} (hv : v.ok T) :
    Reads pyFoldEnv Gen.cp_RE_VALUES v.render T [(1, v.render)] := by
  rw [re_values_shape]
  exact Reads.alt_left (Reads.group 1 (v.reads T hv) (keys_ne rfl))

/-- `RE_VALUES` on `gap , gap`: no value begins there; group 2. -/
theorem re_values_sep {gl gr T : Str} (hgl : isGap gl) (hgr : isGap gr) (hT : noGapStart T = true) :
    Reads pyFoldEnv Gen.cp_RE_VALUES (gl ++ (44 :: gr)) T [(2, gl ++ (44 :: gr))] := by
  rw [re_values_shape]
  refine Reads.alt_right (fun s p c _ hd => ?_)
    (Reads.alt_left (Reads.group 2 (Reads.seq (ReadsSeq.cons_plain
      (Reads.gap hgl (by simp [noGapStart, isCssWs]))
      (ReadsSeq.cons_plain (Reads.lit 44 _) (ReadsSeq.single (Reads.gap hgr hT))))) (keys_ne rfl)))
  rw [runs_group, value_nil_of_head s c, List.map_nil]
  intro x hx
  cases gl with
  | nil =>
    rw [getElem?_of_drop_cons (s := s) (p := p) (by rw [hd]; rfl)] at hx
    cases hx; exact Or.inr (Or.inr rfl)
  | cons y ys =>
    rw [getElem?_of_drop_cons (s := s) (p := p) (by rw [hd]; rfl)] at hx
    cases hx
    rcases gap_head hgl x (by simp) with h | h
    · exact Or.inl h
    · exact Or.inr (Or.inl h)

theorem reValues_at_end {i : Nat} (hi : s.length ≤ i) : matchAt pyFoldEnv Gen.cp_RE_VALUES s i = none := by
  have hx : s[i]? = none := List.getElem?_eq_none hi
  have hd : s.drop i = [] := List.drop_eq_nil_of_le hi
  rw [re_values_shape]
  unfold matchAt
  rw [runs_alt, runsAlt_cons, runs_group,
    value_nil_of_head s [] (by intro x h; rw [hx] at h; cases h), List.map_nil, List.nil_append,
    runsAlt_cons, runsAlt_nil, List.append_nil, runs_group]
  unfold vSep
  rw [runs_seq]
  have hgap : runs pyFoldEnv s (gapRx true) i [] = [(i, [])] := by
    unfold gapRx
    rw [runs]
    obtain ⟨k, hk⟩ : ∃ k, s.length - i + 0 + 2 = k + 1 := ⟨_, rfl⟩
    rw [hk, iter_succ]
    simp only [if_true, RxBasic.canMore, Nat.zero_le, ge_iff_le]
    have : runs pyFoldEnv s (Wsc.wscRx true) i [] = [] := by
      rw [Wsc.wsc_runs true (fun _ => Wsc.caseFree_pyFold) s i []]
      have : unitEnd s i = none := by
        simp [unitEnd, wsEnd, commentEnd, hx]
      rw [this]; rfl
    rw [this]; rfl
  rw [runsSeq_cons, hgap]
  simp only [List.flatMap_cons, List.flatMap_nil, List.append_nil]
  rw [lit_fail Ident.identFold_py s 44 (by omega) _ i [] (by rw [hx]; simp)]
  rfl

end

section
variable (B : Builtins) (pat : Str) (vals : Str)

theorem go_value {fuel i : Nat} {v : SValue} {T : Str} (hd : vals.drop i = v.render ++ T) (hv : v.ok T) :
    parseValues.go (penv B pat) vals (fuel + 1) i =
      v.value :: parseValues.go (penv B pat) vals fuel (i + v.render.length) := by
  obtain ⟨x, xs, hx, _⟩ := svalue_head v T hv
  have hil : i < vals.length := lt_of_drop_cons (s := vals) (p := i) (by rw [hd, hx]; rfl)
  obtain ⟨caps, hm, hg⟩ := (re_values_value hv).matchAt (Nat.le_of_lt hil) hd
  have hlen : 1 ≤ v.render.length := by rw [hx]; simp
  have hg1 : _ = some v.render := hg Gen.lexicon.reValues "value"
  have hg2 : _ = none := hg Gen.lexicon.reValues "split"
  rw [parseValues.go, if_neg (by omega),
    show Rx.search (penv B pat).env (penv B pat).L.reValues.rx vals i = _ from search_here (by omega) hm]
  simp only [show Parser.group vals (penv B pat).L.reValues caps "split" = none from hg2]
  rw [parseValues.valueOf, show Parser.group vals (penv B pat).L.reValues caps "value" = _ from hg1]
  simp only
  rw [if_pos (by omega)]
  have := v.raw T hv
  unfold rawValue at this
  simp only [penv]
  congr 1

theorem go_sep {fuel i : Nat} {gl gr T : Str} (hd : vals.drop i = gl ++ 44 :: (gr ++ T)) (hgl : isGap gl)
    (hgr : isGap gr) (hT : noGapStart T = true) :
    parseValues.go (penv B pat) vals (fuel + 1) i =
      parseValues.go (penv B pat) vals fuel (i + gl.length + 1 + gr.length) := by
  have hil : i < vals.length := by
    have := lt_of_drop_cons (drop_add_of_drop_append hd); omega
  obtain ⟨caps, hm, hg⟩ := (re_values_sep hgl hgr hT).matchAt (Nat.le_of_lt hil)
    (show vals.drop i = (gl ++ (44 :: gr)) ++ T by simpa using hd)
  have hg2 : _ = some (gl ++ (44 :: gr)) := hg Gen.lexicon.reValues "split"
  have hlen : i + (gl ++ (44 :: gr)).length = i + gl.length + 1 + gr.length := by
    simp only [List.length_append, List.length_cons]; omega
  rw [hlen] at hm
  rw [parseValues.go, if_neg (by omega),
    show Rx.search (penv B pat).env (penv B pat).L.reValues.rx vals i = _ from search_here (by omega) hm]
  simp only [show Parser.group vals (penv B pat).L.reValues caps "split" = _ from hg2]
  have : (gl ++ 44 :: gr).isEmpty = false := by simp
  simp only [this, Bool.not_false, if_true]
  rw [if_pos (by omega)]

theorem go_end {fuel : Nat} : parseValues.go (penv B pat) vals (fuel + 1) vals.length = [] := by
  have hs : Rx.search (penv B pat).env (penv B pat).L.reValues.rx vals vals.length = none :=
    search_end (reValues_at_end vals (Nat.le_refl _))
  rw [parseValues.go, if_neg (by omega), hs]

theorem go_rest : ∀ (rest : List (Str × Str × SValue)) (fuel i : Nat), i ≤ vals.length →
    vals.length - i + 1 ≤ fuel → vals.drop i = renderVRest rest → vrestOK rest [] →
    parseValues.go (penv B pat) vals fuel i = vrestValues rest
  | [], fuel, i, hi, hf, hd, _ => by
    obtain ⟨k, rfl⟩ : ∃ k, fuel = k + 1 := ⟨fuel - 1, by omega⟩
    have : i = vals.length := by
      have := congrArg List.length hd
      simp [renderVRest] at this; omega
    subst this
    rw [go_end]; rfl
  | x :: rest, fuel, i, hi, hf, hd, hok => by
    obtain ⟨hgl, hgr, hv, hrest⟩ := hok
    simp only [renderVRest] at hd
    simp only [List.append_nil] at hv
    have hlen := congrArg List.length hd
    simp only [List.length_drop, List.length_append, List.length_cons] at hlen
    obtain ⟨y, ys, hy, _⟩ := svalue_head x.2.2 _ hv
    have hvl : 1 ≤ x.2.2.render.length := by rw [hy]; simp
    obtain ⟨k, rfl⟩ : ∃ k, fuel = k + 1 + 1 := ⟨fuel - 2, by omega⟩
    have hdv : vals.drop (i + x.1.length + 1 + x.2.1.length) = x.2.2.render ++ renderVRest rest :=
      drop_add_of_drop_append (RxBasic.drop_succ_of_drop_cons (drop_add_of_drop_append hd))
    rw [go_sep B pat vals hd hgl hgr (x.2.2.render_noGap _ _ hv), go_value B pat vals hdv hv,
      go_rest rest k _ (by omega) (by omega) (drop_add_of_drop_append hdv) hrest]
    rfl

/-- `RE_VALUES.finditer` on the text of a spelled value list yields the spelled values. -/
theorem parseValues_spelled (V : SValues) (hok : V.ok []) :
    parseValues (penv B pat) V.render = V.values := by
  obtain ⟨hfirst, hrest⟩ := hok
  simp only [List.append_nil] at hfirst
  unfold parseValues
  have hd : V.render.drop 0 = V.first.render ++ renderVRest V.rest := rfl
  obtain ⟨y, ys, hy, _⟩ := svalue_head V.first _ hfirst
  have hvl : 1 ≤ V.first.render.length := by rw [hy]; simp
  rw [go_value B pat V.render hd hfirst,
    go_rest B pat V.render V.rest _ _ (by simp [SValues.render]) (by simp [SValues.render]; omega)
      (drop_add_of_drop_append hd) hrest]
  rfl

end

def langRx : TokenRx := ⟨"pseudo_lang", Gen.tok_pseudo_lang, Gen.tok_pseudo_lang_groups⟩
def containsRx : TokenRx := ⟨"pseudo_contains", Gen.tok_pseudo_contains, Gen.tok_pseudo_contains_groups⟩

theorem find_lang : Gen.lexicon.special.find? (fun e => e.1 == ":lang".toStr) = some (":lang".toStr, langRx) := rfl

theorem find_contains (n : Str) (h : containsName n) :
    Gen.lexicon.special.find? (fun e => e.1 == n) = some (n, containsRx) := by
  rcases h with rfl | rfl | rfl <;> (rw [toStr_ofList]; rfl)

section Steps
variable (B : Builtins) (s : Str) (fuel flags : Nat) (st : LS)

/-- The tokenizer at `:name(` gap values gap `)` for a name whose token `sub` has the pattern and groups of
    `pseudo_lang`: the token, with the value list and the name the handlers make of its groups. -/
theorem values_token {forms : List (Nat × EscForm)} {g₁ g₂ r : Str} (V : SValues) (sub : TokenRx)
    (hrx : sub.rx = Gen.tok_pseudo_lang) (hgr : sub.groups = [("name", 1), ("open", 2), ("values", 3)])
    (hd : s.drop st.pos = 58 :: (renderIdentWith forms ++ (40 :: (g₁ ++ (V.render ++ (g₂ ++ 41 :: r))))))
    (hv : validForms forms (40 :: (g₁ ++ (V.render ++ (g₂ ++ 41 :: r)))) = true) (hh : headOk forms = true)
    (hcp : ∀ p ∈ forms, rangeOk p.1 p.2 = true) (hg₁ : isGap g₁) (hg₂ : isGap g₂)
    (hV : V.ok (g₂ ++ 41 :: r))
    (hfind : Gen.lexicon.special.find? (fun e => e.1 == 58 :: lower (valueOf forms)) =
      some (58 :: lower (valueOf forms), sub)) :
    ∃ t W G, TokenAt B s st.pos sub W G t ∧ s.drop t.stop = r ∧
      parseValues ⟨pyFoldEnv, Gen.lexicon, B, s⟩ ((t.group ⟨pyFoldEnv, Gen.lexicon, B, s⟩ "values").getD []) = V.values ∧
      lower (Parser.cssUnescape pyFoldEnv Gen.lexicon ((t.group ⟨pyFoldEnv, Gen.lexicon, B, s⟩ "name").getD [])) =
        58 :: lower (valueOf forms) := by
  have hd' : s.drop st.pos =
      ((58 :: renderIdentWith forms) ++ ((40 :: g₁) ++ (V.render ++ (g₂ ++ [41])))) ++ r := by simpa using hd
  have hVng : noGapStart ((V.render ++ (g₂ ++ [41])) ++ r) = true := by
    simp only [SValues.render, List.append_assoc]
    exact V.first.render_noGap _ _ hV.1
  obtain ⟨t, ht⟩ := special_token s B st sub hd' (by simpa using hv) hh hcp hg₁ hVng hfind
    (hrx ▸ lang_reads V hv hh hg₁ hg₂ hV)
  have hgv : ∀ name, groupText sub [(1, 58 :: renderIdentWith forms), (2, 40 :: g₁), (3, V.render)] name =
      groupText langRx [(1, 58 :: renderIdentWith forms), (2, 40 :: g₁), (3, V.render)] name := fun name => by
    unfold groupText; rw [hgr]; rfl
  refine ⟨t, _, _, ht, by rw [ht.stop]; exact drop_add_of_drop_append hd', ?_,
    colon_name B s hv hcp ((ht.group "name").trans (hgv "name"))⟩
  rw [show t.group _ "values" = _ from (ht.group "values").trans (hgv "values")]
  exact parseValues_spelled B s V (V.ok_nil _ hV)

/-- `:lang(` gap values gap `)`. -/
theorem step_lang {forms : List (Nat × EscForm)} {g₁ g₂ r : Str} (V : SValues)
    (hd : s.drop st.pos = 58 :: (renderIdentWith forms ++ (40 :: (g₁ ++ (V.render ++ (g₂ ++ 41 :: r))))))
    (hv : validForms forms (40 :: (g₁ ++ (V.render ++ (g₂ ++ 41 :: r)))) = true) (hh : headOk forms = true)
    (hcp : ∀ p ∈ forms, rangeOk p.1 p.2 = true) (hg₁ : isGap g₁) (hg₂ : isGap g₂)
    (hV : V.ok (g₂ ++ 41 :: r)) (hname : 58 :: lower (valueOf forms) = ":lang".toStr) :
    ∃ p idx, s.drop p = r ∧
      parseLoop pyFoldEnv Gen.lexicon B s (fuel + 1) flags st =
        parseLoop pyFoldEnv Gen.lexicon B s fuel flags
          { st with pos := p, index := idx, sel := st.sel.addLang ⟨V.values⟩, hasSelector := true } := by
  obtain ⟨t, W, G, ht, hstop, hvals, _⟩ := values_token B s st V langRx rfl rfl hd hv hh hcp hg₁ hg₂ hV
    (by rw [hname]; exact find_lang)
  refine ⟨t.stop, t.stop, hstop, ?_⟩
  rw [ht.loop]
  simp only [show langRx.name = "pseudo_lang" from rfl, ParseDisp.modelAction_keys, ParseDisp.runAction,
    ParseDisp.runCall_lang, runStep, hvals]

/-- `:contains(` / `:-soup-contains(` / `:-soup-contains-own(` gap values gap `)`. -/
theorem step_contains {forms : List (Nat × EscForm)} {g₁ g₂ r : Str} (V : SValues)
    (hd : s.drop st.pos = 58 :: (renderIdentWith forms ++ (40 :: (g₁ ++ (V.render ++ (g₂ ++ 41 :: r))))))
    (hv : validForms forms (40 :: (g₁ ++ (V.render ++ (g₂ ++ 41 :: r)))) = true) (hh : headOk forms = true)
    (hcp : ∀ p ∈ forms, rangeOk p.1 p.2 = true) (hg₁ : isGap g₁) (hg₂ : isGap g₂)
    (hV : V.ok (g₂ ++ 41 :: r)) (hname : containsName (58 :: lower (valueOf forms))) :
    ∃ p idx, s.drop p = r ∧
      parseLoop pyFoldEnv Gen.lexicon B s (fuel + 1) flags st =
        parseLoop pyFoldEnv Gen.lexicon B s fuel flags
          { st with pos := p, index := idx,
                    sel := st.sel.addContains
                      ⟨V.values, 58 :: lower (valueOf forms) == ":-soup-contains-own".toStr⟩,
                    hasSelector := true } := by
  obtain ⟨t, W, G, ht, hstop, hvals, hnm⟩ := values_token B s st V containsRx rfl rfl hd hv hh hcp hg₁ hg₂ hV
    (find_contains _ hname)
  refine ⟨t.stop, t.stop, hstop, ?_⟩
  rw [ht.loop]
  simp only [show containsRx.name = "pseudo_contains" from rfl, ParseDisp.modelAction_keys, ParseDisp.runAction,
    ParseDisp.runCall_contains, runStep, hvals, hnm]

end Steps

end Compile
end Refine
end SoupVerif

#print axioms SoupVerif.Refine.Compile.parseValues_spelled
#print axioms SoupVerif.Refine.Compile.step_lang
#print axioms SoupVerif.Refine.Compile.step_contains
