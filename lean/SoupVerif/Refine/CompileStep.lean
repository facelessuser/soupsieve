/-
  Parser-loop lemmas for the end-to-end C09 theorem: what one iteration of `Parser.parseLoop` does
  with each token kind of the covered grammar, given what `nextToken` yields (`TokenAt.loop`: the branch of the
  token's key, `Lemmas/ParserProgress/Dispatch.lean`).
-/
import SoupVerif.Refine.CompileTag
import SoupVerif.Lemmas.ParserProgress.Dispatch
namespace SoupVerif
namespace Refine
namespace Compile
open Rx RxBasic SoupVerif.Parser ParserProgress Escape Spelling


/-- The parser's `css_unescape` (the engine on the regenerated `RE_CSS_ESC`, under Python's folding)
    decodes every admissible spelling of an identifier to the code points spelled. -/
theorem unescape_forms (forms : List (Nat × EscForm)) {r : Str} (hv : validForms forms r = true)
    (hcp : ∀ p ∈ forms, rangeOk p.1 p.2 = true) :
    Parser.cssUnescape pyFoldEnv Gen.lexicon (renderIdentWith forms) = valueOf forms := by
  have hv := SpellingLemmas.validForms_nil_of forms r hv
  have hr : cssUnescapeRaises (renderIdentWith forms) = false := by
    have := SpellingLemmas.cssUnescapeRaisesAux_ident forms [] hv (by simp)
    simpa [cssUnescapeRaises, cssUnescapeRaisesAux] using this
  rw [Refine.cssUnescape_pyFold _ hr, C09.unescape_any_spelling_fine forms hv hcp]

section Steps
variable (B : Builtins) (s : Str) (fuel flags : Nat) (st : LS)

/-- One turn of the loop on the token found at the loop's position: the branch of its key. -/
theorem TokenAt.loop {tr : TokenRx} {W : Str} {G : List (Nat × Str)} {t : Token} (h : TokenAt B s st.pos tr W G t) :
    parseLoop pyFoldEnv Gen.lexicon B s (fuel + 1) flags st =
      runStep (fun p => parseSelectors pyFoldEnv Gen.lexicon B p fuel) (parseLoop pyFoldEnv Gen.lexicon B s fuel flags)
        (ParseDisp.runAction pyFoldEnv Gen.lexicon B s flags { st with pos := t.stop } t
          (ParseDisp.modelAction tr.name)) := by
  rw [ParseDisp.parseLoop_token _ _ _ _ _ _ _ t h.next, h.name]

/-- `#id` / `.class` (slot `n` of the table, entry `tr`): the token text without its first character is unescaped
    and added. -/
theorem step_idclass {c n : Nat} {tr : TokenRx} {rest : List (TokenRx × Bool)} {forms : List (Nat × EscForm)} {r : Str}
    (hdrop : Gen.lexicon.tokens.drop n = (tr, false) :: rest)
    (hrx : tr.rx = .seq [.lit c true, Ident.rxHead, Ident.rxStar])
    (hkey : ParseDisp.modelAction tr.name = some (.callHandler "parse_class_id" [] ["has_selector"]))
    (hskip : (Gen.lexicon.tokens.take n).all (fun t => !slotFirst (keyOf (some c)) t) = true)
    (hc : noGapStart (c :: (renderIdentWith forms ++ r)) = true)
    (hd : s.drop st.pos = (c :: renderIdentWith forms) ++ r)
    (hv : validForms forms r = true) (hh : headOk forms = true) (hr : ¬ continuesIdent r)
    (hcp : ∀ p ∈ forms, rangeOk p.1 p.2 = true) :
    parseLoop pyFoldEnv Gen.lexicon B s (fuel + 1) flags st =
      parseLoop pyFoldEnv Gen.lexicon B s fuel flags
        { st with pos := st.pos + (c :: renderIdentWith forms).length,
                  sel := (if c == 46 then st.sel.addClass (valueOf forms) else st.sel.addId (valueOf forms)),
                  hasSelector := true, index := st.pos + (c :: renderIdentWith forms).length } := by
  obtain ⟨t, ht⟩ := TokenAt.of_slot B s hdrop (hrx ▸ Reads.prefixed c hv hh hr) hd rfl hc hskip
  rw [ht.loop, hkey]
  simp only [ParseDisp.runAction, ParseDisp.runCall_class_id, runStep, ht.start, ht.stop, slice_of_drop_append hd,
    List.head?_cons, List.drop_succ_cons, List.drop_zero, Option.some.injEq, beq_iff_eq,
    unescape_forms forms hv hcp]

theorem step_id {forms : List (Nat × EscForm)} {r : Str}
    (hd : s.drop st.pos = (35 :: renderIdentWith forms) ++ r)
    (hv : validForms forms r = true) (hh : headOk forms = true) (hr : ¬ continuesIdent r)
    (hcp : ∀ p ∈ forms, rangeOk p.1 p.2 = true) :
    parseLoop pyFoldEnv Gen.lexicon B s (fuel + 1) flags st =
      parseLoop pyFoldEnv Gen.lexicon B s fuel flags
        { st with pos := st.pos + (35 :: renderIdentWith forms).length,
                  sel := st.sel.addId (valueOf forms), hasSelector := true,
                  index := st.pos + (35 :: renderIdentWith forms).length } :=
  step_idclass B s fuel flags st (n := 7) rfl Ident.tok_id_shape (by simp only [ParseDisp.modelAction_keys])
    skip_hash rfl hd hv hh hr hcp

theorem step_class {forms : List (Nat × EscForm)} {r : Str}
    (hd : s.drop st.pos = (46 :: renderIdentWith forms) ++ r)
    (hv : validForms forms r = true) (hh : headOk forms = true) (hr : ¬ continuesIdent r)
    (hcp : ∀ p ∈ forms, rangeOk p.1 p.2 = true) :
    parseLoop pyFoldEnv Gen.lexicon B s (fuel + 1) flags st =
      parseLoop pyFoldEnv Gen.lexicon B s fuel flags
        { st with pos := st.pos + (46 :: renderIdentWith forms).length,
                  sel := st.sel.addClass (valueOf forms), hasSelector := true,
                  index := st.pos + (46 :: renderIdentWith forms).length } :=
  step_idclass B s fuel flags st (n := 8) rfl Ident.tok_class_shape
    (by simp only [ParseDisp.modelAction_keys]) skip_dot rfl hd hv hh hr hcp

theorem SNs.unescape (ns : SNs) (rest : Str) (hok : ns.ok rest) :
    Parser.cssUnescape pyFoldEnv Gen.lexicon ns.text = ns.value := by
  cases ns with
  | empty => decide
  | star => decide
  | name f =>
    obtain ⟨hv, _, hcp⟩ := hok
    exact unescape_forms f hv hcp

/-- The loop at a type selector `W` (an identifier or `*`, decoded `v`) with an optional namespace prefix, from what
    the `tag` token reads there. -/
theorem step_tag (ns : Option SNs) {W R : Str} (v : Str) (hd : s.drop st.pos = (nsBar ns ++ W) ++ R)
    (hfirst : ∃ c cs, (nsBar ns ++ W) ++ R = c :: cs ∧ nsStart c = true)
    (hR : Reads pyFoldEnv Gen.tok_tag (nsBar ns ++ W) R (nsGroups ns ++ [(2, W)]))
    (hns : ∀ n, ns = some n → n.ok (W ++ R)) (hv : Parser.cssUnescape pyFoldEnv Gen.lexicon W = v)
    (hs : st.hasSelector = false) :
    parseLoop pyFoldEnv Gen.lexicon B s (fuel + 1) flags st =
      parseLoop pyFoldEnv Gen.lexicon B s fuel flags
        { st with pos := st.pos + (nsBar ns ++ W).length,
                  sel := st.sel.setTag ⟨v, ns.map SNs.value⟩, hasSelector := true,
                  index := st.pos + (nsBar ns ++ W).length } := by
  obtain ⟨c, cs, hcs, hc⟩ := hfirst
  obtain ⟨t, ht⟩ := TokenAt.of_slot B s (n := 9) (tr := tagRx) rfl hR hd hcs (nsStart_noGap cs hc) (skip_ns' hc)
  have hg1 : t.group _ "tag_ns" = ns.map (fun n => n.text ++ [124]) :=
    (ht.group "tag_ns").trans (by cases ns <;> rfl)
  have hg2 : t.group _ "tag_name" = some W := (ht.group "tag_name").trans (by cases ns <;> rfl)
  rw [ht.loop]
  simp only [show tagRx.name = "tag" from rfl, ParseDisp.modelAction_keys, ParseDisp.runAction, ParseDisp.runCall_tag,
    hs, Bool.false_eq_true, if_false, runStep, ht.stop, hg1, hg2, Option.getD_some, hv]
  cases ns with
  | none => rfl
  | some n =>
    have e1 : (n.text ++ [124]).isEmpty = false := by simp
    have e2 : (n.text ++ [124]).take ((n.text ++ [124]).length - 1) = n.text := by simp
    simp only [Option.map_some, e1, e2, n.unescape _ (hns n rfl)]
    rfl

theorem step_tag_ident {forms : List (Nat × EscForm)} {r : Str}
    (hd : s.drop st.pos = renderIdentWith forms ++ r)
    (hv : validForms forms r = true) (hh : headOk forms = true) (hr : ¬ continuesIdent r)
    (hbar : r.head? ≠ some 124)
    (hcp : ∀ p ∈ forms, rangeOk p.1 p.2 = true) (hs : st.hasSelector = false) :
    parseLoop pyFoldEnv Gen.lexicon B s (fuel + 1) flags st =
      parseLoop pyFoldEnv Gen.lexicon B s fuel flags
        { st with pos := st.pos + (renderIdentWith forms).length,
                  sel := st.sel.setTag ⟨valueOf forms, none⟩, hasSelector := true,
                  index := st.pos + (renderIdentWith forms).length } := by
  obtain ⟨x, xs, hxs, hx⟩ := headOk_first forms hh
  exact step_tag B s fuel flags st none (valueOf forms) hd
    ⟨x, xs ++ r, by simp [nsBar, hxs], by rcases hx with hx | hx | hx <;> simp [nsStart, tagStart, hx]⟩
    (tag_reads_ident hv hh hr hbar) (fun _ h => by cases h)
    (unescape_forms forms hv hcp) hs

theorem step_tag_star {r : Str}
    (hd : s.drop st.pos = [42] ++ r) (hbar : r.head? ≠ some 124) (hs : st.hasSelector = false) :
    parseLoop pyFoldEnv Gen.lexicon B s (fuel + 1) flags st =
      parseLoop pyFoldEnv Gen.lexicon B s fuel flags
        { st with pos := st.pos + 1,
                  sel := st.sel.setTag ⟨[42], none⟩, hasSelector := true,
                  index := st.pos + 1 } :=
  step_tag B s fuel flags st none [42] hd ⟨42, r, rfl, by decide⟩ (tag_reads_star hbar) (fun _ h => by cases h)
    (by decide) hs

theorem nextToken_end {i : Nat} (hg : isGap (s.drop i)) : nextToken (penv B s) i = .ok none := by
  rw [nextToken_text, if_pos (show skipWSC (s.drop i) = [] from hg)]

theorem parseLoop_end (hg : isGap (s.drop st.pos)) :
    parseLoop pyFoldEnv Gen.lexicon B s fuel flags st = .ok st :=
  ParseDisp.parseLoop_of_none _ _ _ _ _ _ _ (nextToken_end B s hg)

theorem startIndex_drop : s.drop (startIndex (penv B s)) = skipWSC s := by
  have h : matchAt (penv B s).env (penv B s).L.reWsBegin (penv B s).pattern 0 = some (Wsc.gapEnd s 0, []) :=
    Wsc.ws_begin_at pyFoldEnv s 0 (Nat.zero_le _)
  rw [startIndex, h]
  have := Wsc.gapEnd_drop s 0 (Nat.zero_le _)
  rwa [List.drop_zero] at this

end Steps

end Compile
end Refine

end SoupVerif

#print axioms SoupVerif.Refine.Compile.unescape_forms
#print axioms SoupVerif.Refine.Compile.step_id
#print axioms SoupVerif.Refine.Compile.step_class
#print axioms SoupVerif.Refine.Compile.step_tag_ident
#print axioms SoupVerif.Refine.Compile.step_tag_star
#print axioms SoupVerif.Refine.Compile.SNs.unescape
#print axioms SoupVerif.Refine.Compile.parseLoop_end
#print axioms SoupVerif.Refine.Compile.startIndex_drop
