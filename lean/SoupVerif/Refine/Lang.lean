/-
  Refinement: the hand-written text-level wildcard strip `wildStripText` (`collapse false ∘ tailStrip`,
  `Lemmas/Lang.lean`) is, for EVERY text, what the regex-engine model computes with the two regular
  expressions regenerated from the source,

      RE_WILD_STRIP.sub('-', RE_WILD_TAIL.sub('', s))          (css_match.py, `extended_language_filter`)

  i.e. `wildStripRx` (`Rx.subAll` on `Gen.cm_RE_WILD_STRIP` / `Gen.cm_RE_WILD_TAIL`).

  Both regexes have only case-sensitive literals, so the two component theorems hold for an arbitrary
  `env : CharEnv`; `wildStripRx` itself is defined with `asciiEnv`.

  What each expression matches from a position is a scanner of the rest of the text (`tailLen`, `stripLen`): the
  repeated pieces `-\*` and `\*(?:-|\Z)` are scanners in the sense of `Lemmas/RxDet.lean` (`pairLen 45 42`, `starDash`),
  so their stars end where `unitEnds` says; `subAll_scan` (`Lemmas/RxSub.lean`) turns such a match into the substitution.
-/
import SoupVerif.Lemmas.Lang
import SoupVerif.Lemmas.RxDet
import SoupVerif.Lemmas.RxSub
namespace SoupVerif
namespace RefineLang
open Rx RxBasic LangLemmas Refine

/-- `(?:-\*)+\Z` -/
theorem wild_tail_shape :
    Gen.cm_RE_WILD_TAIL =
      .seq [.rep 1 none true (.seq [.lit 45 false, .lit 42 false]), .eos] := rfl

/-- `(?:(?:-\*-)(?:\*(?:-|\Z))*|-\*\Z)`, as sre compiles it (common prefix `-\*` factored out):
    `-\*(?:-(?:\*(?:-|\Z))*|\Z)` -/
theorem wild_strip_shape :
    Gen.cm_RE_WILD_STRIP =
      .seq [.lit 45 false, .lit 42 false,
        .alt [.seq [.lit 45 false,
                .rep 0 none true (.seq [.lit 42 false, .alt [.lit 45 false, .eos]])],
              .eos]] := rfl

theorem length_of_drop {s t : Str} {i : Nat} (hd : s.drop i = t) (hi : i ≤ s.length) : s.length = i + t.length := by
  rw [← hd, List.length_drop]; omega

/-! ### `RE_WILD_TAIL` is the scanner `tailLen`; its substitution is `tailStrip` -/

theorem ends_isStarRun (t : Str) :
    endsSat List.isEmpty (pairLen 45 42) t = if isStarRun t = true then [t.length] else [] := by
  fun_induction isStarRun t with
  | case1 => rw [endsSat_none _ rfl]; rfl
  | case2 a => rw [endsSat_none _ (pairLen_none (by rintro d h; cases h))]; rfl
  | case3 a b rest ih =>
    by_cases hab : a = 45 ∧ b = 42
    · obtain ⟨rfl, rfl⟩ := hab
      rw [endsSat_some _ (pairLen_cons 45 42 rest) (by simp), List.drop_succ_cons, List.drop_succ_cons, List.drop_zero, ih]
      by_cases hr : isStarRun rest = true <;> simp [hr] <;> omega
    · have hr : (a == 45 && b == 42) = false := by simpa using hab
      rw [endsSat_none _ (pairLen_none (by rintro d h; cases h; exact hab ⟨rfl, rfl⟩))]
      simp [hr]

/-- What `RE_WILD_TAIL` takes from the head of a text: a non-empty run of `-*` up to the end, all of it. -/
def tailLen (t : Str) : Option Nat := if t ≠ [] ∧ isStarRun t = true then some t.length else none

theorem tailLen_nil : tailLen [] = none := by simp [tailLen]

theorem tailLen_cons (a : Nat) (d : Str) :
    tailLen (a :: d) = if isStarRun (a :: d) = true then some (d.length + 1) else none := by simp [tailLen]

theorem tailLen_some {t : Str} {n : Nat} (h : tailLen t = some n) : 0 < n ∧ n ≤ t.length := by
  cases t with
  | nil => rw [tailLen_nil] at h; cases h
  | cons a d => rw [tailLen_cons] at h; split at h <;> cases h; simp

/-- `RE_WILD_TAIL.match(s, i)`. -/
theorem matchAt_tail (env : CharEnv) (s : Str) (i : Nat) (hi : i ≤ s.length) :
    matchAt env Gen.cm_RE_WILD_TAIL s i = (tailLen (s.drop i)).map fun n => (i + n, []) := by
  rw [matchAt, wild_tail_shape, runs_seq,
    (scans_pair env 45 42).runsSeq_plus_then (pairLen_pos 45 42) _ _ 0 (runsSeq_eos_isEmpty env s) i [] hi]
  rcases s.drop i with _ | ⟨a, _ | ⟨b, d⟩⟩
  · rfl
  · rw [pairLen_none (by rintro d h; cases h)]; rfl
  · rw [tailLen_cons]
    by_cases hab : a = 45 ∧ b = 42
    · obtain ⟨rfl, rfl⟩ := hab
      simp only [pairLen_cons, List.drop_succ_cons, List.drop_zero, ends_isStarRun, isStarRun, beq_self_eq_true,
        Bool.true_and, List.length_cons]
      by_cases hr : isStarRun d = true <;> simp [hr]; omega
    · have hr : (a == 45 && b == 42) = false := by simpa using hab
      rw [pairLen_none (by rintro d h; cases h; exact hab ⟨rfl, rfl⟩)]
      simp [isStarRun, hr]

/-- `RE_WILD_TAIL.sub('', s)` is `tailStrip s`, for every text and every character environment. -/
theorem subAll_tail (env : CharEnv) (s : Str) :
    subAll env Gen.cm_RE_WILD_TAIL [] s = tailStrip s := by
  apply subAll_scan env _ _ s tailLen tailStrip (matchAt_tail env s) (fun _ _ => tailLen_some) rfl
  intro a d
  rw [tailLen_cons]
  by_cases hr : isStarRun (a :: d) = true <;> simp [tailStrip, hr]

/-! ### `RE_WILD_STRIP` is the scanner `stripLen`: `-*-` and the greedy loop of `*-` units, or `-*` at the end; its substitution is `collapse false` -/

/-- Number of characters that the loop `(?:\*(?:-|\Z))*` consumes (greedily) from a suffix. -/
def loopLen : Str → Nat
  | 42 :: 45 :: rest => 2 + loopLen rest
  | [42] => 1
  | _ => 0

theorem loopLen_le : ∀ d : Str, loopLen d ≤ d.length := by
  intro d
  fun_induction loopLen d with
  | case1 rest ih => simp only [List.length_cons]; omega
  | case2 => simp
  | case3 => omega

/-- The loop of `collapse true` is exactly the greedy loop. -/
theorem collapse_true_eq (d : Str) : collapse true d = collapse false (d.drop (loopLen d)) := by
  fun_induction loopLen d with
  | case1 rest ih => rw [collapse.eq_1, ih, Nat.add_comm]; rfl
  | case2 => rfl
  | case3 d h1 h2 => exact collapse_flag (fun rest h => h1 rest h) (fun h => h2 h) true

/-- The unit `\*(?:-|\Z)` at the head of a text. -/
def starDash : Str → Option Nat
  | 42 :: 45 :: _ => some 2
  | [42] => some 1
  | _ => none

theorem starDash_none {t : Str} (h1 : ∀ d, t ≠ 42 :: 45 :: d) (h2 : t ≠ [42]) : starDash t = none := by
  unfold starDash
  split
  · exact absurd rfl (h1 _)
  · exact absurd rfl h2
  · rfl

theorem starDash_some {t : Str} {n : Nat} (h : starDash t = some n) : 0 < n ∧ n ≤ t.length := by
  unfold starDash at h
  split at h <;> cases h <;> simp

/-- The body of the loop ends in `\Z` on one side: its one run, from the engine itself. -/
theorem scans_starDash (env : CharEnv) :
    Scans env (.seq [.lit 42 false, .alt [.lit 45 false, .eos]]) starDash := by
  refine ⟨fun t n h => (starDash_some h).2, fun s p c => ?_⟩
  rw [runs_seq, atDrop]
  rcases hd : s.drop p with _ | ⟨a, t⟩
  · rw [runsSeq_lit_nil env hd]; rfl
  have hl := length_of_drop hd (Nat.le_of_lt (lt_of_drop_cons hd))
  have hd1 := drop_succ_of_drop_cons hd
  rw [runsSeq_lit_cons env hd]
  by_cases ha : a = 42
  case neg =>
    rw [if_neg ha, starDash_none (by rintro d h; cases h; exact ha rfl) (by rintro h; cases h; exact ha rfl)]; rfl
  subst ha
  rw [if_pos rfl, runsSeq_single, runs_alt, runsAlt_cons, runsAlt_cons, runsAlt_nil, List.append_nil, runs_eos,
    ← runsSeq_single]
  rcases t with _ | ⟨b, d⟩
  · rw [runsSeq_lit_nil env hd1, if_pos (show p + 1 = s.length by simp only [List.length_cons, List.length_nil] at hl; omega)]; rfl
  rw [runsSeq_lit_cons env hd1, if_neg (show ¬ p + 1 = s.length by simp only [List.length_cons] at hl; omega), List.append_nil,
    runsSeq_nil]
  by_cases hb : b = 45
  · subst hb; rfl
  · rw [if_neg hb, starDash_none (by rintro d h; cases h; exact hb rfl) (by rintro h; cases h)]; rfl

theorem starDash_pos (t : Str) : starDash t ≠ some 0 := fun h => absurd (starDash_some h).1 (Nat.lt_irrefl 0)

theorem unitsLen_starDash (d : Str) : unitsLen starDash d = loopLen d := by
  fun_induction loopLen d with
  | case1 rest ih =>
    rw [unitsLen_some (n := 2) rfl (by simp), List.drop_succ_cons, List.drop_succ_cons, List.drop_zero, ih]
  | case2 => rw [unitsLen_some (n := 1) rfl (by simp), unitsLen_none rfl]
  | case3 d h1 h2 => exact unitsLen_none (starDash_none h1 h2)

/-- What `RE_WILD_STRIP` takes from the head of a text: `-*-` and the loop after it, or `-*` at the end. -/
def stripLen : Str → Option Nat
  | 45 :: 42 :: 45 :: rest => some (3 + loopLen rest)
  | [45, 42] => some 2
  | _ => none

theorem stripLen_none {t : Str} (h1 : ∀ d, t ≠ 45 :: 42 :: 45 :: d) (h2 : t ≠ [45, 42]) : stripLen t = none := by
  unfold stripLen
  split
  · exact absurd rfl (h1 _)
  · exact absurd rfl h2
  · rfl

theorem stripLen_loop (rest : Str) : stripLen (45 :: 42 :: 45 :: rest) = some (3 + loopLen rest) := rfl

theorem stripLen_cases (t : Str) :
    (∃ rest, t = 45 :: 42 :: 45 :: rest) ∨ t = [45, 42] ∨ ((∀ d, t ≠ 45 :: 42 :: 45 :: d) ∧ t ≠ [45, 42]) := by
  by_cases h1 : ∃ rest, t = 45 :: 42 :: 45 :: rest
  · exact Or.inl h1
  · by_cases h2 : t = [45, 42]
    · exact Or.inr (Or.inl h2)
    · exact Or.inr (Or.inr ⟨fun d h => h1 ⟨d, h⟩, h2⟩)

/-- `RE_WILD_STRIP.match(s, i)`. -/
theorem matchAt_strip (env : CharEnv) (s : Str) (i : Nat) :
    matchAt env Gen.cm_RE_WILD_STRIP s i = (stripLen (s.drop i)).map fun n => (i + n, []) := by
  rw [matchAt, wild_strip_shape, runs_seq]
  rcases hd : s.drop i with _ | ⟨a, t1⟩
  · rw [runsSeq_lit_nil env hd]; rfl
  have hl := length_of_drop hd (Nat.le_of_lt (lt_of_drop_cons hd))
  have hd1 := drop_succ_of_drop_cons hd
  rw [runsSeq_lit_cons env hd]
  by_cases ha : a = 45
  case neg =>
    rw [if_neg ha, stripLen_none (by rintro d h; cases h; exact ha rfl) (by rintro h; cases h; exact ha rfl)]; rfl
  subst ha
  rw [if_pos rfl]
  rcases t1 with _ | ⟨b, t2⟩
  · rw [runsSeq_lit_nil env hd1]; rfl
  have hd2 := drop_succ_of_drop_cons hd1
  rw [runsSeq_lit_cons env hd1]
  by_cases hb : b = 42
  case neg =>
    rw [if_neg hb, stripLen_none (by rintro d h; cases h; exact hb rfl) (by rintro h; cases h; exact hb rfl)]; rfl
  subst hb
  -- after `-*`: `-` and the loop (only its longest run counts for `match`), or the end of the text
  rw [if_pos rfl, runsSeq_single, runs_alt, runsAlt_cons, runsAlt_cons, runsAlt_nil, List.append_nil, runs_seq, runs_eos]
  rcases t2 with _ | ⟨c, rest⟩
  · rw [runsSeq_lit_nil env hd2, if_pos (show i + 1 + 1 = s.length by simp only [List.length_cons, List.length_nil] at hl; omega)]
    rfl
  rw [runsSeq_lit_cons env hd2, if_neg (show ¬ i + 1 + 1 = s.length by simp only [List.length_cons] at hl; omega),
    List.append_nil]
  by_cases hc : c = 45
  · subst hc
    rw [if_pos rfl, runsSeq_single, (scans_starDash env).star_head starDash_pos, drop_succ_of_drop_cons hd2,
      unitsLen_starDash]
    simp only [stripLen_loop, Option.map_some, Option.some.injEq, Prod.mk.injEq, and_true]
    omega
  · rw [if_neg hc, stripLen_none (by rintro d h; cases h; exact hc rfl) (by rintro h; cases h)]; rfl

/-- `RE_WILD_STRIP.sub('-', s)` is `collapse false s`, for every text and every character
    environment. -/
theorem subAll_strip (env : CharEnv) (s : Str) :
    subAll env Gen.cm_RE_WILD_STRIP [45] s = collapse false s := by
  apply subAll_scan env _ _ s stripLen (collapse false) (fun i _ => matchAt_strip env s i) _ rfl
  · intro a d
    rcases stripLen_cases (a :: d) with ⟨rest, h⟩ | h | ⟨h1, h2⟩
    · rw [h, stripLen_loop, collapse.eq_3, collapse_true_eq rest]
      simp only [Nat.add_comm 3, List.drop_succ_cons]; rfl
    · rw [h]; rfl
    · rw [stripLen_none h1 h2]
      apply collapse.eq_5
      · rintro rest rfl rfl; exact h1 rest rfl
      · rintro rfl rfl; exact h2 rfl
      · rintro _ h; cases h
      · rintro h; cases h
  · intro t n h
    rcases stripLen_cases t with ⟨rest, rfl⟩ | rfl | ⟨h1, h2⟩
    · rw [stripLen_loop] at h; cases h
      have := loopLen_le rest
      simp only [List.length_cons]; omega
    · cases h; simp
    · rw [stripLen_none h1 h2] at h; cases h

/-- `RE_WILD_STRIP.sub('-', RE_WILD_TAIL.sub('', s))`, computed by the engine model on the regexes
    regenerated from the source, is the hand-written text-level strip — for ALL texts. -/
theorem wildStripRx_eq_text (s : Str) : wildStripRx s = wildStripText s := by
  unfold wildStripRx wildStripText
  rw [subAll_tail, subAll_strip]

end RefineLang
end SoupVerif

#print axioms SoupVerif.RefineLang.subAll_tail
#print axioms SoupVerif.RefineLang.subAll_strip
#print axioms SoupVerif.RefineLang.wildStripRx_eq_text

section Examples
open SoupVerif SoupVerif.RefineLang SoupVerif.LangLemmas
example : wildStripRx "de-*-*-DE-*-*".toStr = "de-DE".toStr := by
  rw [wildStripRx_eq_text]; decide_lit
-- the regexes anchor with `\Z`, not `$`: before a final newline nothing is stripped
example : wildStripRx ("de-*".toStr ++ [10]) = "de-*".toStr ++ [10] := by
  rw [wildStripRx_eq_text]; decide_lit
end Examples
