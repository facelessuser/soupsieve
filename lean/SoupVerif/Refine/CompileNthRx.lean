/-
  The An+B micro-syntax `[-+]?(?:[0-9]+n?|n)(?:(?<=n)WSC*[-+]WSC*[0-9]+)?|even|odd` as it occurs in the
  tokens `pseudo_nth_child` / `pseudo_nth_type` (without groups) and in `RE_NTH` (with groups 1–4).
  The two are handled at once: `Wrap` abstracts "the expression itself, or a capturing group around it".
  Before it the keyword calculus that `:dir()` and `of` use as well: a keyword of plain letters as a sequence of
  case-insensitive literals (`kwRx`) reads every text that lower-cases to it (`kw_runs`, `kw_reads`) and has no run where
  the first letter differs (`kw_fail`).
-/
import SoupVerif.Refine.CompileIdent
namespace SoupVerif
namespace Refine
namespace Compile
open Rx RxBasic SoupVerif.Parser ParserProgress Escape Spelling
open Wsc (gapRx unitEnd wsEnd commentEnd gapEnd)

/-- Either the expression itself or a capturing group around it, with its effect on the captures. -/
structure Wrap (s : Str) where
  w : Rx → Rx
  f : Nat → Nat × Caps → Caps
  spec : ∀ (r : Rx) (rs : List Rx) (i : Nat) (c : Caps),
    runsSeq pyFoldEnv s (w r :: rs) i c =
      (runs pyFoldEnv s r i c).flatMap fun x => runsSeq pyFoldEnv s rs x.1 (f i x)

def Wrap.none (s : Str) : Wrap s := ⟨fun r => r, fun _ x => x.2, fun r rs i c => runsSeq_cons _ _ r rs i c⟩
def Wrap.grp (s : Str) (k : Nat) : Wrap s :=
  ⟨.group k, fun i x => (k, i, x.1) :: x.2.filter (fun e => e.1 != k),
   fun r rs i c => RefineInputs.runsSeq_group _ _ k r rs i c⟩

variable {s : Str}

theorem Wrap.nil (W : Wrap s) (r : Rx) (rs : List Rx) (i : Nat) (c : Caps)
    (h : runs pyFoldEnv s r i c = []) : runsSeq pyFoldEnv s (W.w r :: rs) i c = [] := by
  rw [W.spec, h]; rfl

theorem Wrap.head (W : Wrap s) (r : Rx) (rs : List Rx) (i : Nat) (c : Caps) (x b : Nat × Caps)
    (h : (runs pyFoldEnv s r i c).head? = some x)
    (hk : (runsSeq pyFoldEnv s rs x.1 (W.f i x)).head? = some b) :
    (runsSeq pyFoldEnv s (W.w r :: rs) i c).head? = some b := by
  rw [W.spec]
  cases hr : runs pyFoldEnv s r i c with
  | nil => rw [hr] at h; cases h
  | cons y ys =>
    rw [hr] at h
    simp only [List.head?_cons, Option.some.injEq] at h
    subst h
    exact head?_flatMap_cons _ _ _ _ hk

theorem Wrap.single (W : Wrap s) (r : Rx) (rs : List Rx) (i : Nat) (c : Caps) (x : Nat × Caps)
    (h : runs pyFoldEnv s r i c = [x]) :
    runsSeq pyFoldEnv s (W.w r :: rs) i c = runsSeq pyFoldEnv s rs x.1 (W.f i x) := by
  rw [W.spec, h]; simp

def digitSet : Rx := .set false [.range 48 57] true
def signSet : Rx := .set false [.ch 45, .ch 43] true
def litN : Rx := .lit 110 true

theorem isChar_digit (s : Str) : IsChar pyFoldEnv s digitSet isDigit := by
  apply isChar_congr (isChar_set pyFoldEnv s _ _ _)
  intro x
  have h := Ident.identFold_py.id_or_letter x
  simp only [setHas, List.any, itemHas, Bool.true_and, Bool.or_false, isDigit]
  rw [Bool.eq_iff_iff]
  simp only [bne_iff_ne, ne_eq, Bool.not_eq_false, Bool.or_eq_true, Bool.and_eq_true, decide_eq_true_eq]
  rcases h with h | h
  · rw [h]; omega
  · omega

theorem isChar_sign (s : Str) : IsChar pyFoldEnv s signSet isSign := by
  apply isChar_congr (isChar_set pyFoldEnv s _ _ _)
  intro x
  have h45 := Ident.fold_const_eq Ident.identFold_py 45 (by omega) x
  have h43 := Ident.fold_const_eq Ident.identFold_py 43 (by omega) x
  simp [setHas, itemHas, isSign, h45, h43]

theorem fold_110 : pyFoldEnv.fold 110 = 110 := by decide

theorem isChar_n (s : Str) : IsChar pyFoldEnv s litN isN := by
  apply isChar_congr (isChar_lit pyFoldEnv s 110 true)
  intro x
  simp only [if_true, isN, fold_110]
  rw [Wsc.pyFold_fold x]
  by_cases h1 : x = 304
  · subst h1; decide
  by_cases h2 : x = 305
  · subst h2; decide
  by_cases h3 : x = 383
  · subst h3; decide
  by_cases h4 : x = 8490
  · subst h4; decide
  simp only [h1, h2, h3, h4, if_false, lowerCp]
  rw [Bool.eq_iff_iff]
  simp only [beq_iff_eq, Bool.or_eq_true]
  split <;> omega

def digitsRx : Rx := .rep 1 none true digitSet

theorem spanLen_of_drop {P : Nat → Bool} : ∀ (D : Str) (p : Nat) (R : Str), s.drop p = D ++ R →
    (∀ x ∈ D, P x = true) → (∀ x ∈ R.head?, P x = false) → spanLen s P p = D.length
  | [], p, R, hd, _, hR => by
    cases R with
    | nil =>
      have : s[p]? = none := RxBasic.getElem?_of_drop_nil (by simpa using hd)
      rw [spanLen_of_none this]; rfl
    | cons x xs =>
      have hx : s[p]? = some x := getElem?_of_drop_cons (by simpa using hd)
      rw [spanLen_of_not hx (hR x (by simp))]; rfl
  | d :: D, p, R, hd, hD, hR => by
    have hx : s[p]? = some d := getElem?_of_drop_cons (by rw [hd]; rfl)
    have hd1 : s.drop (p + 1) = D ++ R := RxBasic.drop_succ_of_drop_cons (by rw [hd]; rfl)
    rw [spanLen_of_ok hx (hD d (by simp)),
      spanLen_of_drop D (p + 1) R hd1 (fun x hx => hD x (by simp [hx])) hR]
    rfl

theorem digits_runs {p : Nat} {D R : Str} (c : Caps) (hd : s.drop p = D ++ R)
    (hD : ∀ x ∈ D, isDigit x = true) (hR : ∀ x ∈ R.head?, isDigit x = false) :
    runs pyFoldEnv s digitsRx p c = down c (p + 1) (p + D.length) := by
  unfold digitsRx
  rw [runs_rep_char (isChar_digit s)]
  simp only [room, spanLen_of_drop D p R hd hD hR]

theorem digits_head {p : Nat} {D R : Str} (c : Caps) (hd : s.drop p = D ++ R) (hne : D ≠ [])
    (hD : ∀ x ∈ D, isDigit x = true) (hR : ∀ x ∈ R.head?, isDigit x = false) :
    (runs pyFoldEnv s digitsRx p c).head? = some (p + D.length, c) := by
  rw [digits_runs c hd hD hR]
  apply head_down
  have : 1 ≤ D.length := by cases D with | nil => exact absurd rfl hne | cons _ _ => simp
  omega

theorem digits_nil {p : Nat} (c : Caps) (h : ∀ x, s[p]? = some x → isDigit x = false) :
    runs pyFoldEnv s digitsRx p c = [] := by
  unfold digitsRx
  rw [runs_rep_char (isChar_digit s)]
  simp only [room]
  have : spanLen s isDigit p = 0 := by
    cases hx : s[p]? with
    | none => exact spanLen_of_none hx
    | some x => exact spanLen_of_not hx (h x hx)
  rw [this]
  exact down_empty c (by omega)

/-! ### `(?:[0-9]+n?|n)` -/

def rxA : Rx := .alt [.seq [digitsRx, .rep 0 (some 1) true litN], litN]

theorem litN_ok {p x : Nat} (c : Caps) (hx : s[p]? = some x) (hn : isN x = true) :
    runs pyFoldEnv s litN p c = [(p + 1, c)] := by
  rw [isChar_n s p c]; unfold charBody; rw [hx]; simp [hn]

theorem litN_fail {p : Nat} (c : Caps) (h : ∀ x, s[p]? = some x → isN x = false) :
    runs pyFoldEnv s litN p c = [] := by
  rw [isChar_n s p c]; unfold charBody
  cases hx : s[p]? with
  | none => rfl
  | some x => simp [h x hx]

theorem rxA_head {p : Nat} {D1 N R : Str} (c : Caps) (hd : s.drop p = D1 ++ (N ++ R))
    (hD1 : ∀ x ∈ D1, isDigit x = true) (hN : N = [] ∨ ∃ x, isN x = true ∧ N = [x])
    (hne : D1 ≠ [] ∨ N ≠ [])
    (hR : ∀ x ∈ R.head?, isDigit x = false ∧ isN x = false) :
    (runs pyFoldEnv s rxA p c).head? = some (p + D1.length + N.length, c) := by
  have hNR : ∀ x ∈ (N ++ R).head?, isDigit x = false := by
    rcases hN with h | ⟨x, hx, h⟩
    · subst h; intro y hy; exact (hR y (by simpa using hy)).1
    · subst h; intro y hy
      simp only [List.cons_append, List.head?_cons, Option.mem_def, Option.some.injEq] at hy
      subst hy
      simp only [isN, Bool.or_eq_true, beq_iff_eq] at hx
      rcases hx with h | h <;> subst h <;> rfl
  have hdN := drop_add_of_drop_append hd
  unfold rxA
  rw [runs_alt, runsAlt_cons, runsAlt_cons, runsAlt_nil, List.append_nil]
  by_cases hD : D1 = []
  · subst hD
    have hN' : N ≠ [] := by rcases hne with h | h; exact absurd rfl h; exact h
    obtain ⟨x, hx, rfl⟩ : ∃ x, isN x = true ∧ N = [x] := by
      rcases hN with h | h
      · exact absurd h hN'
      · exact h
    simp only [List.nil_append, List.length_nil, Nat.add_zero] at hd hdN ⊢
    have hx0 := getElem?_of_drop_cons (s := s) (p := p) (by rw [hd]; rfl)
    rw [runs_seq, runsSeq_cons, digits_nil c (by
      intro y hy; rw [hx0] at hy; cases hy
      simp only [isN, Bool.or_eq_true, beq_iff_eq] at hx
      rcases hx with h | h <;> subst h <;> rfl), litN_ok c hx0 hx]
    rfl
  · apply head?_append_of_some
    rw [runs_seq, runsSeq_cons]
    have hh := digits_head c hd hD hD1 hNR
    cases hr : runs pyFoldEnv s digitsRx p c with
    | nil => rw [hr] at hh; cases hh
    | cons y ys =>
      rw [hr] at hh
      simp only [List.head?_cons, Option.some.injEq] at hh
      subst hh
      apply head?_flatMap_cons
      rw [RefineInputs.runsSeq_opt, runsSeq_nil, RxBasic.runsSeq_single]
      rcases hN with h | ⟨x, hx, h⟩
      · subst h
        simp only [List.nil_append, List.length_nil, Nat.add_zero] at hdN ⊢
        rw [litN_fail c (by
          intro y hy
          have : R.head? = some y := by rw [← hdN, List.head?_drop]; exact hy
          exact (hR y (by simp [this])).2)]
        rfl
      · subst h
        have hx0 := getElem?_of_drop_cons (s := s) (p := p + D1.length) (by rw [hdN]; rfl)
        rw [litN_ok c hx0 hx]
        rfl

/-! ### `(?:(?<=n)WSC*[-+]WSC*[0-9]+)?` -/

def lookN : Rx := .look false false litN

theorem lookN_runs (p : Nat) (c : Caps) :
    runs pyFoldEnv s lookN p c =
      if (decide (1 ≤ p) && (match s[p - 1]? with | some x => isN x | none => false)) = true
      then [(p, c)] else [] := by
  unfold lookN
  rw [runs]
  have hw : Rx.width litN = some 1 := rfl
  simp only [hw]
  rw [isChar_n s (p - 1) c]
  unfold charBody
  by_cases hp : 1 ≤ p
  · cases hx : s[p - 1]? with
    | none => simp
    | some x =>
      by_cases hn : isN x = true
      · simp [hp, hn]
      · simp [hp, hn]
  · simp [hp]

theorem sign_runs_ok {p x : Nat} (c : Caps) (hx : s[p]? = some x) (hs : isSign x = true) :
    runs pyFoldEnv s signSet p c = [(p + 1, c)] := by
  rw [isChar_sign s p c]; unfold charBody; rw [hx]; simp [hs]

theorem sign_runs_nil {p : Nat} (c : Caps) (h : ∀ x, s[p]? = some x → isSign x = false) :
    runs pyFoldEnv s signSet p c = [] := by
  rw [isChar_sign s p c]; unfold charBody
  cases hx : s[p]? with
  | none => rfl
  | some x => simp [h x hx]

theorem sign_nil_at_unit {j : Nat} (c : Caps) (h : (unitEnd s j).isSome = true) :
    runs pyFoldEnv s signSet j c = [] :=
  runs_nil_at_unit signSet (by decide +kernel) s j c h

theorem digits_nil_at_unit {j : Nat} (c : Caps) (h : (unitEnd s j).isSome = true) :
    runs pyFoldEnv s digitsRx j c = [] :=
  runs_nil_at_unit digitsRx (by decide +kernel) s j c h

def tailRx (W3 W4 : Wrap s) : Rx := .seq [lookN, gapRx true, W3.w signSet, gapRx true, W4.w digitsRx]

theorem tail_head (W3 W4 : Wrap s) {p n sg : Nat} {g g' D2 R : Str} (c : Caps)
    (hp : 1 ≤ p) (hn : s[p - 1]? = some n) (hnn : isN n = true)
    (hd : s.drop p = g ++ (sg :: (g' ++ (D2 ++ R)))) (hg : isGap g) (hsg : isSign sg = true)
    (hg' : isGap g') (hne : D2 ≠ []) (hD2 : ∀ x ∈ D2, isDigit x = true)
    (hR : ∀ x ∈ R.head?, isDigit x = false) :
    (runs pyFoldEnv s (tailRx W3 W4) p c).head? =
      some (p + g.length + 1 + g'.length + D2.length,
        W4.f (p + g.length + 1 + g'.length) (p + g.length + 1 + g'.length + D2.length,
          W3.f (p + g.length) (p + g.length + 1, c))) := by
  have hsng : noGapStart (sg :: (g' ++ (D2 ++ R))) = true := by
    simp only [isSign, Bool.or_eq_true, beq_iff_eq] at hsg
    rcases hsg with h | h <;> subst h <;> simp [noGapStart, isCssWs]
  obtain ⟨d, ds, hds⟩ : ∃ d ds, D2 = d :: ds := by
    cases D2 with | nil => exact absurd rfl hne | cons d ds => exact ⟨d, ds, rfl⟩
  have hdng : noGapStart (D2 ++ R) = true := by
    have hdd := hD2 d (by simp [hds])
    simp only [isDigit, Bool.and_eq_true, decide_eq_true_eq] at hdd
    have h1 : isCssWs d = false := by simp [isCssWs]; omega
    have h2 : d ≠ 47 := by omega
    rw [hds]; simp [noGapStart, h1, h2]
  have hpl : p ≤ s.length := Nat.le_of_lt (lt_of_drop_append_cons hd)
  have hds1 := drop_add_of_drop_append hd
  have hsg0 := getElem?_of_drop_cons hds1
  have hds2 : s.drop (p + g.length + 1) = g' ++ (D2 ++ R) := RxBasic.drop_succ_of_drop_cons hds1
  have hds3 := drop_add_of_drop_append hds2
  have hsl := lt_of_drop_cons hds1
  unfold tailRx
  rw [runs_seq, runsSeq_cons, lookN_runs, hn]
  have hok : (decide (1 ≤ p) && (match some n with | some x => isN x | none => false)) = true := by
    simp [hp, hnn]
  rw [if_pos hok]
  simp only [List.flatMap_cons, List.flatMap_nil, List.append_nil]
  rw [gap_then_drop s c _ hd hg hsng
      (fun j c' hj => W3.nil _ _ j c' (sign_nil_at_unit c' hj)),
    W3.single _ _ _ c _ (sign_runs_ok c hsg0 hsg),
    gap_then_drop s _ _ hds2 hg' hdng
      (fun j c' hj => W4.nil _ _ j c' (digits_nil_at_unit c' hj))]
  exact W4.head _ _ _ _ _ _ (digits_head _ hds3 hne hD2 hR) (by rw [runsSeq_nil]; rfl)

theorem tail_nil (W3 W4 : Wrap s) {p : Nat} (c : Caps) (hpl : p ≤ s.length)
    (h : (∀ x, s[p - 1]? = some x → isN x = false) ∨ p = 0 ∨
      ∀ x ∈ (skipWSC (s.drop p)).head?, isSign x = false) :
    runs pyFoldEnv s (tailRx W3 W4) p c = [] := by
  unfold tailRx
  rw [runs_seq, runsSeq_cons, lookN_runs]
  by_cases hok : (decide (1 ≤ p) && (match s[p - 1]? with | some x => isN x | none => false)) = true
  · rw [if_pos hok]
    simp only [Bool.and_eq_true, decide_eq_true_eq] at hok
    rcases h with h | h | h
    · exfalso
      cases hx : s[p - 1]? with
      | none => rw [hx] at hok; simp at hok
      | some x => rw [hx] at hok; have := h x hx; simp [this] at hok
    · omega
    · simp only [List.flatMap_cons, List.flatMap_nil, List.append_nil]
      rw [Wsc.gap_then true (fun _ => Wsc.caseFree_pyFold) s p hpl c _
        (fun j c' hj => W3.nil _ _ j c' (sign_nil_at_unit c' hj))]
      apply W3.nil
      apply sign_runs_nil
      intro x hx
      apply h x
      rw [← Wsc.gapEnd_drop s p hpl, List.head?_drop, hx]; rfl
  · rw [if_neg hok]; rfl

/-! ### The whole `[-+]?(?:[0-9]+n?|n)(?:…)?` -/

def linRx (W1 W2 W3 W4 : Wrap s) : List Rx :=
  [.rep 0 (some 1) true (W1.w signSet), W2.w rxA, .rep 0 (some 1) true (tailRx W3 W4)]

/-- Captures after `(?:[0-9]+n?|n)(?:…)?` started at `i1` with captures `c1`. -/
def linRestCaps (W2 W3 W4 : Wrap s) (i1 : Nat) (c1 : Caps) (D : Str) (n : Option Nat)
    (T : Option (Str × Nat × Str × Str)) : Caps :=
  match T with
  | none => W2.f i1 (i1 + D.length + n.toList.length, c1)
  | some (g, _, g', D2) =>
    W4.f (i1 + D.length + n.toList.length + g.length + 1 + g'.length)
      (i1 + D.length + n.toList.length + g.length + 1 + g'.length + D2.length,
        W3.f (i1 + D.length + n.toList.length + g.length)
          (i1 + D.length + n.toList.length + g.length + 1,
            W2.f i1 (i1 + D.length + n.toList.length, c1)))

def linCaps (W1 W2 W3 W4 : Wrap s) (i : Nat) (c : Caps) (sg : Option Nat) (D : Str) (n : Option Nat)
    (T : Option (Str × Nat × Str × Str)) : Caps :=
  linRestCaps W2 W3 W4 (i + sg.toList.length) (match sg with | some _ => W1.f i (i + 1, c) | none => c) D n T

theorem gap_append_head {g R : Str} (hg : isGap g)
    (hR : ∀ x ∈ R.head?, isDigit x = false ∧ isN x = false) :
    ∀ x ∈ (g ++ R).head?, isDigit x = false ∧ isN x = false := by
  cases g with
  | nil => exact hR
  | cons y ys =>
    intro x hx
    simp only [List.cons_append, List.head?_cons, Option.mem_def, Option.some.injEq] at hx
    subst hx
    rcases gap_head hg y (by simp) with h | h
    · simp only [isCssWs, Bool.or_eq_true, beq_iff_eq] at h
      rcases h with (((e | e) | e) | e) | e <;> subst e <;> exact ⟨rfl, rfl⟩
    · subst h; exact ⟨rfl, rfl⟩

theorem lin_rest_head (W2 W3 W4 : Wrap s) (i1 : Nat) (c1 : Caps) (D : Str) (n : Option Nat)
    (T : Option (Str × Nat × Str × Str)) (R : Str)
    (hd : s.drop i1 = D ++ (n.toList ++ (tailText T ++ R)))
    (hD : ∀ x ∈ D, isDigit x = true)
    (hn : ∀ x, n = some x → isN x = true) (hne : D ≠ [] ∨ n.isSome = true) (hT : tailOK n T)
    (hR1 : ∀ x ∈ R.head?, isDigit x = false ∧ isN x = false)
    (hR2 : T = none → ∀ x ∈ (skipWSC R).head?, isSign x = false) :
    (runsSeq pyFoldEnv s [W2.w rxA, .rep 0 (some 1) true (tailRx W3 W4)] i1 c1).head? =
      some (i1 + D.length + n.toList.length + (tailText T).length,
        linRestCaps W2 W3 W4 i1 c1 D n T) := by
  have hTR : ∀ x ∈ (tailText T ++ R).head?, isDigit x = false ∧ isN x = false := by
    cases T with
    | none => simpa [tailText] using hR1
    | some q =>
      obtain ⟨g, s2, g', D2⟩ := q
      obtain ⟨_, hg, hs2, _, _, _⟩ := hT
      simp only [tailText, List.append_assoc, List.cons_append]
      apply gap_append_head hg
      intro x hx
      simp only [List.head?_cons, Option.mem_def, Option.some.injEq] at hx
      subst hx
      simp only [isSign, Bool.or_eq_true, beq_iff_eq] at hs2
      rcases hs2 with h | h <;> subst h <;> exact ⟨rfl, rfl⟩
  have hNopt : n.toList = [] ∨ ∃ x, isN x = true ∧ n.toList = [x] := by
    cases n with
    | none => exact Or.inl rfl
    | some x => exact Or.inr ⟨x, hn x rfl, rfl⟩
  have hne' : D ≠ [] ∨ n.toList ≠ [] := by
    rcases hne with h | h
    · exact Or.inl h
    · right; cases n with | none => cases h | some x => simp
  have hdn := drop_add_of_drop_append hd
  have hdt := drop_add_of_drop_append hdn
  have hil : i1 + D.length + n.toList.length ≤ s.length := by
    have := congrArg List.length hd
    simp only [List.length_drop, List.length_append] at this
    rcases Nat.lt_or_ge s.length i1 with h | h
    · exfalso
      rw [List.drop_eq_nil_of_le (by omega)] at hd
      have : D = [] ∧ n = none := by cases D <;> cases n <;> simp at hd ⊢
      rcases hne with h' | h'
      · exact h' this.1
      · rw [this.2] at h'; cases h'
    · omega
  apply W2.head rxA _ i1 c1 _ _ (rxA_head c1 hd hD hNopt hne' hTR)
  rw [RefineInputs.runsSeq_opt, runsSeq_nil, RxBasic.runsSeq_single]
  cases T with
  | none =>
    rw [tail_nil W3 W4 _ hil (Or.inr (Or.inr (by
      simp only [tailText, List.nil_append] at hdt
      rw [hdt]; exact hR2 rfl)))]
    simp [tailText, linRestCaps]
  | some q =>
    obtain ⟨g, s2, g', D2⟩ := q
    obtain ⟨hns, hg, hs2, hg', hne2, hD2⟩ := hT
    obtain ⟨x, rfl⟩ : ∃ x, n = some x := by cases n with | none => cases hns | some x => exact ⟨x, rfl⟩
    have hx0 := getElem?_of_drop_cons (s := s) (p := i1 + D.length) (by rw [hdn]; rfl)
    simp only [tailText, List.append_assoc, List.cons_append] at hdt
    apply head?_append_of_some
    rw [tail_head W3 W4 _ (by simp) (by simpa using hx0) (hn x rfl) hdt hg hs2 hg' hne2 hD2
      (fun y hy => (hR1 y hy).1)]
    simp only [tailText, linRestCaps, List.length_append, List.length_cons, Option.toList_some,
      List.length_nil]
    refine congrArg some (Prod.ext ?_ rfl)
    simp only; omega

theorem lin_head (W1 W2 W3 W4 : Wrap s) (i : Nat) (c : Caps) (sg : Option Nat) (D : Str) (n : Option Nat)
    (T : Option (Str × Nat × Str × Str)) (R : Str)
    (hd : s.drop i = sg.toList ++ (D ++ (n.toList ++ (tailText T ++ R))))
    (hsg : ∀ x, sg = some x → isSign x = true) (hD : ∀ x ∈ D, isDigit x = true)
    (hn : ∀ x, n = some x → isN x = true) (hne : D ≠ [] ∨ n.isSome = true) (hT : tailOK n T)
    (hR1 : ∀ x ∈ R.head?, isDigit x = false ∧ isN x = false)
    (hR2 : T = none → ∀ x ∈ (skipWSC R).head?, isSign x = false) :
    (runsSeq pyFoldEnv s (linRx W1 W2 W3 W4) i c).head? =
      some (i + (sg.toList ++ (D ++ (n.toList ++ tailText T))).length, linCaps W1 W2 W3 W4 i c sg D n T) := by
  have hd1 := drop_add_of_drop_append hd
  unfold linRx
  rw [RefineInputs.runsSeq_opt]
  cases sg with
  | some x =>
    have hx0 := getElem?_of_drop_cons (s := s) (p := i) (by rw [hd]; rfl)
    rw [W1.single _ _ _ c _ (sign_runs_ok c hx0 (hsg x rfl))]
    apply head?_append_of_some
    rw [lin_rest_head W2 W3 W4 (i + 1) _ D n T R (by simpa using hd1) hD hn hne hT hR1 hR2]
    refine congrArg some (Prod.ext ?_ rfl)
    simp only [Option.toList_some, List.length_cons, List.length_append, List.cons_append, List.nil_append]
    omega
  | none =>
    simp only [Option.toList_none, List.nil_append] at hd ⊢
    have hs0 : ∀ x, s[i]? = some x → isSign x = false := by
      intro x hx
      have hx' : (D ++ (n.toList ++ (tailText T ++ R))).head? = some x := by
        rw [← hd, List.head?_drop]; exact hx
      cases D with
      | cons d ds =>
        simp only [List.cons_append, List.head?_cons, Option.some.injEq] at hx'
        subst hx'
        have := hD d (by simp)
        simp only [isDigit, Bool.and_eq_true, decide_eq_true_eq] at this
        simp [isSign]; omega
      | nil =>
        cases n with
        | none => rcases hne with h | h; exact absurd rfl h; cases h
        | some y =>
          simp only [List.nil_append, Option.toList_some, List.cons_append, List.head?_cons,
            Option.some.injEq] at hx'
          subst hx'
          have := hn y rfl
          simp only [isN, Bool.or_eq_true, beq_iff_eq] at this
          rcases this with h | h <;> subst h <;> rfl
    rw [W1.nil _ _ _ c (sign_runs_nil c hs0), List.nil_append,
      lin_rest_head W2 W3 W4 i _ D n T R hd hD hn hne hT hR1 hR2]
    refine congrArg some (Prod.ext ?_ rfl)
    simp only [List.length_append]
    omega

/-! ### Keywords under IGNORECASE (letters other than `i`, `s`, `k`, which have non-ASCII variants) -/

/-- A lower-case ASCII letter that only its two ASCII case variants fold to. -/
def plainLetter (c : Nat) : Bool := 97 ≤ c && c ≤ 122 && c != 105 && c != 115 && c != 107

theorem fold_plainLetter (c x : Nat) (hc : plainLetter c = true) :
    (pyFoldEnv.fold x == pyFoldEnv.fold c) = (lowerCp x == c) := by
  simp only [plainLetter, Bool.and_eq_true, decide_eq_true_eq, bne_iff_ne, ne_eq] at hc
  rw [Wsc.pyFold_fold x, Wsc.pyFold_fold c]
  have hcc : (if c = 304 then 105 else if c = 305 then 105 else if c = 383 then 115
      else if c = 8490 then 107 else lowerCp c) = c := by
    simp only [lowerCp]
    rw [if_neg (by omega), if_neg (by omega), if_neg (by omega), if_neg (by omega), if_neg (by omega)]
  rw [hcc]
  by_cases h1 : x = 304
  · subst h1; simp [lowerCp]; omega
  by_cases h2 : x = 305
  · subst h2; simp [lowerCp]; omega
  by_cases h3 : x = 383
  · subst h3; simp [lowerCp]; omega
  by_cases h4 : x = 8490
  · subst h4; simp [lowerCp]; omega
  simp only [h1, h2, h3, h4, if_false]

/-- The expression the translator produces for a keyword under `re.I`. -/
def kwRx (kw : Str) : List Rx := kw.map fun c => Rx.lit c true

/-- A keyword of plain letters matches exactly the texts that lower-case to it. -/
theorem kw_runs : ∀ (kw w : Str) (p : Nat) (c : Caps) (R : Str) (rs : List Rx),
    (∀ x ∈ kw, plainLetter x = true) → s.drop p = w ++ R → lower w = kw →
    runsSeq pyFoldEnv s (kwRx kw ++ rs) p c = runsSeq pyFoldEnv s rs (p + w.length) c
  | [], w, p, c, R, rs, _, _, hl => by
    have : w = [] := by cases w with | nil => rfl | cons _ _ => simp [lower] at hl
    subst this; simp [kwRx]
  | k :: kw, w, p, c, R, rs, hk, hd, hl => by
    cases w with
    | nil => simp [lower] at hl
    | cons x w =>
      simp only [lower, List.map_cons, List.cons.injEq] at hl
      have hx0 := getElem?_of_drop_cons (s := s) (p := p) (by rw [hd]; rfl)
      have hd1 : s.drop (p + 1) = w ++ R := RxBasic.drop_succ_of_drop_cons (by rw [hd]; rfl)
      simp only [kwRx, List.map_cons, List.cons_append]
      rw [runsSeq_char (isChar_lit pyFoldEnv s k true), hx0]
      simp only [if_true, fold_plainLetter k x (hk k (by simp)), hl.1, beq_self_eq_true]
      have := kw_runs kw w (p + 1) c R rs (fun y hy => hk y (by simp [hy])) hd1 hl.2
      simp only [kwRx] at this
      rw [this]
      simp only [List.length_cons]
      congr 1; omega

theorem kw_reads {kw w w₂ R : Str} {rs : List Rx} {G : List (Nat × Str)} (hk : ∀ x ∈ kw, plainLetter x = true)
    (hl : lower w = kw) (h : ReadsSeq pyFoldEnv rs w₂ R G) : ReadsSeq pyFoldEnv (kwRx kw ++ rs) (w ++ w₂) R G :=
  ReadsSeq.append_eq (fun _ p c _ hd => kw_runs kw w p c _ rs hk hd hl) h

theorem kw_fail (k : Nat) (kw : Str) (p : Nat) (c : Caps) (rs : List Rx) (hk : plainLetter k = true)
    (h : ∀ x, s[p]? = some x → lowerCp x ≠ k) :
    runsSeq pyFoldEnv s (kwRx (k :: kw) ++ rs) p c = [] := by
  simp only [kwRx, List.map_cons, List.cons_append]
  rw [runsSeq_char (isChar_lit pyFoldEnv s k true)]
  cases hx : s[p]? with
  | none => rfl
  | some x =>
    simp only [if_true, fold_plainLetter k x hk]
    have := h x hx
    simp [this]

theorem lower_even (m : List Bool) : lower (mixCase m "even".toStr) = "even".toStr :=
  SpellingLemmas.lower_mixCase m _ (by decide)
theorem lower_odd (m : List Bool) : lower (mixCase m "odd".toStr) = "odd".toStr :=
  SpellingLemmas.lower_mixCase m _ (by decide)
theorem lower_of (m : List Bool) : lower (mixCase m "of".toStr) = "of".toStr :=
  SpellingLemmas.lower_mixCase m _ (by decide)

def evenRx : Rx := .seq (kwRx "even".toStr)
def oddRx : Rx := .seq (kwRx "odd".toStr)

/-- The An+B alternative of the `nth` tokens (no groups inside). -/
def rxAnbU (s : Str) : Rx :=
  .alt [.seq (linRx (Wrap.none s) (Wrap.none s) (Wrap.none s) (Wrap.none s)), evenRx, oddRx]

theorem linCaps_none (i : Nat) (c : Caps) (sg : Option Nat) (D : Str) (n : Option Nat)
    (T : Option (Str × Nat × Str × Str)) :
    linCaps (Wrap.none s) (Wrap.none s) (Wrap.none s) (Wrap.none s) i c sg D n T = c := by
  cases sg <;> cases T <;> rfl

theorem lin_nil_at_letter {p : Nat} (c : Caps)
    (h : ∀ x, s[p]? = some x → isSign x = false ∧ isDigit x = false ∧ isN x = false) :
    runsSeq pyFoldEnv s (linRx (Wrap.none s) (Wrap.none s) (Wrap.none s) (Wrap.none s)) p c = [] := by
  unfold linRx
  rw [RefineInputs.runsSeq_opt, (Wrap.none s).nil _ _ _ c (sign_runs_nil c (fun x hx => (h x hx).1)),
    List.nil_append]
  apply (Wrap.none s).nil
  unfold rxA
  rw [runs_alt, runsAlt_cons, runsAlt_cons, runsAlt_nil, runs_seq, runsSeq_cons,
    digits_nil c (fun x hx => (h x hx).2.1), litN_fail c (fun x hx => (h x hx).2.2)]
  rfl

theorem SAnB.lin_head {sg : Option Nat} {D : Str} {n : Option Nat} {T : Option (Str × Nat × Str × Str)}
    (hok : (SAnB.lin sg D n T).ok) :
    ∃ h t, (SAnB.lin sg D n T).render = h :: t ∧ (isSign h = true ∨ isDigit h = true ∨ isN h = true) := by
  obtain ⟨hsg, hD, hn, hne, _⟩ := hok
  cases sg with
  | some x => exact ⟨x, _, rfl, Or.inl (hsg x rfl)⟩
  | none =>
    cases D with
    | cons d ds => exact ⟨d, _, rfl, Or.inr (Or.inl (hD d (by simp)))⟩
    | nil =>
      cases n with
      | none => rcases hne with h | h; exact absurd rfl h; cases h
      | some y => exact ⟨y, _, rfl, Or.inr (Or.inr (hn y rfl))⟩

theorem head_of_lower_letter {w kw : Str} {k : Nat} (hl : lower w = k :: kw) (hk : 97 ≤ k ∧ k ≤ 122) :
    ∃ y ys, w = y :: ys ∧ isCssWs y = false ∧ y ≠ 47 := by
  cases w with
  | nil => cases hl
  | cons y ys =>
    have : lowerCp y = k := (List.cons.inj hl).1
    simp only [lowerCp] at this
    exact ⟨y, ys, rfl, by simp [isCssWs]; split at this <;> omega, by split at this <;> omega⟩

theorem lowerCp_head_of_drop {p k : Nat} {w kw R : Str} (hd : s.drop p = w ++ R) (hl : lower w = k :: kw) :
    ∀ x, s[p]? = some x → lowerCp x = k := by
  intro x hx
  cases w with
  | nil => cases hl
  | cons y ys =>
    rw [getElem?_of_drop_cons (s := s) (p := p) (by rw [hd]; rfl)] at hx
    cases hx
    simp only [lower, List.map_cons] at hl
    exact (List.cons.inj hl).1

/-- The linear form has no run where a letter other than `n` stands (in either case). -/
theorem lin_nil_at_lower {p k : Nat} (c : Caps) (hk : 97 ≤ k ∧ k ≤ 122 ∧ k ≠ 110)
    (h : ∀ x, s[p]? = some x → lowerCp x = k) :
    runsSeq pyFoldEnv s (linRx (Wrap.none s) (Wrap.none s) (Wrap.none s) (Wrap.none s)) p c = [] :=
  lin_nil_at_letter c (by
    intro x hx
    have := h x hx
    simp only [lowerCp] at this
    refine ⟨?_, ?_, ?_⟩
    · simp [isSign]; split at this <;> omega
    · simp [isDigit]; split at this <;> omega
    · simp [isN]; split at this <;> omega)

theorem anb_head (a : SAnB) (hok : a.ok) (p : Nat) (c : Caps) (R : Str)
    (hd : s.drop p = a.render ++ R)
    (hR1 : ∀ x ∈ R.head?, isDigit x = false ∧ isN x = false)
    (hR2 : ∀ x ∈ (skipWSC R).head?, isSign x = false) :
    (runs pyFoldEnv s (rxAnbU s) p c).head? = some (p + a.render.length, c) := by
  unfold rxAnbU
  rw [runs_alt, runsAlt_cons, runsAlt_cons, runsAlt_cons, runsAlt_nil, List.append_nil]
  cases a with
  | lin sg D n T =>
    obtain ⟨hsg, hD, hn, hne, hT⟩ := hok
    apply head?_append_of_some
    rw [runs_seq, lin_head _ _ _ _ p c sg D n T R
      (by simpa [SAnB.render, List.append_assoc] using hd) hsg hD hn hne hT hR1 (fun _ => hR2),
      linCaps_none]
    rfl
  | even m =>
    have hl := lower_even m
    have hx := lowerCp_head_of_drop (k := 101) (kw := "ven".toStr) hd hl
    rw [runs_seq, lin_nil_at_lower c (by omega) hx, List.nil_append]
    apply head?_append_of_some
    unfold evenRx
    rw [runs_seq]
    have := kw_runs "even".toStr _ p c R [] (by decide) hd hl
    simp only [List.append_nil] at this
    rw [this, runsSeq_nil]
    rfl
  | odd m =>
    have hl := lower_odd m
    have hx := lowerCp_head_of_drop (k := 111) (kw := "dd".toStr) hd hl
    rw [runs_seq, lin_nil_at_lower c (by omega) hx, List.nil_append]
    unfold evenRx
    rw [runs_seq]
    have hfail := kw_fail 101 "ven".toStr p c [] (by decide) (by
      intro x hx'; rw [hx x hx']; decide)
    simp only [List.append_nil] at hfail
    have he : kwRx "even".toStr = kwRx (101 :: "ven".toStr) := rfl
    rw [he, hfail, List.nil_append]
    unfold oddRx
    rw [runs_seq]
    have := kw_runs "odd".toStr _ p c R [] (by decide) hd hl
    simp only [List.append_nil] at this
    rw [this, runsSeq_nil]
    rfl

end Compile
end Refine
end SoupVerif

#print axioms SoupVerif.Refine.Compile.lin_head
#print axioms SoupVerif.Refine.Compile.anb_head
