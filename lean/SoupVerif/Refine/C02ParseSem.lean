/-
  C02 from the selector TEXT: from what the parser's builder receives to what the matcher decides.

  `C09Compile.denote` computes the compiled selector from the token values by applying, item after item,
  `Item.apply` to the `_Selector` builder `SelB`.  Every item is one conjunct of the matcher's verdict on the frozen
  builder, whatever the other items and wherever it stands (`Refine/BuilderMerge.lean`:
  `matchSel_freeze_applyItems`); items that only append nth records (`AddsNth`, `AddsNthL`) contribute
  `matchNths c l e rs` (`matchList_insertL`).  `NthExt rs b b'` says that `b'` is `b` with the records `rs` inserted
  into its `nth` list; merging the same simple selectors into both keeps it (`NthExt.merge`, `NthExt.plainPseudo`).
  `CSS_NTH_OF_S_DEFAULT` (`*|*`) matches every element, so it counts exactly what the empty `of S` list counts.
-/
import SoupVerif.Refine.Syntax
import SoupVerif.Properties.C02Site
import SoupVerif.Refine.C02ParseAnB
import SoupVerif.Properties.C06GenPseudo
import SoupVerif.Refine.BuilderMerge
namespace SoupVerif
namespace Refine
namespace C02Parse
open SoupVerif.Parser Refine.Compile
open C09Compile (Item Compound SelListV AttrV denote finishTop finishNested foldRest applyItems applyItems_append)
open C01Parse (addRelations_nil implB)

/-- `b'` is the builder `b` with the records `rs` inserted somewhere into its `nth` list. -/
def NthExt (rs : List NthSel) (b b' : SelB) : Prop :=
  ∃ t a bb c n1 n2 e f g h i j k,
    b = .mk t a bb c (n1 ++ n2) e f g h i j k ∧ b' = .mk t a bb c (n1 ++ (rs ++ n2)) e f g h i j k

variable {rs : List NthSel} {b b' : SelB}

theorem NthExt.merge (d : SelB) (h : NthExt rs b b') : NthExt rs (b.merge d) (b'.merge d) := by
  obtain ⟨t, a, bb, c, n1, n2, e, f, g, h, i, j, k, rfl, rfl⟩ := h
  obtain ⟨t', a', b2, c', d', e', f', g', h', i', j', k'⟩ := d
  exact ⟨t, a ++ a', bb ++ b2, c ++ c', n1, n2 ++ d', e ++ e', f, g, h ++ h', i ++ i', j ||| j', k || k',
    by rw [SelB.merge_mk, List.append_assoc], by rw [SelB.merge_mk, List.append_assoc, List.append_assoc]⟩

theorem NthExt.plainPseudo (B : Builtins) (n : Str) (h : NthExt rs b b') :
    NthExt rs (plainPseudo B n b) (plainPseudo B n b') := by
  rw [(BuilderMerge.additive_plainPseudo B n).eq b, (BuilderMerge.additive_plainPseudo B n).eq b']
  exact h.merge _

/-- An item that only appends the records `rs` to the builder's `nth` list. -/
def AddsNth (B : Builtins) (it : Item) (rs : List NthSel) : Prop := ∀ b, it.apply B b = b.addNth rs

theorem denote_single (B : Builtins) (cp : Compound) :
    denote B (.mk cp []) = .mk [(implB false (cp.buildOn B SelB.empty)).freeze] false false := by
  simp only [denote, SelListV.loopState, foldRest, C01Parse.finishTop_eq, C01Parse.outOf, List.nil_append,
    addRelations_nil, List.map_cons, List.map_nil]

/-- Consecutive items that together only append the records `rs`. -/
def AddsNthL (B : Builtins) (mids : List Item) (rs : List NthSel) : Prop :=
  ∀ b, applyItems B mids b = b.addNth rs

theorem addNth_addNth (b : SelB) (x y : List NthSel) : (b.addNth x).addNth y = b.addNth (x ++ y) := by
  cases b; simp [SelB.addNth]

theorem addNth_nil (b : SelB) : b.addNth [] = b := by
  cases b; simp [SelB.addNth]

theorem AddsNthL.nil (B : Builtins) : AddsNthL B [] [] := by
  intro b; simp only [applyItems, addNth_nil]

theorem AddsNthL.cons {B : Builtins} {it : Item} {mids : List Item} {r rs' : List NthSel}
    (h : AddsNth B it r) (h' : AddsNthL B mids rs') : AddsNthL B (it :: mids) (r ++ rs') := by
  intro b
  simp only [applyItems]
  rw [h, h', addNth_addNth]

theorem AddsNthL.single {B : Builtins} {it : Item} {r : List NthSel} (h : AddsNth B it r) :
    AddsNthL B [it] r := by
  have := AddsNthL.cons h (AddsNthL.nil B)
  simpa using this

/-- What stands in front of the subject compound of a complex selector: nothing, or
    `first (comb compound)* comb` (values). -/
abbrev CtxV := Option (Compound × List (Nat × Compound) × Nat)

def selV (cx : CtxV) (subj : Compound) : SelListV :=
  match cx with
  | none => .mk subj []
  | some (first, rest₀, cb) => .mk first (rest₀ ++ [(cb, subj)])

/-- No comma among the combinators: a single complex selector. -/
def NoCommaV (cx : CtxV) : Prop :=
  match cx with
  | none => True
  | some (_, rest₀, cb) => (∀ p ∈ rest₀, p.1 ≠ 44) ∧ cb ≠ 44

theorem combStep_nc (c : Nat) (ip : Bool) (st : LS) (hc : c ≠ 44) :
    (combStep c ip st).selectors = st.selectors ∧ (combStep c ip st).isHtml = st.isHtml := by
  have : (c == 44) = false := by simpa using hc
  unfold combStep
  simp [this]

theorem foldRest_nc (B : Builtins) (ip : Bool) : ∀ (l : List (Nat × Compound)) (st : LS),
    (∀ p ∈ l, p.1 ≠ 44) →
    (foldRest B ip l st).selectors = st.selectors ∧ (foldRest B ip l st).isHtml = st.isHtml
  | [], st, _ => by simp only [foldRest, and_self]
  | x :: rest, st, h => by
    simp only [foldRest]
    obtain ⟨h1, h2⟩ := foldRest_nc B ip rest
      { combStep x.1 ip st with sel := x.2.buildOn B SelB.empty, hasSelector := true }
      (fun p hp => h p (by simp [hp]))
    obtain ⟨h3, h4⟩ := combStep_nc x.1 ip st (h x (by simp))
    exact ⟨h1.trans h3, h2.trans h4⟩

theorem foldRest_snoc (B : Builtins) (ip : Bool) : ∀ (l : List (Nat × Compound)) (x : Nat × Compound) (st : LS),
    foldRest B ip (l ++ [x]) st =
      { combStep x.1 ip (foldRest B ip l st) with sel := x.2.buildOn B SelB.empty, hasSelector := true }
  | [], x, st => by simp only [List.nil_append, foldRest]
  | y :: l, x, st => by
    simp only [List.cons_append, foldRest]
    exact foldRest_snoc B ip l x _

theorem denote_selV (B : Builtins) (cx : CtxV) (hnc : NoCommaV cx) :
    ∃ R : List SelB, ∀ subj : Compound,
      denote B (selV cx subj) = .mk [((implB false (subj.buildOn B SelB.empty)).addRelations R).freeze] false false := by
  cases cx with
  | none =>
    refine ⟨[], fun subj => ?_⟩
    rw [selV, denote_single, addRelations_nil]
  | some q =>
    obtain ⟨first, rest₀, cb⟩ := q
    obtain ⟨h1, h2⟩ := hnc
    let st0 : LS := { sel := first.buildOn B SelB.empty, hasSelector := true }
    refine ⟨(combStep cb false (foldRest B false rest₀ st0)).relations, fun subj => ?_⟩
    obtain ⟨h3, h4⟩ := foldRest_nc B false rest₀ st0 h1
    obtain ⟨h5, h6⟩ := combStep_nc cb false (foldRest B false rest₀ st0) h2
    simp only [selV, denote, SelListV.loopState, foldRest_snoc, C01Parse.finishTop_eq, C01Parse.outOf]
    rw [h5, h6, h3, h4]
    rfl

/-- **Several adjacent items, in the subject compound of a comma-free complex selector.**  If the items
    `mids` only append the records `rs`, the compiled selector with `mids` among the items of its subject
    compound matches exactly when the compiled selector without them matches and all of `rs` match. -/
theorem matchList_insertL (B : Builtins) (cx : CtxV) (hnc : NoCommaV cx) (mids : List Item)
    (h : AddsNthL B mids rs) (tag : Option Str) (pre post : List Item) (c : Ctx) (l : Loc) (e : Elem) :
    matchList c l e (denote B (selV cx (.mk tag (pre ++ mids ++ post)))) =
      (matchList c l e (denote B (selV cx (.mk tag (pre ++ post)))) && matchNths c l e rs) := by
  obtain ⟨R, hR⟩ := denote_selV B cx hnc
  -- every item of the subject compound is one conjunct (`matchSel_freeze_applyItems`), whatever stands around it
  have key : ∀ items : List Item, matchList c l e (denote B (selV cx (.mk tag items))) =
      (matchSel c l e ((implB false (Compound.buildOn B (.mk tag []) SelB.empty)).addRelations R).freeze &&
        items.all (Item.holds B c l e)) := by
    intro items
    rw [hR, SatCore.matchList_single]
    simp only [Compound.buildOn, applyItems]
    rw [(C09Compile.additive_applyItems B items).implB, (C09Compile.additive_applyItems B items).addRelations,
      C09Compile.matchSel_freeze_applyItems]
  have hm : mids.all (Item.holds B c l e) = matchNths c l e rs := by
    have := C09Compile.matchSel_freeze_applyItems B c l e mids SelB.empty
    rwa [h, BuilderMerge.alone_addNth, BuilderMerge.matchSel_freeze_empty, Bool.true_and, eq_comm] at this
  rw [key, key, List.all_append, List.all_append, List.all_append, hm]
  ac_rfl

/-- **One more item, one more conjunct.**  If the item `it` only appends the records `rs`, the compiled
    compound with `it` among its items matches exactly when the compiled compound without `it` matches
    and all of `rs` match. -/
theorem matchList_insert (B : Builtins) (it : Item) (h : AddsNth B it rs) (tag : Option Str)
    (pre post : List Item) (c : Ctx) (l : Loc) (e : Elem) :
    matchList c l e (denote B (.mk (.mk tag (pre ++ it :: post)) [])) =
      (matchList c l e (denote B (.mk (.mk tag (pre ++ post)) [])) && matchNths c l e rs) := by
  simpa [selV] using matchList_insertL B none trivial [it] (.single h) tag pre post c l e

theorem denote_congrL (B : Builtins) (cx : CtxV) (mids mids' : List Item) (h : AddsNthL B mids rs)
    (h' : AddsNthL B mids' rs) (tag : Option Str) (pre post : List Item) :
    denote B (selV cx (.mk tag (pre ++ mids ++ post))) = denote B (selV cx (.mk tag (pre ++ mids' ++ post))) := by
  have e : Compound.buildOn B (.mk tag (pre ++ mids ++ post)) = Compound.buildOn B (.mk tag (pre ++ mids' ++ post)) := by
    funext b
    simp only [Compound.buildOn]
    rw [applyItems_append, applyItems_append, applyItems_append, applyItems_append, h, h']
  cases cx with
  | none => simp only [selV, denote, SelListV.loopState, e]
  | some q =>
    obtain ⟨first, rest₀, cb⟩ := q
    simp only [selV, denote, SelListV.loopState, foldRest_snoc, e]

inductive NthName where
  | child | lastChild | ofType | lastOfType
  deriving DecidableEq, Repr

/-- The lower-cased name with its colon, as `parse_pseudo_nth` compares it. -/
def NthName.text : NthName → Str
  | .child => ":nth-child".toStr
  | .lastChild => ":nth-last-child".toStr
  | .ofType => ":nth-of-type".toStr
  | .lastOfType => ":nth-last-of-type".toStr

def NthName.isOfType : NthName → Bool
  | .ofType => true | .lastOfType => true | _ => false

def NthName.isLast : NthName → Bool
  | .lastChild => true | .lastOfType => true | _ => false

theorem nthName_of_ok {n : Str} (h : nthTypeName n ∨ nthChildName n) : ∃ k : NthName, n = k.text := by
  rcases h with (h | h) | (h | h)
  · exact ⟨.ofType, h⟩
  · exact ⟨.lastOfType, h⟩
  · exact ⟨.child, h⟩
  · exact ⟨.lastChild, h⟩

theorem nthChildName_iff (k : NthName) : nthChildName k.text ↔ k.isOfType = false := by
  cases k <;> (unfold nthChildName NthName.text NthName.isOfType; decide_lit)

/-- The `of S` list of the record: empty for the `-of-type` forms; for the `-child` forms the compiled `S`,
    or `CSS_NTH_OF_S_DEFAULT` (`*|*`) when there is no `of S`. -/
def nthSels (B : Builtins) (k : NthName) (ofSel : Option SelList) : SelList :=
  if k.isOfType then .mk [] false false else ofSel.getD B.nthOfSDefault

/-- The record `parse_pseudo_nth` builds, from the canonical An+B text. -/
def nthRecord (B : Builtins) (k : NthName) (canon : Str) (ofSel : Option SelList) : NthSel :=
  let anb := parseAnB ⟨pyFoldEnv, Gen.lexicon, B, []⟩ canon
  .mk anb.1 anb.2.1 anb.2.2 k.isOfType k.isLast (nthSels B k ofSel)

theorem nthBuild_eq (B : Builtins) (k : NthName) (canon : Str) (ofSel : Option SelList) (b : SelB) :
    nthBuild B k.text canon ofSel b = b.addNth [nthRecord B k canon ofSel] := by
  have e1 : (":nth-child".toStr == ":nth-of-type".toStr) = false := by decide_lit
  have e2 : (":nth-child".toStr == ":nth-last-of-type".toStr) = false := by decide_lit
  have e3 : (":nth-last-child".toStr == ":nth-of-type".toStr) = false := by decide_lit
  have e4 : (":nth-last-child".toStr == ":nth-last-of-type".toStr) = false := by decide_lit
  have e5 : (":nth-last-child".toStr == ":nth-child".toStr) = false := by decide_lit
  have e6 : (":nth-last-of-type".toStr == ":nth-of-type".toStr) = false := by decide_lit
  cases k <;>
    simp [Compile.nthBuild, NthName.text, nthRecord, nthSels, NthName.isOfType, NthName.isLast, nthOf,
      e1, e2, e3, e4, e5, e6]

theorem addsNth_nth (B : Builtins) (k : NthName) (canon : Str) :
    AddsNth B (.nth k.text canon) [nthRecord B k canon none] := by
  intro b
  simp only [Item.apply]
  exact nthBuild_eq B k canon none b

theorem addsNth_nthOf (B : Builtins) (k : NthName) (canon : Str) (l : SelListV) :
    AddsNth B (.nthOf k.text canon l) [nthRecord B k canon (some (finishNested false (l.loopState B true)))] := by
  intro b
  simp only [Item.apply]
  exact nthBuild_eq B k canon _ b

/-- `:first-child` & co. -/
inductive Keyword where
  | firstChild | lastChild | onlyChild | firstOfType | lastOfType | onlyOfType
  deriving DecidableEq, Repr

def Keyword.text : Keyword → Str
  | .firstChild => ":first-child".toStr
  | .lastChild => ":last-child".toStr
  | .onlyChild => ":only-child".toStr
  | .firstOfType => ":first-of-type".toStr
  | .lastOfType => ":last-of-type".toStr
  | .onlyOfType => ":only-of-type".toStr

/-- The functional forms a keyword abbreviates: `:nth-child(1)`, `:nth-last-child(1)`, both, … -/
def Keyword.forms : Keyword → List NthName
  | .firstChild => [.child]
  | .lastChild => [.lastChild]
  | .onlyChild => [.child, .lastChild]
  | .firstOfType => [.ofType]
  | .lastOfType => [.lastOfType]
  | .onlyOfType => [.ofType, .lastOfType]

/-- The record `parse_pseudo_class` appends for a keyword: `SelectorNth(1, False, 0, of_type, last,
    SelectorList())`. -/
def kwRecord (k : NthName) : NthSel := .mk 1 false 0 k.isOfType k.isLast (.mk [] false false)

/-- The keyword has a branch of its own in the chain of `parse_pseudo_class`, which appends its records. -/
theorem kw_entry (kw : Keyword) : ∃ s : String, kw.text = s.toStr ∧
    ([s], ParseDisp.PseudoAction.appendNth (kw.forms.map fun k => ⟨1, false, 0, k.isOfType, k.isLast⟩)) ∈
      Gen.PyParseDisp.pseudoNames := by
  -- the six keyword branches are the last ones of the chain, after seventeen others
  cases kw <;> exact ⟨_, rfl, List.mem_of_mem_drop (i := 17) (by decide +kernel)⟩

theorem plainPseudo_kw (B : Builtins) (kw : Keyword) (b : SelB) :
    plainPseudo B kw.text b = b.addNth (kw.forms.map kwRecord) := by
  obtain ⟨s, hs, hmem⟩ := kw_entry kw
  rw [hs, C06GenPseudo.plainPseudo_of_mem B hmem (List.mem_singleton_self s)]
  simp only [ParseDisp.runPseudo, List.map_map]
  rfl

theorem addsNth_kw (B : Builtins) (kw : Keyword) : AddsNth B (.pseudo kw.text) (kw.forms.map kwRecord) := by
  intro b
  simp only [Item.apply]
  exact plainPseudo_kw B kw b

theorem kw_plainName (kw : Keyword) : C09Compile.plainName kw.text := by
  obtain ⟨s, hs, hmem⟩ := kw_entry kw
  exact hs ▸ Or.inl (C06GenPseudo.simple_of_mem hmem (List.mem_singleton_self s))

open C02Site

theorem matchNths_single (c : Ctx) (l : Loc) (e : Elem) (r : NthSel) :
    matchNths c l e [r] = matchNth c l e r := by
  simp [matchNths]

theorem matchNths_pair (c : Ctx) (l : Loc) (e : Elem) (r r' : NthSel) :
    matchNths c l e [r, r'] = (matchNth c l e r && matchNth c l e r') := by
  simp [matchNths]

/-- `match_nth` on any record, both readings of `var` at once: `C02Site.matchNth_sat` with `Designates` unfolded. -/
theorem matchNth_designates (c : Ctx) (l : Loc) (e : Elem) (he : l.elem? = some e) (a : Int) (var : Bool)
    (b : Int) (ofType last : Bool) (sels : SelList) :
    matchNth c l e (.mk a var b ofType last sels) = true ↔
      preCheck c l e sels = true ∧ Designates (a, var, b) (position c l e ofType last sels) := by
  rw [matchNth_sat c l e he, Bool.and_eq_true]
  cases var with
  | true => rw [if_pos rfl, NthSpec.nthSatB_iff]; rfl
  | false => rw [if_neg Bool.false_ne_true, decide_eq_true_iff]; rfl

/-- Shape of the regenerated built-in list (`css_parser.CSS_NTH_OF_S_DEFAULT`, compiled from `*|*`). -/
theorem default_shape : Gen.builtinsRec.nthOfSDefault =
    .mk [.mk (some ⟨[42], some [42]⟩) [] [] [] [] [] (.mk [] false false) .none [] [] 0] false false := rfl

theorem matchList_default (c : Ctx) (l : Loc) (e : Elem) :
    matchList c l e Gen.builtinsRec.nthOfSDefault = true := by
  rw [default_shape, SatCore.matchList_single, matchSel_mk, simplePart_nil, relOk_nil, Bool.and_true, Bool.and_true]
  -- the type selector `*|*` passes whatever the element's namespace and name
  have hs : ("*".toStr : Str) = [42] := by decide
  simp [matchTag, matchNamespace, matchTagname_star, hs]

theorem preCheck_default (c : Ctx) (l : Loc) (e : Elem) :
    preCheck c l e Gen.builtinsRec.nthOfSDefault = true := by
  simp [preCheck, matchList_default]

theorem preCheck_empty (c : Ctx) (l : Loc) (e : Elem) : preCheck c l e (.mk [] false false) = true := by
  simp [preCheck, SelList.nonEmpty, SelList.sels]

theorem counted_default (c : Ctx) (e : Elem) (ofType : Bool) :
    counted c e ofType Gen.builtinsRec.nthOfSDefault = counted c e ofType (.mk [] false false) := by
  funext ch
  unfold counted
  cases ch.elem? with
  | none => rfl
  | some ce => simp [matchList_default, SelList.nonEmpty, SelList.sels]

theorem position_default (c : Ctx) (l : Loc) (e : Elem) (ofType last : Bool) :
    position c l e ofType last Gen.builtinsRec.nthOfSDefault =
      position c l e ofType last (.mk [] false false) := by
  unfold position
  rw [counted_default]

theorem matchNth_default (c : Ctx) (l : Loc) (e : Elem) (a : Int) (var : Bool) (b : Int) (ofType last : Bool) :
    matchNth c l e (.mk a var b ofType last Gen.builtinsRec.nthOfSDefault) =
      matchNth c l e (.mk a var b ofType last (.mk [] false false)) := by
  rw [matchNth_eq, matchNth_eq, preCheck_default, preCheck_empty, counted_default]

theorem preCheck_nthSels (c : Ctx) (l : Loc) (e : Elem) (k : NthName) :
    preCheck c l e (nthSels Gen.builtinsRec k none) = true := by
  unfold nthSels; split
  · exact preCheck_empty c l e
  · exact preCheck_default c l e

theorem position_nthSels (c : Ctx) (l : Loc) (e : Elem) (k : NthName) :
    position c l e k.isOfType k.isLast (nthSels Gen.builtinsRec k none) =
      position c l e k.isOfType k.isLast (.mk [] false false) := by
  unfold nthSels; split
  · rfl
  · exact position_default c l e _ _

/-- With soupsieve's built-in lists, the record of `:nth-…(x)` for any accepted spelling `x` of the value
    `0n+1` (`1`, `+1`, `01`, `0n+1`, `-0n + 1`, …) and the record of the keyword form give the same answer on
    every element. -/
theorem matchNth_one (c : Ctx) (l : Loc) (e : Elem) (he : l.elem? = some e) (k : NthName) (x : SAnB)
    (hx : x.ok) (h1 : anbValue x = (0, 1)) :
    matchNth c l e (nthRecord Gen.builtinsRec k x.canon none) = matchNth c l e (kwRecord k) := by
  rw [Bool.eq_iff_iff, nthRecord, matchNth_designates c l e he, parse_anb_value Gen.builtinsRec [] x hx,
    kwRecord, matchNth_const_iff c l e he, preCheck_nthSels, preCheck_empty, position_nthSels, h1]
  simp only [true_and, Int.zero_mul, Int.zero_add]
  exact ⟨fun ⟨_, h⟩ => h, fun h => ⟨0, h⟩⟩

/-- For a bare integer of value 1 (`1`, `+1`, `001`, …) the record is literally `(1, False, 0, …)`; for the
    `-of-type` names that is the keyword's record, for the `-child` names it differs from it in the `of S`
    field only (`CSS_NTH_OF_S_DEFAULT` instead of the empty list). -/
theorem nthRecord_one (B : Builtins) (k : NthName) (x : SAnB) (hx : x.ok) (hn : hasN x = false)
    (h1 : anbValue x = (0, 1)) :
    nthRecord B k x.canon none = .mk 1 false 0 k.isOfType k.isLast (nthSels B k none) := by
  have h := parseAnB_canon_eq B [] x hx
  rw [hn, h1] at h
  simp only [Bool.false_eq_true, if_false] at h
  simp only [nthRecord]
  rw [show parseAnB ⟨pyFoldEnv, Gen.lexicon, B, []⟩ x.canon = (1, false, 0) from h]

theorem nthRecord_one_ofType (B : Builtins) (k : NthName) (hk : k.isOfType = true) (x : SAnB) (hx : x.ok)
    (hn : hasN x = false) (h1 : anbValue x = (0, 1)) :
    nthRecord B k x.canon none = kwRecord k := by
  rw [nthRecord_one B k x hx hn h1, kwRecord, nthSels, hk]
  rfl

end C02Parse
end Refine
end SoupVerif

#print axioms SoupVerif.Refine.C02Parse.matchList_insertL
#print axioms SoupVerif.Refine.C02Parse.denote_congrL
#print axioms SoupVerif.Refine.C02Parse.matchNth_designates
#print axioms SoupVerif.Refine.C02Parse.matchNth_default
#print axioms SoupVerif.Refine.C02Parse.matchNth_one
#print axioms SoupVerif.Refine.C02Parse.nthRecord_one_ofType
