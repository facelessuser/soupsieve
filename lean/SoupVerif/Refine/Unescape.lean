/-
  Refinement: the hand-written scanners `Escape.cssUnescape` (identifier mode) and
  `Spelling.unescapeString` (string mode) compute exactly what the regex-engine model computes,
  `Parser.cssUnescape`, on the regular expressions `RE_CSS_ESC` / `RE_CSS_STR_ESC` regenerated
  from the source.  The substitution loop follows the hand decoder by `go_follows` (`Lemmas/RxSub.lean`), one step
  per kind of escape (`escOf`).
-/
import SoupVerif.Refine.UnescapeBase
import SoupVerif.Lemmas.Spelling
import SoupVerif.Model.Parser
import SoupVerif.Lemmas.CssUnescape
import SoupVerif.Lemmas.RxSub
import SoupVerif.Spec.Spelling
import SoupVerif.Generated.Lexicon
namespace SoupVerif
namespace Refine
open Rx RxBasic Escape EscapeLemmas Spelling SpellingLemmas

/-- `(\\[a-f0-9]{1,6}W?)|(\\[^\r\n\f])|(\\\Z)` and possibly further alternatives: `RE_CSS_ESC` has none
    (and `W = WSC`), `RE_CSS_STR_ESC` has `(\\NEWLINE)` (and `W = WS`). -/
def rxUn (w : Rx) (rest : List Rx) : Rx := .alt (rxG1 w :: rxG2 :: rxG3 :: rest)

def rxCssEsc : Rx := rxUn (.alt [Wsc.wsRx true, Wsc.commentRx true]) []
def rxCssStrEsc : Rx := rxUn (Wsc.wsRx true) [rxG4]

theorem esc_shape : Gen.cp_RE_CSS_ESC = rxCssEsc := rfl
theorem str_esc_shape : Gen.cp_RE_CSS_STR_ESC = rxCssStrEsc := rfl

theorem lexicon_esc : Gen.lexicon.reCssEsc = Gen.cp_RE_CSS_ESC := rfl
theorem lexicon_str_esc : Gen.lexicon.reCssStrEsc = Gen.cp_RE_CSS_STR_ESC := rfl

theorem runs_rxUn (env : CharEnv) (s : Str) (w : Rx) (rest : List Rx) (i : Nat) :
    runs env s (rxUn w rest) i [] = runs env s (rxG1 w) i [] ++
      (runs env s rxG2 i [] ++ (runs env s rxG3 i [] ++ runsAlt env s rest i [])) := by
  unfold rxUn
  rw [runs_alt, runsAlt_cons, runsAlt_cons, runsAlt_cons]

section
variable {env : CharEnv} (h : LetterFold env) (s : Str) (w : Rx) (rest : List Rx) (i : Nat)
include h

theorem un_noBackslash (h0 : s[i]? ≠ some 92) (hrest : rest = [] ∨ rest = [rxG4]) :
    matchAt env (rxUn w rest) s i = none := by
  unfold matchAt
  rw [runs_rxUn]
  unfold rxG1 rxG2 rxG3
  rw [runs_group_L92_nil h s _ _ _ _ h0, runs_group_L92_nil h s _ _ _ _ h0,
    runs_group_L92_nil h s _ _ _ _ h0]
  rcases hrest with rfl | rfl
  · rfl
  · rw [runsAlt_cons, runsAlt_nil]
    unfold rxG4
    rw [runs_group_L92_nil h s _ _ _ _ h0]; rfl

theorem un_atEnd (h0 : s[i]? = some 92) (h1 : s[i + 1]? = none) :
    matchAt env (rxUn w rest) s i = some (i + 1, [(3, i, i + 1)]) := by
  have hlen : i + 1 = s.length := by
    have := lt_of_getElem?_some h0
    have : s.length ≤ i + 1 := by simpa using h1
    omega
  unfold matchAt
  rw [runs_rxUn, runs_G1_nil h s _ i [] (by intro d hd; rw [h1] at hd; cases hd), runs_G2 h s i h0,
    runs_G3 h s i h0, h1, if_pos hlen]
  rfl

/-- A hexadecimal escape: the digits (at most six), then the first result of `W?`. -/
theorem un_hex (d e : Nat) (h0 : s[i]? = some 92) (h1 : s[i + 1]? = some d) (hd : isHex d = true)
    (hw : (runs env s w (i + 1 + hexRun 6 (s.drop (i + 1))) [] ++
            [(i + 1 + hexRun 6 (s.drop (i + 1)), [])]).head? = some (e, [])) :
    matchAt env (rxUn w rest) s i = some (e, [(1, i, e)]) := by
  unfold matchAt
  rw [runs_rxUn]
  exact head?_append_of_some (head_G1 h s _ i d _ h0 h1 hd hw)

theorem un_char (d : Nat) (h0 : s[i]? = some 92) (h1 : s[i + 1]? = some d) (hd : isHex d = false)
    (hn : isNL d = false) : matchAt env (rxUn w rest) s i = some (i + 2, [(2, i, i + 2)]) := by
  unfold matchAt
  rw [runs_rxUn, runs_G1_nil h s _ i [] (by intro d' hd'; rw [h1] at hd'; cases hd'; exact hd),
    runs_G2 h s i h0, h1]
  simp [hn]

end

section
variable {env : CharEnv} (h : LetterFold env) (s : Str) (i : Nat)
include h

theorem esc_hex (d : Nat) (h0 : s[i]? = some 92) (h1 : s[i + 1]? = some d) (hd : isHex d = true)
    (hc : wsLen (s.drop (i + 1 + hexRun 6 (s.drop (i + 1)))) = 0 →
      commentAt (s.drop (i + 1 + hexRun 6 (s.drop (i + 1)))) = false) :
    matchAt env rxCssEsc s i =
      some (i + 1 + hexRun 6 (s.drop (i + 1)) + wsLen (s.drop (i + 1 + hexRun 6 (s.drop (i + 1)))),
        [(1, i, i + 1 + hexRun 6 (s.drop (i + 1)) + wsLen (s.drop (i + 1 + hexRun 6 (s.drop (i + 1)))))]) := by
  apply un_hex h s _ _ i d _ h0 h1 hd
  rw [runs_alt, runsAlt_cons, runsAlt_cons, runsAlt_nil, runs_WS h]
  by_cases hw : wsLen (s.drop (i + 1 + hexRun 6 (s.drop (i + 1)))) = 0
  · rw [if_pos hw, runs_comment_nil h s _ _ (hc hw), hw]
    rfl
  · rw [if_neg hw]; rfl

theorem str_hex (d : Nat) (h0 : s[i]? = some 92) (h1 : s[i + 1]? = some d) (hd : isHex d = true) :
    matchAt env rxCssStrEsc s i =
      some (i + 1 + hexRun 6 (s.drop (i + 1)) + wsLen (s.drop (i + 1 + hexRun 6 (s.drop (i + 1)))),
        [(1, i, i + 1 + hexRun 6 (s.drop (i + 1)) + wsLen (s.drop (i + 1 + hexRun 6 (s.drop (i + 1)))))]) := by
  apply un_hex h s _ _ i d _ h0 h1 hd
  rw [runs_WS h]
  by_cases hw : wsLen (s.drop (i + 1 + hexRun 6 (s.drop (i + 1)))) = 0
  · rw [if_pos hw, hw]
    rfl
  · rw [if_neg hw]; rfl

theorem esc_newline (d : Nat) (h0 : s[i]? = some 92) (h1 : s[i + 1]? = some d) (hd : isHex d = false)
    (hn : isNL d = true) : matchAt env rxCssEsc s i = none := by
  have hlen : ¬ i + 1 = s.length := by
    have := lt_of_getElem?_some h1; omega
  unfold matchAt rxCssEsc
  rw [runs_rxUn, runs_G1_nil h s _ i [] (by intro d' hd'; rw [h1] at hd'; cases hd'; exact hd),
    runs_G2 h s i h0, runs_G3 h s i h0, h1, if_neg hlen]
  simp [hn, runsAlt_nil]

theorem str_newline (d : Nat) (h0 : s[i]? = some 92) (h1 : s[i + 1]? = some d) (hd : isHex d = false)
    (hn : isNL d = true) :
    matchAt env rxCssStrEsc s i =
      some (i + 1 + wsLen (s.drop (i + 1)), [(4, i, i + 1 + wsLen (s.drop (i + 1)))]) := by
  have hlen : ¬ i + 1 = s.length := by
    have := lt_of_getElem?_some h1; omega
  unfold matchAt rxCssStrEsc
  rw [runs_rxUn, runs_G1_nil h s _ i [] (by intro d' hd'; rw [h1] at hd'; cases hd'; exact hd),
    runs_G2 h s i h0, runs_G3 h s i h0, runsAlt_cons, runsAlt_nil, runs_G4 h s i h0, h1, if_neg hlen]
  simp [hn]

end

section
variable {env : CharEnv} (h : LetterFold env) (s : Str) (i : Nat)
include h

/-- `RE_CSS_ESC` at a backslash, by what the backslash introduces (`COMMENTS` behind a hexadecimal escape without
    white space, which the hand decoder does not model, excluded). -/
theorem esc_matchAt (cs : Str) (hd : s.drop i = 92 :: cs)
    (hc : ∀ k w, escOf cs = .hex k w → w = 0 → commentAt (cs.drop k) = false) :
    matchAt env rxCssEsc s i =
      match escOf cs with
      | .eof => some (i + 1, [(3, i, i + 1)])
      | .hex k w => some (i + 1 + k + w, [(1, i, i + 1 + k + w)])
      | .nl _ => none
      | .ch _ => some (i + 2, [(2, i, i + 2)]) := by
  have h0 := getElem?_of_drop_cons hd
  have hd1 := drop_succ_of_drop_cons hd
  cases hk : escOf cs with
  | eof =>
    rw [escOf_eof hk] at hd1
    exact un_atEnd h s _ _ i h0 (getElem?_of_drop_nil hd1)
  | hex k w =>
    obtain ⟨rfl, rfl, _, _, d, ds, rfl, hx⟩ := escOf_hex hk
    have hdk : s.drop (i + 1 + hexRun 6 (d :: ds)) = (d :: ds).drop (hexRun 6 (d :: ds)) := by
      rw [← hd1, List.drop_drop]
    have := esc_hex h s i d h0 (getElem?_of_drop_cons hd1) hx
      (by rw [hd1, hdk]; exact fun hw => hc _ _ hk hw)
    rw [hd1, hdk] at this
    exact this
  | nl w =>
    obtain ⟨_, _, _, d, ds, rfl, hx, hn⟩ := escOf_nl hk
    exact esc_newline h s i d h0 (getElem?_of_drop_cons hd1) hx hn
  | ch d =>
    obtain ⟨ds, rfl, hx, hn⟩ := escOf_ch_inv hk
    exact un_char h s _ _ i d h0 (getElem?_of_drop_cons hd1) hx hn

/-- `RE_CSS_STR_ESC` at a backslash, by what the backslash introduces. -/
theorem str_matchAt (cs : Str) (hd : s.drop i = 92 :: cs) :
    matchAt env rxCssStrEsc s i =
      match escOf cs with
      | .eof => some (i + 1, [(3, i, i + 1)])
      | .hex k w => some (i + 1 + k + w, [(1, i, i + 1 + k + w)])
      | .nl w => some (i + 1 + w, [(4, i, i + 1 + w)])
      | .ch _ => some (i + 2, [(2, i, i + 2)]) := by
  have h0 := getElem?_of_drop_cons hd
  have hd1 := drop_succ_of_drop_cons hd
  cases hk : escOf cs with
  | eof =>
    rw [escOf_eof hk] at hd1
    exact un_atEnd h s _ _ i h0 (getElem?_of_drop_nil hd1)
  | hex k w =>
    obtain ⟨rfl, rfl, _, _, d, ds, rfl, hx⟩ := escOf_hex hk
    have hdk : s.drop (i + 1 + hexRun 6 (d :: ds)) = (d :: ds).drop (hexRun 6 (d :: ds)) := by
      rw [← hd1, List.drop_drop]
    have := str_hex h s i d h0 (getElem?_of_drop_cons hd1) hx
    rw [hd1, hdk] at this
    exact this
  | nl w =>
    obtain ⟨rfl, _, _, d, ds, rfl, hx, hn⟩ := escOf_nl hk
    have := str_newline h s i d h0 (getElem?_of_drop_cons hd1) hx hn
    rw [hd1] at this
    exact this
  | ch d =>
    obtain ⟨ds, rfl, hx, hn⟩ := escOf_ch_inv hk
    exact un_char h s _ _ i d h0 (getElem?_of_drop_cons hd1) hx hn

end

theorem isSome_hexVal (c : Nat) : (Parser.hexVal c).isSome = isHex c := by
  unfold Parser.hexVal isHex
  split
  · simp_all
  · split
    · simp_all
    · split <;> simp_all

theorem getD_hexVal (c : Nat) (hc : isHex c = true) : (Parser.hexVal c).getD 0 = hexDigitVal c := by
  unfold Parser.hexVal hexDigitVal
  unfold isHex at hc
  simp only [Bool.or_eq_true, Bool.and_eq_true, decide_eq_true_eq] at hc
  split
  · rename_i h1
    simp only [Bool.and_eq_true, decide_eq_true_eq] at h1
    rw [if_pos (by omega)]; rfl
  · rename_i h1
    simp only [Bool.and_eq_true, decide_eq_true_eq] at h1
    split
    · rename_i h2
      simp only [Bool.and_eq_true, decide_eq_true_eq] at h2
      rw [if_neg (by omega), if_neg (by omega)]; rfl
    · rename_i h2
      simp only [Bool.and_eq_true, decide_eq_true_eq] at h2
      split
      · rename_i h3
        simp only [Bool.and_eq_true, decide_eq_true_eq] at h3
        rw [if_neg (by omega), if_pos (by omega)]; rfl
      · rename_i h3
        simp only [Bool.and_eq_true, decide_eq_true_eq] at h3
        omega

theorem foldl_hex (l : Str) (hl : ∀ x ∈ l, isHex x = true) : ∀ acc,
    l.foldl (fun a c => a * 16 + (Parser.hexVal c).getD 0) acc =
      l.foldl (fun a c => a * 16 + hexDigitVal c) acc := by
  induction l with
  | nil => intro acc; rfl
  | cons c cs ih =>
    intro acc
    rw [List.foldl_cons, List.foldl_cons, getD_hexVal c (hl c (List.mem_cons_self ..))]
    exact ih (fun x hx => hl x (List.mem_cons_of_mem _ hx)) _

theorem take_hexRun_all : ∀ (n : Nat) (l : Str), ∀ x ∈ l.take (hexRun n l), isHex x = true
  | 0, l => by simp [hexRun]
  | n + 1, [] => by simp [hexRun]
  | n + 1, c :: cs => by
    intro x hx
    rw [hexRun] at hx
    cases hc : isHex c with
    | false => rw [hc] at hx; simp at hx
    | true =>
      rw [hc] at hx
      simp only [if_true, List.take_succ_cons, List.mem_cons] at hx
      rcases hx with rfl | hx
      · exact hc
      · exact take_hexRun_all n cs x hx

theorem takeWhile_ws (t : Str) : (t.take (wsLen t)).takeWhile isHex = [] := by
  cases t with
  | nil => rfl
  | cons c cs =>
    simp only [wsLen]
    split
    · rename_i hc
      have : c = 13 := by
        rw [Bool.and_eq_true] at hc; simpa using hc.1
      subst this
      simp [isHex]
    · split
      · rename_i hw
        have : isHex c = false := by
          unfold isCssWs at hw
          unfold isHex
          simp only [Bool.or_eq_true, beq_iff_eq] at hw
          rw [Bool.eq_false_iff]
          simp only [ne_eq, Bool.or_eq_true, Bool.and_eq_true, decide_eq_true_eq]
          omega
        simp [this]
      · rfl

/-- `int(m.group(1)[1:], 16)`: the digits of the hex run, whatever whitespace follows them. -/
theorem hexPrefix_take (cs : Str) :
    Parser.hexPrefixVal (cs.take (hexRun 6 cs + wsLen (cs.drop (hexRun 6 cs)))) =
      Escape.hexVal (cs.take (hexRun 6 cs)) := by
  unfold Parser.hexPrefixVal Escape.hexVal
  have hf : (fun c => (Parser.hexVal c).isSome) = isHex := by
    funext c; exact isSome_hexVal c
  rw [hf, List.take_add, List.takeWhile_append_of_pos (take_hexRun_all 6 cs), takeWhile_ws,
    List.append_nil]
  exact foldl_hex _ (take_hexRun_all 6 cs) 0

theorem repl_g1 (s : Str) (i e : Nat) (he : e > i) :
    C06.unescRepl s [(1, i, e)] = [fixCp (Parser.hexPrefixVal (Parser.slice s (i + 1) e))] := by
  simp [C06.unescRepl, C06.clampCp, capSpan, he, fixCp]

theorem repl_g2 (s : Str) (i e : Nat) : C06.unescRepl s [(2, i, e)] = Parser.slice s (i + 1) e := by
  simp [C06.unescRepl, capSpan]

theorem repl_g3 (s : Str) (i e : Nat) : C06.unescRepl s [(3, i, e)] = [0xFFFD] := by
  simp [C06.unescRepl, capSpan]

theorem repl_g4 (s : Str) (i e : Nat) : C06.unescRepl s [(4, i, e)] = [] := by
  simp [C06.unescRepl, capSpan]

theorem slice_eq (s : Str) (a n : Nat) : Parser.slice s a (a + n) = (s.drop a).take n := by
  unfold Parser.slice; rw [show a + n - a = n by omega]

/-- `int(m.group(1)[1:], 16)` on a hexadecimal escape of `k` digits and `w` characters of white space. -/
theorem slice_hex (s : Str) (i : Nat) {k w : Nat} (hk : escOf (s.drop (i + 1)) = .hex k w) :
    Parser.hexPrefixVal (Parser.slice s (i + 1) (i + 1 + k + w)) = Escape.hexVal ((s.drop (i + 1)).take k) := by
  obtain ⟨rfl, rfl, _⟩ := escOf_hex hk
  have hpre := hexPrefix_take (s.drop (i + 1))
  rw [Nat.add_assoc (i + 1), slice_eq, hpre]

theorem go_esc {env : CharEnv} (h : LetterFold env) (s : Str) (fuel i : Nat) (hi : i ≤ s.length)
    (hf : s.length + 1 - i ≤ fuel) (hr : cssUnescapeRaisesAux 0 (s.drop i) = false) :
    Parser.subWith.go env rxCssEsc (C06.unescRepl s) s fuel i = cssUnescapeAux 0 (s.drop i) := by
  refine go_follows (cssUnescapeAux 0) (fun t => cssUnescapeRaisesAux 0 t = false) rfl
    (fun i _ h0 => un_noBackslash h s _ _ i (by rw [h0]; simp) (.inl rfl)) ?_ fuel i hi hf hr
  intro i c h0 hr
  have hlt := lt_of_getElem?_some h0
  have hd := Wsc.drop_cons_of h0
  rw [hd] at hr ⊢
  by_cases hc : c = 92
  · subst hc
    rw [cssUnescapeRaisesAux_bs] at hr
    have hm := esc_matchAt h s i _ hd (fun k w hk hw => by
      rw [hk, Bool.or_eq_false_iff] at hr
      have := hr.1; rw [hw] at this; simpa using this)
    rw [cssUnescapeAux_bs]
    cases hk : escOf (s.drop (i + 1)) with
    | eof =>
      rw [hk] at hm
      dsimp only at hm ⊢
      have hnil := escOf_eof hk
      refine .inr ⟨i + 1, _, hm, by omega, by omega, ?_, by rw [hnil]; rfl⟩
      rw [repl_g3, hnil]; rfl
    | hex k w =>
      rw [hk] at hm hr
      dsimp only at hm hr ⊢
      obtain ⟨_, _, hpos, hle, _⟩ := escOf_hex hk
      rw [List.length_drop] at hle
      rw [Bool.or_eq_false_iff] at hr
      have hq : cssUnescapeRaisesAux 0 (s.drop (i + 1 + k + w)) = false := by
        rw [Nat.add_assoc, ← List.drop_drop]; exact hr.2
      refine .inr ⟨_, _, hm, by omega, by omega, ?_, hq⟩
      rw [repl_g1 _ _ _ (by omega), slice_hex s i hk, List.drop_drop]
      congr 3; omega
    | nl w =>
      rw [hk] at hm hr
      exact .inl ⟨hm, rfl, hr⟩
    | ch d =>
      rw [hk] at hm hr
      dsimp only at hm hr ⊢
      obtain ⟨ds, hds, _⟩ := escOf_ch_inv hk
      rw [List.drop_drop] at hr
      refine .inr ⟨i + 2, _, hm, by omega, by have := congrArg List.length hds; simp [List.length_drop] at this; omega, ?_, hr⟩
      rw [repl_g2, show i + 2 = (i + 1) + 1 by omega, slice_eq, hds, drop_succ_of_drop_cons hds]
      rfl
  · left
    have hne : s[i]? ≠ some 92 := by rw [h0]; intro e; exact hc (Option.some.inj e)
    have hb : (c != 92) = true := by simpa using hc
    refine ⟨un_noBackslash h s _ _ i hne (.inl rfl), ?_, ?_⟩
    · cases s.drop (i + 1) <;> simp [cssUnescapeAux, hb]
    · rw [← hr]; cases s.drop (i + 1) <;> simp [cssUnescapeRaisesAux, hb]

theorem go_str {env : CharEnv} (h : LetterFold env) (s : Str) (fuel i : Nat) (hi : i ≤ s.length)
    (hf : s.length + 1 - i ≤ fuel) :
    Parser.subWith.go env rxCssStrEsc (C06.unescRepl s) s fuel i = unescapeStringAux 0 (s.drop i) := by
  refine go_follows (unescapeStringAux 0) (fun _ => True) rfl
    (fun i _ h0 => un_noBackslash h s _ _ i (by rw [h0]; simp) (.inr rfl)) ?_ fuel i hi hf trivial
  intro i c h0 _
  have hlt := lt_of_getElem?_some h0
  have hd := Wsc.drop_cons_of h0
  rw [hd]
  by_cases hc : c = 92
  · subst hc
    right
    have hm := str_matchAt h s i _ hd
    rw [unescapeStringAux_bs]
    cases hk : escOf (s.drop (i + 1)) with
    | eof =>
      rw [hk] at hm
      dsimp only at hm ⊢
      have hnil := escOf_eof hk
      refine ⟨i + 1, _, hm, by omega, by omega, ?_, trivial⟩
      rw [repl_g3, hnil]; rfl
    | hex k w =>
      rw [hk] at hm
      dsimp only at hm ⊢
      obtain ⟨_, _, hpos, hle, _⟩ := escOf_hex hk
      rw [List.length_drop] at hle
      refine ⟨_, _, hm, by omega, by omega, ?_, trivial⟩
      rw [repl_g1 _ _ _ (by omega), slice_hex s i hk, List.drop_drop]
      congr 3; omega
    | nl w =>
      rw [hk] at hm
      dsimp only at hm ⊢
      obtain ⟨_, hpos, hle, _⟩ := escOf_nl hk
      rw [List.length_drop] at hle
      refine ⟨_, _, hm, by omega, by omega, ?_, trivial⟩
      rw [repl_g4, List.drop_drop]; rfl
    | ch d =>
      rw [hk] at hm
      dsimp only at hm ⊢
      obtain ⟨ds, hds, _⟩ := escOf_ch_inv hk
      refine ⟨i + 2, _, hm, by omega, by have := congrArg List.length hds; simp [List.length_drop] at this; omega, ?_, trivial⟩
      rw [repl_g2, show i + 2 = (i + 1) + 1 by omega, slice_eq, hds, drop_succ_of_drop_cons hds]
      rfl
  · left
    have hne : s[i]? ≠ some 92 := by rw [h0]; intro e; exact hc (Option.some.inj e)
    have hb : (c != 92) = true := by simpa using hc
    refine ⟨un_noBackslash h s _ _ i hne (.inr rfl), ?_, trivial⟩
    cases s.drop (i + 1) <;> simp [unescapeStringAux, hb]

/-- Identifier mode, any environment whose case folding is a `LetterFold`. -/
theorem cssUnescape_refines {env : CharEnv} (h : LetterFold env) (s : Str)
    (hr : Escape.cssUnescapeRaises s = false) :
    Parser.cssUnescape env Gen.lexicon s false = Escape.cssUnescape s := by
  rw [C06.cssUnescape_eq]
  simp only [Bool.false_eq_true, if_false]
  rw [lexicon_esc, esc_shape]
  exact go_esc h s (s.length + 1) 0 (by omega) (by omega) hr

/-- String mode: no guard. -/
theorem unescapeString_refines {env : CharEnv} (h : LetterFold env) (s : Str) :
    Parser.cssUnescape env Gen.lexicon s true = Spelling.unescapeString s := by
  rw [C06.cssUnescape_eq]
  simp only [if_true]
  rw [lexicon_str_esc, str_esc_shape]
  exact go_str h s (s.length + 1) 0 (by omega) (by omega)

/-- `css_unescape(s)` as run by the engine model on the regenerated `RE_CSS_ESC`, under Python's
    IGNORECASE folding, is the hand-written `Escape.cssUnescape s` wherever Python does not raise. -/
theorem cssUnescape_pyFold (s : Str) (hr : Escape.cssUnescapeRaises s = false) :
    Parser.cssUnescape pyFoldEnv Gen.lexicon s (string := false) = Escape.cssUnescape s :=
  cssUnescape_refines letterFold_py s hr

theorem cssUnescape_ascii (s : Str) (hr : Escape.cssUnescapeRaises s = false) :
    Parser.cssUnescape asciiEnv Gen.lexicon s (string := false) = Escape.cssUnescape s :=
  cssUnescape_refines letterFold_ascii s hr

/-- `css_unescape(s, True)` on the regenerated `RE_CSS_STR_ESC` is `Spelling.unescapeString s`,
    for every `s`. -/
theorem unescapeString_pyFold (s : Str) :
    Parser.cssUnescape pyFoldEnv Gen.lexicon s (string := true) = Spelling.unescapeString s :=
  unescapeString_refines letterFold_py s

theorem unescapeString_ascii (s : Str) :
    Parser.cssUnescape asciiEnv Gen.lexicon s (string := true) = Spelling.unescapeString s :=
  unescapeString_refines letterFold_ascii s

/-! ### The guard of identifier mode cannot be dropped

  `\61/**/x`: the engine lets `WSC?` swallow the comment into group 1 (CPython then raises
  `ValueError` in `int('61/**/', 16)`; `Parser.cssUnescape` reads the leading digits and goes on
  after the comment), the hand scanner `Escape.cssUnescape` does not model `COMMENTS` there. -/

example : Escape.cssUnescapeRaises [92, 54, 49, 47, 42, 42, 47, 120] = true := by decide +kernel
example : Parser.cssUnescape pyFoldEnv Gen.lexicon [92, 54, 49, 47, 42, 42, 47, 120] false = [97, 120] := by
  decide +kernel
example : Escape.cssUnescape [92, 54, 49, 47, 42, 42, 47, 120] = [97, 47, 42, 42, 47, 120] := by decide +kernel

end Refine
end SoupVerif

#print axioms SoupVerif.Refine.cssUnescape_refines
#print axioms SoupVerif.Refine.unescapeString_refines
#print axioms SoupVerif.Refine.cssUnescape_pyFold
#print axioms SoupVerif.Refine.cssUnescape_ascii
#print axioms SoupVerif.Refine.unescapeString_pyFold
#print axioms SoupVerif.Refine.unescapeString_ascii
