/-
  `css_match.RE_NUM` against `Inputs.shapeNum`: the regular expression matches exactly the strings
  on which the hand-written scanner succeeds, and group `value` is then the whole string.
-/
import SoupVerif.Refine.InputsBase
import SoupVerif.Lemmas.RxDet
import SoupVerif.Generated.Regexes
import SoupVerif.Lemmas.C18Num
namespace SoupVerif
namespace RefineInputs
open Rx RxBasic Inputs

/-- `[0-9]+` -/
abbrev digits1 : Rx := .rep 1 none true dg
/-- `\.[0-9]+` -/
abbrev fracRx : Rx := .seq [.lit 46 false, digits1]
abbrev eRx : Rx := .set false [.ch 101, .ch 69] false
abbrev pmRx : Rx := .set false [.ch 45, .ch 43] false
/-- `[eE][-+]?[0-9]+` -/
abbrev expRx : Rx := .seq [eRx, .rep 0 (some 1) true pmRx, digits1]
/-- `(?:[0-9]{1,}(\.[0-9]+)?|\.[0-9]+)` -/
abbrev mantRx : Rx := .alt [.seq [digits1, .rep 0 (some 1) true (.group 2 fracRx)], fracRx]

theorem re_num_shape : Gen.cm_RE_NUM =
    .seq [.bos, .group 1 (.seq [.rep 0 (some 1) true (.lit 45 false), mantRx,
      .rep 0 (some 1) true expRx]), .eos] := rfl

/-! ### A Boolean scanner between the engine and `shapeNum`

  `expOk`, `fracOk`, `mantOk`, `numOk` say whether the remaining input is an exponent part, a fraction part, a
  mantissa, a number.  The engine lemmas below (`exp_tail`, `frac_tail`, `mant_tail`, `num_body`) each state "this
  tail of `RE_NUM` matches from `p` iff the Boolean holds of `s.drop p`", which needs the tests as functions of
  the suffix alone; `Inputs.shapeNum` computes values and threads the digits read so far, so it is compared with
  them once, in `shapeNum_isSome`. -/

def isE (c : Nat) : Bool := c == 101 || c == 69
def isPM (c : Nat) : Bool := c == 45 || c == 43

def stripPM : Str → Str
  | [] => []
  | x :: t => if isPM x = true then t else x :: t

def expOk : Str → Bool
  | [] => true
  | e :: r => isE e && allDigits (stripPM r)

def fracOk : Str → Bool
  | [] => true
  | x :: r => if x = 46 then !(r.takeWhile isDigit).isEmpty && expOk (r.dropWhile isDigit) else expOk (x :: r)

def mantOk (t : Str) : Bool :=
  (!(t.takeWhile isDigit).isEmpty || (t.dropWhile isDigit).head? == some 46) && fracOk (t.dropWhile isDigit)

def numOk (s : Str) : Bool := mantOk (stripSign s).2

theorem isChar_e (env : CharEnv) (s : Str) : IsChar env s eRx isE := by
  apply isChar_congr (isChar_set env s _ _ _)
  intro c
  rw [Bool.eq_iff_iff]
  simp [setHas, itemHas, isE]
  omega

theorem isChar_pm (env : CharEnv) (s : Str) : IsChar env s pmRx isPM := by
  apply isChar_congr (isChar_set env s _ _ _)
  intro c
  rw [Bool.eq_iff_iff]
  simp [setHas, itemHas, isPM]
  omega

theorem isE_of_digit {x : Nat} (h : isDigit x = true) : isE x = false := by
  simp [isDigit, isE] at *; omega

theorem isPM_of_digit {x : Nat} (h : isDigit x = true) : isPM x = false := by
  simp [isDigit, isPM] at *; omega

theorem ne46_of_digit {x : Nat} (h : isDigit x = true) : x ≠ 46 := by
  simp [isDigit] at *; omega

theorem scanExp_isSome (r : Str) : (scanExp r).isSome = expOk r := by
  rcases r with _ | ⟨e, r'⟩
  · rfl
  · unfold scanExp expOk
    by_cases he : isE e = true
    · have he' : (e == 101 || e == 69) = true := he
      simp only [he', if_true, he, Bool.true_and]
      rcases r' with _ | ⟨x, t⟩
      · simp [stripPM, allDigits]
      · by_cases h45 : x = 45
        · subst h45
          by_cases hd : allDigits t = true <;> simp [stripPM, isPM, hd]
        · by_cases h43 : x = 43
          · subst h43
            by_cases hd : allDigits t = true <;> simp [stripPM, isPM, hd]
          · have hpm : isPM x = false := by simp [isPM, h45, h43]
            split
            · rename_i heq; cases heq; exact absurd rfl h45
            · rename_i heq; cases heq; exact absurd rfl h43
            · by_cases hd : allDigits (x :: t) = true <;> simp [stripPM, hpm, hd]
    · have he' : (e == 101 || e == 69) = false := by simpa [isE] using he
      simp [he', he]

theorem shapeNum_isSome (s : Str) : (shapeNum s).isSome = numOk s := by
  have h : (shapeNum s).isSome = ((scanMant (stripSign s).2).bind fun p => scanExp p.2).isSome := by
    rw [Inputs.shapeNum_eq]
    cases scanMant (stripSign s).2 with
    | none => rfl
    | some p =>
      obtain ⟨fp, r⟩ := p
      show (match scanExp r with | none => none | some e => some _).isSome = (scanExp r).isSome
      cases scanExp r <;> rfl
  rw [h]
  unfold numOk mantOk
  generalize (stripSign s).2 = t
  cases hr : t.dropWhile isDigit with
  | nil =>
    rw [scanMant_nodot (by rw [hr]; intro r' h; cases h), hr]
    by_cases hip : (t.takeWhile isDigit).isEmpty = true <;> simp [hip, scanExp_isSome, fracOk, expOk]
  | cons x r' =>
    by_cases hx : x = 46
    · subst hx
      rw [scanMant_dot hr]
      by_cases hfp : (r'.takeWhile isDigit).isEmpty = true <;> simp [hfp, scanExp_isSome, fracOk]
    · rw [scanMant_nodot (by rw [hr]; intro r'' h; cases h; exact hx rfl), hr]
      by_cases hip : (t.takeWhile isDigit).isEmpty = true <;> simp [hip, hx, scanExp_isSome, fracOk]

section Engine
variable (env : CharEnv) (s : Str)

/-- `[0-9]+\Z`: of the ends of the digit run only the end of the text passes `\Z`. -/
theorem digits_eos (p : Nat) (c : Caps) (hp : p ≤ s.length) :
    runsSeq env s [digits1, .eos] p c = if allDigits (s.drop p) = true then [(s.length, c)] else [] := by
  rw [(Scans.char fun s => isChar_digit env s).runsSeq_plus_then (charLen_pos _) _ _ 0 (runsSeq_eos_isEmpty env s) p c hp]
  have hl : s.length = p + (s.drop p).length := by rw [List.length_drop]; omega
  rcases hd : s.drop p with _ | ⟨x, t⟩
  · rfl
  rw [hd, List.length_cons] at hl
  rw [charLen_cons]
  by_cases hx : isDigit x = true
  · simp only [hx, if_true, List.drop_succ_cons, List.drop_zero, endsSat_isEmpty_charLen]
    by_cases ha : t.all isDigit = true
    · simp only [allDigits, ha, hx, if_true, List.map_cons, List.map_nil, List.isEmpty_cons, Bool.not_false,
        List.all_cons, Bool.and_self]
      congr 2; omega
    · simp [allDigits, ha]
  · simp [allDigits, hx]

theorem allDigits_cons_of_not {x : Nat} (t : Str) (h : isDigit x = false) : allDigits (x :: t) = false := by
  simp [allDigits, h]

theorem isDigit_of_isPM {x : Nat} (h : isPM x = true) : isDigit x = false := by
  cases hd : isDigit x with
  | false => rfl
  | true => rw [isPM_of_digit hd] at h; cases h

/-- `(?:[eE][-+]?[0-9]+)?\Z` -/
theorem exp_tail (p : Nat) (c : Caps) (hp : p ≤ s.length) :
    runsSeq env s [.rep 0 (some 1) true expRx, .eos] p c =
      if expOk (s.drop p) = true then [(s.length, c)] else [] := by
  rw [runsSeq_opt, runsSeq_seq, runsSeq_eos]
  simp only [List.cons_append, List.nil_append]
  cases hd : s.drop p with
  | nil =>
    have : p = s.length := by
      rw [List.drop_eq_nil_iff] at hd; omega
    rw [runsSeq_char_nil (isChar_e env s) _ c hd]
    simp [expOk, this]
  | cons e r =>
    obtain ⟨h1, h2⟩ := drop_cons_facts hd
    rw [runsSeq_char_cons (isChar_e env s) _ c hd, if_neg (show ¬ p = s.length by omega), List.append_nil]
    by_cases he : isE e = true
    · simp only [he, if_true, expOk, Bool.true_and]
      rw [runsSeq_opt]
      cases hr : r with
      | nil =>
        rw [hr] at h2
        rw [runsSeq_char_nil (isChar_pm env s) _ c h2, digits_eos env s _ c h1, h2]
        simp [stripPM, allDigits]
      | cons x t =>
        rw [hr] at h2
        obtain ⟨h3, h4⟩ := drop_cons_facts h2
        rw [runsSeq_char_cons (isChar_pm env s) _ c h2, digits_eos env s _ c h1, h2]
        by_cases hx : isPM x = true
        · rw [if_pos hx, digits_eos env s _ c h3, h4, allDigits_cons_of_not t (isDigit_of_isPM hx)]
          simp [stripPM, hx]
        · simp [stripPM, hx]
    · simp [he, expOk]

theorem exp_tail_cut (j x : Nat) (c : Caps) (hx : s[j]? = some x) (hE : isE x = false) :
    runsSeq env s [.rep 0 (some 1) true expRx, .eos] j c = [] := by
  obtain ⟨t, hd⟩ := drop_of_getElem? hx
  obtain ⟨h1, -⟩ := drop_cons_facts hd
  rw [exp_tail env s j c (by omega), hd]
  simp [expOk, hE]

theorem pos_le_of_span (p : Nat) (hp : p ≤ s.length) : p + spanLen s isDigit p ≤ s.length := by
  have := spanLen_le s isDigit p
  omega

/-- `(\.[0-9]+)?(?:[eE][-+]?[0-9]+)?\Z` -/
theorem frac_tail (p : Nat) (c : Caps) (hp : p ≤ s.length) :
    ∃ c', runsSeq env s [.rep 0 (some 1) true (.group 2 fracRx), .rep 0 (some 1) true expRx, .eos] p c =
      if fracOk (s.drop p) = true then [(s.length, c')] else [] := by
  rw [runsSeq_opt, runsSeq_group, runs_seq]
  cases hd : s.drop p with
  | nil =>
    rw [runsSeq_char_nil (isChar_lit_exact env s 46) _ c hd, exp_tail env s p c hp, hd]
    exact ⟨c, by simp [fracOk, expOk]⟩
  | cons x r =>
    obtain ⟨h1, h2⟩ := drop_cons_facts hd
    rw [runsSeq_char_cons (isChar_lit_exact env s 46) _ c hd]
    by_cases hx : x = 46
    · subst hx
      have hsec : runsSeq env s [.rep 0 (some 1) true expRx, .eos] p c = [] :=
        exp_tail_cut env s p 46 c (getElem?_of_drop_cons hd) (by decide)
      rw [hsec, List.append_nil]
      simp only [beq_self_eq_true, if_true]
      rw [runsSeq_single, runs_rep_char (isChar_digit env s)]
      simp only [room]
      obtain ⟨hn, hdrop⟩ := span_of_drop isDigit h2
      by_cases h1n : 1 ≤ spanLen s isDigit (p + 1)
      · have hcut := flatMap_down_cut c
          (fun x => runsSeq env s [.rep 0 (some 1) true expRx, .eos] x.1 (setCap 2 p x.1 x.2))
          (spanLen s isDigit (p + 1) - 1) (p + 1 + 1) (by
            intro j hj1 hj2
            obtain ⟨y, hy, hdy⟩ := span_inside s isDigit (j - (p + 1)) (p + 1) (by omega)
            rw [show p + 1 + (j - (p + 1)) = j by omega] at hy
            exact exp_tail_cut env s j y _ hy (isE_of_digit hdy))
        rw [show p + 1 + 1 + (spanLen s isDigit (p + 1) - 1) = p + 1 + spanLen s isDigit (p + 1) by omega] at hcut
        rw [hcut]
        simp only
        rw [exp_tail env s _ _ (pos_le_of_span s (p + 1) h1), hdrop]
        refine ⟨setCap 2 p (p + 1 + spanLen s isDigit (p + 1)) c, ?_⟩
        have : (r.takeWhile isDigit).isEmpty = false := isEmpty_false_of_length hn (by omega)
        simp only [fracOk, if_true, this, Bool.not_false, Bool.true_and]
      · rw [down_empty c (by omega)]
        refine ⟨c, ?_⟩
        have : (r.takeWhile isDigit).isEmpty = true := isEmpty_true_of_length hn (by omega)
        simp [fracOk, this]
    · have : (x == 46) = false := by simpa using hx
      rw [this, exp_tail env s p c hp, hd]
      refine ⟨c, ?_⟩
      simp [fracOk, hx]

theorem frac_tail_cut (j x : Nat) (c : Caps) (hx : s[j]? = some x) (hd : isDigit x = true) :
    runsSeq env s [.rep 0 (some 1) true (.group 2 fracRx), .rep 0 (some 1) true expRx, .eos] j c = [] := by
  obtain ⟨t, hdr⟩ := drop_of_getElem? hx
  obtain ⟨h1, -⟩ := drop_cons_facts hdr
  obtain ⟨c', h⟩ := frac_tail env s j c (by omega)
  rw [h, hdr]
  simp [fracOk, ne46_of_digit hd, expOk, isE_of_digit hd]

/-- `(?:[0-9]{1,}(\.[0-9]+)?|\.[0-9]+)(?:[eE][-+]?[0-9]+)?\Z` -/
theorem mant_tail (p : Nat) (c : Caps) (hp : p ≤ s.length) :
    ∃ c', runsSeq env s [mantRx, .rep 0 (some 1) true expRx, .eos] p c =
      if mantOk (s.drop p) = true then [(s.length, c')] else [] := by
  rw [runsSeq_alt2, runsSeq_seq, runsSeq_seq]
  simp only [List.cons_append, List.nil_append]
  rw [runsSeq_rep_char_cut (isChar_digit env s) 1 _ p c
    (fun j x hx hd => frac_tail_cut env s j x c hx hd)]
  obtain ⟨hn, hdrop⟩ := span_of_drop (s := s) (i := p) isDigit rfl
  by_cases h1 : 1 ≤ spanLen s isDigit p
  · rw [if_pos h1]
    obtain ⟨d, hd, hdd⟩ := span_inside s isDigit 0 p (by omega)
    obtain ⟨t, hdr⟩ := drop_of_getElem? hd
    rw [Nat.add_zero] at hdr
    have hB : runsSeq env s (.lit 46 false :: digits1 :: [.rep 0 (some 1) true expRx, .eos]) p c = [] := by
      rw [runsSeq_char_cons (isChar_lit_exact env s 46) _ c hdr]
      have : (d == 46) = false := by simpa using ne46_of_digit hdd
      simp [this]
    rw [hB, List.append_nil]
    obtain ⟨c', h⟩ := frac_tail env s (p + spanLen s isDigit p) c (pos_le_of_span s p hp)
    refine ⟨c', ?_⟩
    rw [h, hdrop]
    have : ((s.drop p).takeWhile isDigit).isEmpty = false := isEmpty_false_of_length hn (by omega)
    simp [mantOk, this]
  · rw [if_neg h1, List.nil_append]
    have htw : (s.drop p).takeWhile isDigit = [] := by
      cases hr : (s.drop p).takeWhile isDigit with
      | nil => rfl
      | cons _ _ => rw [hr] at hn; simp at hn; omega
    cases hdr : s.drop p with
    | nil =>
      rw [runsSeq_char_nil (isChar_lit_exact env s 46) _ c hdr]
      exact ⟨c, by simp [mantOk]⟩
    | cons x r =>
      obtain ⟨h2, h3⟩ := drop_cons_facts hdr
      have hxd : isDigit x = false := by
        rw [hdr, List.takeWhile_cons] at htw
        cases hx : isDigit x with
        | false => rfl
        | true => rw [hx] at htw; simp at htw
      rw [runsSeq_char_cons (isChar_lit_exact env s 46) _ c hdr]
      by_cases hx : x = 46
      · subst hx
        simp only [beq_self_eq_true, if_true]
        rw [runsSeq_rep_char_cut (isChar_digit env s) 1 _ (p + 1) c
          (fun j y hy hd => exp_tail_cut env s j y c hy (isE_of_digit hd))]
        obtain ⟨hn2, hdrop2⟩ := span_of_drop isDigit h3
        refine ⟨c, ?_⟩
        by_cases h1n : 1 ≤ spanLen s isDigit (p + 1)
        · rw [if_pos h1n, exp_tail env s _ _ (pos_le_of_span s (p + 1) h2), hdrop2]
          have : (r.takeWhile isDigit).isEmpty = false := isEmpty_false_of_length hn2 (by omega)
          simp [mantOk, fracOk, hxd, this]
        · rw [if_neg h1n]
          have : (r.takeWhile isDigit).isEmpty = true := isEmpty_true_of_length hn2 (by omega)
          simp [mantOk, fracOk, hxd, this]
      · have : (x == 46) = false := by simpa using hx
        refine ⟨c, ?_⟩
        simp [this, mantOk, hxd]

/-- `-?(?:[0-9]{1,}(\.[0-9]+)?|\.[0-9]+)(?:[eE][-+]?[0-9]+)?\Z` from the start. -/
theorem num_body :
    ∃ c', runsSeq env s [.rep 0 (some 1) true (.lit 45 false), mantRx, .rep 0 (some 1) true expRx, .eos] 0 [] =
      if numOk s = true then [(s.length, c')] else [] := by
  rw [runsSeq_opt]
  cases hs : s with
  | nil =>
    rw [← hs]
    have hd : s.drop 0 = [] := by rw [hs]; rfl
    rw [runsSeq_char_nil (isChar_lit_exact env s 45) _ [] hd, List.nil_append]
    obtain ⟨c', h⟩ := mant_tail env s 0 [] (Nat.zero_le _)
    refine ⟨c', ?_⟩
    rw [h, hd, hs]
    rfl
  | cons x r =>
    rw [← hs]
    have hd : s.drop 0 = x :: r := by rw [hs]; rfl
    obtain ⟨h1, h2⟩ := drop_cons_facts hd
    rw [runsSeq_char_cons (isChar_lit_exact env s 45) _ [] hd]
    obtain ⟨c0, h0⟩ := mant_tail env s 0 [] (Nat.zero_le _)
    obtain ⟨c1, h1'⟩ := mant_tail env s (0 + 1) [] h1
    rw [h0, h1', hd, h2]
    by_cases hx : x = 45
    · subst hx
      refine ⟨c1, ?_⟩
      have : mantOk (45 :: r) = false := by
        simp [mantOk, (by decide : isDigit 45 = false)]
      rw [this, hs]
      simp [numOk, stripSign]
    · have : (x == 45) = false := by simpa using hx
      refine ⟨c0, ?_⟩
      rw [hs]
      simp [this, numOk, stripSign, hx]

/-- The engine on `RE_NUM`: success exactly when `numOk`, and then at the end with group 1 the whole. -/
theorem num_engine :
    ∃ c', matchAt env Gen.cm_RE_NUM s 0 =
      if numOk s = true then some (s.length, setCap 1 0 s.length c') else none := by
  obtain ⟨c', h⟩ := num_body env s
  refine ⟨c', ?_⟩
  rw [re_num_shape, matchAt, runs_seq, runsSeq_bos, runsSeq_group, runs_seq]
  have happ := runsSeq_append env s
    [.rep 0 (some 1) true (.lit 45 false), mantRx, .rep 0 (some 1) true expRx] [.eos] 0 []
  simp only [List.cons_append, List.nil_append] at happ
  rw [happ] at h
  generalize runsSeq env s [.rep 0 (some 1) true (.lit 45 false), mantRx, .rep 0 (some 1) true expRx] 0 [] = L at *
  have key : ∀ L : List (Nat × Caps),
      (L.flatMap fun x => runsSeq env s [.eos] x.1 (setCap 1 0 x.1 x.2)) =
        (L.flatMap fun x => runsSeq env s [.eos] x.1 x.2).map fun x => (x.1, setCap 1 0 x.1 x.2) := by
    intro L
    induction L with
    | nil => rfl
    | cons a L ih =>
      rw [List.flatMap_cons, List.flatMap_cons, List.map_append, ih, runsSeq_eos, runsSeq_eos]
      by_cases ha : a.1 = s.length <;> simp [ha]
  rw [key, h]
  by_cases hn : numOk s = true <;> simp [hn]

/-- `RE_NUM.match(s)` succeeds exactly when `shapeNum s` does. -/
theorem num_refines :
    (matchAt env Gen.cm_RE_NUM s 0).isSome = (shapeNum s).isSome := by
  obtain ⟨c', h⟩ := num_engine env s
  rw [h, shapeNum_isSome]
  by_cases hn : numOk s = true <;> simp [hn]

/-- When `RE_NUM` matches, the match ends at the end and group `value` (group 1) is the whole string. -/
theorem num_span (e : Nat) (caps : Caps) (hm : matchAt env Gen.cm_RE_NUM s 0 = some (e, caps)) :
    e = s.length ∧ capSpan caps 1 = some (0, s.length) ∧ grp s caps 1 = s := by
  obtain ⟨c', h⟩ := num_engine env s
  rw [h] at hm
  by_cases hn : numOk s = true
  · rw [if_pos hn] at hm
    cases hm
    refine ⟨rfl, capSpan_setCap_self _ _ _ _, ?_⟩
    rw [grp_setCap_self]
    simp
  · rw [if_neg hn] at hm
    cases hm

end Engine

end RefineInputs
end SoupVerif
