/-
  What `selector_iter` and the parser loop do at `:nth-child(…)`, `:nth-last-child(…)`,
  `:nth-of-type(…)`, `:nth-last-of-type(…)`.
-/
import SoupVerif.Refine.CompileNth
import SoupVerif.Lemmas.StrLit
namespace SoupVerif
namespace Refine
namespace Compile
open Rx RxBasic SoupVerif.Parser ParserProgress Escape Spelling

variable (B : Builtins) (s : Str)

def nthChildRx : TokenRx := ⟨"pseudo_nth_child", Gen.tok_pseudo_nth_child, Gen.tok_pseudo_nth_child_groups⟩
def nthTypeRx : TokenRx := ⟨"pseudo_nth_type", Gen.tok_pseudo_nth_type, Gen.tok_pseudo_nth_type_groups⟩

theorem find_nthChild (n : Str) (h : nthChildName n) :
    Gen.lexicon.special.find? (fun e => e.1 == n) = some (n, nthChildRx) := by
  rcases h with rfl | rfl <;> (rw [toStr_ofList]; rfl)

theorem find_nthType (n : Str) (h : nthTypeName n) :
    Gen.lexicon.special.find? (fun e => e.1 == n) = some (n, nthTypeRx) := by
  rcases h with rfl | rfl <;> (rw [toStr_ofList]; rfl)

theorem nthNames_ne :
    (":nth-last-of-type".toStr == ":nth-of-type".toStr) = false ∧
    (":nth-child".toStr == ":nth-of-type".toStr) = false ∧
    (":nth-child".toStr == ":nth-last-of-type".toStr) = false ∧
    (":nth-last-child".toStr == ":nth-of-type".toStr) = false ∧
    (":nth-last-child".toStr == ":nth-last-of-type".toStr) = false := by
  decide_lit

/-- On a `type` name, `nthBuild` is the chain of comparisons of `parse_pseudo_nth`'s `else` branch. -/
theorem nthBuild_type (n canon : Str) (ofSel : Option SelList) (sel : SelB) (h : nthTypeName n) :
    nthBuild B n canon ofSel sel =
      (let anb := parseAnB ⟨pyFoldEnv, Gen.lexicon, B, []⟩ canon
       let e := SelList.mk [] false false
       if n == ":nth-of-type".toStr then sel.addNth [nthOf anb.1 anb.2.1 anb.2.2 true false e]
       else if n == ":nth-last-of-type".toStr then sel.addNth [nthOf anb.1 anb.2.1 anb.2.2 true true e]
       else sel) := by
  rcases h with rfl | rfl <;>
    simp only [nthBuild, nthNames_ne.1, beq_self_eq_true, if_true, Bool.false_eq_true, if_false]

/-- On a `child` name, `nthBuild` is the chain of comparisons of `C09.nthChildSel`. -/
theorem nthBuild_child (n canon : Str) (ofSel : Option SelList) (sel : SelB) (h : nthChildName n) :
    nthBuild B n canon ofSel sel =
      (let anb := parseAnB ⟨pyFoldEnv, Gen.lexicon, B, []⟩ canon
       if n == ":nth-child".toStr then
         sel.addNth [nthOf anb.1 anb.2.1 anb.2.2 false false (ofSel.getD B.nthOfSDefault)]
       else if n == ":nth-last-child".toStr then
         sel.addNth [nthOf anb.1 anb.2.1 anb.2.2 false true (ofSel.getD B.nthOfSDefault)]
       else sel) := by
  rcases h with rfl | rfl <;>
    simp only [nthBuild, nthNames_ne.2.1, nthNames_ne.2.2.1, nthNames_ne.2.2.2.1, nthNames_ne.2.2.2.2,
      Bool.false_eq_true, if_false]

variable (fuel flags : Nat) (st : LS)

theorem nth_of_start {i : Nat} {forms : List (Nat × EscForm)} {g₁ dg1 ofw dg2 R : Str} (a : SAnB)
    (hd : s.drop i = 58 :: (renderIdentWith forms ++ (40 :: (g₁ ++ (a.render ++ (dg1 ++ (ofw ++ (dg2 ++ R))))))))
    (hof : lower ofw = "of".toStr) :
    s.drop (i + 1 + (renderIdentWith forms).length + 1 + g₁.length + a.render.length + dg1.length + 2 +
      dg2.length) = R := by
  have hlen : ofw.length = 2 := by
    rw [← SoupVerif.lower_length ofw, hof]; rfl
  have h := drop_add_of_drop_append (drop_add_of_drop_append (drop_add_of_drop_append (drop_add_of_drop_append
    (drop_add_of_drop_append (RxBasic.drop_succ_of_drop_cons (drop_add_of_drop_append
      (RxBasic.drop_succ_of_drop_cons hd)))))))
  rwa [hlen] at h

/-- `:nth-of-type(` gap An+B gap `)` and `:nth-last-of-type(…)`. -/
theorem step_nth_type {forms : List (Nat × EscForm)} {g₁ g₂ r : Str} (a : SAnB) (hok : a.ok)
    (hd : s.drop st.pos = 58 :: (renderIdentWith forms ++ (40 :: (g₁ ++ (a.render ++ (g₂ ++ 41 :: r))))))
    (hv : validForms forms (40 :: (g₁ ++ (a.render ++ (g₂ ++ 41 :: r)))) = true) (hh : headOk forms = true)
    (hcp : ∀ p ∈ forms, rangeOk p.1 p.2 = true) (hg₁ : isGap g₁) (hg₂ : isGap g₂)
    (hname : nthTypeName (58 :: lower (valueOf forms))) :
    ∃ p idx, s.drop p = r ∧
      parseLoop pyFoldEnv Gen.lexicon B s (fuel + 1) flags st =
        parseLoop pyFoldEnv Gen.lexicon B s fuel flags
          { st with pos := p, index := idx,
                    sel := nthBuild B (58 :: lower (valueOf forms)) a.canon none st.sel,
                    hasSelector := true } := by
  obtain ⟨x, xs, hx, hxw, hx47⟩ := a.head hok
  have hd' : s.drop st.pos =
      ((58 :: renderIdentWith forms) ++ ((40 :: g₁) ++ (a.render ++ (g₂ ++ [41])))) ++ r := by
    simpa using hd
  obtain ⟨t, hnt, hk, _, hstop, hg⟩ := special_token s B st nthTypeRx hd' (by simpa using hv) hh hcp hg₁
    (by rw [List.append_assoc, hx]; simp [noGapStart, hxw, hx47]) (find_nthType _ hname)
    (nth_type_reads a hok hv hh hg₁ hg₂)
  have hg2 : t.group (penv B s) "name" = some (58 :: renderIdentWith forms) := hg "name"
  have hg4 : t.group (penv B s) "nth_type" = some a.render := hg "nth_type"
  refine ⟨t.stop, t.stop, by rw [hstop]; exact drop_add_of_drop_append hd', ?_⟩
  rw [C09.parseLoop_nth_type _ _ _ _ _ _ _ _ hnt hk (by intro g h; rw [hg "pseudo_nth_child"] at h; cases h)]
  have hnm := colon_name B s (r := 40 :: (g₁ ++ (a.render ++ (g₂ ++ 41 :: r)))) hv hcp hg2
  simp only [penv] at hnm hg4
  simp only [hnm, hg4, Option.getD_some]
  have hanb := parseAnB_spelled B s B [] a hok
  simp only [penv] at hanb
  rw [hanb, nthBuild_type B _ _ _ _ hname]

theorem nthChildSel_eq (t : Token) (sel : SelB) (nthSel : SelList) (forms : List (Nat × EscForm))
    (a : SAnB) (hok : a.ok) (hvalid : Valid forms) (hcp : ∀ p ∈ forms, rangeOk p.1 p.2 = true)
    (hg2 : t.group (penv B s) "name" = some (58 :: renderIdentWith forms))
    (hg4 : t.group (penv B s) "nth_child" = some a.render)
    (hname : nthChildName (58 :: lower (valueOf forms))) :
    C09.nthChildSel (penv B s) t sel nthSel =
      nthBuild B (58 :: lower (valueOf forms)) a.canon (some nthSel) sel := by
  unfold C09.nthChildSel
  simp only [hg2, hg4, Option.getD_some]
  have hu : Parser.cssUnescape (penv B s).env (penv B s).L (58 :: renderIdentWith forms) =
      58 :: valueOf forms := unescape_colon_forms forms hvalid hcp
  rw [hu, parseAnB_spelled B s B [] a hok, nthBuild_child B _ _ _ _ hname]
  rfl

/-- What the handler reads from a `pseudo_nth_child` token whose groups 1, 2, 4 hold the whole head, the name and
    the An+B: the first group is not empty, and `nthChildSel` is `nthBuild`. -/
theorem nthChild_groups {t : Token} {forms : List (Nat × EscForm)} {g₁ : Str} {G : List (Nat × Str)}
    (a : SAnB) (hok : a.ok)
    (hg : ∀ name : String, t.group (penv B s) name = groupText nthChildRx G name)
    (h1 : groupText nthChildRx G "pseudo_nth_child" = some ((58 :: renderIdentWith forms) ++ ((40 :: g₁) ++ a.render)))
    (h2 : groupText nthChildRx G "name" = some (58 :: renderIdentWith forms))
    (h4 : groupText nthChildRx G "nth_child" = some a.render)
    (hvalid : Valid forms) (hcp : ∀ p ∈ forms, rangeOk p.1 p.2 = true)
    (hname : nthChildName (58 :: lower (valueOf forms))) :
    (∃ g, t.group (penv B s) "pseudo_nth_child" = some g ∧ g ≠ []) ∧
    ∀ nthSel, C09.nthChildSel (penv B s) t st.sel nthSel =
      nthBuild B (58 :: lower (valueOf forms)) a.canon (some nthSel) st.sel := by
  exact ⟨⟨_, (hg "pseudo_nth_child").trans h1, by simp⟩,
    fun nthSel => nthChildSel_eq B s t st.sel nthSel forms a hok hvalid hcp ((hg "name").trans h2)
      ((hg "nth_child").trans h4) hname⟩

/-- `:nth-child(` gap An+B gap `)` and `:nth-last-child(…)`, without `of S`. -/
theorem step_nth_child {forms : List (Nat × EscForm)} {g₁ g₂ r : Str} (a : SAnB) (hok : a.ok)
    (hd : s.drop st.pos = 58 :: (renderIdentWith forms ++ (40 :: (g₁ ++ (a.render ++ (g₂ ++ 41 :: r))))))
    (hv : validForms forms (40 :: (g₁ ++ (a.render ++ (g₂ ++ 41 :: r)))) = true) (hh : headOk forms = true)
    (hcp : ∀ p ∈ forms, rangeOk p.1 p.2 = true) (hg₁ : isGap g₁) (hg₂ : isGap g₂)
    (hname : nthChildName (58 :: lower (valueOf forms))) :
    ∃ p idx, s.drop p = r ∧
      parseLoop pyFoldEnv Gen.lexicon B s (fuel + 1) flags st =
        parseLoop pyFoldEnv Gen.lexicon B s fuel flags
          { st with pos := p, index := idx,
                    sel := nthBuild B (58 :: lower (valueOf forms)) a.canon none st.sel,
                    hasSelector := true } := by
  obtain ⟨x, xs, hx, hxw, hx47⟩ := a.head hok
  have hd' : s.drop st.pos =
      ((58 :: renderIdentWith forms) ++ ((40 :: g₁) ++ (a.render ++ (g₂ ++ [41])))) ++ r := by
    simpa using hd
  obtain ⟨t, hnt, hk, _, hstop, hg⟩ := special_token s B st nthChildRx hd' (by simpa using hv) hh hcp hg₁
    (by rw [List.append_assoc, hx]; simp [noGapStart, hxw, hx47]) (find_nthChild _ hname)
    (nth_child_reads a hok hv hh hg₁ hg₂)
  obtain ⟨hg1, hsel⟩ := nthChild_groups B s st (g₁ := g₁) a hok hg rfl rfl rfl
    (SpellingLemmas.validForms_nil_of forms _ hv) hcp hname
  refine ⟨t.stop, t.stop, by rw [hstop]; exact drop_add_of_drop_append hd', ?_⟩
  rw [C09.parseLoop_nth_child _ _ _ _ _ _ _ _ hnt hk hg1
    (by intro g h; rw [hg "of"] at h; cases h), hsel]
  rfl

/-- `:nth-child(` gap An+B gap-with-ws `of` gap-with-ws `S` … — given the result of the nested
    `parse_selectors` call on `S` (which starts where the token ends). -/
theorem step_nth_child_of {forms : List (Nat × EscForm)} {g₁ dg1 dg2 ofw R : Str} (a : SAnB) (hok : a.ok)
    (hd : s.drop st.pos =
      58 :: (renderIdentWith forms ++ (40 :: (g₁ ++ (a.render ++ (dg1 ++ (ofw ++ (dg2 ++ R))))))))
    (hv : validForms forms (40 :: (g₁ ++ (a.render ++ (dg1 ++ (ofw ++ (dg2 ++ R)))))) = true)
    (hh : headOk forms = true) (hcp : ∀ p ∈ forms, rangeOk p.1 p.2 = true)
    (hg₁ : isGap g₁) (hdg1 : DescGap dg1) (hdg2 : DescGap dg2)
    (hof : lower ofw = "of".toStr) (hR : noGapStart R = true)
    (hname : nthChildName (58 :: lower (valueOf forms)))
    (nthSel : SelList) (pos' : Nat) (cu' : Custom)
    (hsub : parseSelectors pyFoldEnv Gen.lexicon B s fuel
      (st.pos + 1 + (renderIdentWith forms).length + 1 + g₁.length + a.render.length + dg1.length + 2 +
        dg2.length)
      (st.pos + 1 + (renderIdentWith forms).length + 1 + g₁.length + a.render.length + dg1.length + 2 +
        dg2.length) 65 st.custom = .ok (nthSel, pos', cu')) :
    parseLoop pyFoldEnv Gen.lexicon B s (fuel + 1) flags st =
      parseLoop pyFoldEnv Gen.lexicon B s fuel flags
        { st with pos := pos',
                  index := st.pos + 1 + (renderIdentWith forms).length + 1 + g₁.length + a.render.length +
                    dg1.length + 2 + dg2.length,
                  sel := nthBuild B (58 :: lower (valueOf forms)) a.canon (some nthSel) st.sel,
                  hasSelector := true, custom := cu' } := by
  obtain ⟨x, xs, hx, hxw, hx47⟩ := a.head hok
  have hd' : s.drop st.pos =
      ((58 :: renderIdentWith forms) ++ ((40 :: g₁) ++ (a.render ++ (dg1 ++ (ofw ++ dg2))))) ++ R := by
    simpa using hd
  obtain ⟨t, hnt, hk, _, hstop, hg⟩ := special_token s B st nthChildRx hd' (by simpa using hv) hh hcp hg₁
    (by rw [List.append_assoc, hx]; simp [noGapStart, hxw, hx47]) (find_nthChild _ hname)
    (nth_child_of_reads a hok hv hh hg₁ hdg1 hdg2 hof hR)
  obtain ⟨hg1, hsel⟩ := nthChild_groups B s st (g₁ := g₁) a hok hg rfl rfl rfl
    (SpellingLemmas.validForms_nil_of forms _ hv) hcp hname
  have hlen : ofw.length = 2 := by rw [← SoupVerif.lower_length ofw, hof]; rfl
  have hstop' : t.stop = st.pos + 1 + (renderIdentWith forms).length + 1 + g₁.length + a.render.length +
      dg1.length + 2 + dg2.length := by
    rw [hstop]; simp only [List.length_append, List.length_cons, hlen]; omega
  rw [← hstop'] at hsub ⊢
  obtain ⟨y, ys, hy⟩ : ∃ y ys, dg1 = y :: ys := by
    cases dg1 with | nil => exact absurd rfl hdg1.ne_nil | cons y ys => exact ⟨y, ys, rfl⟩
  rw [C09.parseLoop_nth_child_of _ _ _ _ _ _ _ _ hnt hk hg1
    ⟨dg1 ++ (ofw ++ dg2), hg "of", by rw [hy]; simp⟩
    nthSel pos' cu' hsub, hsel]

end Compile
end Refine
end SoupVerif

#print axioms SoupVerif.Refine.Compile.step_nth_type
#print axioms SoupVerif.Refine.Compile.step_nth_child
#print axioms SoupVerif.Refine.Compile.step_nth_child_of
