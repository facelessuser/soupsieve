/-
  The `attribute` token
    `\[ WSC* (?:(?:IDENT|\*)?\|)? IDENT (?: WSC* [!~^|*$]?= WSC* VALUE (?: WSC* [is])? )? WSC* \]`
  on `[ gap name gap op gap value gap flag gap ]` in any admissible spelling, as statements of `Refine/Reads.lean`:
  the part from the name on (`attr_name_noop_reads`, `attr_name_op_reads`, generic in the value and the flag part),
  in front of it the optional namespace prefix (`ns_reads`, `Refine/CompileTag.lean`), the whole token `attr_reads`.
-/
import SoupVerif.Refine.CompileTag
namespace SoupVerif

namespace Refine
namespace Compile
open Rx RxBasic SoupVerif.Parser ParserProgress Escape Spelling
open Wsc (gapRx unitEnd wsEnd commentEnd gapEnd)
open Ident (rxHead rxStar contStep contLen IdentFold)
open C09Compile (identOK)

def cmpSet : Rx := .set false [.ch 33, .ch 126, .ch 94, .ch 124, .ch 42, .ch 36] true
def rxCmp : Rx := .group 3 (.seq [.rep 0 (some 1) true cmpSet, .lit 61 true])
def rxValue : Rx := .alt [StringTok.rxQuoted 34, StringTok.rxQuoted 39, rxIdent]
def flagSet : Rx := .set false [.ch 105, .ch 115] true
def rxFlagOpt : Rx := .rep 0 (some 1) true (.seq [gapRx true, .group 5 flagSet])
def rxAttrBody : Rx := .seq [gapRx true, rxCmp, gapRx true, .group 4 rxValue, rxFlagOpt]

theorem tok_attribute_shape : Gen.tok_attribute =
    .seq [.lit 91 true, gapRx true, rxNsOpt, .group 2 rxIdent, .rep 0 (some 1) true rxAttrBody,
      gapRx true, .lit 93 true] := rfl

theorem isChar_cmp {env : CharEnv} (h : IdentFold env) (s : Str) : IsChar env s cmpSet isCmp := by
  apply isChar_congr (isChar_set env s _ _ _)
  intro x
  have h1 := Ident.fold_const_eq h 33 (by omega) x
  have h2 := Ident.fold_const_eq h 126 (by omega) x
  have h3 := Ident.fold_const_eq h 94 (by omega) x
  have h4 := Ident.fold_const_eq h 124 (by omega) x
  have h5 := Ident.fold_const_eq h 42 (by omega) x
  have h6 := Ident.fold_const_eq h 36 (by omega) x
  simp [setHas, itemHas, isCmp, h1, h2, h3, h4, h5, h6, Bool.or_assoc]

theorem flagSet_ok (x : Nat) (hx : isFlag x = true) :
    setHas pyFoldEnv false [.ch 105, .ch 115] true x = true := by
  simp only [isFlag, Bool.or_eq_true, beq_iff_eq] at hx
  rcases hx with ((h | h) | h) | h <;> subst h <;> decide

section
variable (s : Str)

theorem fail_flag (rs : List Rx) (j : Nat) (c : Caps) (h : (unitEnd s j).isSome = true) :
    runsSeq pyFoldEnv s (.group 5 flagSet :: rs) j c = [] :=
  fail_at_unit [.group 5 flagSet] rs (by decide +kernel) s j c h

theorem cmp_runs (j : Nat) (c : Caps) :
    runs pyFoldEnv s (.seq [.rep 0 (some 1) true cmpSet, .lit 61 true]) j c =
      match s[j]? with
      | some x =>
        if isCmp x then (if s[j + 1]? = some 61 then [(j + 2, c)] else [])
        else if x = 61 then [(j + 1, c)] else []
      | none => [] := by
  rw [runs_seq, RefineInputs.runsSeq_opt, runsSeq_char (isChar_cmp Ident.identFold_py s)]
  cases hx : s[j]? with
  | none =>
    rw [lit_fail Ident.identFold_py s 61 (by omega) [] j c (by rw [hx]; simp)]; rfl
  | some x =>
    by_cases hc : isCmp x = true
    · have hne : x ≠ 61 := by intro e; subst e; simp [isCmp] at hc
      rw [lit_fail Ident.identFold_py s 61 (by omega) [] j c (by rw [hx]; simpa using hne)]
      simp only [hc, if_true, List.append_nil]
      by_cases h61 : s[j + 1]? = some 61
      · rw [lit_ok pyFoldEnv s 61 [] (j + 1) c h61, if_pos h61, runsSeq_nil]
      · rw [lit_fail Ident.identFold_py s 61 (by omega) [] (j + 1) c h61, if_neg h61]
    · have hc' : isCmp x = false := by simpa using hc
      simp only [hc', Bool.false_eq_true, if_false, List.nil_append]
      by_cases h61 : x = 61
      · subst h61
        rw [lit_ok pyFoldEnv s 61 [] j c hx, runsSeq_nil]; simp
      · rw [lit_fail Ident.identFold_py s 61 (by omega) [] j c (by rw [hx]; simpa using h61)]
        simp [h61]

theorem fail_cmp (rs : List Rx) (j : Nat) (c : Caps) (h : (unitEnd s j).isSome = true) :
    runsSeq pyFoldEnv s (rxCmp :: rs) j c = [] :=
  fail_at_unit [rxCmp] rs (by decide +kernel) s j c h

theorem quoted_fail (q : Nat) (hq : q = 34 ∨ q = 39) (j : Nat) (c : Caps) (hj : s[j]? ≠ some q) :
    runs pyFoldEnv s (StringTok.rxQuoted q) j c = [] := by
  unfold StringTok.rxQuoted
  rw [runs_seq]
  exact lit_fail Ident.identFold_py s q (by omega) _ j c hj

theorem value_runs_nil (j : Nat) (c : Caps) (hq : s[j]? ≠ some 34 ∧ s[j]? ≠ some 39)
    (hs : scanIdent (s.drop j) = none) : runs pyFoldEnv s rxValue j c = [] := by
  unfold rxValue
  rw [runs_alt, runsAlt_cons, runsAlt_cons, runsAlt_cons, runsAlt_nil,
    quoted_fail s 34 (Or.inl rfl) j c hq.1, quoted_fail s 39 (Or.inr rfl) j c hq.2,
    ident_runs_nil Ident.identFold_py s j c hs]
  rfl

theorem noGapStart_93 (R : Str) : noGapStart (93 :: R) = true := by simp [noGapStart, isCssWs]

theorem quoted_head {v q : Nat} {ps : List StrPiece} {r : Str} (c : Caps) (hq : q = 34 ∨ q = 39)
    (hd : s.drop v = q :: (renderStrWith ps ++ q :: r)) (hv : validStr q ps [] = true) :
    (runs pyFoldEnv s (StringTok.rxQuoted q) v c).head? =
      some (v + (renderStrWith ps).length + 2, c) := by
  have hq0 := getElem?_of_drop_cons hd
  have hd1 : s.drop (v + 1) = renderStrWith ps ++ q :: r := RxBasic.drop_succ_of_drop_cons hd
  unfold StringTok.rxQuoted
  rw [runs_seq, lit_ok pyFoldEnv s q _ v c hq0, runsSeq_cons, runs,
    StringTok.iter_body_close StringTok.foldOK_py s q hq _ 0 (v + 1) c (by omega)]
  have hq92 : q ≠ 92 := by omega
  have hv' : validStr q ps (q :: r) = true :=
    SpellingLemmas.validStr_of_nil q ps (q :: r) hv (by
      intro n hn; simp at hn; subst hn
      rcases hq with h | h <;> subst h <;> decide)
  have := SpellingLemmas.scanStrBody_pieces q ps r hq92 hv'
  rw [hd1, StringTok.scanEnd, this]
  simp only [Option.map_some, Option.some.injEq, Prod.mk.injEq, and_true]
  omega

end

theorem Reads.value_quoted {q : Nat} {ps : List StrPiece} {r : Str} (hq : q = 34 ∨ q = 39)
    (hv : validStr q ps [] = true) : Reads pyFoldEnv rxValue (q :: (renderStrWith ps ++ [q])) r [] := by
  have hQ : Reads pyFoldEnv (StringTok.rxQuoted q) (q :: (renderStrWith ps ++ [q])) r [] :=
    Reads.of_head fun s p c _ hd => by
      rw [quoted_head s c hq (by simpa using hd) hv]
      simp only [List.length_cons, List.length_append, List.length_nil]; rfl
  rcases hq with rfl | rfl
  · exact Reads.alt_left hQ
  · exact Reads.alt_right
      (fun s p c _ hd => quoted_fail s 34 (Or.inl rfl) p c (by rw [getElem?_of_drop_cons hd]; simp))
      (Reads.alt_left hQ)

/-- `VALUE` on an identifier in any admissible spelling: no quote begins it. -/
theorem Reads.value_ident {vf : List (Nat × EscForm)} {r : Str} (hv : validForms vf r = true)
    (hh : headOk vf = true) (hr : ¬ continuesIdent r) : Reads pyFoldEnv rxValue (renderIdentWith vf) r [] := by
  obtain ⟨x, xs, hxs, hx⟩ := headOk_first vf hh
  have hne : x ≠ 34 ∧ x ≠ 39 := ⟨(identHead_ne hx).2.1, (identHead_ne hx).2.2.1⟩
  have hq : ∀ q, (q = 34 ∨ q = 39) → ∀ (s : Str) (p : Nat) (c : Caps), p ≤ s.length →
      s.drop p = renderIdentWith vf ++ r → runs pyFoldEnv s (StringTok.rxQuoted q) p c = [] :=
    fun q hq s p c _ hd => quoted_fail s q hq p c (by
      rw [getElem?_of_drop_cons (s := s) (p := p) (by rw [hd, hxs]; rfl)]
      rcases hq with rfl | rfl
      · simpa using hne.1
      · simpa using hne.2)
  exact Reads.alt_right (hq 34 (Or.inl rfl)) (Reads.alt_right (hq 39 (Or.inr rfl))
    (Reads.alt_left (Reads.ident hv hh hr)))

section
variable (s : Str)

/-- The part of the token after the name. -/
abbrev attrRest : List Rx := [.rep 0 (some 1) true rxAttrBody, gapRx true, .lit 93 true]

theorem gap_tail_safe {g : Str} (hg : isGap g) (x : Nat) (R : Str)
    (hx : identContChar x = false ∧ x ≠ 92) : ¬ continuesIdent (g ++ x :: R) := by
  cases g with
  | nil => simp [continuesIdent, hx.1, hx.2]
  | cons y ys =>
    rcases gap_head hg y (by simp) with h | h
    · simp only [isCssWs, Bool.or_eq_true, beq_iff_eq] at h
      rcases h with (((e | e) | e) | e) | e <;> subst e <;> simp [continuesIdent, identContChar]
    · subst h; simp [continuesIdent, identContChar]

theorem op_head {op : Str} (hop : op = [61] ∨ ∃ x, isCmp x = true ∧ op = [x, 61]) :
    ∃ o os, op = o :: os ∧ identContChar o = false ∧ o ≠ 92 ∧ isCssWs o = false ∧ o ≠ 47 := by
  rcases hop with h | ⟨y, hy, h⟩
  · exact ⟨61, [], h, by decide⟩
  · refine ⟨y, [61], h, ?_⟩
    simp only [isCmp, Bool.or_eq_true, beq_iff_eq] at hy
    rcases hy with ((((h | h) | h) | h) | h) | h <;> subst h <;> decide

end


/-- `=`, or one of `! ~ ^ | * $` and `=`. -/
theorem Reads.cmp {op T : Str} (hop : op = [61] ∨ ∃ x, isCmp x = true ∧ op = [x, 61]) :
    Reads pyFoldEnv (.seq [.rep 0 (some 1) true cmpSet, .lit 61 true]) op T [] :=
  Reads.of_head fun s p c _ hd => by
    rw [cmp_runs]
    rcases hop with rfl | ⟨y, hy, rfl⟩
    · rw [getElem?_of_drop_cons (s := s) (p := p) (by rw [hd]; rfl)]
      simp [isCmp]
    · have h1 : s.drop (p + 1) = 61 :: T := RxBasic.drop_succ_of_drop_cons (by rw [hd]; rfl)
      rw [getElem?_of_drop_cons (s := s) (p := p) (by rw [hd]; rfl), getElem?_of_drop_cons h1]
      simp [hy]

theorem Reads.flag {f : Nat} {T : Str} (hf : isFlag f = true) : Reads pyFoldEnv flagSet [f] T [] :=
  Reads.of_head fun s p c _ hd => by
    unfold flagSet
    rw [isChar_set pyFoldEnv s _ _ _ _ c]
    unfold charBody
    rw [getElem?_of_drop_cons (s := s) (p := p) (by rw [hd]; rfl)]
    simp [flagSet_ok f hf]

/-- No flag in front of `gap ]`: behind the gap stands `]`, which is no flag character. -/
theorem flag_none {g4 R : Str} (hg4 : isGap g4) : ReadsSeq pyFoldEnv [rxFlagOpt] [] ((g4 ++ [93]) ++ R) [] := by
  refine ReadsSeq.opt_none (fun s p c hp hd => ?_) (ReadsSeq.nil _)
  have hd' : s.drop p = g4 ++ 93 :: R := by simpa using hd
  rw [RefineInputs.runsSeq_seq]
  show runsSeq pyFoldEnv s [gapRx true, .group 5 flagSet] _ _ = []
  rw [gap_then_drop s _ _ hd' hg4 (noGapStart_93 R) (fun j c hj => fail_flag s _ j c hj)]
  exact runsSeq_nil_of_first [.group 5 flagSet] _ c
    (by rw [getElem?_of_drop_cons (drop_add_of_drop_append hd')]; decide +kernel)

/-- `gap` and one of `i I s S`. -/
theorem flag_some {g3 T : Str} {f : Nat} (hg3 : isGap g3) (hf : isFlag f = true) :
    ReadsSeq pyFoldEnv [rxFlagOpt] (g3 ++ [f]) T [(5, [f])] :=
  ReadsSeq.opt_some (ReadsSeq.single (Reads.seq (ReadsSeq.cons_plain
    (Reads.gap hg3 (by
      simp only [isFlag, Bool.or_eq_true, beq_iff_eq] at hf
      rcases hf with ((h | h) | h) | h <;> subst h <;> simp [noGapStart, isCssWs]))
    (ReadsSeq.single (Reads.group 5 (Reads.flag hf) (keys_ne rfl))))))

/-- The optional body `gap op gap value flag?` is absent in front of `gap ]`: behind the gap no operator begins. -/
theorem attrBody_nil {g4 R : Str} (hg4 : isGap g4) (s : Str) (p : Nat) (c : Caps) (_ : p ≤ s.length)
    (hd : s.drop p = (g4 ++ [93]) ++ R) :
    runsSeq pyFoldEnv s [rxAttrBody, gapRx true, .lit 93 true] p c = [] := by
  have hd' : s.drop p = g4 ++ 93 :: R := by simpa using hd
  unfold rxAttrBody
  rw [RefineInputs.runsSeq_seq]
  show runsSeq pyFoldEnv s (gapRx true :: rxCmp :: _) _ _ = []
  rw [gap_then_drop s _ _ hd' hg4 (noGapStart_93 R) (fun j c hj => fail_cmp s _ j c hj)]
  exact runsSeq_nil_of_first [rxCmp] _ c
    (by rw [getElem?_of_drop_cons (drop_add_of_drop_append hd')]; decide +kernel)

theorem ident_noGap {f : List (Nat × EscForm)} (hh : headOk f = true) (t : Str) :
    noGapStart (renderIdentWith f ++ t) = true := by
  obtain ⟨x, xs, hxs, hx⟩ := headOk_first f hh
  rw [hxs]
  exact nsStart_noGap _ (by rcases hx with h | h | h <;> simp [nsStart, tagStart, h])

/-- `name gap ]` from the name on. -/
theorem attr_name_noop_reads {nf : List (Nat × EscForm)} {g4 R : Str} (hg4 : isGap g4)
    (hv : validForms nf (g4 ++ 93 :: R) = true) (hh : headOk nf = true) :
    ReadsSeq pyFoldEnv (.group 2 rxIdent :: attrRest) (renderIdentWith nf ++ (g4 ++ [93])) R
      [(2, renderIdentWith nf)] :=
  ReadsSeq.cons_tail
    (Reads.group 2 (Reads.ident (R := (g4 ++ [93]) ++ R) (by simpa using hv) hh
      (by simpa using gap_tail_safe hg4 93 R (by decide))) (keys_ne rfl))
    (ReadsSeq.opt_none (attrBody_nil hg4)
      (ReadsSeq.cons_plain (Reads.gap hg4 (by simp [noGapStart, isCssWs])) (ReadsSeq.single (Reads.lit 93 R))))

/-- `name gap op gap VALUE FLAG gap ]` from the name on, for any value text `V` that `VALUE` reads and any flag part
    `F` (`flag_none`, `flag_some`). -/
theorem attr_name_op_reads {nf : List (Nat × EscForm)} {g1 g2 g4 op V F R : Str} {GF : List (Nat × Str)}
    (hg1 : isGap g1) (hg2 : isGap g2) (hg4 : isGap g4)
    (hop : op = [61] ∨ ∃ x, isCmp x = true ∧ op = [x, 61])
    (hv : validForms nf (g1 ++ (op ++ (g2 ++ (V ++ (F ++ (g4 ++ 93 :: R)))))) = true) (hh : headOk nf = true)
    (hVng : noGapStart (V ++ (F ++ (g4 ++ 93 :: R))) = true)
    (hV : Reads pyFoldEnv rxValue V (F ++ ((g4 ++ [93]) ++ R)) [])
    (hF : ReadsSeq pyFoldEnv [rxFlagOpt] F ((g4 ++ [93]) ++ R) GF) (hGF : ∀ g ∈ GF, g.1 = 5) :
    ReadsSeq pyFoldEnv (.group 2 rxIdent :: attrRest)
      (renderIdentWith nf ++ ((g1 ++ (op ++ (g2 ++ (V ++ F)))) ++ (g4 ++ [93]))) R
      ((2, renderIdentWith nf) :: (3, op) :: (4, V) :: GF) := by
  obtain ⟨o, os, hos, hosafe⟩ := op_head hop
  have h5 : ∀ k, k ≠ 5 → ∀ g ∈ GF, g.1 ≠ k := fun k hk g hg => by rw [hGF g hg]; exact Ne.symm hk
  -- the body: gap, operator (group 3), gap, value (group 4), flag part
  have hbody : Reads pyFoldEnv rxAttrBody (g1 ++ (op ++ (g2 ++ (V ++ F)))) ((g4 ++ [93]) ++ R)
      ((3, op) :: (4, V) :: GF) :=
    Reads.seq (ReadsSeq.cons_plain
      (Reads.gap hg1 (by rw [hos]; simp [noGapStart, hosafe.2.2.1, hosafe.2.2.2]))
      (ReadsSeq.cons (Reads.group 3 (Reads.cmp hop) (keys_ne rfl))
        (ReadsSeq.cons_plain (Reads.gap hg2 (by simpa using hVng))
          (ReadsSeq.cons (Reads.group 4 hV (keys_ne rfl)) hF
            (fun g hg => by cases List.mem_singleton.mp hg; exact h5 4 (by decide))))
        (fun g hg g' hg' => by
          cases List.mem_singleton.mp hg
          rcases List.mem_cons.mp hg' with rfl | hg'
          · simp
          · exact h5 3 (by decide) g' hg')))
  exact ReadsSeq.cons
    (Reads.group 2 (Reads.ident (by simpa using hv) hh
      (by rw [hos]; simpa using gap_tail_safe hg1 o _ ⟨hosafe.1, hosafe.2.1⟩)) (keys_ne rfl))
    (ReadsSeq.opt_some (ReadsSeq.cons_tail hbody
      (ReadsSeq.cons_plain (Reads.gap hg4 (by simp [noGapStart, isCssWs])) (ReadsSeq.single (Reads.lit 93 R)))))
    (fun g hg g' hg' => by
      cases List.mem_singleton.mp hg
      rcases List.mem_cons.mp hg' with rfl | hg'
      · simp
      · rcases List.mem_cons.mp hg' with rfl | hg'
        · simp
        · exact h5 2 (by decide) g' hg')

/-- No namespace prefix in front of a name that a gap or `]` follows. -/
theorem nsOpt_skip_noop {f : List (Nat × EscForm)} {g4 R : Str} (rs : List Rx) (hg4 : isGap g4)
    (hv : validForms f (g4 ++ 93 :: R) = true) (hh : headOk f = true)
    (s : Str) (p : Nat) (c : Caps) (_ : p ≤ s.length)
    (hd : s.drop p = (renderIdentWith f ++ (g4 ++ [93])) ++ R) :
    runsSeq pyFoldEnv s (rxNsOpt :: rs) p c = runsSeq pyFoldEnv s rs p c := by
  have hd' : s.drop p = renderIdentWith f ++ (g4 ++ 93 :: R) := by simpa using hd
  obtain ⟨x, xs, hxs, hx⟩ := headOk_first f hh
  have hxa := getElem?_of_drop_cons (s := s) (p := p) (by rw [hd', hxs]; rfl)
  have hscan := C09.scan_any_spelling_ctx f _ hv hh (gap_tail_safe hg4 93 R (by decide))
  rw [← hd'] at hscan
  obtain ⟨_, _, _, _, h42, _, _, h124⟩ := identHead_ne hx
  refine nsOpt_then Ident.identFold_py s p c rs (by rw [hxa]; simpa using h124)
    (by rw [hxa]; simpa using h42) ?_
  -- behind the name stands the gap or `]`, not `|`
  intro m hm hb
  exfalso
  rw [hscan] at hm; cases hm
  rw [← List.head?_drop, drop_add_of_drop_append hd'] at hb
  cases g4 with
  | nil => cases hb
  | cons y ys =>
    simp only [List.cons_append, List.head?_cons, Option.some.injEq] at hb
    subst hb
    rcases gap_head hg4 124 (by simp) with h | h
    · simp [isCssWs] at h
    · omega

/-- No namespace prefix in front of `name gap op`: in `name|=` the prefix pattern takes `name|`, but `=` begins no
    name. -/
theorem nsOpt_skip_op {f : List (Nat × EscForm)} {g1 op T : Str} (hg1 : isGap g1)
    (hop : op = [61] ∨ ∃ x, isCmp x = true ∧ op = [x, 61])
    (hv : validForms f (g1 ++ (op ++ T)) = true) (hh : headOk f = true)
    (s : Str) (p : Nat) (c : Caps) (_ : p ≤ s.length) (hd : s.drop p = renderIdentWith f ++ (g1 ++ (op ++ T))) :
    runsSeq pyFoldEnv s (rxNsOpt :: .group 2 rxIdent :: attrRest) p c =
      runsSeq pyFoldEnv s (.group 2 rxIdent :: attrRest) p c := by
  obtain ⟨x, xs, hxs, hx⟩ := headOk_first f hh
  obtain ⟨o, os, hos, hosafe⟩ := op_head hop
  have hxa := getElem?_of_drop_cons (s := s) (p := p) (by rw [hd, hxs]; rfl)
  have hscan := C09.scan_any_spelling_ctx f _ hv hh
    (by rw [hos]; exact gap_tail_safe hg1 o _ ⟨hosafe.1, hosafe.2.1⟩)
  rw [← hd] at hscan
  obtain ⟨_, _, _, _, h42, _, _, h124⟩ := identHead_ne hx
  refine nsOpt_then Ident.identFold_py s p c _ (by rw [hxa]; simpa using h124)
    (by rw [hxa]; simpa using h42) ?_
  intro m hm hb c'
  rw [hscan] at hm; cases hm
  have hde := drop_add_of_drop_append hd
  cases g1 with
  | cons y ys =>
    exfalso
    rw [getElem?_of_drop_cons (by rw [hde]; rfl)] at hb
    cases hb
    rcases gap_head hg1 124 (by simp) with h | h
    · simp [isCssWs] at h
    · omega
  | nil =>
    simp only [List.nil_append] at hde
    rcases hop with rfl | ⟨y, hy, rfl⟩
    · rw [getElem?_of_drop_cons (by rw [hde]; rfl)] at hb; cases hb
    · have hd61 : s.drop (p + (renderIdentWith f).length + 1) = 61 :: T :=
        RxBasic.drop_succ_of_drop_cons (by rw [hde]; rfl)
      exact runsSeq_nil_of_first [.group 2 rxIdent] _ c'
        (by rw [getElem?_of_drop_cons hd61]; decide +kernel)

/-- The whole token, given what it reads from the optional prefix on. -/
theorem attr_reads {g0 W R : Str} {G : List (Nat × Str)} (hg0 : isGap g0) (hW : noGapStart (W ++ R) = true)
    (h : ReadsSeq pyFoldEnv (rxNsOpt :: .group 2 rxIdent :: attrRest) W R G) :
    Reads pyFoldEnv Gen.tok_attribute ([91] ++ (g0 ++ W)) R G := by
  rw [tok_attribute_shape]
  exact Reads.seq (ReadsSeq.cons_plain (Reads.lit 91 _) (ReadsSeq.cons_plain (Reads.gap hg0 hW) h))

end Compile
end Refine
end SoupVerif

#print axioms SoupVerif.Refine.Compile.attr_name_noop_reads
#print axioms SoupVerif.Refine.Compile.attr_name_op_reads
#print axioms SoupVerif.Refine.Compile.attr_reads
