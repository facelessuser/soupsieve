/-
  What the two inductions over the covered grammars share: the first-character facts that tell what may follow an
  identifier (`SafeStart`, `itemStart`, the heads of the renderings of the shared categories), and one turn of the parser
  loop on every simple selector whose token starts no nested list — the attribute selector with an optional namespace
  prefix (`run_attr_ns`), the type selector (`run_stag`), and `run_leaf` for the items of the smaller grammar.
-/
import SoupVerif.Refine.CompileCombStep
import SoupVerif.Refine.CompileAttrStep
import SoupVerif.Refine.CompilePseudo
import SoupVerif.Refine.CompileNthStep
import SoupVerif.Refine.CompileDir
namespace SoupVerif
namespace C09Compile
open Rx SoupVerif.Parser ParserProgress Escape Spelling Refine.Compile

/-- First character of a simple selector: `#` `.` `[` `:` `&`. -/
def itemStart (c : Nat) : Bool := c == 35 || c == 46 || c == 91 || c == 58 || c == 38

/-- Text that begins like something that may follow an identifier in the covered grammar. -/
def SafeStart (r : Str) : Prop :=
  ∀ c ∈ r.head?, identContChar c = false ∧ c ≠ 92 ∧ c ≠ 124 ∧ c ≠ 40

theorem SafeStart.not_cont {r : Str} (h : SafeStart r) : ¬ continuesIdent r := by
  cases r with
  | nil => simp [continuesIdent]
  | cons c cs =>
    have := h c (by simp)
    simp [continuesIdent, this.1, this.2.1]

theorem SafeStart.not_bar {r : Str} (h : SafeStart r) : r.head? ≠ some 124 := by
  intro e
  exact (h 124 (by simp [e])).2.2.1 rfl

theorem SafeStart.not_paren {r : Str} (h : SafeStart r) : r.head? ≠ some 40 := by
  intro e
  exact (h 40 (by simp [e])).2.2.2 rfl

theorem safeStart_cons (x : Nat) (xs : Str)
    (h : identContChar x = false ∧ x ≠ 92 ∧ x ≠ 124 ∧ x ≠ 40) : SafeStart (x :: xs) := by
  intro y hy
  simp only [List.head?_cons, Option.mem_def, Option.some.injEq] at hy
  subst hy; exact h

theorem itemStart_safe {c : Nat} (h : itemStart c = true) :
    identContChar c = false ∧ c ≠ 92 ∧ c ≠ 124 ∧ c ≠ 40 := by
  simp only [itemStart, Bool.or_eq_true, beq_iff_eq] at h
  rcases h with (((h | h) | h) | h) | h <;> subst h <;> decide

theorem itemStart_head {c : Nat} (h : itemStart c = true) :
    isCssWs c = false ∧ c ≠ 47 ∧ isComb c = false ∧ c ≠ 41 := by
  simp only [itemStart, Bool.or_eq_true, beq_iff_eq] at h
  rcases h with (((h | h) | h) | h) | h <;> subst h <;> decide

theorem safeStart_of_combHead (x : Nat) (xs : Str)
    (h : isCssWs x = true ∨ x = 47 ∨ isComb x = true ∨ x = 41) : SafeStart (x :: xs) := by
  apply safeStart_cons
  rcases h with h | h | h | h
  · simp only [isCssWs, Bool.or_eq_true, beq_iff_eq] at h
    rcases h with (((h | h) | h) | h) | h <;> subst h <;> decide
  · subst h; decide
  · simp only [isComb, Bool.or_eq_true, beq_iff_eq] at h
    rcases h with ((h | h) | h) | h <;> subst h <;> decide
  · subst h; decide

theorem safeStart_gap (g : Str) (hg : isGap g) : SafeStart g := by
  cases g with
  | nil => intro c hc; simp at hc
  | cons c cs =>
    rcases gap_head hg c (by simp) with h | h
    · exact safeStart_of_combHead c cs (Or.inl h)
    · exact safeStart_of_combHead c cs (Or.inr (Or.inl h))

theorem safeStart_close (g r : Str) (hg : isGap g) : SafeStart (g ++ 41 :: r) := by
  cases g with
  | nil => exact safeStart_of_combHead 41 r (Or.inr (Or.inr (Or.inr rfl)))
  | cons c cs =>
    rcases gap_head hg c (by simp) with h | h
    · exact safeStart_of_combHead c _ (Or.inl h)
    · exact safeStart_of_combHead c _ (Or.inr (Or.inl h))

theorem SComb.render_head (cb : SComb) (h : cb.ok) :
    ∃ x xs, cb.render = x :: xs ∧ (isCssWs x = true ∨ x = 47 ∨ isComb x = true) := by
  cases cb with
  | sym g₁ c g₂ =>
    cases g₁ with
    | nil => exact ⟨c, g₂, rfl, Or.inr (Or.inr h.2.2)⟩
    | cons y ys =>
      refine ⟨y, ys ++ c :: g₂, rfl, ?_⟩
      rcases gap_head h.1 y (by simp) with h | h
      · exact Or.inl h
      · exact Or.inr (Or.inl h)
  | desc g =>
    have hg : DescGap g := h
    cases g with
    | nil => exact absurd rfl hg.ne_nil
    | cons y ys =>
      refine ⟨y, ys, rfl, ?_⟩
      rcases gap_head hg.isGap y (by simp) with h | h
      · exact Or.inl h
      · exact Or.inr (Or.inl h)

theorem safeStart_comb (cb : SComb) (h : cb.ok) (t : Str) : SafeStart (cb.render ++ t) := by
  obtain ⟨y, ys, hy, h⟩ := cb.render_head h
  rw [hy]
  apply safeStart_of_combHead
  rcases h with h | h | h
  · exact Or.inl h
  · exact Or.inr (Or.inl h)
  · exact Or.inr (Or.inr (Or.inl h))

theorem STag.render_head (t : STag) (r : Str) (hok : t.ok r) :
    ∃ x xs, t.render = x :: xs ∧ tagStart x = true := by
  cases t with
  | star => exact ⟨42, [], rfl, by decide⟩
  | name f =>
    obtain ⟨_, hh, _⟩ := hok
    obtain ⟨x, xs, hx, h⟩ := headOk_first f hh
    refine ⟨x, xs, by simp [STag.render, hx], ?_⟩
    rcases h with h | h | h <;> simp [tagStart, h]

theorem plain_tables_no_dash : ∀ n ∈ Gen.lexicon.pseudoSimple ++ Gen.lexicon.pseudoSimpleNoMatch,
    n.tail.head? ≠ some 45 := by decide

theorem plainName_no_dash (n : Str) (h : plainName n) : n.tail.head? ≠ some 45 := by
  apply plain_tables_no_dash
  rw [List.mem_append]
  rcases h with h | h
  · left
    simp only [inList, List.any_eq_true, beq_iff_eq] at h
    obtain ⟨m, hm, rfl⟩ := h; exact hm
  · right
    simp only [inList, List.any_eq_true, beq_iff_eq] at h
    obtain ⟨m, hm, rfl⟩ := h; exact hm

theorem name_head (f : Forms) (hh : headOk f = true)
    (hval : (58 :: lower (valueOf f)).tail.head? ≠ some 45) :
    ∃ x xs, renderIdentWith f = x :: xs ∧ x ≠ 45 := by
  cases f with
  | nil => simp [headOk] at hh
  | cons p rest =>
    obtain ⟨c, frm⟩ := p
    rw [SpellingLemmas.renderIdentWith_cons]
    cases frm with
    | lit =>
      refine ⟨c, renderIdentWith rest, by simp [renderForm], ?_⟩
      intro e; subst e
      simp [valueOf, lower, lowerCp] at hval
    | bs => exact ⟨92, c :: renderIdentWith rest, by simp [renderForm], by omega⟩
    | hex d m w =>
      exact ⟨92, hexText c d m ++ wsText w ++ renderIdentWith rest, by simp [renderForm], by omega⟩

theorem nulFix_id (pattern : Str) (h : ∀ c ∈ pattern, c ≠ 0) : nulFix pattern = pattern := by
  unfold nulFix
  conv => rhs; rw [← List.map_id pattern]
  apply List.map_congr_left
  intro c hc
  simp [h c hc]

section Run
variable (B : Builtins) (s : Str)

theorem opText_cases (o : Option Nat) (h : ∀ x, o = some x → isCmp x = true) :
    opText o = [61] ∨ ∃ x, isCmp x = true ∧ opText o = [x, 61] := by
  cases o with
  | none => exact Or.inl rfl
  | some x => exact Or.inr ⟨x, h x rfl, rfl⟩

theorem run_attr_ns (flags : Nat) (ns : Option SNs) (a : SAttr) (st : LS) (fuel : Nat) (r : Str)
    (hd : s.drop st.pos = 91 :: (a.g0 ++ (nsBar ns ++ (renderIdentWith a.name ++ a.afterName))) ++ r)
    (hok : a.ok r) (hns : ∀ n, ns = some n → n.ok (renderIdentWith a.name ++ (a.afterName ++ r))) :
    ∃ p idx, s.drop p = r ∧
      parseLoop pyFoldEnv Gen.lexicon B s (fuel + 1) flags st =
        parseLoop pyFoldEnv Gen.lexicon B s fuel flags
          { st with pos := p, index := idx,
                    sel := (match a.value.body with
                      | none => attrBuildNs st.sel (nsValue ns) a.value.name [] [] none
                      | some (op, v, fl) =>
                        attrBuildNs st.sel (nsValue ns) a.value.name op v (fl.map fun c => [c])),
                    hasSelector := true } := by
  have hd' : s.drop st.pos =
      91 :: (a.g0 ++ (nsBar ns ++ (renderIdentWith a.name ++ (a.afterName ++ r)))) := by
    rw [hd]; cases ns <;> simp [nsBar]
  obtain ⟨g0, name, body, g4⟩ := a
  obtain ⟨hg0, hg4, ⟨hv, hh, hcp⟩, hbody⟩ := hok
  cases body with
  | none =>
    simp only [SAttr.afterName, List.append_assoc, List.cons_append, List.nil_append] at hd' hv hns
    exact step_attr_noop B s fuel flags st ns hd' hg0 hg4 hns hv hh hcp
  | some b =>
    obtain ⟨g1, op, g2, value, flag⟩ := b
    obtain ⟨hg1, hg2, hop, hval, hflag⟩ := hbody
    simp only [SAttr.afterName, List.append_assoc, List.cons_append, List.nil_append] at hd' hv hval hns
    refine step_attr_op B s fuel flags st ns value.value _ hd' hg0 hg1 hg2 hg4 ?_ hns (opText_cases op hop) hv hh
      hcp (value.render_noGap _ _ hval)
      (value.reads _ hval) (value.raw _ hval)
    cases flag with
    | none => exact Or.inl ⟨rfl, rfl⟩
    | some gf =>
      obtain ⟨g3, f⟩ := gf
      obtain ⟨hg3, hf⟩ := hflag g3 f rfl
      exact Or.inr ⟨g3, f, rfl, hg3, hf, rfl⟩

theorem run_attr (flags : Nat) (a : SAttr) (st : LS) (fuel : Nat) (r : Str)
    (hd : s.drop st.pos = a.render ++ r) (hok : a.ok r) :
    ∃ p idx, s.drop p = r ∧
      parseLoop pyFoldEnv Gen.lexicon B s (fuel + 1) flags st =
        parseLoop pyFoldEnv Gen.lexicon B s fuel flags
          { st with pos := p, index := idx, sel := a.value.apply st.sel, hasSelector := true } := by
  obtain ⟨p, idx, hp, h⟩ := run_attr_ns B s flags none a st fuel r hd hok (fun _ h => by cases h)
  refine ⟨p, idx, hp, ?_⟩
  rw [h, AttrV.apply]
  cases a.value.body <;> rfl

theorem run_stag (flags : Nat) (t : STag) (st : LS) (fuel : Nat) (R : Str)
    (hd : s.drop st.pos = t.render ++ R) (hok : t.ok R) (hR : SafeStart R) (hs : st.hasSelector = false) :
    parseLoop pyFoldEnv Gen.lexicon B s (fuel + 1) flags st =
      parseLoop pyFoldEnv Gen.lexicon B s fuel flags
        { st with pos := st.pos + t.render.length, sel := st.sel.setTag ⟨t.value, none⟩, hasSelector := true,
                  index := st.pos + t.render.length } := by
  cases t with
  | star => exact step_tag_star B s fuel flags st hd hR.not_bar hs
  | name f =>
    obtain ⟨hv, hh, hcp⟩ := hok
    exact step_tag_ident B s fuel flags st hd hv hh hR.not_cont hR.not_bar hcp hs

/-- A simple selector whose token starts no nested list (`need = 0`: every kind but `:fn(list)` and `:nth-child(… of list)`):
    one turn of the loop, whatever the flags. -/
theorem run_leaf : ∀ (it : SItem), it.need = 0 → ∀ (flags : Nat) (st : LS) (fuel : Nat) (r : Str),
    s.drop st.pos = it.render ++ r → it.ok r → SafeStart r →
    ∃ p idx, s.drop p = r ∧
      parseLoop pyFoldEnv Gen.lexicon B s (fuel + 1) flags st =
        parseLoop pyFoldEnv Gen.lexicon B s fuel flags
          { st with pos := p, index := idx, sel := it.value.apply B st.sel, hasSelector := true }
  | .id f, _, flags, st, fuel, r, hd, hok, hr => by
    rw [SItem.render] at hd
    rw [SItem.ok] at hok
    obtain ⟨hv, hh, hcp⟩ := hok
    exact ⟨_, _, drop_add_of_drop_append hd, step_id B s fuel flags st hd hv hh hr.not_cont hcp⟩
  | .cls f, _, flags, st, fuel, r, hd, hok, hr => by
    rw [SItem.render] at hd
    rw [SItem.ok] at hok
    obtain ⟨hv, hh, hcp⟩ := hok
    exact ⟨_, _, drop_add_of_drop_append hd, step_class B s fuel flags st hd hv hh hr.not_cont hcp⟩
  | .attr a, _, flags, st, fuel, r, hd, hok, _ => by
    rw [SItem.render] at hd
    rw [SItem.ok] at hok
    exact run_attr B s flags a st fuel r hd hok
  | .pseudo f, _, flags, st, fuel, r, hd, hok, hr => by
    rw [SItem.render] at hd
    rw [SItem.ok] at hok
    obtain ⟨⟨hv, hh, hcp⟩, hname⟩ := hok
    obtain ⟨x, xs, hxs, hx⟩ := name_head f hh (plainName_no_dash _ hname)
    exact step_pseudo_plain s B fuel flags st (by simpa using hd) hxs hx hv hh hr.not_cont
      hr.not_paren hcp hname
  | .nth f g₁ a g₂, _, flags, st, fuel, r, hd, hok, _ => by
    rw [SItem.render] at hd
    simp only [List.cons_append, List.append_assoc, List.nil_append] at hd
    rw [SItem.ok] at hok
    obtain ⟨⟨hv, hh, hcp⟩, hname, hg₁, hg₂, ha⟩ := hok
    rw [SItem.value, Item.apply]
    rcases hname with hname | hname
    · exact step_nth_type B s fuel flags st a ha hd hv hh hcp hg₁ hg₂ hname
    · exact step_nth_child B s fuel flags st a ha hd hv hh hcp hg₁ hg₂ hname
  | .dir f g₁ ltr m g₂, _, flags, st, fuel, r, hd, hok, _ => by
    rw [SItem.render] at hd
    simp only [List.cons_append, List.append_assoc, List.nil_append] at hd
    rw [SItem.ok] at hok
    obtain ⟨⟨hv, hh, hcp⟩, hname, hg₁, hg₂⟩ := hok
    rw [SItem.value, Item.apply]
    exact step_dir s B fuel flags st ltr hd hv hh hcp hg₁ hg₂
      (lower_dirWord ltr m) hname
  | .fn _ _ l _, h, _, _, _, _, _, _, _ => by rw [SItem.need] at h; omega
  | .nthOf _ _ _ _ _ _ l _, h, _, _, _, _, _, _, _ => by rw [SItem.need] at h; omega

end Run

end C09Compile
end SoupVerif
