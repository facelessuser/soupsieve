/-
  Refinement proofs for the two document-side whitespace regexes of `css_match.py`:

      Gen.cm_RE_NOT_EMPTY   [^ \t\r\n\f]      used as  RE_NOT_EMPTY.search(child)   in `match_empty`
      Gen.cm_RE_NOT_WS      [^ \t\r\n\f]+     used as  RE_NOT_WS.findall(classes)   in `get_classes`

  Both have `ic = false` everywhere, so the theorems hold for an arbitrary `env : CharEnv`.

  For ALL subjects `s`: `RE_NOT_EMPTY.search(s)` succeeds iff `s.any (fun x => !isCssWs x)`, the test the model
  `matchEmpty` uses; `RE_NOT_WS.findall(s)` is `splitWs s`, which the model `getClasses` uses.

  `findall` (defined here) is CPython's `pattern.findall` for a pattern without groups: scan left to
  right; every match found contributes its text; the next search starts at the end of the match;
  after an EMPTY match the next attempt at the same position must advance (sre's `must_advance`: the
  first run in priority order that is not empty), and if there is none the scan moves one character
  on.  Checked against the real `re.findall` at the end of the file.
-/
import SoupVerif.Lemmas.RxBasic
import SoupVerif.Generated.Regexes
namespace SoupVerif
namespace Refine
namespace Misc
open Rx RxBasic

/-- `s[i:j]`. -/
def slice (s : Str) (i j : Nat) : Str := (s.drop i).take (j - i)

/-- One attempt at position `i` (`adv`: an empty match is not acceptable — sre's `must_advance`).  The same rule
    as `Refine.Context.firstRun`, which writes "not empty" as `≠ pos`; `findallGo` is `Refine.Context.finditerAux`
    emitting the matched slices (the two loops are kept apart because their results differ in type). -/
def attempt (env : CharEnv) (r : Rx) (s : Str) (i : Nat) (adv : Bool) : Option (Nat × Caps) :=
  if adv then (runs env s r i []).find? (fun x => x.1 > i) else matchAt env r s i

/-- The scan of `findall`: `i` is the position of the next attempt. Every step either emits a
    non-empty match (the position grows), emits an empty match (then `adv` is set, once per
    position), or moves one character on; `2 * s.length + 3` steps suffice. -/
def findallGo (env : CharEnv) (r : Rx) (s : Str) : Nat → Nat → Bool → List Str
  | 0, _, _ => []
  | fuel + 1, i, adv =>
    if i > s.length then [] else
    match attempt env r s i adv with
    | some (j, _) => slice s i j :: findallGo env r s fuel j (j == i)
    | none => if i < s.length then findallGo env r s fuel (i + 1) false else []

/-- `pattern.findall(s)` for a pattern without capturing groups. -/
def findall (env : CharEnv) (r : Rx) (s : Str) : List Str :=
  findallGo env r s (2 * s.length + 3) 0 false

def notWs (x : Nat) : Bool := !isCssWs x

theorem not_empty_shape :
    Gen.cm_RE_NOT_EMPTY = .set true [.ch 32, .ch 9, .ch 13, .ch 10, .ch 12] false := rfl

theorem not_ws_shape :
    Gen.cm_RE_NOT_WS = .rep 1 none true (.set true [.ch 32, .ch 9, .ch 13, .ch 10, .ch 12] false) := rfl

theorem class_sem (env : CharEnv) (c : Nat) :
    setHas env true [.ch 32, .ch 9, .ch 13, .ch 10, .ch 12] false c = notWs c := by
  rw [Bool.eq_iff_iff]
  simp only [setHas, List.any, itemHas, notWs, isCssWs, Bool.false_eq_true, if_false, Bool.or_false,
    bne_iff_ne, ne_eq, Bool.not_eq_true', Bool.or_eq_false_iff, beq_eq_false_iff_ne, Bool.or_eq_true,
    beq_iff_eq]
  omega

theorem class_isChar (env : CharEnv) (s : Str) :
    IsChar env s (.set true [.ch 32, .ch 9, .ch 13, .ch 10, .ch 12] false) notWs :=
  isChar_congr (isChar_set env s _ _ _) (class_sem env)

theorem not_empty_matchAt (env : CharEnv) (s : Str) (i : Nat) :
    matchAt env Gen.cm_RE_NOT_EMPTY s i =
      match s[i]? with
      | some x => if notWs x then some (i + 1, []) else none
      | none => none := by
  rw [not_empty_shape, matchAt, class_isChar env s i []]; unfold charBody
  cases s[i]? with
  | none => rfl
  | some x => dsimp only; cases notWs x <;> rfl

/-- Where the match is: at the first non-whitespace character, one character long, no captures. -/
theorem not_empty_search_pos (env : CharEnv) (s : Str) :
    ∀ (fuel i : Nat), s.length - i ≤ fuel →
      searchFrom env Gen.cm_RE_NOT_EMPTY s fuel i =
        if (s.drop i).any notWs then
          some (i + ((s.drop i).takeWhile isCssWs).length, i + ((s.drop i).takeWhile isCssWs).length + 1, [])
        else none
  | 0, i, hf => by
    rw [searchFrom, List.drop_eq_nil_of_le (by omega)]; rfl
  | fuel + 1, i, hf => by
    rw [searchFrom, not_empty_matchAt]
    rcases Nat.lt_or_ge i s.length with hlt | hge
    · rw [List.drop_eq_getElem_cons hlt, List.getElem?_eq_getElem hlt, List.any_cons,
        List.takeWhile_cons]
      dsimp only
      cases hx : notWs s[i] with
      | true =>
        have : isCssWs s[i] = false := by simpa [notWs] using hx
        simp [this]
      | false =>
        have : isCssWs s[i] = true := by simpa [notWs] using hx
        simp only [Bool.false_eq_true, if_false, hlt, if_true, Bool.false_or, this, List.length_cons]
        rw [not_empty_search_pos env s fuel (i + 1) (by omega)]
        simp only [show ∀ n, i + 1 + n = i + (n + 1) by intro n; omega]
    · rw [List.getElem?_eq_none hge, List.drop_eq_nil_of_le hge]
      simp only [if_neg (Nat.not_lt.mpr hge)]; rfl

theorem not_empty_search_from (env : CharEnv) (s : Str) (i : Nat) :
    (Rx.search env Gen.cm_RE_NOT_EMPTY s i).isSome = (s.drop i).any (fun x => !isCssWs x) := by
  rw [Rx.search, not_empty_search_pos env s _ i (by omega)]
  show _ = (s.drop i).any notWs
  cases (s.drop i).any notWs <;> rfl

/-- `RE_NOT_EMPTY.search(s) is not None` is the test used by `matchEmpty`. -/
theorem not_empty_search (env : CharEnv) (s : Str) :
    (Rx.search env Gen.cm_RE_NOT_EMPTY s).isSome = s.any (fun x => !isCssWs x) :=
  not_empty_search_from env s 0

/-- The runs of `[^ \t\r\n\f]+` at `i`: from the whole maximal run of non-whitespace down to one
    character. -/
theorem not_ws_runs (env : CharEnv) (s : Str) (i : Nat) (caps : Caps) :
    runs env s Gen.cm_RE_NOT_WS i caps = down caps (i + 1) (i + spanLen s notWs i) := by
  rw [not_ws_shape, runs_rep_char (class_isChar env s)]; rfl

theorem not_ws_matchAt (env : CharEnv) (s : Str) (i : Nat) :
    matchAt env Gen.cm_RE_NOT_WS s i =
      if 1 ≤ spanLen s notWs i then some (i + spanLen s notWs i, []) else none := by
  rw [matchAt, not_ws_runs]
  by_cases h : 1 ≤ spanLen s notWs i
  · rw [if_pos h, head_down [] (by omega)]
  · rw [if_neg h, down_empty [] (by omega)]; rfl

/-- The recursion of `splitWs` from an empty accumulator. -/
def words (t : Str) : List Str := splitWs.go t []

theorem go_acc : ∀ (t cur : Str), cur ≠ [] →
    splitWs.go t cur = (cur.reverse ++ t.takeWhile notWs) :: splitWs.go (t.dropWhile notWs) []
  | [], cur, h => by
    cases cur with
    | nil => exact absurd rfl h
    | cons a cur => simp [splitWs.go]
  | c :: cs, cur, h => by
    cases cur with
    | nil => exact absurd rfl h
    | cons a cur =>
      rw [splitWs.go]
      cases hc : isCssWs c with
      | true =>
        have hn : notWs c = false := by simp [notWs, hc]
        simp only [if_true, List.isEmpty_cons, Bool.false_eq_true, if_false,
          List.takeWhile_cons, List.dropWhile_cons, hn, List.append_nil]
        rw [splitWs.go]; simp [hc]
      | false =>
        have hn : notWs c = true := by simp [notWs, hc]
        simp only [Bool.false_eq_true, if_false]
        rw [go_acc cs (c :: a :: cur) (by simp)]
        simp only [List.takeWhile_cons, List.dropWhile_cons, hn, if_true, List.reverse_cons,
          List.append_assoc, List.cons_append, List.nil_append]

theorem words_nil : words [] = [] := by simp [words, splitWs.go]

theorem words_ws {c : Nat} (cs : Str) (h : notWs c = false) : words (c :: cs) = words cs := by
  have hc : isCssWs c = true := by simpa [notWs] using h
  unfold words; rw [splitWs.go]; simp [hc]

theorem words_word {c : Nat} (cs : Str) (h : notWs c = true) :
    words (c :: cs) = (c :: cs).takeWhile notWs :: words ((c :: cs).dropWhile notWs) := by
  have hc : isCssWs c = false := by simpa [notWs] using h
  unfold words; rw [splitWs.go]
  simp only [hc, Bool.false_eq_true, if_false]
  rw [go_acc cs [c] (by simp)]
  simp [h]

/-- The scan of `findall` on `RE_NOT_WS`, from any position, is the recursion of `splitWs` on the
    rest of the input. -/
theorem not_ws_go (env : CharEnv) (s : Str) :
    ∀ (fuel i : Nat), i ≤ s.length → s.length - i + 1 ≤ fuel →
      findallGo env Gen.cm_RE_NOT_WS s fuel i false = words (s.drop i)
  | 0, _, _, hf => by omega
  | fuel + 1, i, hi, hf => by
    rw [findallGo, if_neg (by omega)]
    simp only [attempt, Bool.false_eq_true, if_false]
    rw [not_ws_matchAt]
    rcases Nat.lt_or_ge i s.length with hlt | hge
    · have hx : s[i]? = some s[i] := List.getElem?_eq_getElem hlt
      cases hP : notWs s[i] with
      | true =>
        have hsp := spanLen_of_ok hx hP
        have hle := spanLen_le s notWs i
        rw [if_pos (by omega)]
        simp only
        have hne : (i + spanLen s notWs i == i) = false := by simp; omega
        rw [hne, not_ws_go env s fuel (i + spanLen s notWs i) (by omega) (by omega)]
        have hw := words_word (s.drop (i + 1)) hP
        rw [← List.drop_eq_getElem_cons hlt] at hw
        rw [hw]
        congr 1
        · unfold slice spanLen
          rw [show i + ((s.drop i).takeWhile notWs).length - i = ((s.drop i).takeWhile notWs).length by omega]
          exact take_takeWhile notWs _
        · congr 1
          unfold spanLen
          rw [← List.drop_drop]
          exact drop_takeWhile notWs _
      | false =>
        rw [spanLen_of_not hx hP, if_neg (by omega)]
        simp only [hlt, if_true]
        rw [not_ws_go env s fuel (i + 1) (by omega) (by omega)]
        have hw := words_ws (s.drop (i + 1)) hP
        rw [← List.drop_eq_getElem_cons hlt] at hw
        exact hw.symm
    · have : i = s.length := by omega
      subst this
      rw [spanLen_of_none (List.getElem?_eq_none (Nat.le_refl _)), if_neg (by omega)]
      simp only [Nat.lt_irrefl, if_false]
      rw [List.drop_eq_nil_of_le (Nat.le_refl _), words_nil]

/-- `RE_NOT_WS.findall(s)` is `splitWs s`, the function the model `getClasses`
    uses. -/
theorem not_ws_findall (env : CharEnv) (s : Str) :
    findall env Gen.cm_RE_NOT_WS s = splitWs s := by
  unfold findall
  rw [not_ws_go env s _ 0 (by omega) (by omega)]
  rfl

/-! ### `findall` against the real `re.findall`

  python -c "import re; print(re.findall('[^ \t\r\n\f]+', ' ab  c\td '), re.findall('|a', 'a'),
     re.findall('x*', 'abxd'), re.findall('a|', 'baab'), re.findall('(?:|ab)', 'abab'))"
  ['ab', 'c', 'd'] ['', 'a', ''] ['', '', 'x', '', ''] ['', 'a', 'a', '', ''] ['', 'ab', '', 'ab', '']
-/
section Check
private def show' (l : List Str) : List String := l.map fun w => String.ofList (w.map Char.ofNat)
/-- info: ["ab", "c", "d"] -/
#guard_msgs in #eval show' (findall asciiEnv Gen.cm_RE_NOT_WS " ab  c\td ".toStr)
/-- info: ["", "a", ""] -/
#guard_msgs in #eval show' (findall asciiEnv (.alt [.seq [], .lit 97 false]) "a".toStr)
/-- info: ["", "", "x", "", ""] -/
#guard_msgs in #eval show' (findall asciiEnv (.rep 0 none true (.lit 120 false)) "abxd".toStr)
/-- info: ["", "a", "a", "", ""] -/
#guard_msgs in #eval show' (findall asciiEnv (.alt [.lit 97 false, .seq []]) "baab".toStr)
/-- info: ["", "ab", "", "ab", ""] -/
#guard_msgs in #eval show' (findall asciiEnv (.alt [.seq [], .seq [.lit 97 false, .lit 98 false]]) "abab".toStr)
end Check

end Misc
end Refine
end SoupVerif

#print axioms SoupVerif.Refine.Misc.not_empty_search
#print axioms SoupVerif.Refine.Misc.not_empty_search_pos
#print axioms SoupVerif.Refine.Misc.not_ws_findall
