/-
  The SPELLED side of the covered grammars: a selector list as the tokenizer sees it, with the choices its text leaves
  open (gaps, escapes, quotes, letter case).  For every syntactic category its text (`render`), its values (`value`, in the
  types of `Refine/Denote.lean`), and the side conditions under which the text is read as intended (`ok`, in front of a
  given rest of the pattern): namespace prefix `SNs`, type selector `STag`, attribute selector `SAttr` with its
  value `SValue`, An+B `SAnB`, value list `SValues`, combinator `SComb`, and the mutual `SItem` / `SCompound` / `SSelList`
  of `C09Compile` (the smaller grammar; the larger one: `Refine/Syntax2.lean`); `need` / `cost`: the fuel the parser loop
  needs on them.
-/
import SoupVerif.Spec.Spelling
import SoupVerif.Refine.Denote
import SoupVerif.Lemmas.EscapeForms
namespace SoupVerif

namespace Refine
namespace Compile
open Rx SoupVerif.Parser Escape Spelling
open C09Compile (Forms identOK)

/-- `,` `+` `>` `~`. -/
def isComb (x : Nat) : Bool := x == 44 || x == 43 || x == 62 || x == 126

/-- A gap that contains at least one whitespace unit outside comments: what the descendant
    combinator is written as. -/
inductive DescGap : Str → Prop
  | ws (c : Nat) (g : Str) : isCssWs c = true → isGap g → DescGap (c :: g)
  | comment (cs t : Str) : dropComment cs = some t → DescGap t → DescGap (47 :: 42 :: cs)

/-- A namespace prefix that is present, with its spelling: `|`, `*|`, `ident|`. -/
inductive SNs where
  | empty
  | star
  | name (f : List (Nat × EscForm))

/-- The text of the prefix, without the bar. -/
def SNs.text : SNs → Str
  | .empty => []
  | .star => [42]
  | .name f => renderIdentWith f

/-- The value of the prefix: what `css_unescape` makes of the text without the bar. -/
def SNs.value : SNs → Str
  | .empty => []
  | .star => [42]
  | .name f => valueOf f

/-- Admissible in front of `|` + `rest`. -/
def SNs.ok (rest : Str) : SNs → Prop
  | .name f => identOK f (124 :: rest)
  | _ => True

/-- `!` `~` `^` `|` `*` `$`. -/
def isCmp (x : Nat) : Bool := x == 33 || x == 126 || x == 94 || x == 124 || x == 42 || x == 36

/-- The flag characters of the covered grammar: `i` `I` `s` `S`. -/
def isFlag (x : Nat) : Bool := x == 105 || x == 73 || x == 115 || x == 83

/-- The value of an optional namespace prefix (`[]` when there is none: `[a]` and `[|a]` have the same values). -/
def nsValue (ns : Option SNs) : Str :=
  match ns with
  | none => []
  | some n => n.value

def isDigit (x : Nat) : Bool := 48 ≤ x && x ≤ 57

def isSign (x : Nat) : Bool := x == 45 || x == 43

def isN (x : Nat) : Bool := x == 110 || x == 78

/-- The optional tail `gap [-+] gap digits` of an An+B, as `(g, sg, g', D2)`: its text, and when it is admissible behind
    the `n` part `n`. -/
def tailText : Option (Str × Nat × Str × Str) → Str
  | none => []
  | some (g, sg, g', D2) => g ++ (sg :: (g' ++ D2))

def tailOK (n : Option Nat) : Option (Str × Nat × Str × Str) → Prop
  | none => True
  | some (g, sg, g', D2) =>
    n.isSome = true ∧ isGap g ∧ isSign sg = true ∧ isGap g' ∧ D2 ≠ [] ∧ ∀ x ∈ D2, isDigit x = true

/-- An+B with its spelling: `even` / `odd` in any letter case, or `[-+]? digits n?` / `[-+]? n`, the
    latter optionally followed by `gap [-+] gap digits`. -/
inductive SAnB where
  | even (m : List Bool)
  | odd (m : List Bool)
  | lin (sg : Option Nat) (D : Str) (n : Option Nat) (T : Option (Str × Nat × Str × Str))

def SAnB.render : SAnB → Str
  | .even m => mixCase m "even".toStr
  | .odd m => mixCase m "odd".toStr
  | .lin sg D n T => sg.toList ++ (D ++ (n.toList ++ tailText T))

def SAnB.ok : SAnB → Prop
  | .even _ => True
  | .odd _ => True
  | .lin sg D n T =>
    (∀ x, sg = some x → isSign x = true) ∧ (∀ x ∈ D, isDigit x = true) ∧
    (∀ x, n = some x → isN x = true) ∧ (D ≠ [] ∨ n.isSome = true) ∧ tailOK n T

/-- The value: lower case, no gaps. -/
def SAnB.canon : SAnB → Str
  | .even _ => "even".toStr
  | .odd _ => "odd".toStr
  | .lin sg D n T =>
    sg.toList ++ (D ++ ((n.map fun _ => 110).toList ++
      tailText (T.map fun q => ([], q.2.1, [], q.2.2.2))))

/-- The keyword of `:dir()` in lower case (the text has it in any letter case: `mixCase m (dirWord ltr)`). -/
def dirWord (ltr : Bool) : Str := if ltr then "ltr".toStr else "rtl".toStr

end Compile
end Refine

namespace C09Compile
open Rx SoupVerif.Parser ParserProgress Escape Spelling Refine.Compile

/-- The value of an attribute selector: a bare identifier, or a string in single or double quotes. -/
inductive SValue where
  | ident (f : Forms)
  | str (q : Nat) (ps : List StrPiece)

def SValue.render : SValue → Str
  | .ident f => renderIdentWith f
  | .str q ps => q :: (renderStrWith ps ++ [q])

def SValue.value : SValue → Str
  | .ident f => valueOf f
  | .str _ ps => strValue ps

/-- Admissible in front of the text `r`. -/
def SValue.ok (r : Str) : SValue → Prop
  | .ident f => identOK f r ∧ ¬ continuesIdent r
  | .str q ps => (q = 34 ∨ q = 39) ∧ validStr q ps [] = true ∧ ∀ p ∈ ps, pieceRangeOk p = true

/-- A type selector: `*` or an identifier. -/
inductive STag where
  | star
  | name (f : Forms)

def STag.value : STag → Str
  | .star => [42]
  | .name f => valueOf f

def STag.render : STag → Str
  | .star => [42]
  | .name f => renderIdentWith f

def STag.ok (r : Str) : STag → Prop
  | .star => True
  | .name f => identOK f r

end C09Compile

namespace Refine
namespace Compile
open Rx SoupVerif.Parser Escape Spelling
open C09Compile (SValue identOK)

/-- `value (gap , gap value)*` -/
structure SValues where
  first : SValue
  rest : List (Str × Str × SValue)

def renderVRest : List (Str × Str × SValue) → Str
  | [] => []
  | x :: rest => x.1 ++ 44 :: (x.2.1 ++ (x.2.2.render ++ renderVRest rest))

def SValues.render (V : SValues) : Str := V.first.render ++ renderVRest V.rest

def vrestValues : List (Str × Str × SValue) → List Str
  | [] => []
  | x :: rest => x.2.2.value :: vrestValues rest

/-- The values: the unescaped texts. -/
def SValues.values (V : SValues) : List Str := V.first.value :: vrestValues V.rest

def vrestOK : List (Str × Str × SValue) → Str → Prop
  | [], _ => True
  | x :: rest, r => isGap x.1 ∧ isGap x.2.1 ∧ x.2.2.ok (renderVRest rest ++ r) ∧ vrestOK rest r

/-- Admissible in front of the text `r`. -/
def SValues.ok (V : SValues) (r : Str) : Prop := V.first.ok (renderVRest V.rest ++ r) ∧ vrestOK V.rest r

end Compile
end Refine

namespace C09Compile
open Rx SoupVerif.Parser ParserProgress Escape Spelling Refine.Compile

/-- `gap op= gap value (gap flag)?` -/
structure SAttrOp where
  g1 : Str
  /-- the character in front of `=`, if any: one of `!` `~` `^` `|` `*` `$` -/
  op : Option Nat
  g2 : Str
  value : SValue
  /-- gap and flag character (`i` `I` `s` `S`) -/
  flag : Option (Str × Nat)

/-- `[ gap name (…)? gap ]` -/
structure SAttr where
  g0 : Str
  name : Forms
  body : Option SAttrOp
  g4 : Str

def opText : Option Nat → Str
  | none => [61]
  | some x => [x, 61]

def flagText : Option (Str × Nat) → Str
  | none => []
  | some (g3, f) => g3 ++ [f]

/-- The text after the attribute name, up to and including `]`. -/
def SAttr.afterName (a : SAttr) : Str :=
  match a.body with
  | none => a.g4 ++ [93]
  | some b => b.g1 ++ (opText b.op ++ (b.g2 ++ (b.value.render ++ (flagText b.flag ++ (a.g4 ++ [93])))))

def SAttr.render (a : SAttr) : Str := 91 :: (a.g0 ++ (renderIdentWith a.name ++ a.afterName))

def SAttr.value (a : SAttr) : AttrV :=
  ⟨valueOf a.name, a.body.map fun b => (opText b.op, b.value.value, b.flag.map fun x => lowerCp x.2)⟩

def SAttr.ok (a : SAttr) (r : Str) : Prop :=
  isGap a.g0 ∧ isGap a.g4 ∧ identOK a.name (a.afterName ++ r) ∧
  match a.body with
  | none => True
  | some b =>
    isGap b.g1 ∧ isGap b.g2 ∧ (∀ x, b.op = some x → isCmp x = true) ∧
    b.value.ok (flagText b.flag ++ (a.g4 ++ 93 :: r)) ∧
    (∀ g3 f, b.flag = some (g3, f) → isGap g3 ∧ isFlag f = true)

/-- A combinator with its spelling: `g₁ c g₂` for `c` one of `,` `+` `>` `~` (the comma is a combinator for
    the tokenizer), or a gap containing whitespace (the descendant combinator). -/
inductive SComb where
  | sym (g₁ : Str) (c : Nat) (g₂ : Str)
  | desc (g : Str)

/-- The combinator character `parse_combinator` sees (32 for the descendant combinator). -/
def SComb.value : SComb → Nat
  | .sym _ c _ => c
  | .desc _ => 32

def SComb.render : SComb → Str
  | .sym g₁ c g₂ => g₁ ++ c :: g₂
  | .desc g => g

def SComb.ok : SComb → Prop
  | .sym g₁ c g₂ => isGap g₁ ∧ isGap g₂ ∧ isComb c = true
  | .desc g => DescGap g

/-- Names (lower-cased, with the colon) of the pseudo-classes without arguments. -/
def plainName (n : Str) : Prop :=
  inList Gen.lexicon.pseudoSimple n = true ∨ inList Gen.lexicon.pseudoSimpleNoMatch n = true

/-- Names of the covered pseudo-classes that take a selector list. -/
def fnName (n : Str) : Prop :=
  n = ":not".toStr ∨ n = ":is".toStr ∨ n = ":where".toStr ∨ n = ":matches".toStr

mutual
/-- A simple selector other than the type selector, with its spelling. -/
inductive SItem where
  | id (f : Forms)
  | cls (f : Forms)
  | attr (a : SAttr)
  /-- `:name` -/
  | pseudo (f : Forms)
  /-- `:name(` gap list gap `)` -/
  | fn (f : Forms) (g₁ : Str) (l : SSelList) (g₂ : Str)
  /-- `:nth-…(` gap An+B gap `)` -/
  | nth (f : Forms) (g₁ : Str) (a : SAnB) (g₂ : Str)
  /-- `:nth-child(` gap An+B gap-with-ws `of` gap-with-ws list gap `)` (`of` in any letter case) -/
  | nthOf (f : Forms) (g₁ : Str) (a : SAnB) (dg1 : Str) (m : List Bool) (dg2 : Str) (l : SSelList) (g₂ : Str)
  /-- `:dir(` gap `ltr`|`rtl` gap `)`, the keyword in any letter case -/
  | dir (f : Forms) (g₁ : Str) (ltr : Bool) (m : List Bool) (g₂ : Str)
/-- Optional type selector, then simple selectors. -/
inductive SCompound where
  | mk (tag : Option STag) (items : List SItem)
/-- A selector list as the tokenizer sees it: a compound, then combinator–compound pairs (the comma
    being one of the combinators). -/
inductive SSelList where
  | mk (first : SCompound) (rest : List (SComb × SCompound))
end

mutual
def SItem.value : SItem → Item
  | .id f => .id (valueOf f)
  | .cls f => .cls (valueOf f)
  | .attr a => .attr a.value
  | .pseudo f => .pseudo (58 :: lower (valueOf f))
  | .fn f _ l _ => .fn (58 :: lower (valueOf f)) l.value
  | .nth f _ a _ => .nth (58 :: lower (valueOf f)) a.canon
  | .nthOf f _ a _ _ _ l _ => .nthOf (58 :: lower (valueOf f)) a.canon l.value
  | .dir _ _ ltr _ _ => .dir ltr
def itemsValue : List SItem → List Item
  | [] => []
  | it :: rest => it.value :: itemsValue rest
def SCompound.value : SCompound → Compound
  | .mk tag items => .mk (tag.map STag.value) (itemsValue items)
def restValue : List (SComb × SCompound) → List (Nat × Compound)
  | [] => []
  | x :: rest => (x.1.value, x.2.value) :: restValue rest
def SSelList.value : SSelList → SelListV
  | .mk first rest => .mk first.value (restValue rest)
end

theorem itemsValue_append : ∀ (l₁ l₂ : List SItem), itemsValue (l₁ ++ l₂) = itemsValue l₁ ++ itemsValue l₂
  | [], l₂ => by simp only [List.nil_append, itemsValue]
  | it :: l₁, l₂ => by simp only [List.cons_append, itemsValue, itemsValue_append l₁ l₂]

theorem restValue_append : ∀ (l₁ l₂ : List (SComb × SCompound)),
    restValue (l₁ ++ l₂) = restValue l₁ ++ restValue l₂
  | [], l₂ => by simp only [List.nil_append, restValue]
  | x :: l₁, l₂ => by simp only [List.cons_append, restValue, restValue_append l₁ l₂]

mutual
def SItem.render : SItem → Str
  | .id f => 35 :: renderIdentWith f
  | .cls f => 46 :: renderIdentWith f
  | .attr a => a.render
  | .pseudo f => 58 :: renderIdentWith f
  | .fn f g₁ l g₂ => 58 :: (renderIdentWith f ++ (40 :: (g₁ ++ (l.render ++ (g₂ ++ [41])))))
  | .nth f g₁ a g₂ => 58 :: (renderIdentWith f ++ (40 :: (g₁ ++ (a.render ++ (g₂ ++ [41])))))
  | .nthOf f g₁ a dg1 m dg2 l g₂ =>
    58 :: (renderIdentWith f ++ (40 :: (g₁ ++ (a.render ++ (dg1 ++ (mixCase m "of".toStr ++
      (dg2 ++ (l.render ++ (g₂ ++ [41])))))))))
  | .dir f g₁ ltr m g₂ =>
    58 :: (renderIdentWith f ++ (40 :: (g₁ ++ (mixCase m (dirWord ltr) ++ (g₂ ++ [41])))))
def renderItems : List SItem → Str
  | [] => []
  | it :: rest => it.render ++ renderItems rest
def SCompound.render : SCompound → Str
  | .mk tag items => (match tag with | some t => t.render | none => []) ++ renderItems items
def renderRest : List (SComb × SCompound) → Str
  | [] => []
  | x :: rest => x.1.render ++ (x.2.render ++ renderRest rest)
def SSelList.render : SSelList → Str
  | .mk first rest => first.render ++ renderRest rest
end

theorem renderRest_append : ∀ (l₁ l₂ : List (SComb × SCompound)),
    renderRest (l₁ ++ l₂) = renderRest l₁ ++ renderRest l₂
  | [], l₂ => by simp only [List.nil_append, renderRest]
  | x :: l₁, l₂ => by simp only [List.cons_append, renderRest, renderRest_append l₁ l₂, List.append_assoc]

mutual
/-- Admissible in front of the text `r`. -/
def SItem.ok : SItem → Str → Prop
  | .id f, r => identOK f r
  | .cls f, r => identOK f r
  | .attr a, r => a.ok r
  | .pseudo f, r => identOK f r ∧ plainName (58 :: lower (valueOf f))
  | .fn f g₁ l g₂, r =>
    identOK f (40 :: (g₁ ++ (l.render ++ (g₂ ++ 41 :: r)))) ∧ fnName (58 :: lower (valueOf f)) ∧
    isGap g₁ ∧ isGap g₂ ∧ l.ok (g₂ ++ 41 :: r)
  | .nth f g₁ a g₂, r =>
    identOK f (40 :: (g₁ ++ (a.render ++ (g₂ ++ 41 :: r)))) ∧
    (nthTypeName (58 :: lower (valueOf f)) ∨ nthChildName (58 :: lower (valueOf f))) ∧
    isGap g₁ ∧ isGap g₂ ∧ a.ok
  | .nthOf f g₁ a dg1 m dg2 l g₂, r =>
    identOK f (40 :: (g₁ ++ (a.render ++ (dg1 ++ (mixCase m "of".toStr ++
      (dg2 ++ (l.render ++ (g₂ ++ 41 :: r)))))))) ∧
    nthChildName (58 :: lower (valueOf f)) ∧ isGap g₁ ∧ a.ok ∧ DescGap dg1 ∧ DescGap dg2 ∧ isGap g₂ ∧
    l.ok (g₂ ++ 41 :: r)
  | .dir f g₁ ltr m g₂, r =>
    identOK f (40 :: (g₁ ++ (mixCase m (dirWord ltr) ++ (g₂ ++ 41 :: r)))) ∧
    58 :: lower (valueOf f) = ":dir".toStr ∧ isGap g₁ ∧ isGap g₂
def itemsOK : List SItem → Str → Prop
  | [], _ => True
  | it :: rest, r => it.ok (renderItems rest ++ r) ∧ itemsOK rest r
def SCompound.ok : SCompound → Str → Prop
  | .mk tag items, r =>
    (match tag with | some t => t.ok (renderItems items ++ r) | none => True) ∧
    itemsOK items r ∧ (tag.isSome = true ∨ items ≠ [])
def restOK : List (SComb × SCompound) → Str → Prop
  | [], _ => True
  | x :: rest, r => x.1.ok ∧ x.2.ok (renderRest rest ++ r) ∧ restOK rest r
def SSelList.ok : SSelList → Str → Prop
  | .mk first rest, r => first.ok (renderRest rest ++ r) ∧ restOK rest r
end

/-- Tokens of a compound at its own level. -/
def SCompound.size : SCompound → Nat
  | .mk tag items => (if tag.isSome then 1 else 0) + items.length

def restSize : List (SComb × SCompound) → Nat
  | [] => 0
  | x :: rest => 1 + x.2.size + restSize rest

mutual
/-- Fuel the loop must still have after the token of an item (for the nested list of `:not(…)` etc.). -/
def SItem.need : SItem → Nat
  | .fn _ _ l _ => l.cost + 1
  | .nthOf _ _ _ _ _ _ l _ => l.cost + 1
  | _ => 0
def itemsNeed : List SItem → Nat
  | [] => 0
  | it :: rest => it.need + itemsNeed rest
def SCompound.need : SCompound → Nat
  | .mk _ items => itemsNeed items
def restNeed : List (SComb × SCompound) → Nat
  | [] => 0
  | x :: rest => x.2.need + restNeed rest
/-- Fuel the loop of a nested list needs: its own tokens, the closing parenthesis, and what its items need. -/
def SSelList.cost : SSelList → Nat
  | .mk first rest => first.size + restSize rest + 1 + (first.need + restNeed rest)
end

end C09Compile

end SoupVerif
