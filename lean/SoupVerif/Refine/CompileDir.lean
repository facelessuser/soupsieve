/-
  The token `pseudo_dir` (`:dir(` gap `ltr` | `rtl` gap `)`, reached through the `special` slot) and what
  the parser does with it.
-/
import SoupVerif.Refine.CompilePseudo
import SoupVerif.Refine.CompileNthRx
namespace SoupVerif
namespace Refine
namespace Compile
open Rx RxBasic SoupVerif.Parser ParserProgress Escape Spelling
open Wsc (gapRx)

def dirAlt : Rx := .alt [.seq (kwRx "ltr".toStr), .seq (kwRx "rtl".toStr)]

theorem tok_dir_shape :
    Gen.tok_pseudo_dir = .seq [.group 1 rxColonIdent, rxOpen, .group 3 dirAlt, gapRx true, .lit 41 true] := rfl

def dirRx : TokenRx := ⟨"pseudo_dir", Gen.tok_pseudo_dir, Gen.tok_pseudo_dir_groups⟩

theorem find_dir : Gen.lexicon.special.find? (fun e => e.1 == ":dir".toStr) = some (":dir".toStr, dirRx) := rfl

variable (s : Str)

theorem lower_dirWord (ltr : Bool) (m : List Bool) : lower (mixCase m (dirWord ltr)) = dirWord ltr :=
  SpellingLemmas.lower_mixCase m _ (by cases ltr <;> decide)

theorem dirAlt_runs {p : Nat} {w R : Str} (ltr : Bool) (c : Caps) (hd : s.drop p = w ++ R)
    (hw : lower w = dirWord ltr) :
    runs pyFoldEnv s dirAlt p c = [(p + w.length, c)] := by
  have hx : ∀ x, s[p]? = some x → lowerCp x = (dirWord ltr).head?.getD 0 := by
    intro x hx
    cases w with
    | nil => cases ltr <;> simp [lower, dirWord] at hw <;> cases hw
    | cons y ys =>
      rw [getElem?_of_drop_cons (s := s) (p := p) (by rw [hd]; rfl)] at hx
      cases hx
      simp only [lower, List.map_cons] at hw
      rw [← hw]; rfl
  unfold dirAlt
  rw [runs_alt, runsAlt_cons, runsAlt_cons, runsAlt_nil, List.append_nil, runs_seq, runs_seq]
  cases ltr with
  | true =>
    have h1 := kw_runs (s := s) "ltr".toStr w p c R [] (by decide) hd hw
    have h2 := kw_fail (s := s) 114 "tl".toStr p c [] (by decide)
      (by intro x hx'; rw [hx x hx']; decide)
    simp only [List.append_nil] at h1 h2
    have e2 : kwRx "rtl".toStr = kwRx (114 :: "tl".toStr) := rfl
    rw [h1, e2, h2, runsSeq_nil]; rfl
  | false =>
    have h1 := kw_runs (s := s) "rtl".toStr w p c R [] (by decide) hd hw
    have h2 := kw_fail (s := s) 108 "tr".toStr p c [] (by decide)
      (by intro x hx'; rw [hx x hx']; decide)
    simp only [List.append_nil] at h1 h2
    have e2 : kwRx "ltr".toStr = kwRx (108 :: "tr".toStr) := rfl
    rw [h1, e2, h2, runsSeq_nil]; rfl

theorem dirWord_noGap {w : Str} {ltr : Bool} (hw : lower w = dirWord ltr) (t : Str) :
    noGapStart (w ++ t) = true := by
  obtain ⟨y, ys, rfl, h1, h2⟩ : ∃ y ys, w = y :: ys ∧ isCssWs y = false ∧ y ≠ 47 := by
    cases ltr
    · exact head_of_lower_letter (k := 114) (kw := "tl".toStr) hw (by omega)
    · exact head_of_lower_letter (k := 108) (kw := "tr".toStr) hw (by omega)
  simp [noGapStart, h1, h2]

theorem Reads.dirAlt {w T : Str} (ltr : Bool) (hw : lower w = dirWord ltr) : Reads pyFoldEnv dirAlt w T [] :=
  Reads.of_head fun s p c _ hd => by rw [dirAlt_runs s ltr c hd hw]; rfl

/-- The `pseudo_dir` token on `:name(` gap `ltr`|`rtl` gap `)`, the keyword in any letter case. -/
theorem dir_reads {forms : List (Nat × EscForm)} {g₁ g₂ w R : Str} (ltr : Bool)
    (hv : validForms forms (40 :: (g₁ ++ (w ++ (g₂ ++ 41 :: R)))) = true) (hh : headOk forms = true)
    (hg₁ : isGap g₁) (hg₂ : isGap g₂) (hw : lower w = dirWord ltr) :
    Reads pyFoldEnv Gen.tok_pseudo_dir ((58 :: renderIdentWith forms) ++ ((40 :: g₁) ++ (w ++ (g₂ ++ [41])))) R
      [(1, 58 :: renderIdentWith forms), (2, 40 :: g₁), (3, w)] := by
  rw [tok_dir_shape]
  exact Reads.seq
    (ReadsSeq.cons
      (Reads.group 1 (Reads.prefixed 58 (by simpa using hv) hh (by simp [continuesIdent, identContChar]))
        (keys_ne rfl))
      (ReadsSeq.cons (open_reads 2 hg₁ (by simpa using dirWord_noGap hw (g₂ ++ 41 :: R)))
        (ReadsSeq.cons_tail
          (Reads.group 3 (Reads.dirAlt ltr hw) (keys_ne rfl))
          (ReadsSeq.cons_plain (Reads.gap hg₂ (by simp [noGapStart, isCssWs])) (ReadsSeq.single (Reads.lit 41 R))))
        (keys_disjoint rfl))
      (keys_disjoint rfl))

variable (B : Builtins) (fuel flags : Nat) (st : LS)

theorem step_dir {forms : List (Nat × EscForm)} {g₁ g₂ w r : Str} (ltr : Bool)
    (hd : s.drop st.pos = 58 :: (renderIdentWith forms ++ (40 :: (g₁ ++ (w ++ (g₂ ++ 41 :: r))))))
    (hv : validForms forms (40 :: (g₁ ++ (w ++ (g₂ ++ 41 :: r)))) = true) (hh : headOk forms = true)
    (hcp : ∀ p ∈ forms, rangeOk p.1 p.2 = true) (hg₁ : isGap g₁) (hg₂ : isGap g₂)
    (hw : lower w = dirWord ltr) (hname : 58 :: lower (valueOf forms) = ":dir".toStr) :
    ∃ p idx, s.drop p = r ∧
      parseLoop pyFoldEnv Gen.lexicon B s (fuel + 1) flags st =
        parseLoop pyFoldEnv Gen.lexicon B s fuel flags
          { st with pos := p, index := idx, sel := dirBuild ltr st.sel, hasSelector := true } := by
  have hd' : s.drop st.pos =
      ((58 :: renderIdentWith forms) ++ ((40 :: g₁) ++ (w ++ (g₂ ++ [41])))) ++ r := by simpa using hd
  obtain ⟨t, ht⟩ := special_token s B st dirRx hd' (by simpa using hv) hh hcp hg₁
    (by simpa using dirWord_noGap hw (g₂ ++ 41 :: r)) (by rw [hname]; exact find_dir)
    (dir_reads ltr hv hh hg₁ hg₂ hw)
  have hg3 : t.group _ "dir" = some w := ht.group "dir"
  refine ⟨t.stop, t.stop, by rw [ht.stop]; exact drop_add_of_drop_append hd', ?_⟩
  rw [C09.parseLoop_dir _ _ _ _ _ _ _ _ ht.next ht.name, hg3]
  simp only [Option.getD_some, C09.dirValue, hw]
  cases ltr <;> rfl

end Compile
end Refine
end SoupVerif

#print axioms SoupVerif.Refine.Compile.dir_reads
#print axioms SoupVerif.Refine.Compile.step_dir
