/-
  Helpers for `Properties/C11Parse.lean` (C11 from the selector TEXT): how the CSS reading of an attribute
  selector (`Css.satAttr`, `Css.valTest`, `Css.caseInsensitive`), of a type selector (`matchTag`) and
  of `#id` / `.class` (`Css.idOf`, `Css.hasClass`) reacts to a change of letter case in the selector.

  Nothing here mentions a regular expression or the parser model: these are facts about the specification-side
  predicates and the matcher-side name lookup (`Properties/C11.lean`, `Properties/C12.lean`), in the shape in
  which `C10Parse.all_holds_simples` / `C10Parse.compound_simple_text` / `C12Parse.attr_text` deliver them.
-/
import SoupVerif.Properties.C12Parse
import SoupVerif.Properties.C11
namespace SoupVerif
namespace C11Parse
open Names
open Css (AttrTest AttrOp CaseFlag Simple satSimple satAttr valTest foldCase caseInsensitive idOf hasClass)
open C12 (NameEq)

theorem lower_any_ws (v : Str) : (lower v).any isCssWs = v.any isCssWs := by
  simp only [lower, List.any_map]
  congr 1
  funext x
  exact isCssWs_lowerCp x

theorem lower_isEmpty (v : Str) : (lower v).isEmpty = v.isEmpty := by
  cases v <;> rfl

/-- **Case-insensitive comparison IS the case-sensitive comparison of the ASCII-folded strings**, for every
    operator. -/
theorem valTest_fold (op : AttrOp) (v s : Str) :
    valTest op v true s = valTest op (lower v) false (lower s) := by
  cases op <;> simp only [valTest, foldCase, if_true, Bool.false_eq_true, if_false, lower_isEmpty, lower_any_ws]

theorem valTest_foldCase (op : AttrOp) (v s : Str) (ic : Bool) :
    valTest op v ic s = valTest op (foldCase ic v) false (foldCase ic s) := by
  cases ic
  · rfl
  · exact valTest_fold op v s

/-- Insensitive comparison does not see the letter case of the selector's value … -/
theorem valTest_ic_value (op : AttrOp) (v v' s : Str) (h : lower v = lower v') :
    valTest op v true s = valTest op v' true s := by
  rw [valTest_fold, valTest_fold, h]

/-- … nor that of the document's. -/
theorem valTest_ic_subject (op : AttrOp) (v s s' : Str) (h : lower s = lower s') :
    valTest op v true s = valTest op v true s' := by
  rw [valTest_fold, valTest_fold, h]

theorem valTest_eq_sensitive (v s : Str) : valTest .eq v false s = true ↔ s = v := by
  simp [valTest, foldCase]

theorem valTest_eq_insensitive (v s : Str) : valTest .eq v true s = true ↔ lower s = lower v := by
  simp [valTest, foldCase]

/-- `[a!=v]` is compiled as `:not([a=v])`: its value test is that of `=`, negated one level up
    (`C12Parse.AttrHolds`, `ValueCond`). -/
theorem valTest_ne (v s : Str) (ic : Bool) : valTest .ne v ic s = valTest .eq v ic s := rfl

def typeName : Str := [116, 121, 112, 101]

theorem typeName_eq : typeName = "type".toStr := by decide

theorem ci_i (c : Ctx) (a : Str) : caseInsensitive c a .i = true := rfl
theorem ci_s (c : Ctx) (a : Str) : caseInsensitive c a .s = false := rfl

theorem ci_none (c : Ctx) (a : Str) :
    caseInsensitive c a .none = true ↔ lower a = typeName ∧ c.isXml = false := by
  simp [caseInsensitive, typeName]

theorem ci_html_type (c : Ctx) (a : Str) (hx : c.isXml = false) (ha : lower a = typeName) :
    caseInsensitive c a .none = true := (ci_none c a).2 ⟨ha, hx⟩

theorem ci_html_plain (c : Ctx) (a : Str) (ha : lower a ≠ typeName) : caseInsensitive c a .none = false := by
  cases h : caseInsensitive c a .none
  · rfl
  · exact absurd ((ci_none c a).1 h).1 ha

theorem ci_xml (c : Ctx) (a : Str) (hx : c.isXml = true) : caseInsensitive c a .none = false := by
  cases h : caseInsensitive c a .none
  · rfl
  · have := ((ci_none c a).1 h).2; rw [hx] at this; cases this

theorem ci_congr (c : Ctx) (a a' : Str) (f : CaseFlag) (h : lower a = lower a') :
    caseInsensitive c a f = caseInsensitive c a' f := by
  cases f <;> simp [caseInsensitive, h]

theorem NameEq_html (c : Ctx) (hx : c.isXml = false) (a b : Str) : NameEq c a b ↔ lower a = lower b := by
  simp [NameEq, hx]

theorem NameEq_xml (c : Ctx) (hx : c.isXml = true) (a b : Str) : NameEq c a b ↔ a = b := by
  simp [NameEq, hx]

theorem nameEq_refl (c : Ctx) (a : Str) : NameEq c a a := by
  unfold NameEq; split <;> rfl

theorem nameEq_lower {c : Ctx} {a b : Str} (h : NameEq c a b) : lower a = lower b := by
  unfold NameEq at h; split at h
  · rw [h]
  · exact h

theorem values_congr (c : Ctx) (e : Elem) (a a' p : Str) (h : NameEq c a a') :
    matchAttributeValues c e a p = matchAttributeValues c e a' p := by
  cases hx : c.isXml
  · exact C11.html_attr_values_fold c e a a' p hx ((NameEq_html c hx a a').1 h)
  · rw [(NameEq_xml c hx a a').1 h]

/-- Two value tests that differ at most in the letter case of the value, where the comparison is
    case-insensitive (`a`: the attribute name the test belongs to). -/
def TestVariant (c : Ctx) (a : Str) : Option AttrTest → Option AttrTest → Prop
  | none, none => True
  | some t, some t' => t.op = t'.op ∧ t.flag = t'.flag ∧
      (if caseInsensitive c a t.flag = true then lower t.value = lower t'.value else t.value = t'.value)
  | _, _ => False

/-- Two simple selectors (`#id`, `.class`, `[p|a …]`) that differ at most in letter case WHERE THE DOCUMENT KIND
    IGNORES IT: the attribute name under the document's name rule (`NameEq`: ASCII-insensitive in a non-XML
    document, exact in an XML document), the attribute value where the comparison is case-insensitive.
    Ids and classes: not at all. -/
def SimpleVariant (c : Ctx) : Simple → Simple → Prop
  | .id v, .id v' => v = v'
  | .cls v, .cls v' => v = v'
  | .attr p a t, .attr p' a' t' => p = p' ∧ NameEq c a a' ∧ TestVariant c a t t'
  | _, _ => False

/-- Two type selectors: same prefix value, names equal under the document's name rule. -/
def TagVariant (c : Ctx) : Option SelTag → Option SelTag → Prop
  | none, none => True
  | some t, some t' => t.pfx = t'.pfx ∧ NameEq c t.name t'.name
  | _, _ => False

theorem satAttr_variant (c : Ctx) (e : Elem) (p a a' : Str) (t t' : Option AttrTest)
    (ha : NameEq c a a') (ht : TestVariant c a t t') :
    satAttr c e p a t = satAttr c e p a' t' := by
  have hci : ∀ f, caseInsensitive c a f = caseInsensitive c a' f := fun f => ci_congr c a a' f (nameEq_lower ha)
  unfold satAttr
  rw [values_congr c e a a' p ha]
  cases t with
  | none =>
    cases t' with
    | none => rfl
    | some _ => exact absurd ht (by simp [TestVariant])
  | some t =>
    cases t' with
    | none => exact absurd ht (by simp [TestVariant])
    | some t' =>
      obtain ⟨op, v, f⟩ := t
      obtain ⟨op', v', f'⟩ := t'
      obtain ⟨hop, hfl, hv⟩ := ht
      simp only at hop hfl hv
      subst hop; subst hfl
      have key : ∀ s, valTest op v (caseInsensitive c a f) s = valTest op v' (caseInsensitive c a' f) s := by
        intro s
        rw [← hci]
        cases hc : caseInsensitive c a f
        · rw [hc] at hv; simp only [Bool.false_eq_true, if_false] at hv; rw [hv]
        · rw [hc] at hv; simp only [if_true] at hv; exact valTest_ic_value _ _ _ _ hv
      simp only [key]

theorem satSimple_variant (c : Ctx) (l : Loc) (e : Elem) (s s' : Simple) (h : SimpleVariant c s s') :
    satSimple c l e s = satSimple c l e s' := by
  cases s <;> cases s' <;> simp only [SimpleVariant] at h
  · subst h; rfl
  · subst h; rfl
  · obtain ⟨rfl, ha, ht⟩ := h
    simp only [satSimple]
    exact satAttr_variant c e _ _ _ _ _ ha ht

theorem all_satSimple_variant (c : Ctx) (l : Loc) (e : Elem) (S S' : List Simple)
    (h : List.Forall₂ (SimpleVariant c) S S') : S.all (satSimple c l e) = S'.all (satSimple c l e) := by
  induction h with
  | nil => rfl
  | cons hab _ ih => rw [List.all_cons, List.all_cons, ih, satSimple_variant c l e _ _ hab]

/-- The matcher reads the name of a type selector through the document's name rule only (in a non-XML document:
    `C11.html_tag_fold`). -/
theorem matchTagname_variant (c : Ctx) (e : Elem) (n n' : Str) (p p' : Option Str) (h : NameEq c n n') :
    matchTagname c e ⟨n, p⟩ = matchTagname c e ⟨n', p'⟩ := by
  cases hx : c.isXml
  · exact C11.html_tag_fold c e n n' p hx ((NameEq_html c hx n n').1 h)
  · rw [(NameEq_xml c hx n n').1 h]; rfl

theorem matchTag_variant (c : Ctx) (e : Elem) (ip : Bool) (t t' : Option SelTag) (h : TagVariant c t t') :
    matchTag c e (C01Parse.implTag ip t) = matchTag c e (C01Parse.implTag ip t') := by
  cases t with
  | none =>
    cases t' with
    | none => rfl
    | some _ => exact absurd h (by simp [TagVariant])
  | some t =>
    cases t' with
    | none => exact absurd h (by simp [TagVariant])
    | some t' =>
      obtain ⟨n, p⟩ := t
      obtain ⟨n', p'⟩ := t'
      obtain ⟨rfl, hn⟩ := h
      exact congrArg (matchNamespace c e ⟨n, p⟩ && ·) (matchTagname_variant c e n n' p p hn)

/-- A case-insensitive comparison occurs among the simple selectors (then the matcher's character
    environment has to fold ASCII, `c.env.fold = lowerCp`). -/
def FoldNeeded (c : Ctx) (S : List Simple) : Prop :=
  ∃ ns name t, Simple.attr ns name (some t) ∈ S ∧ caseInsensitive c name t.flag = true

theorem foldNeeded_variant (c : Ctx) (S S' : List Simple) (h : List.Forall₂ (SimpleVariant c) S S') :
    FoldNeeded c S' → FoldNeeded c S := by
  induction h with
  | nil => rintro ⟨_, _, _, hm, _⟩; simp at hm
  | @cons s s' S S' hab _ ih =>
    rintro ⟨ns, name, t, hm, hci⟩
    rcases List.mem_cons.1 hm with rfl | hm
    · cases s <;> simp only [SimpleVariant] at hab
      rename_i p a t0
      obtain ⟨rfl, ha, ht⟩ := hab
      cases t0 with
      | none => exact absurd ht (by simp [TestVariant])
      | some t0 =>
        obtain ⟨_, hfl, _⟩ := ht
        refine ⟨_, a, t0, List.mem_cons_self, ?_⟩
        rw [hfl, ci_congr c a name _ (nameEq_lower ha)]; exact hci
    · obtain ⟨ns', name', t', hm', hci'⟩ := ih ⟨ns, name, t, hm, hci⟩
      exact ⟨ns', name', t', List.mem_cons_of_mem _ hm', hci'⟩

/-- The string an attribute value is compared as (a multi-valued attribute: its items joined by one space). -/
def attrStr (x : Attr) : Str := nvalJoin (normalizeValue x.val)

def idName : Str := [105, 100]
def className : Str := [99, 108, 97, 115, 115]

/-- The key of `x` is `name` as `get_attribute_by_name` compares it: up to ASCII case in a non-XML document,
    exactly in an XML document (`#id` / `.class` take the FIRST such attribute). -/
def keyIs (c : Ctx) (name : Str) (x : Attr) : Bool := if c.isXml then x.key == name else lower x.key == name

theorem attrByName_eq (c : Ctx) (e : Elem) (name : Str) :
    c.attrByName e name = (e.attrs.find? (keyIs c name)).map (fun x => normalizeValue x.val) := by
  cases hx : c.isXml
  · have hk : keyIs c name = fun x => lower x.key == name := by funext x; simp [keyIs, hx]
    rw [C11.attrByName_html c e name hx, hk]
  · have hk : keyIs c name = fun x => x.key == name := by funext x; simp [keyIs, hx]
    rw [C11.attrByName_xml c e name hx, hk]

/-- **`#v`**: the first attribute named `id` (document's name rule) carries the single string `v` —
    compared EXACTLY in every document kind. -/
theorem idOf_iff (c : Ctx) (e : Elem) (v : Str) :
    idOf c e = some v ↔ ∃ x, e.attrs.find? (keyIs c idName) = some x ∧ normalizeValue x.val = .str v := by
  unfold idOf
  rw [show ([105, 100] : Str) = idName from rfl, attrByName_eq]
  cases h : e.attrs.find? (keyIs c idName) with
  | none => simp
  | some x =>
    simp only [Option.map_some, Option.some.injEq, exists_eq_left']
    cases hv : normalizeValue x.val <;> simp

/-- `v` is one of the classes the attribute `x` carries: one of the white-space separated words of its string
    (nothing if `v` is empty or contains white space), or one of its items when the tree builder has split it.
    Compared exactly. -/
def CarriesClass (v : Str) (x : Attr) : Prop :=
  match normalizeValue x.val with
  | .str s => v ≠ [] ∧ v.any isCssWs = false ∧ Css.hasWord v s = true
  | .list ws => v ∈ ws

/-- **`.v`**: the first attribute named `class` (document's name rule) has `v` among its white-space separated
    words (or among its items when the tree builder has split it) — compared EXACTLY in every document kind. -/
theorem hasClass_iff (c : Ctx) (e : Elem) (v : Str) :
    hasClass c e v = true ↔ ∃ x, e.attrs.find? (keyIs c className) = some x ∧ CarriesClass v x := by
  unfold hasClass CarriesClass
  rw [show ([99, 108, 97, 115, 115] : Str) = className from rfl, attrByName_eq]
  cases h : e.attrs.find? (keyIs c className) with
  | none => simp
  | some x =>
    simp only [Option.map_some, Option.some.injEq, exists_eq_left']
    cases hv : normalizeValue x.val with
    | str s => cases v <;> simp
    | list l => simp

end C11Parse
end SoupVerif
