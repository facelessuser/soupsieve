/-
  Simple selectors ADD to the builder.  Every item of either grammar (`C09Compile.Item`, `C09Compile2.Item`) acts on
  the `_Selector` builder as `b ↦ b.merge d`, where `d` — the item applied to the empty builder — does not depend on
  `b` (`Additive`, `Item.additive`); `merge` appends field by field, keeps tag and relations of `b`, and is a monoid
  action (`merge_empty`, `merge_assoc`).  The matcher on a frozen builder is multiplicative in `merge`
  (`matchSel_freeze_merge`; not for the flags of the groups `RANGES` / `DIR_FLAGS`, which no token handler sets:
  `NoGroup`), so a compound matches iff its type selector passes and each of its items, taken alone, matches
  (`Item.holds`, `matchSel_freeze_applyItems`, `matchSel_freeze_compound`).

  This carries the statements that are VERDICTS (the matcher's answer on the compiled text, item by item); what a
  leaf item alone demands, in the CSS reading, is `C10Parse.holds_leaf` (`Refine/C10ParseCompound.lean`).  Statements
  that say which IR the parser builds, as an equality with the specification's compiler `Spec/CssCompile`, go through the
  normal form `C01Parse.mkB` / `Css.Parts` (`Refine/C01ParseSem.lean`, `NsParseBase.lean`, `C10Parse.applyItems_simples`);
  it is also the normal form of ONE item, which is how `holds_leaf` is proved.
-/
import SoupVerif.Refine.Syntax2
import SoupVerif.Lemmas.MatchAlgebra
import SoupVerif.Refine.C01ParseSem
namespace SoupVerif
namespace Parser.SelB

/-- `b` with the simple selectors of `d` added: lists appended, flags united, "no match" inherited; tag, relations
    and relation type are those of `b`. -/
def merge : SelB → SelB → SelB
  | .mk t a b c d e f g h i j k, .mk _ a' b' c' d' e' _ _ h' i' j' k' =>
    .mk t (a ++ a') (b ++ b') (c ++ c') (d ++ d') (e ++ e') f g (h ++ h') (i ++ i') (j ||| j') (k || k')

/-- The flag word of the builder (`merge` unites it: `flags_merge`; `NoGroup` speaks of it). -/
def flags : SelB → Nat | .mk _ _ _ _ _ _ _ _ _ _ j _ => j

theorem merge_mk (t : Option SelTag) (a b : List Str) (c : List AttrSel) (d : List NthSel) (e : List SelList)
    (f : List SelB) (g : Rel) (h : List ContainsSel) (i : List LangSel) (j : Nat) (k : Bool) (t' : Option SelTag)
    (a' b' : List Str) (c' : List AttrSel) (d' : List NthSel) (e' : List SelList) (f' : List SelB) (g' : Rel)
    (h' : List ContainsSel) (i' : List LangSel) (j' : Nat) (k' : Bool) :
    (SelB.mk t a b c d e f g h i j k).merge (.mk t' a' b' c' d' e' f' g' h' i' j' k') =
      .mk t (a ++ a') (b ++ b') (c ++ c') (d ++ d') (e ++ e') f g (h ++ h') (i ++ i') (j ||| j') (k || k') := rfl

theorem merge_empty (b : SelB) : b.merge empty = b := by
  cases b; simp [merge, empty]

theorem merge_assoc (b d d' : SelB) : (b.merge d).merge d' = b.merge (d.merge d') := by
  cases b; cases d; cases d'; simp [merge, Nat.or_assoc, Bool.or_assoc]

theorem tag_merge (b d : SelB) : (b.merge d).tag = b.tag := by cases b; cases d; rfl
theorem relations_merge (b d : SelB) : (b.merge d).relations = b.relations := by cases b; cases d; rfl

theorem setTag_merge (t : SelTag) (b d : SelB) : (b.merge d).setTag t = (b.setTag t).merge d := by
  cases b; cases d; rfl
theorem addRelations_merge (r : List SelB) (b d : SelB) :
    (b.merge d).addRelations r = (b.addRelations r).merge d := by cases b; cases d; rfl

end Parser.SelB


namespace BuilderMerge
open SoupVerif.Parser SoupVerif.Parser.SelB StateLaws SatCore

/-- **The matcher is multiplicative in `merge`**: the frozen `b.merge d` matches iff the frozen `b` does and the
    simple selectors of `d`, alone on an empty compound, do. -/
theorem matchSel_freeze_merge (c : Ctx) (l : Loc) (e : Elem) (b d : SelB) (hr : hasFlag d.flags RANGES = false)
    (hd : hasFlag d.flags DIR_FLAGS = false) :
    matchSel c l e (b.merge d).freeze = (matchSel c l e b.freeze && matchSel c l e (SelB.empty.merge d).freeze) := by
  obtain ⟨t, a, b', c', d', e', f, g, h, i, j, k⟩ := b
  obtain ⟨t', a2, b2, c2, d2, e2, f2, g2, h2, i2, j2, k2⟩ := d
  simp only [merge_mk, SelB.empty, freeze, size, sizeList, freezeF, List.nil_append, Bool.false_or, Nat.zero_or]
  cases k <;> cases k2 <;> simp only [Bool.or_false, Bool.or_true, Bool.false_eq_true, if_false, if_true, matchSel_null,
    Bool.and_false, Bool.false_and]
  -- both sides by field: the simple selectors split (`simplePart_append`), `d` brings neither type selector nor relation
  rw [matchSel_mk, matchSel_mk, matchSel_mk, simplePart_append c l e a a2 b' b2 c' c2 d' d2 e' e2 h h2 i i2 j j2 hr hd,
    relOk_nil, Bool.and_true, ← Bool.and_assoc, Bool.and_right_comm]
  rfl

/-- No flag of the two groups whose test reads the whole group. -/
def NoGroup (j : Nat) : Prop := hasFlag j RANGES = false ∧ hasFlag j DIR_FLAGS = false

theorem noGroup_zero : NoGroup 0 := ⟨by decide, by decide⟩

/-- A function of the builder that merges in something which does not depend on the builder — one of the additive
    operations, whichever the (builder-independent) conditions select — and sets no flag of the two groups. -/
structure Additive (f : SelB → SelB) : Prop where
  eq : ∀ b, f b = b.merge (f SelB.empty)
  noGroup : NoGroup (f SelB.empty).flags

theorem Additive.id : Additive fun b => b := ⟨fun b => (merge_empty b).symm, noGroup_zero⟩

theorem Additive.ite (p : Prop) [Decidable p] {f g : SelB → SelB} (hf : Additive f) (hg : Additive g) :
    Additive fun b => if p then f b else g b := by
  by_cases h : p <;> simp only [h, if_true, if_false] <;> assumption

theorem flags_merge (b d : SelB) : (b.merge d).flags = b.flags ||| d.flags := by cases b; cases d; rfl

theorem Additive.comp {f g : SelB → SelB} (hf : Additive f) (hg : Additive g) : Additive fun b => g (f b) where
  eq b := by rw [hg.eq (f b), hf.eq b, merge_assoc, ← hg.eq]
  noGroup := by
    rw [hg.eq, flags_merge]
    exact ⟨by rw [hasFlag_or, hf.noGroup.1, hg.noGroup.1]; rfl, by rw [hasFlag_or, hf.noGroup.2, hg.noGroup.2]; rfl⟩

theorem additive_addId (x : Str) : Additive (·.addId x) :=
  ⟨fun b => by cases b; simp [merge, empty, addId], noGroup_zero⟩
theorem additive_addClass (x : Str) : Additive (·.addClass x) :=
  ⟨fun b => by cases b; simp [merge, empty, addClass], noGroup_zero⟩
theorem additive_addAttr (x : AttrSel) : Additive (·.addAttr x) :=
  ⟨fun b => by cases b; simp [merge, empty, addAttr], noGroup_zero⟩
theorem additive_addNth (x : List NthSel) : Additive (·.addNth x) :=
  ⟨fun b => by cases b; simp [merge, empty, addNth], noGroup_zero⟩
theorem additive_addSub (x : SelList) : Additive (·.addSub x) :=
  ⟨fun b => by cases b; simp [merge, empty, addSub], noGroup_zero⟩
theorem additive_addContains (x : ContainsSel) : Additive (·.addContains x) :=
  ⟨fun b => by cases b; simp [merge, empty, addContains], noGroup_zero⟩
theorem additive_addLang (x : LangSel) : Additive (·.addLang x) :=
  ⟨fun b => by cases b; simp [merge, empty, addLang], noGroup_zero⟩
theorem additive_setNoMatch : Additive (·.setNoMatch) :=
  ⟨fun b => by cases b; simp [merge, empty, setNoMatch], noGroup_zero⟩
/-- `:root`, `:scope`, `:empty`, `&`. -/
theorem additive_orFlags (x : Nat) (h : x = SEL_ROOT ∨ x = SEL_SCOPE ∨ x = SEL_EMPTY) : Additive (·.orFlags x) := by
  rcases h with rfl | rfl | rfl <;> exact ⟨fun b => by cases b; simp [merge, empty, orFlags], by decide, by decide⟩

open Refine.Compile

theorem additive_attrBuildNs (ns a op v : Str) (cs : Option Str) :
    Additive fun b => attrBuildNs b ns a op v cs := by
  unfold attrBuildNs
  exact .ite _ (additive_addSub _) (additive_addAttr _)

theorem additive_plainPseudo (B : Builtins) (n : Str) : Additive (plainPseudo B n) := by
  unfold plainPseudo applySimplePseudo
  repeat' apply Additive.ite
  all_goals first
    | exact additive_orFlags _ (by simp)
    | exact additive_addSub _
    | exact additive_addNth _
    | exact additive_setNoMatch
    | exact Additive.id

theorem additive_nthBuild (B : Builtins) (n canon : Str) (o : Option SelList) : Additive (nthBuild B n canon o) := by
  unfold nthBuild
  repeat' apply Additive.ite
  all_goals first
    | exact additive_addNth _
    | exact Additive.id

theorem additive_dirBuild (ltr : Bool) : Additive (dirBuild ltr) := additive_addSub _

theorem implB_merge (ip : Bool) (b d : SelB) : C01Parse.implB ip (b.merge d) = (C01Parse.implB ip b).merge d := by
  unfold C01Parse.implB
  rw [tag_merge]
  split
  · exact setTag_merge _ b d
  · rfl

section
variable {f : SelB → SelB} (hf : Additive f)
include hf

theorem Additive.relations (b : SelB) : (f b).relations = b.relations := by rw [hf.eq, relations_merge]
theorem Additive.implB (ip : Bool) (b : SelB) : C01Parse.implB ip (f b) = f (C01Parse.implB ip b) := by
  rw [hf.eq, implB_merge, ← hf.eq]
theorem Additive.addRelations (r : List SelB) (b : SelB) : (f b).addRelations r = f (b.addRelations r) := by
  rw [hf.eq, addRelations_merge, ← hf.eq]

/-- **One more simple selector, one more conjunct**: what it is, is read off the simple selector alone. -/
theorem Additive.matchSel_freeze (c : Ctx) (l : Loc) (e : Elem) (b : SelB) :
    matchSel c l e (f b).freeze = (matchSel c l e b.freeze && matchSel c l e (f SelB.empty).freeze) := by
  rw [hf.eq b, matchSel_freeze_merge c l e b _ hf.noGroup.1 hf.noGroup.2, ← hf.eq]

end

/-- Items applied one after the other (`ι`: the items of either grammar). -/
theorem additive_foldl {ι : Type} (app : ι → SelB → SelB) (h : ∀ i, Additive (app i)) :
    ∀ items : List ι, Additive fun b => items.foldl (fun b i => app i b) b
  | [] => Additive.id
  | i :: rest => (h i).comp (additive_foldl app h rest)

/-- **A builder with items applied matches iff the builder does and every item, alone, does.** -/
theorem matchSel_freeze_foldl {ι : Type} (app : ι → SelB → SelB) (h : ∀ i, Additive (app i)) (c : Ctx) (l : Loc)
    (e : Elem) : ∀ (items : List ι) (b : SelB),
    matchSel c l e (items.foldl (fun b i => app i b) b).freeze =
      (matchSel c l e b.freeze && items.all fun i => matchSel c l e (app i SelB.empty).freeze)
  | [], b => by simp only [List.foldl_nil, List.all_nil, Bool.and_true]
  | i :: rest, b => by
    rw [List.foldl_cons, matchSel_freeze_foldl app h c l e rest, (h i).matchSel_freeze, List.all_cons, Bool.and_assoc]

theorem matchSel_freeze_tagOnly (c : Ctx) (l : Loc) (e : Elem) (t : Option SelTag) :
    matchSel c l e (C01Parse.mkB {} t [] .none).freeze = matchTag c e t := by
  simp only [C01Parse.mkB, freeze, freezeF, Bool.false_eq_true, if_false]
  rw [matchSel_mk, simplePart_nil, relOk_nil, Bool.and_true, Bool.and_true]

theorem matchSel_freeze_empty (c : Ctx) (l : Loc) (e : Elem) : matchSel c l e SelB.empty.freeze = true :=
  matchSel_freeze_tagOnly c l e none

/-! What the additive operations contribute, each alone on the empty builder. -/

section Alone
variable (c : Ctx) (l : Loc) (e : Elem)

theorem alone_eq (ids cls : List Str) (attrs : List AttrSel) (nth : List NthSel) (subs : List SelList)
    (contains : List ContainsSel) (lang : List LangSel) :
    matchSel c l e (SelB.mk none ids cls attrs nth subs [] .none contains lang 0 false).freeze =
      simplePart c l e ids cls attrs nth subs contains lang 0 := by
  simp only [freeze, freezeF, Bool.false_eq_true, if_false]
  rw [matchSel_mk, relOk_nil, Bool.and_true]
  simp only [matchTag, Bool.true_and]

theorem alone_addSub (L : SelList) : matchSel c l e (SelB.empty.addSub L).freeze = matchList c l e L := by
  rw [SelB.empty, addSub, alone_eq, simplePart_subs, simplePart_nil, matchSubs_cons, matchSubs_nil, Bool.true_and,
    Bool.and_true]

theorem alone_addNth (rs : List NthSel) : matchSel c l e (SelB.empty.addNth rs).freeze = matchNths c l e rs := by
  rw [SelB.empty, addNth, alone_eq, List.nil_append, simplePart_nth]

theorem alone_addContains (x : ContainsSel) :
    matchSel c l e (SelB.empty.addContains x).freeze = matchContains c l [x] := by
  rw [SelB.empty, addContains, alone_eq, List.nil_append, simplePart_contains]

theorem alone_addLang (x : LangSel) : matchSel c l e (SelB.empty.addLang x).freeze = matchLang c l [x] := by
  rw [SelB.empty, addLang, alone_eq, List.nil_append, simplePart_lang]
  rfl

end Alone

end BuilderMerge

namespace C09Compile2
open SoupVerif.Parser SoupVerif.Parser.SelB BuilderMerge

/-- **Items add.**  What an item does to the builder is to merge in what it does to the empty builder. -/
theorem Item.additive (B : Builtins) (it : Item) : Additive (it.apply B) := by
  cases it <;> simp only [Item.apply]
  case id v => exact additive_addId v
  case cls v => exact additive_addClass v
  case attr ns a => unfold applyAttr; split <;> exact additive_attrBuildNs _ _ _ _ _
  case pseudo n => exact additive_plainPseudo B n
  case fn n l => exact additive_addSub _
  case nth n c => exact additive_nthBuild B n c none
  case nthOf n c l => exact additive_nthBuild B n c _
  case dir ltr => exact additive_dirBuild ltr
  case lang vs => exact additive_addLang _
  case contains own vs => exact additive_addContains _
  case amp => exact additive_orFlags _ (by simp)
  case custom n l => exact additive_addSub _

theorem applyItems_eq_foldl (B : Builtins) : ∀ (items : List Item) (b : SelB),
    applyItems B items b = items.foldl (fun b it => it.apply B b) b
  | [], _ => rfl
  | it :: rest, b => by rw [applyItems, applyItems_eq_foldl B rest, List.foldl_cons]

theorem additive_applyItems (B : Builtins) (items : List Item) : Additive (applyItems B items) := by
  have := additive_foldl (Item.apply B) (Item.additive B) items
  simpa only [← applyItems_eq_foldl] using this

/-- What the item alone demands of the element at `l`. -/
def Item.holds (B : Builtins) (c : Ctx) (l : Loc) (e : Elem) (it : Item) : Bool :=
  matchSel c l e (it.apply B SelB.empty).freeze

theorem matchSel_freeze_applyItems (B : Builtins) (c : Ctx) (l : Loc) (e : Elem) (items : List Item) (b : SelB) :
    matchSel c l e (applyItems B items b).freeze = (matchSel c l e b.freeze && items.all (Item.holds B c l e)) := by
  rw [applyItems_eq_foldl]
  exact matchSel_freeze_foldl (Item.apply B) (Item.additive B) c l e items b

section Holds
open Refine.Compile
variable (B : Builtins) (c : Ctx) (l : Loc) (e : Elem)

theorem Item.holds_fn (n : Str) (V : SelListV) :
    Item.holds B c l e (.fn n V) = matchList c l e (finishG (fnFlags n) (closeSt (V.loopState B (fnFlags n)))) :=
  alone_addSub c l e _

theorem Item.holds_lang (vs : List Str) : Item.holds B c l e (.lang vs) = matchLang c l [⟨vs⟩] :=
  alone_addLang c l e _

theorem Item.holds_contains (own : Bool) (vs : List Str) :
    Item.holds B c l e (.contains own vs) = matchContains c l [⟨vs, own⟩] :=
  alone_addContains c l e _

end Holds

/-- **A compound matches iff its type selector (at top level the implied `*` when none is written) passes and every
    item holds.** -/
theorem matchSel_freeze_compound (B : Builtins) (c : Ctx) (l : Loc) (e : Elem) (ip : Bool) (tag : Option SelTag)
    (items : List Item) :
    matchSel c l e (C01Parse.implB ip ((Compound.mk tag items).buildOn B SelB.empty)).freeze =
      (matchTag c e (C01Parse.implTag ip tag) && items.all (Item.holds B c l e)) := by
  have h : (Compound.mk tag items).buildOn B SelB.empty = applyItems B items (C01Parse.mkB {} tag [] .none) := by
    cases tag <;> rfl
  rw [h, (additive_applyItems B items).implB, matchSel_freeze_applyItems, C01Parse.implB_mkB, matchSel_freeze_tagOnly]

end C09Compile2
namespace C09Compile
open SoupVerif.Parser SoupVerif.Parser.SelB BuilderMerge Refine.Compile

theorem Item.additive (B : Builtins) (it : Item) : Additive (it.apply B) := by
  cases it <;> simp only [Item.apply]
  case id v => exact additive_addId v
  case cls v => exact additive_addClass v
  case attr a => unfold AttrV.apply; simp only [attrBuild_eq]; split <;> exact additive_attrBuildNs _ _ _ _ _
  case pseudo n => exact additive_plainPseudo B n
  case fn n l => exact additive_addSub _
  case nth n c => exact additive_nthBuild B n c none
  case nthOf n c l => exact additive_nthBuild B n c _
  case dir ltr => exact additive_dirBuild ltr

theorem applyItems_eq_foldl (B : Builtins) : ∀ (items : List Item) (b : SelB),
    applyItems B items b = items.foldl (fun b it => it.apply B b) b
  | [], _ => rfl
  | it :: rest, b => by rw [applyItems, applyItems_eq_foldl B rest, List.foldl_cons]

theorem additive_applyItems (B : Builtins) (items : List Item) : Additive (applyItems B items) := by
  have := additive_foldl (Item.apply B) (Item.additive B) items
  simpa only [← applyItems_eq_foldl] using this

/-- What the item alone demands of the element at `l`. -/
def Item.holds (B : Builtins) (c : Ctx) (l : Loc) (e : Elem) (it : Item) : Bool :=
  matchSel c l e (it.apply B SelB.empty).freeze

theorem matchSel_freeze_applyItems (B : Builtins) (c : Ctx) (l : Loc) (e : Elem) (items : List Item) (b : SelB) :
    matchSel c l e (applyItems B items b).freeze = (matchSel c l e b.freeze && items.all (Item.holds B c l e)) := by
  rw [applyItems_eq_foldl]
  exact matchSel_freeze_foldl (Item.apply B) (Item.additive B) c l e items b

end C09Compile
end SoupVerif
