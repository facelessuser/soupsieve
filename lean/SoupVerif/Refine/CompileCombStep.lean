/-
  What `selector_iter` and the parser loop do at a combinator (`,` `+` `>` `~` with gaps around it, or
  the descendant combinator: a gap with whitespace), in every mode of `parse_selectors`: `parse_combinator`
  with and without a preceding compound (the empty slots of the forgiving lists of `:is()` / `:where()`),
  `parse_has_combinator` (the relative lists of `:has()`, leading combinators).
-/
import SoupVerif.Refine.CompileComb
import SoupVerif.Refine.CompileStep
import SoupVerif.Properties.C06
namespace SoupVerif
namespace Refine
namespace Compile
open Rx RxBasic SoupVerif.Parser ParserProgress Escape Spelling
open Wsc (wsEnd gapEnd)

/-- First characters of a `combine` token: whitespace, `/`, or a combinator character. -/
def combStart (x : Nat) : Bool := isCssWs x || x == 47 || isComb x

theorem combStart_lt {x : Nat} (h : combStart x = true) : x < 128 := by
  simp only [combStart, isCssWs, isComb, Bool.or_eq_true, beq_iff_eq] at h
  omega

theorem skip_comb : ∀ k ∈ keys foldSpecials, combStart k = true →
    ((Gen.lexicon.tokens.drop 1).take 10).all (fun t => !slotFirst k t) = true := by decide +kernel

def combTok (i j : Nat) (caps : Caps) : Token :=
  { name := "combine", rx := ⟨"combine", Gen.tok_combine, Gen.tok_combine_groups⟩, start := i, stop := j,
    caps := caps }

variable (B : Builtins) (s : Str)

/-- `selector_iter` at a position where a `combine` token matches: `pseudo_close` fails because what
    follows the gap is not `)`, the other tokens fail on their first character. -/
theorem nextToken_combine {i x j : Nat} {caps : Caps} (hx : s[i]? = some x) (hcs : combStart x = true)
    (hne : skipWSC (s.drop i) ≠ []) (h41 : (skipWSC (s.drop i)).head? ≠ some 41)
    (hm : matchAt pyFoldEnv Gen.tok_combine s i = some (j, caps)) :
    nextToken (penv B s) i = .ok (some (combTok i j caps)) := by
  have hlt := RxBasic.lt_of_getElem?_some hx
  rw [nextToken_text, if_neg hne]
  have hpc : matchAt pyFoldEnv Gen.tok_pseudo_close s i = none := by
    rw [Wsc.pseudo_close_at Wsc.caseFree_pyFold s i (by omega), if_neg h41]
  have hk : keyOf s[i]? = x := by
    rw [hx]; show (if x < 128 then x else _) = x
    rw [if_pos (combStart_lt hcs)]
  have hmt : matchToken (penv B s) i (penv B s).L.tokens = some (combTok i j caps) := by
    show matchToken (penv B s) i
      ((⟨"pseudo_close", Gen.tok_pseudo_close, Gen.tok_pseudo_close_groups⟩, false) ::
        Gen.lexicon.tokens.drop 1) = _
    rw [matchToken]
    simp only [Bool.false_eq_true, if_false]
    have hpc' : matchAt (penv B s).env Gen.tok_pseudo_close (penv B s).pattern i = none := hpc
    rw [hpc']
    simp only
    rw [matchToken_skip B s i 10 _ (by
      rw [hk]
      exact skip_comb x (by rw [← hk]; exact key_mem_keys _ _) hcs)]
    show matchToken (penv B s) i [(⟨"combine", Gen.tok_combine, Gen.tok_combine_groups⟩, false)] = _
    simp only [matchToken, Bool.false_eq_true, if_false, hm]
    rfl
  rw [hmt]

theorem parseCombinator_eq (P : PEnv) (t : Token) (st : LS) (ip ifg : Bool) (idx : Nat)
    (hs : st.hasSelector = true) :
    parseCombinator P t st ip ifg idx = .ok (combStep (combinatorOf P t) ip st) := by
  unfold parseCombinator combStep
  simp only [hs, Bool.not_true, Bool.false_eq_true, if_false]
  split <;> rfl

theorem parseCombinator_eqF (P : PEnv) (t : Token) (st : LS) (ip ifg : Bool) (idx : Nat)
    (h : st.hasSelector = true ∨ (ifg = true ∧ combinatorOf P t = 44)) :
    parseCombinator P t st ip ifg idx = .ok (combStepF (combinatorOf P t) ip st) := by
  by_cases hs : st.hasSelector = true
  · rw [parseCombinator_eq P t st ip ifg idx hs]
    simp [combStepF, hs]
  · have hs' : st.hasSelector = false := by simpa using hs
    rcases h with h | ⟨hf, hc⟩
    · exact absurd h hs
    · unfold parseCombinator combStepF
      simp [hs', hf, hc]

theorem parseHasCombinator_eq (P : PEnv) (t : Token) (st : LS) (idx : Nat)
    (h44 : combinatorOf P t = 44 → st.hasSelector = true)
    (hne : combinatorOf P t ≠ 44 → st.hasSelector = true ∨ st.relType = .hasDesc) :
    parseHasCombinator P t st idx = .ok (combStepR (combinatorOf P t) st) := by
  unfold parseHasCombinator combStepR
  by_cases hc : combinatorOf P t = 44
  · simp [hc, h44 hc]
  · have hc' : (combinatorOf P t == 44) = false := by simpa using hc
    simp only [hc', Bool.false_eq_true, if_false]
    by_cases hs : st.hasSelector = true
    · simp [hs]
    · have hs' : st.hasSelector = false := by simpa using hs
      rcases hne hc with h | h
      · exact absurd h hs
      · simp [hs', h]

section Loop
variable (env : CharEnv) (L : Lexicon) (pattern : Str) (fuel flags : Nat) (st : LS) (t : Token)

theorem parseLoop_combineG (h : nextToken ⟨env, L, B, pattern⟩ st.pos = .ok (some t))
    (hk : t.name = "combine")
    (hv : CombValid flags (combinatorOf ⟨env, L, B, pattern⟩ t) st) :
    parseLoop env L B pattern (fuel + 1) flags st =
      parseLoop env L B pattern fuel flags
        { combStepG flags (combinatorOf ⟨env, L, B, pattern⟩ t) { st with pos := t.stop } with
            index := t.stop } := by
  rw [ParseDisp.parseLoop_token _ _ _ _ _ _ _ t h, hk]
  simp only [ParseDisp.modelAction_keys]
  rw [ParseDisp.runAction_combine]
  unfold CombValid at hv
  by_cases hrel : relOf flags = true
  · rw [if_pos hrel] at hv
    have hrel' : ((flags &&& FLG_RELATIVE) != 0) = true := hrel
    have := parseHasCombinator_eq ⟨env, L, B, pattern⟩ t { st with pos := t.stop } st.index hv.1 hv.2
    simp [hrel', this, combStepG, hrel, runStep]
  · rw [if_neg hrel] at hv
    have hrel' : ((flags &&& FLG_RELATIVE) != 0) = false := by simpa [relOf] using hrel
    have := parseCombinator_eqF ⟨env, L, B, pattern⟩ t { st with pos := t.stop }
      ((flags &&& FLG_PSEUDO) != 0) ((flags &&& FLG_FORGIVE) != 0) st.index hv
    have hrel'' : relOf flags = false := by simpa using hrel
    simp [hrel', this, combStepG, hrel'', ipOf, runStep]

theorem parseLoop_combine (h : nextToken ⟨env, L, B, pattern⟩ st.pos = .ok (some t))
    (hk : t.name = "combine") (hrel : ((flags &&& FLG_RELATIVE) != 0) = false)
    (hs : st.hasSelector = true) :
    parseLoop env L B pattern (fuel + 1) flags st =
      parseLoop env L B pattern fuel flags
        { combStep (combinatorOf ⟨env, L, B, pattern⟩ t) ((flags &&& FLG_PSEUDO) != 0)
            { st with pos := t.stop } with index := t.stop } := by
  rw [parseLoop_combineG B env L pattern fuel flags st t h hk (CombValid.of_sel hrel hs),
    combStepG_of_sel hrel (by exact hs)]
  rfl

end Loop

theorem combinatorOf_char {i j e c : Nat} (hsl : slice s e (e + 1) = [c]) (hc : isComb c = true) :
    combinatorOf (penv B s) (combTok i j [(1, e, e + 1)]) = c := by
  have hg : (combTok i j [(1, e, e + 1)]).group (penv B s) "relation" = some [c] := by
    simp [Token.group, Parser.group, combTok, Gen.tok_combine_groups, capSpan, hsl]
  unfold combinatorOf
  rw [hg]
  simp only [isComb, Bool.or_eq_true, beq_iff_eq] at hc
  rcases hc with ((h | h) | h) | h <;> subst h <;> rfl

theorem combinatorOf_ws {i j p p' : Nat} (hw : wsEnd s p = some p') :
    combinatorOf (penv B s) (combTok i j [(1, p, p')]) = 32 := by
  have hg : (combTok i j [(1, p, p')]).group (penv B s) "relation" = some (slice s p p') := by
    simp [Token.group, Parser.group, combTok, Gen.tok_combine_groups, capSpan]
  unfold combinatorOf
  rw [hg]
  have : (slice s p p').find? (fun c => !isPySpace c) = none := by
    rw [List.find?_eq_none]
    intro x hx
    simp [wsEnd_slice hw x hx]
  simp only [this]

theorem nextToken_sym {i c : Nat} {g₁ g₂ R : Str} (hd : s.drop i = g₁ ++ c :: (g₂ ++ R))
    (hg₁ : isGap g₁) (hg₂ : isGap g₂) (hcomb : isComb c = true) (hR : noGapStart R = true) :
    ∃ e stop, nextToken (penv B s) i = .ok (some (combTok i stop [(1, e, e + 1)])) ∧
      slice s e (e + 1) = [c] ∧ s.drop stop = R := by
  obtain ⟨e, stop, hm, hsl, hstop, _⟩ :=
    combine_matchAt_comb Wsc.caseFree_pyFold Ident.identFold_py s i c g₁ g₂ R hd hg₁ hg₂ hcomb hR
  have hcng : noGapStart (c :: (g₂ ++ R)) = true := by
    simp only [isComb, Bool.or_eq_true, beq_iff_eq] at hcomb
    rcases hcomb with ((h | h) | h) | h <;> subst h <;> simp [noGapStart, isCssWs]
  have hsk : skipWSC (s.drop i) = c :: (g₂ ++ R) := by
    rw [hd, C09.skipWSC_append g₁ _ hg₁ hcng]
  obtain ⟨x, hx, hcs⟩ : ∃ x, s[i]? = some x ∧ combStart x = true := by
    cases g₁ with
    | nil =>
      exact ⟨c, getElem?_of_drop_cons (by rw [hd]; rfl), by simp [combStart, hcomb]⟩
    | cons y ys =>
      refine ⟨y, getElem?_of_drop_cons (by rw [hd]; rfl), ?_⟩
      rcases gap_head hg₁ y (by simp) with h | h
      · simp [combStart, h]
      · simp [combStart, h]
  have hnt := nextToken_combine B s hx hcs (by rw [hsk]; simp)
    (by rw [hsk]; simp only [List.head?_cons]; intro h; cases h; simp [isComb] at hcomb) hm
  exact ⟨e, stop, hnt, hsl, hstop⟩

theorem nextToken_desc {i : Nat} {g R : Str} (hd : s.drop i = g ++ R) (hg : DescGap g)
    (hR : noGapStart R = true) (hRne : R ≠ []) (hRc : ∀ c ∈ R.head?, isComb c = false)
    (hR41 : R.head? ≠ some 41) :
    ∃ p p', nextToken (penv B s) i = .ok (some (combTok i (i + g.length) [(1, p, p')])) ∧
      wsEnd s p = some p' := by
  obtain ⟨p, p', hm, hw⟩ :=
    combine_matchAt_desc Wsc.caseFree_pyFold Ident.identFold_py s i g R hd hg hR hRc
  have hsk : skipWSC (s.drop i) = R := by rw [hd, C09.skipWSC_append g R hg.isGap hR]
  obtain ⟨x, hx, hcs⟩ : ∃ x, s[i]? = some x ∧ combStart x = true := by
    cases g with
    | nil => exact absurd rfl hg.ne_nil
    | cons y ys =>
      refine ⟨y, getElem?_of_drop_cons (by rw [hd]; rfl), ?_⟩
      rcases gap_head hg.isGap y (by simp) with h | h
      · simp [combStart, h]
      · simp [combStart, h]
  exact ⟨p, p', nextToken_combine B s hx hcs (by rw [hsk]; exact hRne) (by rw [hsk]; exact hR41) hm, hw⟩

variable (fuel flags : Nat) (st : LS)

/-- `g₁ c g₂` with `c` one of `,` `+` `>` `~`, in any mode. -/
theorem step_symG {c : Nat} {g₁ g₂ R : Str} (hd : s.drop st.pos = g₁ ++ c :: (g₂ ++ R))
    (hg₁ : isGap g₁) (hg₂ : isGap g₂) (hcomb : isComb c = true) (hR : noGapStart R = true)
    (hv : CombValid flags c st) :
    ∃ p, s.drop p = R ∧ p ≤ s.length ∧
      parseLoop pyFoldEnv Gen.lexicon B s (fuel + 1) flags st =
        parseLoop pyFoldEnv Gen.lexicon B s fuel flags
          { combStepG flags c st with pos := p, index := p } := by
  obtain ⟨e, stop, hnt, hsl, hstop⟩ := nextToken_sym B s hd hg₁ hg₂ hcomb hR
  have hc := combinatorOf_char B s (i := st.pos) (j := stop) hsl hcomb
  refine ⟨stop, hstop, (nextToken_some C06.lexicon_ok hnt).2.2, ?_⟩
  rw [parseLoop_combineG B _ _ _ _ _ _ _ hnt rfl (by simp only [penv] at hc; rw [hc]; exact hv)]
  simp only [penv] at hc
  rw [hc]
  exact congrArg _ (combStepG_frame _ _ _ _ _)

/-- The descendant combinator (a gap with a whitespace unit), in any mode. -/
theorem step_descG {g R : Str} (hd : s.drop st.pos = g ++ R) (hg : DescGap g)
    (hR : noGapStart R = true) (hRne : R ≠ []) (hRc : ∀ c ∈ R.head?, isComb c = false)
    (hR41 : R.head? ≠ some 41) (hv : CombValid flags 32 st) :
    ∃ p, s.drop p = R ∧ p ≤ s.length ∧
      parseLoop pyFoldEnv Gen.lexicon B s (fuel + 1) flags st =
        parseLoop pyFoldEnv Gen.lexicon B s fuel flags
          { combStepG flags 32 st with pos := p, index := p } := by
  obtain ⟨p, p', hnt, hw⟩ := nextToken_desc B s hd hg hR hRne hRc hR41
  have hc := combinatorOf_ws B s (i := st.pos) (j := st.pos + g.length) hw
  refine ⟨st.pos + g.length, drop_add_of_drop_append hd, (nextToken_some C06.lexicon_ok hnt).2.2, ?_⟩
  rw [parseLoop_combineG B _ _ _ _ _ _ _ hnt rfl (by simp only [penv] at hc; rw [hc]; exact hv)]
  simp only [penv] at hc
  rw [hc]
  exact congrArg _ (combStepG_frame _ _ _ _ _)

/-- `g₁ c g₂` with `c` one of `,` `+` `>` `~`, after a compound, outside `:has()`. -/
theorem step_comb {c : Nat} {g₁ g₂ R : Str} (hd : s.drop st.pos = g₁ ++ c :: (g₂ ++ R))
    (hg₁ : isGap g₁) (hg₂ : isGap g₂) (hcomb : isComb c = true) (hR : noGapStart R = true)
    (hrel : ((flags &&& FLG_RELATIVE) != 0) = false) (hs : st.hasSelector = true) :
    ∃ p, s.drop p = R ∧ p ≤ s.length ∧
      parseLoop pyFoldEnv Gen.lexicon B s (fuel + 1) flags st =
        parseLoop pyFoldEnv Gen.lexicon B s fuel flags
          { combStep c ((flags &&& FLG_PSEUDO) != 0) st with pos := p, index := p } := by
  obtain ⟨p, hp, hle, h⟩ := step_symG B s fuel flags st hd hg₁ hg₂ hcomb hR (CombValid.of_sel hrel hs)
  rw [combStepG_of_sel hrel hs] at h
  exact ⟨p, hp, hle, h⟩

/-- The descendant combinator after a compound, outside `:has()`. -/
theorem step_desc {g R : Str} (hd : s.drop st.pos = g ++ R) (hg : DescGap g)
    (hR : noGapStart R = true) (hRne : R ≠ []) (hRc : ∀ c ∈ R.head?, isComb c = false)
    (hR41 : R.head? ≠ some 41)
    (hrel : ((flags &&& FLG_RELATIVE) != 0) = false) (hs : st.hasSelector = true) :
    ∃ p, s.drop p = R ∧ p ≤ s.length ∧
      parseLoop pyFoldEnv Gen.lexicon B s (fuel + 1) flags st =
        parseLoop pyFoldEnv Gen.lexicon B s fuel flags
          { combStep 32 ((flags &&& FLG_PSEUDO) != 0) st with pos := p, index := p } := by
  obtain ⟨p, hp, hle, h⟩ := step_descG B s fuel flags st hd hg hR hRne hRc hR41 (CombValid.of_sel hrel hs)
  rw [combStepG_of_sel hrel hs] at h
  exact ⟨p, hp, hle, h⟩

end Compile
end Refine
end SoupVerif

#print axioms SoupVerif.Refine.Compile.nextToken_combine
#print axioms SoupVerif.Refine.Compile.step_comb
#print axioms SoupVerif.Refine.Compile.step_desc
#print axioms SoupVerif.Refine.Compile.step_symG
#print axioms SoupVerif.Refine.Compile.step_descG
