/-
  Refinement of the hand-written scanners of `Model/Inputs.lean` (`shapeTime`, `shapeMonth`, `shapeWeek`,
  `shapeDate`, `shapeDateTime`, `shapeNum`) against the regular expressions regenerated from
  `soupsieve/css_match.py` (`Gen.cm_RE_TIME`, `Gen.cm_RE_MONTH`, `Gen.cm_RE_WEEK`, `Gen.cm_RE_DATE`,
  `Gen.cm_RE_DATETIME`, `Gen.cm_RE_NUM`), for every input string and every character environment
  (no case-insensitive item occurs in these expressions).

  Main theorems: `time_refines`, `month_refines`, `week_refines`, `date_refines`, `datetime_refines`
  (engine result with `int(m.group(k), 10)` of the groups = the scanner's result), `num_refines` and
  `num_span` (in `Refine/InputsNum.lean`), and `parseValueRx_eq`: `parse_value` run through the engine
  (groups looked up by name in the generated group tables) equals `Inputs.parseValue`.

  Each proof starts from a shape lemma proved by `rfl` against the explicit term (bos, an optional year group
  and hyphen, a linear pattern of `Piece`s, eos), so an edit of the regular expression in the source breaks it;
  the engine on such a term is the scanner `scan` of `Refine/InputsBase.lean` (`pieces_groups` there, `year_pieces`
  here).
-/
import SoupVerif.Refine.InputsBase
import SoupVerif.Refine.InputsNum
import SoupVerif.Generated.Regexes
namespace SoupVerif
namespace RefineInputs
open Rx RxBasic Inputs

def timePieces : List Piece := [.two 1, .lit 58, .two 2]

theorem re_time_shape : Gen.cm_RE_TIME = .seq (.bos :: (timePieces.map Piece.rx ++ [.eos])) := rfl

theorem shapeTime_eq (t : Str) : shapeTime t =
    (splitAt1 58 t).bind fun p => if is2 p.1 = true ∧ is2 p.2 = true then
      some (digitsVal p.1, digitsVal p.2) else none := by
  unfold shapeTime
  cases splitAt1 58 t with
  | none => rfl
  | some p =>
    obtain ⟨h, m⟩ := p
    show (if (is2 h && is2 m) = true then some (digitsVal h, digitsVal m) else none) = _
    cases h1 : is2 h <;> cases h2 : is2 m <;> simp [h1, h2]

theorem time_refines (env : CharEnv) (s : Str) :
    (matchAt env Gen.cm_RE_TIME s 0).map (fun p => (digitsVal (grp s p.2 1), digitsVal (grp s p.2 2))) =
      shapeTime s := by
  have h := congrArg (Option.map fun φ : Nat → Str => (digitsVal (φ 1), digitsVal (φ 2)))
    (pieces_groups env s timePieces (by decide))
  rw [Option.map_map, Option.map_map] at h
  rw [re_time_shape, matchAt, runs_seq, shapeTime_eq]
  refine h.trans ?_
  rw [timePieces, scan_two_lit_two 58 (by decide)]
  cases splitAt1 58 s with
  | none => rfl
  | some p => by_cases h2 : is2 p.1 = true ∧ is2 p.2 = true <;> simp [h2, get, List.lookup_cons]

/-! ### The year prefix `^(?P<year>[0-9]{4,})-` -/

theorem cut_lit (env : CharEnv) (s : Str) (ch : Nat) (hch : isDigit ch = false) (rs : List Rx)
    (j x : Nat) (c : Caps) (hx : s[j]? = some x) (hd : isDigit x = true) :
    runsSeq env s (.lit ch false :: rs) j c = [] := by
  rw [runsSeq_char (isChar_lit env s ch false), hx]
  have : x ≠ ch := by rintro rfl; rw [hch] at hd; cases hd
  simp [this]

theorem digits_facts (s : Str) :
    spanLen s isDigit 0 = (s.takeWhile isDigit).length ∧
    s.drop (s.takeWhile isDigit).length = s.dropWhile isDigit ∧
    s.take (s.takeWhile isDigit).length = s.takeWhile isDigit ∧
    s.length = (s.takeWhile isDigit).length + (s.dropWhile isDigit).length := by
  have h1 : spanLen s isDigit 0 = (s.takeWhile isDigit).length := rfl
  have h2 := drop_span s isDigit 0
  have h3 := take_span s isDigit 0
  rw [h1] at h2 h3
  simp only [Nat.zero_add, List.drop_zero] at h2 h3
  refine ⟨h1, h2, h3, ?_⟩
  conv => lhs; rw [← List.takeWhile_append_dropWhile (p := isDigit) (l := s)]
  rw [List.length_append]

theorem year_prefix (env : CharEnv) (s : Str) (rs : List Rx) :
    runsSeq env s (.bos :: .group 1 (.rep 4 none true dg) :: .lit 45 false :: rs) 0 [] =
      if 4 ≤ (s.takeWhile isDigit).length ∧ (s.dropWhile isDigit).head? = some 45 then
        runsSeq env s rs ((s.takeWhile isDigit).length + 1) (setCap 1 0 (s.takeWhile isDigit).length [])
      else [] := by
  obtain ⟨h1, h2, -, -⟩ := digits_facts s
  rw [runsSeq_bos, runsSeq_group_rep_cut (isChar_digit env s) 1 4 _ 0 []
    (fun j x c hx hd => cut_lit env s 45 (by decide) rs j x c hx hd), h1, runsSeq_lit]
  simp only [Nat.zero_add, h2]
  by_cases h4 : 4 ≤ (s.takeWhile isDigit).length
  · cases s.dropWhile isDigit with
    | nil => simp
    | cons x t => by_cases hx : x = 45 <;> simp [h4, hx]
  · simp [h4]

theorem re_month_shape : Gen.cm_RE_MONTH =
    .seq (.bos :: .group 1 (.rep 4 none true dg) :: .lit 45 false :: ([Piece.two 2].map Piece.rx ++ [.eos])) := rfl

/-- The year test of the scanners, with the digit test split off (as `splitAt1_digits` wants it). -/
theorem year_guard {α : Type} (y : Str) (b : Bool) (x : α) :
    (if (isYear y && b) = true then some x else none) =
      if y.all isDigit = true then (if 4 ≤ y.length ∧ b = true then some x else none) else none := by
  cases b <;> cases h1 : y.all isDigit <;> by_cases h2 : 4 ≤ y.length <;> simp [isYear, h1, h2]

theorem shapeMonth_nf (s : Str) : shapeMonth s =
    afterDigits 45 (fun y r => if 4 ≤ y.length ∧ is2 r = true then
          some (digitsVal y, digitsVal r) else none) s := by
  rw [← splitAt1_digits 45 (by decide)]
  unfold shapeMonth
  cases splitAt1 45 s with
  | none => rfl
  | some p =>
    obtain ⟨h, m⟩ := p
    exact year_guard h (is2 m) _

theorem re_week_shape : Gen.cm_RE_WEEK =
    .seq (.bos :: .group 1 (.rep 4 none true dg) :: .lit 45 false ::
      ([Piece.lit 87, .two 2].map Piece.rx ++ [.eos])) := rfl

/-- The part of `shapeWeek` after the year and the hyphen. -/
def weekTail (y r : Str) : Option (Nat × Nat) :=
  match r with
  | 87 :: w => if 4 ≤ y.length ∧ is2 w = true then some (digitsVal y, digitsVal w) else none
  | _ => none

theorem shapeWeek_nf (s : Str) : shapeWeek s = afterDigits 45 weekTail s := by
  rw [← splitAt1_digits 45 (by decide)]
  unfold shapeWeek
  cases splitAt1 45 s with
  | none => rfl
  | some p =>
    obtain ⟨h, m⟩ := p
    simp only [Option.bind_some]
    show (match m with
      | 87 :: w => if (isYear h && is2 w) = true then some (digitsVal h, digitsVal w) else none
      | _ => none) = _
    rcases m with _ | ⟨w0, w⟩
    · simp [weekTail]
    · by_cases hw : w0 = 87
      · subst hw
        exact year_guard h (is2 w) _
      · simp [weekTail, hw]

theorem afterDigits_map {α β : Type} (c : Nat) (f : Str → Str → Option α) (h : α → β) (s : Str) :
    (afterDigits c f s).map h = afterDigits c (fun y r => (f y r).map h) s := by
  unfold afterDigits
  split
  · split <;> rfl
  · rfl

/-- `^(?P<year>[0-9]{4,})-` followed by a linear pattern and `\Z`: the texts of all groups. -/
theorem year_pieces (env : CharEnv) (s : Str) (ps : List Piece) (hn : (keys ps).Nodup)
    (h1 : 1 ∉ keys ps) :
    (runsSeq env s (.bos :: .group 1 (.rep 4 none true dg) :: .lit 45 false ::
        (ps.map Piece.rx ++ [.eos])) 0 []).head?.map (fun p k => grp s p.2 k) =
      afterDigits 45 (fun y r => if 4 ≤ y.length then
        (scan ps r).map (fun g k => if k = 1 then y else get g k) else none) s := by
  rw [year_prefix]
  unfold afterDigits
  obtain ⟨-, hd, hy, hl⟩ := digits_facts s
  generalize s.takeWhile isDigit = y at *
  generalize s.dropWhile isDigit = t1 at *
  rcases t1 with _ | ⟨x, r⟩
  · simp
  · obtain ⟨hi, hr⟩ := drop_cons_facts hd
    by_cases hx : x = 45
    · by_cases h4 : 4 ≤ y.length
      · simp only [List.head?_cons, hx, h4, and_self, if_true]
        rw [runs_pieces env s ps _ _ hi, hr]
        cases hsc : scan ps r with
        | none => simp
        | some g =>
          simp only [Option.isSome_some, if_true, List.head?_cons, Option.map_some, Option.some.injEq]
          funext k
          rw [grp_capsOf s ps _ _ g (by rw [hr]; exact hsc) hn k]
          by_cases hk : k = 1
          · subst hk
            rw [lookup_none_of_keys (by rw [scan_keys ps _ g hsc]; exact h1), grp_setCap_self]
            simp [hy]
          · rw [grp_setCap_ne s _ _ _ (Ne.symm hk)]
            simp [hk, get, grp, capSpan]
      · simp [h4]
    · simp [hx]

theorem month_refines (env : CharEnv) (s : Str) :
    (matchAt env Gen.cm_RE_MONTH s 0).map (fun p => (digitsVal (grp s p.2 1), digitsVal (grp s p.2 2))) =
      shapeMonth s := by
  have h := congrArg (Option.map fun φ : Nat → Str => (digitsVal (φ 1), digitsVal (φ 2)))
    (year_pieces env s [.two 2] (by decide) (by decide))
  rw [Option.map_map, afterDigits_map] at h
  rw [re_month_shape, matchAt, runs_seq, shapeMonth_nf]
  refine h.trans ?_
  congr 1
  funext y r
  rw [scan_two_single]
  by_cases h4 : 4 ≤ y.length <;> by_cases h2 : is2 r = true <;> simp [h4, h2, get, List.lookup_cons]

theorem week_refines (env : CharEnv) (s : Str) :
    (matchAt env Gen.cm_RE_WEEK s 0).map (fun p => (digitsVal (grp s p.2 1), digitsVal (grp s p.2 2))) =
      shapeWeek s := by
  have h := congrArg (Option.map fun φ : Nat → Str => (digitsVal (φ 1), digitsVal (φ 2)))
    (year_pieces env s [.lit 87, .two 2] (by decide) (by decide))
  rw [Option.map_map, afterDigits_map] at h
  rw [re_week_shape, matchAt, runs_seq, shapeWeek_nf]
  refine h.trans ?_
  congr 1
  funext y r
  rcases r with _ | ⟨x, w⟩
  · by_cases h4 : 4 ≤ y.length <;> simp [h4, scan, weekTail]
  · by_cases hx : x = 87
    · subst hx
      rw [show scan [.lit 87, .two 2] (87 :: w) = scan [.two 2] w by simp [scan], scan_two_single]
      by_cases h4 : 4 ≤ y.length <;> by_cases h2 : is2 w = true <;> simp [h4, h2, weekTail, get, List.lookup_cons]
    · by_cases h4 : 4 ≤ y.length <;> simp [h4, hx, scan, weekTail]

def datePieces : List Piece := [.two 2, .lit 45, .two 3]

theorem re_date_shape : Gen.cm_RE_DATE =
    .seq (.bos :: .group 1 (.rep 4 none true dg) :: .lit 45 false ::
      (datePieces.map Piece.rx ++ [.eos])) := rfl

theorem scan_datePieces (r : Str) : scan datePieces r =
    (splitAt1 45 r).bind fun p => if is2 p.1 = true ∧ is2 p.2 = true then some [(2, p.1), (3, p.2)] else none :=
  scan_two_lit_two 45 (by decide) 2 3 r

theorem shapeDate_nf (s : Str) : shapeDate s =
    afterDigits 45 (fun y r => if 4 ≤ y.length then
      (scan datePieces r).map (fun g => (digitsVal y, digitsVal (get g 2), digitsVal (get g 3))) else none) s := by
  rw [← splitAt1_digits 45 (by decide)]
  unfold shapeDate
  cases splitAt1 45 s with
  | none => rfl
  | some p =>
    obtain ⟨y, r⟩ := p
    show ((splitAt1 45 r).bind fun q => if (isYear y && is2 q.1 && is2 q.2) = true then
      some (digitsVal y, digitsVal q.1, digitsVal q.2) else none) = _
    simp only [Option.bind_some, scan_datePieces]
    cases splitAt1 45 r with
    | none => simp
    | some q =>
      obtain ⟨m, d⟩ := q
      show (if (isYear y && is2 m && is2 d) = true then some (digitsVal y, digitsVal m, digitsVal d) else none) = _
      rw [Bool.and_assoc, year_guard]
      by_cases h2 : 4 ≤ y.length <;> by_cases e : is2 m = true ∧ is2 d = true <;>
        simp [h2, e, get, List.lookup_cons]

theorem date_refines (env : CharEnv) (s : Str) :
    (matchAt env Gen.cm_RE_DATE s 0).map (fun p =>
        (digitsVal (grp s p.2 1), digitsVal (grp s p.2 2), digitsVal (grp s p.2 3))) =
      shapeDate s := by
  have h := year_pieces env s datePieces (by decide) (by decide)
  have h' := congrArg (Option.map fun φ : Nat → Str => (digitsVal (φ 1), digitsVal (φ 2), digitsVal (φ 3))) h
  rw [Option.map_map, afterDigits_map] at h'
  rw [re_date_shape, matchAt, runs_seq, shapeDate_nf]
  refine h'.trans ?_
  congr 1
  funext y r
  by_cases h4 : 4 ≤ y.length <;> simp [h4, Option.map_map, Function.comp_def]

def timePieces45 : List Piece := [.two 4, .lit 58, .two 5]

def dtPieces : List Piece := [.two 2, .lit 45, .two 3, .lit 84, .two 4, .lit 58, .two 5]

theorem re_datetime_shape : Gen.cm_RE_DATETIME =
    .seq (.bos :: .group 1 (.rep 4 none true dg) :: .lit 45 false ::
      (dtPieces.map Piece.rx ++ [.eos])) := rfl

theorem scan_timePieces45 (r : Str) : scan timePieces45 r =
    (splitAt1 58 r).bind fun p => if is2 p.1 = true ∧ is2 p.2 = true then some [(4, p.1), (5, p.2)] else none :=
  scan_two_lit_two 58 (by decide) 4 5 r

theorem scan_dtPieces (r : Str) : scan dtPieces r =
    (splitAt1 84 r).bind fun q => (scan datePieces q.1).bind fun g1 =>
      (scan timePieces45 q.2).map (g1 ++ ·) :=
  scan_split 84 (by decide) timePieces45 datePieces (by decide) r

theorem shapeDateTime_nf (s : Str) : shapeDateTime s =
    afterDigits 45 (fun y r => if 4 ≤ y.length then
      (scan dtPieces r).map (fun g => (digitsVal y, digitsVal (get g 2), digitsVal (get g 3),
        digitsVal (get g 4), digitsVal (get g 5))) else none) s := by
  unfold shapeDateTime
  show ((splitAt1 84 s).bind fun p => (shapeDate p.1).bind ((fun t (ymd : Nat × Nat × Nat) =>
    (shapeTime t).bind fun hm => some (ymd.1, ymd.2.1, ymd.2.2, hm.1, hm.2)) p.2)) = _
  simp only [shapeDate_nf]
  refine (splitAt1_afterDigits 84 45 (by decide) (by decide) (fun t (ymd : Nat × Nat × Nat) =>
    (shapeTime t).bind fun hm => some (ymd.1, ymd.2.1, ymd.2.2, hm.1, hm.2)) s _).trans ?_
  congr 1
  funext y r
  rw [scan_dtPieces]
  cases splitAt1 84 r with
  | none => by_cases h4 : 4 ≤ y.length <;> simp [h4]
  | some q =>
    obtain ⟨d, t⟩ := q
    simp only [Option.bind_some, shapeTime_eq, scan_datePieces, scan_timePieces45]
    by_cases h4 : 4 ≤ y.length
    · simp only [h4, if_true]
      cases splitAt1 45 d with
      | none => simp
      | some p1 =>
        cases splitAt1 58 t with
        | none => by_cases e1 : is2 p1.1 = true ∧ is2 p1.2 = true <;> simp [e1]
        | some p2 =>
          by_cases e1 : is2 p1.1 = true ∧ is2 p1.2 = true <;> by_cases e2 : is2 p2.1 = true ∧ is2 p2.2 = true <;>
            simp [get, List.lookup_cons, e1, e2]
    · simp [h4]

theorem datetime_refines (env : CharEnv) (s : Str) :
    (matchAt env Gen.cm_RE_DATETIME s 0).map (fun p =>
        (digitsVal (grp s p.2 1), digitsVal (grp s p.2 2), digitsVal (grp s p.2 3),
          digitsVal (grp s p.2 4), digitsVal (grp s p.2 5))) =
      shapeDateTime s := by
  have h := year_pieces env s dtPieces (by decide) (by decide)
  have h' := congrArg (Option.map fun φ : Nat → Str =>
    (digitsVal (φ 1), digitsVal (φ 2), digitsVal (φ 3), digitsVal (φ 4), digitsVal (φ 5))) h
  rw [Option.map_map, afterDigits_map] at h'
  rw [re_datetime_shape, matchAt, runs_seq, shapeDateTime_nf]
  refine h'.trans ?_
  congr 1
  funext y r
  by_cases h4 : 4 ≤ y.length <;> simp [h4, Option.map_map, Function.comp_def]

/-- `m.group(name)` through the generated group table of the regular expression. -/
def named (s : Str) (caps : Caps) (groups : List (String × Nat)) (name : String) : Str :=
  grp s caps ((groups.lookup name).getD 0)

/-- `int(m.group(name), 10)`. -/
def namedInt (s : Str) (caps : Caps) (groups : List (String × Nat)) (name : String) : Nat :=
  digitsVal (named s caps groups name)

/-- `Inputs.parse_value(itype, value)` with the shape step done by the regular-expression engine on the
    regular expressions regenerated from the source (groups looked up by name in the generated group
    tables); `shapeNum` is used only as `float(...)` of the matched text. -/
def parseValueRx (env : CharEnv) (itype value : Str) : Option PVal :=
  if itype == "date".toStr then
    match matchAt env Gen.cm_RE_DATE value 0 with
    | some (_, caps) =>
      let year := namedInt value caps Gen.cm_RE_DATE_groups "year"
      let month := namedInt value caps Gen.cm_RE_DATE_groups "month"
      let day := namedInt value caps Gen.cm_RE_DATE_groups "day"
      if validateYear year && validateMonth month && validateDay year month day then
        some (.ints [year, month, day]) else none
    | none => none
  else if itype == "month".toStr then
    match matchAt env Gen.cm_RE_MONTH value 0 with
    | some (_, caps) =>
      let year := namedInt value caps Gen.cm_RE_MONTH_groups "year"
      let month := namedInt value caps Gen.cm_RE_MONTH_groups "month"
      if validateYear year && validateMonth month then some (.ints [year, month]) else none
    | none => none
  else if itype == "week".toStr then
    match matchAt env Gen.cm_RE_WEEK value 0 with
    | some (_, caps) =>
      let year := namedInt value caps Gen.cm_RE_WEEK_groups "year"
      let week := namedInt value caps Gen.cm_RE_WEEK_groups "week"
      if validateYear year && validateWeek year week then some (.ints [year, week]) else none
    | none => none
  else if itype == "time".toStr then
    match matchAt env Gen.cm_RE_TIME value 0 with
    | some (_, caps) =>
      let hour := namedInt value caps Gen.cm_RE_TIME_groups "hour"
      let minutes := namedInt value caps Gen.cm_RE_TIME_groups "minutes"
      if validateHour hour && validateMinutes minutes then some (.ints [hour, minutes]) else none
    | none => none
  else if itype == "datetime-local".toStr then
    match matchAt env Gen.cm_RE_DATETIME value 0 with
    | some (_, caps) =>
      let year := namedInt value caps Gen.cm_RE_DATETIME_groups "year"
      let month := namedInt value caps Gen.cm_RE_DATETIME_groups "month"
      let day := namedInt value caps Gen.cm_RE_DATETIME_groups "day"
      let hour := namedInt value caps Gen.cm_RE_DATETIME_groups "hour"
      let minutes := namedInt value caps Gen.cm_RE_DATETIME_groups "minutes"
      if validateYear year && validateMonth month && validateDay year month day &&
          validateHour hour && validateMinutes minutes then
        some (.ints [year, month, day, hour, minutes]) else none
    | none => none
  else if itype == "number".toStr || itype == "range".toStr then
    match matchAt env Gen.cm_RE_NUM value 0 with
    | some (_, caps) => shapeNum (named value caps Gen.cm_RE_NUM_groups "value")
    | none => none
  else none

theorem date_groups : Gen.cm_RE_DATE_groups = [("year", 1), ("month", 2), ("day", 3)] := rfl
theorem month_groups : Gen.cm_RE_MONTH_groups = [("year", 1), ("month", 2)] := rfl
theorem week_groups : Gen.cm_RE_WEEK_groups = [("year", 1), ("week", 2)] := rfl
theorem time_groups : Gen.cm_RE_TIME_groups = [("hour", 1), ("minutes", 2)] := rfl
theorem datetime_groups : Gen.cm_RE_DATETIME_groups =
    [("year", 1), ("month", 2), ("day", 3), ("hour", 4), ("minutes", 5)] := rfl
theorem num_groups : Gen.cm_RE_NUM_groups = [("value", 1)] := rfl

theorem parseValueRx_eq (env : CharEnv) (itype value : Str) :
    parseValueRx env itype value = parseValue itype value := by
  unfold parseValueRx parseValue
  -- the two `if` chains test the same keywords: compare them branch by branch
  refine ite_congr rfl (fun _ => ?_) fun _ => ite_congr rfl (fun _ => ?_) fun _ =>
    ite_congr rfl (fun _ => ?_) fun _ => ite_congr rfl (fun _ => ?_) fun _ =>
    ite_congr rfl (fun _ => ?_) fun _ => ite_congr rfl (fun _ => ?_) fun _ => rfl
  · rw [← date_refines env value]
    cases matchAt env Gen.cm_RE_DATE value 0 with
    | none => rfl
    | some p => simp [namedInt, named, date_groups, List.lookup_cons]
  · rw [← month_refines env value]
    cases matchAt env Gen.cm_RE_MONTH value 0 with
    | none => rfl
    | some p => simp [namedInt, named, month_groups, List.lookup_cons]
  · rw [← week_refines env value]
    cases matchAt env Gen.cm_RE_WEEK value 0 with
    | none => rfl
    | some p => simp [namedInt, named, week_groups, List.lookup_cons]
  · rw [← time_refines env value]
    cases matchAt env Gen.cm_RE_TIME value 0 with
    | none => rfl
    | some p => simp [namedInt, named, time_groups, List.lookup_cons]
  · rw [← datetime_refines env value]
    cases matchAt env Gen.cm_RE_DATETIME value 0 with
    | none => rfl
    | some p => simp [namedInt, named, datetime_groups, List.lookup_cons]
  · have h1 := num_refines env value
    cases hm : matchAt env Gen.cm_RE_NUM value 0 with
    | none =>
      rw [hm] at h1
      cases hs : shapeNum value with
      | none => rfl
      | some v => rw [hs] at h1; cases h1
    | some p =>
      obtain ⟨e, caps⟩ := p
      obtain ⟨-, -, hg⟩ := num_span env value e caps hm
      simp [named, num_groups, hg]

#print axioms time_refines
#print axioms month_refines
#print axioms week_refines
#print axioms date_refines
#print axioms datetime_refines
#print axioms num_refines
#print axioms num_span
#print axioms parseValueRx_eq

end RefineInputs
end SoupVerif
