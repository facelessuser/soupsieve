/-
  Verdicts on texts of the grammar of `C09Compile2`: `C05Parse.ListText g₁ L g₂`, the hypotheses under which
  `C09Compile2.compile_eq_denote2_plain` applies to the text `g₁ ++ L.render ++ g₂`, with the parser's and the matcher's
  answer on such a text (`ListText.compile_eq`, `.matchText_eq`; for one compound `.one_verdict`, one more item behind it
  `withItem`, `matchSel_withItem`;
  `.compound_verdict`: not the document object, the type passes, every item alone holds; `NsParse.compile_one`), and the
  literal spelling `lits` the examples are written in.  `matchText` itself is in `Refine/MatchText.lean`.
-/
import SoupVerif.Properties.C09Compile2
import SoupVerif.Refine.NsParseBase
import SoupVerif.Refine.MatchText
import SoupVerif.Refine.BuilderMerge
namespace SoupVerif
namespace C05Parse
open SoupVerif.Parser Refine.Compile Spelling
open C09Compile2
open C01Parse (implB implTag)
open C12Parse (matchText)

/-- The frozen builder of a compound at the top level (with the implied `*`). -/
def selOf (B : Builtins) (cp : SCompound) : Sel := (implB false (cp.value.buildOn B SelB.empty)).freeze

/-- `g₁ ++ L.render ++ g₂` is a pattern text covered by `C09Compile2.compile_eq_denote2_plain`: the
    hypotheses of that theorem (gaps, the side conditions `ok` of the spelling at the top level, no custom
    selector, no NUL). -/
structure ListText (g₁ : Str) (L : SSelList) (g₂ : Str) : Prop where
  gap₁ : isGap g₁
  gap₂ : isGap g₂
  ok : L.ok 0 g₂
  tbl : L.tbl []
  nonul : ∀ x ∈ g₁ ++ L.render ++ g₂, x ≠ 0

/-- The selector list that consists of the compound `cp`. -/
def one (cp : SCompound) : SSelList := .mk cp []

theorem one_render (cp : SCompound) : (one cp).render = cp.render := by
  simp [one, SSelList.render, renderRest]

theorem one_value (cp : SCompound) : (one cp).value = .mk cp.value [] := by
  simp [one, SSelList.value, restValue]

/-- The parser model on such a text, for any table `B` of built-in lists. -/
theorem ListText.compile_eq_gen {g₁ g₂ : Str} {L : SSelList} (h : ListText g₁ L g₂) (B : Builtins) :
    Parser.compile pyFoldEnv Gen.lexicon B (g₁ ++ L.render ++ g₂) [] 0 = .ok (denote B L.value) :=
  compile_eq_denote2_plain B g₁ g₂ L h.gap₁ h.gap₂ h.ok h.tbl h.nonul

theorem ListText.compile_eq {g₁ g₂ : Str} {L : SSelList} (h : ListText g₁ L g₂) :
    Parser.compile pyFoldEnv Gen.lexicon Gen.builtinsRec (g₁ ++ L.render ++ g₂) [] 0 =
      .ok (denote Gen.builtinsRec L.value) :=
  h.compile_eq_gen _

theorem ListText.matchText_eq {g₁ g₂ : Str} {L : SSelList} (h : ListText g₁ L g₂) (c : Ctx) (l : Loc) :
    matchText c (g₁ ++ L.render ++ g₂) l = .ok (matchEl c (denote Gen.builtinsRec L.value) l) := by
  exact C12Parse.matchText_ok h.compile_eq

/-- One non-empty compound between two gaps, from the side conditions stated on the compound. -/
theorem ListText.of_compound {g₁ g₂ : Str} {cp : SCompound} (hg₁ : isGap g₁) (hg₂ : isGap g₂)
    (hok : cp.ok g₂) (hne : cp.isEmpty = false) (htbl : cp.tbl [])
    (h0 : ∀ x ∈ g₁ ++ cp.render ++ g₂, x ≠ 0) : ListText g₁ (one cp) g₂ where
  gap₁ := hg₁
  gap₂ := hg₂
  ok := by
    rw [one, SSelList.ok]
    refine ⟨by simpa [renderRest] using hok, by simp [hne], ?_⟩
    rw [restOK]; left; simp [hne]
  tbl := by rw [one, SSelList.tbl]; exact ⟨htbl, by simp [restTbl]⟩
  nonul := by rw [one_render]; exact h0

/-- … and back: what `ListText` of a one-compound list says of the compound. -/
theorem ListText.one_facts {g₁ g₂ : Str} {cp : SCompound} (h : ListText g₁ (one cp) g₂) :
    cp.isEmpty = false ∧ cp.ok g₂ := by
  have hok := h.ok
  rw [one, SSelList.ok] at hok
  refine ⟨?_, by simpa [renderRest] using hok.1⟩
  cases he : cp.isEmpty with
  | false => rfl
  | true =>
    have := hok.2.1 he
    revert this; decide

/-- Parser, then matcher, on the text of one compound: the element is not the document object and the frozen builder of
    the compound (`selOf`) matches it. -/
theorem ListText.one_verdict {g₁ g₂ : Str} {cp : SCompound} (h : ListText g₁ (one cp) g₂) (c : Ctx) (l : Loc)
    (e : Elem) (kids : List Node) (hf : l.focus = .elem e kids) :
    matchText c (g₁ ++ cp.render ++ g₂) l = .ok (!e.isDoc && matchSel c l e (selOf Gen.builtinsRec cp)) := by
  have := h.matchText_eq c l
  rw [one_render] at this
  rw [this, one_value, NsParse.denote_one _ _ (by rw [SCompound.value_isEmpty]; exact h.one_facts.1),
    NsParse.matchEl_one c l e kids hf]
  rfl

/-- **Text in, verdict out, for one compound**: the element is not the document object, its type passes (the
    implied `*` when no type selector is written) and every item, alone, holds. -/
theorem ListText.compound_verdict {g₁ g₂ : Str} {tag : Option STagN} {items : List SItem}
    (h : ListText g₁ (one (.mk tag items)) g₂) (c : Ctx) (l : Loc) (e : Elem) (kids : List Node)
    (hf : l.focus = .elem e kids) :
    matchText c (g₁ ++ (SCompound.mk tag items).render ++ g₂) l =
      .ok (!e.isDoc && (matchTag c e (implTag false (tag.map STagN.value)) &&
        (itemsValue items).all (Item.holds Gen.builtinsRec c l e))) := by
  rw [h.one_verdict c l e kids hf, selOf, SCompound.value, matchSel_freeze_compound]

/-- The same as a statement about propositions, the shape of the `*_text` theorems: the parser accepts, and the matcher
    accepts `e` iff it is not the document object, its type passes (`TagCond`) and `P` holds, `P` being what the items
    demand. -/
theorem ListText.compound_iff {g₁ g₂ : Str} {tag : Option STagN} {items : List SItem}
    (h : ListText g₁ (one (.mk tag items)) g₂) (c : Ctx) (l : Loc) (e : Elem) (kids : List Node)
    (hf : l.focus = .elem e kids) {P : Prop}
    (hP : (itemsValue items).all (Item.holds Gen.builtinsRec c l e) = true ↔ P) :
    ∃ b, matchText c (g₁ ++ (SCompound.mk tag items).render ++ g₂) l = .ok b ∧
      (b = true ↔ e.isDoc = false ∧ C12Parse.TagCond c e (tag.map STagN.value) ∧ P) :=
  ⟨_, h.compound_verdict c l e kids hf, by
    rw [Bool.and_eq_true, Bool.and_eq_true, C12Parse.matchTag_implTag_iff, hP, Bool.not_eq_true']⟩

def withItem : SCompound → SItem → SCompound
  | .mk tag items, it => .mk tag (items ++ [it])

theorem withItem_render (X : SCompound) (it : SItem) : (withItem X it).render = X.render ++ it.render := by
  obtain ⟨tag, items⟩ := X
  simp [withItem, SCompound.render, renderItems_append, renderItems]

theorem withItem_none_render (it : SItem) : (withItem (.mk none []) it).render = it.render := by
  simp [withItem, SCompound.render, renderItems]

theorem withItem_isEmpty (X : SCompound) (it : SItem) : (withItem X it).isEmpty = false := by
  obtain ⟨tag, items⟩ := X
  simp [withItem, SCompound.isEmpty]

theorem itemsOK_last (items : List SItem) (it : SItem) (r : Str) (h : itemsOK (items ++ [it]) r) : it.ok r := by
  have := ((itemsOK_append items [it] r).1 h).2
  simpa only [itemsOK, renderItems, List.nil_append, and_true] using this

theorem withItem_ok_last (X : SCompound) (it : SItem) (r : Str) (h : (withItem X it).ok r) : it.ok r := by
  obtain ⟨tag, items⟩ := X
  simp only [withItem, SCompound.ok] at h
  exact itemsOK_last items it r h.2

/-- One more simple selector behind the compound `X`: the verdict of `X`, and what the item alone demands. -/
theorem matchSel_withItem (B : Builtins) (c : Ctx) (l : Loc) (e : Elem) (X : SCompound) (it : SItem) :
    matchSel c l e (selOf B (withItem X it)) = (matchSel c l e (selOf B X) && Item.holds B c l e it.value) := by
  obtain ⟨tag, items⟩ := X
  simp only [selOf, withItem, SCompound.value, itemsValue_append, itemsValue]
  rw [matchSel_freeze_compound, matchSel_freeze_compound, List.all_append, ← Bool.and_assoc, List.all_cons,
    List.all_nil, Bool.and_true]

end C05Parse

/-- The parser model on one non-empty compound between two gaps: the frozen builder of its values, with the implied
    `*` of the top level. -/
theorem NsParse.compile_one (B : Parser.Builtins) (g₁ g₂ : Str) (cp : C09Compile2.SCompound) (hg₁ : Spelling.isGap g₁)
    (hg₂ : Spelling.isGap g₂) (hok : cp.ok g₂) (hne : cp.isEmpty = false) (htbl : cp.tbl [])
    (h0 : ∀ x ∈ g₁ ++ cp.render ++ g₂, x ≠ 0) :
    Parser.compile pyFoldEnv Gen.lexicon B (g₁ ++ cp.render ++ g₂) [] 0 =
      .ok (.mk [(C01Parse.implB false (cp.value.buildOn B Parser.SelB.empty)).freeze] false false) := by
  have h := C05Parse.ListText.of_compound hg₁ hg₂ hok hne htbl h0
  rw [← C05Parse.one_render, h.compile_eq_gen B, C05Parse.one_value,
    NsParse.denote_one B _ (by rw [C09Compile2.SCompound.value_isEmpty]; exact hne)]

namespace C12Parse
open SoupVerif.Parser Refine.Compile Spelling

namespace Examples

def lits (s : String) : C09Compile.Forms := s.toStr.map fun c => (c, EscForm.lit)

instance (f : C09Compile.Forms) (r : Str) : Decidable (C09Compile.identOK f r) := by
  unfold C09Compile.identOK; infer_instance

/-- An identifier written in literal characters only is admissible in front of any text (a literal character
    needs no look-ahead): one check per name, whatever follows it. -/
theorem identOK_lit (v : Str) (h : C09Compile.identOK (v.map fun c => (c, EscForm.lit)) []) (r : Str) :
    C09Compile.identOK (v.map fun c => (c, EscForm.lit)) r := by
  refine ⟨Eq.trans ?_ h.1, h.2⟩
  clear h
  induction v with
  | nil => rfl
  | cons c v ih => simp only [List.map_cons, SpellingLemmas.validForms_cons, formOk, ih]

end Examples
end C12Parse
end SoupVerif
