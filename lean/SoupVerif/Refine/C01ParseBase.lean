/-
  C01 ↔ parser, the spelling half: a canonical way to WRITE the string values of a selector AST in the smaller
  grammar (`Refine/Syntax.lean`; identifiers: `identForms`, `Lemmas/EscapeForms.lean`).

    * `strPieces v`    — the body of a double-quoted string with value `v`, written as
                         `Spelling.renderString 34` writes it (`strPieces_render`): `SpellingLemmas.canonPiece 34`
                         on every code point (`strPieces_eq_canon`).

  Only NUL cannot be written (the parser replaces it before tokenizing).
-/
import SoupVerif.Properties.C09Compile
import SoupVerif.Lemmas.EscapeForms
namespace SoupVerif
namespace C01Parse
open Escape Spelling SpellingLemmas EscapeLemmas
open C09Compile (Forms identOK)

/-- How `Spelling.renderString 34` writes one code point of a string. -/
def strPiece (c : Nat) : StrPiece :=
  if c == 10 || c == 13 || c == 12 then .ch c (.hex (hexDigits c).length [] (some .space))
  else if c == 92 || c == 34 then .ch c .bs
  else .ch c .lit

/-- The canonical body of the double-quoted string with value `v`. -/
def strPieces (v : Str) : List StrPiece := v.map strPiece

theorem strPiece_cases (c : Nat) :
    ((c = 10 ∨ c = 13 ∨ c = 12) ∧ strPiece c = .ch c (.hex (hexDigits c).length [] (some .space)) ∧
      strEscChar 34 c = 92 :: (hexDigits c ++ [32])) ∨
    ((c = 92 ∨ c = 34) ∧ strPiece c = .ch c .bs ∧ strEscChar 34 c = [92, c]) ∨
    ((c ≠ 10 ∧ c ≠ 13 ∧ c ≠ 12 ∧ c ≠ 92 ∧ c ≠ 34) ∧ strPiece c = .ch c .lit ∧ strEscChar 34 c = [c]) := by
  unfold strPiece strEscChar
  by_cases h1 : (c == 10 || c == 13 || c == 12) = true
  · rw [if_pos h1, if_pos h1]
    left
    simp only [Bool.or_eq_true, beq_iff_eq] at h1
    exact ⟨by omega, rfl, rfl⟩
  · rw [if_neg h1, if_neg h1]
    simp only [Bool.or_eq_true, beq_iff_eq] at h1
    by_cases h2 : (c == 92 || c == 34) = true
    · rw [if_pos h2, if_pos h2]
      right; left
      simp only [Bool.or_eq_true, beq_iff_eq] at h2
      exact ⟨h2, rfl, rfl⟩
    · rw [if_neg h2, if_neg h2]
      right; right
      simp only [Bool.or_eq_true, beq_iff_eq] at h2
      exact ⟨by omega, rfl, rfl⟩

/-- The canonical body of a double-quoted string is `SpellingLemmas.canonPiece 34` on every code point, so what
    follows are the `q = 34` instances of the `*_canon` lemmas of `Lemmas/Spelling.lean`. -/
theorem strPieces_eq_canon (v : Str) : strPieces v = v.map (canonPiece 34) :=
  List.map_congr_left fun c _ => by unfold strPiece canonPiece; split <;> [rfl; (split <;> rfl)]

theorem strPieces_render (v : Str) : renderStrWith (strPieces v) = renderStringBody 34 v := by
  rw [strPieces_eq_canon, renderStringBody_eq]

theorem strPieces_value (v : Str) : strValue (strPieces v) = v := by
  rw [strPieces_eq_canon, strValue_canon]

theorem strPieces_valid (r : Str) (v : Str) : validStr 34 (strPieces v) r = true := by
  rw [strPieces_eq_canon]; exact validStr_canon 34 v r (by decide)

theorem strPieces_range (v : Str) : ∀ p ∈ strPieces v, pieceRangeOk p = true := by
  rw [strPieces_eq_canon]
  intro p hp
  obtain ⟨c, _, rfl⟩ := List.mem_map.1 hp
  exact pieceRangeOk_canon 34 c

theorem strEscChar_noNul (c : Nat) (hc : c ≠ 0) : ∀ x ∈ strEscChar 34 c, x ≠ 0 := by
  intro x hx
  rcases strPiece_cases c with ⟨_, _, e⟩ | ⟨_, _, e⟩ | ⟨_, _, e⟩ <;> rw [e] at hx
  · simp only [List.mem_cons, List.mem_append, List.not_mem_nil, or_false] at hx
    rcases hx with rfl | hx | rfl
    · omega
    · have := hexDigits_allHex c x hx
      intro e0; subst e0; simp [isHex] at this
    · omega
  · simp only [List.mem_cons, List.not_mem_nil, or_false] at hx
    rcases hx with rfl | rfl
    · omega
    · exact hc
  · simp only [List.mem_cons, List.not_mem_nil, or_false] at hx
    subst hx; exact hc

theorem renderStringBody_noNul : ∀ (v : Str), (∀ c ∈ v, c ≠ 0) → ∀ x ∈ renderStringBody 34 v, x ≠ 0
  | [], _, x, hx => by simp [renderStringBody] at hx
  | c :: cs, h, x, hx => by
    rw [renderStringBody, List.mem_append] at hx
    rcases hx with hx | hx
    · exact strEscChar_noNul c (h c (by simp)) x hx
    · exact renderStringBody_noNul cs (fun d hd => h d (by simp [hd])) x hx

end C01Parse
end SoupVerif
