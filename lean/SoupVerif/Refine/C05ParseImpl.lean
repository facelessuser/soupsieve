/-
  Helpers for `Properties/C05Parse.lean`, on the IMPLIED `*` (hence the file's name): a selector list read at the top level and the same list read inside
  `:is( … )` differ by the implied `*` only (`FLG_PSEUDO` suppresses it), and the implied `*` tests nothing but
  the default namespace.  So without a default namespace the two match the same elements.
-/
import SoupVerif.Refine.C05ParseBase
import SoupVerif.Lemmas.MatchAlgebra
import SoupVerif.Refine.BuilderMerge
namespace SoupVerif
namespace C05ParseImpl
open SoupVerif.Parser ParserProgress Refine.Compile Spelling
open C09Compile (SComb)
open C09Compile2
open C01Parse (implB implTag)
open C05ParseBase

mutual
/-- The implied `*` on the compound and on every compound of its relation chain. -/
def implSel : Sel → Sel
  | .null => .null
  | .mk tag ids classes attrs nth subs relation rt contains lang flags =>
    .mk (implTag false tag) ids classes attrs nth subs (implList relation) rt contains lang flags
def implList : SelList → SelList
  | .mk sels n h => .mk (implSels sels) n h
def implSels : List Sel → List Sel
  | [] => []
  | s :: rest => implSel s :: implSels rest
end

theorem implSels_eq_map (S : List Sel) : implSels S = S.map implSel := by
  induction S with
  | nil => simp [implSels]
  | cons s rest ih => simp [implSels, ih]

/-- Without a default namespace the implied `*` tests nothing. -/
theorem matchTag_implTag (c : Ctx) (e : Elem) (h : c.nsGet [] = none) (tag : Option SelTag) :
    matchTag c e (implTag false tag) = matchTag c e tag := by
  cases tag with
  | some t => rfl
  | none =>
    show matchTag c e (some ⟨[42], none⟩) = true
    simp only [matchTag, matchNamespace, h, matchTagname_star, Bool.and_self]

theorem headRel_implList (L : SelList) : headRel (implList L) = headRel L := by
  obtain ⟨sels, n, h⟩ := L
  cases sels with
  | nil => simp [implList, implSels, headRel, SelList.sels]
  | cons s rest =>
    cases s <;> simp [implList, implSels, implSel, headRel, SelList.sels, Sel.relType]

theorem nonEmpty_implList (L : SelList) : (implList L).nonEmpty = L.nonEmpty := by
  obtain ⟨sels, n, h⟩ := L
  cases sels <;> simp [implList, implSels, SelList.nonEmpty, SelList.sels]

theorem htmlOnly_nsGet (c : Ctx) : c.htmlOnly.nsGet [] = none := by
  simp [Ctx.nsGet, Ctx.htmlOnly]
  decide

mutual
theorem matchSel_impl : ∀ (s : Sel) (c : Ctx) (l : Loc) (e : Elem), c.nsGet [] = none →
    matchSel c l e (implSel s) = matchSel c l e s
  | .null, c, l, e, _ => by rw [implSel]
  | .mk tag ids classes attrs nth subs relation rt contains lang flags, c, l, e, h => by
    have h5 : ∀ t te, matchList c t te (implList relation) = matchList c t te relation :=
      fun t te => matchList_impl relation c t te h
    have hon : SatCore.onRel c (implList relation) = SatCore.onRel c relation := by
      funext t
      unfold SatCore.onRel
      cases t.elem? with
      | none => rfl
      | some te => exact h5 t te
    have hrel : SatCore.relOk c l (implList relation) = SatCore.relOk c l relation := by
      rw [SatCore.relOk, SatCore.relOk, nonEmpty_implList, headRel_implList, hon]
    rw [implSel, matchSel_mk, matchSel_mk, matchTag_implTag c e h, hrel]
theorem matchList_impl : ∀ (L : SelList) (c : Ctx) (l : Loc) (e : Elem), c.nsGet [] = none →
    matchList c l e (implList L) = matchList c l e L
  | .mk sels n hh, c, l, e, h => by
    have e1 : (implSels sels).isEmpty = sels.isEmpty := by cases sels <;> simp [implSels]
    rw [implList, matchList_mk, matchList_mk, e1]
    cases hh with
    | false => simp only [Bool.false_eq_true, if_false, matchAny_impl sels c l e h]
    | true => rw [if_pos rfl, matchAny_impl sels c.htmlOnly l e (htmlOnly_nsGet c)]
theorem matchAny_impl : ∀ (S : List Sel) (c : Ctx) (l : Loc) (e : Elem), c.nsGet [] = none →
    matchAny c l e (implSels S) = matchAny c l e S
  | [], c, l, e, _ => by rw [implSels]
  | s :: rest, c, l, e, h => by
    rw [implSels, matchAny_cons, matchAny_cons, matchSel_impl s c l e h, matchAny_impl rest c l e h]
end

mutual
/-- The implied `*` on a builder and on every builder of its `relations`. -/
def implDeep : SelB → SelB
  | .mk tag a b c d e rels g h i j k => .mk (implTag false tag) a b c d e (implDeeps rels) g h i j k
def implDeeps : List SelB → List SelB
  | [] => []
  | x :: rest => implDeep x :: implDeeps rest
end

theorem implDeeps_append : ∀ (xs ys : List SelB), implDeeps (xs ++ ys) = implDeeps xs ++ implDeeps ys
  | [], ys => by simp [implDeeps]
  | x :: xs, ys => by simp [implDeeps, implDeeps_append xs ys]

theorem implDeep_addRelations (b : SelB) (r : List SelB) :
    implDeep (b.addRelations r) = (implDeep b).addRelations (implDeeps r) := by
  cases b
  simp [SelB.addRelations, implDeep, implDeeps_append]

theorem implDeep_setRelType (b : SelB) (r : Rel) : implDeep (b.setRelType r) = (implDeep b).setRelType r := by
  cases b; simp [SelB.setRelType, implDeep]

mutual
theorem size_implDeep : ∀ (b : SelB), (implDeep b).size = b.size
  | .mk tag a b c d e rels g h i j k => by
    rw [implDeep, SelB.size, SelB.size, sizeList_implDeeps rels]
theorem sizeList_implDeeps : ∀ (xs : List SelB), SelB.sizeList (implDeeps xs) = SelB.sizeList xs
  | [] => by rw [implDeeps]
  | x :: xs => by rw [implDeeps, SelB.sizeList, SelB.sizeList, size_implDeep x, sizeList_implDeeps xs]
end

theorem freezeF_implDeep : ∀ (fuel : Nat) (b : SelB),
    SelB.freezeF fuel (implDeep b) = implSel (SelB.freezeF fuel b)
  | 0, b => by cases b; simp [SelB.freezeF, implSel]
  | fuel + 1, .mk tag a b c d e rels g h i j k => by
    rw [implDeep]
    cases k with
    | true => simp [SelB.freezeF, implSel]
    | false =>
      cases rels with
      | nil => simp [SelB.freezeF, implSel, implDeeps, implList, implSels]
      | cons first rest =>
        have := freezeF_implDeep fuel (first.addRelations rest)
        rw [implDeep_addRelations] at this
        simp [SelB.freezeF, implSel, implDeeps, implList, implSels, this]

theorem freeze_implDeep (b : SelB) : (implDeep b).freeze = implSel b.freeze := by
  rw [SelB.freeze, SelB.freeze, size_implDeep, freezeF_implDeep]

theorem implDeep_of_no_rel (b : SelB) (h : b.relations = []) : implDeep b = implB false b := by
  obtain ⟨tag, a, b', c, d, e, rels, g, h', i, j, k⟩ := b
  simp only [SelB.relations] at h
  subst h
  cases tag <;> rfl

/-- The state of the loop at the top level (`fl = 0`), from the state inside a pseudo-class (`fl = 1`). -/
def implState (st : LS) : LS :=
  { st with selectors := implDeeps st.selectors, relations := implDeeps st.relations }

theorem relations_setTag (b : SelB) (t : SelTag) : (b.setTag t).relations = b.relations := by cases b; rfl

/-- The builder of a compound has no relations (the loop adds them at the combinator). -/
theorem relations_buildOn (B : Builtins) (cp : Compound) : (cp.buildOn B SelB.empty).relations = [] := by
  obtain ⟨tag, items⟩ := cp
  simp only [Compound.buildOn]
  rw [(additive_applyItems B items).relations]
  cases tag <;> rfl

theorem implB_relations (ip : Bool) (b : SelB) : (implB ip b).relations = b.relations := by
  unfold implB
  split
  · rw [relations_setTag]
  · rfl

theorem implB_true (b : SelB) : implB true b = b := by unfold implB; simp

theorem combStep_impl (c : Nat) (st : LS) (hs : st.hasSelector = true) (hr : st.sel.relations = []) :
    combStepG 0 c (implState st) = implState (combStepG 1 c st) := by
  have h0 : relOf 0 = false := by decide
  have h1 : relOf 1 = false := by decide
  have i0 : ipOf 0 = false := by decide
  have i1 : ipOf 1 = true := by decide
  have e2 : implDeep ((implB true st.sel).addRelations st.relations) =
      (implB false st.sel).addRelations (implDeeps st.relations) := by
    rw [implB_true, implDeep_addRelations, implDeep_of_no_rel _ hr]
  -- `combStep` spells the implied `*` out; `e3` folds it back into `implB`
  have e3 : ∀ ip, (if (st.sel.tag.isNone && !ip) = true then st.sel.setTag ⟨[42], none⟩ else st.sel) =
      implB ip st.sel := fun ip => rfl
  unfold combStepG combStepF
  simp only [h0, h1, i0, i1, Bool.false_eq_true, if_false, implState, hs, if_true]
  unfold combStep
  simp only [e3]
  by_cases hc : (c == 44) = true
  · simp only [hc, if_true, implDeeps_append, implDeeps, e2]
  · simp only [hc, Bool.false_eq_true, if_false, implDeeps, implDeep_setRelType, e2]

/-- The loop at the top level is the loop inside a pseudo-class with the implied `*` on every finished
    compound (all slots non-empty). -/
theorem foldRest_impl (B : Builtins) : ∀ (rest : List (Nat × Compound)) (st : LS),
    st.hasSelector = true → st.sel.relations = [] → (∀ x ∈ rest, x.2.isEmpty = false) →
    foldRest B 0 rest (implState st) = implState (foldRest B 1 rest st) ∧
      (foldRest B 1 rest st).hasSelector = true ∧ (foldRest B 1 rest st).sel.relations = []
  | [], st, hs, hr, _ => by simp [foldRest, hs, hr]
  | x :: rest, st, hs, hr, hall => by
    rw [foldRest, foldRest, combStep_impl x.1 st hs hr]
    exact foldRest_impl B rest
      { combStepG 1 x.1 st with sel := x.2.buildOn B SelB.empty, hasSelector := !x.2.isEmpty }
      (by simp [hall x (by simp)]) (relations_buildOn B x.2) (fun y hy => hall y (by simp [hy]))

/-- All slots of the list are compounds. -/
def NonEmptyV : SelListV → Prop
  | .mk first rest => first.isEmpty = false ∧ ∀ x ∈ rest, x.2.isEmpty = false

theorem loopState_impl (B : Builtins) (V : SelListV) (h : NonEmptyV V) :
    V.loopState B 0 = implState (V.loopState B 1) ∧ (V.loopState B 1).hasSelector = true ∧
      (V.loopState B 1).sel.relations = [] := by
  obtain ⟨a, ra⟩ := V
  obtain ⟨h1, h2⟩ := h
  have hf : firstSt B 0 a = implState (firstSt B 1 a) := by
    have e0 : ((0 &&& FLG_RELATIVE) != 0) = false := by decide
    have e1 : ((1 &&& FLG_RELATIVE) != 0) = false := by decide
    have e2 : ((0 &&& FLG_HTML) != 0) = ((1 &&& FLG_HTML) != 0) := by decide
    simp only [firstSt, initLS, implState, e0, e1, e2, Bool.false_eq_true, if_false, implDeeps]
  rw [loopState_eq, loopState_eq, hf]
  exact foldRest_impl B ra (firstSt B 1 a) (by simp [firstSt, h1]) (relations_buildOn B a) h2

theorem map_freeze_implDeeps : ∀ (xs : List SelB), (implDeeps xs).map SelB.freeze = implSels (xs.map SelB.freeze)
  | [] => by simp [implDeeps, implSels]
  | x :: xs => by simp [implDeeps, implSels, freeze_implDeep, map_freeze_implDeeps xs]

theorem endSels_impl (st : LS) (hs : st.hasSelector = true) (hr : st.sel.relations = []) :
    endSels 0 (implState st) = implDeeps (endSels 1 st) := by
  have i0 : ipOf 0 = false := by decide
  have i1 : ipOf 1 = true := by decide
  simp only [endSels, implState, hs, if_true, i0, i1, implDeeps_append, implDeeps, implB_true,
    implDeep_addRelations, implDeep_of_no_rel _ hr]

/-- **The alternatives of a list read at the top level are those of the same list read inside `:is()`, with
    the implied `*` on every compound.** -/
theorem endSels_loopState_impl (B : Builtins) (V : SelListV) (h : NonEmptyV V) :
    (endSels 0 (V.loopState B 0)).map SelB.freeze = implSels ((endSels 1 (V.loopState B 1)).map SelB.freeze) := by
  obtain ⟨h1, h2, h3⟩ := loopState_impl B V h
  rw [h1, endSels_impl _ h2 h3, map_freeze_implDeeps]

theorem nonEmptyV_of_ok (L : SSelList) (r : Str) (hok : L.ok 0 r) : NonEmptyV L.value := by
  obtain ⟨a, ra⟩ := L
  rw [SSelList.ok] at hok
  have hrest : ∀ (ra : List (SComb × SCompound)) (b : Bool), restOK 0 b ra r →
      ∀ x ∈ restValue ra, x.2.isEmpty = false := by
    intro ra
    induction ra with
    | nil => intro b _ x hx; simp [restValue] at hx
    | cons y ra ih =>
      intro b hb x hx
      rw [restOK] at hb
      simp only [restValue, List.mem_cons] at hx
      rcases hx with hx | hx
      · subst hx
        rw [SCompound.value_isEmpty]
        cases he : y.2.isEmpty with
        | false => rfl
        | true =>
          have := (hb.2.2.2.1 he).2
          revert this; decide
      · exact ih _ hb.2.2.2.2 x hx
  refine ⟨?_, hrest ra _ hok.2.2⟩
  rw [SCompound.value_isEmpty]
  cases he : a.isEmpty with
  | false => rfl
  | true =>
    have := hok.2.1 he
    revert this; decide

end C05ParseImpl
end SoupVerif
