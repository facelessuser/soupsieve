import SoupVerif.Properties.C13Parse
open SoupVerif
#print axioms C13Parse.freeze_lang
#print axioms C13Parse.denote_lang
#print axioms C13Parse.matchLang_one
#print axioms C13Parse.lang_text
#print axioms C13Parse.lang_text_api
/-! Non-vacuity -/
#print axioms C13Parse.Examples.lang_loc
#print axioms C13Parse.Examples.langP_ok
#print axioms C13Parse.Examples.langFr_ok
