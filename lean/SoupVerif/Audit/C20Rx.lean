import SoupVerif.Properties.C20Rx
open SoupVerif
#print axioms C20Rx.getPatternContextRx_eq
#print axioms C20Rx.ctx_eq_rx
#print axioms C20Rx.ctx_line_rx
#print axioms C20Rx.ctx_col_rx
#print axioms C20Rx.ctx_text_rx
#print axioms C20Rx.pretty_dispatch_rx
#print axioms Refine.Context.splitLines_eq_withLast_finditer
#print axioms Refine.Context.finditer_lineSplit
#print axioms Refine.Context.splitLines_last
#print axioms PrettyRefine.tokens_refine
#print axioms PrettyRefine.firstMatch_refine
#print axioms PrettyRefine.firstMatch_refine_py
#print axioms PrettyRefine.sep_group1
#print axioms PrettyRefine.dsep_group1
#print axioms PrettyRefine.agree_py
#print axioms PrettyRefine.agree_ascii
