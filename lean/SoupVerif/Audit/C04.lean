import SoupVerif.Properties.C04
open SoupVerif
#print axioms C04.inv_init
#print axioms C04.default_step
#print axioms C04.memo_transparent_default
#print axioms C04.inv_step_default
#print axioms C04.askerChecked_false
#print axioms C04.indeterminate_step
#print axioms C04.memo_transparent_indeterminate
#print axioms C04.inv_step_indeterminate
#print axioms C04.indeterminate_general
#print axioms C04.indeterminate_second_asker
#print axioms C04.guard_list_implies_side
#print axioms C04.builtin_asks_only_guarded
#print axioms C04.lang_step
#print axioms C04.memo_transparent_lang
#print axioms C04.inv_step_lang
#print axioms C04.memo_transparent_matchLang
#print axioms C04.step_correct
#print axioms C04.history_independent
#print axioms C04.history_independent_init
#print axioms C04.same_answer_after_any_history
#print axioms MemoLemmas.go_nil
#print axioms MemoLemmas.go_cons
#print axioms MemoLemmas.go_append
#print axioms MemoLemmas.InDoc.eq_of_pos
#print axioms MemoLemmas.InDoc.of_locAt
#print axioms MemoLemmas.InDoc.top
#print axioms MemoLemmas.InDoc.child
#print axioms MemoLemmas.InDoc.desc
#print axioms MemoLemmas.InDoc.parent
#print axioms MemoLemmas.ancestorsAux_inDoc
#print axioms MemoLemmas.InDoc.ancestor
#print axioms MemoLemmas.ancestorsCut_subset
#print axioms MemoLemmas.InDoc.ctxAncestor
#print axioms MemoLemmas.InDoc.ctxDescendant
#print axioms MemoLemmas.InDoc.tagDescendant
#print axioms MemoLemmas.matchIndeterminate_eq
#print axioms MemoLemmas.metaLang_eq
#print axioms MemoLemmas.langOf_eq
#print axioms MemoLemmas.langOfM_eq
#print axioms MemoLemmas.matchLang_eq
#print axioms MemoLemmas.langWalk_last
#print axioms MemoLemmas.langWalk_last_inDoc
#print axioms MemoLemmas.defaultForm_inDoc
#print axioms MemoLemmas.parentForm_inDoc
#print axioms MemoLemmas.indeterminateScan_eq
#print axioms Memo.matchDefaultM
#print axioms Memo.matchIndeterminateM
#print axioms Memo.langOfM
#print axioms Memo.matchLangM
#print axioms Memo.step
#print axioms Memo.run
