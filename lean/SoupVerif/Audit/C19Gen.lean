/-
  Audit of C19Gen: `match_empty` / `match_contains` regenerated from the source (gen/gen_py_textfn.py).
-/
import SoupVerif.Properties.C19Gen
open SoupVerif

#print axioms PyFlagLoop.forBreak_clear
#print axioms PyFlagLoop.forBreak_set
#print axioms PyFlagLoop.forBreak_any
#print axioms PyFlagLoop.forBreak_all
#print axioms C19Gen.gen_emptyStep_eq
#print axioms C19Gen.gen_matchEmpty_eq
#print axioms C19Gen.gen_empty_iff
#print axioms C19Gen.gen_empty_iff_prop
#print axioms C19Gen.gen_containsStep_eq
#print axioms C19Gen.gen_matchContains_eq
#print axioms C19Gen.gen_matchContains_all
#print axioms C19Gen.gen_contains_iff
#print axioms C19Gen.gen_containsOwn_iff
#print axioms C19Gen.gen_matchContains_mixed
