/-
  Audit of C17: axioms of every theorem; non-vacuity on a concrete HTML document whose expected
  results were produced by the real soupsieve (`/tmp`-script, html.parser) and are re-computed here
  by the model with `decide`; and the counterexamples behind each hypothesis / recorded deviation.
-/
import SoupVerif.Properties.C17
open SoupVerif

#print axioms C17.ctl8_eq
#print axioms C17.ctl5_eq
#print axioms C17.ctl5_imp_ctl8
#print axioms C17.required_eq
#print axioms C17.optional_eq
#print axioms C17.required_optional_disjoint
#print axioms C17.required_optional_partition
#print axioms C17.required_xor_optional
#print axioms C17.disabled_eq
#print axioms C17.disabled_imp_control
#print axioms C17.enabled_eq
#print axioms C17.enabled_disabled_disjoint
#print axioms C17.enabled_or_disabled_iff_control
#print axioms C17.enabled_xor_disabled
#print axioms C17.kwTest
#print axioms C17.typeIs_ascii
#print axioms C17.typeIs_ascii_unique
#print axioms C17.readwrite_readonly_partition
#print axioms C17.readwrite_false_of_not_html
#print axioms C17.readonly_false_of_not_html
#print axioms C17.readwrite_xor_readonly
#print axioms C17.readwrite_or_readonly_iff
#print axioms C17.link_eq_anylink
#print axioms C17.link_appends
#print axioms C17.link_builtin
#print axioms C17.link_eq
#print axioms C17.default_eq
#print axioms C17.checked_sub_default
#print axioms C17.checked_eq
#print axioms C17.htmlOnly_rangeState
#print axioms C17.matchRangeE_eq
#print axioms C17.matchRange_in
#print axioms C17.matchRange_out
#print axioms C17.matchRange_compl
#print axioms C17.matchRange_none
#print axioms C17.rangeCompound_eq
#print axioms C17.inrange_eq
#print axioms C17.outofrange_eq
#print axioms C17.inrange_outofrange_disjoint
#print axioms C17.inrange_or_outofrange_iff
#print axioms C17.rangeState_no_bound
#print axioms C17.rangeState_isSome_iff
#print axioms C17.range_same_attribute
#print axioms C17.range_type_consistent
#print axioms C17.range_type_some
#print axioms C17.placeholder_def
#print axioms C17.inFormRel_eq
#print axioms C17.defaultForm_isSome_of_rel
#print axioms C17.default_def
#print axioms any_takeWhile_of_last
#print axioms C17.inFormRel_of_matchDefault
#print axioms C17.default_def_wellformed
#print axioms C17.firstSubmit_cons
#print axioms C17.firstSubmit_guarded
#print axioms C17.scanIsSubmit_eq_typeIs
#print axioms C17.indeterminate_def
#print axioms C17.matchIndeterminate_def
-- the scan of `match_indeterminate` in the guard's vocabulary (fix 01d00ae: the `type` value is compared as `[type=radio]` compares it)
#print axioms C17.radioCheckedScan_cons
#print axioms C17.radioCheckedScan_eq
#print axioms Names.mav_bare_all
#print axioms C17.scanKey_eq_nameEq
#print axioms C17.typeIs_radio_eq_any
#print axioms C17.hasAttr_eq_any_key
#print axioms C17.valIsRadio_eq_guard
#print axioms C17.scanRadioAttr_imp_guard
#print axioms C17.scanRadioAttr_eq_guard
#print axioms C17.scanRadio_imp_typeIs
#print axioms C17.scanRadio_eq_typeIs
#print axioms C17.checkedRadio_is_guard_radio
#print axioms C17.radioCheckedScan_def
#print axioms C17.scanMember_guarded
#print axioms C17.scanMember_is_checked
#print axioms C17.disabledParent_eq
#print axioms C17.belowDisabledFieldsetNotLegend_eq
#print axioms C17.disabled_def
#print axioms C17.ancestorsCut_stops_at_iframe
#print axioms C17.iframe_local_flag
#print axioms C17.iframe_local_desc
#print axioms C17.iframe_local_child
#print axioms C17.parent_true_not_iframe
#print axioms C17.iframe_local_default
#print axioms C17.iframe_local_parentForm
#print axioms C17.iframe_local_indeterminate
#print axioms C17.iframe_local_dir
#print axioms C17.iframe_local_ancestors
#print axioms C17.iframe_local_descendants
#print axioms C17.placeholder_text_not_cut
#print axioms C17.matchDir_ltr
#print axioms C17.matchDir_rtl
#print axioms C17.matchDir_eq_dirOf
#print axioms C17.dir_partition
#print axioms C17.dir_explicit
#print axioms C17.dir_neither
#print axioms C17.dir_neither_foreign
#print axioms C17.ancestorsAux_elem
#print axioms C17.ancestors_elem
#print axioms C17.dirList_parser
#print axioms StateLaws.htmlOnly_firstStrong
#print axioms StateLaws.htmlOnly_findBidiKids
#print axioms StateLaws.htmlOnly_dirStep
#print axioms StateLaws.htmlOnly_dirOf
#print axioms StateLaws.htmlOnly_matchDir
#print axioms C17.dirList_ltr
#print axioms C17.dirList_rtl
#print axioms C17.dir_partition_selectors
#print axioms StateLaws.shape_LINK
#print axioms StateLaws.shape_CHECKED
#print axioms StateLaws.shape_DEFAULT
#print axioms StateLaws.shape_INDETERMINATE
#print axioms StateLaws.shape_DISABLED
#print axioms StateLaws.shape_ENABLED
#print axioms StateLaws.shape_REQUIRED
#print axioms StateLaws.shape_OPTIONAL
#print axioms StateLaws.shape_PLACEHOLDER_SHOWN
#print axioms StateLaws.shape_READ_WRITE
#print axioms StateLaws.shape_READ_ONLY
#print axioms StateLaws.shape_IN_RANGE
#print axioms StateLaws.shape_OUT_OF_RANGE
#print axioms C11.litsEq_nil
#print axioms StateLaws.attrEq_empty
#print axioms StateLaws.attrEq_ascii_ic
#print axioms StateLaws.attrEq_exact
#print axioms StateLaws.attrVal_eq_head?
#print axioms StateLaws.hasAttr_eq_any
#print axioms StateLaws.attrEq_of_unique
#print axioms StateLaws.attrEmpty_of_unique
#print axioms StateLaws.htmlOnly_isHtml
#print axioms StateLaws.htmlOnly_isXml
#print axioms StateLaws.htmlOnly_env
#print axioms StateLaws.htmlOnly_iframeRestrict
#print axioms StateLaws.htmlOnly_idem
#print axioms StateLaws.htmlOnly_tagName
#print axioms StateLaws.htmlOnly_tagNs
#print axioms StateLaws.htmlOnly_isHtmlTag
#print axioms StateLaws.htmlOnly_locIsIframe
#print axioms StateLaws.htmlOnly_ancestorsCut
#print axioms StateLaws.htmlOnly_ancestors
#print axioms StateLaws.htmlOnly_parent
#print axioms StateLaws.htmlOnly_attrByName
#print axioms StateLaws.htmlOnly_isRoot
#print axioms StateLaws.htmlOnly_matchAttributeName
#print axioms StateLaws.htmlOnly_matchAttributeValues
#print axioms StateLaws.htmlOnly_attrVal
#print axioms StateLaws.htmlOnly_attrVals
#print axioms StateLaws.htmlOnly_hasAttr
#print axioms StateLaws.htmlOnly_attrEq
#print axioms StateLaws.htmlOnly_tagDescendants
#print axioms StateLaws.htmlOnly_firstSubmit
#print axioms StateLaws.htmlOnly_defaultForm
#print axioms StateLaws.htmlOnly_matchDefault
#print axioms StateLaws.htmlOnly_parentForm
#print axioms StateLaws.htmlOnly_matchIndeterminate
#print axioms StateLaws.htmlOnly_matchPlaceholderShown
#print axioms StateLaws.htmlOnly_matchRange
#print axioms StateLaws.matchList_htmlOnly
#print axioms StateLaws.matchList_htmlOnly'
#print axioms StateLaws.matchList_html
#print axioms StateLaws.matchSel_cmpG
#print axioms StateLaws.relPart_E
#print axioms StateLaws.flagPart_zero
#print axioms StateLaws.flagPart_default
#print axioms StateLaws.flagPart_indeterminate
#print axioms StateLaws.flagPart_placeholder
#print axioms StateLaws.flagPart_in_range
#print axioms StateLaws.flagPart_out_of_range
#print axioms StateLaws.matchSel_cmp
#print axioms StateLaws.matchList_isL
#print axioms StateLaws.matchList_notL
#print axioms StateLaws.nsGet_htmlOnly_html
#print axioms StateLaws.nsGet_htmlOnly_nil
#print axioms StateLaws.matchTag_T
#print axioms StateLaws.matchNamespace_html
#print axioms StateLaws.matchTag_HT
#print axioms StateLaws.matchTag_HT_star
#print axioms StateLaws.matchAttributes_cons
#print axioms StateLaws.matchAttributes_cons2
#print axioms StateLaws.isMatch_tmpl
#print axioms StateLaws.matchAttributes_A
#print axioms StateLaws.matchAttributes_Aty
#print axioms StateLaws.matchAttributes_Aval
#print axioms StateLaws.matchAny_types
#print axioms StateLaws.typeIn_eq
#print axioms Names.man_bare_all
#print axioms Names.attrByName_eq_selector
#print axioms StateLaws.ancestorsCut_true
#print axioms StateLaws.ancestorsCut_false
#print axioms StateLaws.ancestorsCut_stops_at_iframe
#print axioms StateLaws.ancestors_true
#print axioms StateLaws.ancestors_no_iframe
#print axioms StateLaws.relationWalk_desc
#print axioms StateLaws.relationWalk_child
#print axioms StateLaws.relPart_child
#print axioms StateLaws.relPart_desc
#print axioms StateLaws.nodeSizes_mem
#print axioms StateLaws.child_smaller
#print axioms StateLaws.descendants_via
#print axioms StateLaws.descendants_iframe_cut
#print axioms StateLaws.tagDescendants_iframe_cut
#print axioms StateLaws.IsDirVal.ne
#print axioms StateLaws.firstStrong_val
#print axioms StateLaws.findBidiKids_val
#print axioms StateLaws.findBidi_val
#print axioms StateLaws.dirOfAttr_val
#print axioms StateLaws.levelG_eq_interp
#print axioms StateLaws.matchDirWalk_cons
#print axioms StateLaws.matchDirWalk_nil
#print axioms StateLaws.matchDirWalk_html_head
#print axioms StateLaws.matchDirWalk_foreign_subject
#print axioms StateLaws.step_val
#print axioms StateLaws.dirStep_val
#print axioms StateLaws.step_root
#print axioms StateLaws.dirStep_root
#print axioms StateLaws.DirStep.interp_orElse
#print axioms StateLaws.dirOf_cons
#print axioms StateLaws.dirOf_cons_none
#print axioms StateLaws.matchDirWalk_true
#print axioms StateLaws.matchDirWalk_subject
#print axioms StateLaws.dirOf_val
#print axioms StateLaws.dirOf_isSome_of_root
#print axioms StateLaws.dirOf_none_of_all_up

namespace SoupVerif.AuditC17
open StateLaws C17

def E0 : Env := { env := asciiEnv, bidi := fun _ => 0, wildStrip := id }
def mkAttr (kv : String × String) : Attr := { key := kv.1.toStr, kns := none, kname := none, val := .str kv.2.toStr }
def el (n : String) (attrs : List (String × String)) (kids : List Node) : Node :=
  .elem { isDoc := false, name := n.toStr, pfx := none, ns := none, attrs := attrs.map mkAttr } kids
def docN (kids : List Node) : Node :=
  .elem { isDoc := true, name := "[document]".toStr, pfx := none, ns := none, attrs := [] } kids

-- document: <html><body><form><input type="checkbox" checked=""><input type="radio" name="g"><input type="RADIO" name="g2" checked=""><input type="radio" name="g2"><input type="SUBMIT"><button type="submit"></button><input type="hidden" disabled=""><fieldset disabled=""><legend><input></legend><input><div><select><optgroup disabled=""><option selected=""></option></optgroup><option></option></select></div></fieldset><input placeholder="p"><textarea placeholder="p"></textarea><textarea required="" readonly="">x</textarea><input type="number" min="1" max="5" value="7"><input type="number" min="1" value="3"><input type="date" min="bogus" value="2020-01-01"><progress></progress><a href="x"></a><div contenteditable="TRUE"></div><iframe><html><body><form><input type="submit"><input type="radio" name="g"></form></body></html></iframe><input type="checkbox" indeterminate=""><select required=""></select></form><p dir="rtl"><span></span></p></body></html>
def tree : Node := docN [(el "html" [] [(el "body" [] [(el "form" [] [(el "input" [("type", "checkbox"), ("checked", "")] []), (el "input" [("type", "radio"), ("name", "g")] []), (el "input" [("type", "RADIO"), ("name", "g2"), ("checked", "")] []), (el "input" [("type", "radio"), ("name", "g2")] []), (el "input" [("type", "SUBMIT")] []), (el "button" [("type", "submit")] []), (el "input" [("type", "hidden"), ("disabled", "")] []), (el "fieldset" [("disabled", "")] [(el "legend" [] [(el "input" [] [])]), (el "input" [] []), (el "div" [] [(el "select" [] [(el "optgroup" [("disabled", "")] [(el "option" [("selected", "")] [])]), (el "option" [] [])])])]), (el "input" [("placeholder", "p")] []), (el "textarea" [("placeholder", "p")] []), (el "textarea" [("required", ""), ("readonly", "")] [(.str .text "x".toStr)]), (el "input" [("type", "number"), ("min", "1"), ("max", "5"), ("value", "7")] []), (el "input" [("type", "number"), ("min", "1"), ("value", "3")] []), (el "input" [("type", "date"), ("min", "bogus"), ("value", "2020-01-01")] []), (el "progress" [] []), (el "a" [("href", "x")] []), (el "div" [("contenteditable", "TRUE")] []), (el "iframe" [] [(el "html" [] [(el "body" [] [(el "form" [] [(el "input" [("type", "submit")] []), (el "input" [("type", "radio"), ("name", "g")] [])])])])]), (el "input" [("type", "checkbox"), ("indeterminate", "")] []), (el "select" [("required", "")] [])]), (el "p" [("dir", "rtl")] [(el "span" [] [])])])])]
def top : Loc := ⟨tree, []⟩
def ctx : Ctx := mkCtx E0 false [] top
def run (s : SelList) : List (List Nat) := (select E0 false [] s top 0).map Loc.pos
def at? (p : List Nat) : Option Loc := (Doc.mk false tree).locAt? p

example : ctx.isHtml = true := by decide

-- expected values: real soupsieve on the same document
example : run Gen.CSS_LINK = [[0,0,0,15]] := by decide +kernel  -- :link
example : run Gen.CSS_CHECKED = [[0,0,0,0],[0,0,0,2],[0,0,0,7,2,0,0,0]] := by decide +kernel  -- :checked
example : run Gen.CSS_DEFAULT = [[0,0,0,0],[0,0,0,2],[0,0,0,4],[0,0,0,7,2,0,0,0],[0,0,0,17,0,0,0,0]] := by decide +kernel  -- :default
example : run Gen.CSS_INDETERMINATE = [[0,0,0,1],[0,0,0,14],[0,0,0,17,0,0,0,1],[0,0,0,18]] := by decide +kernel  -- :indeterminate
example : run Gen.CSS_DISABLED = [[0,0,0,7],[0,0,0,7,1],[0,0,0,7,2,0],[0,0,0,7,2,0,0],[0,0,0,7,2,0,0,0]] := by decide +kernel  -- :disabled
example : run Gen.CSS_ENABLED = [[0,0,0,0],[0,0,0,1],[0,0,0,2],[0,0,0,3],[0,0,0,4],[0,0,0,5],[0,0,0,7,0,0],[0,0,0,7,2,0,1],[0,0,0,8],[0,0,0,9],[0,0,0,10],[0,0,0,11],[0,0,0,12],[0,0,0,13],[0,0,0,17,0,0,0,0],[0,0,0,17,0,0,0,1],[0,0,0,18],[0,0,0,19]] := by decide +kernel  -- :enabled
example : run Gen.CSS_REQUIRED = [[0,0,0,10],[0,0,0,19]] := by decide +kernel  -- :required
example : run Gen.CSS_OPTIONAL = [[0,0,0,0],[0,0,0,1],[0,0,0,2],[0,0,0,3],[0,0,0,4],[0,0,0,6],[0,0,0,7,0,0],[0,0,0,7,1],[0,0,0,7,2,0],[0,0,0,8],[0,0,0,9],[0,0,0,11],[0,0,0,12],[0,0,0,13],[0,0,0,17,0,0,0,0],[0,0,0,17,0,0,0,1],[0,0,0,18]] := by decide +kernel  -- :optional
example : run Gen.CSS_PLACEHOLDER_SHOWN = [[0,0,0,8],[0,0,0,9]] := by decide +kernel  -- :placeholder-shown
example : run Gen.CSS_READ_WRITE = [[0,0,0,7,0,0],[0,0,0,8],[0,0,0,9],[0,0,0,11],[0,0,0,12],[0,0,0,13],[0,0,0,16]] := by decide +kernel  -- :read-write
example : run Gen.CSS_IN_RANGE = [[0,0,0,12]] := by decide +kernel  -- :in-range
example : run Gen.CSS_OUT_OF_RANGE = [[0,0,0,11]] := by decide +kernel  -- :out-of-range
example : run Gen.CSS_READ_ONLY = (run (.mk [cmp (T "*") [] []] false false)).filter (fun p => !(run Gen.CSS_READ_WRITE).contains p) := by decide +kernel
example : run (dirList SEL_DIR_LTR) = [[0],[0,0],[0,0,0],[0,0,0,0],[0,0,0,1],[0,0,0,2],[0,0,0,3],[0,0,0,4],[0,0,0,5],[0,0,0,6],[0,0,0,7],[0,0,0,7,0],[0,0,0,7,0,0],[0,0,0,7,1],[0,0,0,7,2],[0,0,0,7,2,0],[0,0,0,7,2,0,0],[0,0,0,7,2,0,0,0],[0,0,0,7,2,0,1],[0,0,0,8],[0,0,0,9],[0,0,0,10],[0,0,0,11],[0,0,0,12],[0,0,0,13],[0,0,0,14],[0,0,0,15],[0,0,0,16],[0,0,0,17],[0,0,0,17,0],[0,0,0,17,0,0],[0,0,0,17,0,0,0],[0,0,0,17,0,0,0,0],[0,0,0,17,0,0,0,1],[0,0,0,18],[0,0,0,19]] := by decide +kernel
example : run (dirList SEL_DIR_RTL) = [[0,0,1],[0,0,1,0]] := by decide +kernel

/-! iframe locality on this document: the `submit` inside the iframe is the default of *its* form
    (position `[0,0,0,17,0,0,0,0]` above), the outer form's default is `[0,0,0,4]`; the radio `g`
    outside (`[0,0,0,1]`) and the radio `g` inside the iframe (`[0,0,0,17,0,0,0,1]`) are separate
    groups.  The cut chain of the inner input stops below the iframe: -/
example : ((at? [0,0,0,17,0,0,0,0]).map fun l => (ctx.ancestors l true).map Loc.pos) =
    some [[0,0,0,17,0,0,0],[0,0,0,17,0,0],[0,0,0,17,0]] := by decide +kernel
example : ((at? [0,0,0,17,0,0,0,0]).map fun l => (ctx.ancestors l false).length) = some 8 := by decide +kernel
-- and the outer form's scan does not enter it
example : ((at? [0,0,0]).map fun f => ((ctx.tagDescendants f true).map Loc.pos).filter (fun p => p.length > 4 && p.take 4 == [0,0,0,17])) =
    some [] := by decide +kernel

/-! ### `dir_partition`: the hypotheses are inhabited, and necessary -/

-- a chain ending in the root: `span` inside `p[dir=rtl]`
example : ((at? [0,0,1,0]).map fun l => ((l :: ctx.ancestors l true).map fun p => (ctx.isRoot p, p.isDoc))) =
    some [(false,false),(false,false),(false,false),(true,false),(false,true)] := by decide +kernel

/-- `<p>a</p><p>b</p>` parsed as a fragment (html.parser): the second top-level element is not the
    root and has no root above it. -/
def frag : Node := docN [el "p" [] [.str .text "a".toStr], el "p" [] [.str .text "b".toStr]]
def fragTop : Loc := ⟨frag, []⟩
def runF (s : SelList) : List (List Nat) := (select E0 false [] s fragTop 0).map Loc.pos
-- DEVIATION (real soupsieve agrees: `:dir(ltr)` selects only the first `p`, `:dir(rtl)` none)
example : runF (dirList SEL_DIR_LTR) = [[0]] := by decide +kernel
example : runF (dirList SEL_DIR_RTL) = [] := by decide +kernel

/-- An HTML element below non-HTML-namespace ancestors (`svg > foreignObject > p`, html5lib).
    Before the repair of `match_dir` (`inherit`) it matched neither direction; now the foreign
    ancestors are skipped and it inherits `ltr` from the root, while `svg` / `foreignObject`
    themselves match neither (`dir_neither_foreign`). -/
def xh : Option Str := some NS_XHTML
def svgNs : Option Str := some "http://www.w3.org/2000/svg".toStr
def elNs (ns : Option Str) (n : String) (kids : List Node) : Node :=
  .elem { isDoc := false, name := n.toStr, pfx := none, ns := ns, attrs := [] } kids
def svgDoc : Node := docN [elNs xh "html" [elNs xh "body" [elNs svgNs "svg" [elNs svgNs "foreignObject" [elNs xh "p" []]], elNs xh "p" []]]]
def svgTop : Loc := ⟨svgDoc, []⟩
def ctxS : Ctx := mkCtx E0 false [] svgTop
def runS (s : SelList) : List (List Nat) := (select E0 false [] s svgTop 0).map Loc.pos
-- (real soupsieve after the repair, html5lib: ltr = html, head, body, p#x, p#y; rtl = none)
example : runS (dirList SEL_DIR_LTR) = [[0],[0,0],[0,0,0,0,0],[0,0,1]] := by decide +kernel
example : runS (dirList SEL_DIR_RTL) = [] := by decide +kernel
-- the hypotheses of `dir_partition` at `p` inside `foreignObject`: the subject is an HTML element,
-- its chain is p, foreignObject (foreign), svg (foreign), body, html (root), document
example : ((Doc.mk false svgDoc).locAt? [0,0,0,0,0]).map (fun l =>
      (l :: ctxS.ancestors l true).map fun p =>
        (p.elem?.map (ctxS.isHtmlTag ·), ctxS.isRoot p)) =
    some [(some true, false), (some false, false), (some false, false), (some true, false),
          (some true, true), (some false, false)] := by decide +kernel
-- … and such elements are neither `:read-write` nor `:read-only` (`readwrite_or_readonly_iff`)
example : runS Gen.CSS_READ_ONLY = [[0],[0,0],[0,0,0,0,0],[0,0,1]] := by decide +kernel
example : runS Gen.CSS_READ_WRITE = [] := by decide +kernel

/-! ### `:enabled` / `:disabled`: `<input type=hidden>` is neither (HTML says: every `input`) -/
example : (run Gen.CSS_ENABLED).contains [0,0,0,6] = false ∧ (run Gen.CSS_DISABLED).contains [0,0,0,6] = false := by
  decide +kernel

/-! ### `:in-range` / `:out-of-range`: where "the compound holds" and "`match_range` sees the same
    type" part ways -/

def inputE (attrs : List Attr) : Elem := { isDoc := false, name := "input".toStr, pfx := none, ns := none, attrs := attrs }
def sAttr (k v : String) : Attr := mkAttr (k, v)

/-- `type` holding a list (`el['type'] = ['date']`): the selector joins it, `match_range` calls
    `util.lower` on it — `TypeError` in Python (`unhashable type: 'list'`). -/
def listTyped : Elem := inputE [{ key := "type".toStr, kns := none, kname := none, val := .seq [.str "date".toStr] "['date']".toStr },
  sAttr "min" "2020-01-01", sAttr "value" "2021-01-01"]
example : rangeCompoundHolds ctx listTyped = true := by decide +kernel
example : (match matchRangeE ctx listTyped SEL_IN_RANGE with | .error .typeError => true | _ => false) = true := by
  decide +kernel
example : rangeState ctx listTyped = none := by decide +kernel

/-- Non-ASCII case folding: `re.IGNORECASE` folds U+212A KELVIN SIGN to `k`, `util.lower` does not.
    `[type=week]` matches `type="wee\u212a"`, `match_range` then knows no such type.
    (Real soupsieve: `[type=week]` True, `:in-range` False, `:out-of-range` False.) -/
def envK : CharEnv := { asciiEnv with fold := fun c => if c == 8490 then 107 else lowerCp c }
def ctxK : Ctx := { ctx with env := envK }
def kelvinTyped : Elem := inputE [{ key := "type".toStr, kns := none, kname := none, val := .str ("wee".toStr ++ [8490]) },
  sAttr "min" "2020-W01", sAttr "value" "2021-W01"]
example : rangeCompoundHolds ctxK kelvinTyped = true := by decide +kernel
example : rangeState ctxK kelvinTyped = none := by decide +kernel
-- with an ASCII-only spelling both agree (`range_type_consistent`)
def weekTyped : Elem := inputE [sAttr "type" "WeeK", sAttr "min" "2020-W01", sAttr "value" "2021-W01"]
example : rangeCompoundHolds ctx weekTyped = true := by decide +kernel
example : rangeState ctx weekTyped = some false := by decide +kernel

/-- Two attributes named `type` (a hand-edited `attrs` dictionary `{'type': 'date', 'TYPE': 'week', …}`
    in a non-XML document; no parser produces it).  Since the repair of `match_attribute_name` the
    selector `[type=week]` accepts when ANY of them has the value, `match_range` reads the first one
    (`get_attribute_by_name`) and dispatches on `date`: the uniqueness hypothesis of
    `range_type_consistent` / `scanIsSubmit_eq_typeIs` is needed.
    (Real soupsieve: `[type=week]` True, `[type=date]` True, `:in-range` False, `:out-of-range` False.) -/
def twoTyped : Elem := inputE [sAttr "type" "date", sAttr "TYPE" "week", sAttr "min" "2020-W01", sAttr "value" "2021-W01"]
example : attrVals ctx twoTyped "type" = ["date".toStr, "week".toStr] := by decide +kernel
example : typeIs ctx twoTyped "week" = true ∧ typeIs ctx twoTyped "date" = true := by decide +kernel
example : (match lowerE ((ctx.attrByName twoTyped "type".toStr).getD (.str [])) with
    | .ok t => t == "date".toStr | .error _ => false) = true := by decide +kernel
example : rangeCompoundHolds ctx twoTyped = true := by decide +kernel
example : rangeState ctx twoTyped = none := by decide +kernel

/-! ### `:required`: applies to every `input`, also where HTML says `required` does not apply -/
example : matchList ctx top (inputE [sAttr "type" "hidden", sAttr "required" ""]) Gen.CSS_REQUIRED = true := by
  decide +kernel

/-! ### XHTML parsed as XML: `[type=…]` is exact, and (after the repair) so is `match_default`'s own
    scan (`scanIsSubmit_eq_typeIs`) -/
def ctxX : Ctx := { ctx with isXml := true, hasHtmlNs := true }
example : typeIs ctxX (inputE [sAttr "type" "SUBMIT"]) "submit" = false := by decide +kernel
example : typeIs ctx (inputE [sAttr "type" "SUBMIT"]) "submit" = true := by decide +kernel
example : scanIsSubmit ctxX (inputE [sAttr "type" "SUBMIT"]) = false := by decide +kernel
example : scanIsSubmit ctx (inputE [sAttr "type" "SUBMIT"]) = true := by decide +kernel
example : scanIsSubmit ctxX (inputE [sAttr "type" "submit"]) = true := by decide +kernel

end SoupVerif.AuditC17
