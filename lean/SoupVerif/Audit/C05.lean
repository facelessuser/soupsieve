/-
  Audit of C05: axioms of every theorem, and non-vacuity examples on a concrete tree.
-/
import SoupVerif.Properties.C05
open SoupVerif

#print axioms C05.any_append
#print axioms C05.list_union
#print axioms C05.null_never
#print axioms C05.any_perm
#print axioms C05.list_perm
#print axioms C05.null_alternative
#print axioms C05.empty_list
#print axioms C05.null_only
#print axioms C05.not_compl_html
#print axioms C05.html_only_never_in_xml
#print axioms C05.not_compl_general
#print axioms C05.not_list_compl
#print axioms C05.not_list_inter
#print axioms C05.not_not
#print axioms C05.monotone
#print axioms C05.monotone_right
#print axioms C05.antitone_not
#print axioms C05.subs_append
#print axioms C05.is_conj
#print axioms C05.subs_conj
#print axioms C05.subs_perm
#print axioms C05.matchList_plain_ctx
#print axioms C05.matchList_html_ctx
#print axioms C05.ctx_restored
#print axioms C05.htmlOnly_idem
#print axioms C05.matchEl_union
#print axioms C05.select_union_merge
#print axioms C05.select_union
#print axioms C05.select_monotone
#print axioms C05.select_not_compl
#print axioms matchAny_eq_any
#print axioms matchSubs_eq_all
#print axioms subs_guard
#print axioms matchList_pos
#print axioms matchList_neg

namespace SoupVerif.AuditC05

def E0 : Env := { env := asciiEnv, bidi := fun _ => 0, wildStrip := id }
def el (n : String) : Elem := { isDoc := false, name := n.toStr, pfx := none, ns := none, attrs := [] }
def docE : Elem := { isDoc := true, name := "[document]".toStr, pfx := none, ns := none, attrs := [] }
/-- `<div><p/>t<span><p/></span></div>` under a `BeautifulSoup` object. -/
def tree : Node :=
  .elem docE [.elem (el "div") [.elem (el "p") [], .str .text "t".toStr, .elem (el "span") [.elem (el "p") []]]]
def top : Loc := ⟨tree, []⟩
/-- Type selector `n`. -/
def tagSel (n : String) : Sel := .mk (some ⟨n.toStr, none⟩) [] [] [] [] [] .empty .none [] [] 0
/-- `*` followed by the given pseudo-class sub-lists (`*:is(..):not(..)`). -/
def withSubs (subs : List SelList) : Sel := .mk none [] [] [] [] subs .empty .none [] [] 0

def sel (A : List Sel) (n h : Bool) : SelList := .mk A n h
def run (isXml : Bool) (s : SelList) : List (List Nat) := (select E0 isXml [] s top 0).map Loc.pos

-- `p`, `span`, and `p, span` = the document-order merge (hypotheses of `select_union` are inhabited,
-- both sides non-empty and different).
example : run false (sel [tagSel "p"] false false) = [[0,0],[0,2,0]] := by decide
example : run false (sel [tagSel "span"] false false) = [[0,2]] := by decide
example : run false (sel ([tagSel "p"] ++ [tagSel "span"]) false false) = [[0,0],[0,2],[0,2,0]] := by decide
-- order of the alternatives is unobservable
example : run false (sel ([tagSel "span"] ++ [tagSel "p"]) false false) = [[0,0],[0,2],[0,2,0]] := by decide
-- a `SelectorNull` alternative changes nothing
example : run false (sel (.null :: [tagSel "p"]) false false) = [[0,0],[0,2,0]] := by decide
-- `:not(p)` as a list: the complement among the element descendants
example : run false (sel [tagSel "p"] true false) = [[0],[0,2]] := by decide
-- `*:not(p)` through the `subs` field, and `*:is(p, span)`, `*:is(p, span):not(span)`
example : run false (sel [withSubs [sel [tagSel "p"] true false]] false false) = [[0],[0,2]] := by decide
example : run false (sel [withSubs [sel [tagSel "p", tagSel "span"] false false]] false false)
    = [[0,0],[0,2],[0,2,0]] := by decide
example : run false (sel [withSubs ([sel [tagSel "p", tagSel "span"] false false] ++ [sel [tagSel "span"] true false])]
    false false) = [[0,0],[0,2,0]] := by decide
-- `:not(:not(p))`
example : run false (sel [withSubs [sel [tagSel "p"] true false]] true false) = [[0,0],[0,2,0]] := by decide
-- the empty list matches nothing, negated or not (Python: `match = False` before the loop), whereas
-- a lone `SelectorNull` negated matches everything: `A ≠ []` in `not_compl_html` is necessary
example (c : Ctx) (l : Loc) (e : Elem) : matchList c l e (.mk [] true false) = false := C05.empty_list c l e true false
example (c : Ctx) (l : Loc) (e : Elem) : matchList c l e (.mk [] true false) = false := by simp [matchList]
example : run false (sel [] false false) = [] := by decide
example : run false (sel [] true false) = [] := by decide
example : run false (sel [.null] false false) = [] := by decide
example : run false (sel [.null] true false) = [[0],[0,0],[0,2],[0,2,0]] := by decide
-- the guard `(!h || c.isHtml)` of `not_compl_html` holds for an HTML-only list in an HTML document
example : (mkCtx E0 false [] top).isHtml = true := by decide
example : run false (sel [tagSel "p"] false true) = [[0,0],[0,2,0]] := by decide
example : run false (sel [tagSel "p"] true true) = [[0],[0,2]] := by decide
-- and fails in an XML document without the XHTML namespace: *both* the list and its negation are
-- empty there (`html_only_never_in_xml`), so `:not` is not a complement for such lists
example : (mkCtx E0 true [] top).isHtml = false := by decide
example : run true (sel [tagSel "p"] false true) = [] := by decide
example : run true (sel [tagSel "p"] true true) = [] := by decide
-- whereas a plain list works there
example : run true (sel [tagSel "p"] false false) = [[0,0],[0,2,0]] := by decide

end SoupVerif.AuditC05
