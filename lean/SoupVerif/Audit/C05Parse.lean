/-
  Audit of C05Parse: axioms of every theorem of `Properties/C05Parse.lean`, `Refine/C05ParseBase.lean`,
  `Refine/C05ParseImpl.lean`, and of the non-vacuity instances.
-/
import SoupVerif.Properties.C05Parse
open SoupVerif
#print axioms C05ParseBase.commaS_value
#print axioms C05ParseBase.commaS_render
#print axioms C05ParseBase.commaS_tbl
#print axioms C05ParseBase.commaS_ok
#print axioms C05ParseBase.loopState_comma
#print axioms C05ParseBase.finishG_eq
#print axioms C05ParseBase.endOK_of_ok
#print axioms C05ParseImpl.matchSel_impl
#print axioms C05ParseImpl.matchList_impl
#print axioms C05ParseImpl.matchAny_impl
#print axioms C05ParseImpl.freeze_implDeep
#print axioms C05ParseImpl.foldRest_impl
#print axioms C05ParseImpl.endSels_loopState_impl
#print axioms C05ParseImpl.nonEmptyV_of_ok
#print axioms C05Parse.alts_comma
#print axioms C05Parse.loopState_congr
#print axioms C05Parse.denote_eq_alts
#print axioms C05Parse.denote_comma
#print axioms C05Parse.subList_eq
#print axioms C05Parse.commaS_endOK
#print axioms C05Parse.matchSel_withFn
#print axioms C05Parse.matchSel_selOf_tag
#print axioms C05Parse.ListText.matchText_eq
#print axioms C05Parse.ListText.of_compound
#print axioms C05Parse.ListText.comma
#print axioms C05Parse.ListText.one_verdict
#print axioms C05Parse.ListText.fn_verdict
#print axioms C05Parse.alts_comma_nested
#print axioms C05Parse.comma_text
#print axioms C05Parse.comma_monotone_text
#print axioms C05Parse.comma_monotone_right_text
#print axioms C05Parse.comma_compile_text
#print axioms C05Parse.select_comma_text
#print axioms C05Parse.is_comma_text
#print axioms C05Parse.is_monotone_text
#print axioms C05Parse.is_where_matches_text
#print axioms C05Parse.not_text
#print axioms C05Parse.not_compl_text
#print axioms C05Parse.not_comma_text
#print axioms C05Parse.is_inter_text
#print axioms C05Parse.is_eq_list_text
/-! Non-vacuity -/
#print axioms C05Parse.Examples.lA_text
#print axioms C05Parse.Examples.lB_text
#print axioms C05Parse.Examples.lAB_text
#print axioms C05Parse.Examples.fn_text
#print axioms C05Parse.Examples.inter_needs_side
#print axioms C05Parse.Examples.is_list_needs_no_default
#print axioms C05Parse.Examples.not_compl_needs_tagcond
