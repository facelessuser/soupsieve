/-
  Audit of C02Gen: axioms of the theorems that tie the An+B block of `parse_pseudo_nth`, as TRANSLATED from the
  source (`Generated/PyAnB.lean`), to the hand-written parser model and to the CSS value of An+B; and the
  generated block run through the regex-engine model on concrete texts (compiled evaluation: checks, not
  theorems), against the values of the real library (`sv.compile(':nth-child(…)').selectors[0].nth[0]`).
-/
import SoupVerif.Properties.C02Gen
open SoupVerif

#print axioms C02Gen.anb_closed
#print axioms PyStr.int10_sound
#print axioms C02Gen.int10_complete
#print axioms C02Gen.gen_sound
#print axioms C02Gen.lin_groups
#print axioms C02Gen.gen_total
#print axioms C02Gen.gen_eq_model
#print axioms C02Gen.gen_anb_value
#print axioms C02Gen.gen_designates
#print axioms C02Gen.gen_overflow

namespace AuditC02Gen
open C02Gen Refine.Compile Refine.C02Parse

/-- the generated block on the lower-cased text, as `(a, b, var)`; `none` when it raises -/
def run (s : String) : Option (Int × Int × Bool) :=
  match genAnB pyFoldEnv (lower s.toStr) with
  | .ok r => some r
  | .error _ => none

/-- the hand-written model on the same text, as `(a, b, var)` -/
def model (s : String) : Int × Int × Bool :=
  let r := Parser.parseAnB (penv Gen.builtinsRec []) (lower s.toStr)
  (r.1, r.2.2, r.2.1)

#guard run "2N + 1" == some (2, 1, true)
#guard run "-n/**/+ 2" == some (-1, 2, true)
#guard run "+007n-08" == some (7, -8, true)
#guard run "-n- 1" == some (-1, -1, true)
#guard run "n" == some (1, 0, true)
#guard run "-N" == some (-1, 0, true)
#guard run "+5" == some (5, 0, false)
#guard run "-007" == some (-7, 0, false)
#guard run "EVEN" == some (2, 0, true)
#guard run "odd" == some (2, 1, true)
#guard run "0n+0" == some (0, 0, true)
#guard ["2N + 1", "-n/**/+ 2", "+007n-08", "-n- 1", "n", "-N", "+5", "-007", "EVEN", "odd", "0n+0", "10n-10"].all
  fun s => run s == some (model s)
-- a text `RE_NTH` does not match: Python's `None.group` raises; the generated block returns an error
#guard run "x" == none
#guard (genAnB pyFoldEnv "x".toStr matches .error .attributeError)
-- beyond 4300 digits the library raises SelectorSyntaxError (`gen_overflow`); the hand model has no limit
#guard (genAnB pyFoldEnv (List.replicate 4301 48 ++ "n+1".toStr) matches .error .selectorSyntaxError)
#guard (PyStr.int10 (List.replicate 4300 48) matches .ok 0)
#guard (PyStr.int10 (45 :: List.replicate 4301 49) matches .error .valueError)

end AuditC02Gen
