import SoupVerif.Properties.C06GenDispatch
import SoupVerif.Properties.C06GenPseudo
open SoupVerif
#print axioms C06GenDispatch.token_name_mem
#print axioms C06GenDispatch.dispatch_keys
#print axioms C06GenDispatch.dispatch_keys_nodup
#print axioms C06GenDispatch.every_token_has_branch
#print axioms C06GenDispatch.dispatch_agrees
#print axioms C06GenDispatch.modelKeys_eq_tokenNames
#print axioms ParseDisp.stepOf_eq_runAction
#print axioms C06GenDispatch.stepOf_gen
#print axioms C06GenDispatch.parseLoop_gen
#print axioms C06GenDispatch.tables_eq_model
#print axioms C06GenDispatch.switches_masks
#print axioms C06GenDispatch.finalFlags_values
#print axioms C06GenDispatch.amp_sets_scope
#print axioms C06GenDispatch.switchOf_model
#print axioms C06GenDispatch.finalSels_gen
#print axioms C06GenDispatch.applyFinal_last
#print axioms C06GenDispatch.resultFlag_gen
#print axioms C06GenDispatch.finalSels_result
#print axioms C06GenDispatch.parseSelectors_gen
#print axioms C06GenPseudo.pseudoNames_keys
#print axioms C06GenPseudo.pseudoNames_nodup
#print axioms C06GenPseudo.every_simple_has_branch
#print axioms C06GenPseudo.pseudo_dispatch_agrees
#print axioms C06GenPseudo.applySimplePseudo_eq_runPseudo
#print axioms C06GenPseudo.applySimplePseudo_gen
#print axioms C06GenPseudo.plainPseudo_gen
#print axioms C06GenPseudo.builtinOf_gen
#print axioms C06GenPseudo.builtins_known
#print axioms C06GenPseudo.pseudo_flags_gen
#print axioms C06GenPseudo.state_keyword_gen
