import SoupVerif.Properties.C08
open SoupVerif
#print axioms C08.normalize_total
#print axioms C08.normalize_str_iff
#print axioms C08.normalize_list_iff
#print axioms C08.normalize_list_items_str
#print axioms C08.normalizeItem_nested
#print axioms C08.normalizeItem_none
#print axioms C08.attrByName_not_list
#print axioms C08.lowerE_ok_iff
#print axioms C08.range_total
#print axioms C08.matchRange_faithful
#print axioms C08.parseValue_nonrange
#print axioms C08.isRangeType_split
#print axioms C08.parseValueE_eq
#print axioms C08.range_error
#print axioms C08.range_error_iff
#print axioms C08.range_error_is_typeError
#print axioms C08.shaped_not_raises
#print axioms C08.old_error_iff
#print axioms C08.inputs_unknown_type
#print axioms C08.dec31_range
#print axioms C08.maxWeek_total
#print axioms C08.validateWeek_total
#print axioms C08.validateWeek_small
#print axioms C08.validateWeek_large
#print axioms C08.inputs_total
#print axioms C08.stateAttrs_lower
#print axioms C08.elemShaped_for
#print axioms C08.parserShapedFor_mono
#print axioms C08.elemShaped_parserShaped
#print axioms C08.doc_range_total
#print axioms C08.doc_attr_not_list
#print axioms C08.matcher_total_note
