/-
  Audit of C18Parse (C18 end to end: `:in-range` / `:out-of-range` from the selector TEXT and the attribute
  STRINGS): axioms of every theorem, and a sweep of the model over the example form of
  `Properties/C18Parse.lean` whose expected values were produced by the real soupsieve (html.parser;
  `soupsieve.match(text, el)` on the eighteen children of the form, by index; lxml-xml for the XHTML document).
-/
import SoupVerif.Properties.C18Parse
open SoupVerif

/-! Helpers (`Refine/C18ParseBase.lean`) -/
#print axioms Refine.C18Parse.weekGuard_of_ne
#print axioms Refine.C18Parse.weekGuard_none
#print axioms Refine.C18Parse.name_time_iff
#print axioms Refine.C18Parse.isRangeType_iff
#print axioms Refine.C18Parse.parse_of_valid
#print axioms Refine.C18Parse.valid_of_parse
#print axioms Refine.C18Parse.validStr_unique
#print axioms Refine.C18Parse.reads_exists
#print axioms Refine.C18Parse.reads_unique
#print axioms Refine.C18Parse.reads_none_absent
#print axioms Refine.C18Parse.parseValueE_of_reads
#print axioms Refine.C18Parse.decScaled_eq_numVal
#print axioms Refine.C18Parse.num_lt_any_scale
#print axioms Refine.C18Parse.num_lt_int
#print axioms Refine.C18Parse.ltP_iff_lt
#print axioms Refine.C18Parse.outOfRange_congr
#print axioms Refine.C18Parse.outOfRange_transfer
#print axioms Refine.C18Parse.foldsAscii_ascii
#print axioms Refine.C18Parse.foldsAscii_py
#print axioms Refine.C18Parse.litsEq_of_lower

/-! The theorems (`Properties/C18Parse.lean`) -/
#print axioms C18Parse.isInput_iff
#print axioms C18Parse.name_lower
#print axioms C18Parse.TypeIs.itype
#print axioms C18Parse.TypeIs.typeIs
#print axioms C18Parse.anyType_of_typeIs
#print axioms C18Parse.hasAttr_of_attrStr
#print axioms C18Parse.rangeCompound_of_bound
#print axioms C18Parse.matchRange_of_reads
#print axioms C18Parse.hasFlag_in
#print axioms C18Parse.hasFlag_out
#print axioms C18Parse.in_range_text
#print axioms C18Parse.out_of_range_text
#print axioms C18Parse.in_out_range_text
#print axioms C18Parse.invalid_value_text
#print axioms C18Parse.one_bound_text_min
#print axioms C18Parse.one_bound_text_max
#print axioms C18Parse.weekGuard_of_valid
#print axioms C18Parse.valid_range_text
#print axioms C18Parse.date_range_text
#print axioms C18Parse.date_out_of_range_text
#print axioms C18Parse.month_range_text
#print axioms C18Parse.week_range_text
#print axioms C18Parse.time_range_text
#print axioms C18Parse.datetime_range_text
#print axioms C18Parse.number_range_text
#print axioms C18Parse.integer_range_text
#print axioms C18Parse.neither_of
#print axioms C18Parse.not_input_text
#print axioms C18Parse.parseValueE_other
#print axioms C18Parse.other_type_text
#print axioms C18Parse.xml_type_text
#print axioms C18Parse.no_valid_bound_text

/-! The examples -/
#print axioms C18Parse.Examples.ctx_html
#print axioms C18Parse.Examples.ctx_fold
#print axioms C18Parse.Examples.focus_at
#print axioms C18Parse.Examples.subj
#print axioms C18Parse.Examples.spIn
#print axioms C18Parse.Examples.spOut
#print axioms C18Parse.Examples.vDate
#print axioms C18Parse.Examples.vMonth
#print axioms C18Parse.Examples.vTime
#print axioms C18Parse.Examples.vDateTime
#print axioms C18Parse.Examples.vNum
#print axioms C18Parse.Examples.vWeek
#print axioms C18Parse.Examples.readsNone
#print axioms C18Parse.Examples.dnLt
#print axioms C18Parse.Examples.dnLe
#print axioms C18Parse.Examples.d0101
#print axioms C18Parse.Examples.d1231
#print axioms C18Parse.Examples.d0229
#print axioms C18Parse.Examples.d250101
#print axioms C18Parse.Examples.d231231
#print axioms C18Parse.Examples.week53_not_valid
#print axioms C18Parse.Examples.week53_guard_fails
#print axioms C18Parse.Examples.week53_finding

namespace SoupVerif.AuditC18Parse
open C18Parse C18Parse.Examples C12Parse

/-- Indices (among the eighteen children of the form) of the elements `matchText` accepts. -/
def hits (t : String) : List Nat :=
  (List.range 18).filter fun i =>
    match matchText ctx t.toStr (at_ i) with
    | .ok b => b
    | .error _ => false

def xhits (t : String) : List Nat :=
  (List.range 2).filter fun i =>
    match matchText xctx t.toStr (xat i) with
    | .ok b => b
    | .error _ => false

-- expected values: real soupsieve 2.6.1 / bs4 4.15.0, html.parser, on
-- <html><body><form>
--  0 <input type="date" min="2024-01-01" max="2024-12-31" value="2024-02-29">
--  1 <input type="date" min="2024-01-01" max="2024-12-31" value="2025-01-01">
--  2 <input type="date" min="2024-01-01" max="2024-12-31" value="2023-02-29">
--  3 <input type="month" min="2024-03" max="2024-10" value="2024-11">
--  4 <input type="week" min="2020-W10" max="2020-W53" value="2020-W53">
--  5 <input type="time" min="22:00" max="06:00" value="23:30">
--  6 <input type="time" min="22:00" max="06:00" value="12:00">
--  7 <input type="datetime-local" min="2024-01-01T00:00" max="2024-01-01T12:00" value="2024-01-01T12:01">
--  8 <input type="number" min="-1.5" max="1e1" value="9.99">
--  9 <input type="range" min="0" max="10" value="11">
-- 10 <input type="date" min="yesterday" max="2024-12-31" value="2025-01-01">
-- 11 <input type="date" min="yesterday" max="2024-02-30" value="2024-01-01">
-- 12 <input type="DaTe" min="2024-01-01" value="2023-12-31">
-- 13 <input type="text" min="1" max="5" value="7">
-- 14 <input type="week" min="2019-W53" value="2019-W52">        (the week-53 finding)
-- 15 <p type="number" min="1" max="5" value="7"></p>
-- 16 <input type="time" min="09:00" max="17:00" value="08:59">
-- 17 <input type="number" min="1" value="">
-- </form></body></html>
#guard hits ":in-range" == [0, 2, 4, 5, 8, 17]
#guard hits ":out-of-range" == [1, 3, 6, 7, 9, 10, 12, 14, 16]
#guard hits " :IN-\\72 ange/**/" == [0, 2, 4, 5, 8, 17]
#guard hits ":OUT-OF-RANGE" == [1, 3, 6, 7, 9, 10, 12, 14, 16]
-- the XHTML document parsed as XML (`BeautifulSoup(x, 'xml')`; real soupsieve: `:in-range` [], `:out-of-range` [1])
#guard xhits ":in-range" == []
#guard xhits ":out-of-range" == [1]

end SoupVerif.AuditC18Parse
