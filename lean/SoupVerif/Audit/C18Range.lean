import SoupVerif.Properties.C18Range
open SoupVerif
#print axioms C18.parseValue_some_known
#print axioms C18.parseValueE_some_known
#print axioms C18.range_def
#print axioms C18.range_total_of
#print axioms C18.range_total
#print axioms C18.range_missing_value
#print axioms C18.range_no_bounds
#print axioms C18.range_time_wrap
#print axioms C18.range_time_plain
#print axioms C18.range_date
