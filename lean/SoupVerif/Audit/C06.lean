import SoupVerif.Properties.C06
open SoupVerif
#print axioms C06.tokens_nonnullable
#print axioms C06.special_nonnullable
#print axioms C06.lexicon_ok
#print axioms C06.token_progress
#print axioms C06.token_in_bounds
#print axioms C06.token_start
#print axioms C06.match_in_bounds
#print axioms C06.nextToken_cases
#print axioms C06.fuel_step
#print axioms C06.fuel_sufficient
#print axioms C06.parseSelectors_no_pybug
#print axioms C06.parseSelectors_err_offset
#print axioms C06.parseSelectors_ok_bounds
#print axioms C06.compile_eq
#print axioms C06.allotted_ge_need
#print axioms C06.compileF_def
#print axioms C06.compile_fuel_irrelevant
#print axioms C06.compile_error_cases
#print axioms C06.compile_no_pybug_gen
#print axioms C06.compile_no_pybug
#print axioms C06.compile_no_pybug_py
#print axioms C06.compile_total
#print axioms C06.compile_custom_errors_only_from_map
#print axioms C06.compile_nocustom_kinds
#print axioms C06.err_offset_in_range
#print axioms C06.cssUnescape_eq
#print axioms C06.clampCp_valid
#print axioms C06.clampCp_replaces
#print axioms C06.clampCp_id
#print axioms C06.unescRepl_group1
#print axioms C06.unescRepl_group1_FFFD
#print axioms C06.mem_slice
#print axioms C06.unescRepl_valid
#print axioms C06.subWith_go_mem
#print axioms C06.unescape_total
#print axioms C06.unescape_in_range
#print axioms C06.unescape_no_nul
#print axioms C06.repaired_emits_FFFD
#print axioms C06.old_behaviour_emits_110000
#print axioms C06.old_behaviour_emits_nul
#print axioms C06.custom_cycle_terminates_self
#print axioms C06.custom_cycle_terminates_mutual
#print axioms C06.custom_cycle_error_site
#print axioms C06.custom_case_collision
#print axioms C06.custom_bad_name
#print axioms ParserProgress.parseLoop_succ
#print axioms ParserProgress.parseSelectors_succ
#print axioms ParserProgress.stepOf_spec
#print axioms ParserProgress.run_rules
#print axioms ParserProgress.stable_all
