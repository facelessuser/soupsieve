import SoupVerif.Properties.C20
open SoupVerif
#print axioms C20.ctx_eq
#print axioms C20.ctx_line
#print axioms C20.breaksBefore_rec
#print axioms C20.ctx_line_rec
#print axioms C20.ctx_col
#print axioms C20.ctx_lineStart_le
#print axioms C20.ctx_position
#print axioms C20.ctx_col_pos
#print axioms C20.ctx_line_pos
#print axioms C20.ctx_line_le
#print axioms C20.ctx_crlf
#print axioms C20.ctx_text
#print axioms C20.ctx_single
#print axioms C20.ctx_caret
#print axioms C20.ctx_marked_exists
#print axioms C20.ctx_end_offset
#print axioms C20.pretty_tokens_advance
#print axioms C20.pretty_measure_decreases
#print axioms C20.pretty_terminates
#print axioms C20.pretty_piece_ws
#print axioms C20.pretty_roundtrip
#print axioms C20.pretty_example
#print axioms Pretty.prettyLoop
#print axioms Context.getPatternContext
