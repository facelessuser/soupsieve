import SoupVerif.Properties.C20Gen
open SoupVerif
#print axioms C20Gen.getPatternContextGen_eq
#print axioms C20Gen.getPatternContextGen_eq_rx
#print axioms C20Gen.loopRegex_eq
#print axioms C20Gen.step_rel
#print axioms C20Gen.fold_rel
#print axioms C20Gen.ctx_eq_gen
#print axioms C20Gen.ctx_line_gen
#print axioms C20Gen.ctx_col_gen
#print axioms C20Gen.ctx_position_gen
#print axioms C20Gen.ctx_text_gen
