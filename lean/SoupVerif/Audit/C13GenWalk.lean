import SoupVerif.Properties.C13GenWalk
open SoupVerif
#print axioms PyFlagLoop.forBreak_or
#print axioms PyFlagLoop.forBreak_all_break
#print axioms C13GenWalk.langsTest_eq
#print axioms C13GenWalk.langsTest_nil
#print axioms C13GenWalk.matchLang_eq_langsTest
#print axioms C13GenWalk.gen_matchLang_one
#print axioms C13GenWalk.gen_matchLang_langRun
#print axioms C13GenWalk.langAttrTest_eq
#print axioms C13GenWalk.langScan_eq
#print axioms C13GenWalk.langScan_empty_value
#print axioms C13GenWalk.langNoIframe_eq
#print axioms C13GenWalk.ancestors_unfold
#print axioms C13GenWalk.parent_depth
#print axioms C13GenWalk.langScanAt_eq
#print axioms C13GenWalk.walk_spec
#print axioms C13GenWalk.langWalkRun_eq
#print axioms C13GenWalk.langOf_eq_walk
