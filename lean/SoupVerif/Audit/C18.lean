import SoupVerif.Properties.C18
open SoupVerif
#print axioms C18.day_valid
#print axioms C18.day_valid_bad_month
#print axioms C18.month_valid
#print axioms C18.year_valid
#print axioms C18.hour_valid
#print axioms C18.minutes_valid
#print axioms C18.isoWeeks_52_or_53
#print axioms C18.isoWeeks_period
#print axioms C18.isoWeeks_53_iff
#print axioms C18.dec31_is_weekday
#print axioms C18.dec31InNextWeek1_iff
#print axioms C18.maxWeek_char
#print axioms C18.maxWeek_char_weekday
#print axioms C18.week_valid_false
#print axioms C18.validateWeek_iff
#print axioms C18.week_valid_partial
#print axioms C18.week_finding_exact
#print axioms C18.week_valid_never_rejects_valid
#print axioms C18.week_valid_max53
#print axioms C18.week_valid_overaccepts_only_53
#print axioms C18.parse_date_valid
#print axioms C18.parse_date_spec
#print axioms C18.parse_month_valid
#print axioms C18.parse_month_spec
#print axioms C18.parse_week_char
#print axioms C18.parse_week_valid_partial
#print axioms C18.parse_week_never_rejects_valid
#print axioms C18.parse_time_valid
#print axioms C18.parse_time_spec
#print axioms C18.parse_datetime_valid
#print axioms C18.parse_datetime_spec
#print axioms C18.parse_number
#print axioms C18.parse_number_spec
#print axioms C18.parse_other_type
#print axioms C18.ltInts_irrefl
#print axioms C18.ltInts_trans
#print axioms C18.ltInts_asymm
#print axioms C18.ltInts_total
#print axioms C18.order_date_mono
#print axioms C18.order_date_inj
#print axioms C18.order_datetime_mono
#print axioms C18.order_month_mono
#print axioms C18.order_time_mono
#print axioms C18.order_week_mono
#print axioms C18.ltP_num_spec
#print axioms C18.ltP_num_int
#print axioms C18.ltP_ints
#print axioms C18.time_with_seconds_rejected
