/-
  Audit of C02Parse: axioms of every theorem; non-vacuity (concrete texts with their `Spelled` proofs,
  instances of the end-to-end theorems); the accepted / rejected An+B spellings on the parser model; the
  keyword records; and the text → parser model → matcher model chain on a concrete document, against the
  values produced by the real soupsieve (html.parser):

    <div><p></p>text<span></span><p class="x"></p><!--c--><p></p><span class="x"></span></div>

    :NTH-child( 2N + 1 )                        [[0],[0,0],[0,3],[0,6]]
    :nth-last-child(-n/**/+ 2)                  [[0],[0,5],[0,6]]
    :nth-of-type(+02)                           [[0,3],[0,6]]
    :nth-last-of-type(n+2)                      [[0,0],[0,2],[0,3]]
    :nth-child(2 of .x)                         [[0,6]]
    :nth-last-child(-2n+3 of p)                 [[0,0],[0,5]]
    div > p:nth-child(even)                     [[0,5]]
    :n\74h-child(odd)                           [[0],[0,0],[0,3],[0,6]]
    div>:nth-child(-n+3):nth-last-child(n+4)    [[0,0],[0,2]]
    :NTH-LAST-OF-TYPE(ODD)                      [[0],[0,0],[0,5],[0,6]]
    p:nth-child(-5), :nth-child(0n+0)           []
    :first-of-type                              [[0],[0,0],[0,2]]
    span:first-of-type, span:nth-of-type(1)     [[0,2]]
    :only-of-type, :only-child, :nth-child(1):nth-last-child(0n+1)    [[0]]
-/
import SoupVerif.Properties.C02Parse
import SoupVerif.Model.Api
import SoupVerif.Lemmas.StrLit
open SoupVerif

#print axioms Refine.C02Parse.foldl_dec
#print axioms Refine.C02Parse.parseInt_neg
#print axioms Refine.C02Parse.parseInt_pos
#print axioms Refine.C02Parse.sign_prefix
#print axioms Refine.C02Parse.parseAnB_canon_lin
#print axioms Refine.C02Parse.parseAnB_canon_eq
#print axioms Refine.C02Parse.parseAnB_text_eq
#print axioms Refine.C02Parse.anbValue_noN
#print axioms Refine.C02Parse.parse_anb_value
#print axioms Refine.C02Parse.parse_anb_value_text

#print axioms Refine.C02Parse.denote_single
#print axioms Refine.C02Parse.denote_selV
#print axioms Refine.C02Parse.matchList_insert
#print axioms Refine.C02Parse.matchList_insertL
#print axioms Refine.C02Parse.denote_congrL
#print axioms Refine.C02Parse.nthBuild_eq
#print axioms Refine.C02Parse.addsNth_nth
#print axioms Refine.C02Parse.addsNth_nthOf
#print axioms Refine.C02Parse.plainPseudo_kw
#print axioms Refine.C02Parse.addsNth_kw
#print axioms Refine.C02Parse.matchNth_designates
#print axioms Refine.C02Parse.matchList_default
#print axioms Refine.C02Parse.counted_default
#print axioms Refine.C02Parse.position_default
#print axioms Refine.C02Parse.matchNth_default
#print axioms Refine.C02Parse.matchNth_one
#print axioms Refine.C02Parse.nthRecord_one
#print axioms Refine.C02Parse.nthRecord_one_ofType

#print axioms C02Parse.compile_text
#print axioms C02Parse.compile_insert
#print axioms C02Parse.nth_text_iff
#print axioms C02Parse.nth_text_iff'
#print axioms C02Parse.nth_of_text_iff
#print axioms C02Parse.matchList_rest_tagOnly
#print axioms C02Parse.type_nth_text_iff
#print axioms C02Parse.keyword_text_iff
#print axioms C02Parse.nthOnes_records
#print axioms C02Parse.nthOneInts_records
#print axioms C02Parse.keyword_eq_nth_text
#print axioms C02Parse.keyword_oftype_compile_eq

open SoupVerif.Parser Escape Spelling Refine.Compile Refine.C02Parse C02Site C02Parse
open C09Compile (identOK SItem SCompound SSelList SComb STag itemsValue restValue renderItems renderRest
  itemsOK restOK plainName Item Compound SelListV denote finishNested applyItems)

namespace AuditC02Parse

def lits (s : String) : C09Compile.Forms := s.toStr.map fun c => (c, EscForm.lit)

/-- `2N + 1`, `-n+3`, `+1`, `01`, `0n+1` -/
def x21 : SAnB := .lin none [50] (some 78) (some ([32], 43, [32], [49]))
def xNeg : SAnB := .lin (some 45) [] (some 110) (some ([], 43, [], [51]))
def xP1 : SAnB := .lin (some 43) [49] none none
def x01 : SAnB := .lin none [48, 49] none none
def x0n1 : SAnB := .lin none [48] (some 110) (some ([], 43, [], [49]))
theorem x21_ok : x21.ok := by simp +decide [x21, SAnB.ok, tailOK]
theorem xNeg_ok : xNeg.ok := by simp +decide [xNeg, SAnB.ok, tailOK]
theorem xP1_ok : xP1.ok := by simp +decide [xP1, SAnB.ok, tailOK]
theorem x01_ok : x01.ok := by simp +decide [x01, SAnB.ok, tailOK]
theorem x0n1_ok : x0n1.ok := by simp +decide [x0n1, SAnB.ok, tailOK]
example : anbValue x21 = (2, 1) ∧ anbValue xNeg = (-1, 3) ∧ anbValue xP1 = (0, 1) ∧ anbValue x01 = (0, 1) ∧
    anbValue x0n1 = (0, 1) := by decide

def liTag : Option STag := some (.name (lits "li"))
def pTag : Option STag := some (.name (lits "p"))

/-- `li:NTH-child( 2N + 1 ) ` — a single compound, between an empty gap and a space. -/
def it1 : SItem := .nth (lits "NTH-child") [32] x21 [32]
theorem text1 : textOf none liTag [it1] [] [32] = "li:NTH-child( 2N + 1 ) ".toStr := by
  unfold liTag it1 lits
  decide_lit
theorem sp1 : Spelled none liTag [it1] [] [32] := by
  refine ⟨by decide, by decide, ?_, by rw [text1]; decide_lit⟩
  simp only [selOf, liTag, it1, lits, SSelList.ok, SCompound.ok, restOK, itemsOK, SItem.ok, STag.ok, identOK,
    nthTypeName, nthChildName, eq_true x21_ok]
  decide_lit

/-- Instance of `type_nth_text_iff`. -/
example : ∃ sl, Parser.compile pyFoldEnv Gen.lexicon Gen.builtinsRec "li:NTH-child( 2N + 1 ) ".toStr [] 0 = .ok sl ∧
    ∀ (c : Ctx) (l : Loc) (e : Elem), l.elem? = some e →
      (matchList c l e sl = true ↔
        matchTag c e (some ⟨"li".toStr, none⟩) = true ∧
        ∃ n : Nat, 2 * (n : Int) + 1 = ((position c l e false false noOf : Nat) : Int)) := by
  rw [← text1]
  exact type_nth_text_iff [] [32] liTag (lits "NTH-child") [32] x21 [32] .child (by unfold lits NthName.text; decide_lit) sp1

/-- `ul > li:nth-last-of-type(-n+3).x` — behind a context, with another simple selector after it. -/
def cxUl : Cx := some (.mk (some (.name (lits "ul"))) [], [], .sym [32] 62 [32])
theorem cxUl_nc : NoComma cxUl := ⟨by simp [restValue], by decide⟩
def it2 : SItem := .nth (lits "nth-last-of-type") [] xNeg []
def clsX : SItem := .cls (lits "x")
theorem text2 : textOf cxUl liTag ([] ++ [it2] ++ [clsX]) [] [] = "ul > li:nth-last-of-type(-n+3).x".toStr := by
  unfold cxUl liTag it2 clsX lits
  decide_lit
theorem sp2 : Spelled cxUl liTag ([] ++ [it2] ++ [clsX]) [] [] := by
  refine ⟨by decide, by decide, ?_, by rw [text2]; decide_lit⟩
  simp only [List.nil_append, List.cons_append, selOf, cxUl, liTag, it2, clsX, lits, SSelList.ok, SCompound.ok,
    restOK, itemsOK, SItem.ok, STag.ok, identOK, nthTypeName, nthChildName, SComb.ok, eq_true xNeg_ok]
  decide_lit

/-- Instance of `nth_text_iff'`. -/
example : ∃ sl, Parser.compile pyFoldEnv Gen.lexicon Gen.builtinsRec "ul > li:nth-last-of-type(-n+3).x".toStr [] 0
      = .ok sl ∧
    ∀ (c : Ctx) (l : Loc) (e : Elem), l.elem? = some e →
      (matchList c l e sl = true ↔
        matchList c l e (denote Gen.builtinsRec (restV cxUl liTag [] [clsX])) = true ∧
        ∃ n : Nat, (-1) * (n : Int) + 3 = ((position c l e true true noOf : Nat) : Int)) := by
  rw [← text2]
  exact nth_text_iff' [] [] cxUl cxUl_nc liTag [] [clsX] (lits "nth-last-of-type") [] xNeg [] .lastOfType
    (by unfold lits NthName.text; decide_lit) sp2

/-- … whose first conjunct is about what `ul > li.x` compiles to. -/
example : Parser.compile pyFoldEnv Gen.lexicon Gen.builtinsRec "ul > li.x".toStr [] 0 =
    .ok (denote Gen.builtinsRec (restV cxUl liTag [] [clsX])) := by
  have e : textOf cxUl liTag [clsX] [] [] = "ul > li.x".toStr := by
    unfold cxUl liTag clsX lits
    decide_lit
  have h : Spelled cxUl liTag [clsX] [] [] := by
    refine ⟨by decide, by decide, ?_, by rw [e]; decide_lit⟩
    simp only [List.nil_append, selOf, cxUl, liTag, clsX, lits, SSelList.ok, SCompound.ok, restOK, itemsOK,
      SItem.ok, STag.ok, identOK, SComb.ok]
    decide_lit
  rw [← e]
  exact compile_text Gen.builtinsRec h

/-- `p:ONLY-of-type` and `p:nth-of-type(+1):NTH-last-of-type( 01 )` compile to the same structure. -/
def kwOnly : SItem := .pseudo (lits "ONLY-of-type")
def nA : SItem := .nth (lits "nth-of-type") [] xP1 []
def nB : SItem := .nth (lits "NTH-last-of-type") [32] x01 [32]
theorem text3 : textOf none pTag ([] ++ [kwOnly] ++ []) [] [] = "p:ONLY-of-type".toStr := by
  unfold pTag kwOnly lits
  decide_lit
theorem text3' :
    textOf none pTag ([] ++ [nA, nB] ++ []) [] [] = "p:nth-of-type(+1):NTH-last-of-type( 01 )".toStr := by
  unfold pTag nA nB lits
  decide_lit
theorem sp3 : Spelled none pTag ([] ++ [kwOnly] ++ []) [] [] := by
  refine ⟨by decide, by decide, ?_, by rw [text3]; decide_lit⟩
  simp only [List.nil_append, List.append_nil, selOf, pTag, kwOnly, lits, SSelList.ok, SCompound.ok, restOK,
    itemsOK, SItem.ok, STag.ok, identOK, plainName]
  decide_lit
theorem sp3' : Spelled none pTag ([] ++ [nA, nB] ++ []) [] [] := by
  refine ⟨by decide, by decide, ?_, by rw [text3']; decide_lit⟩
  simp only [List.nil_append, List.append_nil, selOf, pTag, nA, nB, lits, SSelList.ok, SCompound.ok, restOK,
    itemsOK, SItem.ok, STag.ok, identOK, nthTypeName, nthChildName, eq_true xP1_ok, eq_true x01_ok]
  decide_lit

example : Parser.compile pyFoldEnv Gen.lexicon Gen.builtinsRec "p:ONLY-of-type".toStr [] 0 =
    Parser.compile pyFoldEnv Gen.lexicon Gen.builtinsRec "p:nth-of-type(+1):NTH-last-of-type( 01 )".toStr [] 0 := by
  rw [← text3, ← text3']
  exact keyword_oftype_compile_eq Gen.builtinsRec [] [] [] [] none none rfl pTag pTag [] [] [] []
    (lits "ONLY-of-type") .onlyOfType (by unfold lits Keyword.text; decide_lit) [nA, nB]
    (.cons ⟨lits "nth-of-type", [], xP1, [], rfl, by unfold lits NthName.text; decide_lit, by decide +kernel,
        by decide +kernel, rfl⟩
      (.cons ⟨lits "NTH-last-of-type", [32], x01, [32], rfl, by unfold lits NthName.text; decide_lit,
        by decide +kernel, by decide +kernel, rfl⟩ .nil))
    rfl rfl rfl sp3 sp3'

/-- `p:first-child` and `p:nth-child(0n+1)` match the same elements. -/
def kwFirst : SItem := .pseudo (lits "first-child")
def nC : SItem := .nth (lits "nth-child") [] x0n1 []
theorem text4 : textOf none pTag ([] ++ [kwFirst] ++ []) [] [] = "p:first-child".toStr := by
  unfold pTag kwFirst lits
  decide_lit
theorem text4' : textOf none pTag ([] ++ [nC] ++ []) [] [] = "p:nth-child(0n+1)".toStr := by
  unfold pTag nC lits
  decide_lit
theorem sp4 : Spelled none pTag ([] ++ [kwFirst] ++ []) [] [] := by
  refine ⟨by decide, by decide, ?_, by rw [text4]; decide_lit⟩
  simp only [List.nil_append, List.append_nil, selOf, pTag, kwFirst, lits, SSelList.ok, SCompound.ok, restOK,
    itemsOK, SItem.ok, STag.ok, identOK, plainName]
  decide_lit
theorem sp4' : Spelled none pTag ([] ++ [nC] ++ []) [] [] := by
  refine ⟨by decide, by decide, ?_, by rw [text4']; decide_lit⟩
  simp only [List.nil_append, List.append_nil, selOf, pTag, nC, lits, SSelList.ok, SCompound.ok, restOK,
    itemsOK, SItem.ok, STag.ok, identOK, nthTypeName, nthChildName, eq_true x0n1_ok]
  decide_lit

example : ∃ sl sl',
    Parser.compile pyFoldEnv Gen.lexicon Gen.builtinsRec "p:first-child".toStr [] 0 = .ok sl ∧
    Parser.compile pyFoldEnv Gen.lexicon Gen.builtinsRec "p:nth-child(0n+1)".toStr [] 0 = .ok sl' ∧
    ∀ (c : Ctx) (l : Loc) (e : Elem), l.elem? = some e → matchList c l e sl = matchList c l e sl' := by
  rw [← text4, ← text4']
  exact keyword_eq_nth_text [] [] [] [] none none trivial trivial pTag pTag [] [] [] []
    (lits "first-child") .firstChild (by unfold lits Keyword.text; decide_lit) [nC]
    (.cons ⟨lits "nth-child", [], x0n1, [], rfl, by unfold lits NthName.text; decide_lit, by decide +kernel⟩ .nil)
    rfl sp4 sp4'

/-! ## Accepted and rejected spellings, on the parser model (compiled evaluation: checks, not theorems) -/

def compiles (s : String) : Bool :=
  match Parser.compile pyFoldEnv Gen.lexicon Gen.builtinsRec s.toStr [] 0 with
  | .ok _ => true
  | .error _ => false

/-- The nth records of the first compound of the compiled pattern: `(a, var, b, of_type, last, bool(of S))`. -/
def nthOfText (s : String) : List (Int × Bool × Int × Bool × Bool × Bool) :=
  match Parser.compile pyFoldEnv Gen.lexicon Gen.builtinsRec s.toStr [] 0 with
  | .ok (.mk (.mk _ _ _ _ nth _ _ _ _ _ _ :: _) _ _) =>
    nth.map fun | .mk a v b t l sels => (a, v, b, t, l, sels.nonEmpty)
  | _ => []

-- accepted, with the CSS value (the values of the real library: `(1, True, 3)`, `(1, True, 0)`, …)
#guard nthOfText ":nth-child(n+ 3)" == [(1, true, 3, false, false, true)]
#guard nthOfText ":nth-child(+n)" == [(1, true, 0, false, false, true)]
#guard nthOfText ":nth-child(-n- 1)" == [(-1, true, -1, false, false, true)]
#guard nthOfText ":nth-child(+007n-08)" == [(7, true, -8, false, false, true)]
#guard nthOfText ":nth-child(n/**/+/**/3)" == [(1, true, 3, false, false, true)]
#guard nthOfText ":nth-last-of-type(007)" == [(7, false, 0, true, true, false)]
#guard nthOfText ":nth-of-type(EVEN)" == [(2, true, 0, true, false, false)]
-- rejected (as by CSS)
#guard compiles ":nth-child(- n)" == false
#guard compiles ":nth-child(+ n)" == false
#guard compiles ":nth-child(3 n)" == false
#guard compiles ":nth-child(+ 5)" == false
#guard compiles ":nth-child(2n+-1)" == false
#guard compiles ":nth-child(2n + + 1)" == false
#guard compiles ":nth-child(1 + 2)" == false
#guard compiles ":nth-child(n2)" == false
-- rejected although CSS accepts it: escapes inside the An+B argument
#guard compiles ":nth-child(e\\76 en)" == false

/-! ## The keyword records: identical for `-of-type`, different in `of S` for `-child` -/

#guard nthOfText ":first-of-type" == nthOfText ":nth-of-type(1)"
#guard nthOfText ":only-of-type" == nthOfText ":nth-of-type(1):nth-last-of-type(1)"
#guard nthOfText ":first-child" == [(1, false, 0, false, false, false)]
#guard nthOfText ":nth-child(1)" == [(1, false, 0, false, false, true)]
#guard nthOfText ":only-child" == [(1, false, 0, false, false, false), (1, false, 0, false, true, false)]
#guard nthOfText ":nth-child(1):nth-last-child(1)" == [(1, false, 0, false, false, true), (1, false, 0, false, true, true)]

/-! ## Text → parser model → matcher model on a document, against the real soupsieve -/

def E0 : Env := { env := asciiEnv, bidi := fun _ => 0, wildStrip := id }
def mkAttr (kv : String × String) : Attr := { key := kv.1.toStr, kns := none, kname := none, val := .str kv.2.toStr }
def el (n : String) (attrs : List (String × String)) (kids : List Node) : Node :=
  .elem { isDoc := false, name := n.toStr, pfx := none, ns := none, attrs := attrs.map mkAttr } kids
def docN (kids : List Node) : Node :=
  .elem { isDoc := true, name := "[document]".toStr, pfx := none, ns := none, attrs := [] } kids

def tree : Node := docN [el "div" [] [el "p" [] [], .str .text "text".toStr, el "span" [] [],
  el "p" [("class", "x")] [], .str .comment "c".toStr, el "p" [] [], el "span" [("class", "x")] []]]
def top : Loc := ⟨tree, []⟩
def ctx : Ctx := mkCtx E0 false [] top

/-- Every element of the document that the compiled text matches (`none` if it does not compile). -/
def run (s : String) : Option (List (List Nat)) :=
  match Parser.compile pyFoldEnv Gen.lexicon Gen.builtinsRec s.toStr [] 0 with
  | .ok sl => some (((ctx.tagDescendants top false).filter fun l =>
      match l.elem? with
      | some e => matchList ctx l e sl
      | none => false).map Loc.pos)
  | .error _ => none

/-- The same through the right-hand side of `type_nth_text_iff` (no type selector: the implied `*`). -/
def runSpec (A B : Int) (ofType last : Bool) : List (List Nat) :=
  ((ctx.tagDescendants top false).filter fun l =>
    match l.elem? with
    | some e => matchTag ctx e (some ⟨[42], none⟩) && NthSpec.nthSatB A B (position ctx l e ofType last noOf)
    | none => false).map Loc.pos

-- the values of the real soupsieve (compiled evaluation of the models: checks, not theorems)
#guard run ":NTH-child( 2N + 1 )" == some [[0],[0,0],[0,3],[0,6]]
#guard run ":nth-last-child(-n/**/+ 2)" == some [[0],[0,5],[0,6]]
#guard run ":nth-of-type(+02)" == some [[0,3],[0,6]]
#guard run ":nth-last-of-type(n+2)" == some [[0,0],[0,2],[0,3]]
#guard run ":nth-child(2 of .x)" == some [[0,6]]
#guard run ":nth-last-child(-2n+3 of p)" == some [[0,0],[0,5]]
#guard run "div > p:nth-child(even)" == some [[0,5]]
#guard run ":n\\74h-child(odd)" == some [[0],[0,0],[0,3],[0,6]]
#guard run "div>:nth-child(-n+3):nth-last-child(n+4)" == some [[0,0],[0,2]]
#guard run ":NTH-LAST-OF-TYPE(ODD)" == some [[0],[0,0],[0,5],[0,6]]
#guard run "p:nth-child(-5)" == some []
#guard run ":nth-child(0n+0)" == some []
#guard run ":first-of-type" == some [[0],[0,0],[0,2]]
#guard run "span:first-of-type" == some [[0,2]]
#guard run "span:nth-of-type(1)" == some [[0,2]]
#guard run ":only-of-type" == some [[0]]
#guard run ":only-child" == some [[0]]
#guard run ":nth-child(1):nth-last-child(0n+1)" == some [[0]]
-- and of the right-hand sides of the theorems, with `(A, B) = anbValue x`
#guard runSpec 2 1 false false == [[0],[0,0],[0,3],[0,6]]
#guard runSpec (-1) 2 false true == [[0],[0,5],[0,6]]
#guard runSpec 0 2 true false == [[0,3],[0,6]]
#guard runSpec 1 2 true true == [[0,0],[0,2],[0,3]]
#guard runSpec 2 1 true true == [[0],[0,0],[0,5],[0,6]]
#guard runSpec 0 0 false false == []

end AuditC02Parse
