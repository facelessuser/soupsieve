import SoupVerif.Properties.C12
open SoupVerif
#print axioms C12.nameEq_true_iff
#print axioms C12.uri_def
#print axioms C12.html_without_ns
#print axioms C12.supportsNamespaces_def
#print axioms C12.nsGet_nil
#print axioms C12.nsGet_cons
#print axioms C12.ns_prefix
#print axioms C12.ns_unmapped
#print axioms C12.ns_any
#print axioms C12.ns_none
#print axioms C12.ns_default
#print axioms C12.tag_none
#print axioms C12.tag_some
#print axioms C12.type_selector_ns
#print axioms C12.tagname_ignores_prefix
#print axioms C12.doc_prefix_irrelevant
#print axioms C12.doc_prefix_irrelevant_attr
#print axioms C12.attr_prefix_text_irrelevant
#print axioms C12.attr_prefix_text_irrelevant_gen
#print axioms C12.inNs_iff
#print axioms C12.attr_ns_eq
#print axioms C12.attr_ns
#print axioms C12.attr_ns_unmapped
#print axioms C12.attr_ns_empty
#print axioms C12.attr_ns_empty_eq_bare
#print axioms C12.inAnyNs_iff
#print axioms C12.attr_any_ignores_star_mapping
#print axioms C12.attr_any
#print axioms C12.attr_any_map_independent
#print axioms C12.attr_bare
#print axioms C12.attr_no_ns_support
#print axioms C12.attr_no_ns_support_prefix_irrelevant
#print axioms C12.key_text_matters_without_ns_support
#print axioms C12.key_text_matters_for_empty_uri
-- every designated attribute (`match_attribute_name` is a generator; repair of `[*|a op v]`)
#print axioms SoupVerif.matchAttributeName_eq_head?
#print axioms C12.attr_first_of_values
#print axioms C12.doc_prefix_irrelevant_attr_values
#print axioms C12.attr_ns_values
#print axioms C12.attr_ns_unmapped_values
#print axioms C12.attr_ns_empty_values
#print axioms C12.attr_ns_empty_values_eq_bare
#print axioms C12.attr_any_values
#print axioms C12.attr_any_values_map_independent
#print axioms C12.attr_bare_values
#print axioms C12.attr_no_ns_support_values
#print axioms C12.attr_no_ns_support_prefix_irrelevant_values
#print axioms C12.attr_prefix_text_irrelevant_values
#print axioms C12.attr_prefix_text_irrelevant_gen_values
#print axioms C12.attr_value_test
#print axioms C12.attr_any_value_test
#print axioms C12.attr_ns_value_test
#print axioms C12.attr_ns_empty_value_test
#print axioms C12.attr_ns_empty_matchAttributes_eq_bare
#print axioms C12.attr_any_value_test_spec
#print axioms C12.attr_any_ne_spec
#print axioms C12.attr_any_presence_spec
-- helper lemmas (Lemmas/Names.lean)
#print axioms Names.star_toStr
#print axioms Names.star_ne_nil
#print axioms Names.lower_nil
#print axioms Names.lower_cons
#print axioms Names.lower_eq_nil
#print axioms Names.caseEq_equivalence
#print axioms Names.caseEq_lower
#print axioms Names.nameEq_iff
#print axioms Names.nameEq_xml
#print axioms Names.nameEq_html
#print axioms Names.localNameEq_iff
#print axioms find?_congr
#print axioms Names.find?_map_pairwise₂
#print axioms Names.supportsNamespaces_of_xml
#print axioms Names.man_no_ns
#print axioms Names.man_bare
#print axioms Names.man_unmapped
#print axioms Names.man_ns
#print axioms Names.man_ns_empty
#print axioms Names.man_star
#print axioms Names.filter_map_pairwise₂
#print axioms Names.mav_no_ns
#print axioms Names.mav_bare
#print axioms Names.mav_unmapped
#print axioms Names.mav_ns
#print axioms Names.mav_ns_empty
#print axioms Names.mav_star

/-! Non-vacuity: the hypotheses of the main theorems are jointly satisfiable on concrete contexts
    (more closed examples live next to the theorems in `Properties/C12.lean`). -/
open C12 in
example : matchAttributeName cxml (circle none none [plainHref, xhref "x:href" u1]) "href".toStr "svg".toStr
    = some (.str "v".toStr) := by
  rw [attr_ns_eq cxml _ _ _ u1 (by decide) (by decide) (by decide) (by decide) (by decide)]
  decide
-- `<e x:href="v" href="w"/>` and `[*|href="w"]`: the SECOND designated attribute has the value
-- (real soupsieve after the repair: `<e p:x="1" q:x="2"/>` is selected by `[*|x="2"]`, by
-- `[*|x="1"]`, and not by `[*|x!="2"]`)
open C12 in
example : matchAttributes cxml (circle none none [xhref "x:href" u1, plainHref])
    [⟨"href".toStr, "*".toStr, some (.seq [.lit 119 false, .eos]), none⟩] = true :=
  (attr_any_value_test cxml _ _ _ _ (by decide)).mpr ⟨plainHref, by simp [circle], by decide, by decide⟩
open C12 in
example : matchAttributeName cxml (circle none none [xhref "x:href" u1, plainHref]) "href".toStr "*".toStr
      = some (.str "v".toStr) ∧
    matchAttributeValues cxml (circle none none [xhref "x:href" u1, plainHref]) "href".toStr "*".toStr
      = [.str "v".toStr, .str "w".toStr] := by decide
open C12 in
example : ∃ u, cxml.nsGet "svg".toStr = some u ∧ uri cxml (circle (some "s".toStr) (some u1) []) = u :=
  (ns_prefix cxml _ "circle".toStr "svg".toStr (by decide) (by decide)).mp (by decide)
open C12 in
example : cxml.supportsNamespaces = true ∧ chtml.supportsNamespaces = false ∧
    cxml.nsGet "nope".toStr = none ∧ cxml.nsGet "*".toStr = some u2 ∧ cxmlDefault.nsGet [] = some u1 := by decide
open C12 in
example : uri chtml (circle none none []) = NS_XHTML := html_without_ns _ _ (by decide)
