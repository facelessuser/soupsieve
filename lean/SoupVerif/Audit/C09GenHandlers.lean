/-
  Audit of C09GenHandlers: the token handlers `parse_tag_pattern`, `parse_class_id`, `parse_pseudo_dir`, `parse_pseudo_lang`,
  `parse_pseudo_contains` regenerated from the source (`Generated/PyHandlers.lean`) = the hand-written model's handlers
  (`ParseDisp.runCall`, `Parser.parseValues`).
-/
import SoupVerif.Properties.C09GenHandlers
open SoupVerif

#print axioms PyStr.slice_init
#print axioms PyStr.slice_tail
#print axioms PyStr.slice_inner
#print axioms C09GenHandlers.gen_tag
#print axioms C09GenHandlers.gen_classId
#print axioms C09GenHandlers.gen_dir
#print axioms C09GenHandlers.gen_langStep
#print axioms C09GenHandlers.gen_containsStep
#print axioms C09GenHandlers.go_eq
#print axioms C09GenHandlers.parseValues_gen
#print axioms C09GenHandlers.forAppend_ok
#print axioms C09GenHandlers.forAppend_lang
#print axioms C09GenHandlers.forAppend_contains
#print axioms C09GenHandlers.gen_lang
#print axioms C09GenHandlers.gen_contains
#print axioms C09GenHandlers.runCall_tag_gen
#print axioms C09GenHandlers.runCall_classId_gen
#print axioms C09GenHandlers.runCall_dir_gen
#print axioms C09GenHandlers.runCall_lang_gen
#print axioms C09GenHandlers.runCall_contains_gen
#print axioms C09GenHandlers.genRun_tag_isSome
#print axioms C09GenHandlers.genRun_dir_isSome
#print axioms C09GenHandlers.step_ok
#print axioms C09GenHandlers.finditerOf_gen
#print axioms C09GenHandlers.handlers_list
#print axioms C09GenHandlers.gen_dir_flag
#print axioms C09GenHandlers.gen_step_value
#print axioms C09GenHandlers.gen_step_split
