import SoupVerif.Properties.C01Attr
import SoupVerif.Lemmas.StrLit
open SoupVerif
#print axioms C01Attr.mkSeq_snoc
#print axioms C01Attr.isEmpty_false
#print axioms C01Attr.shape_eq
#print axioms C01Attr.shape_eq1
#print axioms C01Attr.shape_ne
#print axioms C01Attr.shape_empty
#print axioms C01Attr.shape_pre
#print axioms C01Attr.shape_suf
#print axioms C01Attr.shape_sub
#print axioms C01Attr.shape_dash
#print axioms C01Attr.shape_word
#print axioms C01Attr.shape_word_none
#print axioms C01Attr.seq_eq
#print axioms C01Attr.seq_pre
#print axioms C01Attr.seq_suf
#print axioms C01Attr.seq_sub
#print axioms C01Attr.seq_dash
#print axioms C01Attr.seq_word
#print axioms C01Attr.seq_word_none
#print axioms C01Attr.noMatch_class_empty
#print axioms C01Attr.ws_class
#print axioms C01Attr.tmpl_eq_gen
#print axioms C01Attr.tmpl_ne_gen
#print axioms C01Attr.tmpl_eq
#print axioms C01Attr.tmpl_ne
#print axioms C01Attr.tmpl_eq_ic
#print axioms C01Attr.tmpl_ne_ic
#print axioms C01Attr.tmpl_empty
#print axioms C01Attr.tmpl_pre_gen
#print axioms C01Attr.tmpl_suf_gen
#print axioms C01Attr.tmpl_sub_gen
#print axioms C01Attr.tmpl_pre
#print axioms C01Attr.tmpl_pre_ic
#print axioms C01Attr.tmpl_suf
#print axioms C01Attr.tmpl_suf_ic
#print axioms C01Attr.tmpl_sub
#print axioms C01Attr.tmpl_sub_ic
#print axioms C01Attr.tmpl_dash_gen
#print axioms C01Attr.tmpl_dash
#print axioms C01Attr.tmpl_dash_ic
#print axioms C01Attr.tmpl_word_gen
#print axioms C01Attr.tmpl_word
#print axioms C01Attr.tmpl_word_ic
#print axioms C01Attr.tmpl_word_none
#print axioms C01Attr.hasWord_iff'
#print axioms C01Attr.hasWord_iff
#print axioms C01Attr.isWordOf_maximal
#print axioms C01Attr.attrPattern_sem
#print axioms C01Attr.attrPattern_sem_ascii

/-! Non-vacuity: the compiled patterns on concrete strings, evaluated by the kernel. -/
section
open Rx Parser

-- `=` / `!=`
example : isMatch asciiEnv (attrPattern [61] "ab".toStr false false) "ab".toStr = true := by decide_lit
example : isMatch asciiEnv (attrPattern [61] "ab".toStr false false) "aB".toStr = false := by decide_lit
example : isMatch asciiEnv (attrPattern [61] "ab".toStr true false) "aB".toStr = true := by decide_lit
example : isMatch asciiEnv (attrPattern [61] "ab".toStr false false) "abc".toStr = false := by decide_lit
example : isMatch asciiEnv (attrPattern [33, 61] "ab".toStr false false) "ab".toStr = true := by decide_lit
-- `^=`
example : isMatch asciiEnv (attrPattern [94, 61] "ab".toStr false false) "abc".toStr = true := by decide_lit
example : isMatch asciiEnv (attrPattern [94, 61] "ab".toStr false false) "cab".toStr = false := by decide_lit
example : isMatch asciiEnv (attrPattern [94, 61] "ab".toStr true false) "ABc".toStr = true := by decide_lit
example : isMatch asciiEnv (attrPattern [94, 61] [] false false) "abc".toStr = false := by decide_lit
-- `$=`
example : isMatch asciiEnv (attrPattern [36, 61] "bc".toStr false false) "abc".toStr = true := by decide_lit
example : isMatch asciiEnv (attrPattern [36, 61] "bc".toStr false false) "bca".toStr = false := by decide_lit
example : isMatch asciiEnv (attrPattern [36, 61] [] false false) [] = false := by decide +kernel
-- `*=`
example : isMatch asciiEnv (attrPattern [42, 61] "b".toStr false false) "abc".toStr = true := by decide_lit
example : isMatch asciiEnv (attrPattern [42, 61] "d".toStr false false) "abc".toStr = false := by decide_lit
example : isMatch asciiEnv (attrPattern [42, 61] "B".toStr true false) "a\nbc".toStr = true := by decide_lit
example : isMatch asciiEnv (attrPattern [42, 61] [] false false) "abc".toStr = false := by decide_lit
-- `~=`
example : isMatch asciiEnv (attrPattern [126, 61] "b".toStr false false) "a b c".toStr = true := by decide_lit
example : isMatch asciiEnv (attrPattern [126, 61] "b".toStr false false) "a\tb\nc".toStr = true := by decide_lit
example : isMatch asciiEnv (attrPattern [126, 61] "b".toStr false false) "ab c".toStr = false := by decide_lit
example : isMatch asciiEnv (attrPattern [126, 61] "b".toStr false false) "a bc".toStr = false := by decide_lit
example : isMatch asciiEnv (attrPattern [126, 61] "B".toStr true false) "a b".toStr = true := by decide_lit
example : isMatch asciiEnv (attrPattern [126, 61] "a b".toStr false true) "a b".toStr = false := by decide_lit
example : isMatch asciiEnv (attrPattern [126, 61] [] false false) "a b".toStr = false := by decide_lit
example : isMatch asciiEnv (attrPattern [126, 61] [] false false) [] = false := by decide +kernel
-- `|=`
example : isMatch asciiEnv (attrPattern [124, 61] "en".toStr false false) "en".toStr = true := by decide_lit
example : isMatch asciiEnv (attrPattern [124, 61] "en".toStr false false) "en-US".toStr = true := by decide_lit
example : isMatch asciiEnv (attrPattern [124, 61] "en".toStr false false) "eng".toStr = false := by decide_lit
example : isMatch asciiEnv (attrPattern [124, 61] "en".toStr true false) "EN-us".toStr = true := by decide_lit
example : isMatch asciiEnv (attrPattern [124, 61] [] false false) "-x".toStr = true := by decide_lit

-- the specification side on the same inputs
example : Css.valTest .word "b".toStr false "a b c".toStr = true := by decide_lit
example : Css.valTest .word "b".toStr false "ab c".toStr = false := by decide_lit
example : Css.valTest .word "a b".toStr false "a b".toStr = false := by decide_lit
example : Css.valTest .dash "en".toStr true "EN-us".toStr = true := by decide_lit
example : Css.valTest .dash "en".toStr false "eng".toStr = false := by decide_lit
example : Css.valTest .pre [] false "abc".toStr = false := by decide_lit
example : Css.valTest .suf "bc".toStr false "abc".toStr = true := by decide_lit
example : Css.valTest .sub "B".toStr true "a\nbc".toStr = true := by decide_lit
example : Css.hasWord "b".toStr "a b c".toStr = true := by decide_lit
example : Css.IsWordOf "b".toStr "a b c".toStr :=
  ⟨"a ".toStr, " c".toStr, by decide_lit, Or.inr ⟨"a".toStr, 32, by decide_lit, by decide +kernel⟩,
    Or.inr ⟨32, "c".toStr, by decide_lit, by decide +kernel⟩⟩
end
