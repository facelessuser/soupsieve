import SoupVerif.Properties.C10Parse
open SoupVerif

/-! Helpers (`Lemmas/EscapeForms.lean`) -/
#print axioms C10Parse.escape_nulToFFFD
#print axioms C10Parse.escForms_render
#print axioms C10Parse.escForms_value
#print axioms C10Parse.escForms_ok
#print axioms C10Parse.applyItems_simples
#print axioms C10Parse.partsOk_leaf
#print axioms C10Parse.partsOk_compileParts

/-! 1. The bridge -/
#print axioms C10Parse.escape_forms
#print axioms C10Parse.escForms_ok_iff

/-! 2. Parser and matcher on the text -/
#print axioms C10Parse.compound_simple_text
#print axioms C10Parse.item_in_compound_text
#print axioms C10Parse.escAttr_ok_iff
#print axioms C10Parse.guard_noflag
#print axioms C10Parse.guard_flag
#print axioms C10Parse.escape_id_text
#print axioms C10Parse.escape_class_text
#print axioms C10Parse.escape_attr_text
#print axioms C10Parse.hash_escape_text
#print axioms C10Parse.dot_escape_text
#print axioms C10Parse.attr_eq_escape_text
#print axioms C10Parse.select_hash_escape
#print axioms C10Parse.select_dot_escape
#print axioms C10Parse.select_attr_eq_escape
#print axioms C10Parse.mem_selectSpec_one
#print axioms C10Parse.mem_select_hash_escape
#print axioms C10Parse.mem_select_dot_escape
#print axioms C10Parse.mem_select_attr_eq_escape
#print axioms C10Parse.compile_item_general
#print axioms C10Parse.compile_escape_id_general
#print axioms C10Parse.compile_escape_class_general
#print axioms C10Parse.compile_escape_value_general

/-! 3. The excluded point -/
#print axioms C10Parse.escape_empty_not_ident
#print axioms C10Parse.matchText_hash_empty
