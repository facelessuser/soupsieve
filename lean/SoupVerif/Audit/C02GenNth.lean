/-
  Audit of C02GenNth: axioms of the theorems that tie the integer bookkeeping of `CSSMatch.match_nth`, as TRANSLATED
  from the source (`Generated/PyNth.lean`, gen/gen_py_nth.py), to the hand-written three-loop model `Model/Nth.lean`;
  and the generated adjustment block run on concrete records (compiled evaluation: checks, not theorems).
-/
import SoupVerif.Properties.C02GenNthTerm
open SoupVerif

#print axioms PyWhile.whileBrk_mono
#print axioms C02GenNth.init_eq
#print axioms C02GenNth.loop1_sim
#print axioms C02GenNth.loop2_sim
#print axioms C02GenNth.adjustBlock_eq
#print axioms C02GenNth.adjustBlock_nonvar
#print axioms C02GenNth.mainCond_eq
#print axioms C02GenNth.advance_eq
#print axioms C02GenNth.outer_step
#print axioms PyWhile.whileBrk_inv
#print axioms C02GenNth.loop1_terminates
#print axioms C02GenNth.loop1_inv
#print axioms C02GenNth.loop2_terminates
#print axioms C02GenNth.adjustBlock_model_fuel
#print axioms C02GenNth.matchOne_gen
#print axioms C02GenNth.gen_matchOne_iff

namespace AuditC02GenNth
open Gen.PyNth

-- (count, count_incr, idx, last_idx) after the adjustment, for `an+b` in a parent of 5 nodes (last_index = 4)
#guard adjustBlock 20 20 4 2 1 true 0 1 1 1 == some (0, 1, 1, 1)          -- 2n+1
#guard adjustBlock 20 20 4 2 (-5) true 0 1 (-5) (-5) == some (3, 1, 1, 1)   -- 2n-5: first in-range value is at n = 3
#guard adjustBlock 20 20 4 (-1) 3 true 0 1 3 3 == some (2, -1, 1, 1)       -- -n+3: counts down from the lowest in-range value
#guard adjustBlock 20 20 4 (-2) 9 true 0 1 9 9 == some (4, -1, 1, 1)       -- -2n+9
#guard adjustBlock 20 20 4 0 7 true 0 1 7 7 == some (1, 1, 7, 7)           -- 0n+7: out of bounds, not improving
#guard adjustBlock 0 0 4 2 (-5) true 0 1 (-5) (-5) == none                 -- no fuel
#guard init true 2 1 true 5 == (true, 4, 4, 0, 2, 1, true, 0, 1, -1, 1, 1)
#guard init false 3 0 false 5 == (false, 4, 0, 0, 3, 0, false, 0, 1, 1, 3, 3)

end AuditC02GenNth
