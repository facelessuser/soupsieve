import SoupVerif.Properties.C11
open SoupVerif
#print axioms C11.lower_idem
#print axioms C11.caseEq_equivalence
#print axioms C11.caseEq_lower
#print axioms C11.html_tag_fold
#print axioms C11.html_tag_fold_elem
#print axioms C11.html_tag_iff
#print axioms C11.xml_tag_exact
#print axioms C11.html_matchTag_fold
#print axioms C11.xml_tag_case_sensitive_witness
#print axioms C11.html_attr_values_lower
#print axioms C11.html_attr_name_lower
#print axioms C11.html_attr_values_fold
#print axioms C11.html_attr_name_fold
#print axioms C11.html_attr_values_fold_doc
#print axioms C11.html_attr_name_fold_doc
#print axioms C11.str_beq_comm
#print axioms C11.xml_attr_values_exact
#print axioms C11.xml_attr_name_exact
#print axioms C11.xml_attr_values_empty_exact
#print axioms C11.xml_attr_name_empty_exact
#print axioms C11.xml_attr_values_bare_exact
#print axioms C11.xml_attr_bare_exact
#print axioms C11.xml_attr_values_any_exact
#print axioms C11.xml_attr_any_exact
#print axioms C11.attrByName_html
#print axioms C11.attrByName_xml
#print axioms C11.attrByName_html_fold_doc
#print axioms C11.matchId_value_exact
#print axioms C11.xml_type_pattern_choice
#print axioms C11.matchAttributes_nil
#print axioms C11.matchAttributes_append
#print axioms C11.html_uses_pattern
#print axioms C11.xml_uses_type_pattern
#print axioms C11.lit_ic_fold
#print axioms C11.lit_exact
#print axioms C11.runs_lit
#print axioms C11.runsSeq_lits
#print axioms C11.litsEq_exact
#print axioms C11.litsEq_ic
#print axioms C11.isMatch_seq
#print axioms C11.lits_match
#print axioms C11.lits_exact
#print axioms C11.lits_ic
#print axioms C11.lits_case_rule
#print axioms C11.bos_noop
#print axioms C11.value_eq_template
#print axioms C11.value_ic_invariant
#print axioms C11.value_exact_only
#print axioms C11.html_only_never_in_plain_xml
#print axioms C11.not_html_only
#print axioms C11.html_only_in_html
#print axioms C11.isHtml_def
#print axioms C11.isXml_def
#print axioms C11.hasHtmlNs_def
#print axioms C11.plain_xml_iff
#print axioms C11.hasHtmlNs_iff

/-! Non-vacuity: hypotheses are satisfiable on concrete contexts (closed examples live next to the
    theorems in `Properties/C11.lean`). -/
open C11 in
example : chtml.isXml = false ∧ cxml.isXml = true ∧ cxml.isHtml = false ∧ chtml.isHtml = true := by decide
open C11 in
example : matchTagname chtml (div []) ⟨"DIV".toStr, none⟩ = matchTagname chtml (div []) ⟨"div".toStr, none⟩ :=
  html_tag_fold chtml _ _ _ none (by decide) (by decide)
open C11 in
example : matchTagname chtml (div []) ⟨"DIV".toStr, none⟩ = true := by decide
open C11 in
example : Rx.isMatch asciiEnv (.seq (.bos :: ("Ab".toStr.map (Rx.lit · true) ++ [.eos]))) "aB".toStr = true := by
  rw [value_eq_template]; decide
open C11 in
example : Rx.isMatch asciiEnv (.seq (.bos :: ("Ab".toStr.map (Rx.lit · false) ++ [.eos]))) "aB".toStr = false := by
  rw [value_eq_template]; decide
open C11 in
example (l : Loc) (A : List Sel) (n : Bool) : matchList cxml l (div []) (.mk A n true) = false :=
  html_only_never_in_plain_xml cxml l _ A n (by decide)
