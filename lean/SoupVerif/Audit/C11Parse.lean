import SoupVerif.Properties.C11Parse
open SoupVerif

/-! Helpers (`Refine/C11ParseBase.lean`) -/
#print axioms C11Parse.valTest_fold
#print axioms C11Parse.valTest_foldCase
#print axioms C11Parse.valTest_ic_value
#print axioms C11Parse.valTest_ic_subject
#print axioms C11Parse.valTest_eq_sensitive
#print axioms C11Parse.valTest_eq_insensitive
#print axioms C11Parse.ci_none
#print axioms C11Parse.ci_html_type
#print axioms C11Parse.ci_html_plain
#print axioms C11Parse.ci_xml
#print axioms C11Parse.ci_congr
#print axioms C11Parse.NameEq_html
#print axioms C11Parse.NameEq_xml
#print axioms C11Parse.values_congr
#print axioms C11Parse.satAttr_variant
#print axioms C11Parse.satSimple_variant
#print axioms C11Parse.all_satSimple_variant
#print axioms C11Parse.matchTagname_variant
#print axioms C11Parse.matchTag_variant
#print axioms C11Parse.foldNeeded_variant
#print axioms C11Parse.attrByName_eq
#print axioms C11Parse.idOf_iff
#print axioms C11Parse.hasClass_iff

/-! 0. The general law -/
#print axioms C11Parse.compound_case_text

/-! 1. Names, non-XML documents -/
#print axioms C11Parse.type_variant_text
#print axioms C11Parse.type_case_text
#print axioms C11Parse.name_case_text
#print axioms C11Parse.html_type_text
#print axioms C11Parse.attr_variant_text
#print axioms C11Parse.attr_name_case_text
#print axioms C11Parse.attr_value_case_text
#print axioms C11Parse.html_attr_name_text

/-! 2. Values -/
#print axioms C11Parse.attrHolds_ic
#print axioms C11Parse.valueCond_eq
#print axioms C11Parse.valueCond_eq_sensitive
#print axioms C11Parse.valueCond_eq_insensitive
#print axioms C11Parse.testOf_body
#print axioms C11Parse.attr_value_text
#print axioms C11Parse.plain_value_text
#print axioms C11Parse.html_type_value_text
#print axioms C11Parse.xml_value_text
#print axioms C11Parse.flag_i_value_text
#print axioms C11Parse.flag_s_value_text
#print axioms C11Parse.plain_eq_text
#print axioms C11Parse.html_type_eq_text
#print axioms C11Parse.xml_eq_text
#print axioms C11Parse.eq_i_text
#print axioms C11Parse.eq_s_text

/-! 3. XML documents -/
#print axioms C11Parse.designates_html_bare
#print axioms C11Parse.designates_xml_bare
#print axioms C11Parse.designates_xml_ns
#print axioms C11Parse.designates_xml_any
#print axioms C11Parse.xml_type_text
#print axioms C11Parse.xml_attr_name_text
#print axioms C11Parse.xml_eq_i_text

/-! 4. `#id`, `.class` -/
#print axioms C11Parse.id_text
#print axioms C11Parse.class_text

/-! Non-vacuity -/
#print axioms C11Parse.Examples.eqAttr_ok
