/-
  Audit of C19Parse: axioms of every theorem of `Properties/C19Parse.lean` and of the non-vacuity instances.
-/
import SoupVerif.Properties.C19Parse
open SoupVerif
#print axioms C19Parse.matchSel_withContains
#print axioms C19Parse.matchContains_one
#print axioms C19Parse.contains_compound_text
#print axioms C19Parse.contains_type_text
#print axioms C19Parse.soup_contains_text
#print axioms C19Parse.contains_alias_text
#print axioms C19Parse.soup_contains_own_text
#print axioms C19Parse.contains_spelling_text
#print axioms C19Parse.contains_type_text_api
/-! Non-vacuity -/
#print axioms C19Parse.Examples.cA_text
#print axioms C19Parse.Examples.cB_text
#print axioms C19Parse.Examples.cC_text
