import SoupVerif.Properties.C01Sat
import SoupVerif.Properties.C01Ns
open SoupVerif

/-! Main theorems -/
#print axioms C01Sat.templatesOk
#print axioms C01Sat.match_eq_sat_gen
#print axioms C01Sat.good_of
#print axioms C01Sat.match_eq_sat
#print axioms C01Sat.match_eq_sat_noroot
#print axioms C01Sat.match_eq_satTop
#print axioms C01Sat.matchEl_eq
#print axioms C01Sat.select_exact
#print axioms C01Sat.mem_select_iff
#print axioms C01Sat.api_select_exact
#print axioms C01Sat.api_select_exact'
#print axioms SatRootCond.rootAgrees_of_conditions
#print axioms C01Sat.doc_object_never_related
#print axioms C01Sat.sat_child_of_doc
#print axioms C01Sat.match_child_of_doc
#print axioms C01Sat.empty_prefix_suffix_substr_match_nothing
#print axioms C01Sat.match_empty_value_nothing
#print axioms C01Sat.Examples.rootAgrees_example

/-! The induction -/
#print axioms SatMain.simple_ok
#print axioms SatMain.parts_ok
#print axioms SatMain.compound_ok
#print axioms SatMain.complex_ok
#print axioms SatMain.sels_ok
#print axioms SatMain.rels_ok
#print axioms SatMain.rel_ok
#print axioms SatMain.fwd_ok

/-! Tree, leaf and list lemmas it rests on -/
#print axioms SatTree.parent_children
#print axioms SatTree.parent?_children
#print axioms SatTree.child_parent
#print axioms SatTree.prev_not_same
#print axioms SatTree.next_not_same
#print axioms SatTree.ancestors_takeWhile
#print axioms SatTree.parentElem_eq
#print axioms SatTree.descendantElems_eq
#print axioms SatTree.ctx_tagDescendants_false
#print axioms SatTree.Closed.leftOf
#print axioms SatTree.Closed.rightOf
#print axioms SatTree.closed_top
#print axioms SatCore.matchSel_toSel
#print axioms SatCore.walk_left
#print axioms SatCore.walk_right
#print axioms SatLeaf.id_single
#print axioms SatLeaf.class_single
#print axioms SatLeaf.attr_value
#print axioms SatLeaf.attr_pos
#print axioms SatLeaf.attr_neg
#print axioms SatLeaf.empty_eq
#print axioms SatWords.splitWs_contains
#print axioms SatTree.in_tree
#print axioms SatRoot.rootAgrees_of_check
#print axioms Css.Complex.All.of_all
#print axioms Css.Complex.All.imp
#print axioms Css.Complex.All.and
#print axioms Css.Complex.All.of_forall

/-! Default namespace (Properties/C01Ns) -/
#print axioms C01Ns.satType_implied
#print axioms C01Ns.complex_ns
#print axioms C01Ns.withImplied_ns
#print axioms C01Ns.complex_id
#print axioms C01Ns.complex_top
#print axioms C01Ns.satCss_eq_satTop
#print axioms C01Ns.select_exact_css
