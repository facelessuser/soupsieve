import SoupVerif.Properties.C01Parse
open SoupVerif

/-! Main theorems -/
#print axioms C01Parse.denote_listV
#print axioms C01Parse.denote_toSyntax
#print axioms C01Parse.parse_eq_compileList
#print axioms C01Parse.parse_spelling_eq_compileList
#print axioms C01Parse.parse_spelling_eq_compileList_gen
#print axioms C01Parse.select_text_exact
#print axioms C01Parse.select_canonical_text_exact
#print axioms C01Parse.select_text_exact'
#print axioms C01Parse.toSyntax_render_plain
#print axioms C01Parse.parse_renderList_eq_compileList

/-! The canonical spelling: values, side conditions, no NUL, grammatical -/
#print axioms C01Parse.toSyntax_value
#print axioms C01Parse.toSyntax_ok
#print axioms C01Parse.toSyntax_noNul
#print axioms C01Parse.spellable_wf
#print axioms C01Parse.identForms_render
#print axioms C01Parse.identForms_value
#print axioms C01Parse.identForms_ok
#print axioms C01Parse.identForms_noNul
#print axioms C01Parse.strPieces_render
#print axioms C01Parse.strPieces_value
#print axioms C01Parse.strPieces_valid

/-! The induction of step 2 -/
#print axioms C01Parse.attr_sem_none
#print axioms C01Parse.attr_sem_some
#print axioms C01Parse.simple_sem
#print axioms C01Parse.parts_sem
#print axioms C01Parse.compound_sem
#print axioms C01Parse.complex_sem
#print axioms C01Parse.list_sem
#print axioms C01Parse.loop_sem
#print axioms C01Parse.freeze_chain_nested
#print axioms C01Parse.freeze_chain_top

/-! Non-vacuity -/
#print axioms C01Parse.Examples.altX2_spells
#print axioms C01Parse.Examples.altX2_ok
