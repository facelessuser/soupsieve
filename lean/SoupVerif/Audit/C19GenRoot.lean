/-
  Audit of C19GenRoot: `match_root` regenerated from the source (gen/gen_py_textfn.py).
-/
import SoupVerif.Properties.C19GenRoot
open SoupVerif

#print axioms C19GenRoot.prevSiblings_prev
#print axioms C19GenRoot.nextSiblings_next
#print axioms PyApiLoop.whileOpt_done
#print axioms PyApiLoop.walk_eq
#print axioms C19GenRoot.gen_rootCond0
#print axioms C19GenRoot.gen_rootCond1
#print axioms C19GenRoot.gen_rootBody0
#print axioms C19GenRoot.gen_rootBody1
#print axioms C19GenRoot.gen_matchRoot_eq
#print axioms C19GenRoot.gen_matchRoot_total
#print axioms C19GenRoot.gen_matchRoot_iff
