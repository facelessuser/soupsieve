import SoupVerif.Properties.C13Gen
open SoupVerif
#print axioms C13Gen.getItem_nat
#print axioms C13Gen.getItem_len
#print axioms PyLoop.whileLoop_done
#print axioms PyLoop.whileLoop_step
#print axioms C13Gen.loop_spec
#print axioms C13Gen.langRun_eq_runOn
#print axioms C13Gen.runOn_eq_filterCore
#print axioms C13Gen.langSplit_eq
#print axioms C13Gen.langRun_eq_filterCore
#print axioms C13Gen.langRun_eq_extendedFilter
#print axioms C13Gen.langRun_eq_c13
#print axioms C13Gen.langRun_case_insensitive
#print axioms C13Gen.langStep_mono
#print axioms C13Gen.langInit_state
#print axioms C13Gen.getItem_error_iff
