/-
  Audit of C12GenAttr: the generator `CSSMatch.match_attribute_name` regenerated from the source
  (`Generated/PyAttrName.lean`: prologue, per-attribute decisions of the two loops, frame) = the hand-written
  model (`matchAttributeValues`, `C12Parse.designates`).
-/
import SoupVerif.Properties.C12GenAttr
open SoupVerif

#print axioms C12GenAttr.gen_prefixLookup
#print axioms C12GenAttr.gen_prefixLookup_none
#print axioms C12GenAttr.gen_prefixLookup_nsOf
#print axioms C12GenAttr.gen_designates_ns
#print axioms C12GenAttr.gen_designatesPlain
#print axioms C12GenAttr.pyYieldLoop_bool
#print axioms C12GenAttr.gen_match_attribute_name
#print axioms C12GenAttr.values_eq_gen_selected
#print axioms C12GenAttr.values_nil_of_gen_ret
#print axioms C12GenAttr.values_eq_gen_selected_plain
#print axioms C12GenAttr.gen_none_prefix
#print axioms C12GenAttr.gen_designates_nameless_raises
#print axioms C12GenAttr.gen_attr_ns_values
#print axioms C12GenAttr.gen_attr_ns_empty_values
#print axioms C12GenAttr.gen_attr_ns_empty_values_eq_bare
#print axioms C12GenAttr.gen_attr_ns_unmapped_values
#print axioms C12GenAttr.gen_attr_any_values
#print axioms C12GenAttr.gen_attr_bare_values
#print axioms C12GenAttr.gen_attr_no_ns_support_values
