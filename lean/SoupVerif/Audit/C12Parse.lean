import SoupVerif.Properties.C12Parse
open SoupVerif

/-! Helpers (`Refine/NsParseBase.lean`, `Refine/TextVerdict.lean`) -/
#print axioms NsParse.denote_one
#print axioms NsParse.compile_one
#print axioms NsParse.matchEl_mkB
#print axioms NsParse.applyAttr_mkB
#print axioms NsParse.partsOk_attr
#print axioms NsParse.denote_tag_ns
#print axioms NsParse.denote_attr_ns

/-! The compound, the C12 reading -/
#print axioms C12Parse.value_attrV
#print axioms C12Parse.matchTagname_iff
#print axioms C12Parse.matchNamespace_iff
#print axioms C12Parse.matchTag_implTag_iff
#print axioms C12Parse.satAttr_iff
#print axioms C12Parse.designates_no_ns
#print axioms C12Parse.designates_bare
#print axioms C12Parse.designates_any
#print axioms C12Parse.designates_unmapped
#print axioms C12Parse.designates_ns_empty
#print axioms C12Parse.designates_ns

/-! Main theorems -/
#print axioms C12Parse.compound_text
#print axioms C12Parse.type_text
#print axioms C12Parse.ns_type_text
#print axioms C12Parse.any_type_text
#print axioms C12Parse.none_type_text
#print axioms C12Parse.bare_type_text
#print axioms C12Parse.any_universal_text
#print axioms C12Parse.attr_text
#print axioms C12Parse.attr_ns_text
#print axioms C12Parse.attr_ns_unmapped_text
#print axioms C12Parse.attr_ns_empty_text
#print axioms C12Parse.attr_any_text
#print axioms C12Parse.attr_none_text
#print axioms C12Parse.attr_bare_text
#print axioms C12Parse.attr_no_ns_support_text

/-! Non-vacuity -/
#print axioms C12Parse.Examples.anyHref_ok
#print axioms C12Parse.Examples.passes_w
