/-
  Audit of C01GenTag: the leaf tests `match_namespace`, `match_tagname`, `match_tag`, `match_id`,
  `match_classes` regenerated from the source (`Generated/PyMatchSel.lean`) = the hand-written model.
-/
import SoupVerif.Properties.C01GenTag
open SoupVerif

#print axioms C01GenTag.gen_match_namespace
#print axioms C01GenTag.gen_match_tagname
#print axioms C01GenTag.gen_match_tag
#print axioms PyMatchSel.pyAnyList_bool
#print axioms C01GenTag.gen_match_id
#print axioms C01GenTag.gen_match_classes
#print axioms C01GenTag.gen_leaves_in_chain
#print axioms C01GenTag.gen_match_tag_some
#print axioms C01GenTag.gen_match_tag_none
