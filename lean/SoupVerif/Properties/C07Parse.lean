/-
  C07, parser level — "the time compile takes on any pattern, valid or not, grows at most
  polynomially with the input length", for the loop around the tokens.

  Object of the theorems: `ParseCost.compileCost env L B pattern custom flags`
  (Spec/ParseCost.lean), the regular-expression work that the run
  `Parser.compile env L B pattern custom flags` of the parser model triggers, and
  `ParseCost.compileSteps`, its number of iterations of the `parse_selectors` loop.  Both are
  read off the twins `selRun` / `loopRun` / `compileRun` of the model's `parseSelectors` /
  `parseLoop` / `compile` (same recursion, same fuel, the custom-selector table threaded the same
  way), whose result component IS the model's result (`twin_*` below, proved for every lexicon,
  environment, fuel and weight).

  What is proved, for ALL patterns, ALL custom maps, ALL flags, ANY table of built-in selectors,
  and any environment whose case folding is Python's on ASCII and the four special code points
  (instances for `pyFoldEnv`, `asciiEnv`: `compile_cost_poly_py`, `compile_cost_poly_ascii`):

  * `lexicon_in_allRegexes`: every expression the parser can hand to the engine is one of
    `Gen.allRegexes` (kernel evaluation of `Rx.beq` + `beq_sound`), so `C07.tokenize_poly` applies.
  * `compile_steps_le`: iterations ≤ `|pattern| + Σ (|definition| + 1) + 1`.  (A token consumes
    ≥ 1 character, `C06.token_progress`; positions only advance; a definition is parsed at most
    once because its table entry becomes `.compiled`.  This is a bound on the TOTAL number of
    iterations; the fuel argument of C06 bounds the depth of the recursion only.)
  * `compile_cost_poly`:
        `compileCost … ≤ costK · (N + 1)^(workK + 2)`,
    `N = inputSize pattern custom = |pattern| + Σ (|name| + |definition| + 1)`,
    `costK = (3·|css_tokens| + 13)·(workC + 1)`, `workC`, `workK` the constants of `C07.tokenize_poly`.
    The exponent: `workK` for one engine call, `+1` for the calls a `sub` / `search` / `finditer`
    makes over a token's text (one per position), `+1` for the number of loop iterations.

  What the cost counts and what it does not: see the header of Spec/ParseCost.lean (regular-
  expression work only; `Rx.work` is the cost of an exhaustive search).

  Link to the real parser: the driver answers `(19 pattern ((name def) …))` with
  `(compileSteps compileCost)` for `pyFoldEnv`; the C07 check (`harness/props/c07.py`, part 3c) compares
  `compileSteps` with the number of `next(iselector)` calls of `CSSParser.process_selectors()` on random valid
  and invalid patterns with custom maps, cyclic and doubling ones included.
-/
import SoupVerif.Lemmas.ParseCost
import SoupVerif.Properties.C06
import SoupVerif.Properties.C07
set_option autoImplicit false
namespace SoupVerif
namespace C07Parse
open Rx SoupVerif.Parser ParserProgress ParseCost

/-! ## The twins compute the model -/

/-- The result component of the twin of `parseSelectors` is `parseSelectors` (any weight). -/
theorem twin_parseSelectors (w : Weight) (env : CharEnv) (L : Lexicon) (B : Builtins) (pattern : Str)
    (fuel pos idx fl : Nat) (c : Custom) :
    (selRun w env L B pattern fuel pos idx fl c).1 = parseSelectors env L B pattern fuel pos idx fl c :=
  selRun_fst w env L B pattern fuel pos idx fl c

/-- The result component of the twin of `parseLoop` is `parseLoop`. -/
theorem twin_parseLoop (w : Weight) (env : CharEnv) (L : Lexicon) (B : Builtins) (pattern : Str)
    (fuel flags : Nat) (s : LS) :
    (loopRun w env L B pattern fuel flags s).1 = parseLoop env L B pattern fuel flags s :=
  loopRun_fst w env L B pattern fuel flags s

/-- The result component of the twin of `compile` is `compile`: the cost is the cost of THE
    model's run. -/
theorem twin_compile (w : Weight) (env : CharEnv) (L : Lexicon) (B : Builtins) (pattern : Str)
    (custom : List (Str × Str)) (flags : Nat) :
    (compileRun w env L B pattern custom flags).1 = compile env L B pattern custom flags :=
  compileRun_fst w env L B pattern custom flags

/-! ## The lexicon's expressions are bounded; the cost of `compile` is polynomial -/

/-- Every expression of the generated lexicon occurs (syntactically) in `Gen.allRegexes`. -/
theorem lexicon_beq_allRegexes :
    (lexRegexes Gen.lexicon).all (fun r => Gen.allRegexes.any (fun p => Rx.beq p.2 r)) = true := by
  decide +kernel

/-- Every expression the parser hands to the engine is one of the library's expressions. -/
theorem lexicon_in_allRegexes : ∀ r ∈ lexRegexes Gen.lexicon, ∃ p ∈ Gen.allRegexes, p.2 = r := by
  intro r hr
  have h := List.all_eq_true.mp lexicon_beq_allRegexes r hr
  obtain ⟨p, hp, hb⟩ := List.any_eq_true.mp h
  exact ⟨p, hp, beq_sound _ _ hb⟩

/-- `C07.tokenize_poly` for the lexicon. -/
theorem lexicon_rx_bound {env : CharEnv} (ok : EnvOK foldSpecials env) :
    RxBound env Gen.lexicon C07.workC C07.workK := by
  intro r hr s i
  obtain ⟨p, hp, rfl⟩ := lexicon_in_allRegexes r hr
  exact (C07.tokenize_poly ok p hp s i).1

/-- The same for environments without special code points (`asciiEnv`). -/
theorem lexicon_rx_bound_nosp {env : CharEnv} (ok : EnvOK [] env) :
    RxBound env Gen.lexicon C07.workC C07.workK := by
  intro r hr s i
  obtain ⟨p, hp, rfl⟩ := lexicon_in_allRegexes r hr
  exact (C07.tokenize_poly_nosp ok p hp s i).1

/-- `RE_CSS_ESC` and `RE_CSS_STR_ESC` cannot match the empty string. -/
theorem lexicon_esc_ok : EscOK Gen.lexicon := ⟨by decide +kernel, by decide +kernel⟩

/-- **Counting bound.** A whole `compile` executes at most
    `|pattern| + Σ (|definition| + 1) + 1` iterations of the `parse_selectors` loop (calls of
    `next(iselector)`), nested lists and custom-selector definitions included. -/
theorem compile_steps_le (env : CharEnv) (B : Builtins) (pattern : Str) (custom : List (Str × Str))
    (flags : Nat) :
    compileSteps env Gen.lexicon B pattern custom flags ≤ pattern.length + defLen custom + 1 :=
  compileSteps_le env Gen.lexicon B C06.lexicon_ok pattern custom flags

/-- A whole `compile` executes at most `inputSize + 1` iterations. -/
theorem compile_steps_le_input (env : CharEnv) (B : Builtins) (pattern : Str)
    (custom : List (Str × Str)) (flags : Nat) :
    compileSteps env Gen.lexicon B pattern custom flags ≤ inputSize pattern custom + 1 :=
  Nat.le_trans (compile_steps_le env B pattern custom flags)
    (Nat.succ_le_succ (defLen_le_inputSize pattern custom))

/-- Number of slots of `CSSParser.css_tokens` (`#eval` gives 12). -/
def nTokens : Nat := Gen.lexicon.tokens.length

/-- The constant of the bound, from the generated data: `(3·|css_tokens| + 13)·(workC + 1)`
    (`#eval` gives `49 · 2312 = 113288`).  For evaluation only: the theorems below spell the
    expression out instead of using this name, because relating the two in the kernel (`rfl`,
    `unfold`) makes it evaluate `C07.workC`, which takes more than a minute. -/
def costK : Nat := (3 * nTokens + 13) * (C07.workC + 1)

/-- **C07 for the parser.** The regular-expression work of `compile` on any pattern with any
    custom-selector map is at most `costK · (N + 1)^(workK + 2)`, `N` the total input length,
    `costK = (3·|css_tokens| + 13)·(workC + 1)`. -/
theorem compile_cost_poly {env : CharEnv} (ok : EnvOK foldSpecials env) (B : Builtins) (pattern : Str)
    (custom : List (Str × Str)) (flags : Nat) :
    compileCost env Gen.lexicon B pattern custom flags ≤
      (3 * Gen.lexicon.tokens.length + 13) * (C07.workC + 1) *
        (inputSize pattern custom + 1) ^ (C07.workK + 2) :=
  compileCost_le env Gen.lexicon B C06.lexicon_ok lexicon_esc_ok (lexicon_rx_bound ok) pattern custom flags

/-- `compile_cost_poly` for Python's folding and the generated built-ins. -/
theorem compile_cost_poly_py (pattern : Str) (custom : List (Str × Str)) (flags : Nat) :
    compileCost pyFoldEnv Gen.lexicon Gen.builtinsRec pattern custom flags ≤
      (3 * Gen.lexicon.tokens.length + 13) * (C07.workC + 1) *
        (inputSize pattern custom + 1) ^ (C07.workK + 2) :=
  compile_cost_poly C07.pyFoldEnv_ok Gen.builtinsRec pattern custom flags

/-- `compile_cost_poly` for environments without special code points. -/
theorem compile_cost_poly_nosp {env : CharEnv} (ok : EnvOK [] env) (B : Builtins) (pattern : Str)
    (custom : List (Str × Str)) (flags : Nat) :
    compileCost env Gen.lexicon B pattern custom flags ≤
      (3 * Gen.lexicon.tokens.length + 13) * (C07.workC + 1) *
        (inputSize pattern custom + 1) ^ (C07.workK + 2) :=
  compileCost_le env Gen.lexicon B C06.lexicon_ok lexicon_esc_ok (lexicon_rx_bound_nosp ok) pattern custom flags

/-- `compile_cost_poly` for `asciiEnv` and the generated built-ins. -/
theorem compile_cost_poly_ascii (pattern : Str) (custom : List (Str × Str)) (flags : Nat) :
    compileCost asciiEnv Gen.lexicon Gen.builtinsRec pattern custom flags ≤
      (3 * Gen.lexicon.tokens.length + 13) * (C07.workC + 1) *
        (inputSize pattern custom + 1) ^ (C07.workK + 2) :=
  compile_cost_poly_nosp C07.asciiEnv_ok Gen.builtinsRec pattern custom flags

/-- The cost dominates the number of iterations (every iteration weighs ≥ 1), so
    `compile_cost_poly` bounds the loop as well. -/
theorem steps_le_cost (env : CharEnv) (L : Lexicon) (B : Builtins) (pattern : Str)
    (custom : List (Str × Str)) (flags : Nat) :
    compileSteps env L B pattern custom flags ≤ compileCost env L B pattern custom flags :=
  compileSteps_le_cost env L B pattern custom flags

/-! ## Non-vacuity: the cost of concrete patterns (kernel evaluation of the twins)

The step counts below coincide with the number of `next(iselector)` calls of the real parser
(counted by wrapping `CSSParser.selector_iter`). -/

section examples
/-- `div > p.a` -/
def exDiv : Str := [100, 105, 118, 32, 62, 32, 112, 46, 97]
/-- `:is(a, b)` -/
def exIs : Str := [58, 105, 115, 40, 97, 44, 32, 98, 41]
/-- `:--x` -/
def exX : Str := [58, 45, 45, 120]
/-- `a.b` -/
def exAB : Str := [97, 46, 98]
/-- `:--x :--x` -/
def exXX : Str := exX ++ [32] ++ exX
/-- `:--x :--x :--x` -/
def exXXX : Str := exX ++ [32] ++ exX ++ [32] ++ exX

/-- `div`, ` > `, `p`, `.a`, end: 5 iterations. -/
example : compileSteps pyFoldEnv Gen.lexicon Gen.builtinsRec exDiv [] = 5 ∧
    compileCost pyFoldEnv Gen.lexicon Gen.builtinsRec exDiv [] = 495 := by decide +kernel

/-- `:is(`, `a`, `, `, `b`, `)` in the nested list, end: 6 iterations for 9 characters. -/
example : compileSteps pyFoldEnv Gen.lexicon Gen.builtinsRec exIs [] = 6 ∧
    compileCost pyFoldEnv Gen.lexicon Gen.builtinsRec exIs [] = 524 := by decide +kernel

/-- Iterations and cost of `:--x`, `:--x :--x`, `:--x :--x :--x` with `:--x ↦ a.b`. -/
private theorem exX_runs :
    (compileSteps pyFoldEnv Gen.lexicon Gen.builtinsRec exX [(exX, exAB)] = 5 ∧
      compileSteps pyFoldEnv Gen.lexicon Gen.builtinsRec exXX [(exX, exAB)] = 7 ∧
      compileSteps pyFoldEnv Gen.lexicon Gen.builtinsRec exXXX [(exX, exAB)] = 9) ∧
    (compileCost pyFoldEnv Gen.lexicon Gen.builtinsRec exX [(exX, exAB)] = 399 ∧
      compileCost pyFoldEnv Gen.lexicon Gen.builtinsRec exXX [(exX, exAB)] = 681 ∧
      compileCost pyFoldEnv Gen.lexicon Gen.builtinsRec exXXX [(exX, exAB)] = 963) := by
  decide +kernel

/-- A custom selector used once, twice, three times: the definition (`a`, `.b`, end = 3
    iterations) is charged ONCE; every further reference costs 2 iterations (the combinator and
    the reference), not 2 + 3. -/
example : compileSteps pyFoldEnv Gen.lexicon Gen.builtinsRec exX [(exX, exAB)] = 5 ∧
    compileSteps pyFoldEnv Gen.lexicon Gen.builtinsRec exXX [(exX, exAB)] = 7 ∧
    compileSteps pyFoldEnv Gen.lexicon Gen.builtinsRec exXXX [(exX, exAB)] = 9 := exX_runs.1

example : compileCost pyFoldEnv Gen.lexicon Gen.builtinsRec exX [(exX, exAB)] = 399 ∧
    compileCost pyFoldEnv Gen.lexicon Gen.builtinsRec exXX [(exX, exAB)] = 681 ∧
    compileCost pyFoldEnv Gen.lexicon Gen.builtinsRec exXXX [(exX, exAB)] = 963 := exX_runs.2

/-- The counting bound on these: `|pattern| + Σ(|definition| + 1) + 1`. -/
example : exXXX.length + defLen [(exX, exAB)] + 1 = 19 := by decide

/-- Invalid patterns are covered: `:is(a` (unclosed) stops after 3 iterations, the empty pattern
    after 1. -/
example : compileSteps pyFoldEnv Gen.lexicon Gen.builtinsRec [58, 105, 115, 40, 97] [] = 3 ∧
    compileSteps pyFoldEnv Gen.lexicon Gen.builtinsRec [] [] = 1 := by decide +kernel
end examples

/-! ## The table threading matters

A variant of the twin that does NOT store the compiled definition back (after a reference the
table is what it was before it) parses a definition at every reference.  On the doubling chain
`:--a ↦ ":--b :--b"`, `:--b ↦ ":--c :--c"`, `:--c ↦ ":--d :--d"`, `:--d ↦ "p"` the model needs 16
iterations (each definition once; the real parser too), the variant 46 — more than the counting
bound `37`, and doubling with every further level. -/

namespace NoStore

mutual
/-- `selRun unitWeight` over `loopSteps`. -/
def selSteps (env : CharEnv) (L : Lexicon) (B : Builtins) (pattern : Str) :
    Nat → Nat → Nat → Nat → Custom → M SelRes × Nat
  | 0, _, _, _, _ => (.error { kind := .pyBug "RecursionError", pattern := pattern, offset := 0 }, 0)
  | fuel + 1, pos, index, flags, custom =>
    let r := loopSteps env L B pattern fuel flags (initLS pos index flags custom)
    match r.1 with
    | .error e => (.error e, r.2)
    | .ok s => (finishSel env L B pattern flags s, r.2)
/-- `loopRun unitWeight`, except that after the definition of a custom selector has been parsed
    (`idx = 0`: the nested call is on another pattern) the loop continues with the table it had
    BEFORE the reference. -/
def loopSteps (env : CharEnv) (L : Lexicon) (B : Builtins) (pattern : Str) :
    Nat → Nat → LS → M LS × Nat
  | 0, _, s => (.ok s, 0)
  | fuel + 1, flags, s =>
    match stepOf env L B pattern flags s with
    | .done r => (r, 1)
    | .cont s' =>
      let r := loopSteps env L B pattern fuel flags s'
      (r.1, 1 + r.2)
    | .nest pat pos idx fl c k =>
      let r1 := selSteps env L B pat fuel pos idx fl (if idx == 0 then s.custom else c)
      match r1.1 with
      | .error e => (.error e, 1 + r1.2)
      | .ok x =>
        let s' := if idx == 0 then { k x with custom := s.custom } else k x
        let r2 := loopSteps env L B pattern fuel flags s'
        (r2.1, 1 + r1.2 + r2.2)
end

def compileSteps (env : CharEnv) (L : Lexicon) (B : Builtins) (pattern : Str) (custom : List (Str × Str)) : Nat :=
  match processCustom env L custom with
  | .error _ => 0
  | .ok c => (selSteps env L B pattern 200 (startIndex ⟨env, L, B, pattern⟩) 0 0 c).2

/-- `:--a` … `:--d` -/
def nm (c : Nat) : Str := [58, 45, 45, c]
/-- `:--y :--y` -/
def twice (c : Nat) : Str := nm c ++ [32] ++ nm c
def chain : List (Str × Str) := [(nm 97, twice 98), (nm 98, twice 99), (nm 99, twice 100), (nm 100, [112])]

/-- The model: 16 iterations, within the bound 37. -/
example : ParseCost.compileSteps pyFoldEnv Gen.lexicon Gen.builtinsRec (nm 97) chain = 16 ∧
    (nm 97).length + defLen chain + 1 = 37 := by decide +kernel

/-- Recompiling at every reference: 46 iterations. -/
example : compileSteps pyFoldEnv Gen.lexicon Gen.builtinsRec (nm 97) chain = 46 := by decide +kernel

/-- One level less: 22 (the variant doubles per level, the model adds 4: 12). -/
example : compileSteps pyFoldEnv Gen.lexicon Gen.builtinsRec (nm 98) chain.tail = 22 ∧
    ParseCost.compileSteps pyFoldEnv Gen.lexicon Gen.builtinsRec (nm 98) chain.tail = 12 := by
  decide +kernel

end NoStore

end C07Parse
end SoupVerif
