/-
  `CSSParser.parse_combinator` / `CSSParser.parse_has_combinator`: the structure REGENERATED from the source text
  (`Generated/PyCombinators.lean`, by gen/gen_py_combinators.py) means exactly the hand-written model functions
  `Parser.parseCombinator` / `Parser.parseHasCombinator` -- for all parser environments, tokens, loop states, flags
  and offsets.  Every theorem about the hand model (C06 totality / error kinds, C09 compile steps, C05
  `denote_comma`, C20 `offset_*_comb`) therefore holds of what the source says; the key steps those theorems
  rest on are restated below about the `Gen.PyCombinators` definitions.

  The proofs name only `Gen.PyCombinators.parse_combinator` / `parse_has_combinator` and the two combinator constants
  `WS_COMBINATOR`, `COMMA_COMBINATOR` (`consts`).
-/
import SoupVerif.Model.ParseDispatch
import SoupVerif.Model.CombDyn
import SoupVerif.Generated.PyCombinators
import SoupVerif.Lemmas.ParserProgress.Comb
namespace SoupVerif
namespace C06GenComb
open Rx SoupVerif.Parser SoupVerif.CombDyn SoupVerif.ParseDisp SoupVerif.ParserProgress

theorem combOf_relation (P : PEnv) (t : Token) : combOf P t "relation" 32 = combinatorOf P t := by
  unfold combOf combinatorOf
  rfl

theorem parse_combinator_eq (P : PEnv) (t : Token) (s : LS) (isPseudo isForgive : Bool) (index : Nat) :
    Gen.PyCombinators.parse_combinator.run ["has_selector", "sel"] ⟨P, t, isPseudo, isForgive, index⟩ s
      = parseCombinator P t s isPseudo isForgive index := by
  simp only [Fn.run, Gen.PyCombinators.parse_combinator, combOf_relation, parseCombinator]
  generalize combinatorOf P t = c
  obtain ⟨sel, sels, hs, cl, rels, rt, ih, ix, pos, cu⟩ := s
  -- without a selector only `is_forgive` and the comma matter; with one, the comma and the implied `*`
  cases hs
  · cases isForgive <;> by_cases hc : c = 44 <;>
      simp [Prog.run, Act.run, Cond.eval, Off.eval, Msg.kind, hc]
  · cases isPseudo <;> by_cases hc : c = 44 <;> by_cases ht : sel.tag = none <;>
      simp [Prog.run, Act.run, Cond.eval, Off.eval, Msg.kind, hc, ht]

theorem combHasRel_ws : combHasRel 32 = .hasDesc := by decide

theorem parse_has_combinator_eq (P : PEnv) (t : Token) (s : LS) (isPseudo isForgive : Bool) (index : Nat) :
    Gen.PyCombinators.parse_has_combinator.run ["has_selector", "sel", "rel_type"] ⟨P, t, isPseudo, isForgive, index⟩ s
      = parseHasCombinator P t s index := by
  simp only [Fn.run, Gen.PyCombinators.parse_has_combinator, combOf_relation, parseHasCombinator]
  generalize combinatorOf P t = c
  obtain ⟨sel, sels, hs, cl, rels, rt, ih, ix, pos, cu⟩ := s
  cases hs <;> by_cases hc : c = 44 <;> by_cases hr : rt = .hasDesc <;>
    simp [Prog.run, Act.run, Cond.eval, Off.eval, Msg.kind, combHasRel_ws, hc, hr]

/-- The context a call from the token loop of `parse_selectors` supplies (`Gen.PyParseDisp.dispatch`'s `combine`
    branch passes `is_pseudo`, `is_forgive`, `index`). -/
def loopCtx (P : PEnv) (flags : Nat) (s : LS) (t : Token) : Ctx :=
  ⟨P, t, (flags &&& FLG_PSEUDO) != 0, (flags &&& FLG_FORGIVE) != 0, s.index⟩

/-- The two handler calls of the `combine` branch of the generated dispatch (`ParseDisp.runCombinator`, the
    meaning `C06GenDispatch.stepOf_gen` gives them) run the GENERATED handler bodies. -/
theorem runCombinator_gen (env : CharEnv) (L : Lexicon) (B : Builtins) (pattern : Str) (flags : Nat) (s : LS)
    (t : Token) (relative : Bool) (c : Call) :
    runCombinator env L B pattern flags s t relative c =
      if relative && c == ("parse_has_combinator", ["selectors", "rel_type", "index"], ["has_selector", "sel", "rel_type"]) then
        some (Gen.PyCombinators.parse_has_combinator.run ["has_selector", "sel", "rel_type"]
          (loopCtx ⟨env, L, B, pattern⟩ flags s t) s)
      else if !relative && c == ("parse_combinator", ["selectors", "relations", "is_pseudo", "is_forgive", "index"], ["has_selector", "sel"]) then
        some (Gen.PyCombinators.parse_combinator.run ["has_selector", "sel"] (loopCtx ⟨env, L, B, pattern⟩ flags s t) s)
      else none := by
  simp only [loopCtx, parse_combinator_eq, parse_has_combinator_eq]
  rfl

theorem consts : Gen.PyCombinators.WS_COMBINATOR = 32 ∧ Gen.PyCombinators.COMMA_COMBINATOR = 44 := ⟨rfl, rfl⟩

/-- C20 `offset_leading_comb` / `offset_double_comb`: a combinator with no selector before it raises "must have a
    selector before it" AT `index` (not at the token) -- unless it is a comma in a forgiving list. -/
theorem gen_needs_selector (x : Ctx) (s : LS) (hs : s.hasSelector = false)
    (h : x.isForgive = false ∨ combinatorOf x.P x.t ≠ 44) :
    Gen.PyCombinators.parse_combinator.run ["has_selector", "sel"] x s =
      .error ⟨.combinatorNeedsSelector, x.P.pattern, x.index⟩ := by
  obtain ⟨P, t, ip, ifg, ix⟩ := x
  rw [parse_combinator_eq]
  rcases h with h | h <;> simp_all [parseCombinator, PEnv.err]

/-- The forgiving empty slot (`:is(, a)`): a "no match" selector is appended and the pending relations are dropped. -/
theorem gen_forgiving_empty_slot (x : Ctx) (s : LS) (hs : s.hasSelector = false) (hf : x.isForgive = true)
    (hc : combinatorOf x.P x.t = 44) :
    Gen.PyCombinators.parse_combinator.run ["has_selector", "sel"] x s =
      .ok { s with selectors := s.selectors ++ [s.sel.setNoMatch], relations := [], sel := .empty, hasSelector := false } := by
  obtain ⟨P, t, ip, ifg, ix⟩ := x
  rw [parse_combinator_eq]
  simp_all [parseCombinator]

/-- C05 `denote_comma` / C09 `CompileCombStep`: the comma closes the compound -- implied `*` (only outside a pseudo-class
    and when no tag was given), the pending relations become ITS relations, it is appended to the list, and the
    pending relations are cleared. -/
theorem gen_comma (x : Ctx) (s : LS) (hs : s.hasSelector = true) (hc : combinatorOf x.P x.t = 44) :
    Gen.PyCombinators.parse_combinator.run ["has_selector", "sel"] x s =
      .ok { s with
        selectors := s.selectors ++
          [((if s.sel.tag.isNone && !x.isPseudo then s.sel.setTag ⟨[42], none⟩ else s.sel).addRelations s.relations)],
        relations := [], sel := .empty, hasSelector := false } := by
  obtain ⟨P, t, ip, ifg, ix⟩ := x
  rw [parse_combinator_eq]
  simp_all [parseCombinator]

/-- C09 `CompileCombStep`: any other combinator makes the closed compound (with `rel_type` = the combinator) the
    ONLY pending relation. -/
theorem gen_other_combinator (x : Ctx) (s : LS) (hs : s.hasSelector = true) (hc : combinatorOf x.P x.t ≠ 44) :
    Gen.PyCombinators.parse_combinator.run ["has_selector", "sel"] x s =
      .ok { s with
        relations :=
          [(((if s.sel.tag.isNone && !x.isPseudo then s.sel.setTag ⟨[42], none⟩ else s.sel).addRelations s.relations).setRelType
            (combRel (combinatorOf x.P x.t)))],
        sel := .empty, hasSelector := false } := by
  obtain ⟨P, t, ip, ifg, ix⟩ := x
  rw [parse_combinator_eq]
  simp_all [parseCombinator]

/-- In a relative list (`:has(, a)`) a comma with no selector before it is a syntax error at `index`, as in
    `parse_combinator`. -/
theorem gen_has_comma_needs_selector (x : Ctx) (s : LS) (hs : s.hasSelector = false) (hc : combinatorOf x.P x.t = 44) :
    Gen.PyCombinators.parse_has_combinator.run ["has_selector", "sel", "rel_type"] x s =
      .error ⟨.combinatorNeedsSelector, x.P.pattern, x.index⟩ := by
  obtain ⟨P, t, ip, ifg, ix⟩ := x
  rw [parse_has_combinator_eq]
  simp_all [parseHasCombinator, PEnv.err]

/-- A leading combinator of a relative selector is allowed exactly once: it becomes `rel_type`. -/
theorem gen_has_leading (x : Ctx) (s : LS) (hs : s.hasSelector = false) (hc : combinatorOf x.P x.t ≠ 44) :
    Gen.PyCombinators.parse_has_combinator.run ["has_selector", "sel", "rel_type"] x s =
      if s.relType != .hasDesc then .error ⟨.multipleCombinators, x.P.pattern, x.index⟩
      else .ok { s with relType := combHasRel (combinatorOf x.P x.t), sel := .empty, hasSelector := false } := by
  obtain ⟨P, t, ip, ifg, ix⟩ := x
  rw [parse_has_combinator_eq]
  simp_all [parseHasCombinator, PEnv.err]

/-- C06: the only exceptions the two handlers raise are the two `SelectorSyntaxError`s, at `index`, with the
    parser's own pattern. -/
theorem gen_errors (x : Ctx) (s : LS) (e : Err)
    (h : Gen.PyCombinators.parse_combinator.run ["has_selector", "sel"] x s = .error e ∨
         Gen.PyCombinators.parse_has_combinator.run ["has_selector", "sel", "rel_type"] x s = .error e) :
    (e.kind = .combinatorNeedsSelector ∨ e.kind = .multipleCombinators) ∧ e.pattern = x.P.pattern ∧ e.offset = x.index := by
  obtain ⟨P, t, ip, ifg, ix⟩ := x
  rw [parse_combinator_eq, parse_has_combinator_eq] at h
  have hp : CombPost P ix s (.error e) := by
    rcases h with h | h <;> rw [← h]
    · exact parseCombinator_post ..
    · exact parseHasCombinator_post ..
  exact ⟨hp.1, hp.2 ▸ rfl, hp.2 ▸ rfl⟩

/-- Both handlers hand back a fresh compound and `has_selector = False`, and never touch `closed` / `index` / `pos`. -/
theorem gen_ok (x : Ctx) (s s' : LS)
    (h : Gen.PyCombinators.parse_combinator.run ["has_selector", "sel"] x s = .ok s' ∨
         Gen.PyCombinators.parse_has_combinator.run ["has_selector", "sel", "rel_type"] x s = .ok s') :
    s'.sel = .empty ∧ s'.hasSelector = false ∧ s'.closed = s.closed ∧ s'.index = s.index ∧ s'.pos = s.pos := by
  obtain ⟨P, t, ip, ifg, ix⟩ := x
  rw [parse_combinator_eq, parse_has_combinator_eq] at h
  have hp : CombPost P ix s (.ok s') := by
    rcases h with h | h <;> rw [← h]
    · exact parseCombinator_post ..
    · exact parseHasCombinator_post ..
  exact ⟨hp.1, hp.2.1, hp.2.2.1, hp.2.2.2.1, hp.2.2.2.2.1⟩

end C06GenComb
end SoupVerif
