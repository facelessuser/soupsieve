/-
  C07 — "the time any of the library's regular expressions takes on any selector text or
  document attribute value grows at most polynomially with the input length".

  Model: the backtracking matcher `Rx.runs` (list of successes, with multiplicity).
  * `Rx.paths env s r i` = number of backtracking paths of `r` from `i`;
  * `Rx.work env s r i`  = number of sub-match attempts of an exhaustive backtracking search;
  * `Rx.Det sp r`      (decidable, syntactic) ⇒ all ends of `r` from any start are distinct;
  * `Rx.StarSafe sp r` (decidable, syntactic) = every unbounded repeat inside `r` (also inside
    look-arounds) is `Det`; bounded repeats are `Det` or have a `StarSafe` body.
  The analysis is parameterised by a list `sp : Specials` of non-ASCII code points that
  case-insensitive matching identifies with ASCII letters.  The environment hypothesis
  `EnvOK sp env` (folding = ASCII lower-casing on ASCII; every special folds to its ASCII image;
  no other non-ASCII code point folds into ASCII) is what makes the first-set tables sound:
  * `asciiEnv` (folding = ASCII lower-casing only) has it for `sp = []`;
  * `pyFoldEnv` (under which the driver runs) has it for `sp = foldSpecials`: the four code points `İ ı ſ K` that Python's
    `re.IGNORECASE` identifies with `i i s k`.  Every special code point has its own exact
    column in the tables, so an expression that is ambiguous only because of such a code point
    is rejected (examples at the end).

  Everything is proved for every generated expression (none excluded), for both environments.
  `ends_nodup` is stated for `Det` (and for the unbounded repeats of a `StarSafe` expression),
  NOT for every `StarSafe` expression, because that would be false: `RE_CSS_ESC` is `StarSafe`
  but its top-level branches overlap (`\a` is matched by two branches, ends `[2, 2]`), which is a
  constant factor and not an iteration ambiguity.
-/
import SoupVerif.Lemmas.RegexCost
import SoupVerif.Generated.Regexes
set_option autoImplicit false
namespace SoupVerif
namespace C07
open Rx

/-! ## Deterministic ⇒ unambiguous -/

/-- The end positions produced by a `Det` expression are pairwise distinct: no stretch of input
    is matched along two different backtracking paths. -/
theorem ends_nodup {sp : Specials} {r : Rx} (h : Det sp r = true) {env : CharEnv}
    (ok : EnvOK sp env) (s : Str) (i : Nat) (caps : Caps) :
    ((runs env s r i caps).map (·.1)).Nodup := by
  rw [runs_map_fst]; exact det_ends_nodup env ok s r h i

/-- Unique decomposition: every unbounded repeat accepted by `StarSafe` reaches each end
    position along exactly one sequence of body matches. -/
theorem iter_nodup {sp : Specials} {mn : Nat} {g : Bool} {body : Rx}
    (h : StarSafe sp (.rep mn none g body) = true)
    {env : CharEnv} (ok : EnvOK sp env) (s : Str) (i : Nat) (caps : Caps) :
    ((runs env s (.rep mn none g body) i caps).map (·.1)).Nodup :=
  ends_nodup (starSafe_star_det h) ok s i caps

/-- A `Det` expression has at most `|s| + 1` backtracking paths from any start. -/
theorem det_paths_le {sp : Specials} {r : Rx} (h : Det sp r = true) {env : CharEnv}
    (ok : EnvOK sp env) (s : Str) (i : Nat) (caps : Caps) :
    (runs env s r i caps).length ≤ s.length + 1 := by
  rw [← List.length_map (f := (·.1)), runs_map_fst]; exact det_length_le env ok s r h i

private theorem not_det_of_dup {sp : Specials} {r : Rx} {env : CharEnv} (ok : EnvOK sp env) {s : Str}
    {i : Nat} (h : ¬ (ends env s r i).Nodup) : Det sp r = false := by
  cases hd : Det sp r with
  | false => rfl
  | true => exact absurd (det_ends_nodup env ok s r hd i) h

/-! ## `StarSafe` ⇒ polynomially many paths, polynomial work; the tokenizer -/

/-- The number of backtracking paths of a `StarSafe` expression is polynomial in `|s|`. -/
theorem paths_le {sp : Specials} {r : Rx} (h : StarSafe sp r = true) {env : CharEnv}
    (ok : EnvOK sp env) (s : Str) (i : Nat) (caps : Caps) :
    (runs env s r i caps).length ≤ pcoef sp r * (s.length + 1) ^ pdeg sp r := by
  rw [← List.length_map (f := (·.1)), runs_map_fst]; exact ends_poly env ok s r h i

/-- The cost function dominates the number of paths (no hypothesis). -/
theorem paths_le_work (env : CharEnv) (s : Str) (r : Rx) (i : Nat) :
    paths env s r i ≤ work env s r i := Rx.paths_le_work env s r i

/-- The work of an exhaustive backtracking search of a `StarSafe` expression is polynomial in
    `|s|`, with constants computed from the expression. -/
theorem work_poly {sp : Specials} {r : Rx} (h : StarSafe sp r = true) {env : CharEnv}
    (ok : EnvOK sp env) (s : Str) (i : Nat) :
    work env s r i ≤ wcoef sp r * (s.length + 1) ^ wdeg sp r :=
  work_poly_aux env ok s r h i

/-- The ASCII environment satisfies the hypothesis with no special code points. -/
theorem asciiEnv_ok : EnvOK [] asciiEnv := Rx.asciiEnv_ok

/-- Python's `re.IGNORECASE | re.UNICODE` folding, as far as ASCII is concerned: `İ ı ſ K` are
    identified with `i i s k`; no other non-ASCII code point is identified with an ASCII one. -/
theorem pyFoldEnv_ok : EnvOK foldSpecials pyFoldEnv := Rx.pyFoldEnv_ok

/-- Every regular expression generated from the Python source passes the check made for the
    ASCII environment (no special code points). -/
theorem all_safe_ascii : ∀ p ∈ Gen.allRegexes, Rx.StarSafe [] p.2 = true := by decide +kernel

/-- Every regular expression generated from the Python source passes the check that takes
    Python's four non-ASCII/ASCII case identifications into account. -/
theorem all_safe_py : ∀ p ∈ Gen.allRegexes, Rx.StarSafe foldSpecials p.2 = true := by
  decide +kernel

theorem all_safe : ∀ p ∈ Gen.allRegexes,
    Rx.StarSafe [] p.2 = true ∧ Rx.StarSafe foldSpecials p.2 = true :=
  fun p hp => ⟨all_safe_ascii p hp, all_safe_py p hp⟩

/-- The generated expressions the check leaves out (for either list of special code points): none. -/
def excluded : List String := []

/-- Uniform constants over all generated expressions, for the check made with `sp`. -/
def workCOf (sp : Specials) : Nat := listMax (Gen.allRegexes.map fun p => wcoef sp p.2)
def workKOf (sp : Specials) : Nat := listMax (Gen.allRegexes.map fun p => wdeg sp p.2)
def pathsCOf (sp : Specials) : Nat := listMax (Gen.allRegexes.map fun p => pcoef sp p.2)
def pathsKOf (sp : Specials) : Nat := listMax (Gen.allRegexes.map fun p => pdeg sp p.2)

/-- Uniform constants valid for both environments: the maximum of the two.  (Nothing below relies
    on the two checks yielding the same constants.) -/
def workC : Nat := max (workCOf []) (workCOf foldSpecials)
def workK : Nat := max (workKOf []) (workKOf foldSpecials)
def pathsC : Nat := max (pathsCOf []) (pathsCOf foldSpecials)
def pathsK : Nat := max (pathsKOf []) (pathsKOf foldSpecials)

/-- The constants are computed from the generated expressions (`#eval (workC, workK, pathsC, pathsK)`
    prints them); they are closed natural numbers, so the bounds below are concrete polynomials.
    (They are deliberately not pinned to literals: a harmless edit of a regular expression changes
    them.) -/
theorem consts_closed : ∃ a b c d : Nat, workC = a ∧ workK = b ∧ pathsC = c ∧ pathsK = d := ⟨_, _, _, _, rfl, rfl, rfl, rfl⟩

/-- Every expression of a list that passes the check made with `sp` costs, in any environment
    satisfying `EnvOK sp`, at most `workCOf sp * (|s|+1)^workKOf sp` sub-match attempts on any
    input `s` from any start, hence at most that many backtracking paths. -/
theorem tokenize_poly_of {sp : Specials} (hs : ∀ p ∈ Gen.allRegexes, StarSafe sp p.2 = true)
    {env : CharEnv} (ok : EnvOK sp env) :
    ∀ p ∈ Gen.allRegexes, ∀ (s : Str) (i : Nat),
      work env s p.2 i ≤ workCOf sp * (s.length + 1) ^ workKOf sp ∧
      paths env s p.2 i ≤ workCOf sp * (s.length + 1) ^ workKOf sp := by
  intro p hp s i
  have h := le_mul_pow (Nat.succ_pos _) (work_poly (hs p hp) ok s i)
    (le_listMax_map (fun p => wcoef sp p.2) hp) (le_listMax_map (fun p => wdeg sp p.2) hp)
  exact ⟨h, Nat.le_trans (Rx.paths_le_work env s p.2 i) h⟩

/-- The number of backtracking paths alone has smaller constants: `pathsCOf sp`, `pathsKOf sp`. -/
theorem tokenize_paths_poly_of {sp : Specials}
    (hs : ∀ p ∈ Gen.allRegexes, StarSafe sp p.2 = true) {env : CharEnv} (ok : EnvOK sp env) :
    ∀ p ∈ Gen.allRegexes, ∀ (s : Str) (i : Nat),
      paths env s p.2 i ≤ pathsCOf sp * (s.length + 1) ^ pathsKOf sp := by
  intro p hp s i
  exact le_mul_pow (Nat.succ_pos _) (paths_le (hs p hp) ok s i [])
    (le_listMax_map (fun p => pcoef sp p.2) hp) (le_listMax_map (fun p => pdeg sp p.2) hp)

/-- Every library expression costs at most `workC * (|s|+1)^workK` sub-match attempts on any
    input `s` from any start, hence at most that many backtracking paths, in every environment
    whose folding identifies exactly Python's four special code points with ASCII letters. -/
theorem tokenize_poly {env : CharEnv} (ok : EnvOK foldSpecials env) :
    ∀ p ∈ Gen.allRegexes, ∀ (s : Str) (i : Nat),
      work env s p.2 i ≤ workC * (s.length + 1) ^ workK ∧
      paths env s p.2 i ≤ workC * (s.length + 1) ^ workK := by
  intro p hp s i
  have hN : 0 < s.length + 1 := Nat.succ_pos _
  obtain ⟨h1, h2⟩ := tokenize_poly_of all_safe_py ok p hp s i
  exact ⟨le_mul_pow hN h1 (Nat.le_max_right _ _) (Nat.le_max_right _ _),
    le_mul_pow hN h2 (Nat.le_max_right _ _) (Nat.le_max_right _ _)⟩

/-- The bound for Python's case-insensitive matching (`re.I | re.U`), including the four
    non-ASCII code points that match ASCII letters. -/
theorem tokenize_poly_py :
    ∀ p ∈ Gen.allRegexes, ∀ (s : Str) (i : Nat),
      work pyFoldEnv s p.2 i ≤ workC * (s.length + 1) ^ workK := by
  intro p hp s i
  exact (tokenize_poly pyFoldEnv_ok p hp s i).1

/-- The bound of `tokenize_poly` for every environment without special code points. -/
theorem tokenize_poly_nosp {env : CharEnv} (ok : EnvOK [] env) :
    ∀ p ∈ Gen.allRegexes, ∀ (s : Str) (i : Nat),
      work env s p.2 i ≤ workC * (s.length + 1) ^ workK ∧
      paths env s p.2 i ≤ workC * (s.length + 1) ^ workK := by
  intro p hp s i
  have hN : 0 < s.length + 1 := Nat.succ_pos _
  obtain ⟨h1, h2⟩ := tokenize_poly_of all_safe_ascii ok p hp s i
  exact ⟨le_mul_pow hN h1 (Nat.le_max_left _ _) (Nat.le_max_left _ _),
    le_mul_pow hN h2 (Nat.le_max_left _ _) (Nat.le_max_left _ _)⟩

/-- The bound of `tokenize_poly` for `asciiEnv`. -/
theorem tokenize_poly_ascii :
    ∀ p ∈ Gen.allRegexes, ∀ (s : Str) (i : Nat),
      work asciiEnv s p.2 i ≤ workC * (s.length + 1) ^ workK := by
  intro p hp s i
  exact (tokenize_poly_nosp asciiEnv_ok p hp s i).1

/-- Sharper bound on the number of backtracking paths of every library expression (Python's
    special code points). -/
theorem tokenize_paths_poly {env : CharEnv} (ok : EnvOK foldSpecials env) :
    ∀ p ∈ Gen.allRegexes, ∀ (s : Str) (i : Nat),
      paths env s p.2 i ≤ pathsC * (s.length + 1) ^ pathsK := by
  intro p hp s i
  exact le_mul_pow (Nat.succ_pos _) (tokenize_paths_poly_of all_safe_py ok p hp s i)
    (Nat.le_max_right _ _) (Nat.le_max_right _ _)

theorem tokenize_paths_poly_py :
    ∀ p ∈ Gen.allRegexes, ∀ (s : Str) (i : Nat),
      paths pyFoldEnv s p.2 i ≤ pathsC * (s.length + 1) ^ pathsK :=
  tokenize_paths_poly pyFoldEnv_ok

theorem tokenize_paths_poly_ascii :
    ∀ p ∈ Gen.allRegexes, ∀ (s : Str) (i : Nat),
      paths asciiEnv s p.2 i ≤ pathsC * (s.length + 1) ^ pathsK := by
  intro p hp s i
  exact le_mul_pow (Nat.succ_pos _) (tokenize_paths_poly_of all_safe_ascii asciiEnv_ok p hp s i)
    (Nat.le_max_left _ _) (Nat.le_max_left _ _)

/-- The number of ends of a star satisfies the recurrence "one for stopping, plus those from every
    end of the body", on an interval `lo … n` of starts in which the body advances and stays. -/
private theorem iterE_length_rec (body : Nat → List Nat) (F : Nat → Nat) (lo n : Nat) (g : Bool)
    (hadv : ∀ p ≤ n, lo ≤ p → ∀ q ∈ body p, p < q ∧ q ≤ n)
    (hF : ∀ p ≤ n, lo ≤ p → F p = 1 + ((body p).map F).sum) :
    ∀ f c p, p ≤ n → lo ≤ p → n - p < f → (iterE body 0 none g f c p).length = F p := by
  intro f
  induction f with
  | zero => intro c p _ _ h; omega
  | succ f ih =>
    intro c p hp hl h
    rw [(iterE_perm body 0 none g f c p).length_eq, hF p hp hl]
    simp only [stopE, moreE, canMore, Nat.zero_le, ge_iff_le, if_true, List.length_append,
      List.length_cons, List.length_nil, List.length_flatMap]
    congr 2
    refine List.map_congr_left fun q hq => ?_
    obtain ⟨h1, h2⟩ := hadv p hp hl q hq
    rw [stepE_of_pos h1]
    exact ih (c + 1) q h2 (by omega) (by omega)

/-- Two leaves that both accept `c`, as alternatives under a star, on `c…c` (`n` times): every
    prefix is matched along every choice of branches. -/
private theorem paths_star_twice {env : CharEnv} {x y : Rx} (hx : isLeaf x = true)
    (hy : isLeaf y = true) {c : Nat} (cx : charOk env x c = true) (cy : charOk env y c = true)
    (n : Nat) (g : Bool) :
    paths env (List.replicate n c) (.rep 0 none g (.alt [x, y])) 0 = 2 ^ (n + 1) - 1 := by
  rw [paths_eq]
  simp only [ends]
  have hb : ∀ p, endsAlt env (List.replicate n c) [x, y] p =
      if p < n then [p + 1, p + 1] else [] := by
    intro p
    simp only [endsAlt, ends_leaf _ _ _ hx, ends_leaf _ _ _ hy, List.getElem?_replicate]
    by_cases hp : p < n <;> simp [hp, cx, cy]
  refine iterE_length_rec _ (fun p => 2 ^ (n + 1 - p) - 1) 0 n g ?_ ?_ _ _ _ (Nat.zero_le _)
    (Nat.zero_le _) (by simp)
  · intro p _ _ q hq
    rw [hb] at hq
    split at hq <;> simp at hq
    omega
  · intro p hp _
    rw [hb]
    split
    · simp only [List.map_cons, List.map_nil, List.sum_cons, List.sum_nil]
      have e : n + 1 - p = (n + 1 - (p + 1)) + 1 := by omega
      have := Nat.one_le_two_pow (n := n + 1 - (p + 1))
      rw [e, Nat.pow_succ]; omega
    · have : n + 1 - p = 1 := by omega
      simp [this]

/-! ## The quoted-value pattern before fix 1610f1f is expressible and rejected -/

/-- The star of the quoted-value pattern `"(?:\\.|[^\\"]+)*?"` before fix 1610f1f: a `+` inside
    a `*?`. -/
def oldStar : Rx :=
  .rep 0 none false (.alt [.seq [.lit 92 false, .any false],
    .rep 1 none true (.set true [.ch 92, .ch 34] false)])
def oldValue : Rx := .seq [.lit 34 false, oldStar, .lit 34 false]
/-- `"` followed by `n` letters `a`, no closing quote. -/
def pump (n : Nat) : Str := 34 :: List.replicate n 97

example : StarSafe [] oldValue = false := by decide +kernel
example : StarSafe [] oldStar = false := by decide +kernel
example : StarSafe foldSpecials oldValue = false := by decide +kernel
example : StarSafe foldSpecials oldStar = false := by decide +kernel
/-- `2^n` backtracking paths through the star on `pump n`. -/
example : paths asciiEnv (pump 12) oldStar 1 = 2 ^ 12 := by
  -- from `p ≥ 1` the body (its `[^\\"]+`) ends at every later position: `2^(13-p) = 1 + Σ 2^(13-q)`
  rw [paths_eq]
  simp only [oldStar, ends]
  exact iterE_length_rec _ (fun p => 2 ^ (13 - p)) 1 13 false (by decide +kernel)
    (by decide +kernel) _ _ _ (by decide) (by decide) (by decide)
example : paths pyFoldEnv (pump 12) oldStar 1 = 2 ^ 12 := by
  rw [paths_eq]
  simp only [oldStar, ends]
  exact iterE_length_rec _ (fun p => 2 ^ (13 - p)) 1 13 false (by decide +kernel)
    (by decide +kernel) _ _ _ (by decide) (by decide) (by decide)
example : work asciiEnv (pump 12) oldValue 0 ≥ 2 ^ 10 :=
  -- the opening quote matches, and then the star alone costs that much
  Nat.le_trans (by decide +kernel : 2 ^ 10 ≤ work asciiEnv (pump 12) oldStar 1)
    (work_le_seq_second (by decide))
/-- The attribute token as generated (after fix 1610f1f) on `[a="aaa…` without a closing quote: linear
    (`5 n + 99`). -/
example : work asciiEnv ([91, 97, 61] ++ pump 12) Gen.tok_attribute 0 = 159 ∧
    work asciiEnv ([91, 97, 61] ++ pump 24) Gen.tok_attribute 0 = 219 := by decide +kernel
example : work pyFoldEnv ([91, 97, 61] ++ pump 12) Gen.tok_attribute 0 = 159 ∧
    work pyFoldEnv ([91, 97, 61] ++ pump 24) Gen.tok_attribute 0 = 219 := by decide +kernel

/-! ## Non-vacuity of the checker -/

private theorem mem_ws_begin :
    ("soupsieve.css_parser.RE_WS_BEGIN", Gen.cp_RE_WS_BEGIN) ∈ Gen.allRegexes := by
  simp only [Gen.allRegexes, List.mem_cons, true_or, or_true]
private theorem mem_combine : ("css_tokens[combine]", Gen.tok_combine) ∈ Gen.allRegexes := by
  simp only [Gen.allRegexes, List.mem_cons, true_or, or_true]
private theorem mem_attribute : ("css_tokens[attribute]", Gen.tok_attribute) ∈ Gen.allRegexes := by
  simp only [Gen.allRegexes, List.mem_cons, true_or, or_true]

/-- `^r*` passes `Det` when it passes `StarSafe`: the star is then `Det`, and the anchor adds
    nothing. -/
private theorem det_ws_begin {sp : Specials} (h : StarSafe sp Gen.cp_RE_WS_BEGIN = true) :
    Det sp Gen.cp_RE_WS_BEGIN = true := by
  simp only [Gen.cp_RE_WS_BEGIN, StarSafe, starSafeList, Bool.true_and, Bool.and_true] at h
  rw [Gen.cp_RE_WS_BEGIN, det_bos_seq]
  exact starSafe_star_det h

example : StarSafe [] Gen.cp_RE_WS_BEGIN = true := all_safe_ascii (_, _) mem_ws_begin
example : StarSafe [] Gen.tok_combine = true := all_safe_ascii (_, _) mem_combine
example : StarSafe [] Gen.tok_attribute = true := all_safe_ascii (_, _) mem_attribute
example : Det [] Gen.cp_RE_WS_BEGIN = true :=
  det_ws_begin (all_safe_ascii (_, _) mem_ws_begin)
example : StarSafe foldSpecials Gen.cp_RE_WS_BEGIN = true := all_safe_py (_, _) mem_ws_begin
example : StarSafe foldSpecials Gen.tok_combine = true := all_safe_py (_, _) mem_combine
example : StarSafe foldSpecials Gen.tok_attribute = true := all_safe_py (_, _) mem_attribute
example : Det foldSpecials Gen.cp_RE_WS_BEGIN = true :=
  det_ws_begin (all_safe_py (_, _) mem_ws_begin)
/-- `StarSafe` does not imply distinct ends of the whole expression: two branches match `\a`. -/
example : Det [] Gen.cp_RE_CSS_ESC = false ∧ Det foldSpecials Gen.cp_RE_CSS_ESC = false ∧
    ends asciiEnv [92, 97] Gen.cp_RE_CSS_ESC 0 = [2, 2] := by
  have e1 : ends asciiEnv [92, 97] Gen.cp_RE_CSS_ESC 0 = [2, 2] := by decide +kernel
  have e2 : ends pyFoldEnv [92, 97] Gen.cp_RE_CSS_ESC 0 = [2, 2] := by decide +kernel
  exact ⟨not_det_of_dup asciiEnv_ok (by rw [e1]; decide),
    not_det_of_dup pyFoldEnv_ok (by rw [e2]; decide), e1⟩

private def a : Rx := .lit 97 false
private def b : Rx := .lit 98 false
/-- `(a+)*` -/
example : StarSafe [] (.rep 0 none true (.rep 1 none true a)) = false := by decide +kernel
/-- `(a|a)*` -/
example : StarSafe [] (.rep 0 none true (.alt [a, a])) = false := by decide +kernel
/-- `(a*)*` -/
example : StarSafe [] (.rep 0 none true (.rep 0 none true a)) = false := by decide +kernel
/-- `(ab?b?)*` -/
example : StarSafe [] (.rep 0 none true
    (.seq [a, .rep 0 (some 1) true b, .rep 0 (some 1) true b])) = false := by decide +kernel
/-- `(a|ab)(b|c)*`-style overlap inside a star: `(?:a|ab)*` -/
example : StarSafe [] (.rep 0 none true (.alt [a, .seq [a, b]])) = false := by decide +kernel
/-- the hex-escape overlap before fix 1610f1f: `(?:\\[a-f0-9]{1,6}|\\[^\r\n\f])+` -/
example : StarSafe [] (.rep 1 none true (.alt [
    .seq [.lit 92 false, .rep 1 (some 6) true (.set false [.range 97 102, .range 48 57] false)],
    .seq [.lit 92 false, .set true [.ch 13, .ch 10, .ch 12] false]])) = false := by decide +kernel
/-- `(ab)*`, `(a|b)*`, `(a*b)*` are accepted -/
example : StarSafe [] (.rep 0 none true (.seq [a, b])) = true := by decide +kernel
example : StarSafe [] (.rep 0 none true (.alt [a, b])) = true := by decide +kernel
example : StarSafe [] (.rep 0 none true (.seq [.rep 0 none true a, b])) = true := by decide +kernel
/-- the same verdicts with Python's special code points -/
example : StarSafe foldSpecials (.rep 0 none true (.rep 1 none true a)) = false := by decide +kernel
example : StarSafe foldSpecials (.rep 0 none true (.alt [a, a])) = false := by decide +kernel
example : StarSafe foldSpecials (.rep 0 none true (.alt [a, .seq [a, b]])) = false := by decide +kernel
example : StarSafe foldSpecials (.rep 0 none true (.seq [a, b])) = true := by decide +kernel
example : StarSafe foldSpecials (.rep 0 none true (.alt [a, b])) = true := by decide +kernel
example : StarSafe foldSpecials (.rep 0 none true (.seq [.rep 0 none true a, b])) = true := by
  decide +kernel

/-! ## The analysis sees the special code points

Expressions that are ambiguous *only* because a non-ASCII code point is case-insensitively equal
to an ASCII letter: accepted when there are no special code points (correctly: they are
unambiguous under `asciiEnv`), rejected for Python's (correctly: exponentially many paths under
`pyFoldEnv`). -/

/-- `n` copies of `ſ` (U+017F). -/
def longS (n : Nat) : Str := List.replicate n 383
/-- `n` copies of `K` (U+212A, KELVIN SIGN). -/
def kelvins (n : Nat) : Str := List.replicate n 8490

/-- `(?i)(?:[is]|[\x80-\U0010ffff])*`: `ſ` matches `[is]` (it folds to `s`) and the range. -/
def foldAmb : Rx :=
  .rep 0 none true (.alt [.set false [.ch 105, .ch 115] true, .set false [.range 128 1114111] true])
example : StarSafe [] foldAmb = true := by decide +kernel
example : StarSafe foldSpecials foldAmb = false := by decide +kernel
example : setHas pyFoldEnv false [.ch 105, .ch 115] true 383 = true ∧
    setHas pyFoldEnv false [.range 128 1114111] true 383 = true ∧
    setHas asciiEnv false [.ch 105, .ch 115] true 383 = false := by decide +kernel
/-- `2^(n+1) - 1` backtracking paths on `ſ…ſ` with Python's folding, `n + 1` with ASCII folding. -/
example : paths pyFoldEnv (longS 12) foldAmb 0 = 2 ^ 13 - 1 :=
  paths_star_twice rfl rfl (by decide) (by decide) 12 true
example : paths asciiEnv (longS 12) foldAmb 0 = 13 := by decide +kernel
example : work pyFoldEnv (longS 12) foldAmb 0 ≥ 2 ^ 13 := by decide +kernel

/-- `(?:(?i:[is])|[^\x00-\x7f])*`: the case-sensitive negated class matches `ſ`, and so does
    the case-insensitive `[is]`. -/
def foldAmb2 : Rx :=
  .rep 0 none true (.alt [.set false [.ch 105, .ch 115] true, .set true [.range 0 127] false])
example : StarSafe [] foldAmb2 = true := by decide +kernel
example : StarSafe foldSpecials foldAmb2 = false := by decide +kernel
example : paths pyFoldEnv (longS 12) foldAmb2 0 = 2 ^ 13 - 1 :=
  paths_star_twice rfl rfl (by decide) (by decide) 12 true

/-- `(?i)(?:k|K)*`: with Python's folding both literals match `k`, `K` and `K`. -/
def foldAmb3 : Rx := .rep 0 none true (.alt [.lit 107 true, .lit 8490 true])
example : StarSafe [] foldAmb3 = true := by decide +kernel
example : StarSafe foldSpecials foldAmb3 = false := by decide +kernel
example : paths pyFoldEnv (kelvins 12) foldAmb3 0 = 2 ^ 13 - 1 :=
  paths_star_twice rfl rfl (by decide) (by decide) 12 true
example : paths pyFoldEnv (List.replicate 12 107) foldAmb3 0 = 2 ^ 13 - 1 :=
  paths_star_twice rfl rfl (by decide) (by decide) 12 true
example : paths asciiEnv (kelvins 12) foldAmb3 0 = 13 := by decide +kernel

/-- The special columns are exact, not merely pessimistic.  In `(?i)(?:[is]|[^\x00-\x7f])*` the
    negated class does *not* match `ſ` under ignore-case (`ſ` folds to `s`, which the class
    excludes — in the model as in Python), so the expression is unambiguous and accepted. -/
def foldOk : Rx :=
  .rep 0 none true (.alt [.set false [.ch 105, .ch 115] true, .set true [.range 0 127] true])
example : setHas pyFoldEnv true [.range 0 127] true 383 = false := by decide +kernel
example : StarSafe [] foldOk = true := by decide +kernel
example : StarSafe foldSpecials foldOk = true := by decide +kernel
example : paths pyFoldEnv (longS 12) foldOk 0 = 13 := by decide +kernel
/-- `(?i)(?:s|ı)*`: `ı` (U+0131) folds to `i`, not `s`: accepted. -/
example : StarSafe foldSpecials (.rep 0 none true (.alt [.lit 115 true, .lit 305 true])) = true := by
  decide +kernel
/-- `(?i)(?:i|ı)*`, `(?i)(?:İ|ı)*`: rejected. -/
example : StarSafe foldSpecials (.rep 0 none true (.alt [.lit 105 true, .lit 305 true])) = false := by
  decide +kernel
example : StarSafe foldSpecials (.rep 0 none true (.alt [.lit 304 true, .lit 305 true])) = false := by
  decide +kernel
/-- Case-sensitively `İ` and `ı` are different characters: accepted. -/
example : StarSafe foldSpecials (.rep 0 none true (.alt [.lit 304 false, .lit 305 false])) = true := by
  decide +kernel

end C07
end SoupVerif
