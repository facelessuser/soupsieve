/-
  C11 about the Lean term TRANSLATED from the source text of `util.lower`.

  The matcher model compares names through the hand-written `lower` / `lowerCp` (Model/Py.lean); every C11 theorem
  about HTML case folding is a statement about that function.  `gen/gen_py_strings.py` translates the body of
  `util.lower` (its loop body `o = ord(c); chr(o + 32) if UC_A <= o <= UC_Z else c`, with `UC_A` / `UC_Z` translated
  from their module-level assignments `ord('A')` / `ord('Z')`) into `Gen.PyStrings.lowerStep` / `Gen.PyStrings.lower`
  on every run.  Proved here for EVERY string (every list of naturals): the translated function IS the hand model.
  An edit of the bounds, of the offset 32, of the comparison operators or of either arm of the conditional changes
  `Generated/PyStrings.lean` and breaks `gen_lowerStep_eq`.
-/
import SoupVerif.Properties.C11
import SoupVerif.Generated.PyStrings
namespace SoupVerif
namespace C11Gen
open Names PyStrings

/-- The translated loop body is the hand model's per-character function, on every natural number. -/
theorem gen_lowerStep_eq (c : Nat) : Gen.PyStrings.lowerStep c = lowerCp c := by
  simp only [Gen.PyStrings.lowerStep, lowerCp, Gen.PyStrings.UC_A, Gen.PyStrings.UC_Z]
  repeat' split
  all_goals simp_all
  all_goals omega

theorem charLoop_eq_map (f : Nat → Nat) (s : Str) : charLoop f s = s.map f := by
  induction s with
  | nil => rfl
  | cons c cs ih => simp [charLoop, ih]

/-- **The tie.**  The function translated from the current source is the hand-written model, on every string. -/
theorem gen_lower_eq (s : Str) : Gen.PyStrings.lower s = lower s := by
  unfold Gen.PyStrings.lower lower
  rw [charLoop_eq_map]
  exact List.map_congr_left fun c _ => gen_lowerStep_eq c

/-- `chr(o + 32)` cannot raise: the translated body maps code points to code points (it applies `chr` only to
    `o + 32` with `o ≤ 'Z'`). -/
theorem gen_lowerStep_codepoint (c : Nat) (h : c ≤ 0x10FFFF) : Gen.PyStrings.lowerStep c ≤ 0x10FFFF := by
  rw [gen_lowerStep_eq]; unfold lowerCp; split <;> omega

/-- What it does, spelled out: `A`..`Z` move to `a`..`z`, every other code point (non-ASCII letters, `İ`, `K` KELVIN
    SIGN, …) is left alone. -/
theorem gen_lowerStep_spec (c : Nat) :
    Gen.PyStrings.lowerStep c = if 65 ≤ c ∧ c ≤ 90 then c + 32 else c := by
  rw [gen_lowerStep_eq]; rfl

theorem lower_idem (s : Str) : Gen.PyStrings.lower (Gen.PyStrings.lower s) = Gen.PyStrings.lower s := by
  simp only [gen_lower_eq]; exact C11.lower_idem s

theorem lower_length (s : Str) : (Gen.PyStrings.lower s).length = s.length := by
  rw [gen_lower_eq]; exact SoupVerif.lower_length s

/-- The case-insensitive equality the C11 theorems speak about is equality after the translated `lower`. -/
theorem caseEq_iff (a b : Str) : C11.caseEq a b ↔ Gen.PyStrings.lower a = Gen.PyStrings.lower b := by
  simp only [gen_lower_eq]; exact Iff.rfl

/-- HTML: the selector's tag name matches regardless of ASCII case — "case" as decided by the translated `lower`. -/
theorem html_tag_fold (c : Ctx) (e : Elem) (n n' : Str) (p : Option Str) (hx : c.isXml = false)
    (h : Gen.PyStrings.lower n = Gen.PyStrings.lower n') :
    matchTagname c e ⟨n, p⟩ = matchTagname c e ⟨n', p⟩ :=
  C11.html_tag_fold c e n n' p hx ((caseEq_iff n n').mpr h)

/-- HTML, as a characterisation: the tag name matches iff it equals the element's name after the translated `lower`
    (or is the universal selector). -/
theorem html_tag_iff (c : Ctx) (e : Elem) (n : Str) (p : Option Str) (hx : c.isXml = false) :
    matchTagname c e ⟨n, p⟩ = true ↔ Gen.PyStrings.lower n = Gen.PyStrings.lower e.name ∨ n = "*".toStr := by
  rw [← caseEq_iff]; exact C11.html_tag_iff c e n p hx

/-- HTML: `match_attribute_name` sees the selector's attribute name only through the translated `lower`. -/
theorem html_attr_name_lower (c : Ctx) (e : Elem) (a p : Str) (hx : c.isXml = false) :
    matchAttributeName c e a p = matchAttributeName c e (Gen.PyStrings.lower a) p := by
  rw [gen_lower_eq]; exact C11.html_attr_name_lower c e a p hx

example : Gen.PyStrings.lower "DiV".toStr = "div".toStr := by decide
example : Gen.PyStrings.lower [0x40, 0x41, 0x5A, 0x5B, 0x60, 0x61, 0x7A, 0x7B] = [0x40, 0x61, 0x7A, 0x5B, 0x60, 0x61, 0x7A, 0x7B] := by
  decide
-- non-ASCII capitals are NOT folded: 'É' (U+00C9), 'İ' (U+0130), KELVIN SIGN (U+212A)
example : Gen.PyStrings.lower [0xC9, 0x130, 0x212A, 0x10FFFF] = [0xC9, 0x130, 0x212A, 0x10FFFF] := by decide

end C11Gen
end SoupVerif
