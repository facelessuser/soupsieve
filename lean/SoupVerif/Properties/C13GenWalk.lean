/-
  C13 — `CSSMatch.match_lang`, the parts TRANSLATED from the Python source on every run
  (`gen/gen_py_langwalk.py` → `Generated/PyLangWalk.lean`), proved equal to the hand-written model
  (`Model/Match.lean`: `langAttr`, `langWalk`, `langOf`, `matchLang`) for ALL arguments:

  (I)  the ancestor walk `while found_lang is None:` with its attribute loop and per-attribute decision
       (`langAttrTest`, over the dynamic values `PV` — Python truthiness, `err` where CPython raises);
  (IV) the final test: EVERY `:lang()` of the compound must have SOME accepting range.  With an EMPTY `langs` the
       translated flag stays `False` where the model's `List.all` says `true`: `match_selectors` only calls
       `match_lang` for a non-empty `selector.lang`, as does the model's `matchSel`, hence `langs ≠ []` below.

  The `<meta>` scan (III) and the cache (II) are NOT translated.
-/
import SoupVerif.Generated.PyLangWalk
import SoupVerif.Lemmas.MatchAlgebra
import SoupVerif.Properties.C13Gen
import SoupVerif.Lemmas.PyVal
namespace SoupVerif.C13GenWalk
open SoupVerif SoupVerif.PyMatchSel SoupVerif.PyAttrName SoupVerif.PyLangWalk SoupVerif.PyFlagLoop LangLemmas


/-! ### (IV) the final test -/

theorem langsTest_eq {τ : Type} (filter : Str → τ → Bool) (found : Option τ) (langs : List (List Str)) :
    Gen.PyLangWalk.langsTest filter found langs =
      match found with
      | none => false
      | some v => !langs.isEmpty && langs.all (fun ps => ps.any (fun p => filter p v)) := by
  unfold Gen.PyLangWalk.langsTest
  cases found with
  | none => rfl
  | some v =>
    simp only []
    rw [forBreak_all_break _ (fun ps => ps.any (fun p => filter p v))]
    · cases langs <;> simp
    · intro m ps
      rw [forBreak_or _ (fun p => filter p v)]
      · cases ps.any (fun p => filter p v) <;> simp
      · intro m x; cases filter x v <;> simp

theorem langsTest_nil {τ : Type} (filter : Str → τ → Bool) (found : Option τ) :
    Gen.PyLangWalk.langsTest filter found [] = false := by
  rw [langsTest_eq]; cases found <;> simp

/-- `match_lang` of the model IS the translated flag program, run on the language the model determines (`langOf`;
    a list value joined with spaces as `matchLang` does) with the model's filter. -/
theorem matchLang_eq_langsTest (c : Ctx) (l : Loc) (langs : List LangSel) (hne : langs ≠ []) :
    matchLang c l langs =
      Gen.PyLangWalk.langsTest (fun p t => Lang.extendedFilter c.wildStrip p t) ((langOf c l).map nvalJoin)
        (langs.map (·.languages)) := by
  rw [langsTest_eq]
  unfold matchLang
  cases h : langOf c l with
  | none => simp
  | some v =>
    cases langs with
    | nil => exact absurd rfl hne
    | cons a as => cases v <;> simp [nvalJoin, List.all_map, Function.comp_def]

/-- `C13Parse.matchLang_one` about the translated program: one `:lang(v1, …)`. -/
theorem gen_matchLang_one (c : Ctx) (l : Loc) (vs : List Str) :
    Gen.PyLangWalk.langsTest (fun p t => Lang.extendedFilter c.wildStrip p t) ((langOf c l).map nvalJoin) [vs]
        = true ↔
      ∃ v, langOf c l = some v ∧ ∃ r ∈ vs, Lang.extendedFilter c.wildStrip r (nvalJoin v) = true := by
  have := matchLang_eq_langsTest c l [⟨vs⟩] (by simp)
  simp only [List.map] at this
  rw [← this, C13Parse.matchLang_one]

/-- … with the filter the TRANSLATED `extended_language_filter` (`Generated/PyLoops.lean`, `C13Gen`), for a matcher
    whose wildcard strip is the regex-level one. -/
theorem gen_matchLang_langRun (c : Ctx) (hw : c.wildStrip = wildStripRx) (l : Loc) (langs : List LangSel)
    (hne : langs ≠ []) :
    matchLang c l langs =
      Gen.PyLangWalk.langsTest
        (fun p t => match Gen.PyLoops.langRun lower p t with | .ok (some b) => b | _ => false)
        ((langOf c l).map nvalJoin) (langs.map (·.languages)) := by
  rw [matchLang_eq_langsTest c l langs hne, hw]
  simp only [C13Gen.langRun_eq_extendedFilter]

/-! ### (I) the attribute decision and the attribute loop of the walk -/

section AttrDecision  -- the simp set of value equations is local to this part

attribute [local simp] not_bool and_bool or_bool eq_str ite_bool
@[local simp] theorem eq_none_str (b : Str) : pyEq .none (.str b) = .bool false := by
  simp [pyEq, PV.isErr]
@[local simp] theorem lower_str (a : Str) : pyLower (.str a) = .str (lower a) := PyMatchSel.lower_str a
@[local simp] theorem ite_str (b : Bool) (x y : Str) :
    (if b then PV.str x else PV.str y) = .str (if b then x else y) := by
  cases b <;> rfl
@[local simp] theorem eq_ofOptStr (o : Option Str) (s : Str) : pyEq (PV.ofOptStr o) (.str s) = .bool (o == some s) := by
  cases o <;> simp [PV.ofOptStr]
@[local simp] theorem isXml_bool (c : Ctx) : pyIsXml c = .bool c.isXml := PyMatchSel.isXml_bool c
@[local simp] theorem isNotNone_str (u : Str) : pyIsNotNone (.str u) = .bool true := rfl
@[local simp] theorem isNotNone_none : pyIsNotNone .none = .bool false := rfl

/-- the model's condition of `langAttr` on one attribute -/
def langCond (c : Ctx) (e : Elem) (a : Attr) : Bool :=
  let hasNs := c.supportsNamespaces
  let hasHtmlNs := (match e.ns with | some n => !n.isEmpty && n == NS_XHTML | none => false)
  ((!hasNs || hasHtmlNs) && (if !c.isXml then lower a.key else a.key) == "lang".toStr) ||
    (hasNs && !hasHtmlNs && a.kns == some NS_XML &&
      (match a.kname with
       | some nm => (if !c.isXml then lower nm else nm) == "lang".toStr
       | none => false))

theorem langAttr_eq_find (c : Ctx) (e : Elem) :
    langAttr c e = (e.attrs.find? (langCond c e)).map (fun a => normalizeValue a.val) := rfl

/-- The translated decision never raises and is the model's. -/
theorem langAttrTest_eq (c : Ctx) (e : Elem) (a : Attr) :
    Gen.PyLangWalk.langAttrTest c (Gen.PyLangWalk.langHasNs c) (pyHasHtmlNs e) (pyKey a) (pySplitNamespace a) =
      .bool (langCond c e a) := by
  -- the translator emits string constants as code-point lists: `'lang'` and `NS_XML`
  have hl : [108, 97, 110, 103] = "lang".toStr := by decide +kernel
  have hx : [104, 116, 116, 112, 58, 47, 47, 119, 119, 119, 46, 119, 51, 46, 111, 114, 103, 47, 88, 77, 76, 47, 49, 57, 57, 56, 47, 110, 97, 109, 101, 115, 112, 97, 99, 101] = NS_XML := by decide +kernel
  unfold Gen.PyLangWalk.langAttrTest Gen.PyLangWalk.langHasNs langCond
  simp only [hl, hx, pyKey, pySplitNamespace, pySupportsNs, pyHasHtmlNs, isXml_bool, not_bool, or_bool, and_bool,
    ite_bool, lower_str, ite_str, eq_str, eq_ofOptStr]
  -- only `sp.2` (`attr`, possibly `None`) is inspected by the program itself
  cases a.kname <;>
    simp only [PV.ofOptStr, isNotNone_none, isNotNone_str, and_bool, or_bool, ite_bool, lower_str, ite_str, eq_str,
      eq_none_str, Bool.and_false, Bool.and_true, Bool.false_eq_true, if_false, Bool.and_assoc] <;>
    rfl

/-- The translated attribute loop = the model's `langAttr`. -/
theorem langScan_eq (c : Ctx) (e : Elem) : Gen.PyLangWalk.langScan c e none = langAttr c e := by
  rw [langAttr_eq_find]
  unfold Gen.PyLangWalk.langScan pyIterAttributes
  simp only [langAttrTest_eq, PV.truthy]
  generalize e.attrs = as
  induction as with
  | nil => simp [forBreak]
  | cons a as ih =>
    simp only [forBreak, List.find?]
    cases langCond c e a <;> simp [ih]

/-- The FIRST attribute of the element, when it passes the decision, is the found language, whatever its value (an
    empty one included: the walk stops there). -/
theorem langScan_empty_value (c : Ctx) (e : Elem) (a : Attr) (rest : List Attr) (he : e.attrs = a :: rest)
    (h : langCond c e a = true) : Gen.PyLangWalk.langScan c e none = some (normalizeValue a.val) := by
  rw [langScan_eq, langAttr_eq_find, he]; simp [List.find?, h]

/-- The step of the walk: `self.get_parent(parent, no_iframe=self.is_html)`. -/
theorem langNoIframe_eq (c : Ctx) : Gen.PyLangWalk.langNoIframe c = .bool c.isHtml := rfl

end AttrDecision

/-! ### (I) the walk loop -/

theorem ancestors_unfold (c : Ctx) (l : Loc) (b : Bool) :
    c.ancestors l b = match c.parent l b with
      | none => []
      | some p => p :: c.ancestors p b := by
  unfold Ctx.ancestors Ctx.parent Loc.ancestors Loc.parent?
  cases h : l.up with
  | nil => simp [Loc.ancestorsAux, Ctx.ancestorsCut]
  | cons f rest =>
    simp only [Loc.ancestorsAux, Ctx.ancestorsCut]
    split <;> simp_all

theorem parent_depth (c : Ctx) (l p : Loc) (b : Bool) (h : c.parent l b = some p) :
    p.up.length + 1 = l.up.length := by
  unfold Ctx.parent Loc.parent? at h
  cases hu : l.up with
  | nil => simp [hu] at h
  | cons f rest =>
    simp only [hu] at h
    split at h
    · simp at h
    · simp at h; subst h; simp

theorem langScanAt_eq (c : Ctx) (l : Loc) :
    Gen.PyLangWalk.langScanAt c l none = match l.elem? with | some e => langAttr c e | none => none := by
  unfold Gen.PyLangWalk.langScanAt
  cases l.elem? <;> simp [langScan_eq]

theorem langWalk_cons (c : Ctx) (l : Loc) (rest : List Loc) (l0 : Loc) :
    langWalk c (l :: rest) l0 =
      match Gen.PyLangWalk.langScanAt c l none with
      | some v => (some v, l)
      | none => langWalk c rest l := by
  rw [langScanAt_eq, langWalk]; cases l.elem? <;> rfl

theorem langWalkBody_eq (c : Ctx) (s : WalkSt) :
    Gen.PyLangWalk.langWalkBody c s =
      match c.parent s.parent c.isHtml with
      | none => (⟨Gen.PyLangWalk.langScanAt c s.parent s.found, s.parent, some s.parent, some s.parent⟩, true)
      | some p => (⟨Gen.PyLangWalk.langScanAt c s.parent s.found, p, some s.parent, s.root⟩, false) := rfl

/-- **The translated walk = the model's `langWalk`.**  From any element (any `last` / `root` so far), with fuel
    ≥ depth + 1, the loop ends, and `found_lang` / `last` are what `langWalk c (l :: c.ancestors l c.isHtml)` computes:
    the first explicit language on the element and its ancestors (`get_parent(·, no_iframe=self.is_html)`), and the
    last node visited. When nothing is found, `root` and `parent` are that last node too. -/
theorem walk_spec (c : Ctx) : ∀ (fuel : Nat) (l : Loc) (last root : Option Loc) (l0 : Loc), l.up.length + 1 ≤ fuel →
    ∃ s, whileBreak Gen.PyLangWalk.langWalkCond (Gen.PyLangWalk.langWalkBody c) fuel ⟨none, l, last, root⟩ = some s ∧
      s.found = (langWalk c (l :: c.ancestors l c.isHtml) l0).1 ∧
      s.last = some (langWalk c (l :: c.ancestors l c.isHtml) l0).2 ∧
      (s.found = none → s.root = s.last ∧ some s.parent = s.last) := by
  intro fuel
  induction fuel with
  | zero => intro l _ _ _ h; omega
  | succ n ih =>
    intro l last root l0 hf
    have hc : Gen.PyLangWalk.langWalkCond ⟨none, l, last, root⟩ = true := rfl
    rw [whileBreak, if_pos hc, langWalk_cons, ancestors_unfold, langWalkBody_eq]
    cases hp : c.parent l c.isHtml with
    | none =>
      -- the top: `break`, with `root = parent = last`
      simp only [if_true]
      cases Gen.PyLangWalk.langScanAt c l none <;> exact ⟨_, rfl, rfl, rfl, fun _ => ⟨rfl, rfl⟩⟩
    | some p =>
      simp only [Bool.false_eq_true, if_false]
      cases Gen.PyLangWalk.langScanAt c l none with
      | some v =>
        -- found here: the next loop test fails
        exact ⟨⟨some v, p, some l, root⟩, by cases n <;> rfl, rfl, rfl, fun h => by cases h⟩
      | none => exact ih p (some l) root l (by have := parent_depth c l p _ hp; omega)

/-- `match_lang`'s walk from `el`: enough fuel is the depth of `el` plus one; the result is the model's. -/
theorem langWalkRun_eq (c : Ctx) (l : Loc) :
    ∃ s, Gen.PyLangWalk.langWalkRun c (l.up.length + 1) l = some s ∧
      (s.found, s.last) = ((langWalk c (l :: c.ancestors l c.isHtml) l).1,
                           some (langWalk c (l :: c.ancestors l c.isHtml) l).2) := by
  obtain ⟨s, hs, h1, h2, _⟩ := walk_spec c (l.up.length + 1) l none c.root l (Nat.le_refl _)
  exact ⟨s, hs, by rw [h1, h2]⟩

/-- … hence the language the model determines (`langOf`) is the walk's `found_lang`, else (HTML) the `<meta>` scan
    from the walk's `last`. -/
theorem langOf_eq_walk (c : Ctx) (l : Loc) :
    ∃ s last, Gen.PyLangWalk.langWalkRun c (l.up.length + 1) l = some s ∧ s.last = some last ∧
      langOf c l = match s.found with
        | some v => some v
        | none => if c.isHtml then metaLang c last else none := by
  obtain ⟨s, hs, h⟩ := langWalkRun_eq c l
  simp only [Prod.mk.injEq] at h
  refine ⟨s, _, hs, h.2, ?_⟩
  unfold langOf
  rw [h.1]
  generalize langWalk c (l :: c.ancestors l c.isHtml) l = r
  obtain ⟨a, b⟩ := r
  rfl

end SoupVerif.C13GenWalk
