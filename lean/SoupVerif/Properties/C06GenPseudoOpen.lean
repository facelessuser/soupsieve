/-
  C06 / C05 about the Lean term TRANSLATED from the source text of `CSSParser.parse_pseudo_open`
  (`gen/gen_py_popen.py` → `Generated/PyPseudoOpen.lean`, regenerated on every run).

  In the hand model `parse_pseudo_open` is the first branch of the `parse_pseudo_class` call of `ParseDisp.runCall`
  (= `Parser.parseLoop`, `ParseDisp.stepOf_eq_runAction`): a nested `parseSelectors` at `m.end(0)` with the flags
  `FLG_PSEUDO ||| FLG_OPEN ||| (if pseudo == ":not" … )` (the same expression is `C09Compile2.fnFlags`, the flags the
  compile theorems C09Compile2 / C05Parse are about).  The translator emits the flag computation `openFlags : Str → Nat`
  (numeric `FLG_*` values and the names as written in the source) and CHECKS the frame (`sel.selectors.append(
  self.parse_selectors(iselector, index, flags)); has_selector = True; return has_selector`), failing closed.

  Proved here, for ALL names (not only the five that reach the handler): the regenerated flags are the hand model's
  flag expression (= `fnFlags`); the `parse_pseudo_open` branch of the hand model's `runCall` is the nested parse at
  `t.stop` with the REGENERATED flags, followed by the checked frame; and which bits are set, restated about the
  regenerated definition.
-/
import SoupVerif.Generated.PyPseudoOpen
import SoupVerif.Lemmas.ParserProgress.Dispatch
import SoupVerif.Properties.C05Parse
import SoupVerif.Lemmas.StrLit
namespace SoupVerif
namespace C06GenPseudoOpen
open SoupVerif.Parser ParseDisp
open Gen.PyPseudoOpen (openFlags)

/-- the flag expression of the hand model (`Parser.parseLoop` / `ParseDisp.runCall`, `parse_pseudo_open` branch) -/
def modelFlags (pseudo : Str) : Nat :=
  FLG_PSEUDO ||| FLG_OPEN |||
    (if pseudo == ":not".toStr then FLG_NOT
     else if pseudo == ":has".toStr then FLG_RELATIVE
     else if pseudo == ":where".toStr || pseudo == ":is".toStr then FLG_FORGIVE else 0)

theorem modelFlags_eq_fnFlags (n : Str) : modelFlags n = C09Compile2.fnFlags n := rfl

/-- **The regenerated flag computation is the hand model's**, for every name. -/
theorem openFlags_eq_model (n : Str) : openFlags n = modelFlags n := by
  have e1 : ":not".toStr = [58, 110, 111, 116] := by decide_lit
  have e2 : ":has".toStr = [58, 104, 97, 115] := by decide_lit
  have e3 : ":where".toStr = [58, 119, 104, 101, 114, 101] := by decide_lit
  have e4 : ":is".toStr = [58, 105, 115] := by decide_lit
  unfold openFlags modelFlags
  -- the same three tests, with the two base bits inside the branches or around them
  rw [e1, e2, e3, e4, apply_ite (FLG_PSEUDO ||| FLG_OPEN ||| ·), apply_ite (FLG_PSEUDO ||| FLG_OPEN ||| ·),
    apply_ite (FLG_PSEUDO ||| FLG_OPEN ||| ·)]
  rfl

theorem openFlags_eq_fnFlags (n : Str) : openFlags n = C09Compile2.fnFlags n :=
  (openFlags_eq_model n).trans (modelFlags_eq_fnFlags n)

/-- **The tie**: the `parse_pseudo_open` branch of the hand model = nested parse at `m.end(0)` with the regenerated
    flags, then the checked frame. -/
theorem runCall_pseudo_open_gen (env : CharEnv) (L : Lexicon) (B : Builtins) (pattern : Str) (s : LS) (t : Token)
    (h : ((match t.group ⟨env, L, B, pattern⟩ "open" with | some o => !o.isEmpty | none => false) &&
          inList L.pseudoComplex (lower (cssUnescape env L ((t.group ⟨env, L, B, pattern⟩ "name").getD [])))) = true) :
    runCall env L B pattern s t ("parse_pseudo_class", ["iselector", "is_html"], ["has_selector", "is_html"])
      = .nest pattern t.stop t.stop
          (openFlags (lower (cssUnescape env L ((t.group ⟨env, L, B, pattern⟩ "name").getD [])))) s.custom
          (fun (l, pos', custom') =>
            { s with sel := s.sel.addSub l, hasSelector := true, pos := pos', custom := custom', index := t.stop }) := by
  rw [openFlags_eq_model, runCall_pseudo_class]
  exact (if_pos h).trans rfl

theorem name_cases {Q : Str → Prop} (n : Str) (hnot : Q ":not".toStr) (hhas : Q ":has".toStr)
    (hwhere : Q ":where".toStr) (his : Q ":is".toStr)
    (hother : ∀ m, (m == ":not".toStr) = false → (m == ":has".toStr) = false → (m == ":where".toStr) = false →
      (m == ":is".toStr) = false → Q m) : Q n := by
  cases b1 : n == ":not".toStr
  case true => exact eq_of_beq b1 ▸ hnot
  cases b2 : n == ":has".toStr
  case true => exact eq_of_beq b2 ▸ hhas
  cases b3 : n == ":where".toStr
  case true => exact eq_of_beq b3 ▸ hwhere
  cases b4 : n == ":is".toStr
  case true => exact eq_of_beq b4 ▸ his
  exact hother n b1 b2 b3 b4

theorem openFlags_other {n : Str} (b1 : (n == ":not".toStr) = false) (b2 : (n == ":has".toStr) = false)
    (b3 : (n == ":where".toStr) = false) (b4 : (n == ":is".toStr) = false) : openFlags n = FLG_PSEUDO ||| FLG_OPEN := by
  rw [openFlags_eq_model]; unfold modelFlags; rw [b1, b2, b3, b4]; rfl

/-- Forgiving lists exactly for `:where` / `:is`. -/
theorem gen_forgive_iff (n : Str) :
    ((openFlags n &&& FLG_FORGIVE) != 0) = (n == ":where".toStr || n == ":is".toStr) := by
  induction n using name_cases with
  | hother n b1 b2 b3 b4 => rw [openFlags_other b1 b2 b3 b4, b3, b4]; rfl
  | _ => decide_lit

/-- Negated lists exactly for `:not`. -/
theorem gen_not_iff (n : Str) : ((openFlags n &&& FLG_NOT) != 0) = (n == ":not".toStr) := by
  induction n using name_cases with
  | hother n b1 b2 b3 b4 => rw [openFlags_other b1 b2 b3 b4, b1]; rfl
  | _ => decide_lit

/-- Relative lists exactly for `:has`. -/
theorem gen_relative_iff (n : Str) : ((openFlags n &&& FLG_RELATIVE) != 0) = (n == ":has".toStr) := by
  induction n using name_cases with
  | hother n b1 b2 b3 b4 => rw [openFlags_other b1 b2 b3 b4, b2]; rfl
  | _ => decide_lit

/-- Always a nested (`FLG_PSEUDO`) list closed by `)` (`FLG_OPEN`). -/
theorem gen_pseudo_open_bits (n : Str) :
    ((openFlags n &&& FLG_PSEUDO) != 0) = true ∧ ((openFlags n &&& FLG_OPEN) != 0) = true := by
  induction n using name_cases with
  | hother n b1 b2 b3 b4 => rw [openFlags_other b1 b2 b3 b4]; exact ⟨rfl, rfl⟩
  | _ => decide_lit

/-- `C09Compile.fnName_facts` about the regenerated flags: `:not(` 0x43, `:is(` / `:where(` 0x441, `:matches(` 0x41. -/
theorem gen_NestedFlags (n : Str) (h : C09Compile.fnName n) : C09Compile.NestedFlags (openFlags n) := by
  rcases h with h | h | h | h <;> subst h
  · exact Or.inl (by decide_lit)
  · exact Or.inr (Or.inl (by decide_lit))
  · exact Or.inr (Or.inl (by decide_lit))
  · exact Or.inr (Or.inr (by decide_lit))

/-- `C05Parse.fnFlags_facts` about the regenerated flags. -/
theorem gen_fnFlags_facts (n : Str) (h : C05Parse.isName n ∨ n = ":not".toStr) :
    Refine.Compile.relOf (openFlags n) = false ∧ Refine.Compile.ipOf (openFlags n) = true ∧
    (((openFlags n) &&& FLG_HTML) != 0) = false ∧
    (((openFlags n) &&& FLG_NOT) != 0) = (n == ":not".toStr) := by
  rw [openFlags_eq_fnFlags]
  obtain ⟨a, b, c, _, e⟩ := C05Parse.fnFlags_facts n h
  exact ⟨a, b, c, e⟩

/-- The frame the translator CHECKED in the source, as four constants: the nested call and its arguments, the append
    target, `has_selector = True`, the return value.  (What the model implements for them — `.nest … t.stop t.stop fl …`,
    `addSub`, `hasSelector := true` — is compared by reading, not stated here.) -/
theorem frame_checked :
    Gen.PyPseudoOpen.subParse = ("self.parse_selectors", ["iselector", "index", "flags"]) ∧
    Gen.PyPseudoOpen.appendTarget = "sel.selectors" ∧ Gen.PyPseudoOpen.setsHasSelector = true ∧
    Gen.PyPseudoOpen.returns = "has_selector" := by decide +kernel

end C06GenPseudoOpen
end SoupVerif
