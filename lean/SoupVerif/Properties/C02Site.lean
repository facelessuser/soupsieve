/-
  C02 (call site) — the well-formedness hypothesis of the `matchOne` theorems (`NthLemmas.matchOne_eq`,
  `C02.matchOne_iff`) holds at the one place where the matcher calls `Nth.matchOne` (`matchNth` in
  Model/Match.lean, the model of `CSSMatch.match_nth`), for EVERY located element `l : Loc` (every tree, every
  element of it, with or without a parent), and the resulting end-to-end statements about `matchNth`: the
  readings of `matchNth_sat`.

  The hypothesis:  `walk = pre ++ e :: post`, no node of `pre` "is" `el`, `isEl e`, `counted e`.
  At the call site  `walk` is the parent's contents (or `[el]` for a parentless element), reversed for
  the `-last-` forms; `isEl ch = ch.same l` (`child is el`); `counted` = element ∧ passes `of S` ∧
  (for `-of-type`) has the type of `el`.  This data, the fact "`el` occurs exactly once in its parent's
  children" (`occurs_once`), `wellformed`, `matchNth_sat` and its keyword reading `matchNth_const_iff` are in
  `Lemmas/NthSite.lean` (same namespace), for every nth record.

  `position` is defined on the element's sibling list: one more than the number of counted siblings
  before `l` (after `l`, for the `-last-` forms).
-/
import SoupVerif.Lemmas.NthSite
import SoupVerif.Properties.C02
namespace SoupVerif
namespace C02Site
open SatTree NthSpec

theorem sameType_refl (c : Ctx) (e : Elem) : sameType c e e = true := SoupVerif.sameType_refl c e

/-- The stronger, literal form (`C02.matchOne_iff'`): nothing else in the walk `is` `el`. -/
theorem wellformed' (l : Loc) (last : Bool) :
    ∀ x ∈ before l last ++ after l last, (fun ch : Loc => ch.same l) x = false := by
  intro x hx
  rcases List.mem_append.mp hx with h | h
  · exact before_not_same l last x h
  · exact after_not_same l last x h

/-- `position` is the spec position `posOf` of the walk (Spec/Nth.lean). -/
theorem position_eq_posOf (c : Ctx) (l : Loc) (e : Elem) (he : l.elem? = some e) (ofType last : Bool)
    (sels : SelList) (hpre : preCheck c l e sels = true) :
    NthSpec.posOf (counted c e ofType sels) (fun ch => ch.same l) (walk l last) =
      some (position c l e ofType last sels) := by
  obtain ⟨h1, h2, h3, h4⟩ := wellformed c l e he ofType last sels hpre
  rw [position_eq]
  exact C02.posOf_wellformed _ _ _ _ l _ h1 h2 h3 h4

/-- **`match_nth`, `An+B` form**: for every context, every located element `l` (with element `e`),
    all integers `a b`, both directions, with and without `of-type`, with and without `of S`:
    the record matches iff `el` passes `of S` and `a*n + b = position` for some `n ≥ 0`. -/
theorem matchNth_iff (c : Ctx) (l : Loc) (e : Elem) (he : l.elem? = some e) (a b : Int)
    (ofType last : Bool) (sels : SelList) :
    matchNth c l e (.mk a true b ofType last sels) = true ↔
      preCheck c l e sels = true ∧
      ∃ n : Nat, a * (n : Int) + b = ((position c l e ofType last sels : Nat) : Int) := by
  rw [matchNth_sat c l e he, Bool.and_eq_true, if_pos rfl, nthSatB_iff]
  rfl

theorem preCheck_iff (c : Ctx) (l : Loc) (e : Elem) (sels : SelList) :
    preCheck c l e sels = true ↔ (sels.nonEmpty = false ∨ matchList c l e sels = true) := by
  unfold preCheck; cases sels.nonEmpty <;> simp

/-- Without `of S` (`:nth-child(An+B)`, `:nth-of-type(An+B)`, …). -/
theorem matchNth_iff_plain (c : Ctx) (l : Loc) (e : Elem) (he : l.elem? = some e) (a b : Int)
    (ofType last : Bool) (sels : SelList) (hs : sels.nonEmpty = false) :
    matchNth c l e (.mk a true b ofType last sels) = true ↔
      ∃ n : Nat, a * (n : Int) + b = ((position c l e ofType last sels : Nat) : Int) := by
  rw [matchNth_iff c l e he]
  have : preCheck c l e sels = true := (preCheck_iff c l e sels).mpr (.inl hs)
  simp [this]

/-- Executable form: `matchNth` computes the decision procedure `nthSatB` at `position`. -/
theorem matchNth_eq_nthSatB (c : Ctx) (l : Loc) (e : Elem) (he : l.elem? = some e) (a b : Int)
    (ofType last : Bool) (sels : SelList) :
    matchNth c l e (.mk a true b ofType last sels) =
      (preCheck c l e sels && nthSatB a b (position c l e ofType last sels)) := by
  rw [matchNth_sat c l e he, if_pos rfl]

/-- All records of a compound (`for n in nth`: every one must match). -/
theorem matchNths_iff (c : Ctx) (l : Loc) (e : Elem) (ns : List NthSel) :
    matchNths c l e ns = true ↔ ∀ n ∈ ns, matchNth c l e n = true := by
  induction ns with
  | nil => simp [matchNths]
  | cons n rest ih =>
    rw [matchNths, Bool.and_eq_true, ih]
    simp

/-- The position never exceeds the number of siblings walked, and is at least 1. -/
theorem position_bounds (c : Ctx) (l : Loc) (e : Elem) (ofType last : Bool) (sels : SelList) :
    1 ≤ position c l e ofType last sels ∧
      position c l e ofType last sels ≤ (walk l last).length := by
  refine ⟨by unfold position; omega, ?_⟩
  rw [position_eq, walk_split, List.length_append, List.length_cons]
  have := List.length_filter_le (counted c e ofType sels) (before l last)
  omega

end C02Site
end SoupVerif
