/-
  C18 / C17 — the decision part of `CSSMatch.match_range`, TRANSLATED from the Python source
  (`gen/gen_py_loops.py` → `Generated/PyLoops.lean`, `Gen.PyLoops.rangeDecision`), is proved equal, for all
  arguments, to the decision of the hand-written matcher model (`matchRangeE` in `Model/Match.lean`), which is
  what `C18.range_def`, `C18.range_time_wrap`, … and the C17 theorems on `:in-range` / `:out-of-range` are about.

  `matchRangeE` itself is its effectful prefix (the four attribute reads, with the attribute names the translator
  read from the source) followed by the generated decision (`matchRangeE_gen`); the C18 range theorems are restated
  about the generated definition.

  An edit of `match_range` changes `Generated/PyLoops.lean`; if it changes the decision on any argument,
  `rangeDecision_eq_hand` no longer checks.
-/
import SoupVerif.Generated.PyLoops
import SoupVerif.Properties.C18Range

namespace SoupVerif
namespace C18
open Inputs

theorem six_eq (itype : Str) :
    Gen.PyLoops.strIn itype ["date".toStr, "datetime-local".toStr, "month".toStr, "week".toStr, "number".toStr, "range".toStr]
      = ["date", "datetime-local", "month", "week", "number", "range"].any (fun t => t.toStr == itype) := by
  simp only [Gen.PyLoops.strIn, List.any_cons, List.any_nil, Bool.or_false]
  simp only [Bool.beq_comm (a := itype)]

theorem time_not_six (itype : Str) (h : (itype == "time".toStr) = true) :
    (["date", "datetime-local", "month", "week", "number", "range"].any (fun t => t.toStr == itype)) = false := by
  have : itype = "time".toStr := by simpa using h
  subst this; decide_lit

theorem rangeDecision_eq_hand (itype : Str) (mn mx v : Option PVal) (inRange : Bool) :
    Gen.PyLoops.rangeDecision itype mn mx v inRange = handDecision itype mn mx v inRange := by
  unfold Gen.PyLoops.rangeDecision handDecision C17.oorOf
  rw [six_eq]
  have hx := time_not_six itype
  generalize (["date", "datetime-local", "month", "week", "number", "range"].any (fun t => t.toStr == itype)) = b6 at *
  generalize (itype == "time".toStr) = bt at *
  cases v with
  | none => cases mn <;> cases mx <;> cases inRange <;> cases b6 <;> cases bt <;> simp_all
  | some x =>
    cases mn with
    | none =>
      cases mx with
      | none => simp
      | some b =>
        cases inRange <;> cases b6 <;> cases bt <;> simp_all [Gen.PyLoops.vlt]
    | some a =>
      cases mx with
      | none =>
        cases inRange <;> cases b6 <;> cases bt <;> simp_all [Gen.PyLoops.vlt]
      | some b =>
        cases inRange <;> cases b6 <;> cases bt <;> simp_all [Gen.PyLoops.vlt] <;>
          (generalize ltP x a = p; generalize ltP b x = q; generalize ltP b a = r
           cases p <;> cases q <;> cases r <;> rfl)

/-- The flag test `condition & ct.SEL_IN_RANGE` with the mask read from css_types.py. -/
theorem flag_eq (cond : Nat) :
    hasFlag cond SEL_IN_RANGE = ((cond &&& Gen.PyLoops.rangeFlagMask) != 0) := rfl

theorem rangeDecisionCond_eq_hand (itype : Str) (mn mx v : Option PVal) (cond : Nat) :
    Gen.PyLoops.rangeDecisionCond itype mn mx v cond =
      handDecision itype mn mx v (hasFlag cond SEL_IN_RANGE) := by
  rw [Gen.PyLoops.rangeDecisionCond, ← flag_eq, rangeDecision_eq_hand]

/-- Neither bound parses: `False` whatever the value and the condition (the early return). -/
theorem rangeDecision_no_bounds (itype : Str) (v : Option PVal) (inRange : Bool) :
    Gen.PyLoops.rangeDecision itype none none v inRange = false := by
  rw [rangeDecision_eq_hand]; rfl

/-- **The matcher model's `match_range` is the attribute reads followed by the decision translated from the
    source**: the four attribute names, the flag mask and the whole decision come from `Generated/PyLoops.lean`. -/
theorem matchRangeE_gen (c : Ctx) (e : Elem) (cond : Nat) :
    matchRangeE c e cond = (do
      let itype ← lowerE ((c.attrByName e Gen.PyLoops.rangeAttrType).getD (.str []))
      let mn ← parseValueE itype (c.attrByName e Gen.PyLoops.rangeAttrMin)
      let mx ← parseValueE itype (c.attrByName e Gen.PyLoops.rangeAttrMax)
      if mn.isNone && mx.isNone then return Gen.PyLoops.rangeDecisionCond itype mn mx none cond
      let value ← parseValueE itype (c.attrByName e Gen.PyLoops.rangeAttrValue)
      return Gen.PyLoops.rangeDecisionCond itype mn mx value cond) := by
  rw [matchRangeE_hand]
  simp only [show Gen.PyLoops.rangeAttrType = "type".toStr from rfl,
    show Gen.PyLoops.rangeAttrMin = "min".toStr from rfl,
    show Gen.PyLoops.rangeAttrMax = "max".toStr from rfl,
    show Gen.PyLoops.rangeAttrValue = "value".toStr from rfl, rangeDecisionCond_eq_hand]
  -- the two sides differ only in the early return, where the decision is `false` anyway
  refine bind_congr fun itype => bind_congr fun mn => bind_congr fun mx => ?_
  cases hb : (mn.isNone && mx.isNone)
  · rfl
  · simp [handDecision, hb]

/-- Hypothesis form (as `range_def`): when none of the four reads raises, the answer of `matchRangeE` is the
    generated decision on the four parsed values. -/
theorem matchRangeE_gen_ok (c : Ctx) (e : Elem) (cond : Nat) (itype : Str) (mn mx v : Option PVal)
    (hT : lowerE ((c.attrByName e Gen.PyLoops.rangeAttrType).getD (.str [])) = .ok itype)
    (hmn : parseValueE itype (c.attrByName e Gen.PyLoops.rangeAttrMin) = .ok mn)
    (hmx : parseValueE itype (c.attrByName e Gen.PyLoops.rangeAttrMax) = .ok mx)
    (hv : parseValueE itype (c.attrByName e Gen.PyLoops.rangeAttrValue) = .ok v) :
    matchRangeE c e cond = .ok (Gen.PyLoops.rangeDecisionCond itype mn mx v cond) := by
  rw [rangeDecisionCond_eq_hand]
  exact matchRangeE_hand_ok c e cond itype mn mx v hT hmn hmx hv

/-- `range_def` about the generated definition: `False` when neither bound parses; otherwise `:out-of-range`
    (`inRange = false`) holds exactly when the value is out of range in the sense of `Spec.OutOfRange`
    (wrap-around for `type=time` only) and `:in-range` is its negation.  `hk`: a parsed value exists only for
    `time` and the six linearly ordered types (`parseValue_some_known`; discharged in `range_def_gen_parsed`). -/
theorem range_def_gen (itype : Str) (mn mx v : Option PVal) (inRange : Bool)
    (hk : ∀ x, v = some x → (itype == "time".toStr) = true ∨
      (["date", "datetime-local", "month", "week", "number", "range"].any
        fun k => k.toStr == itype) = true) :
    Gen.PyLoops.rangeDecision itype mn mx v inRange = true ↔
      (mn.isSome ∨ mx.isSome) ∧
        (if inRange = true then ¬ Spec.OutOfRange ltV (itype = "time".toStr) mn mx v
         else Spec.OutOfRange ltV (itype = "time".toStr) mn mx v) := by
  rw [rangeDecision_eq_hand]
  exact handDecision_iff itype mn mx v inRange hk

/-- The same for the values `Inputs.parseValue` produces from three attribute strings (absent attribute = `none`). -/
theorem range_def_gen_parsed (itype : Str) (smn smx sv : Option Str) (inRange : Bool) :
    let mn := smn.bind (Inputs.parseValue itype)
    let mx := smx.bind (Inputs.parseValue itype)
    let v := sv.bind (Inputs.parseValue itype)
    Gen.PyLoops.rangeDecision itype mn mx v inRange = true ↔
      (mn.isSome ∨ mx.isSome) ∧
        (if inRange = true then ¬ Spec.OutOfRange ltV (itype = "time".toStr) mn mx v
         else Spec.OutOfRange ltV (itype = "time".toStr) mn mx v) := by
  intro mn mx v
  apply range_def_gen
  intro x hx
  cases sv with
  | none => exact absurd hx (by simp [v])
  | some s => exact parseValue_some_known itype s x hx

/-- An invalid or missing value is never out of range, and is in range as soon as a bound parses. -/
theorem range_missing_value_gen (itype : Str) (mn mx : Option PVal) (inRange : Bool) :
    Gen.PyLoops.rangeDecision itype mn mx none inRange = (inRange && (mn.isSome || mx.isSome)) := by
  rw [rangeDecision_eq_hand]
  cases mn <;> cases mx <;> cases inRange <;> rfl

/-- `range_time_wrap` about the generated definition: times of day with the minimum later than the maximum —
    `:out-of-range` exactly strictly between the maximum and the minimum (minutes since midnight),
    `:in-range` otherwise. -/
theorem range_time_wrap_gen (h1 i1 h2 i2 h i : Nat) (b1 : i1 ≤ 59) (b2 : i2 ≤ 59) (b : i ≤ 59)
    (hw : h2 * 60 + i2 < h1 * 60 + i1) (inRange : Bool) :
    Gen.PyLoops.rangeDecision "time".toStr
        (some (.ints [h1, i1])) (some (.ints [h2, i2])) (some (.ints [h, i])) inRange = true ↔
      (if inRange = true then ¬ (h2 * 60 + i2 < h * 60 + i ∧ h * 60 + i < h1 * 60 + i1)
       else (h2 * 60 + i2 < h * 60 + i ∧ h * 60 + i < h1 * 60 + i1)) := by
  rw [range_def_gen _ _ _ _ _ (fun _ _ => Or.inl rfl),
    range_time_wrap h1 i1 h2 i2 h i b1 b2 b hw]
  simp

/-- `range_time_plain` about the generated definition: minimum not later than the maximum — the ordinary interval. -/
theorem range_time_plain_gen (h1 i1 h2 i2 h i : Nat) (b1 : i1 ≤ 59) (b2 : i2 ≤ 59) (b : i ≤ 59)
    (hw : ¬ h2 * 60 + i2 < h1 * 60 + i1) (inRange : Bool) :
    Gen.PyLoops.rangeDecision "time".toStr
        (some (.ints [h1, i1])) (some (.ints [h2, i2])) (some (.ints [h, i])) inRange = true ↔
      (if inRange = true then ¬ (h * 60 + i < h1 * 60 + i1 ∨ h2 * 60 + i2 < h * 60 + i)
       else (h * 60 + i < h1 * 60 + i1 ∨ h2 * 60 + i2 < h * 60 + i)) := by
  rw [range_def_gen _ _ _ _ _ (fun _ _ => Or.inl rfl),
    range_time_plain h1 i1 h2 i2 h i b1 b2 b hw]
  simp

-- 23:00–02:00 wraps: 01:30 is in range, 12:00 is out of range; a date range never wraps
example : Gen.PyLoops.rangeDecision "time".toStr (some (.ints [23, 0])) (some (.ints [2, 0])) (some (.ints [1, 30])) true = true := by decide_lit
example : Gen.PyLoops.rangeDecision "time".toStr (some (.ints [23, 0])) (some (.ints [2, 0])) (some (.ints [12, 0])) false = true := by decide_lit
example : Gen.PyLoops.rangeDecision "date".toStr (some (.ints [2020, 1, 1])) none (some (.ints [2019, 12, 31])) false = true := by decide_lit
example : Gen.PyLoops.rangeDecision "text".toStr (some (.ints [5])) none (some (.ints [1])) false = false := by decide_lit
example : Gen.PyLoops.rangeDecisionCond "week".toStr none (some (.ints [2020, 10])) none 0x80 = true := by decide_lit

end C18
end SoupVerif
