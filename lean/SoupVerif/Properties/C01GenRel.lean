/-
  C01GenRel: the relation walks of `CSSMatch` (`match_relations`, `match_past_relations`, `match_future_relations`,
  `match_future_child`) and `match_subselectors`, REGENERATED from the source (`Generated/PyRelations.lean`,
  gen/gen_py_relations.py), equal the hand-written model (`relationWalk`, `List.all`) FOR ALL ARGUMENTS.

  The generated part is a TABLE (rel_type string → `Branch`, in source order); the interpreter below runs the
  LOOPS of the source (flag `found`, `while not found and x …`, `for … if match: break`) over the candidate lists
  of the model; the theorems show loops = `List.any` over `takeWhile` / head test.
-/
import SoupVerif.Lemmas.MatchAlgebra
import SoupVerif.Lemmas.List
import SoupVerif.Generated.PyRelations
namespace SoupVerif.C01GenRel
open SoupVerif SoupVerif.Gen.PyRelations

/-- the `no_iframe=` argument as written -/
def iframeArg (c : Ctx) : IframeArg → Bool
  | .iframeRestrict => c.iframeRestrict
  | .absent => false

/-- all candidates the getter yields when iterated from `el` -/
def axisList (c : Ctx) (l : Loc) (ni : Bool) : RelAxis → List Loc
  | .parentChain => c.ancestors l ni
  | .prevTag => l.prevSiblings.filter Loc.isTag
  | .nextTag => l.nextSiblings.filter Loc.isTag
  | .descendants => c.tagDescendants l ni
  | .children => c.tagChildren l ni

/-- the first call `x = getter(el)` -/
def axisFirst (c : Ctx) (l : Loc) (ni : Bool) : RelAxis → Option Loc
  | .parentChain => c.parent l ni
  | a => (axisList c l ni a).head?

/-- `while not found and x and not stop(x): found = on(x); x = step(x)` (the list = the successive `x`) -/
def whileLoop (stop on : Loc → Bool) : List Loc → Bool → Bool
  | [], found => found
  | x :: rest, found => if !found && !stop x then whileLoop stop on rest (on x) else found

/-- `for x in xs: match = on(x); if match: break` -/
def forBreakLoop (on : Loc → Bool) : List Loc → Bool → Bool
  | [], m => m
  | x :: rest, _ => if on x then true else forBreakLoop on rest false

def runBranch (c : Ctx) (l : Loc) (b : Branch) (on : Loc → Bool) : Bool :=
  let ni := iframeArg c b.noIframe
  match b.mode with
  | .walk => whileLoop (fun x => b.docStops && x.isDoc) on (axisList c l ni b.axis) false
  | .forBreak => forBreakLoop on (axisList c l ni b.axis) false
  | .once =>
    match axisFirst c l ni b.axis with
    | some x => if !(b.docStops && x.isDoc) && (!b.tagGuard || x.isTag) then on x else false
    | none => false

/-- `Rel` of the IR ↦ the `REL_*` string of the source (`none` = `rel_type is None`) -/
def relStr : Rel → Option Str
  | .none => none
  | .desc => some REL_PARENT
  | .child => some REL_CLOSE_PARENT
  | .sib => some REL_SIBLING
  | .adj => some REL_CLOSE_SIBLING
  | .hasDesc => some REL_HAS_PARENT
  | .hasChild => some REL_HAS_CLOSE_PARENT
  | .hasSib => some REL_HAS_SIBLING
  | .hasAdj => some REL_HAS_CLOSE_SIBLING

/-- first branch of an `if / elif` chain whose test `rel_type == KEY` holds -/
def lookupBranch (tbl : List (Str × Branch)) (s : Str) : Option Branch :=
  (tbl.find? (fun kb => kb.1 == s)).map (·.2)

/-- the branch `match_relations` reaches for a `rel_type` -/
def branchOf (rt : Rel) : Option Branch :=
  match relStr rt with
  | none => none
  | some s => if futurePrefix.isPrefixOf s then lookupBranch futureBranches s else lookupBranch pastBranches s

/-- `match_relations(el, relation)` with `on = self.match_selectors(·, relation)`, `rt = relation[0].rel_type` -/
def runRelation (c : Ctx) (l : Loc) (rt : Rel) (on : Loc → Bool) : Bool :=
  match branchOf rt with
  | some b => runBranch c l b on
  | none => false   -- `rel_type is None`, or no `elif` fired: `found` stays `False`

theorem whileLoop_eq (stop on : Loc → Bool) (xs : List Loc) (found : Bool) :
    whileLoop stop on xs found = (found || (xs.takeWhile (fun x => !stop x)).any on) := by
  induction xs generalizing found with
  | nil => simp [whileLoop]
  | cons x rest ih =>
    cases found <;> simp [whileLoop, List.takeWhile_cons]
    cases hs : stop x <;> simp [ih]

theorem forBreakLoop_eq (on : Loc → Bool) (xs : List Loc) : forBreakLoop on xs false = xs.any on := by
  induction xs with
  | nil => simp [forBreakLoop]
  | cons x rest ih => cases h : on x <;> simp [forBreakLoop, h, ih]

theorem head_filter_isTag (xs : List Loc) (s : Loc) (h : (xs.filter Loc.isTag).head? = some s) : s.isTag = true := by
  have : s ∈ xs.filter Loc.isTag := List.mem_of_head? h
  exact (List.mem_filter.mp this).2

/-- The regenerated table, run by the loop interpreter, is the hand model `relationWalk`. -/
theorem gen_relationWalk_eq (c : Ctx) (l : Loc) (rt : Rel) (on : Loc → Bool) :
    runRelation c l rt on = relationWalk c l rt on := by
  cases rt
  case none => rfl
  case desc =>
    have h : branchOf .desc = some ⟨.parentChain, .walk, true, false, .iframeRestrict⟩ := by decide
    simp [runRelation, h, runBranch, iframeArg, axisList, whileLoop_eq, relationWalk]
  case child =>
    have h : branchOf .child = some ⟨.parentChain, .once, true, false, .iframeRestrict⟩ := by decide
    simp only [runRelation, h, runBranch, iframeArg, axisFirst, relationWalk]
    cases c.parent l c.iframeRestrict <;> simp
  case sib =>
    have h : branchOf .sib = some ⟨.prevTag, .walk, false, false, .absent⟩ := by decide
    simp [runRelation, h, runBranch, axisList, whileLoop_eq, relationWalk, takeWhile_true]
  case adj =>
    have h : branchOf .adj = some ⟨.prevTag, .once, false, true, .absent⟩ := by decide
    simp only [runRelation, h, runBranch, axisFirst, axisList, relationWalk]
    cases hh : (l.prevSiblings.filter Loc.isTag).head? with
    | none => rfl
    | some s => simp [head_filter_isTag _ _ hh]
  case hasDesc =>
    have h : branchOf .hasDesc = some ⟨.descendants, .forBreak, false, false, .iframeRestrict⟩ := by decide
    simp [runRelation, h, runBranch, iframeArg, axisList, forBreakLoop_eq, relationWalk]
  case hasChild =>
    have h : branchOf .hasChild = some ⟨.children, .forBreak, false, false, .iframeRestrict⟩ := by decide
    simp [runRelation, h, runBranch, iframeArg, axisList, forBreakLoop_eq, relationWalk]
  case hasSib =>
    have h : branchOf .hasSib = some ⟨.nextTag, .walk, false, false, .absent⟩ := by decide
    simp [runRelation, h, runBranch, axisList, whileLoop_eq, relationWalk, takeWhile_true]
  case hasAdj =>
    have h : branchOf .hasAdj = some ⟨.nextTag, .once, false, true, .absent⟩ := by decide
    simp only [runRelation, h, runBranch, axisFirst, axisList, relationWalk]
    cases hh : (l.nextSiblings.filter Loc.isTag).head? with
    | none => rfl
    | some s => simp [head_filter_isTag _ _ hh]

/-- every `rel_type` other than `None` reaches a branch of the table: the dispatch on `startswith(':')` sends
    no `REL_*` string to the chain that lacks it -/
theorem gen_branchOf_total (rt : Rel) : rt ≠ .none → (branchOf rt).isSome = true := by
  cases rt <;> decide

theorem gen_branches_keys :
    branches.map (·.1) = [REL_PARENT, REL_CLOSE_PARENT, REL_SIBLING, REL_CLOSE_SIBLING,
      REL_HAS_PARENT, REL_HAS_CLOSE_PARENT, REL_HAS_SIBLING, REL_HAS_CLOSE_SIBLING] := by decide

/-- `match_subselectors`: the flag loop without `break` is `List.all`. -/
theorem gen_subsLoop_eq {α : Type} (p : α → Bool) (sels : List α) (flag : Bool) :
    subsLoop p sels flag = (flag && sels.all p) := by
  induction sels generalizing flag with
  | nil => simp [subsLoop]
  | cons s rest ih => cases h : p s <;> simp [subsLoop, h, ih]

theorem gen_matchSubselectors_eq {α : Type} (p : α → Bool) (sels : List α) :
    matchSubselectors p sels = sels.all p := by
  simp [matchSubselectors, gen_subsLoop_eq]

/-- tie to the hand model `matchSubs` (inside the `mutual` block of `Model/Match.lean`) -/
theorem gen_matchSubs_eq (c : Ctx) (l : Loc) (e : Elem) (subs : List SelList) :
    matchSubselectors (fun s => matchList c l e s) subs = matchSubs c l e subs := by
  rw [gen_matchSubselectors_eq, matchSubs_eq_all]

theorem gen_descendant_stops_at_document (c : Ctx) (l : Loc) (on : Loc → Bool) :
    runRelation c l .desc on = ((c.ancestors l c.iframeRestrict).takeWhile (fun p => !p.isDoc)).any on := by
  rw [gen_relationWalk_eq]; rfl

theorem gen_has_descendant_any (c : Ctx) (l : Loc) (on : Loc → Bool) :
    runRelation c l .hasDesc on = (c.tagDescendants l c.iframeRestrict).any on := by
  rw [gen_relationWalk_eq]; rfl

theorem gen_null_relation (c : Ctx) (l : Loc) (on : Loc → Bool) : runRelation c l .none on = false := rfl

end SoupVerif.C01GenRel
