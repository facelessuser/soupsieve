/-
  C05 — the FRAME of `CSSMatch.match_selectors` (context switch of an HTML-only list, its restore, the
  `is_not` / `is_html` logic), translated from the source (`Generated/PyMatchSel.lean`, `frame` and
  `loop`) and proved equal to the model's `matchList` in `Properties/C01GenMatch.lean`
  (`gen_frame_eq_matchList`).  Here: the C05 theorems restated about the regenerated function.

  `genMatchList c l e L` is the verdict, `genCtxAfter c l e L` the context (`self.namespaces`,
  `self.iframe_restrict`) the regenerated function leaves behind; both are `Option`s (`none`: the
  interpreter of `Model/MatchChecks.lean` has no verdict); the statements about one call say `some …`, the laws (`gen_list_union`, `gen_not_compl`,
  `gen_list_perm`) relate the `Option`s of two or three calls.
-/
import SoupVerif.Properties.C01GenMatch
import SoupVerif.Properties.C05
namespace SoupVerif.C05GenFrame
open SoupVerif SoupVerif.PyMatchSel SoupVerif.C01GenMatch

variable (c : Ctx) (l : Loc) (e : Elem)

/-- = `C01GenMatch.genCtxAfter_eq`.  **The frame restores `self`**: whatever the list (HTML-only or not, negated or not, admissible in
    this document or not), the regenerated `match_selectors` returns with the `namespaces` /
    `iframe_restrict` it was entered with.  (Seeded change C05-g moves the restoring block inside the
    `if not is_html or self.is_html:` block: then `frame.inGuardPost` is non-empty, `frame.post` is empty,
    and this is false for an HTML-only list in a non-HTML document.) -/
theorem gen_frame_restores (L : SelList) : genCtxAfter c l e L = some c :=
  genCtxAfter_eq c l e L

/-- The restoring block stands after the loop block, not inside it (as a fact about the generated term;
    `gen_frame_restores` is the semantic reason it matters). -/
theorem gen_frame_restore_placement :
    Gen.PyMatchSel.frame.inGuardPost = [] ∧ Gen.PyMatchSel.frame.post ≠ [] := by decide

/-- An HTML-only list is evaluated under `{'html': NS_XHTML}` / `iframe_restrict = True`, only in an
    HTML document (`matchList_html_ctx` for the regenerated function). -/
theorem gen_html_ctx (A : List Sel) (n : Bool) :
    genMatchList c l e (.mk A n true) =
      some (if c.isHtml then
        (!A.isEmpty &&
          (matchAny { c with namespaces := [("html".toStr, NS_XHTML)], iframeRestrict := true } l e A != n))
       else false) := by
  rw [genMatchList_eq, C05.matchList_html_ctx]

/-- A list that is not HTML-only is evaluated under the caller's context. -/
theorem gen_plain_ctx (A : List Sel) (n : Bool) :
    genMatchList c l e (.mk A n false) = some (!A.isEmpty && (matchAny c l e A != n)) := by
  rw [genMatchList_eq, C05.matchList_plain_ctx]

/-- `ctx_restored` for the regenerated function: running it on `L` and then the remaining sub-lists
    UNDER THE CONTEXT IT LEAVES BEHIND is the conjunction under the original context. -/
theorem gen_ctx_restored (L : SelList) (rest : List SelList) :
    (do let r ← genMatchList c l e L
        let c' ← genCtxAfter c l e L
        pure (r && matchSubs c' l e rest)) = some (matchSubs c l e (L :: rest)) := by
  rw [genMatchList_eq, genCtxAfter_eq, C05.ctx_restored]
  rfl

/-- The empty list of alternatives matches nothing, also when negated (`match = False` is only
    overwritten inside the loop). -/
theorem gen_empty_list (n h : Bool) : genMatchList c l e (.mk [] n h) = some false := by
  rw [genMatchList_eq, C05.empty_list]

/-- An HTML-only list never matches in a non-HTML document, negated or not. -/
theorem gen_html_only_never_in_xml (A : List Sel) (n : Bool) (hx : c.isHtml = false) :
    genMatchList c l e (.mk A n true) = some false := by
  rw [genMatchList_eq, C05.html_only_never_in_xml c l e A n true rfl hx]

/-- `A, B` matches exactly where `A` or `B` does. -/
theorem gen_list_union (A B : List Sel) (h : Bool) :
    genMatchList c l e (.mk (A ++ B) false h) =
      (do let a ← genMatchList c l e (.mk A false h)
          let b ← genMatchList c l e (.mk B false h)
          pure (a || b)) := by
  simp only [genMatchList_eq, C05.list_union]
  rfl

/-- `:not(A)` is the complement of `:is(A)` (non-empty list, admissible in this document). -/
theorem gen_not_compl (A : List Sel) (h : Bool) (hA : A ≠ []) (hg : (!h || c.isHtml) = true) :
    genMatchList c l e (.mk A true h) = (genMatchList c l e (.mk A false h)).map (!·) := by
  simp only [genMatchList_eq, C05.not_compl_html c l e A h hA hg]
  rfl

/-- The order of the alternatives is irrelevant ("first matching alternative wins" is unobservable). -/
theorem gen_list_perm {A B : List Sel} (hp : List.Perm A B) (n h : Bool) :
    genMatchList c l e (.mk A n h) = genMatchList c l e (.mk B n h) := by
  simp only [genMatchList_eq, C05.list_perm c l e hp]

/-- The matcher never accepts `SelectorNull` (the `isinstance` test of the loop body). -/
theorem gen_null_only (n h : Bool) :
    genMatchList c l e (.mk [.null] n h) = some ((!h || c.isHtml) && n) := by
  rw [genMatchList_eq, C05.null_only]

end SoupVerif.C05GenFrame
