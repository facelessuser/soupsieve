/-
  C18 at the level of the regular expressions of the SOURCE.

  `Properties/C18.lean` proves that `Inputs.parseValue` (hand-written shape scanners + the validators)
  accepts exactly the valid HTML date / month / week / time / local date-time / number strings.
  `Refine/Inputs.lean` proves, for ALL strings, that `parse_value` written with the regex-engine model on
  the expressions REGENERATED from `css_match.py` (`Gen.cm_RE_DATE`, `…_MONTH`, `…_WEEK`, `…_TIME`,
  `…_DATETIME`, `…_NUM`, groups fetched by NAME through the generated group tables) is the same function.
  Composed here: the C18 statements about `parseValueRx`, i.e. about the regexes the code compiles — an edit
  of `RE_DATE` (say `[0-9]` → `\d`, a dropped anchor, a renamed group) breaks the proof of `parseValueRx_eq` there, on which every statement here rests.
-/
import SoupVerif.Properties.C18
import SoupVerif.Refine.Inputs
namespace SoupVerif
namespace C18Rx
open RefineInputs

variable (env : CharEnv)

theorem parse_date_spec_rx (s : Str) (v : Inputs.PVal) :
    parseValueRx env "date".toStr s = some v ↔
      ∃ y m d, Spec.validDateStr s y m d ∧ v = .ints [y, m, d] := by
  rw [parseValueRx_eq]; exact C18.parse_date_spec s v

theorem parse_month_spec_rx (s : Str) (v : Inputs.PVal) :
    parseValueRx env "month".toStr s = some v ↔ ∃ y m, Spec.validMonthStr s y m ∧ v = .ints [y, m] := by
  rw [parseValueRx_eq]; exact C18.parse_month_spec s v

/-- Weeks: what the code accepts (the recorded finding: week 53 also for years whose 31 December lies in
    week 1 of the next year). -/
theorem parse_week_char_rx (s : Str) (v : Inputs.PVal) :
    parseValueRx env "week".toStr s = some v ↔
      ∃ y w, Inputs.shapeWeek s = some (y, w) ∧ 1 ≤ y ∧ 1 ≤ w ∧ w ≤ Inputs.maxWeek y ∧ v = .ints [y, w] := by
  rw [parseValueRx_eq]; exact C18.parse_week_char s v

theorem parse_week_valid_partial_rx (s : Str) (v : Inputs.PVal)
    (hg : ∀ y, Inputs.shapeWeek s = some (y, 53) → ¬ Spec.dec31InNextWeek1 y) :
    parseValueRx env "week".toStr s = some v ↔ ∃ y w, Spec.validWeekStr s y w ∧ v = .ints [y, w] := by
  rw [parseValueRx_eq]; exact C18.parse_week_valid_partial s v hg

theorem parse_week_never_rejects_valid_rx (s : Str) (y w : Nat) (h : Spec.validWeekStr s y w) :
    parseValueRx env "week".toStr s = some (.ints [y, w]) := by
  rw [parseValueRx_eq]; exact C18.parse_week_never_rejects_valid s y w h

theorem parse_time_spec_rx (s : Str) (v : Inputs.PVal) :
    parseValueRx env "time".toStr s = some v ↔ ∃ h mi, Spec.validTimeStr s h mi ∧ v = .ints [h, mi] := by
  rw [parseValueRx_eq]; exact C18.parse_time_spec s v

theorem parse_datetime_spec_rx (s : Str) (v : Inputs.PVal) :
    parseValueRx env "datetime-local".toStr s = some v ↔
      ∃ y m d h mi, Spec.validDateTimeStr s y m d h mi ∧ v = .ints [y, m, d, h, mi] := by
  rw [parseValueRx_eq]; exact C18.parse_datetime_spec s v

theorem parse_number_spec_rx (s : Str) (v : Inputs.PVal) :
    (parseValueRx env "number".toStr s = some v ↔
      ∃ neg mant exp, Spec.numShape s neg mant exp ∧ v = .num neg mant exp) ∧
    (parseValueRx env "range".toStr s = some v ↔
      ∃ neg mant exp, Spec.numShape s neg mant exp ∧ v = .num neg mant exp) := by
  rw [parseValueRx_eq, parseValueRx_eq]; exact C18.parse_number_spec s v

theorem parse_other_type_rx (t s : Str)
    (h : ∀ k ∈ ["date", "month", "week", "time", "datetime-local", "number", "range"], t ≠ k.toStr) :
    parseValueRx env t s = none := by
  rw [parseValueRx_eq]; exact C18.parse_other_type t s h

-- non-vacuity through the engine, evaluated in the kernel
example : parseValueRx asciiEnv "date".toStr "2024-02-29".toStr = some (.ints [2024, 2, 29]) := by decide_lit
example : parseValueRx asciiEnv "date".toStr "2023-02-29".toStr = none := by decide_lit
example : parseValueRx asciiEnv "date".toStr "2024-02-29\n".toStr = none := by decide_lit

end C18Rx
end SoupVerif
