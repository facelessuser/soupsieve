/-
  C05, tied to the PARSER by proof: the Boolean algebra of selector lists and the logical pseudo-classes, from
  the selector TEXT.

  `Properties/C05.lean` proves the laws on the IR (`list_union`, `not_compl_html`, `not_list_compl`, `is_conj`,
  `monotone`, `matchEl_union`, `select_union`).  `Properties/C09Compile2.lean` proves which IR the parser model
  builds from the text of a selector list in any spelling (`compile_eq_denote2_plain`: `denote` of the VALUES).
  This file proves the structural facts about `denote` that connect the two (with `Refine/C05ParseBase.lean`,
  `Refine/C05ParseImpl.lean`), and composes.

  `ListText g₁ L g₂` (`Refine/TextVerdict.lean`) bundles the hypotheses of `compile_eq_denote2_plain` for the pattern
  text `g₁ ++ L.render ++ g₂` (gaps = whitespace and comments; `L.ok 0 g₂`; no custom selector; no NUL); `one cp` is the
  list of one compound, `withItem X it` the compound `X` followed by the simple selector `it`.  `A`, `B`, `L` range
  over ALL selector lists of the grammar of `C09Compile2` (combinators, namespaces, attribute selectors,
  `:nth-*( … of S)`, `:has()`, `:lang()`, `:contains()`, nested `:is()` / `:not()`, …), `X` over all compounds,
  in every spelling.  `c : Ctx` arbitrary unless stated, `l` any node (`e` its element).
  Each theorem says: the parser model accepts the texts, and the verdicts of the matcher model satisfy the law.

  SIDE CONDITIONS, all needed (`Examples.inter_needs_side`, `is_list_needs_no_default`,
  `not_compl_needs_tagcond`: evaluated on the model, and confirmed on the real library):
    * HTML-only lists do not occur: `fnFlags` never sets `FLG_HTML`, so the nested lists of `:is()` / `:not()` are
      never HTML-only and `C05.not_compl_html`'s guard is vacuous (`subList_eq`); HTML-only sub-lists that `X`
      itself contains (`:dir()`, `:defined`, …) are inside the verdict of `X` on both sides;
    * the default namespace enters only through the implied `*` of a compound WITHOUT a type selector at the top
      level: in `not_compl_text`, `is_inter_text`, `is_eq_list_text` as stated; not at all in the others;
    * `SoupSieve.match` is `matchTextApi E isXml ns = matchText (mkCtx E isXml ns l)` (definitionally): every
      theorem applies with `c := mkCtx E isXml ns l`; then `c.nsGet [] = none` says the caller's map `ns` has no
      `''` key.
  NOT COVERED: `:has(A , B)` (relative lists: `FLG_RELATIVE`, every structural lemma here assumes
  `relOf fl = false`); custom selectors (`tbl []`).
-/
import SoupVerif.Refine.C05ParseBase
import SoupVerif.Refine.C05ParseImpl
import SoupVerif.Refine.NsParseBase
import SoupVerif.Refine.TextVerdict
import SoupVerif.Properties.C05
import SoupVerif.Refine.BuilderMerge
import SoupVerif.Lemmas.StrLit
namespace SoupVerif
namespace C05Parse
open SoupVerif.Parser ParserProgress Refine.Compile Spelling
open C09Compile (SComb Forms)
open C09Compile2
open C01Parse (implB implTag)
open C05ParseBase C05ParseImpl
open C01Parse (selectText)
open C12Parse (matchText matchTextApi TagCond)

/-- The alternatives (frozen complex selectors) of a list parsed with the flags `fl`. -/
def alts (B : Builtins) (fl : Nat) (V : SelListV) : List Sel :=
  (endSels fl (V.loopState B fl)).map SelB.freeze

theorem alts_ne_nil (B : Builtins) (fl : Nat) (V : SelListV) : alts B fl V ≠ [] := by
  simp [alts, endSels]

/-- **Structural step: the alternatives of `A , B` are those of `A` followed by those of `B`** (flags
    without `FLG_RELATIVE`; `A` ended properly). -/
theorem alts_comma (B : Builtins) (fl : Nat) (hrel : relOf fl = false) (X Y : SelListV)
    (h : EndOK fl (X.loopState B fl)) :
    alts B fl (commaV X Y) = alts B fl X ++ alts B fl Y := by
  rw [alts, loopState_comma B fl hrel X Y h, endSels_addSels, List.map_append]
  rfl

/-- The loop looks at three bits of the flag word only. -/
theorem loopState_congr (B : Builtins) (fl fl' : Nat) (h1 : relOf fl = relOf fl') (h2 : ipOf fl = ipOf fl')
    (h3 : ((fl &&& FLG_HTML) != 0) = ((fl' &&& FLG_HTML) != 0)) (V : SelListV) :
    V.loopState B fl = V.loopState B fl' := by
  have hstep : ∀ c st, combStepG fl c st = combStepG fl' c st := by
    intro c st
    unfold combStepG
    rw [h1, h2]
  have hfold : ∀ (rest : List (Nat × Compound)) (st : LS), foldRest B fl rest st = foldRest B fl' rest st := by
    intro rest
    induction rest with
    | nil => intro st; simp [foldRest]
    | cons x rest ih => intro st; rw [foldRest, foldRest, hstep, ih]
  have hrel : ((fl &&& FLG_RELATIVE) != 0) = ((fl' &&& FLG_RELATIVE) != 0) := h1
  obtain ⟨a, ra⟩ := V
  rw [loopState_eq, loopState_eq, hfold]
  congr 1
  simp only [firstSt, initLS, h3, hrel]

theorem alts_congr (B : Builtins) (fl fl' : Nat) (h1 : relOf fl = relOf fl') (h2 : ipOf fl = ipOf fl')
    (h3 : ((fl &&& FLG_HTML) != 0) = ((fl' &&& FLG_HTML) != 0)) (V : SelListV) :
    alts B fl V = alts B fl' V := by
  rw [alts, alts, loopState_congr B fl fl' h1 h2 h3, endSels, endSels, h2]

theorem denote_eq_alts (B : Builtins) (V : SelListV) (h : EndOK 0 (V.loopState B 0)) :
    denote B V = .mk (alts B 0 V) false false := by
  rw [denote, finishG_eq 0 (by decide) (fun s => by simp [finalSels]) _ h,
    (loopState_fields B 0 (by decide) V).2.2]
  rfl

/-- **`denote` on the comma of two top-level lists: the append of the two denoted lists.** -/
theorem denote_comma (B : Builtins) (X Y : SelListV) (hX : EndOK 0 (X.loopState B 0))
    (hXY : EndOK 0 ((commaV X Y).loopState B 0)) (hY : EndOK 0 (Y.loopState B 0)) :
    denote B (commaV X Y) = .mk ((denote B X).sels ++ (denote B Y).sels) false false := by
  rw [denote_eq_alts B _ hXY, denote_eq_alts B _ hX, denote_eq_alts B _ hY, alts_comma B 0 (by decide) X Y hX]
  rfl

/-- `:is`, `:where`, `:matches`. -/
def isName (n : Str) : Prop := n = ":is".toStr ∨ n = ":where".toStr ∨ n = ":matches".toStr

instance (n : Str) : Decidable (isName n) := by unfold isName; infer_instance

/-- The selector list `:n(L)` appends to the `selectors` of its compound. -/
def subList (B : Builtins) (n : Str) (V : SelListV) : SelList :=
  finishG (fnFlags n) (closeSt (V.loopState B (fnFlags n)))

theorem fnFlags_facts (n : Str) (h : isName n ∨ n = ":not".toStr) :
    relOf (fnFlags n) = false ∧ ipOf (fnFlags n) = true ∧ (((fnFlags n) &&& FLG_HTML) != 0) = false ∧
    (∀ s, finalSels (fnFlags n) s = s) ∧
    (((fnFlags n) &&& FLG_NOT) != 0) = (n == ":not".toStr) := by
  rcases h with (h | h | h) | h <;> subst h <;>
    exact ⟨by decide, by decide, by decide, fun s => by simp +decide [finalSels], by decide⟩

theorem closeSt_isHtml (st : LS) : (closeSt st).isHtml = st.isHtml := by
  unfold closeSt
  by_cases h : st.hasSelector = true <;> simp [h]

/-- **`:is(L)` / `:where(L)` / `:matches(L)` / `:not(L)` wrap the alternatives of `L` (read with
    `FLG_PSEUDO`: no implied `*`) in a nested list — negated for `:not`, never HTML-only.** -/
theorem subList_eq (B : Builtins) (n : Str) (hn : isName n ∨ n = ":not".toStr) (V : SelListV)
    (h : EndOK (fnFlags n) (V.loopState B (fnFlags n))) :
    subList B n V = .mk (alts B 1 V) (n == ":not".toStr) false := by
  obtain ⟨h1, h2, h3, h4, h5⟩ := fnFlags_facts n hn
  rw [subList, finishG_eq _ h1 h4 _ (EndOK_closeSt _ _ h), endSels_closeSt, closeSt_isHtml,
    (loopState_fields B _ h1 V).2.2, h3, h5]
  have := alts_congr B (fnFlags n) 1 (by rw [h1]; decide) (by rw [h2]; decide) (by rw [h3]; decide) V
  rw [alts] at this
  rw [this]

/-- Only the `ok` of `A , B` is in hand (not that of `A` alone), so the proper end of `A` is read off the
    prefix of the fold. -/
theorem commaS_endOK (B : Builtins) (fl : Nat) (hrel : relOf fl = false) (X Y : SSelList) (g₁ g₂ r : Str)
    (hok : (commaS X g₁ g₂ Y).ok fl r) : EndOK fl (X.value.loopState B fl) := by
  obtain ⟨a, ra⟩ := X
  obtain ⟨b, rb⟩ := Y
  rw [commaS, SSelList.ok] at hok
  rw [SSelList.value, loopState_eq]
  obtain ⟨b', hok', hinv⟩ := foldRest_inv B fl _ r ra (!a.isEmpty) _ hok.2.2
    (by have := firstSt_inv B fl a.value; rwa [SCompound.value_isEmpty] at this)
  rw [restOK] at hok'
  -- behind an empty last slot of `A` stands the comma: the list is forgiving
  cases b' with
  | true => exact Or.inl hinv.1
  | false =>
    have := (hok'.2.2.1 rfl).2
    rw [hrel] at this
    exact Or.inr ⟨this.2, hinv.2.1 (Or.inr rfl)⟩

theorem matchSel_withFn (B : Builtins) (c : Ctx) (l : Loc) (e : Elem) (X : SCompound) (f : Forms) (i₁ : Str)
    (L : SSelList) (i₂ : Str) :
    matchSel c l e (selOf B (withItem X (.fn f i₁ L i₂))) =
      (matchSel c l e (selOf B X) && matchList c l e (subList B (58 :: lower (valueOf f)) L.value)) := by
  rw [matchSel_withItem, SItem.value, Item.holds_fn]
  rfl

/-- The empty compound at the top level (what stands in front of a lone `:n(L)`) tests the implied `*` only. -/
theorem matchSel_selOf_empty (B : Builtins) (c : Ctx) (l : Loc) (e : Elem) :
    matchSel c l e (selOf B (.mk none [])) = matchTag c e (some ⟨[42], none⟩) := by
  simp only [selOf, SCompound.value, itemsValue]
  rw [matchSel_freeze_compound, List.all_nil, Bool.and_true]
  rfl

theorem matchSel_selOf_tag (B : Builtins) (c : Ctx) (l : Loc) (e : Elem) (tag : Option STagN)
    (items : List SItem) (h : matchSel c l e (selOf B (.mk tag items)) = true) :
    matchTag c e (implTag false (tag.map STagN.value)) = true := by
  simp only [selOf, SCompound.value] at h
  rw [matchSel_freeze_compound, Bool.and_eq_true] at h
  exact h.1

theorem ListText.endOK {g₁ g₂ : Str} {L : SSelList} (h : ListText g₁ L g₂) (B : Builtins) :
    EndOK 0 (L.value.loopState B 0) := endOK_of_ok B 0 L g₂ h.ok

theorem ListText.denote_comma {g₁ g₂ gc₁ gc₂ : Str} {A B : SSelList} (h : ListText g₁ (commaS A gc₁ gc₂ B) g₂) :
    denote Gen.builtinsRec (commaS A gc₁ gc₂ B).value =
      .mk (alts Gen.builtinsRec 0 A.value ++ alts Gen.builtinsRec 0 B.value) false false := by
  rw [denote_eq_alts _ _ (h.endOK _), commaS_value,
    alts_comma _ 0 (by decide) _ _ (commaS_endOK _ 0 (by decide) A B gc₁ gc₂ g₂ h.ok)]

theorem ListText.comma_verdict {g₁ g₂ gc₁ gc₂ : Str} {A B : SSelList} (h : ListText g₁ (commaS A gc₁ gc₂ B) g₂)
    (c : Ctx) (l : Loc) :
    matchText c (g₁ ++ (A.render ++ (gc₁ ++ 44 :: gc₂) ++ B.render) ++ g₂) l =
      .ok (matchEl c (.mk (alts Gen.builtinsRec 0 A.value) false false) l ||
        matchEl c (.mk (alts Gen.builtinsRec 0 B.value) false false) l) := by
  rw [← commaS_render, h.matchText_eq, h.denote_comma, C05.matchEl_union]

theorem ListText.verdict {g₁ g₂ : Str} {L : SSelList} (h : ListText g₁ L g₂) (c : Ctx) (l : Loc) :
    matchText c (g₁ ++ L.render ++ g₂) l = .ok (matchEl c (.mk (alts Gen.builtinsRec 0 L.value) false false) l) := by
  rw [h.matchText_eq, denote_eq_alts _ _ (h.endOK _)]

theorem ListText.comma {g₁ g₂ gc₁ gc₂ : Str} {A B : SSelList} (hg₁ : isGap g₁) (hg₂ : isGap g₂)
    (hc₁ : isGap gc₁) (hc₂ : isGap gc₂) (hA : A.ok 0 (gc₁ ++ 44 :: (gc₂ ++ (B.render ++ g₂))))
    (hB : B.ok 0 g₂) (htA : A.tbl []) (htB : B.tbl [])
    (h0 : ∀ x ∈ g₁ ++ (A.render ++ (gc₁ ++ 44 :: gc₂) ++ B.render) ++ g₂, x ≠ 0) :
    ListText g₁ (commaS A gc₁ gc₂ B) g₂ where
  gap₁ := hg₁
  gap₂ := hg₂
  ok := commaS_ok 0 (by decide) A B gc₁ gc₂ g₂ hc₁ hc₂ hA hB
  tbl := commaS_tbl [] A B gc₁ gc₂ htA htB
  nonul := by rw [commaS_render]; exact h0

/-- The verdict on the text of `X:n(L)`, `n` one of `is`, `where`, `matches`, `not`: the verdict of the
    builder of `X` (for an empty `X`: of the implied `*`), and the nested list of the alternatives of `L`. -/
theorem ListText.fn_verdict {g₁ g₂ : Str} {X : SCompound} {f : Forms} {i₁ i₂ : Str} {L : SSelList}
    (h : ListText g₁ (one (withItem X (.fn f i₁ L i₂))) g₂)
    (hn : isName (58 :: lower (valueOf f)) ∨ 58 :: lower (valueOf f) = ":not".toStr)
    (c : Ctx) (l : Loc) (e : Elem) (kids : List Node) (hf : l.focus = .elem e kids) :
    L.ok (fnFlags (58 :: lower (valueOf f))) (i₂ ++ 41 :: g₂) ∧
    matchText c (g₁ ++ (withItem X (.fn f i₁ L i₂)).render ++ g₂) l =
      .ok (!e.isDoc && (matchSel c l e (selOf Gen.builtinsRec X) &&
        matchList c l e (.mk (alts Gen.builtinsRec 1 L.value) (58 :: lower (valueOf f) == ":not".toStr) false))) := by
  have hok := withItem_ok_last X _ g₂ h.one_facts.2
  rw [SItem.ok] at hok
  refine ⟨hok.2.2.2.2, ?_⟩
  rw [h.one_verdict c l e kids hf, matchSel_withFn,
    subList_eq _ _ hn _ (endOK_of_ok _ _ L _ hok.2.2.2.2)]

theorem alts_comma_nested (B : Builtins) (n : Str) (hn : isName n ∨ n = ":not".toStr) (X Y : SSelList)
    (g₁ g₂ r : Str) (hok : (commaS X g₁ g₂ Y).ok (fnFlags n) r) :
    alts B 1 (commaS X g₁ g₂ Y).value = alts B 1 X.value ++ alts B 1 Y.value := by
  obtain ⟨h1, h2, h3, _, _⟩ := fnFlags_facts n hn
  have hc := fun V => alts_congr B (fnFlags n) 1 (by rw [h1]; decide) (by rw [h2]; decide) (by rw [h3]; decide) V
  rw [← hc, ← hc, ← hc, commaS_value, alts_comma B _ h1 _ _ (commaS_endOK B _ h1 X Y g₁ g₂ r hok)]

theorem isName_ne_not {n : Str} (h : isName n) : (n == ":not".toStr) = false := by
  rcases h with h | h | h <;> rw [h] <;> decide_lit

/-! ## C05 on selector TEXT -/

section Laws
variable (c : Ctx) (l : Loc)

/-- **`A , B` selects the union of what `A` and `B` select** — from the TEXT: for selector lists `A`, `B` of
    the grammar of `C09Compile2` in any spelling, any gaps (with comments) around the comma and around the
    three patterns: the parser model accepts the three texts, and the matcher model run on the compiled
    `A , B` accepts a node iff run on the compiled `A` or on the compiled `B` it does.  No condition on the
    context (namespaces, document kind). -/
theorem comma_text (A B : SSelList) (gc₁ gc₂ g₁ g₂ gA₁ gA₂ gB₁ gB₂ : Str)
    (hAB : ListText g₁ (commaS A gc₁ gc₂ B) g₂) (hA : ListText gA₁ A gA₂) (hB : ListText gB₁ B gB₂) :
    ∃ bAB bA bB,
      matchText c (g₁ ++ (A.render ++ (gc₁ ++ 44 :: gc₂) ++ B.render) ++ g₂) l = .ok bAB ∧
      matchText c (gA₁ ++ A.render ++ gA₂) l = .ok bA ∧
      matchText c (gB₁ ++ B.render ++ gB₂) l = .ok bB ∧ bAB = (bA || bB) :=
  ⟨_, _, _, hAB.comma_verdict c l, hA.verdict c l, hB.verdict c l, rfl⟩

/-- **Adding an alternative never removes a result** (from the text). -/
theorem comma_monotone_text (A B : SSelList) (gc₁ gc₂ g₁ g₂ gA₁ gA₂ : Str)
    (hAB : ListText g₁ (commaS A gc₁ gc₂ B) g₂) (hA : ListText gA₁ A gA₂)
    (hm : matchText c (gA₁ ++ A.render ++ gA₂) l = .ok true) :
    matchText c (g₁ ++ (A.render ++ (gc₁ ++ 44 :: gc₂) ++ B.render) ++ g₂) l = .ok true := by
  rw [hAB.comma_verdict, Except.ok.inj ((hA.verdict c l).symm.trans hm), Bool.true_or]

/-- … on the right as well. -/
theorem comma_monotone_right_text (A B : SSelList) (gc₁ gc₂ g₁ g₂ gB₁ gB₂ : Str)
    (hAB : ListText g₁ (commaS A gc₁ gc₂ B) g₂) (hB : ListText gB₁ B gB₂)
    (hm : matchText c (gB₁ ++ B.render ++ gB₂) l = .ok true) :
    matchText c (g₁ ++ (A.render ++ (gc₁ ++ 44 :: gc₂) ++ B.render) ++ g₂) l = .ok true := by
  rw [hAB.comma_verdict, Except.ok.inj ((hB.verdict c l).symm.trans hm), Bool.or_true]

variable (e : Elem) (kids : List Node) (hf : l.focus = .elem e kids)
include hf

theorem ListText.is_verdict {g₁ g₂ : Str} {X : SCompound} {f : Forms} {i₁ i₂ : Str} {L : SSelList}
    (h : ListText g₁ (one (withItem X (.fn f i₁ L i₂))) g₂) (hn : isName (58 :: lower (valueOf f))) :
    matchText c (g₁ ++ (withItem X (.fn f i₁ L i₂)).render ++ g₂) l =
      .ok (!e.isDoc && (matchSel c l e (selOf Gen.builtinsRec X) &&
        matchList c l e (.mk (alts Gen.builtinsRec 1 L.value) false false))) := by
  rw [(h.fn_verdict (Or.inl hn) c l e kids hf).2, isName_ne_not hn]

/-- The nested list is never empty and never HTML-only, so negating it complements it. -/
theorem ListText.not_verdict {g₁ g₂ : Str} {X : SCompound} {f : Forms} {i₁ i₂ : Str} {L : SSelList}
    (h : ListText g₁ (one (withItem X (.fn f i₁ L i₂))) g₂) (hn : 58 :: lower (valueOf f) = ":not".toStr) :
    matchText c (g₁ ++ (withItem X (.fn f i₁ L i₂)).render ++ g₂) l =
      .ok (!e.isDoc && (matchSel c l e (selOf Gen.builtinsRec X) &&
        !matchList c l e (.mk (alts Gen.builtinsRec 1 L.value) false false))) := by
  rw [(h.fn_verdict (Or.inr hn) c l e kids hf).2, hn, beq_self_eq_true,
    C05.not_compl_html c l e _ false (alts_ne_nil _ _ _) rfl]

/-- **`X:is(A , B)` is the union of `X:is(A)` and `X:is(B)`** — from the TEXT; `X` any compound of the
    grammar (possibly empty: `:is(A , B)` itself), each of the three names one of `is`, `where`, `matches`
    in any spelling.  No condition on the context. -/
theorem is_comma_text (X : SCompound) (f fA fB : Forms) (i₁ i₂ iA₁ iA₂ iB₁ iB₂ : Str) (A B : SSelList)
    (gc₁ gc₂ g₁ g₂ gA₁ gA₂ gB₁ gB₂ : Str)
    (hn : isName (58 :: lower (valueOf f))) (hnA : isName (58 :: lower (valueOf fA)))
    (hnB : isName (58 :: lower (valueOf fB)))
    (hAB : ListText g₁ (one (withItem X (.fn f i₁ (commaS A gc₁ gc₂ B) i₂))) g₂)
    (hA : ListText gA₁ (one (withItem X (.fn fA iA₁ A iA₂))) gA₂)
    (hB : ListText gB₁ (one (withItem X (.fn fB iB₁ B iB₂))) gB₂) :
    ∃ bAB bA bB,
      matchText c (g₁ ++ (withItem X (.fn f i₁ (commaS A gc₁ gc₂ B) i₂)).render ++ g₂) l = .ok bAB ∧
      matchText c (gA₁ ++ (withItem X (.fn fA iA₁ A iA₂)).render ++ gA₂) l = .ok bA ∧
      matchText c (gB₁ ++ (withItem X (.fn fB iB₁ B iB₂)).render ++ gB₂) l = .ok bB ∧
      bAB = (bA || bB) := by
  refine ⟨_, _, _, hAB.is_verdict c l e kids hf hn, hA.is_verdict c l e kids hf hnA,
    hB.is_verdict c l e kids hf hnB, ?_⟩
  rw [alts_comma_nested _ _ (Or.inl hn) A B gc₁ gc₂ _ (hAB.fn_verdict (Or.inl hn) c l e kids hf).1, C05.list_union]
  cases e.isDoc <;> cases matchSel c l e (selOf Gen.builtinsRec X) <;> simp

/-- **`X:is(A , B)` keeps every result of `X:is(A)`** (adding an alternative never removes a result). -/
theorem is_monotone_text (X : SCompound) (f fA : Forms) (i₁ i₂ iA₁ iA₂ : Str) (A B : SSelList)
    (gc₁ gc₂ g₁ g₂ gA₁ gA₂ : Str)
    (hn : isName (58 :: lower (valueOf f))) (hnA : isName (58 :: lower (valueOf fA)))
    (hAB : ListText g₁ (one (withItem X (.fn f i₁ (commaS A gc₁ gc₂ B) i₂))) g₂)
    (hA : ListText gA₁ (one (withItem X (.fn fA iA₁ A iA₂))) gA₂)
    (hm : matchText c (gA₁ ++ (withItem X (.fn fA iA₁ A iA₂)).render ++ gA₂) l = .ok true) :
    matchText c (g₁ ++ (withItem X (.fn f i₁ (commaS A gc₁ gc₂ B) i₂)).render ++ g₂) l = .ok true := by
  have hm := Except.ok.inj ((hA.is_verdict c l e kids hf hnA).symm.trans hm)
  simp only [Bool.and_eq_true] at hm
  rw [hAB.is_verdict c l e kids hf hn,
    alts_comma_nested _ _ (Or.inl hn) A B gc₁ gc₂ _ (hAB.fn_verdict (Or.inl hn) c l e kids hf).1,
    C05.list_union, hm.1, hm.2.1, hm.2.2]
  rfl

/-- **`:where` and `:matches` behave as `:is`** — from the TEXT: `X:n(L)` and `X:n'(L')` with `n`, `n'` among
    `is`, `where`, `matches` (any spelling) and `L`, `L'` two spellings of the same list (equal VALUES) have
    the same verdict.  (Which spellings are admissible differs: `:matches()` takes no empty alternative;
    that is in `ListText`.) -/
theorem is_where_matches_text (X : SCompound) (f f' : Forms) (i₁ i₂ i₁' i₂' : Str) (L L' : SSelList)
    (g₁ g₂ g₁' g₂' : Str) (hv : L.value = L'.value)
    (hn : isName (58 :: lower (valueOf f))) (hn' : isName (58 :: lower (valueOf f')))
    (h : ListText g₁ (one (withItem X (.fn f i₁ L i₂))) g₂)
    (h' : ListText g₁' (one (withItem X (.fn f' i₁' L' i₂'))) g₂') :
    ∃ b, matchText c (g₁ ++ (withItem X (.fn f i₁ L i₂)).render ++ g₂) l = .ok b ∧
      matchText c (g₁' ++ (withItem X (.fn f' i₁' L' i₂')).render ++ g₂') l = .ok b := by
  exact ⟨_, h.is_verdict c l e kids hf hn, by rw [h'.is_verdict c l e kids hf hn', hv]⟩

/-- **`X:not(L)` selects exactly the elements `X` selects and `X:is(L)` does not** — from the TEXT; `X` a
    non-empty compound, `L` a selector list (one or several alternatives: `:not(A , B)` is the complement
    of `:is(A , B)` within `X`), the name of the second pattern one of `is`, `where`, `matches`.  No condition
    on the context: the lists of `:not()` / `:is()` are never HTML-only. -/
theorem not_text (X : SCompound) (f fi : Forms) (i₁ i₂ j₁ j₂ : Str) (L : SSelList)
    (g₁ g₂ gi₁ gi₂ gX₁ gX₂ : Str)
    (hn : 58 :: lower (valueOf f) = ":not".toStr) (hni : isName (58 :: lower (valueOf fi)))
    (hN : ListText g₁ (one (withItem X (.fn f i₁ L i₂))) g₂)
    (hI : ListText gi₁ (one (withItem X (.fn fi j₁ L j₂))) gi₂)
    (hX : ListText gX₁ (one X) gX₂) :
    ∃ bN bI bX,
      matchText c (g₁ ++ (withItem X (.fn f i₁ L i₂)).render ++ g₂) l = .ok bN ∧
      matchText c (gi₁ ++ (withItem X (.fn fi j₁ L j₂)).render ++ gi₂) l = .ok bI ∧
      matchText c (gX₁ ++ X.render ++ gX₂) l = .ok bX ∧
      bN = (bX && !bI) := by
  refine ⟨_, _, _, hN.not_verdict c l e kids hf hn, hI.is_verdict c l e kids hf hni,
    hX.one_verdict c l e kids hf, ?_⟩
  cases e.isDoc <;> cases matchSel c l e (selOf Gen.builtinsRec X) <;> simp

/-- **`:not(L)` is the complement of `:is(L)`** on the elements: for every element that is not the document
    object and passes the implied `*` (`TagCond c e none`: it is in the default namespace when the caller's
    map declares one — always true without a default namespace).  On the others BOTH are false. -/
theorem not_compl_text (f fi : Forms) (i₁ i₂ j₁ j₂ : Str) (L : SSelList) (g₁ g₂ gi₁ gi₂ : Str)
    (hn : 58 :: lower (valueOf f) = ":not".toStr) (hni : isName (58 :: lower (valueOf fi)))
    (hN : ListText g₁ (one (.mk none [.fn f i₁ L i₂])) g₂)
    (hI : ListText gi₁ (one (.mk none [.fn fi j₁ L j₂])) gi₂) :
    ∃ bN bI,
      matchText c (g₁ ++ (SItem.fn f i₁ L i₂).render ++ g₂) l = .ok bN ∧
      matchText c (gi₁ ++ (SItem.fn fi j₁ L j₂).render ++ gi₂) l = .ok bI ∧
      (e.isDoc = false ∧ TagCond c e none → bN = !bI) ∧
      (¬ (e.isDoc = false ∧ TagCond c e none) → bN = false ∧ bI = false) := by
  have h1 := ListText.not_verdict c l e kids hf (X := .mk none []) hN hn
  have h2 := ListText.is_verdict c l e kids hf (X := .mk none []) hI hni
  rw [withItem_none_render, matchSel_selOf_empty] at h1 h2
  refine ⟨_, _, h1, h2, ?_⟩
  rw [← C12Parse.matchTag_star_iff]
  cases e.isDoc <;> cases matchTag c e (some ⟨[42], none⟩) <;> simp

/-- **`X:not(A , B)` is the complement, within `X`, of `X:is(A)` ∪ `X:is(B)`** (De Morgan, from the TEXT). -/
theorem not_comma_text (X : SCompound) (f fA fB : Forms) (i₁ i₂ iA₁ iA₂ iB₁ iB₂ : Str) (A B : SSelList)
    (gc₁ gc₂ g₁ g₂ gA₁ gA₂ gB₁ gB₂ gX₁ gX₂ : Str)
    (hn : 58 :: lower (valueOf f) = ":not".toStr) (hnA : isName (58 :: lower (valueOf fA)))
    (hnB : isName (58 :: lower (valueOf fB)))
    (hN : ListText g₁ (one (withItem X (.fn f i₁ (commaS A gc₁ gc₂ B) i₂))) g₂)
    (hA : ListText gA₁ (one (withItem X (.fn fA iA₁ A iA₂))) gA₂)
    (hB : ListText gB₁ (one (withItem X (.fn fB iB₁ B iB₂))) gB₂)
    (hX : ListText gX₁ (one X) gX₂) :
    ∃ bN bA bB bX,
      matchText c (g₁ ++ (withItem X (.fn f i₁ (commaS A gc₁ gc₂ B) i₂)).render ++ g₂) l = .ok bN ∧
      matchText c (gA₁ ++ (withItem X (.fn fA iA₁ A iA₂)).render ++ gA₂) l = .ok bA ∧
      matchText c (gB₁ ++ (withItem X (.fn fB iB₁ B iB₂)).render ++ gB₂) l = .ok bB ∧
      matchText c (gX₁ ++ X.render ++ gX₂) l = .ok bX ∧
      bN = (bX && !(bA || bB)) := by
  refine ⟨_, _, _, _, hN.not_verdict c l e kids hf hn, hA.is_verdict c l e kids hf hnA,
    hB.is_verdict c l e kids hf hnB, hX.one_verdict c l e kids hf, ?_⟩
  rw [alts_comma_nested _ _ (Or.inr hn) A B gc₁ gc₂ _ (hN.fn_verdict (Or.inr hn) c l e kids hf).1, C05.list_union]
  cases e.isDoc <;> cases matchSel c l e (selOf Gen.builtinsRec X) <;> simp

/-- The side condition of `is_inter_text`: `X` has no type selector, or one without a namespace prefix, or
    the element passes the implied `*` (it is in the default namespace, if the caller's map declares one). -/
def InterSide (c : Ctx) (e : Elem) : SCompound → Prop
  | .mk tag _ => ∀ t, tag = some t → t.ns = none ∨ TagCond c e none

/-- **`X:is(L)` is the intersection of `X` and `:is(L)`** (likewise `X:not(L)` of `X` and `:not(L)`) — from the
    TEXT, under `InterSide`: `:is(L)` ALONE carries the implied `*`, which tests the default namespace; `X`
    tests it too unless its type selector has an explicit prefix (`ns|E`, `*|E`, `|E`).  Then, for an element
    outside the default namespace, `ns|E:is(L)` can match where `:is(L)` alone does not
    (`Examples.inter_needs_side`). -/
theorem is_inter_text (X : SCompound) (f f' : Forms) (i₁ i₂ j₁ j₂ : Str) (L : SSelList)
    (g₁ g₂ g₁' g₂' gX₁ gX₂ : Str)
    (hn : isName (58 :: lower (valueOf f)) ∨ 58 :: lower (valueOf f) = ":not".toStr)
    (hn' : isName (58 :: lower (valueOf f')) ∨ 58 :: lower (valueOf f') = ":not".toStr)
    (hpol : (58 :: lower (valueOf f) == ":not".toStr) = (58 :: lower (valueOf f') == ":not".toStr))
    (hXL : ListText g₁ (one (withItem X (.fn f i₁ L i₂))) g₂)
    (hL : ListText g₁' (one (.mk none [.fn f' j₁ L j₂])) g₂')
    (hX : ListText gX₁ (one X) gX₂) (hside : InterSide c e X) :
    ∃ bXL bL bX,
      matchText c (g₁ ++ (withItem X (.fn f i₁ L i₂)).render ++ g₂) l = .ok bXL ∧
      matchText c (g₁' ++ (SItem.fn f' j₁ L j₂).render ++ g₂') l = .ok bL ∧
      matchText c (gX₁ ++ X.render ++ gX₂) l = .ok bX ∧
      bXL = (bX && bL) := by
  obtain ⟨_, h1⟩ := hXL.fn_verdict hn c l e kids hf
  obtain ⟨_, h2⟩ := ListText.fn_verdict (X := .mk none []) hL hn' c l e kids hf
  rw [withItem_none_render] at h2
  refine ⟨_, _, _, h1, h2, hX.one_verdict c l e kids hf, ?_⟩
  rw [matchSel_selOf_empty, hpol]
  have key : matchSel c l e (selOf Gen.builtinsRec X) = true → matchTag c e (some ⟨[42], none⟩) = true := by
    intro hm
    obtain ⟨tag, items⟩ := X
    have ht := matchSel_selOf_tag _ c l e tag items hm
    cases tag with
    | none => exact ht
    | some t =>
      rcases hside t rfl with hs | hs
      · obtain ⟨ns, tg⟩ := t
        simp only at hs
        subst hs
        simp only [implTag, Option.map_some, Option.isNone_some, Bool.false_and, Bool.false_eq_true,
          if_false, STagN.value, Option.map_none, matchTag, Bool.and_eq_true] at ht
        simp only [matchTag, matchNamespace, Bool.and_eq_true] at ht ⊢
        exact ⟨ht.1, matchTagname_star c e none⟩
      · exact (C12Parse.matchTag_star_iff c e).mpr hs
  revert key
  cases e.isDoc <;> cases matchSel c l e (selOf Gen.builtinsRec X) <;>
    cases matchTag c e (some ⟨[42], none⟩) <;> simp

/-- **`:is(L)` selects what `L` selects — when no default namespace is declared** (`c.nsGet [] = none`: the
    caller's map has no `''` entry), from the TEXT: `:is(A , B)` is then the same set as `A , B`
    (`L := commaS A g₁ g₂ B`).  The two compiled structures differ: read at the top level EVERY compound of
    `L` carries the implied `*`, read inside `:is()` (`FLG_PSEUDO`) none does and the one compound `:is(L)`
    carries it; the implied `*` tests the default namespace.  With a default namespace the two differ on
    relation chains (`Examples.is_list_needs_no_default`). -/
theorem is_eq_list_text (f : Forms) (i₁ i₂ : Str) (L : SSelList) (g₁ g₂ g₁' g₂' : Str)
    (hn : isName (58 :: lower (valueOf f)))
    (hI : ListText g₁ (one (.mk none [.fn f i₁ L i₂])) g₂) (hL : ListText g₁' L g₂')
    (hns : c.nsGet [] = none) :
    ∃ b, matchText c (g₁ ++ (SItem.fn f i₁ L i₂).render ++ g₂) l = .ok b ∧
      matchText c (g₁' ++ L.render ++ g₂') l = .ok b := by
  obtain ⟨_, h1⟩ := ListText.fn_verdict (X := .mk none []) hI (Or.inl hn) c l e kids hf
  rw [withItem_none_render] at h1
  refine ⟨_, h1, ?_⟩
  have ht := (C12Parse.matchTag_star_iff c e).2 (Or.inl hns)
  have ha : alts Gen.builtinsRec 0 L.value = implSels (alts Gen.builtinsRec 1 L.value) :=
    endSels_loopState_impl _ _ (nonEmptyV_of_ok L g₂' hL.ok)
  have hm := matchList_impl (.mk (alts Gen.builtinsRec 1 L.value) false false) c l e hns
  rw [implList] at hm
  rw [hL.matchText_eq c l, denote_eq_alts _ _ (hL.endOK _), ha, matchEl_eq, hf]
  simp only
  rw [hm, isName_ne_not hn, matchSel_selOf_empty, ht, Bool.true_and]

end Laws

/-- **The parser on `A , B`: the compiled list is the append of the two compiled lists.** -/
theorem comma_compile_text (A B : SSelList) (gc₁ gc₂ g₁ g₂ gA₁ gA₂ gB₁ gB₂ : Str)
    (hAB : ListText g₁ (commaS A gc₁ gc₂ B) g₂) (hA : ListText gA₁ A gA₂) (hB : ListText gB₁ B gB₂) :
    ∃ SA SB,
      Parser.compile pyFoldEnv Gen.lexicon Gen.builtinsRec
        (g₁ ++ (A.render ++ (gc₁ ++ 44 :: gc₂) ++ B.render) ++ g₂) [] 0 = .ok (.mk (SA ++ SB) false false) ∧
      Parser.compile pyFoldEnv Gen.lexicon Gen.builtinsRec (gA₁ ++ A.render ++ gA₂) [] 0 =
        .ok (.mk SA false false) ∧
      Parser.compile pyFoldEnv Gen.lexicon Gen.builtinsRec (gB₁ ++ B.render ++ gB₂) [] 0 =
        .ok (.mk SB false false) := by
  refine ⟨alts Gen.builtinsRec 0 A.value, alts Gen.builtinsRec 0 B.value, ?_, ?_, ?_⟩
  · rw [← commaS_render, hAB.compile_eq, hAB.denote_comma]
  · rw [hA.compile_eq, denote_eq_alts _ _ (hA.endOK _)]
  · rw [hB.compile_eq, denote_eq_alts _ _ (hB.endOK _)]

/-- **`select('A , B')` (no limit) returns exactly the union of `select('A')` and `select('B')`** —
    `SoupSieve.select` on the three TEXTS.  (The document order of the result: `C05.select_union_merge` on the lists of `comma_compile_text`.) -/
theorem select_comma_text (E : Env) (isXml : Bool) (ns : List (Str × Str)) (tag : Loc) (limit : Int)
    (hl : limit < 1) (A B : SSelList) (gc₁ gc₂ g₁ g₂ gA₁ gA₂ gB₁ gB₂ : Str)
    (hAB : ListText g₁ (commaS A gc₁ gc₂ B) g₂) (hA : ListText gA₁ A gA₂) (hB : ListText gB₁ B gB₂) :
    ∃ rAB rA rB,
      selectText E isXml ns (g₁ ++ (A.render ++ (gc₁ ++ 44 :: gc₂) ++ B.render) ++ g₂) tag limit = .ok rAB ∧
      selectText E isXml ns (gA₁ ++ A.render ++ gA₂) tag limit = .ok rA ∧
      selectText E isXml ns (gB₁ ++ B.render ++ gB₂) tag limit = .ok rB ∧
      (∀ x, x ∈ rAB ↔ x ∈ rA ∨ x ∈ rB) := by
  obtain ⟨SA, SB, h1, h2, h3⟩ := comma_compile_text A B gc₁ gc₂ g₁ g₂ gA₁ gA₂ gB₁ gB₂ hAB hA hB
  exact ⟨_, _, _, C01Parse.selectText_ok h1, C01Parse.selectText_ok h2, C01Parse.selectText_ok h3,
    C05.select_union (mkCtx E isXml ns tag) SA SB false tag limit hl⟩

/-! ## Non-vacuity: concrete texts on small trees, and the side conditions are needed -/

namespace Examples
open C12 (cxml u1 u2 circle)

def lits (s : String) : Forms := s.toStr.map fun c => (c, EscForm.lit)

def E0 : Env := ⟨asciiEnv, fun _ => 0, id⟩
def divE : Elem := ⟨false, "div".toStr, none, none, []⟩
def pE : Elem := ⟨false, "p".toStr, none, none, []⟩
def spanE : Elem := ⟨false, "span".toStr, none, none, []⟩

/-- `<div><p/><span/></div>`, at the `p` and at the `span`. -/
def locP : Loc := ⟨.elem pE [], [⟨[], divE, [.elem spanE []]⟩]⟩
def locS : Loc := ⟨.elem spanE [], [⟨[.elem pE []], divE, []⟩]⟩
def ctxP : Ctx := mkCtx E0 false [] locP
def ctxS : Ctx := mkCtx E0 false [] locS

def cmp (n : String) : SCompound := .mk (some ⟨none, .name (lits n)⟩) []

/-- `p` -/
def lA : SSelList := one (cmp "p")
/-- `div > span` -/
def lB : SSelList := .mk (cmp "div") [(.sym [32] 62 [32], cmp "span")]

def isOk (x : Except Parser.Err Bool) (b : Bool) : Bool :=
  match x with
  | .ok b' => b == b'
  | .error _ => false

theorem cmp_ok (n : String) (h : C09Compile.identOK (lits n) []) (r : Str) : (cmp n).ok r :=
  ⟨⟨C12Parse.Examples.identOK_lit _ h _, trivial⟩, trivial⟩

/-- Neither list has an empty slot: admissible under any flags, in front of any text. -/
theorem lA_ok (fl : Nat) (r : Str) : lA.ok fl r := ⟨cmp_ok "p" (by decide) _, nofun, Or.inl rfl⟩

theorem lB_ok (fl : Nat) (r : Str) : lB.ok fl r :=
  ⟨cmp_ok "div" (by decide) _, nofun, ⟨by decide, by decide, rfl⟩, cmp_ok "span" (by decide) _, nofun, nofun,
    Or.inl rfl⟩

theorem lA_tbl : lA.tbl [] := ⟨trivial, trivial⟩
theorem lB_tbl : lB.tbl [] := ⟨trivial, trivial, trivial⟩

theorem lA_text : ListText [] lA [] :=
  ListText.of_compound (by decide) (by decide) (cmp_ok "p" (by decide) _) rfl trivial (by decide)

theorem lB_text : ListText [32] lB [] := ⟨by decide, by decide, lB_ok 0 [], lB_tbl, by decide⟩

/-- `p/**/, div > span ` from its parts. -/
theorem lAB_text : ListText [] (commaS lA "/**/".toStr [32] lB) [32] :=
  ListText.comma (by decide) (by decide) (by decide) (by decide) (lA_ok 0 _) (lB_ok 0 _) lA_tbl lB_tbl
    (by decide)

/- The texts the spellings render to, each computed once by the kernel; the instances below rewrite with them
   (unifying a written text with `render` of its spelling is slow to check). -/
theorem comma_texts :
    ([] ++ (lA.render ++ ("/**/".toStr ++ 44 :: [32]) ++ lB.render) ++ [32]) = "p/**/, div > span ".toStr ∧
    ([] ++ lA.render ++ []) = "p".toStr ∧ ([32] ++ lB.render ++ []) = " div > span".toStr := by decide_lit

example : ([] ++ (lA.render ++ ("/**/".toStr ++ 44 :: [32]) ++ lB.render) ++ [32]) = "p/**/, div > span ".toStr ∧
    ([] ++ lA.render ++ []) = "p".toStr ∧ ([32] ++ lB.render ++ []) = " div > span".toStr := comma_texts

/-- Instance of `comma_text`: `p/**/, div > span ` against `p` and ` div > span`, at the `span`. -/
example : ∃ bAB bA bB, matchText ctxS "p/**/, div > span ".toStr locS = .ok bAB ∧
    matchText ctxS "p".toStr locS = .ok bA ∧ matchText ctxS " div > span".toStr locS = .ok bB ∧
    bAB = (bA || bB) := by
  have h := comma_text ctxS locS lA lB "/**/".toStr [32] [] [32] [] [] [32] [] lAB_text lA_text lB_text
  rwa [comma_texts.1, comma_texts.2.1, comma_texts.2.2] at h

#guard isOk (matchText ctxS "p/**/, div > span ".toStr locS) true
#guard isOk (matchText ctxS "p".toStr locS) false
#guard isOk (matchText ctxS " div > span".toStr locS) true
#guard isOk (matchText ctxP "p/**/, div > span ".toStr locP) true

/-- `:IS(`, `:where(`, `:not(` around a list. -/
def fnC (name : String) (L : SSelList) : SCompound := withItem (.mk none []) (.fn (lits name) [32] L [])
def fnX (name : String) (L : SSelList) : SCompound := withItem (cmp "span") (.fn (lits name) [32] L [])

theorem fn_text (X : SCompound) (hX : X = .mk none [] ∨ X = cmp "span") (name : String)
    (hn : name = "IS" ∨ name = "where" ∨ name = "not" ∨ name = "matches") (L : SSelList)
    (hL : L = lA ∨ L = lB ∨ L = commaS lA "/**/".toStr [32] lB) :
    ListText [] (one (withItem X (.fn (lits name) [32] L []))) [] := by
  have hLok : ∀ fl, relOf fl = false → L.ok fl [41] := by
    intro fl hrel
    rcases hL with rfl | rfl | rfl
    exacts [lA_ok _ _, lB_ok _ _, commaS_ok fl hrel _ _ _ _ _ (by decide) (by decide) (lA_ok _ _) (lB_ok _ _)]
  -- the side conditions of the item do not depend on `X`
  have hfn : (SItem.fn (lits name) [32] L []).ok [] := by
    refine ⟨C12Parse.Examples.identOK_lit _ ?_ _, ?_, by decide, by decide, hLok _ ?_⟩ <;>
      rcases hn with rfl | rfl | rfl | rfl <;> first | decide | (unfold fnName2; decide)
  have htbl : L.tbl [] := by
    rcases hL with rfl | rfl | rfl
    exacts [lA_tbl, lB_tbl, commaS_tbl [] _ _ _ _ lA_tbl lB_tbl]
  have hX0 : ∀ x ∈ X.render, x ≠ 0 := by rcases hX with rfl | rfl <;> decide
  have hn0 : ∀ x ∈ renderIdentWith (lits name), x ≠ 0 := by rcases hn with rfl | rfl | rfl | rfl <;> decide
  have hL0 : ∀ x ∈ L.render, x ≠ 0 := by rcases hL with rfl | rfl | rfl <;> decide
  apply ListText.of_compound (by decide) (by decide) _ (withItem_isEmpty _ _)
  · rcases hX with rfl | rfl <;> exact ⟨htbl, trivial⟩
  · intro x hx
    simp only [withItem_render, SItem.render, List.nil_append, List.append_nil, List.mem_append, List.mem_cons,
      List.not_mem_nil, or_false] at hx
    rcases hx with h | rfl | h | rfl | rfl | h | rfl
    exacts [hX0 x h, by decide, hn0 x h, by decide, by decide, hL0 x h, by decide]
  · rcases hX with rfl | rfl
    exacts [⟨trivial, hfn, trivial⟩, ⟨(cmp_ok "span" (by decide) _).1, hfn, trivial⟩]

theorem is_AB_text :
    ([] ++ (withItem (cmp "span") (.fn (lits "IS") [32] (commaS lA "/**/".toStr [32] lB) [])).render ++ []) =
    "span:IS( p/**/, div > span)".toStr := by decide_lit

example : ([] ++ (withItem (cmp "span") (.fn (lits "IS") [32] (commaS lA "/**/".toStr [32] lB) [])).render ++ []) =
    "span:IS( p/**/, div > span)".toStr := is_AB_text

theorem fn_texts :
    ([] ++ (withItem (cmp "span") (.fn (lits "where") [32] lA [])).render ++ []) = "span:where( p)".toStr ∧
    ([] ++ (withItem (cmp "span") (.fn (lits "matches") [32] lB [])).render ++ []) =
      "span:matches( div > span)".toStr ∧
    ([] ++ (withItem (cmp "span") (.fn (lits "not") [32] (commaS lA "/**/".toStr [32] lB) [])).render ++ []) =
      "span:not( p/**/, div > span)".toStr ∧
    ([] ++ (cmp "span").render ++ []) = "span".toStr ∧
    ([] ++ (SItem.fn (lits "IS") [32] lB []).render ++ []) = ":IS( div > span)".toStr := by decide_lit

/-- Instance of `is_comma_text`: `span:IS( p/**/, div > span)` against `span:where( p)`, `span:matches( div > span)`. -/
example : ∃ bAB bA bB, matchText ctxS "span:IS( p/**/, div > span)".toStr locS = .ok bAB ∧
    matchText ctxS "span:where( p)".toStr locS = .ok bA ∧
    matchText ctxS "span:matches( div > span)".toStr locS = .ok bB ∧ bAB = (bA || bB) := by
  have h := is_comma_text ctxS locS spanE [] rfl (cmp "span") (lits "IS") (lits "where") (lits "matches") [32] []
    [32] [] [32] [] lA lB "/**/".toStr [32] [] [] [] [] [] [] (by decide) (by decide) (by decide)
    (fn_text _ (Or.inr rfl) "IS" (by simp) _ (by simp))
    (fn_text _ (Or.inr rfl) "where" (by simp) _ (by simp))
    (fn_text _ (Or.inr rfl) "matches" (by simp) _ (by simp))
  rwa [is_AB_text, fn_texts.1, fn_texts.2.1] at h

/-- Instance of `not_text` (with a comma list inside). -/
example : ∃ bN bI bX, matchText ctxS "span:not( p/**/, div > span)".toStr locS = .ok bN ∧
    matchText ctxS "span:IS( p/**/, div > span)".toStr locS = .ok bI ∧
    matchText ctxS "span".toStr locS = .ok bX ∧ bN = (bX && !bI) := by
  have h := not_text ctxS locS spanE [] rfl (cmp "span") (lits "not") (lits "IS") [32] [] [32] []
    (commaS lA "/**/".toStr [32] lB) [] [] [] [] [] [] (by decide) (by decide)
    (fn_text _ (Or.inr rfl) "not" (by simp) _ (by simp))
    (fn_text _ (Or.inr rfl) "IS" (by simp) _ (by simp))
    (ListText.of_compound (by decide) (by decide) (cmp_ok "span" (by decide) _) rfl trivial (by decide))
  rwa [fn_texts.2.2.1, is_AB_text, fn_texts.2.2.2.1] at h

#guard isOk (matchText ctxS "span:not( p/**/, div > span)".toStr locS) false
#guard isOk (matchText ctxS "span:IS( p/**/, div > span)".toStr locS) true
#guard isOk (matchText ctxS "span:not( p)".toStr locS) true

/-- Instance of `is_eq_list_text` (the map `[]` declares no default namespace). -/
example : ∃ b, matchText ctxS ":IS( div > span)".toStr locS = .ok b ∧
    matchText ctxS " div > span".toStr locS = .ok b :=
  by
  have h := is_eq_list_text ctxS locS spanE [] rfl (lits "IS") [32] [] lB [] [] [32] [] (by decide)
    (fn_text _ (Or.inl rfl) "IS" (by simp) _ (by simp)) lB_text rfl
  rwa [fn_texts.2.2.2.2, comma_texts.2.2] at h

/-! ### The side conditions are needed (a default namespace `u1`, the prefix `s ↦ u2`) -/

def cDef : Ctx := { cxml with namespaces := [([], u1), ("s".toStr, u2)] }
/-- `<circle xmlns="u2"><circle xmlns="u1"/></circle>`: at the inner and at the outer element. -/
def inner : Loc := ⟨.elem (circle none (some u1) []) [], [⟨[], circle none (some u2) [], []⟩]⟩
def outer : Loc := ⟨.elem (circle none (some u2) []) [.elem (circle none (some u1) []) []], []⟩

/-- `InterSide` is needed: under a default namespace, `s|circle:is(*|*)` matches an element outside it,
    `s|circle` does, `:is(*|*)` ALONE (the implied `*`) does not. -/
theorem inter_needs_side :
    isOk (matchText cDef "s|circle:is(*|*)".toStr outer) true = true ∧
    isOk (matchText cDef "s|circle".toStr outer) true = true ∧
    isOk (matchText cDef ":is(*|*)".toStr outer) false = true := by decide_lit

/-- `c.nsGet [] = none` is needed in `is_eq_list_text`: under a default namespace the implied `*` of the
    PARENT compound of `:is(*|*) > :is(*|*)` fails on a parent outside it; inside `:is( … )` no compound has
    an implied `*`. -/
theorem is_list_needs_no_default :
    isOk (matchText cDef ":is(:is(*|*) > :is(*|*))".toStr inner) true = true ∧
    isOk (matchText cDef ":is(*|*) > :is(*|*)".toStr inner) false = true := by decide_lit

/-- `not_compl_text`'s guard is needed: outside the default namespace `:not(L)` and `:is(L)` are BOTH false. -/
theorem not_compl_needs_tagcond :
    isOk (matchText cDef ":not(s|nope)".toStr outer) false = true ∧
    isOk (matchText cDef ":is(s|nope)".toStr outer) false = true := by decide_lit

end Examples

#print axioms alts_comma
#print axioms denote_comma
#print axioms subList_eq
#print axioms comma_text
#print axioms comma_monotone_text
#print axioms comma_monotone_right_text
#print axioms comma_compile_text
#print axioms select_comma_text
#print axioms is_comma_text
#print axioms is_monotone_text
#print axioms is_where_matches_text
#print axioms not_text
#print axioms not_compl_text
#print axioms not_comma_text
#print axioms is_inter_text
#print axioms is_eq_list_text

end C05Parse
end SoupVerif
