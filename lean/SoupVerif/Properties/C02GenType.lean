/-
  C02 — `CSSMatch.match_nth_tag_type(el, child)` (the "same type" test of `:nth-of-type()` & co), TRANSLATED from the
  source (`Generated/PyAttrs.lean`, gen/gen_py_attrs.py) and PROVED equal to the hand-written model `sameType`
  (Model/Match.lean) for all contexts and elements.  The source compares `child` with `el`, the model `el` with
  `child`: the proof is the symmetry of `==` on strings.
-/
import SoupVerif.Generated.PyAttrs
import SoupVerif.Properties.C02Site

namespace SoupVerif
namespace C02GenType

/-- The regenerated `match_nth_tag_type` is the model's `sameType`, for all arguments. -/
theorem gen_match_nth_tag_type_eq (c : Ctx) (el child : Elem) :
    Gen.PyAttrs.match_nth_tag_type c el child = sameType c el child := by
  unfold Gen.PyAttrs.match_nth_tag_type sameType
  rw [BEq.comm (a := c.tagName child), BEq.comm (a := c.tagNs child)]

theorem gen_match_nth_tag_type_refl (c : Ctx) (e : Elem) : Gen.PyAttrs.match_nth_tag_type c e e = true := by
  rw [gen_match_nth_tag_type_eq]; exact C02Site.sameType_refl c e

theorem gen_match_nth_tag_type_comm (c : Ctx) (a b : Elem) :
    Gen.PyAttrs.match_nth_tag_type c a b = Gen.PyAttrs.match_nth_tag_type c b a := by
  rw [gen_match_nth_tag_type_eq, gen_match_nth_tag_type_eq]
  unfold sameType
  rw [BEq.comm (a := c.tagName a), BEq.comm (a := c.tagNs a)]

end C02GenType
end SoupVerif
