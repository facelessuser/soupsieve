/-
  C19 (which nodes count as content: `:root` wants no sibling that is an element, non-blank text or CDATA) —
  `CSSMatch.match_root` as REGENERATED from the text of soupsieve/css_match.py by gen/gen_py_textfn.py
  (`Generated/PyTextFn.lean`: `rootCond*`, `rootBody*`, `matchRoot`) is, for ALL contexts and locations, the hand-written
  matcher model `matchRoot` (Model/Match.lean) -- given fuel for the two sibling walks.

  Instantiation: `is_root` = `Ctx.isRoot c`, `is_tag` / `is_content_string` / `is_cdata` = the node tests of the focus,
  `strip s` = `hasNonPySpace` of the string (`sibling.strip()` is non-empty), `get_previous` / `get_next` = the nearest
  previous / next sibling of the zipper (`prevOf`, `nextOf`: head of `Loc.prevSiblings` / `Loc.nextSiblings`).
-/
import SoupVerif.Generated.PyTextFn
import SoupVerif.Model.Match
import SoupVerif.Lemmas.PyLoops
namespace SoupVerif
namespace C19GenRoot
open PyApiLoop

/-- `el.previous_sibling` / `el.next_sibling` on the zipper. -/
def prevOf (l : Loc) : Option Loc := l.prevSiblings.head?
def nextOf (l : Loc) : Option Loc := l.nextSiblings.head?

theorem prevSiblings_prev (l y : Loc) (h : prevOf l = some y) : y.prevSiblings = l.prevSiblings.tail := by
  unfold prevOf Loc.prevSiblings at h
  unfold Loc.prevSiblings
  cases hu : l.up with
  | nil => rw [hu] at h; simp at h
  | cons f rest =>
    rw [hu] at h
    simp only at h ⊢
    cases hl : f.left with
    | nil => rw [hl] at h; simp [Loc.prevSiblingsAux] at h
    | cons p left =>
      rw [hl] at h
      simp only [Loc.prevSiblingsAux, List.head?_cons, Option.some.injEq] at h
      subst h
      simp [Loc.prevSiblingsAux]

theorem nextSiblings_next (l y : Loc) (h : nextOf l = some y) : y.nextSiblings = l.nextSiblings.tail := by
  unfold nextOf Loc.nextSiblings at h
  unfold Loc.nextSiblings
  cases hu : l.up with
  | nil => rw [hu] at h; simp at h
  | cons f rest =>
    rw [hu] at h
    simp only at h ⊢
    cases hl : f.right with
    | nil => rw [hl] at h; simp [Loc.nextSiblingsAux] at h
    | cons p right =>
      rw [hl] at h
      simp only [Loc.nextSiblingsAux, List.head?_cons, Option.some.injEq] at h
      subst h
      simp [Loc.nextSiblingsAux]

theorem gen_rootCond0 {α : Type} (s : Bool × Option α) : Gen.PyTextFn.rootCond0 s = (s.1 && s.2.isSome) := rfl
theorem gen_rootCond1 {α : Type} (s : Bool × Option α) : Gen.PyTextFn.rootCond1 s = (s.1 && s.2.isSome) := rfl

/-- The body of the first walk: a sibling that is an element, a content string with something left after
    `strip()`, or a CDATA section lowers the flag; any other sibling moves the cursor to ITS previous sibling. -/
theorem gen_rootBody0 {α : Type} (is_root is_tag ics strip is_cdata : α → Bool) (gp gn : α → Option α) (f : Bool) (x : α) :
    Gen.PyTextFn.rootBody0 is_root is_tag ics strip is_cdata gp gn (f, some x) =
      if (is_tag x || (ics x && strip x) || is_cdata x) then some (false, some x) else some (f, gp x) := by
  unfold Gen.PyTextFn.rootBody0
  simp only [bind, Option.bind, pure]
  cases is_tag x <;> cases ics x <;> cases strip x <;> cases is_cdata x <;> rfl

/-- The body of the second walk: the same test, the cursor moves to the NEXT sibling. -/
theorem gen_rootBody1 {α : Type} (is_root is_tag ics strip is_cdata : α → Bool) (gp gn : α → Option α) (f : Bool) (x : α) :
    Gen.PyTextFn.rootBody1 is_root is_tag ics strip is_cdata gp gn (f, some x) =
      if (is_tag x || (ics x && strip x) || is_cdata x) then some (false, some x) else some (f, gn x) := by
  unfold Gen.PyTextFn.rootBody1
  simp only [bind, Option.bind, pure]
  cases is_tag x <;> cases ics x <;> cases strip x <;> cases is_cdata x <;> rfl

/-- **`match_root` as translated from the source = the hand model `matchRoot`**, for every context and location,
    whenever the fuel covers the number of siblings on either side. -/
theorem gen_matchRoot_eq (c : Ctx) (l : Loc) (fuel : Nat)
    (hp : l.prevSiblings.length ≤ fuel) (hn : l.nextSiblings.length ≤ fuel) :
    Gen.PyTextFn.matchRoot c.isRoot Loc.isTag (fun s => s.focus.isContentString)
        (fun s => hasNonPySpace s.focus.strVal) (fun s => s.focus.isCData) prevOf nextOf l fuel =
      some (matchRoot c l) := by
  have hw0 := walk_eq _ _ _ prevOf Loc.prevSiblings gen_rootCond0
    (gen_rootBody0 c.isRoot Loc.isTag (fun s => s.focus.isContentString)
      (fun s => hasNonPySpace s.focus.strVal) (fun s => s.focus.isCData) prevOf nextOf)
    (fun _ => rfl) prevSiblings_prev l.prevSiblings fuel (prevOf l)
    (seq_unfold prevOf Loc.prevSiblings (fun _ => rfl) prevSiblings_prev l) hp
  have hw1 := walk_eq _ _ _ nextOf Loc.nextSiblings gen_rootCond1
    (gen_rootBody1 c.isRoot Loc.isTag (fun s => s.focus.isContentString)
      (fun s => hasNonPySpace s.focus.strVal) (fun s => s.focus.isCData) prevOf nextOf)
    (fun _ => rfl) nextSiblings_next l.nextSiblings fuel (nextOf l)
    (seq_unfold nextOf Loc.nextSiblings (fun _ => rfl) nextSiblings_next l) hn
  rw [Option.map_eq_some_iff] at hw0 hw1
  obtain ⟨s0, hs0, hs01⟩ := hw0
  obtain ⟨s1, hs1, hs11⟩ := hw1
  unfold Gen.PyTextFn.matchRoot matchRoot
  cases hr : c.isRoot l with
  | false => simp
  | true =>
    simp only [if_true, hs0, hs01, Option.bind_some, bind, pure]
    have hb : ∀ n : Loc, (n.isTag || (n.focus.isContentString && hasNonPySpace n.focus.strVal) || n.focus.isCData) = blocksRoot n.focus := by
      intro n; rfl
    simp only [hb] at hs01 hs11 ⊢
    cases hA : l.prevSiblings.any (fun s => blocksRoot s.focus) with
    | true => simp
    | false =>
      simp only [Bool.not_false, if_true, hs1, hs11, Option.bind_some]
      simp

/-- Enough fuel always exists: the number of siblings. -/
theorem gen_matchRoot_total (c : Ctx) (l : Loc) :
    Gen.PyTextFn.matchRoot c.isRoot Loc.isTag (fun s => s.focus.isContentString)
        (fun s => hasNonPySpace s.focus.strVal) (fun s => s.focus.isCData) prevOf nextOf l
        (l.prevSiblings.length + l.nextSiblings.length) = some (matchRoot c l) :=
  gen_matchRoot_eq c l _ (by omega) (by omega)

/-- What the regenerated `match_root` decides: the element is the root (of the document or of an iframe) and no
    sibling on either side is an element, a content string that is not blank for `str.strip`, or CDATA. -/
theorem gen_matchRoot_iff (c : Ctx) (l : Loc) :
    Gen.PyTextFn.matchRoot c.isRoot Loc.isTag (fun s => s.focus.isContentString)
        (fun s => hasNonPySpace s.focus.strVal) (fun s => s.focus.isCData) prevOf nextOf l
        (l.prevSiblings.length + l.nextSiblings.length) = some true ↔
      c.isRoot l = true ∧ (∀ s ∈ l.prevSiblings, blocksRoot s.focus = false) ∧
        (∀ s ∈ l.nextSiblings, blocksRoot s.focus = false) := by
  rw [gen_matchRoot_total]
  unfold matchRoot
  simp [List.any_eq_false, and_assoc]

end C19GenRoot
end SoupVerif
