/-
  C01 (attribute part)  The compiled value patterns of attribute selectors mean what
  Selectors-4 §6.1/§6.2/§6.3 says.

  Model : `Parser.attrPattern` (the regular expression `parse_attribute_selector` compiles, as an
          `Rx`), `Rx.isMatch` (Model/Regex.lean).
  Spec  : `Css.valTest` and its parts (Spec/CssValue.lean) — plain string functions.

  For every operator, value, case flag and subject string, `re.match(pattern, subject) is not None` equals
  the specification's value test (`attrPattern_sem`; operator by operator: `tmpl_*`).  Without IGNORECASE
  this holds in every character environment; with IGNORECASE in every environment whose simple case folding
  is ASCII lower-casing (`asciiEnv` in particular).
-/
import SoupVerif.Lemmas.AttrTemplates
namespace SoupVerif
namespace C01Attr
open Rx AttrTemplates

abbrev dotStar : Rx := .rep 0 none true (.any true)
abbrev lazyDot : Rx := .rep 0 none false (.any true)
abbrev leftAlt (ic : Bool) : Rx := .alt [.look false false .bos, .look false false (Parser.wsSet ic)]
abbrev rightLook (ic : Bool) : Rx := .look true false (.alt [Parser.wsSet ic, .eos])
abbrev dashOpt (ic : Bool) : Rx := .rep 0 (some 1) true (.seq [.lit 45 ic, dotStar])

theorem mkSeq_snoc (a : Rx) (l m : List Rx) (hm : m ≠ []) :
    Parser.mkSeq ([a] ++ l ++ m) = .seq (a :: (l ++ m)) := by
  cases l with
  | nil =>
    cases m with
    | nil => exact absurd rfl hm
    | cons b m => rfl
  | cons b l => rfl

theorem isEmpty_false {v : Str} (hv : v ≠ []) : v.isEmpty = false := by
  cases v with
  | nil => exact absurd rfl hv
  | cons _ _ => rfl

/-- `=` (and any operator text not starting with one of `^ $ * ~ |`): `^v\Z`. -/
theorem shape_eq (op v : Str) (ic w : Bool) (h94 : op.head?.getD 61 ≠ 94) (h36 : op.head?.getD 61 ≠ 36)
    (h42 : op.head?.getD 61 ≠ 42) (h126 : op.head?.getD 61 ≠ 126) (h124 : op.head?.getD 61 ≠ 124) :
    Parser.attrPattern op v ic w = .seq (.bos :: (Parser.lits v ic ++ [.eos])) := by
  simpa [Parser.attrPattern, h94, h36, h42, h126, h124] using
    mkSeq_snoc .bos (Parser.lits v ic) [.eos] (List.cons_ne_nil _ _)

theorem shape_eq1 (v : Str) (ic w : Bool) :
    Parser.attrPattern [61] v ic w = .seq (.bos :: (Parser.lits v ic ++ [.eos])) :=
  shape_eq _ v ic w (by decide) (by decide) (by decide) (by decide) (by decide)

theorem shape_ne (v : Str) (ic w : Bool) :
    Parser.attrPattern [33, 61] v ic w = .seq (.bos :: (Parser.lits v ic ++ [.eos])) :=
  shape_eq _ v ic w (by decide) (by decide) (by decide) (by decide) (by decide)

/-- `^=`, `$=`, `*=` with an empty value: `[^\s\S]`. -/
theorem shape_empty (c0 : Nat) (rest : Str) (ic w : Bool) (h : c0 = 94 ∨ c0 = 36 ∨ c0 = 42) :
    Parser.attrPattern (c0 :: rest) [] ic w = Parser.noMatchSet ic := by
  unfold Parser.attrPattern
  rcases h with rfl | rfl | rfl <;> simp

/-- `^=`: `^v.*`. -/
theorem shape_pre (rest v : Str) (ic w : Bool) (hv : v ≠ []) :
    Parser.attrPattern (94 :: rest) v ic w = .seq (.bos :: (Parser.lits v ic ++ [dotStar])) := by
  simpa [Parser.attrPattern, isEmpty_false hv] using
    mkSeq_snoc .bos (Parser.lits v ic) [dotStar] (List.cons_ne_nil _ _)

/-- `$=`: `.*?v\Z`. -/
theorem shape_suf (rest v : Str) (ic w : Bool) (hv : v ≠ []) :
    Parser.attrPattern (36 :: rest) v ic w = .seq (lazyDot :: (Parser.lits v ic ++ [.eos])) := by
  simpa [Parser.attrPattern, isEmpty_false hv] using
    mkSeq_snoc lazyDot (Parser.lits v ic) [.eos] (List.cons_ne_nil _ _)

/-- `*=`: `.*?v.*`. -/
theorem shape_sub (rest v : Str) (ic w : Bool) (hv : v ≠ []) :
    Parser.attrPattern (42 :: rest) v ic w = .seq (lazyDot :: (Parser.lits v ic ++ [dotStar])) := by
  simpa [Parser.attrPattern, isEmpty_false hv] using
    mkSeq_snoc lazyDot (Parser.lits v ic) [dotStar] (List.cons_ne_nil _ _)

/-- `|=`: `^v(?:-.*)?\Z`. -/
theorem shape_dash (rest v : Str) (ic w : Bool) :
    Parser.attrPattern (124 :: rest) v ic w =
      .seq (.bos :: (Parser.lits v ic ++ [dashOpt ic, .eos])) := by
  simpa [Parser.attrPattern] using
    mkSeq_snoc .bos (Parser.lits v ic) [dashOpt ic, .eos] (List.cons_ne_nil _ _)

/-- `~=` with a usable value: `.*?(?:(?<=^)|(?<=[ \t\r\n\f]))v(?=(?:[ \t\r\n\f]|$)).*`. -/
theorem shape_word (rest v : Str) (ic : Bool) (hv : v ≠ []) :
    Parser.attrPattern (126 :: rest) v ic false =
      .seq (lazyDot :: leftAlt ic :: (Parser.lits v ic ++ [rightLook ic, dotStar])) := by
  simp [Parser.attrPattern, isEmpty_false hv, Parser.mkSeq]

/-- `~=` with an empty value or a value containing white space: `[^\s\S]` in place of the value. -/
theorem shape_word_none (rest v : Str) (ic w : Bool) (h : v = [] ∨ w = true) :
    Parser.attrPattern (126 :: rest) v ic w =
      .seq [lazyDot, leftAlt ic, Parser.noMatchSet ic, rightLook ic, dotStar] := by
  have h4 : (v.isEmpty || w) = true := by
    rcases h with rfl | rfl <;> simp
  simp [Parser.attrPattern, h4, Parser.mkSeq]

/-! ### The templates, both case rules at once

`hfold : ic = true → env.fold = lowerCp` : nothing is assumed about the environment when the
pattern has no IGNORECASE. -/

/-- `^v\Z` : equality. -/
theorem seq_eq (env : CharEnv) (ic : Bool) (hfold : ic = true → env.fold = lowerCp) (v s : Str) :
    Rx.isMatch env (.seq (.bos :: (Parser.lits v ic ++ [.eos]))) s =
      (Css.foldCase ic s == Css.foldCase ic v) := by
  rw [C11.bos_noop]
  exact (C11.lits_match env ic v s).trans (litsEq_fold env ic hfold v s)

/-- `^v.*` : prefix. -/
theorem seq_pre (env : CharEnv) (ic : Bool) (hfold : ic = true → env.fold = lowerCp) (v s : Str) :
    Rx.isMatch env (.seq (.bos :: (Parser.lits v ic ++ [dotStar]))) s =
      (Css.foldCase ic v).isPrefixOf (Css.foldCase ic s) := by
  apply Bool.eq_iff_iff.mpr
  rw [isMatch_seq_iff, RxBasic.runsSeq_bos, lits_seq env ic hfold, occursAt_zero, seq_dotStar_last, and_true]

/-- `.*?v\Z` : suffix. -/
theorem seq_suf (env : CharEnv) (ic : Bool) (hfold : ic = true → env.fold = lowerCp) (v s : Str) :
    Rx.isMatch env (.seq (lazyDot :: (Parser.lits v ic ++ [.eos]))) s =
      (Css.foldCase ic v).isSuffixOf (Css.foldCase ic s) := by
  apply Bool.eq_iff_iff.mpr
  rw [isMatch_seq_iff, dotStar_seq0, ← exists_occursAt_end_iff]
  simp only [lits_seq env ic hfold, runsSeq_eos, foldCase_length]

/-- `.*?v.*` : substring. -/
theorem seq_sub (env : CharEnv) (ic : Bool) (hfold : ic = true → env.fold = lowerCp) (v s : Str) :
    Rx.isMatch env (.seq (lazyDot :: (Parser.lits v ic ++ [dotStar]))) s =
      isInfix (Css.foldCase ic v) (Css.foldCase ic s) := by
  apply Bool.eq_iff_iff.mpr
  rw [isMatch_seq_iff, dotStar_seq0, isInfix_iff_occursAt]
  simp only [lits_seq env ic hfold, foldCase_length, seq_dotStar_last, and_true]

/-- `^v(?:-.*)?\Z` : equal, or continued by a hyphen. -/
theorem seq_dash (env : CharEnv) (ic : Bool) (hfold : ic = true → env.fold = lowerCp) (v s : Str) :
    Rx.isMatch env (.seq (.bos :: (Parser.lits v ic ++ [dashOpt ic, .eos]))) s =
      (Css.foldCase ic s == Css.foldCase ic v ||
        (Css.foldCase ic v ++ [45]).isPrefixOf (Css.foldCase ic s)) := by
  apply Bool.eq_iff_iff.mpr
  rw [isMatch_seq_iff, RxBasic.runsSeq_bos, lits_seq env ic hfold, dash_tail env ic hfold, Bool.or_eq_true, ← dash_iff,
    foldCase_length, foldCase_length]

/-- The `~=` pattern: one of the white-space separated words. -/
theorem seq_word (env : CharEnv) (ic : Bool) (hfold : ic = true → env.fold = lowerCp) (v s : Str) :
    Rx.isMatch env (.seq (lazyDot :: leftAlt ic :: (Parser.lits v ic ++ [rightLook ic, dotStar]))) s =
      Css.hasWord (Css.foldCase ic v) (Css.foldCase ic s) := by
  apply Bool.eq_iff_iff.mpr
  rw [isMatch_seq_iff, dotStar_seq0, hasWord_iff_wordAt]
  simp only [left_seq env ic hfold, lits_seq env ic hfold, right_seq env ic hfold, wordAt_foldCase,
    foldCase_length, Bool.and_eq_true, seq_dotStar_last, and_true, and_assoc]

/-- The `~=` pattern with the never-matching class in the value position. -/
theorem seq_word_none (env : CharEnv) (ic : Bool) (s : Str) :
    Rx.isMatch env (.seq [lazyDot, leftAlt ic, Parser.noMatchSet ic, rightLook ic, dotStar]) s = false := by
  apply isMatch_of_runs_nil
  rw [runs]
  apply runsSeq_cons_nil
  intro j c
  apply runsSeq_cons_nil
  intro j' c'
  exact runsSeq_noMatch ..

/-- The class `[^\s\S]` has no member, in any environment. -/
theorem noMatch_class_empty (env : CharEnv) (ic : Bool) (c : Nat) :
    Rx.setHas env true [.cat .space, .cat .notSpace] ic c = false := setHas_none env ic c

/-- The class `[ \t\r\n\f]` is CSS white space, with or without IGNORECASE. -/
theorem ws_class (env : CharEnv) (ic : Bool) (hfold : ic = true → env.fold = lowerCp) (c : Nat) :
    Rx.setHas env false [.ch 32, .ch 9, .ch 13, .ch 10, .ch 12] ic c = isCssWs c :=
  setHas_ws env ic hfold c

theorem tmpl_eq_gen (env : CharEnv) (ic : Bool) (hfold : ic = true → env.fold = lowerCp)
    (v s : Str) (w : Bool) :
    Rx.isMatch env (Parser.attrPattern [61] v ic w) s = (Css.foldCase ic s == Css.foldCase ic v) := by
  rw [shape_eq1, seq_eq env ic hfold]

theorem tmpl_ne_gen (env : CharEnv) (ic : Bool) (hfold : ic = true → env.fold = lowerCp)
    (v s : Str) (w : Bool) :
    Rx.isMatch env (Parser.attrPattern [33, 61] v ic w) s = (Css.foldCase ic s == Css.foldCase ic v) := by
  rw [shape_ne, seq_eq env ic hfold]

/-- `[a=v]` : the value is exactly `v` (every character environment). -/
theorem tmpl_eq (env : CharEnv) (v s : Str) (w : Bool) :
    Rx.isMatch env (Parser.attrPattern [61] v false w) s = (s == v) :=
  tmpl_eq_gen env false (fun h => nomatch h) v s w

/-- `[a!=v]` compiles the same test (negated one level up). -/
theorem tmpl_ne (env : CharEnv) (v s : Str) (w : Bool) :
    Rx.isMatch env (Parser.attrPattern [33, 61] v false w) s = (s == v) :=
  tmpl_ne_gen env false (fun h => nomatch h) v s w

/-- `[a=v i]` : equal up to ASCII case. -/
theorem tmpl_eq_ic (env : CharEnv) (hfold : env.fold = lowerCp) (v s : Str) (w : Bool) :
    Rx.isMatch env (Parser.attrPattern [61] v true w) s = (lower s == lower v) :=
  tmpl_eq_gen env true (fun _ => hfold) v s w

theorem tmpl_ne_ic (env : CharEnv) (hfold : env.fold = lowerCp) (v s : Str) (w : Bool) :
    Rx.isMatch env (Parser.attrPattern [33, 61] v true w) s = (lower s == lower v) :=
  tmpl_ne_gen env true (fun _ => hfold) v s w

/-- `[a^=""]`, `[a$=""]`, `[a*=""]` match nothing (every environment, either case rule). -/
theorem tmpl_empty (env : CharEnv) (c0 : Nat) (rest : Str) (ic w : Bool) (s : Str)
    (h : c0 = 94 ∨ c0 = 36 ∨ c0 = 42) :
    Rx.isMatch env (Parser.attrPattern (c0 :: rest) [] ic w) s = false := by
  rw [shape_empty c0 rest ic w h]
  exact isMatch_of_runs_nil env _ s (runs_noMatchSet ..)

theorem tmpl_pre_gen (env : CharEnv) (ic : Bool) (hfold : ic = true → env.fold = lowerCp)
    (v s : Str) (w : Bool) (hv : v ≠ []) :
    Rx.isMatch env (Parser.attrPattern [94, 61] v ic w) s =
      (Css.foldCase ic v).isPrefixOf (Css.foldCase ic s) := by
  rw [shape_pre _ v ic w hv, seq_pre env ic hfold]

theorem tmpl_suf_gen (env : CharEnv) (ic : Bool) (hfold : ic = true → env.fold = lowerCp)
    (v s : Str) (w : Bool) (hv : v ≠ []) :
    Rx.isMatch env (Parser.attrPattern [36, 61] v ic w) s =
      (Css.foldCase ic v).isSuffixOf (Css.foldCase ic s) := by
  rw [shape_suf _ v ic w hv, seq_suf env ic hfold]

theorem tmpl_sub_gen (env : CharEnv) (ic : Bool) (hfold : ic = true → env.fold = lowerCp)
    (v s : Str) (w : Bool) (hv : v ≠ []) :
    Rx.isMatch env (Parser.attrPattern [42, 61] v ic w) s =
      isInfix (Css.foldCase ic v) (Css.foldCase ic s) := by
  rw [shape_sub _ v ic w hv, seq_sub env ic hfold]

/-- `[a^=v]` : begins with `v`. -/
theorem tmpl_pre (env : CharEnv) (v s : Str) (w : Bool) (hv : v ≠ []) :
    Rx.isMatch env (Parser.attrPattern [94, 61] v false w) s = v.isPrefixOf s :=
  tmpl_pre_gen env false (fun h => nomatch h) v s w hv

theorem tmpl_pre_ic (env : CharEnv) (hfold : env.fold = lowerCp) (v s : Str) (w : Bool) (hv : v ≠ []) :
    Rx.isMatch env (Parser.attrPattern [94, 61] v true w) s = (lower v).isPrefixOf (lower s) :=
  tmpl_pre_gen env true (fun _ => hfold) v s w hv

/-- `[a$=v]` : ends with `v`. -/
theorem tmpl_suf (env : CharEnv) (v s : Str) (w : Bool) (hv : v ≠ []) :
    Rx.isMatch env (Parser.attrPattern [36, 61] v false w) s = v.isSuffixOf s :=
  tmpl_suf_gen env false (fun h => nomatch h) v s w hv

theorem tmpl_suf_ic (env : CharEnv) (hfold : env.fold = lowerCp) (v s : Str) (w : Bool) (hv : v ≠ []) :
    Rx.isMatch env (Parser.attrPattern [36, 61] v true w) s = (lower v).isSuffixOf (lower s) :=
  tmpl_suf_gen env true (fun _ => hfold) v s w hv

/-- `[a*=v]` : contains `v`. -/
theorem tmpl_sub (env : CharEnv) (v s : Str) (w : Bool) (hv : v ≠ []) :
    Rx.isMatch env (Parser.attrPattern [42, 61] v false w) s = isInfix v s :=
  tmpl_sub_gen env false (fun h => nomatch h) v s w hv

theorem tmpl_sub_ic (env : CharEnv) (hfold : env.fold = lowerCp) (v s : Str) (w : Bool) (hv : v ≠ []) :
    Rx.isMatch env (Parser.attrPattern [42, 61] v true w) s = isInfix (lower v) (lower s) :=
  tmpl_sub_gen env true (fun _ => hfold) v s w hv

theorem tmpl_dash_gen (env : CharEnv) (ic : Bool) (hfold : ic = true → env.fold = lowerCp)
    (v s : Str) (w : Bool) :
    Rx.isMatch env (Parser.attrPattern [124, 61] v ic w) s =
      (Css.foldCase ic s == Css.foldCase ic v ||
        (Css.foldCase ic v ++ [45]).isPrefixOf (Css.foldCase ic s)) := by
  rw [shape_dash, seq_dash env ic hfold]

/-- `[a|=v]` : exactly `v`, or `v` immediately followed by `-`. -/
theorem tmpl_dash (env : CharEnv) (v s : Str) (w : Bool) :
    Rx.isMatch env (Parser.attrPattern [124, 61] v false w) s = (s == v || (v ++ [45]).isPrefixOf s) :=
  tmpl_dash_gen env false (fun h => nomatch h) v s w

theorem tmpl_dash_ic (env : CharEnv) (hfold : env.fold = lowerCp) (v s : Str) (w : Bool) :
    Rx.isMatch env (Parser.attrPattern [124, 61] v true w) s =
      (lower s == lower v || (lower v ++ [45]).isPrefixOf (lower s)) :=
  tmpl_dash_gen env true (fun _ => hfold) v s w

theorem tmpl_word_gen (env : CharEnv) (ic : Bool) (hfold : ic = true → env.fold = lowerCp)
    (v s : Str) (hv : v ≠ []) :
    Rx.isMatch env (Parser.attrPattern [126, 61] v ic false) s =
      Css.hasWord (Css.foldCase ic v) (Css.foldCase ic s) := by
  rw [shape_word _ v ic hv, seq_word env ic hfold]

/-- `[a~=v]` : `v` is one of the white-space separated words.  (`hws` is what makes the parser
    pass `hasWs = false`; it is not used by the proof: the pattern with `hasWs = false` finds `v`
    as a "word" between white space / string ends whatever `v` contains.) -/
theorem tmpl_word (env : CharEnv) (v s : Str) (hv : v ≠ []) (_hws : v.any isCssWs = false) :
    Rx.isMatch env (Parser.attrPattern [126, 61] v false false) s = Css.hasWord v s :=
  tmpl_word_gen env false (fun h => nomatch h) v s hv

theorem tmpl_word_ic (env : CharEnv) (hfold : env.fold = lowerCp) (v s : Str) (hv : v ≠ [])
    (_hws : v.any isCssWs = false) :
    Rx.isMatch env (Parser.attrPattern [126, 61] v true false) s = Css.hasWord (lower v) (lower s) :=
  tmpl_word_gen env true (fun _ => hfold) v s hv

/-- `[a~=""]` and `[a~="x y"]` match nothing (every environment, either case rule). -/
theorem tmpl_word_none (env : CharEnv) (v s : Str) (ic w : Bool) (h : v = [] ∨ w = true) :
    Rx.isMatch env (Parser.attrPattern [126, 61] v ic w) s = false := by
  rw [shape_word_none _ v ic w h, seq_word_none]

/-- `hasWord v s` says: `s = a ++ v ++ b` with `a` empty or ending in white space and `b` empty or
    beginning with white space (for empty `v` as well). -/
theorem hasWord_iff' (v s : Str) : Css.hasWord v s = true ↔ Css.IsWordOf v s := by
  rw [hasWord_iff_wordAt, isWordOf_iff_wordAt]

/-- The form for a non-empty value, as `[a~=v]` uses it; the hypothesis is not needed. -/
theorem hasWord_iff (v s : Str) (_hv : v ≠ []) : Css.hasWord v s = true ↔ Css.IsWordOf v s :=
  hasWord_iff' v s

/-- With a value free of white space, a word occurrence is a whole item of the white-space
    separated list: the neighbours are white space and `v` itself has none. -/
theorem isWordOf_maximal (v s : Str) (hws : v.any isCssWs = false) (h : Css.IsWordOf v s) :
    ∃ a b, s = a ++ v ++ b ∧ (∀ c ∈ v, isCssWs c = false) ∧
      (a = [] ∨ ∃ a' c, a = a' ++ [c] ∧ isCssWs c = true) ∧
      (b = [] ∨ ∃ c b', b = c :: b' ∧ isCssWs c = true) := by
  obtain ⟨a, b, hs, ha, hb⟩ := h
  refine ⟨a, b, hs, ?_, ha, hb⟩
  intro c hc
  cases hcw : isCssWs c with
  | false => rfl
  | true =>
    have : v.any isCssWs = true := List.any_eq_true.mpr ⟨c, hc, hcw⟩
    rw [hws] at this; cases this

/-- `re.match(attrPattern(op, v, ic), s) is not None` is the specification's value test, for all
    seven operators; `hasWs` is as the parser computes it (`v` contains CSS white space). -/
theorem attrPattern_sem (env : CharEnv) (op : Css.AttrOp) (v s : Str) (ic : Bool)
    (hfold : ic = true → env.fold = lowerCp) :
    Rx.isMatch env (Parser.attrPattern op.text v ic (v.any isCssWs)) s = Css.valTest op v ic s := by
  cases op with
  | eq => exact tmpl_eq_gen env ic hfold v s _
  | ne => exact tmpl_ne_gen env ic hfold v s _
  | pre | suf | sub =>
    by_cases hv : v = []
    · subst hv
      exact tmpl_empty env _ _ ic _ s (by decide)
    · simp [Css.AttrOp.text, Css.valTest, isEmpty_false hv, tmpl_pre_gen env ic hfold v s _ hv,
        tmpl_suf_gen env ic hfold v s _ hv, tmpl_sub_gen env ic hfold v s _ hv]
  | word =>
    rw [show Css.AttrOp.word.text = [126, 61] from rfl]
    by_cases hv : v = []
    · rw [tmpl_word_none env v s ic _ (Or.inl hv)]
      subst hv; rfl
    · cases hw : v.any isCssWs with
      | true =>
        rw [tmpl_word_none env v s ic true (Or.inr rfl)]
        simp [Css.valTest, hw]
      | false =>
        rw [tmpl_word_gen env ic hfold v s hv]
        simp [Css.valTest, isEmpty_false hv, hw]
  | dash => exact tmpl_dash_gen env ic hfold v s _

/-- The instance for ASCII folding.  (The driver runs `pyFoldEnv`, which folds more than ASCII and does not
    satisfy `env.fold = lowerCp`: hence the hypothesis `caseSensitiveIn ∨ fold` of `C01Sat.match_eq_sat`.) -/
theorem attrPattern_sem_ascii (op : Css.AttrOp) (v s : Str) (ic : Bool) :
    Rx.isMatch asciiEnv (Parser.attrPattern op.text v ic (v.any isCssWs)) s = Css.valTest op v ic s :=
  attrPattern_sem asciiEnv op v s ic (fun _ => rfl)

end C01Attr
end SoupVerif
