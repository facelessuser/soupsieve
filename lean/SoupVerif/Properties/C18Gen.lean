/-
  C18 — the calendar / clock validators of `css_match.Inputs`, tied to the SOURCE by translation + proof.

  `Generated/PyInputs.lean` is regenerated by `gen/gen_py_inputs.py` from the source text (ast) of
  `Inputs.validate_day / validate_week / validate_month / validate_year / validate_hour / validate_minutes`:
  one Lean definition over `Int` per function, the same branches in the same order, the same arithmetic
  (`%` = `Int.fmod`, `//` = `Int.fdiv`: Python's floor operations for every sign), the constants translated from
  their module-level assignments.

  Here: for ALL natural-number arguments (what `int(m.group(..), 10)` of a digit string can be) each regenerated
  definition is equal to the hand-written model function of `Model/Inputs.lean` that `Properties/C18.lean` is about;
  on integers: the same for non-negative arguments (`*_int`), and `false` for a day or week `≤ 0` (`*_neg`); a negative
  year or month is in no theorem.  Hence every C18 theorem about the hand model
  holds of the code in the repository; the main ones are restated about `Gen.PyInputs.*` below.
  An edit of the Python that changes a branch, a constant or an operator changes the regenerated term and breaks
  an equation here.

  The proofs unfold the generated definitions by their (function) names only; the names of locals and of the
  module constants (`@[simp]`) do not occur.

  Second half: `Inputs._parse_value` is regenerated as the program `Gen.PyInputs.parseValueProg` of the small branch
  language of `Model/PyProg.lean` (which regex NAME each branch matches with, which groups it converts with
  `int(.., 10)` into which variables, which validators it calls on which variables, which tuple it returns),
  with the tables that instantiate the regex names by the REGENERATED expressions of `Generated/Regexes.lean`
  and the validator names by the REGENERATED validators above.  `parseValueProg_eq`: for every `itype` and every
  string, running that program with the regex-engine model gives `RefineInputs.parseValueRx` (hence, by
  `RefineInputs.parseValueRx_eq`, the hand model `Inputs.parseValue` all C18 `parse_*` theorems are about).
  The proof shows of every branch, at every keyword it tests for, that it computes what `parseValueRx` computes at
  that keyword (`branch_eq`), so it does not depend on the order of the `elif`s, and evaluates variable look-ups
  away (`evalBody_ints`), so it does not depend on the names of the locals.
-/
import SoupVerif.Generated.PyInputs
import SoupVerif.Properties.C18
import SoupVerif.Properties.C18Rx

namespace SoupVerif
namespace C18Gen
open Gen.PyInputs

/-! ## generated definition = hand model, for all natural arguments -/

theorem validate_month_eq (m : Nat) : validate_month m = Inputs.validateMonth m := by
  rw [Bool.eq_iff_iff]; simp [validate_month, Inputs.validateMonth]; omega

theorem validate_year_eq (y : Nat) : validate_year y = Inputs.validateYear y := by
  rw [Bool.eq_iff_iff]; simp [validate_year, Inputs.validateYear]; omega

theorem validate_hour_eq (h : Nat) : validate_hour h = Inputs.validateHour h := by
  rw [Bool.eq_iff_iff]; simp [validate_hour, Inputs.validateHour]; omega

theorem validate_minutes_eq (m : Nat) : validate_minutes m = Inputs.validateMinutes m := by
  rw [Bool.eq_iff_iff]; simp [validate_minutes, Inputs.validateMinutes]; omega

/-- The leap-year test of both validators, on a natural year. -/
theorem leap_cast (y : Nat) :
    ((Int.fmod y 4 == 0 && Int.fmod y 100 != 0) || Int.fmod y 400 == 0) = Inputs.isLeap y := by
  rw [Bool.eq_iff_iff]
  simp [Inputs.isLeap, Int.fmod_eq_emod_of_nonneg]
  omega

/-- `dec31` of `validate_week` on a natural year. -/
theorem dec31_cast (y : Nat) :
    PyExpr.intOr (Int.fmod ((y + Int.fdiv y 4) - Int.fdiv y 100 + Int.fdiv y 400) 7) 7 = (Inputs.dec31 y : Nat) := by
  -- the one truncated subtraction of the hand model (`year + year / 4 - year / 100` on `Nat`) is exact
  have hc : ((y : Int) + (y : Int) / 4 - (y : Int) / 100 + (y : Int) / 400) =
      ((y + y / 4 - y / 100 + y / 400 : Nat) : Int) := by omega
  simp only [PyExpr.intOr, Inputs.dec31, Int.fdiv_eq_ediv_of_nonneg _ (show (0 : Int) ≤ 4 by decide),
    Int.fdiv_eq_ediv_of_nonneg _ (show (0 : Int) ≤ 100 by decide),
    Int.fdiv_eq_ediv_of_nonneg _ (show (0 : Int) ≤ 400 by decide),
    Int.fmod_eq_emod_of_nonneg _ (show (0 : Int) ≤ 7 by decide), hc]
  generalize y + y / 4 - y / 100 + y / 400 = n
  simp only [bne_iff_ne, ne_eq, beq_iff_eq]
  split <;> split <;> omega

theorem validate_day_eq (y m d : Nat) : validate_day y m d = Inputs.validateDay y m d := by
  unfold validate_day Inputs.validateDay
  rw [leap_cast, Inputs.isLeap, Bool.eq_iff_iff]
  generalize (y % 4 == 0 && y % 100 != 0 || y % 400 == 0) = l
  have e2 : (m : Int) = 2 ↔ m = 2 := by omega
  have e30 : ((m : Int) = 4 ∨ (m : Int) = 6 ∨ (m : Int) = 9 ∨ (m : Int) = 11) ↔
      (((m = 4 ∨ m = 6) ∨ m = 9) ∨ m = 11) := by omega
  simp [e2, e30]
  repeat' split
  all_goals omega

theorem validate_week_eq (y w : Nat) : validate_week y w = Inputs.validateWeek y w := by
  unfold validate_week Inputs.validateWeek Inputs.maxWeek
  rw [leap_cast, dec31_cast, Bool.eq_iff_iff]
  generalize Inputs.isLeap y = l, Inputs.dec31 y = r
  cases l <;>
    simp only [Bool.or_eq_true, decide_eq_true_eq, Bool.and_eq_true, beq_iff_eq, Bool.false_eq_true, and_false,
      or_false, and_true] <;>
    split <;> split <;> omega

private theorem nat_of_nonneg {x : Int} (h : 0 ≤ x) : x = ((x.toNat : Nat) : Int) := (Int.toNat_of_nonneg h).symm

theorem validate_day_int (y m d : Int) (hy : 0 ≤ y) (hm : 0 ≤ m) (hd : 0 ≤ d) :
    validate_day y m d = Inputs.validateDay y.toNat m.toNat d.toNat := by
  rw [← validate_day_eq, ← nat_of_nonneg hy, ← nat_of_nonneg hm, ← nat_of_nonneg hd]

theorem validate_week_int (y w : Int) (hy : 0 ≤ y) (hw : 0 ≤ w) :
    validate_week y w = Inputs.validateWeek y.toNat w.toNat := by
  rw [← validate_week_eq, ← nat_of_nonneg hy, ← nat_of_nonneg hw]

/-- A day / week number below 1 is rejected whatever the other (possibly negative) arguments are. -/
theorem validate_day_neg (y m d : Int) (hd : d ≤ 0) : validate_day y m d = false := by
  rw [Bool.eq_false_iff]; simp [validate_day]; omega

theorem validate_week_neg (y w : Int) (hw : w ≤ 0) : validate_week y w = false := by
  rw [Bool.eq_false_iff]; simp [validate_week]; omega

theorem validate_month_int (m : Int) : validate_month m = true ↔ 1 ≤ m ∧ m ≤ 12 := by simp [validate_month]
theorem validate_year_int (y : Int) : validate_year y = true ↔ 1 ≤ y := by simp [validate_year]
theorem validate_hour_int (h : Int) : validate_hour h = true ↔ 0 ≤ h ∧ h ≤ 23 := by simp [validate_hour]
theorem validate_minutes_int (m : Int) : validate_minutes m = true ↔ 0 ≤ m ∧ m ≤ 59 := by simp [validate_minutes]

/-- Days: for a real month, the code accepts a day number exactly when it exists in that month
    of that year (proleptic Gregorian, leap years included). -/
theorem day_valid (y m d : Nat) (h1 : 1 ≤ m) (h12 : m ≤ 12) :
    validate_day y m d = true ↔ 1 ≤ d ∧ d ≤ Spec.daysInMonth y m := by
  rw [validate_day_eq]; exact C18.day_valid y m d h1 h12

theorem day_valid_bad_month (y m d : Nat) (h : m = 0 ∨ 13 ≤ m) :
    validate_day y m d = true ↔ 1 ≤ d ∧ d ≤ 31 := by
  rw [validate_day_eq]; exact C18.day_valid_bad_month y m d h

theorem month_valid (m : Nat) : validate_month m = true ↔ 1 ≤ m ∧ m ≤ 12 := by
  rw [validate_month_eq]; exact C18.month_valid m

theorem year_valid (y : Nat) : validate_year y = true ↔ 1 ≤ y := by
  rw [validate_year_eq]; exact C18.year_valid y

theorem hour_valid (h : Nat) : validate_hour h = true ↔ h ≤ 23 := by
  rw [validate_hour_eq]; exact C18.hour_valid h

theorem minutes_valid (m : Nat) : validate_minutes m = true ↔ m ≤ 59 := by
  rw [validate_minutes_eq]; exact C18.minutes_valid m

/-- `C18.maxWeek_char` read as the test `validate_week` makes: the weeks accepted for year `y` are `1 ..` the true ISO week count, except
    that 53 is also accepted when 31 December lies in ISO week 1 of the following year (the recorded finding). -/
theorem maxWeek_char (y w : Nat) (h : 1 ≤ y) :
    validate_week y w = true ↔
      1 ≤ w ∧ w ≤ (if Spec.dec31InNextWeek1 y then 53 else Spec.isoWeeksInYear y) := by
  rw [validate_week_eq, ← C18.maxWeek_char y h]
  simp [Inputs.validateWeek]

/-- The local `max_week` of the code is 53 exactly in the long years and in the years of the finding. -/
theorem week53_iff (y : Nat) (h : 1 ≤ y) :
    validate_week y 53 = true ↔ Spec.dec31InNextWeek1 y ∨ Spec.isoWeeksInYear y = 53 := by
  have h52 := C18.isoWeeks_52_or_53 y h
  have hm : validate_week y 53 = true ↔ _ := maxWeek_char y 53 h
  rw [hm]
  by_cases hx : Spec.dec31InNextWeek1 y <;> simp [hx] <;> omega

theorem week_valid_partial (y w : Nat) (h : 1 ≤ y) (hg : ¬ (Spec.dec31InNextWeek1 y ∧ w = 53)) :
    validate_week y w = true ↔ 1 ≤ w ∧ w ≤ Spec.isoWeeksInYear y := by
  rw [validate_week_eq]; exact C18.week_valid_partial y w h hg

theorem week_finding_exact (y : Nat) (h : 1 ≤ y) :
    (∀ w : Nat, validate_week y w = true ↔ 1 ≤ w ∧ w ≤ Spec.isoWeeksInYear y) ↔ ¬ Spec.dec31InNextWeek1 y := by
  simp only [validate_week_eq]; exact C18.week_finding_exact y h

theorem week_valid_never_rejects_valid (y w : Nat) (h : 1 ≤ y) (h1 : 1 ≤ w) (h2 : w ≤ Spec.isoWeeksInYear y) :
    validate_week y w = true := by
  rw [validate_week_eq]; exact C18.week_valid_never_rejects_valid y w h h1 h2

/-- The full-strength week statement is false of the code as written (witness 2019-W53). -/
theorem week_valid_false :
    ¬ ∀ y w : Nat, 1 ≤ y → (validate_week y w = true ↔ 1 ≤ w ∧ w ≤ Spec.isoWeeksInYear y) := by
  simp only [validate_week_eq]; exact C18.week_valid_false

-- non-vacuity: the regenerated definitions evaluate (also on negative and huge arguments)
example : validate_day 2024 2 29 = true ∧ validate_day 2023 2 29 = false ∧ validate_day 1900 2 29 = false ∧
    validate_day 2000 2 29 = true ∧ validate_day 2024 4 31 = false ∧ validate_day (-4) 2 29 = true := by decide
example : validate_week 2020 53 = true ∧ validate_week 2021 53 = false ∧ validate_week 2019 53 = true ∧
    validate_week 123456789012 53 = true ∧ validate_week 2023 53 = false ∧ validate_week 2020 0 = false := by decide
example : validate_hour 23 = true ∧ validate_hour 24 = false ∧ validate_hour (-1) = false ∧
    validate_minutes 59 = true ∧ validate_minutes 60 = false ∧ validate_month 0 = false ∧ validate_month 12 = true ∧
    validate_year 0 = false := by decide

/-! ## `_parse_value`: the regenerated program = `parseValueRx` = the hand model -/

open RefineInputs PyProg

/-- the evaluator's `m.group(i)` is the one of the regex refinement proofs -/
theorem groupText_eq : @groupText = @grp := rfl

theorem evalConds_all (vals : List (String × (List Int → Option Bool))) (σ : List (String × Nat)) :
    ∀ (cs : List Call) (bs : List Bool), cs.mapM (evalCall vals σ) = some bs →
      evalConds vals σ cs = some (bs.all id)
  | [], bs, h => by cases h; rfl
  | c :: cs, bs, h => by
    rw [List.mapM_cons] at h
    obtain ⟨b, hc, h⟩ := Option.bind_eq_some_iff.1 h
    obtain ⟨bs', hcs, h⟩ := Option.bind_eq_some_iff.1 h
    cases h
    simp only [evalConds, hc, Option.bind_some, evalConds_all vals σ cs bs' hcs, List.all_cons, id]
    cases b <;> rfl

theorem evalBody_ints (cfg : Config) (groups : List (String × Nat)) (value : Str) (caps : Caps)
    (binds : List (String × String)) (conds : List Call) (result : List String)
    (σ : List (String × Nat)) (bs : List Bool) (vs : List Nat)
    (hσ : bindVars groups value caps binds [] = some σ)
    (hc : conds.mapM (evalCall cfg.validators σ) = some bs)
    (hr : lookupAll σ result = some vs) :
    evalBody cfg groups value caps (.ints binds conds result) =
      some (if bs.all id then some (.ints vs) else none) := by
  simp only [evalBody, hσ, Option.bind_some, evalConds_all _ _ _ _ hc, hr, Option.map_some]
  cases bs.all id <;> rfl

theorem evalBranch_of_lookup (cfg : Config) (value : Str) (b : Branch) (rx : Rx) (groups : List (String × Nat))
    (h : cfg.regexes.lookup b.regex = some (rx, groups)) :
    evalBranch cfg value b =
      match Rx.matchAt cfg.env rx value 0 with
      | none => some none
      | some (_, caps) => evalBody cfg groups value caps b.body := by
  simp only [evalBranch, h]
  rfl

/-- Every branch of the regenerated program, at every `itype` it tests for, computes `parseValueRx`. -/
theorem branch_eq (env : CharEnv) (value : Str) (b : Branch) (hb : b ∈ parseValueProg) (t : String) (ht : t ∈ b.itypes) :
    evalBranch (config env) value b = some (parseValueRx env t.toStr value) := by
  simp only [parseValueProg, List.mem_cons, List.not_mem_nil, or_false] at hb
  rcases hb with rfl | rfl | rfl | rfl | rfl | rfl <;>
    simp only [List.mem_cons, List.not_mem_nil, or_false] at ht <;>
    rw [evalBranch_of_lookup _ _ _ _ _ rfl, show (config env).env = env from rfl] <;> unfold parseValueRx
  rotate_right
  · rcases ht with rfl | rfl <;>
      simp only [Inputs.keyword_ne, beq_self_eq_true, if_true, Bool.false_eq_true, if_false, Bool.or_true, Bool.true_or] <;>
      cases Rx.matchAt env Gen.cm_RE_NUM value 0 <;> rfl
  all_goals
    subst ht
    simp only [Inputs.keyword_ne, beq_self_eq_true, if_true, Bool.false_eq_true, if_false]
    generalize Rx.matchAt env _ value 0 = m
    cases m with
    | none => rfl
    | some p =>
      -- the assignments, the validator calls and the result tuple evaluate; the regenerated validators are
      -- the hand ones (first half of the file); what is left is `parseValueRx`'s branch with its named groups looked up
      refine (evalBody_ints _ _ _ p.2 _ _ _ _ _ _ rfl rfl rfl).trans ?_
      simp only [Int.ofNat_eq_natCast, validate_year_eq, validate_month_eq, validate_day_eq, validate_week_eq,
        validate_hour_eq, validate_minutes_eq, List.reverse_cons, List.reverse_nil, List.nil_append,
        List.cons_append, List.all_cons, List.all_nil, id, Bool.and_true, ← Bool.and_assoc]
      rfl

/-- For every `itype` and every string: the program regenerated from `Inputs._parse_value`, run with the
    regex-engine model on the regenerated regular expressions and with the regenerated validators, never gets
    stuck and returns what `parseValueRx` returns. -/
theorem parseValueProg_eq (env : CharEnv) (itype value : Str) :
    PyProg.eval (config env) parseValueProg itype value = some (parseValueRx env itype value) := by
  unfold PyProg.eval
  cases hf : parseValueProg.find? (selects itype) with
  | some b =>
    obtain ⟨t, ht, rfl⟩ : ∃ t ∈ b.itypes, itype = t.toStr := by
      simpa [selects] using List.find?_some hf
    exact branch_eq env value b (List.mem_of_find?_eq_some hf) t ht
  | none =>
    simp [List.find?_eq_none, parseValueProg, selects] at hf
    unfold parseValueRx
    simp [hf]

theorem parseValueProg_eq_model (env : CharEnv) (itype value : Str) :
    PyProg.eval (config env) parseValueProg itype value = some (Inputs.parseValue itype value) := by
  rw [parseValueProg_eq, parseValueRx_eq]

/-- `_parse_value` as regenerated returns a value `v` for `(itype, s)`. -/
def Parses (env : CharEnv) (itype s : Str) (v : Inputs.PVal) : Prop :=
  PyProg.eval (config env) parseValueProg itype s = some (some v)

theorem parses_iff (env : CharEnv) (itype s : Str) (v : Inputs.PVal) :
    Parses env itype s v ↔ Inputs.parseValue itype s = some v := by
  simp [Parses, parseValueProg_eq_model]

variable (env : CharEnv)

theorem prog_date_spec (s : Str) (v : Inputs.PVal) :
    Parses env "date".toStr s v ↔ ∃ y m d, Spec.validDateStr s y m d ∧ v = .ints [y, m, d] := by
  rw [parses_iff]; exact C18.parse_date_spec s v

theorem prog_month_spec (s : Str) (v : Inputs.PVal) :
    Parses env "month".toStr s v ↔ ∃ y m, Spec.validMonthStr s y m ∧ v = .ints [y, m] := by
  rw [parses_iff]; exact C18.parse_month_spec s v

/-- Weeks: what the code accepts (the recorded finding included). -/
theorem prog_week_char (s : Str) (v : Inputs.PVal) :
    Parses env "week".toStr s v ↔
      ∃ y w, Inputs.shapeWeek s = some (y, w) ∧ 1 ≤ y ∧ 1 ≤ w ∧ w ≤ Inputs.maxWeek y ∧ v = .ints [y, w] := by
  rw [parses_iff]; exact C18.parse_week_char s v

theorem prog_week_valid_partial (s : Str) (v : Inputs.PVal)
    (hg : ∀ y, Inputs.shapeWeek s = some (y, 53) → ¬ Spec.dec31InNextWeek1 y) :
    Parses env "week".toStr s v ↔ ∃ y w, Spec.validWeekStr s y w ∧ v = .ints [y, w] := by
  rw [parses_iff]; exact C18.parse_week_valid_partial s v hg

theorem prog_week_never_rejects_valid (s : Str) (y w : Nat) (h : Spec.validWeekStr s y w) :
    Parses env "week".toStr s (.ints [y, w]) := by
  rw [parses_iff]; exact C18.parse_week_never_rejects_valid s y w h

theorem prog_time_spec (s : Str) (v : Inputs.PVal) :
    Parses env "time".toStr s v ↔ ∃ h mi, Spec.validTimeStr s h mi ∧ v = .ints [h, mi] := by
  rw [parses_iff]; exact C18.parse_time_spec s v

theorem prog_datetime_spec (s : Str) (v : Inputs.PVal) :
    Parses env "datetime-local".toStr s v ↔
      ∃ y m d h mi, Spec.validDateTimeStr s y m d h mi ∧ v = .ints [y, m, d, h, mi] := by
  rw [parses_iff]; exact C18.parse_datetime_spec s v

theorem prog_number_spec (s : Str) (v : Inputs.PVal) :
    (Parses env "number".toStr s v ↔ ∃ neg mant exp, Spec.numShape s neg mant exp ∧ v = .num neg mant exp) ∧
    (Parses env "range".toStr s v ↔ ∃ neg mant exp, Spec.numShape s neg mant exp ∧ v = .num neg mant exp) := by
  rw [parses_iff, parses_iff]; exact C18.parse_number_spec s v

theorem prog_other_type (t s : Str)
    (h : ∀ k ∈ ["date", "month", "week", "time", "datetime-local", "number", "range"], t ≠ k.toStr) :
    PyProg.eval (config env) parseValueProg t s = some none := by
  rw [parseValueProg_eq_model, C18.parse_other_type t s h]

-- non-vacuity: the regenerated program runs in the kernel
example : PyProg.eval (config asciiEnv) parseValueProg "date".toStr "2024-02-29".toStr = some (some (.ints [2024, 2, 29])) := by
  decide_lit
example : PyProg.eval (config asciiEnv) parseValueProg "date".toStr "2023-02-29".toStr = some none := by decide_lit
example : PyProg.eval (config asciiEnv) parseValueProg "week".toStr "2019-W53".toStr = some (some (.ints [2019, 53])) := by
  decide_lit
example : PyProg.eval (config asciiEnv) parseValueProg "datetime-local".toStr "2024-02-29T23:59".toStr =
    some (some (.ints [2024, 2, 29, 23, 59])) := by decide_lit
example : PyProg.eval (config asciiEnv) parseValueProg "text".toStr "5".toStr = some none := by decide_lit

end C18Gen
end SoupVerif
