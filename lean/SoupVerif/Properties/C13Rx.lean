/-
  C13 at the level of the regular expressions of the SOURCE.

  `Properties/C13.lean` proves that `extended_language_filter` is RFC 4647 extended filtering for the
  hand-written wildcard strip `wildStripText`.  `Refine/Lang.lean` proves, for ALL strings, that
  `RE_WILD_STRIP.sub('-', RE_WILD_TAIL.sub('', range))` computed by the regex-engine model on the expressions
  REGENERATED from `css_match.py` (`wildStripRx`, the expression the driver runs) is the same function.
  Composed here: the end-to-end C13 statements about the regexes the code compiles.
-/
import SoupVerif.Properties.C13
import SoupVerif.Refine.Lang
namespace SoupVerif
namespace C13Rx
open LangLemmas

/-- = `RefineLang.wildStripRx_eq_text`. -/
theorem wildStripRx_eq_text (s : Str) : wildStripRx s = wildStripText s := RefineLang.wildStripRx_eq_text s

/-- The two substitutions, run by the engine on the regenerated regexes, remove exactly the redundant
    wildcard subtags. -/
theorem wildStripRx_subtags (s : Str) : splitOn 45 (wildStripRx s) = Spec.stripWild (splitOn 45 s) :=
  wildStripRx_eq_text s ▸ C13.wildStripText_subtags s

/-- End to end: `extended_language_filter` with the regex strip is `Spec.c13Match` (RFC 4647 extended filtering
    with the two edge rules) on the lower-cased subtag lists. -/
theorem extendedFilter_rx_eq_c13 (range tag : Str) (hne : ∀ x ∈ (splitOn 45 range).tail, x ≠ []) :
    Lang.extendedFilter wildStripRx range tag =
      Spec.c13Match ((splitOn 45 range).map lower) ((splitOn 45 tag).map lower) :=
  funext wildStripRx_eq_text ▸ C13.extendedFilter_wildStripText_eq_c13 range tag hne

theorem filter_rx_case_insensitive (r r' t t' : Str) (hr : lower r = lower r') (ht : lower t = lower t') :
    Lang.extendedFilter wildStripRx r t = Lang.extendedFilter wildStripRx r' t' :=
  funext wildStripRx_eq_text ▸ C13.wildStripText_case_insensitive r r' t t' hr ht

-- `wildStripRx_eq_text` in particular on every short text over `-`, `*` and a letter or a newline
set_option maxRecDepth 100000 in
example : ∀ s ∈ allStrings [45, 42, 97] 4, wildStripText s = wildStripRx s :=
  fun s _ => (wildStripRx_eq_text s).symm
set_option maxRecDepth 100000 in
example : ∀ s ∈ allStrings [45, 42] 6, wildStripText s = wildStripRx s :=
  fun s _ => (wildStripRx_eq_text s).symm
set_option maxRecDepth 100000 in
example : ∀ s ∈ allStrings [45, 42, 10] 5, wildStripText s = wildStripRx s :=
  fun s _ => (wildStripRx_eq_text s).symm

example : Lang.extendedFilter wildStripRx "de-*-DE".toStr "de-Latn-DE".toStr = true := by
  rw [extendedFilter_rx_eq_c13 _ _ (by decide_lit)]; decide_lit
example : Lang.extendedFilter wildStripRx "DE-*-de".toStr "de-x-DE".toStr = false := by
  rw [extendedFilter_rx_eq_c13 _ _ (by decide_lit)]; decide_lit

end C13Rx
end SoupVerif
