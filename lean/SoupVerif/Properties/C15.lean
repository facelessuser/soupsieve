/-
  C15  Compiled selectors are immutable values; the pattern cache is transparent.

  Data   : `Generated/Classes.lean` (gen/gen_classes.py): per `Immutable` subclass the slots,
           constructor keywords, who defines which dunder and WHAT the dunder does (AST shape,
           `unknown` when the shape is not the expected one), `_pickle`, the `lru_cache`
           decoration of `_cached_css_compile`, the branches of `soupsieve.compile`, the
           `ImmutableDict` family.
  Model  : `Model/Cache.lean`: object protocol driven by `ClassInfo`; the LRU machine; the
           `compile` wrapper driven by the generated guard list.
  Lemmas : `Lemmas/Cache.lean`.

  Reading guide.  Theorems named `*_data` (and `frozen`, `eq_all_slots`, `cache_key_complete`,
  `no_public_mutators`, `dict_pickle_via_ctor`) are `decide`d facts about the REGENERATED data: they are what breaks when
  the source changes (remove `__delattr__`, drop a slot from `__eq__`, hash `type(v)` again, key
  the cache on fewer arguments, ...).  The other theorems are about the model, for every class
  info satisfying those facts, and are instantiated with the generated classes at the end.

  Not proved here (trusted, exercised by the correspondence harness): CPython's `lru_cache` is
  the LRU machine of the model; `copy`/`deepcopy`/`pickle` go through `copyreg.dispatch_table`;
  `object.__setattr__` can bypass `Immutable.__setattr__` (outside the public protocol).
  `ImmutableDict` instances have a `__dict__` and no `__setattr__` guard: `ns._d = {}` is possible
  through the PRIVATE name; the public Mapping API has no mutator (`no_public_mutators`).
-/
import SoupVerif.Lemmas.Cache
namespace SoupVerif
namespace C15
open Cache CacheLemmas Gen.Classes

/-! ## 1. Immutability -/

/-- Every `Immutable` subclass (the IR classes and `SoupSieve`) refuses attribute assignment AND
    attribute deletion.  (On the tree before commit f6343c9 `__delattr__` was missing: the
    generated `delattrKind` is then `.inherited` and this `decide` fails.) -/
theorem frozen : ∀ c ∈ irClasses,
    c.setattrKind = .raisesAttributeError ∧ c.delattrKind = .raisesAttributeError := by decide +kernel

/-- The guards are the ones of `Immutable`: no subclass overrides a dunder, `__base__` returns the
    class itself, and no IR class is subclassed (so `isinstance(other, self.__base__())` is
    "same class"). -/
theorem no_override_data : ∀ c ∈ irClasses,
    c.setattrDef = some "Immutable" ∧ c.delattrDef = some "Immutable" ∧ c.eqDef = some "Immutable" ∧
    c.neDef = some "Immutable" ∧ c.hashDef = some "Immutable" ∧ c.baseDef = some "Immutable" ∧
    c.initHashDef = some "Immutable" ∧ c.baseKind = .returnsCls ∧ c.subclasses = 0 := by decide +kernel

/-- No sequence of public operations changes any slot of an object whose class freezes
    `__setattr__` and `__delattr__`. -/
theorem ops_preserve {V : Type} (vo : ValOps V) (c : ClassInfo)
    (hfrozen : c.setattrKind = .raisesAttributeError ∧ c.delattrKind = .raisesAttributeError) :
    ∀ (ops : List (ObjOp V)) (o : Obj V), (run vo c ops o).slots = o.slots := by
  intro ops o
  rw [run_frozen vo c hfrozen.1 hfrozen.2 ops o]

/-- ... in particular for every generated class. -/
theorem ops_preserve_ir {V : Type} (vo : ValOps V) :
    ∀ c ∈ irClasses, ∀ (ops : List (ObjOp V)) (o : Obj V), run vo c ops o = o :=
  fun c hc ops o => run_frozen vo c (frozen c hc).1 (frozen c hc).2 ops o

/-- What the caller of `o.x = v` / `del o.x` observes on a frozen class. -/
theorem setattr_raises {V : Type} (vo : ValOps V) :
    ∀ c ∈ irClasses, ∀ (o : Obj V) (n : String) (v : V),
      applyOp vo c o (.setattr n v) = (o, .attributeError) ∧
      applyOp vo c o (.delattr n) = (o, .attributeError) := by
  intro c hc o n v
  simp [applyOp, (frozen c hc).1, (frozen c hc).2]

/-! ## 2. Equality and hash -/

/-- `__eq__` compares every slot but `_hash`, `__ne__` is its negation, `__hash__` returns the
    stored hash, and the stored hash is computed over the VALUES of exactly the constructor
    keywords.  (With `type(v)` in the hash -- the tree before commit 73c76da -- the generated kind
    is `.tupleOfTypeAndValueOverKwargs` and this `decide` fails; see `old_hash_inconsistent`.) -/
theorem eq_all_slots : ∀ c ∈ irClasses,
    c.eqKind = .allSlotsButHash ∧ c.hashKind = .returnsStoredHash ∧
    c.initHashKind = .tupleOfValuesOverKwargs := by decide +kernel

theorem ne_negates_eq_data : ∀ c ∈ irClasses, c.neKind = .negatedAllSlotsButHash := by decide +kernel

/-- The constructor keywords are exactly the slots `__eq__` ranges over, bound positionally. -/
theorem wf_data : ∀ c ∈ irClasses, WF c := by decide +kernel

/-- `Immutable.__eq__`, in the model: same class and all slots but `_hash` pairwise `==`. -/
theorem eq_iff_slots {V : Type} (vo : ValOps V) (c : ClassInfo) (self other : Obj V) :
    eqObj vo c self other = true ↔
      other.cls = self.cls ∧
      ∀ k ∈ c.slots, k ≠ "_hash" →
        ∃ x y, getattr other k = some x ∧ getattr self k = some y ∧ vo.eq x y = true := by
  unfold eqObj
  simp only [Bool.and_eq_true, beq_iff_eq, List.all_eq_true, List.mem_filter, bne_iff_ne, ne_eq,
    and_imp]
  constructor
  · rintro ⟨hc, h⟩
    refine ⟨hc, fun k hk hne => ?_⟩
    have := h k hk hne
    split at this
    · next x y hx hy => exact ⟨x, y, hx, hy, this⟩
    · exact absurd this (by simp)
  · rintro ⟨hc, h⟩
    refine ⟨hc, fun k hk hne => ?_⟩
    obtain ⟨x, y, hx, hy, he⟩ := h k hk hne
    simp [hx, hy, he]

/-- Equal objects have equal hashes: for two instances built by the constructor of a generated
    class, `a == b → hash(a) == hash(b)` -- provided the slot values themselves obey Python's hash
    contract (`vo.Lawful.hash_eq`). No restriction on the types of the slot values. -/
theorem hash_congr {V : Type} (vo : ValOps V) (hv : vo.Lawful) :
    ∀ c ∈ irClasses, ∀ (xs ys : List V),
      xs.length = c.initParams.length → ys.length = c.initParams.length →
      (applyOp vo c (construct vo c xs) (.eq (construct vo c ys))).2 = .bool true →
      (applyOp vo c (construct vo c xs) .hash).2 = (applyOp vo c (construct vo c ys) .hash).2 := by
  intro c hc xs ys hx hy he
  have hk := eq_all_slots c hc
  have hw := wf_data c hc
  simp only [applyOp, hk.1, if_true, Outcome.bool.injEq] at he
  have := hash_congr_construct vo hv hw hk.2.2 xs ys hx hy he
  simp only [applyOp, hk.2.1, if_true, this]
  cases getattr (construct vo c ys) "_hash" <;> rfl

/-- Equal model objects have equal hashes: congruence only.  The content is in `hash_congr`, where `==` is
    Python's. -/
theorem hash_congr_structural {V : Type} (vo : ValOps V) (c : ClassInfo) (a b : Obj V) (h : a = b) :
    (applyOp vo c a .hash).2 = (applyOp vo c b .hash).2 := by rw [h]

/-- On constructed objects equality is pairwise equality of the (normalised) constructor values. -/
theorem eq_iff_values {V : Type} (vo : ValOps V) :
    ∀ c ∈ irClasses, ∀ (xs ys : List V),
      xs.length = c.initParams.length → ys.length = c.initParams.length →
      (eqObj vo c (construct vo c xs) (construct vo c ys) = true ↔
        ∀ i (h₁ : i < (normArgs vo c ys).length) (h₂ : i < (normArgs vo c xs).length),
          vo.eq (normArgs vo c ys)[i] (normArgs vo c xs)[i] = true) :=
  fun c hc xs ys hx hy => eqObj_construct_iff vo (wf_data c hc) xs ys hx hy

/-! ### compiled selectors are equal exactly when their keys are -/

/-- What `_cached_css_compile(pattern, namespaces, custom, flags)` returns, following the
    generated positional argument list of its `cm.SoupSieve(...)` call (`<expr>` = the parsed
    selector list). -/
def compiledArgs {V : Type} (sel : V) (k : Key V) : List V :=
  cacheSoupSieveArgExprs.map fun e =>
    if e = "pattern" then k.pattern else if e = "namespaces" then k.namespaces
    else if e = "custom" then k.custom else if e = "flags" then k.flags else sel

def compiledObj {V : Type} (vo : ValOps V) (parse : Key V → V) (k : Key V) : Obj V :=
  construct vo cls_SoupSieve (compiledArgs (parse k) k)

/-- The `SoupSieve(...)` call passes each cache parameter in the position of the constructor
    parameter of the same name, and the parser's result as `selectors`. -/
theorem soupsieve_call_data :
    cls_SoupSieve ∈ irClasses ∧
    cacheSoupSieveArgExprs = cls_SoupSieve.initParams.map (fun p => if p = "selectors" then "<expr>" else p) ∧
    cacheBodySimple = true := by decide +kernel

/-- Python `==` of two keys, argument by argument (`other` first, as `__eq__` evaluates it). -/
def keyEq {V : Type} (vo : ValOps V) (other self : Key V) : Prop :=
  vo.eq other.pattern self.pattern = true ∧ vo.eq other.namespaces self.namespaces = true ∧
  vo.eq other.custom self.custom = true ∧ vo.eq other.flags self.flags = true

theorem compiledArgs_length {V : Type} (sel : V) (k : Key V) :
    (compiledArgs sel k).length = cls_SoupSieve.initParams.length := (List.length_map _).trans rfl

theorem normArgs_compiled {V : Type} (vo : ValOps V) (sel : V) (k : Key V) :
    normArgs vo cls_SoupSieve (compiledArgs sel k) = [k.pattern, sel, k.namespaces, k.custom, k.flags] := by
  simp [normArgs, compiledArgs, cacheSoupSieveArgExprs, cls_SoupSieve, normKwarg]

/-- Two compiled selectors are equal exactly when they were compiled from equal
    (pattern, namespaces, custom, flags) -- given that parsing equal keys gives equal selector
    lists (`hparse`, the parser is a function of the key up to `==`). -/
theorem compiled_eq_iff_key {V : Type} (vo : ValOps V) (parse : Key V → V)
    (hparse : ∀ k₁ k₂, keyEq vo k₂ k₁ → vo.eq (parse k₂) (parse k₁) = true) (k₁ k₂ : Key V) :
    eqObj vo cls_SoupSieve (compiledObj vo parse k₁) (compiledObj vo parse k₂) = true ↔
      keyEq vo k₂ k₁ := by
  unfold compiledObj
  rw [eqObj_construct_iff vo (wf_data _ soupsieve_call_data.1) _ _ (compiledArgs_length _ _)
    (compiledArgs_length _ _), normArgs_compiled, normArgs_compiled]
  constructor
  · intro h
    exact ⟨h 0 (by simp) (by simp), h 2 (by simp) (by simp), h 3 (by simp) (by simp),
      h 4 (by simp) (by simp)⟩
  · intro h i h₁ h₂
    have hi : i < 5 := h₁
    match i, hi with
    | 0, _ => exact h.1
    | 1, _ => exact hparse k₁ k₂ h
    | 2, _ => exact h.2.1
    | 3, _ => exact h.2.2.1
    | 4, _ => exact h.2.2.2

/-- ... and then their hashes agree. -/
theorem compiled_hash_congr {V : Type} (vo : ValOps V) (hv : vo.Lawful) (parse : Key V → V)
    (hparse : ∀ k₁ k₂, keyEq vo k₂ k₁ → vo.eq (parse k₂) (parse k₁) = true) (k₁ k₂ : Key V)
    (h : keyEq vo k₂ k₁) :
    getattr (compiledObj vo parse k₁) "_hash" = getattr (compiledObj vo parse k₂) "_hash" :=
  hash_congr_construct vo hv (wf_data _ soupsieve_call_data.1) (eq_all_slots _ soupsieve_call_data.1).2.2
    _ _ (compiledArgs_length _ _) (compiledArgs_length _ _) ((compiled_eq_iff_key vo parse hparse k₁ k₂).mpr h)

/-! ## 3. Pickling, copy, deepcopy -/

/-- `_pickle` returns `(p.__base__(), tuple(getattr(p, s) for s in p.__slots__[:-1]))`, every
    class is registered with it, `_hash` is the last slot and the remaining slots are the
    constructor's positional parameters IN ORDER, so `cls(*state)` is well-formed. -/
theorem pickle_roundtrip_data :
    pickleKind = .baseAndSlotsButLast ∧ registerKind = .copyregPickleWithPickle ∧
    (∀ c ∈ irClasses, c.registered = true) ∧ registeredNames = irClasses.map (·.name) ∧
    ∀ c ∈ registered, c.hashIsLastSlot = true ∧ c.slotsButLast = c.initParams ∧
      c.superKwargs = c.initParams ∧ c.initShapeOk = true ∧ ∀ k ∈ c.kwargs, k.expr ≠ .unknown := by
  decide +kernel

/-- `construct (reduce o) = o`: rebuilding from the pickled state gives back the object, for every
    object made by the constructor of a generated class. -/
theorem pickle_roundtrip {V : Type} (vo : ValOps V) (hv : vo.Lawful) :
    ∀ c ∈ irClasses, ∀ (args : List V), args.length = c.initParams.length →
      ∃ st, reduce c (construct vo c args) = some (c.name, st) ∧
        construct vo c st = construct vo c args := by
  intro c hc args hl
  exact ⟨normArgs vo c args, reduce_construct vo (wf_data c hc) args hl,
    construct_normArgs vo hv (wf_data c hc) args hl⟩

/-- `copy.copy(o)` and `copy.deepcopy(o)` leave `o` alone and return an object with the same
    slots (hence `==` to `o` with the same hash, and selecting the same elements: the matcher
    reads nothing but the slots). -/
theorem copy_equal {V : Type} (vo : ValOps V) (hv : vo.Lawful) :
    ∀ c ∈ irClasses, ∀ (args : List V), args.length = c.initParams.length →
      applyOp vo c (construct vo c args) .copy = (construct vo c args, .object (construct vo c args)) ∧
      applyOp vo c (construct vo c args) .deepcopy = (construct vo c args, .object (construct vo c args)) := by
  intro c hc args hl
  have hr := rebuild_construct vo hv (wf_data c hc) args hl
  have hreg := pickle_roundtrip_data.2.2.1 c hc
  have hp := pickle_roundtrip_data.1
  simp [applyOp, hr, hreg, hp]

/-- A copy compares equal under Python's `==` as soon as `==` is reflexive on the slot values. -/
theorem copy_pyEq {V : Type} (vo : ValOps V) (hrefl : ∀ v, vo.eq v v = true) :
    ∀ c ∈ irClasses, ∀ (args : List V), args.length = c.initParams.length →
      eqObj vo c (construct vo c args) (construct vo c args) = true :=
  fun c hc args hl => (eqObj_construct_iff vo (wf_data c hc) args args hl hl).mpr fun _ _ _ => hrefl _

/-! ## 4. `ImmutableDict`, `Namespaces`, `CustomSelectors` -/

/-- No class of the family defines or inherits a mutating method of the Mapping API, the only
    method that stores into `self` is `ImmutableDict.__init__`, which copies its argument; `==`
    comes from `collections.abc.Mapping` (order-independent), `__hash__` from `ImmutableDict`, and
    `_hash` is computed over the SORTED items. -/
theorem no_public_mutators :
    (∀ d ∈ dictClasses, d.liveMutators = [] ∧ (∀ m ∈ d.methods, m ∉ mutatorNames) ∧
      d.eqDef = some "Mapping" ∧ d.hashDef = some "ImmutableDict") ∧
    dictSelfWriters = ["ImmutableDict.__init__"] ∧ dictCopiesArg = true ∧
    dictSubclassInitsForward = true ∧ dictHashKind = .sortedItems ∧
    "__setitem__" ∈ mutatorNames ∧ "__delitem__" ∈ mutatorNames := by decide +kernel

/-- The map classes are pickled / copied through their constructor (`__reduce__` on the base, inherited
    unchanged; no other pickle or copy hook), so `_hash` is never carried across processes. -/
theorem dict_pickle_via_ctor : dictReduceViaCtor = true := by decide +kernel

/-- What that buys: whatever tuple / item hash functions the LOADING process has (`th'`, `ih'` — string hashes
    are randomised per process), the object rebuilt there from the pickled items has the hash of every map
    that is `==` to it there. -/
theorem dict_unpickle_hash_fresh (th' : List Nat → Nat) (ih' : Nat × Nat → Nat) (pickled fresh : Items)
    (h₁ : (pickled.map Prod.fst).Nodup) (h : dictEq pickled fresh = true) :
    dictHash dictHashKind th' ih' pickled = dictHash dictHashKind th' ih' fresh :=
  dictHash_perm _ th' ih' pickled fresh (perm_of_dictEq pickled fresh h₁ h)

/-- Keys that differ only in map ordering: two maps that are `==` (as `Mapping`s) have the same
    hash, whatever the tuple hash and item hash are. -/
theorem dict_hash_order_independent (th : List Nat → Nat) (ih : Nat × Nat → Nat) (m₁ m₂ : Items)
    (h₁ : (m₁.map Prod.fst).Nodup) (h : dictEq m₁ m₂ = true) :
    dictHash dictHashKind th ih m₁ = dictHash dictHashKind th ih m₂ ∧
    (dictHash dictHashKind th ih m₁).isSome = true :=
  ⟨dict_unpickle_hash_fresh th ih m₁ m₂ h₁ h, by rw [no_public_mutators.2.2.2.2.1]; rfl⟩

/-! ## 5. The cache -/

/-- The cache is keyed on all four arguments, all four reach `SoupSieve(...)`, and the three the
    parser depends on reach `CSSParser(...)` (a cache keyed on fewer arguments than the result
    depends on makes this false). -/
theorem cache_key_complete :
    cacheParams = ["pattern", "namespaces", "custom", "flags"] ∧ cacheParamsPlain = true ∧
    (∀ p ∈ cacheParams, p ∈ cacheSoupSieveArgs) ∧
    (∀ p ∈ ["pattern", "custom", "flags"], p ∈ cacheParserArgs) ∧
    (∀ p ∈ cacheSoupSieveArgs ++ cacheParserArgs, p ∈ cacheParams) := by decide +kernel

/-- The function is wrapped by `functools.lru_cache` with a finite `maxsize` and `typed=False`;
    its body reads no global state besides the callables it calls; `purge()` calls
    `_purge_cache()`, which calls `cache_clear()` on it. -/
theorem cache_decl_data :
    cacheDecorators = ["lru_cache"] ∧ cacheDecoratorOrigin = "functools.lru_cache" ∧
    cacheIsLruWrapper = true ∧ cacheMaxsize.isSome = true ∧ cacheTyped = some false ∧
    cacheBodyGlobals = ["process_custom", "cm", "CSSParser"] ∧
    purgeKind = .callsCacheClear ∧ purgeApiKind = .callsPurgeCache := by decide +kernel

section LRU
variable {K E W : Type} [DecidableEq K] (N : Nat) (parse : K → Except E W)

/-- Transparency: whatever calls and purges came before, `compile k` returns `parse k` (the value
    or the exception of a fresh parse). -/
theorem cache_transparent (ops : List (CacheOp K)) (k : K) :
    (compile N parse (runOps N parse ops) k).2 = parse k :=
  compile_result N parse _ k (inv_runOps N parse ops)

/-- Every stored pair is a key with its parse. -/
theorem cache_sound (ops : List (CacheOp K)) :
    ∀ p ∈ (runOps N parse ops).entries, parse p.1 = .ok p.2 :=
  (inv_runOps N parse ops).sound

/-- The cache never holds more than its bound (also for `N = 0`: nothing is ever stored). -/
theorem cache_bounded (ops : List (CacheOp K)) : (runOps N parse ops).entries.length ≤ N :=
  (inv_runOps N parse ops).bounded

theorem cache_nodup_keys (ops : List (CacheOp K)) :
    ((runOps N parse ops).entries.map Prod.fst).Nodup :=
  (inv_runOps N parse ops).nodup

/-- `cache_info().currsize` is the number of entries. -/
theorem cache_info_consistent (ops : List (CacheOp K)) :
    (runOps N parse ops).currsize = (runOps N parse ops).entries.length :=
  (inv_runOps N parse ops).size

/-- `purge()` empties the cache and resets the counters. -/
theorem purge_empties (ops : List (CacheOp K)) :
    runOps N parse (ops ++ [.purge]) = State.empty := by
  simp [runOps, runFrom, List.foldl_append, step, purge]

def callsSincePurge : List (CacheOp K) → Nat :=
  List.foldl (fun n op => match op with | .compile _ => n + 1 | .purge => 0) 0

/-- `hits + misses` counts the calls since the last purge. -/
theorem cache_info_counts (ops : List (CacheOp K)) :
    (runOps N parse ops).hits + (runOps N parse ops).misses = callsSincePurge ops := by
  -- the two folds run side by side: every call adds one to `hits` or to `misses`, a purge resets both
  refine List.foldl_rel (r := fun (s : State K W) n => s.hits + s.misses = n) rfl fun op _ s n h => ?_
  cases op with
  | purge => rfl
  | compile k =>
    simp only [step, compile]
    split
    · simp only; omega
    · split
      · simp only; omega
      · split <;> (simp only; omega)

/-- LRU order, hit: the entry moves to the front, nothing is evicted, the stored value is returned. -/
theorem lru_order_hit (s : State K W) (k : K) (v : W) (h : find k s.entries = some v) :
    (compile N parse s k).1.entries = (k, v) :: remove k s.entries ∧
    (compile N parse s k).2 = .ok v ∧
    (compile N parse s k).1.entries.length = s.entries.length ∧
    (∀ k', k' ∈ keys (compile N parse s k).1.entries ↔ k' ∈ keys s.entries) := by
  have hk : k ∈ keys s.entries := List.mem_map_of_mem (f := Prod.fst) (find_some_mem k _ v h)
  simp only [compile, h, List.length_cons, keys_cons, List.mem_cons, true_and, keys_remove_erase]
  refine ⟨length_remove k _ hk, fun k' => ?_⟩
  by_cases e : k' = k
  · simp [e, hk]
  · simp [e, List.mem_erase_of_ne e]

/-- LRU order, miss on a full cache: the new entry goes to the front and exactly the entry at the
    back -- the least recently used one, see `lru_spec` -- is evicted. -/
theorem lru_order_miss_full (s : State K W) (k : K) (v : W) (hN : 0 < N)
    (hfind : find k s.entries = none) (hparse : parse k = .ok v) (hfull : s.entries.length = N) :
    ∃ (hne : s.entries ≠ []),
      (compile N parse s k).1.entries = (k, v) :: s.entries.dropLast ∧
      s.entries = s.entries.dropLast ++ [s.entries.getLast hne] := by
  have hne : s.entries ≠ [] := by intro e; rw [e] at hfull; simp at hfull; omega
  refine ⟨hne, ?_, (List.dropLast_concat_getLast hne).symm⟩
  simp only [compile, hfind, hparse, hfull, Nat.lt_add_one, if_true]
  obtain ⟨a, l, e⟩ := List.exists_cons_of_ne_nil hne
  rw [e]; rfl

/-- ... and a miss with room left evicts nothing. -/
theorem lru_order_miss_room (s : State K W) (k : K) (v : W)
    (hfind : find k s.entries = none) (hparse : parse k = .ok v) (hroom : s.entries.length < N) :
    (compile N parse s k).1.entries = (k, v) :: s.entries := by
  have : ¬ (s.entries.length + 1 > N) := by omega
  simp only [compile, hfind, hparse, this, if_false]

/-- A failing parse is not cached. -/
theorem failure_not_cached (s : State K W) (k : K) (e : E)
    (hfind : find k s.entries = none) (hparse : parse k = .error e) :
    (compile N parse s k).1.entries = s.entries ∧ (compile N parse s k).2 = .error e := by
  simp only [compile, hfind, hparse, and_self]

/-- LRU specification: after any history the cached keys are the `N` most recently
    (successfully) compiled distinct keys since the last purge, most recent first. -/
theorem lru_spec (ops : List (CacheOp K)) :
    keys (runOps N parse ops).entries = (recency parse ops).take N :=
  (rel_runFrom N parse ops State.empty [] (inv_empty N parse)
    ⟨by simp [State.empty], List.nodup_nil⟩).keys_eq

end LRU

/-! ## 6. `soupsieve.compile` -/

/-- The pass-through branch tests `flags`, then `namespaces is not None`, then `custom is not
    None`, each raising `ValueError`, then returns `pattern`; otherwise the four cache arguments
    are `pattern`, `Namespaces(namespaces)` / `None`, `CustomSelectors(custom)` / `None`, `flags`,
    in the order of the cache's parameters. -/
theorem compile_data :
    generatedCompileInfo.shapeOk = true ∧
    compileGuards = [⟨"flags", .truthy, "ValueError"⟩, ⟨"namespaces", .isNotNone, "ValueError"⟩,
      ⟨"custom", .isNotNone, "ValueError"⟩] ∧
    compileCallArgs = [.param "pattern", .wrapIfNotNone "Namespaces" "namespaces",
      .wrapIfNotNone "CustomSelectors" "custom", .param "flags"] ∧
    compileCallArgs.map (fun a => match a with | .param p => p | .wrapIfNotNone _ p => p | .unknown => "?")
      = cacheParams ∧
    (∀ p ∈ cacheParams, p ∈ compileParams ++ compileKwOnly) := by decide +kernel

variable {A O : Type} (ao : ApiOps A)

/-- `compile(compiled)` returns the same object. -/
theorem passthrough (c : O) :
    compileApi ao generatedCompileInfo (.compiled c) {} = .sameObject c := rfl

/-- ... and rejects `flags` (tested first, whatever the other two are), -/
theorem passthrough_flags (c : O) (n : Int) (hn : n ≠ 0) (ns cu : PyArg A) :
    compileApi ao generatedCompileInfo (.compiled c) { flags := .int n, namespaces := ns, custom := cu }
      = .raised "ValueError" "flags" := by
  have : (n != 0) = true := by simpa using hn
  simp [compileApi, generatedCompileInfo, compileShapeOk, compilePassthroughTestOk,
    compilePassthroughReturnsPattern, compileCallTargetOk, compileGuards, firstGuard, argOf,
    guardFires, this]

/-- ... then `namespaces`, -/
theorem passthrough_namespaces (c : O) (ns : A) (cu : PyArg A) :
    compileApi ao generatedCompileInfo (.compiled c) { flags := .int 0, namespaces := .val ns, custom := cu }
      = .raised "ValueError" "namespaces" := rfl

/-- ... then `custom`. -/
theorem passthrough_custom (c : O) (cu : A) :
    compileApi ao generatedCompileInfo (.compiled c) { flags := .int 0, namespaces := .none, custom := .val cu }
      = .raised "ValueError" "custom" := rfl

/-- A string pattern goes to the cache with the wrapped maps (so differently ordered dicts meet in
    one `Namespaces` key, see `dict_hash_order_independent`). -/
theorem compile_str (p : A) (ns cu : A) (n : Int) :
    compileApi (O := O) ao generatedCompileInfo (.str p) { flags := .int n, namespaces := .val ns, custom := .val cu }
      = .cached [.val p, .val (ao.wrap "Namespaces" ns), .val (ao.wrap "CustomSelectors" cu), .int n] ∧
    compileApi (O := O) ao generatedCompileInfo (.str p) { flags := .int n }
      = .cached [.val p, .none, .none, .int n] := ⟨rfl, rfl⟩

/-! ## 7. Non-vacuity -/

section Examples

theorem pyHash_of_num {v : PVal} {a : Nat} (h : v.num = some a) : v.pyHash = a := by
  cases v <;> simp_all [PVal.num, PVal.pyHash]

/-- `PVal.ops` obeys the laws the theorems assume. -/
theorem pval_lawful : PVal.ops.Lawful where
  hash_eq := by
    intro x y h
    -- numbers are `==` when their values are, and hash to their value; anything else is `==` only to itself
    show x.pyHash = y.pyHash
    replace h : x.pyEq y = true := h
    unfold PVal.pyEq at h
    split at h
    · next hx hy => rw [pyHash_of_num hx, pyHash_of_num hy, eq_of_beq h]
    · rw [eq_of_beq h]
    · cases h
  toTuple_idem := by intro v; cases v <;> rfl
  toTuple_empty := rfl
  toTuple_notNone := by intro v; cases v <;> rfl
  empty_notNone := rfl

private def tagP : Obj PVal := construct PVal.ops cls_SelectorTag [.str "p", .none]

example : tagP.slots.map Prod.fst = ["name", "prefix", "_hash"] := by decide +kernel
example : applyOp PVal.ops cls_SelectorTag tagP (.setattr "name" (.str "q")) = (tagP, .attributeError) := by decide +kernel
example : applyOp PVal.ops cls_SelectorTag tagP (.delattr "name") = (tagP, .attributeError) := by decide +kernel
example : (applyOp PVal.ops cls_SelectorTag tagP .reduce).2 = .reduced "SelectorTag" [.str "p", .none] := by decide +kernel
example : (applyOp PVal.ops cls_SelectorTag tagP .copy).2 = .object tagP := by decide +kernel

/-- The model is sensitive to the data: with `__delattr__` inherited from `object` (the tree
    before f6343c9) `del o.name` really deletes the slot. -/
example : (applyOp PVal.ops { cls_SelectorTag with delattrKind := .inherited } tagP (.delattr "name")).1.slots.map Prod.fst
    = ["prefix", "_hash"] := by decide +kernel

/-- `SoupSieve("p", sel, None, None, 1)` and `SoupSieve("p", sel, None, None, True)`. -/
private def ssInt (c : ClassInfo) : Obj PVal := construct PVal.ops c [.str "p", .tuple [1], .none, .none, .int 1]
private def ssBool (c : ClassInfo) : Obj PVal := construct PVal.ops c [.str "p", .tuple [1], .none, .none, .bool true]

/-- They are `==` ... -/
example : eqObj PVal.ops cls_SoupSieve (ssInt cls_SoupSieve) (ssBool cls_SoupSieve) = true := by decide +kernel
/-- ... and with the generated hash kind they have the same hash, -/
example : getattr (ssInt cls_SoupSieve) "_hash" = getattr (ssBool cls_SoupSieve) "_hash" := by decide +kernel
/-- ... whereas the old kind (`type(v)` hashed along with `v`) gives equal objects different
    hashes (the defect repaired by 73c76da); `eq_all_slots` excludes that kind. -/
theorem old_hash_inconsistent :
    let old := { cls_SoupSieve with initHashKind := InitHashKind.tupleOfTypeAndValueOverKwargs }
    eqObj PVal.ops old (ssInt old) (ssBool old) = true ∧
    getattr (ssInt old) "_hash" ≠ getattr (ssBool old) "_hash" := by decide +kernel

/-- A cache with bound 2 over numeric keys; key 0 does not parse. -/
private def parseEx (k : Nat) : Except String Nat := if k = 0 then .error "syntax" else .ok (10 * k)

/-- three distinct keys: the first one is evicted -/
example : (runOps 2 parseEx [.compile 1, .compile 2, .compile 3]).entries = [(3, 30), (2, 20)] := by decide +kernel
/-- a hit refreshes key 1, so key 2 is the one evicted -/
example : (runOps 2 parseEx [.compile 1, .compile 2, .compile 1, .compile 3]).entries = [(3, 30), (1, 10)] := by decide +kernel
example : runOps 2 parseEx [.compile 1, .compile 2, .compile 1, .compile 3] = ⟨[(3, 30), (1, 10)], 1, 3, 2⟩ := by decide +kernel
/-- failures count as misses and are not stored -/
example : runOps 2 parseEx [.compile 0, .compile 0, .compile 5] = ⟨[(5, 50)], 0, 3, 1⟩ := by decide +kernel
example : runOps 2 parseEx [.compile 1, .compile 2, .purge] = ⟨[], 0, 0, 0⟩ := by decide +kernel
example : recency parseEx [.compile 1, .compile 2, .compile 1, .compile 3, .compile 0] = [3, 1, 2] := by decide +kernel
/-- a cache keyed on too little is NOT transparent: dropping the flags from the key makes the
    second call return the first call's value -/
example :
    let parseKF : Nat × Nat → Except String (Nat × Nat) := fun kf => .ok kf
    let badKey : Nat × Nat → Nat := Prod.fst
    let s := (compile 2 (fun p => parseKF (p, 0)) (State.empty : State Nat (Nat × Nat)) (badKey (7, 0))).1
    (compile 2 (fun p => parseKF (p, 1)) s (badKey (7, 1))).2.toOption = some (7, 0) ∧
    (parseKF (7, 1)).toOption = some (7, 1) := by decide +kernel

example : dictEq [(1, 5), (2, 6)] [(2, 6), (1, 5)] = true := by decide +kernel
example (th : List Nat → Nat) (ih : Nat × Nat → Nat) :
    dictHash dictHashKind th ih [(1, 5), (2, 6)] = dictHash dictHashKind th ih [(2, 6), (1, 5)] :=
  (dict_hash_order_independent th ih _ _ (by decide) (by decide)).1

end Examples

end C15
end SoupVerif
