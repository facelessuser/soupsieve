/-
  C10, from the selector TEXT: `'#' + escape(s)`, `'.' + escape(s)`, `'[a=' + escape(s) + ']'` through the
  parser model and the matcher model.

  "For every string s, escape(s) is consumed by the selector parser as one identifier whose value is s with NUL
   replaced by U+FFFD: '#' + escape(s) selects exactly the elements whose id is that value, '.' + escape(s) those
   carrying that class, and '[a=' + escape(s) + ']' those whose attribute equals it."

  `Properties/C10.lean` / `C10Rx.lean` prove the scanner / regex level facts about `escape`.  This file proves the
  sentence itself, by composing
    * `Lemmas/EscapeForms.lean`: `escForms s`, the spelling `escape` uses, as a `Forms` of `C09Compile`'s grammar;
    * `Properties/C09Compile2.lean` (`compile_eq_denote2_plain`: the parser model on the text of a selector list
      in any admissible spelling is `denote` of the values), through `C05Parse.ListText` (`Refine/TextVerdict.lean`);
    * the matcher lemmas of C01 (`SatParts`, `SatLeaf`) and the C12 reading of type / attribute selectors
      (`C12Parse.TagCond`, `designates`);
    * `Properties/C01Parse.lean` (`select_text_exact`) for `select`.

  The bridge is `escape_forms`; `compound_simple_text` (`Refine/C10ParseCompound.lean`: `ListText.compound_iff`,
  `all_holds_simples`) and `item_in_compound_text` carry it through parser and matcher; `hash_escape_text`, `dot_escape_text`,
  `attr_eq_escape_text` are exactly the three texts of the sentence, the `select_*` theorems what `select` returns
  for them, the `compile_escape_*_general` theorems the same slot anywhere at the top level of a selector list
  (for a slot nested inside `:not(…)` etc. apply `compile_eq_denote2_plain` with `render_id_escForms` …
  `ok_id_escForms`).  `escape_empty_not_ident`: `escape "" = ""`, and `#`, `.`, `[a=]` are syntax errors of the
  parser model (the recorded finding `escape('')`).

  THE GUARD ON THE CONTINUATION.  None for `#…` and `.…` beyond the grammar's own (what follows must not continue
  an identifier: `SafeStart`, true of `.`, `#`, `[`, `:`, a gap, a combinator, `)`, the end).  `escape` ends every
  hex escape with a space, and `validForms` accepts any continuation after a terminated hex escape, so
  `identOK (escForms s) r` holds for ALL `r`.  For `[a op <escape s> flag]` the guard is
  `¬ continuesIdent (flagText flag ++ (g4 ++ 93 :: r))` (`escAttr_ok_iff`): met without a flag
  (`guard_noflag`: a gap or `]` follows) and with a flag behind a non-empty gap (`guard_flag`).

  Hypotheses, all explicit: `s ≠ []`; the side conditions of `C09Compile2` for the REST of the text (gaps, the
  other items, no NUL outside `escape s` — `escape s` itself never contains NUL); a case-insensitive attribute
  comparison needs an ASCII-folding matcher environment.

-/
import SoupVerif.Properties.C10
import SoupVerif.Refine.C01ParseBase
import SoupVerif.Refine.C10ParseCompound
import SoupVerif.Lemmas.StrLit
import SoupVerif.Properties.C01Parse
namespace SoupVerif
namespace C10Parse
open Escape Spelling SoupVerif.Parser Refine.Compile
open C09Compile (Forms identOK AttrV SAttr SAttrOp SValue opText flagText STag SComb)
open C09Compile2 (STagN SItem SCompound SSelList itemsOK renderItems itemsValue restValue renderRest denote Item
  Compound SelListV renderItems_append renderRest_append restValue_append itemsValue_append itemsOK_append)
open Css (AttrTest AttrOp CaseFlag Parts addSimple compileParts Simple satSimple idOf hasClass foldCase)
open C01Parse (mkB implB implTag)
open C12Parse (matchText TagCond AttrHolds designates Passes testOf opOf flagOf)

/-- **The bridge.**  For `s ≠ ""`, the text `escape s` is the rendering of the forms `escForms s`, these forms
    spell `s` with NUL replaced by U+FFFD, and they are an admissible identifier in front of EVERY text `r`. -/
theorem escape_forms (s : Str) (hs : s ≠ []) :
    renderIdentWith (escForms s) = escape s ∧ valueOf (escForms s) = nulToFFFD s ∧
      ∀ r, identOK (escForms s) r :=
  ⟨escForms_render s, escForms_value s, escForms_ok s hs⟩

/-- … and only for `s ≠ ""`: the empty list of forms is not an identifier. -/
theorem escForms_ok_iff (s r : Str) : identOK (escForms s) r ↔ s ≠ [] := by
  refine ⟨?_, fun hs => escForms_ok s hs r⟩
  rintro ⟨_, hh, _⟩ rfl
  revert hh; decide

/-- The text of the optional type selector. -/
def tagText : Option STagN → Str
  | some t => t.render
  | none => []

theorem renderItems_cons (it : SItem) (rest : List SItem) :
    renderItems (it :: rest) = it.render ++ renderItems rest := by rw [renderItems]

theorem simplesOf_append (a b : List SItem) : simplesOf (a ++ b) = simplesOf a ++ simplesOf b := by
  simp [simplesOf]

theorem compound_render (tag : Option STagN) (items : List SItem) :
    (SCompound.mk tag items).render = tagText tag ++ renderItems items := by
  cases tag <;> rfl

/-- `compound_simple_text` for `tag? pre… it post…`, the item `it` (spelling the simple selector `sm`) singled
    out; the side conditions are stated part by part. -/
theorem item_in_compound_text (c : Ctx) (l : Loc) (e : Elem) (kids : List Node) (hf : l.focus = .elem e kids)
    (tag : Option STagN) (pre post : List SItem) (it : SItem) (sm : Simple) (hsm : simpleOf it = some sm)
    (g₁ g₂ : Str) (hg₁ : isGap g₁) (hg₂ : isGap g₂)
    (htag : ∀ t, tag = some t → t.ok (renderItems pre ++ (it.render ++ (renderItems post ++ g₂))))
    (hpre : itemsOK pre (it.render ++ (renderItems post ++ g₂)))
    (hit : it.ok (renderItems post ++ g₂)) (hpost : itemsOK post g₂)
    (hall : ∀ x ∈ pre ++ post, (simpleOf x).isSome = true)
    (h0 : ∀ x ∈ g₁ ++ (tagText tag ++ (renderItems pre ++ (it.render ++ renderItems post))) ++ g₂, x ≠ 0)
    (hfold : ∀ ns name t, Simple.attr ns name (some t) ∈ simplesOf pre ++ sm :: simplesOf post →
      Css.caseInsensitive c name t.flag = true → c.env.fold = lowerCp) :
    ∃ b, matchText c (g₁ ++ (tagText tag ++ (renderItems pre ++ (it.render ++ renderItems post))) ++ g₂) l = .ok b ∧
      (b = true ↔ e.isDoc = false ∧ TagCond c e (tag.map STagN.value) ∧
        (∀ x ∈ simplesOf pre, satSimple c l e x = true) ∧ satSimple c l e sm = true ∧
        (∀ x ∈ simplesOf post, satSimple c l e x = true)) := by
  have hr : (SCompound.mk tag (pre ++ it :: post)).render =
      tagText tag ++ (renderItems pre ++ (it.render ++ renderItems post)) := by
    rw [compound_render, renderItems_append, renderItems_cons]
  have hs : simplesOf (pre ++ it :: post) = simplesOf pre ++ sm :: simplesOf post := by
    rw [simplesOf_append]
    simp [simplesOf, hsm]
  obtain ⟨b, h1, h2⟩ := compound_simple_text c l e kids hf tag (pre ++ it :: post) g₁ g₂ hg₁ hg₂
    (by
      simp only [SCompound.ok, itemsOK_append, itemsOK, renderItems_append, renderItems_cons,
        List.append_assoc]
      refine ⟨?_, hpre, hit, hpost⟩
      cases tag with
      | none => trivial
      | some t => exact htag t rfl)
    (by cases tag <;> simp [SCompound.isEmpty])
    (by
      intro x hx
      simp only [List.mem_append, List.mem_cons] at hx
      rcases hx with hx | rfl | hx
      · exact hall x (by simp [hx])
      · rw [hsm]; rfl
      · exact hall x (by simp [hx]))
    (by rw [hr]; exact h0) (by rw [hs]; exact hfold)
  rw [hr] at h1
  refine ⟨b, h1, h2.trans ?_⟩
  rw [hs, List.forall_mem_append, List.forall_mem_cons]

theorem render_id_escForms (s : Str) : (SItem.id (escForms s)).render = 35 :: escape s := by
  rw [SItem.render, escForms_render]

theorem render_cls_escForms (s : Str) : (SItem.cls (escForms s)).render = 46 :: escape s := by
  rw [SItem.render, escForms_render]

theorem value_id_escForms (s : Str) : (SItem.id (escForms s)).value = .id (nulToFFFD s) := by
  rw [SItem.value, escForms_value]

theorem value_cls_escForms (s : Str) : (SItem.cls (escForms s)).value = .cls (nulToFFFD s) := by
  rw [SItem.value, escForms_value]

/-- No guard at all on what follows `#<escape s>` … -/
theorem ok_id_escForms (s : Str) (hs : s ≠ []) (r : Str) : (SItem.id (escForms s)).ok r := by
  rw [SItem.ok]; exact escForms_ok s hs r

/-- … nor on what follows `.<escape s>`. -/
theorem ok_cls_escForms (s : Str) (hs : s ≠ []) (r : Str) : (SItem.cls (escForms s)).ok r := by
  rw [SItem.ok]; exact escForms_ok s hs r

/-- `[ g0 name g1 op= g2 <escape s> flag g4 ]`: an attribute selector whose value is the bare identifier
    `escape s` (`op` the character in front of `=` if any, `flag` a gap and one of `i I s S` if any). -/
def escAttr (g0 : Str) (name : Forms) (g1 : Str) (op : Option Nat) (g2 s : Str) (flag : Option (Str × Nat))
    (g4 : Str) : SAttr :=
  ⟨g0, name, some ⟨g1, op, g2, .ident (escForms s), flag⟩, g4⟩

theorem escAttr_render (g0 : Str) (name : Forms) (g1 : Str) (op : Option Nat) (g2 s : Str)
    (flag : Option (Str × Nat)) (g4 : Str) :
    (escAttr g0 name g1 op g2 s flag g4).render =
      91 :: (g0 ++ (renderIdentWith name ++ (g1 ++ (opText op ++ (g2 ++ (escape s ++
        (flagText flag ++ (g4 ++ [93])))))))) := by
  simp only [escAttr, SAttr.render, SAttr.afterName, SValue.render, escForms_render]

theorem escAttr_test (g0 : Str) (name : Forms) (g1 : Str) (op : Option Nat) (g2 s : Str)
    (flag : Option (Str × Nat)) (g4 : Str) :
    testOf (escAttr g0 name g1 op g2 s flag g4).value =
      some ⟨opOf (opText op), nulToFFFD s, flagOf (flag.map fun x => lowerCp x.2)⟩ := by
  simp only [escAttr, testOf, SAttr.value, Option.map_some, SValue.value, escForms_value]

/-- **The exact guard for the attribute value**: besides the side conditions of the other parts, what follows
    `escape s` must not continue an identifier. -/
theorem escAttr_ok_iff (g0 : Str) (name : Forms) (g1 : Str) (op : Option Nat) (g2 s : Str)
    (flag : Option (Str × Nat)) (g4 : Str) (hs : s ≠ []) (r : Str) :
    (escAttr g0 name g1 op g2 s flag g4).ok r ↔
      isGap g0 ∧ isGap g4 ∧ identOK name ((escAttr g0 name g1 op g2 s flag g4).afterName ++ r) ∧
        isGap g1 ∧ isGap g2 ∧ (∀ x, op = some x → isCmp x = true) ∧
        ¬ continuesIdent (flagText flag ++ (g4 ++ 93 :: r)) ∧
        (∀ g3 f, flag = some (g3, f) → isGap g3 ∧ isFlag f = true) := by
  simp only [escAttr, SAttr.ok, SValue.ok, escForms_ok s hs, true_and]

theorem not_cont_gap_close (g r : Str) (hg : isGap g) : ¬ continuesIdent (g ++ 93 :: r) := by
  cases g with
  | nil => simp [continuesIdent, identContChar]
  | cons x xs =>
    have := (C09Compile.safeStart_gap _ hg) x (by simp)
    simp [continuesIdent, this.1, this.2.1]

/-- The guard is met when no flag is written: a gap or `]` follows. -/
theorem guard_noflag (g4 r : Str) (hg : isGap g4) : ¬ continuesIdent (flagText none ++ (g4 ++ 93 :: r)) := by
  simpa [flagText] using not_cont_gap_close g4 r hg

/-- The guard is met when the flag stands behind a non-empty gap. -/
theorem guard_flag (g3 : Str) (f : Nat) (g4 r : Str) (hg : isGap g3) (hne : g3 ≠ []) :
    ¬ continuesIdent (flagText (some (g3, f)) ++ (g4 ++ 93 :: r)) := by
  cases g3 with
  | nil => exact absurd rfl hne
  | cons x xs =>
    have := (C09Compile.safeStart_gap _ hg) x (by simp)
    simp [flagText, continuesIdent, this.1, this.2.1]

theorem noNul_insert {g₁ t p q g₂ m : Str} (h0 : ∀ x ∈ g₁ ++ t ++ p ++ q ++ g₂, x ≠ 0)
    (hm : ∀ x ∈ m, x ≠ 0) : ∀ x ∈ g₁ ++ (t ++ (p ++ (m ++ q))) ++ g₂, x ≠ 0 := by
  intro x hx
  by_cases hxm : x ∈ m
  · exact hm x hxm
  · apply h0
    simp only [List.mem_append] at hx ⊢
    rcases hx with (hx | hx | hx | hx | hx) | hx
    · exact Or.inl (Or.inl (Or.inl (Or.inl hx)))
    · exact Or.inl (Or.inl (Or.inl (Or.inr hx)))
    · exact Or.inl (Or.inl (Or.inr hx))
    · exact absurd hx hxm
    · exact Or.inl (Or.inr hx)
    · exact Or.inr hx

theorem noNul_cons_escape (p : Nat) (hp : p ≠ 0) (s : Str) : ∀ x ∈ p :: escape s, x ≠ 0 := by
  intro x hx
  rcases List.mem_cons.1 hx with rfl | hx
  · exact hp
  · exact C10.escape_chars_ok s x hx

theorem noNul_attr_eq {a : Str} (h0 : ∀ x ∈ a, x ≠ 0) (s : Str) :
    ∀ x ∈ 91 :: (a ++ 61 :: (escape s ++ [93])), x ≠ 0 := by
  intro x hx
  simp only [List.mem_cons, List.mem_append, List.not_mem_nil, or_false] at hx
  rcases hx with rfl | hx | rfl | hx | rfl
  exacts [by decide, h0 x hx, by decide, C10.escape_chars_ok s x hx, by decide]

/-- **`tag? pre… #<escape s> post…`** (`tag` an optional type selector with or without prefix, `pre` / `post`
    any `#id`, `.class`, attribute selectors in any spelling, between two gaps): the parser model accepts the
    text, and the matcher model accepts `e` iff `e` is not the document object, the type passes, the other
    items hold, and THE ELEMENT'S ID IS `s` WITH NUL REPLACED BY U+FFFD (`Css.idOf`: the value of the `id`
    attribute when it is a single string — compared as a whole, not split at white space). -/
theorem escape_id_text (c : Ctx) (l : Loc) (e : Elem) (kids : List Node) (hf : l.focus = .elem e kids)
    (tag : Option STagN) (pre post : List SItem) (s : Str) (hs : s ≠ [])
    (g₁ g₂ : Str) (hg₁ : isGap g₁) (hg₂ : isGap g₂)
    (htag : ∀ t, tag = some t → t.ok (renderItems pre ++ ((35 :: escape s) ++ (renderItems post ++ g₂))))
    (hpre : itemsOK pre ((35 :: escape s) ++ (renderItems post ++ g₂)))
    (hpost : itemsOK post g₂)
    (hall : ∀ x ∈ pre ++ post, (simpleOf x).isSome = true)
    (h0 : ∀ x ∈ g₁ ++ tagText tag ++ renderItems pre ++ renderItems post ++ g₂, x ≠ 0)
    (hfold : ∀ ns name t, Simple.attr ns name (some t) ∈ simplesOf pre ++ simplesOf post →
      Css.caseInsensitive c name t.flag = true → c.env.fold = lowerCp) :
    ∃ b, matchText c (g₁ ++ (tagText tag ++ (renderItems pre ++ ((35 :: escape s) ++ renderItems post))) ++ g₂) l
        = .ok b ∧
      (b = true ↔ e.isDoc = false ∧ TagCond c e (tag.map STagN.value) ∧
        (∀ x ∈ simplesOf pre, satSimple c l e x = true) ∧ idOf c e = some (nulToFFFD s) ∧
        (∀ x ∈ simplesOf post, satSimple c l e x = true)) := by
  have h := item_in_compound_text c l e kids hf tag pre post (.id (escForms s)) (.id (nulToFFFD s))
    (by simp only [simpleOf, escForms_value]) g₁ g₂ hg₁ hg₂
    (by rw [render_id_escForms]; exact htag) (by rw [render_id_escForms]; exact hpre)
    (ok_id_escForms s hs _) hpost hall
    (by rw [render_id_escForms]; exact noNul_insert h0 (noNul_cons_escape 35 (by decide) s))
    (by
      intro ns name t hm
      simp only [List.mem_append, List.mem_cons, reduceCtorEq, false_or] at hm
      exact hfold ns name t (List.mem_append.2 hm))
  rw [render_id_escForms] at h
  simpa only [satSimple, beq_iff_eq] using h

/-- **`tag? pre… .<escape s> post…`**: … iff … THE ELEMENT CARRIES THE CLASS `s` WITH NUL REPLACED BY U+FFFD
    (`Css.hasClass`: one of the white-space separated words of the `class` attribute, or a member of the list
    when the tree builder has split it). -/
theorem escape_class_text (c : Ctx) (l : Loc) (e : Elem) (kids : List Node) (hf : l.focus = .elem e kids)
    (tag : Option STagN) (pre post : List SItem) (s : Str) (hs : s ≠ [])
    (g₁ g₂ : Str) (hg₁ : isGap g₁) (hg₂ : isGap g₂)
    (htag : ∀ t, tag = some t → t.ok (renderItems pre ++ ((46 :: escape s) ++ (renderItems post ++ g₂))))
    (hpre : itemsOK pre ((46 :: escape s) ++ (renderItems post ++ g₂)))
    (hpost : itemsOK post g₂)
    (hall : ∀ x ∈ pre ++ post, (simpleOf x).isSome = true)
    (h0 : ∀ x ∈ g₁ ++ tagText tag ++ renderItems pre ++ renderItems post ++ g₂, x ≠ 0)
    (hfold : ∀ ns name t, Simple.attr ns name (some t) ∈ simplesOf pre ++ simplesOf post →
      Css.caseInsensitive c name t.flag = true → c.env.fold = lowerCp) :
    ∃ b, matchText c (g₁ ++ (tagText tag ++ (renderItems pre ++ ((46 :: escape s) ++ renderItems post))) ++ g₂) l
        = .ok b ∧
      (b = true ↔ e.isDoc = false ∧ TagCond c e (tag.map STagN.value) ∧
        (∀ x ∈ simplesOf pre, satSimple c l e x = true) ∧ hasClass c e (nulToFFFD s) = true ∧
        (∀ x ∈ simplesOf post, satSimple c l e x = true)) := by
  have h := item_in_compound_text c l e kids hf tag pre post (.cls (escForms s)) (.cls (nulToFFFD s))
    (by simp only [simpleOf, escForms_value]) g₁ g₂ hg₁ hg₂
    (by rw [render_cls_escForms]; exact htag) (by rw [render_cls_escForms]; exact hpre)
    (ok_cls_escForms s hs _) hpost hall
    (by rw [render_cls_escForms]; exact noNul_insert h0 (noNul_cons_escape 46 (by decide) s))
    (by
      intro ns name t hm
      simp only [List.mem_append, List.mem_cons, reduceCtorEq, false_or] at hm
      exact hfold ns name t (List.mem_append.2 hm))
  rw [render_cls_escForms] at h
  simpa only [satSimple] using h

/-- **`tag? pre… [ name op= <escape s> flag ] post…`** (any gaps inside the brackets, any operator, with or
    without flag; the guard on what follows `escape s` is part of `hattr`, see `escAttr_ok_iff`): … iff …
    the attribute selector with the VALUE `nulToFFFD s` holds (`C12Parse.AttrHolds`: some attribute designated
    by the name passes the test `op`, value, flag; for `!=` none does). -/
theorem escape_attr_text (c : Ctx) (l : Loc) (e : Elem) (kids : List Node) (hf : l.focus = .elem e kids)
    (tag : Option STagN) (pre post : List SItem)
    (g0 : Str) (name : Forms) (g1 : Str) (op : Option Nat) (g2 s : Str) (flag : Option (Str × Nat)) (g4 : Str)
    (g₁ g₂ : Str) (hg₁ : isGap g₁) (hg₂ : isGap g₂)
    (htag : ∀ t, tag = some t →
      t.ok (renderItems pre ++ ((escAttr g0 name g1 op g2 s flag g4).render ++ (renderItems post ++ g₂))))
    (hpre : itemsOK pre ((escAttr g0 name g1 op g2 s flag g4).render ++ (renderItems post ++ g₂)))
    (hattr : (escAttr g0 name g1 op g2 s flag g4).ok (renderItems post ++ g₂))
    (hpost : itemsOK post g₂)
    (hall : ∀ x ∈ pre ++ post, (simpleOf x).isSome = true)
    (h0 : ∀ x ∈ g₁ ++ (tagText tag ++ (renderItems pre ++
      ((escAttr g0 name g1 op g2 s flag g4).render ++ renderItems post))) ++ g₂, x ≠ 0)
    (hfold : ∀ ns nm t, Simple.attr ns nm (some t) ∈ simplesOf pre ++
        Simple.attr [] (valueOf name) (testOf (escAttr g0 name g1 op g2 s flag g4).value) :: simplesOf post →
      Css.caseInsensitive c nm t.flag = true → c.env.fold = lowerCp) :
    ∃ b, matchText c (g₁ ++ (tagText tag ++ (renderItems pre ++
        ((91 :: (g0 ++ (renderIdentWith name ++ (g1 ++ (opText op ++ (g2 ++ (escape s ++
          (flagText flag ++ (g4 ++ [93]))))))))) ++ renderItems post))) ++ g₂) l = .ok b ∧
      (b = true ↔ e.isDoc = false ∧ TagCond c e (tag.map STagN.value) ∧
        (∀ x ∈ simplesOf pre, satSimple c l e x = true) ∧
        AttrHolds c e (valueOf name)
          (some ⟨opOf (opText op), nulToFFFD s, flagOf (flag.map fun x => lowerCp x.2)⟩)
          (fun x => designates c [] (valueOf name) x = true) ∧
        (∀ x ∈ simplesOf post, satSimple c l e x = true)) := by
  have h := item_in_compound_text c l e kids hf tag pre post (.attr (escAttr g0 name g1 op g2 s flag g4))
    (.attr [] (valueOf name) (testOf (escAttr g0 name g1 op g2 s flag g4).value)) rfl g₁ g₂ hg₁ hg₂
    (by rw [SItem.render]; exact htag) (by rw [SItem.render]; exact hpre)
    (by rw [SItem.ok]; exact hattr) hpost hall (by rw [SItem.render]; exact h0) hfold
  rw [SItem.render, escAttr_render, escAttr_test] at h
  obtain ⟨b, h1, h2⟩ := h
  refine ⟨b, h1, h2.trans ?_⟩
  simp only [satSimple, C12Parse.satAttr_iff]

/-- **`'#' + escape(s)`** on one element: accepted by the parser model, and the matcher model accepts `e` iff it
    is not the document object, it is in the default namespace if the caller's map has one (`TagCond … none`:
    the implied `*`), and its id is `nulToFFFD s`. -/
theorem hash_escape_text (c : Ctx) (l : Loc) (e : Elem) (kids : List Node) (hf : l.focus = .elem e kids)
    (s : Str) (hs : s ≠ []) :
    ∃ b, matchText c (35 :: escape s) l = .ok b ∧
      (b = true ↔ e.isDoc = false ∧ TagCond c e none ∧ idOf c e = some (nulToFFFD s)) := by
  have h := escape_id_text c l e kids hf none [] [] s hs [] [] (by decide) (by decide)
    (by intro t ht; cases ht) (by simp [itemsOK]) (by simp [itemsOK]) (by simp)
    (by simp [tagText, renderItems]) (by simp [simplesOf])
  simpa [tagText, renderItems, simplesOf] using h

/-- **`'.' + escape(s)`** on one element: … and it carries the class `nulToFFFD s`. -/
theorem dot_escape_text (c : Ctx) (l : Loc) (e : Elem) (kids : List Node) (hf : l.focus = .elem e kids)
    (s : Str) (hs : s ≠ []) :
    ∃ b, matchText c (46 :: escape s) l = .ok b ∧
      (b = true ↔ e.isDoc = false ∧ TagCond c e none ∧ hasClass c e (nulToFFFD s) = true) := by
  have h := escape_class_text c l e kids hf none [] [] s hs [] [] (by decide) (by decide)
    (by intro t ht; cases ht) (by simp [itemsOK]) (by simp [itemsOK]) (by simp)
    (by simp [tagText, renderItems]) (by simp [simplesOf])
  simpa [tagText, renderItems, simplesOf] using h

/-- **`'[' + a + '=' + escape(s) + ']'`** on one element (`a` an attribute name in any admissible spelling):
    … and SOME attribute the name designates (`C12Parse.designates` with the empty prefix: the whole key, under
    the case rule of the document kind) HAS THE VALUE `nulToFFFD s` — compared ASCII case-insensitively exactly
    when CSS says so for that attribute (`caseInsensitive`: the `type` attribute of a non-XML document).
    A case-insensitive comparison (`Css.caseInsensitive c (valueOf a) .none`) needs an ASCII-folding matcher environment
    (`hfold`). -/
theorem attr_eq_escape_text (c : Ctx) (l : Loc) (e : Elem) (kids : List Node) (hf : l.focus = .elem e kids)
    (a : Forms) (s : Str) (hs : s ≠ []) (ha : identOK a (61 :: (escape s ++ [93])))
    (h0 : ∀ x ∈ renderIdentWith a, x ≠ 0)
    (hfold : Css.caseInsensitive c (valueOf a) .none = true → c.env.fold = lowerCp) :
    ∃ b, matchText c (91 :: (renderIdentWith a ++ 61 :: (escape s ++ [93]))) l = .ok b ∧
      (b = true ↔ e.isDoc = false ∧ TagCond c e none ∧
        ∃ x ∈ e.attrs, designates c [] (valueOf a) x = true ∧
          foldCase (Css.caseInsensitive c (valueOf a) .none) (nvalJoin (normalizeValue x.val)) =
            foldCase (Css.caseInsensitive c (valueOf a) .none) (nulToFFFD s)) := by
  have hr : (escAttr [] a [] none [] s none []).render = 91 :: (renderIdentWith a ++ 61 :: (escape s ++ [93])) := by
    rw [escAttr_render]; simp [opText, flagText]
  have h := escape_attr_text c l e kids hf none [] [] [] a [] none [] s none [] [] [] (by decide) (by decide)
    (by intro t ht; cases ht) (by simp [itemsOK])
    (by
      rw [escAttr_ok_iff _ _ _ _ _ _ _ _ hs]
      refine ⟨by decide, by decide, ?_, by decide, by decide, by simp, guard_noflag [] _ (by decide), by simp⟩
      simpa [escAttr, SAttr.afterName, SValue.render, escForms_render, opText, flagText, renderItems] using ha)
    (by simp [itemsOK]) (by simp)
    (by rw [hr]; simpa only [tagText, renderItems, List.nil_append, List.append_nil] using noNul_attr_eq h0 s)
    (by
      intro ns nm t hm hci
      rw [escAttr_test] at hm
      simp only [simplesOf, List.filterMap_nil, List.nil_append, List.mem_singleton, Simple.attr.injEq,
        Option.some.injEq] at hm
      obtain ⟨_, rfl, rfl⟩ := hm
      exact hfold hci)
  obtain ⟨b, h1, h2⟩ := h
  refine ⟨b, by simpa [tagText, renderItems, opText, flagText] using h1, h2.trans ?_⟩
  simp [simplesOf, AttrHolds, opOf, opText, flagOf, Passes, Css.valTest]

/-- Without a default namespace in the caller's map the condition on the type is void. -/
theorem tagCond_none_of_no_default (c : Ctx) (e : Elem) (h : c.nsGet [] = none) : TagCond c e none :=
  Or.inl h

section Select
open C01Parse (selectText Spellable spList spComplex spCompound spParts spSimple identOkB Spells listV)

theorem identOkB_nulToFFFD {s : Str} (hs : s ≠ []) : identOkB (nulToFFFD s) = true :=
  (C01Parse.identOkB_iff _).2 ⟨nulToFFFD_ne_nil hs, nulToFFFD_noNul s⟩

/-- A selector list of `C09Compile`'s grammar that is one compound made of one simple selector. -/
def oneItem (it : C09Compile.SItem) : C09Compile.SSelList := .mk (.mk none [it]) []

theorem oneItem_render (it : C09Compile.SItem) : [] ++ (oneItem it).render ++ [] = it.render := by
  simp [oneItem, C09Compile.SSelList.render, C09Compile.SCompound.render, C09Compile.renderItems,
    C09Compile.renderRest]

theorem oneItem_ok (it : C09Compile.SItem) (h : it.ok []) : (oneItem it).ok [] := by
  simp only [oneItem, C09Compile.SSelList.ok, C09Compile.SCompound.ok, C09Compile.itemsOK,
    C09Compile.renderItems, C09Compile.renderRest, C09Compile.restOK, List.append_nil, and_true, true_and]
  exact ⟨h, Or.inr (by simp)⟩

theorem select_oneItem (E : Env) (isXml : Bool) (ns : List (Str × Str)) (sm : Css.Simple)
    (it : C09Compile.SItem) (hsp : spSimple sm = true) (hval : it.value = C01Parse.simpleV sm)
    (hok : it.ok []) (h0 : ∀ x ∈ it.render, x ≠ 0) (tag : Loc)
    (hfold : (Css.Complex.one (.mk none [sm])).caseSensitiveIn (mkCtx E isXml ns tag) = true ∨
      E.env.fold = lowerCp)
    (hroot : (Css.Complex.one (.mk none [sm])).noRoot = true) (limit : Int) (hlim : limit < 1) :
    selectText E isXml ns it.render tag limit =
      .ok (Css.selectSpec (mkCtx E isXml ns tag) [.one (.mk none [sm])] tag) := by
  have h := C01Parse.select_text_exact E isXml ns [.one (.mk none [sm])]
    ⟨by simp, by simp [spList, spComplex, spCompound, spParts, hsp]⟩ tag
    (hfold.imp (fun h x hx => by rw [List.mem_singleton.1 hx]; exact h) id)
    (Or.inl fun x hx => by rw [List.mem_singleton.1 hx]; exact hroot) limit hlim [] [] (oneItem it)
    (by simp [Spells, oneItem, C09Compile.SSelList.value, C09Compile.SCompound.value, C09Compile.itemsValue,
      C09Compile.restValue, hval, listV, C01Parse.complexFirst, C01Parse.complexRest, C01Parse.selsV,
      C01Parse.compoundV, C01Parse.partsV])
    (by decide) (by decide) (oneItem_ok _ hok) (by rw [oneItem_render]; exact h0)
  rwa [oneItem_render] at h

/-- **`select('#' + escape(s))`** below `tag`, no limit: the parser model accepts the text and the matcher model
    returns, in document order, exactly the descendant elements that the CSS reading `Css.sat` designates for
    the selector `#v`, `v = nulToFFFD s` — the elements (not the document object; in the default namespace if
    the map has one) whose `id` is `v`. -/
theorem select_hash_escape (E : Env) (isXml : Bool) (ns : List (Str × Str)) (s : Str) (hs : s ≠ []) (tag : Loc)
    (limit : Int) (hlim : limit < 1) :
    selectText E isXml ns (35 :: escape s) tag limit =
      .ok (Css.selectSpec (mkCtx E isXml ns tag) [.one (.mk none [.id (nulToFFFD s)])] tag) := by
  have h := select_oneItem E isXml ns (.id (nulToFFFD s)) (.id (escForms s))
    (by simp [spSimple, identOkB_nulToFFFD hs]) (by simp [C09Compile.SItem.value, escForms_value, C01Parse.simpleV])
    (by rw [C09Compile.SItem.ok]; exact escForms_ok s hs _)
    (by rw [C09Compile.SItem.render, escForms_render]; exact noNul_cons_escape 35 (by decide) s)
    tag (Or.inl rfl) rfl limit hlim
  rwa [C09Compile.SItem.render, escForms_render] at h

/-- **`select('.' + escape(s))`**: exactly the elements designated by `.v`, `v = nulToFFFD s`. -/
theorem select_dot_escape (E : Env) (isXml : Bool) (ns : List (Str × Str)) (s : Str) (hs : s ≠ []) (tag : Loc)
    (limit : Int) (hlim : limit < 1) :
    selectText E isXml ns (46 :: escape s) tag limit =
      .ok (Css.selectSpec (mkCtx E isXml ns tag) [.one (.mk none [.cls (nulToFFFD s)])] tag) := by
  have h := select_oneItem E isXml ns (.cls (nulToFFFD s)) (.cls (escForms s))
    (by simp [spSimple, identOkB_nulToFFFD hs]) (by simp [C09Compile.SItem.value, escForms_value, C01Parse.simpleV])
    (by rw [C09Compile.SItem.ok]; exact escForms_ok s hs _)
    (by rw [C09Compile.SItem.render, escForms_render]; exact noNul_cons_escape 46 (by decide) s)
    tag (Or.inl rfl) rfl limit hlim
  rwa [C09Compile.SItem.render, escForms_render] at h

/-- **`select('[' + a + '=' + escape(s) + ']')`**, `a` a non-empty NUL-free attribute name written as `escape`
    writes it (in particular: any plain name): exactly the elements designated by `[a="v"]`, `v = nulToFFFD s`.
    (`hfold`: the comparison is case-sensitive, or the matcher environment folds ASCII.) -/
theorem select_attr_eq_escape (E : Env) (isXml : Bool) (ns : List (Str × Str)) (a s : Str) (hs : s ≠ [])
    (ha : identOkB a = true) (tag : Loc)
    (hfold : Css.caseInsensitive (mkCtx E isXml ns tag) a .none = false ∨ E.env.fold = lowerCp)
    (limit : Int) (hlim : limit < 1) :
    selectText E isXml ns (91 :: (escape a ++ 61 :: (escape s ++ [93]))) tag limit =
      .ok (Css.selectSpec (mkCtx E isXml ns tag)
        [.one (.mk none [.attr [] a (some ⟨.eq, nulToFFFD s, .none⟩)])] tag) := by
  have ha' := (C01Parse.identOkB_iff a).1 ha
  have hra : renderIdentWith (C01Parse.identForms a) = escape a := C01Parse.identForms_render a ha'.2
  have hr : (C09Compile.SItem.attr (escAttr [] (C01Parse.identForms a) [] none [] s none [])).render =
      91 :: (escape a ++ 61 :: (escape s ++ [93])) := by
    rw [C09Compile.SItem.render, escAttr_render, hra]; simp [opText, flagText]
  have h := select_oneItem E isXml ns (.attr [] a (some ⟨.eq, nulToFFFD s, .none⟩))
    (.attr (escAttr [] (C01Parse.identForms a) [] none [] s none []))
    (by simp [spSimple, ha]; intro x hx; exact nulToFFFD_noNul s x hx)
    (by simp [C09Compile.SItem.value, escAttr, SAttr.value, SValue.value, escForms_value,
      C01Parse.identForms_value, opText, C01Parse.simpleV, Css.AttrOp.text, C01Parse.flagV])
    (by
      rw [C09Compile.SItem.ok, escAttr_ok_iff _ _ _ _ _ _ _ _ hs]
      exact ⟨by decide, by decide, C01Parse.identForms_ok a ha'.1 ha'.2 _, by decide, by decide, by simp,
        guard_noflag [] _ (by decide), by simp⟩)
    (by rw [hr]; exact noNul_attr_eq (C10.escape_chars_ok a) s)
    tag
    (hfold.imp (fun h => by
      simp [Css.Complex.caseSensitiveIn, Css.Complex.all, Css.Compound.all, Css.allParts, Css.Simple.all,
        Css.Simple.caseSensitiveIn, h]) id)
    rfl limit hlim
  rwa [hr] at h

end Select

/-- A selector list of the full grammar of `C09Compile2` with ONE top-level compound singled out: it is the
    first one (followed by `rest`), or it stands behind the compound `c₀`, the pairs `before` and the
    combinator `cb`, followed by `after`. -/
inductive ListCtx where
  | first (rest : List (SComb × SCompound))
  | later (c₀ : SCompound) (before : List (SComb × SCompound)) (cb : SComb) (after : List (SComb × SCompound))

def ListCtx.fill : ListCtx → SCompound → SSelList
  | .first rest, c => .mk c rest
  | .later c₀ before cb after, c => .mk c₀ (before ++ (cb, c) :: after)

/-- The same on the values. -/
def ListCtx.fillV : ListCtx → Compound → SelListV
  | .first rest, c => .mk c (restValue rest)
  | .later c₀ before cb after, c => .mk c₀.value (restValue before ++ (cb.value, c) :: restValue after)

/-- The text in front of the singled-out compound … -/
def ListCtx.left : ListCtx → Str
  | .first _ => []
  | .later c₀ before cb _ => c₀.render ++ (renderRest before ++ cb.render)

/-- … and behind it. -/
def ListCtx.right : ListCtx → Str
  | .first rest => renderRest rest
  | .later _ _ _ after => renderRest after

theorem ListCtx.fill_render (K : ListCtx) (c : SCompound) :
    (K.fill c).render = K.left ++ (c.render ++ K.right) := by
  cases K with
  | first rest => simp [ListCtx.fill, ListCtx.left, ListCtx.right, SSelList.render]
  | later c₀ before cb after =>
    simp [ListCtx.fill, ListCtx.left, ListCtx.right, SSelList.render, renderRest_append, renderRest]

theorem ListCtx.fill_value (K : ListCtx) (c : SCompound) : (K.fill c).value = K.fillV c.value := by
  cases K with
  | first rest => simp [ListCtx.fill, ListCtx.fillV, SSelList.value]
  | later c₀ before cb after =>
    simp [ListCtx.fill, ListCtx.fillV, SSelList.value, restValue_append, restValue]

/-- **General form, any item.**  A selector list of the full grammar (`C09Compile2`: combinators, commas,
    pseudo-classes, namespaces, … around) in which the item `it` stands in the compound `tag? pre… it post…`
    singled out by `K`: the text reads `… it.render …`, the compiled structure is `denote` of the values with
    `it.value` in that slot. -/
theorem compile_item_general (B : Builtins) (g₁ g₂ : Str) (K : ListCtx) (tag : Option STagN)
    (pre post : List SItem) (it : SItem) (hg₁ : isGap g₁) (hg₂ : isGap g₂)
    (hok : (K.fill (.mk tag (pre ++ it :: post))).ok 0 g₂)
    (htbl : (K.fill (.mk tag (pre ++ it :: post))).tbl [])
    (h0 : ∀ x ∈ g₁ ++ (K.left ++ ((tagText tag ++ (renderItems pre ++ (it.render ++ renderItems post))) ++
      K.right)) ++ g₂, x ≠ 0) :
    Parser.compile pyFoldEnv Gen.lexicon B
        (g₁ ++ (K.left ++ ((tagText tag ++ (renderItems pre ++ (it.render ++ renderItems post))) ++ K.right)) ++ g₂)
        [] 0 =
      .ok (denote B (K.fillV (.mk (tag.map STagN.value) (itemsValue pre ++ it.value :: itemsValue post)))) := by
  have hr : (K.fill (.mk tag (pre ++ it :: post))).render =
      K.left ++ ((tagText tag ++ (renderItems pre ++ (it.render ++ renderItems post))) ++ K.right) := by
    rw [ListCtx.fill_render, compound_render, renderItems_append, renderItems_cons]
  have hv : (K.fill (.mk tag (pre ++ it :: post))).value =
      K.fillV (.mk (tag.map STagN.value) (itemsValue pre ++ it.value :: itemsValue post)) := by
    rw [ListCtx.fill_value, SCompound.value, itemsValue_append, itemsValue]
  have h := C09Compile2.compile_eq_denote2_plain B g₁ g₂ _ hg₁ hg₂ hok htbl (by rw [hr]; exact h0)
  rwa [hr, hv] at h

/-- **`… #<escape s> …` anywhere at the top level of a selector list**: the compiled structure is `denote` of
    the values with the id `nulToFFFD s` in that slot. -/
theorem compile_escape_id_general (B : Builtins) (g₁ g₂ : Str) (K : ListCtx) (tag : Option STagN)
    (pre post : List SItem) (s : Str) (hg₁ : isGap g₁) (hg₂ : isGap g₂)
    (hok : (K.fill (.mk tag (pre ++ .id (escForms s) :: post))).ok 0 g₂)
    (htbl : (K.fill (.mk tag (pre ++ .id (escForms s) :: post))).tbl [])
    (h0 : ∀ x ∈ g₁ ++ (K.left ++ ((tagText tag ++ (renderItems pre ++ ((35 :: escape s) ++ renderItems post))) ++
      K.right)) ++ g₂, x ≠ 0) :
    Parser.compile pyFoldEnv Gen.lexicon B
        (g₁ ++ (K.left ++ ((tagText tag ++ (renderItems pre ++ ((35 :: escape s) ++ renderItems post))) ++ K.right))
          ++ g₂) [] 0 =
      .ok (denote B (K.fillV (.mk (tag.map STagN.value)
        (itemsValue pre ++ .id (nulToFFFD s) :: itemsValue post)))) := by
  have h := compile_item_general B g₁ g₂ K tag pre post (.id (escForms s)) hg₁ hg₂ hok htbl
    (by rw [render_id_escForms]; exact h0)
  rwa [render_id_escForms, value_id_escForms] at h

/-- **`… .<escape s> …`** likewise: the class `nulToFFFD s` in that slot. -/
theorem compile_escape_class_general (B : Builtins) (g₁ g₂ : Str) (K : ListCtx) (tag : Option STagN)
    (pre post : List SItem) (s : Str) (hg₁ : isGap g₁) (hg₂ : isGap g₂)
    (hok : (K.fill (.mk tag (pre ++ .cls (escForms s) :: post))).ok 0 g₂)
    (htbl : (K.fill (.mk tag (pre ++ .cls (escForms s) :: post))).tbl [])
    (h0 : ∀ x ∈ g₁ ++ (K.left ++ ((tagText tag ++ (renderItems pre ++ ((46 :: escape s) ++ renderItems post))) ++
      K.right)) ++ g₂, x ≠ 0) :
    Parser.compile pyFoldEnv Gen.lexicon B
        (g₁ ++ (K.left ++ ((tagText tag ++ (renderItems pre ++ ((46 :: escape s) ++ renderItems post))) ++ K.right))
          ++ g₂) [] 0 =
      .ok (denote B (K.fillV (.mk (tag.map STagN.value)
        (itemsValue pre ++ .cls (nulToFFFD s) :: itemsValue post)))) := by
  have h := compile_item_general B g₁ g₂ K tag pre post (.cls (escForms s)) hg₁ hg₂ hok htbl
    (by rw [render_cls_escForms]; exact h0)
  rwa [render_cls_escForms, value_cls_escForms] at h

/-- **`… [ name op= <escape s> flag ] …`** likewise: the attribute selector with the value `nulToFFFD s`
    (operator text, lower-cased flag) in that slot. -/
theorem compile_escape_value_general (B : Builtins) (g₁ g₂ : Str) (K : ListCtx) (tag : Option STagN)
    (pre post : List SItem) (g0 : Str) (name : Forms) (g1 : Str) (op : Option Nat) (g2 s : Str)
    (flag : Option (Str × Nat)) (g4 : Str) (hg₁ : isGap g₁) (hg₂ : isGap g₂)
    (hok : (K.fill (.mk tag (pre ++ .attr (escAttr g0 name g1 op g2 s flag g4) :: post))).ok 0 g₂)
    (htbl : (K.fill (.mk tag (pre ++ .attr (escAttr g0 name g1 op g2 s flag g4) :: post))).tbl [])
    (h0 : ∀ x ∈ g₁ ++ (K.left ++ ((tagText tag ++ (renderItems pre ++
      ((91 :: (g0 ++ (renderIdentWith name ++ (g1 ++ (opText op ++ (g2 ++ (escape s ++
        (flagText flag ++ (g4 ++ [93]))))))))) ++ renderItems post))) ++ K.right)) ++ g₂, x ≠ 0) :
    Parser.compile pyFoldEnv Gen.lexicon B
        (g₁ ++ (K.left ++ ((tagText tag ++ (renderItems pre ++
          ((91 :: (g0 ++ (renderIdentWith name ++ (g1 ++ (opText op ++ (g2 ++ (escape s ++
            (flagText flag ++ (g4 ++ [93]))))))))) ++ renderItems post))) ++ K.right)) ++ g₂) [] 0 =
      .ok (denote B (K.fillV (.mk (tag.map STagN.value)
        (itemsValue pre ++
          .attr [] ⟨valueOf name, some (opText op, nulToFFFD s, flag.map fun x => lowerCp x.2)⟩ ::
          itemsValue post)))) := by
  have hrend : (SItem.attr (escAttr g0 name g1 op g2 s flag g4)).render =
      91 :: (g0 ++ (renderIdentWith name ++ (g1 ++ (opText op ++ (g2 ++ (escape s ++
        (flagText flag ++ (g4 ++ [93])))))))) := by rw [SItem.render, escAttr_render]
  have hval : (SItem.attr (escAttr g0 name g1 op g2 s flag g4)).value =
      .attr [] ⟨valueOf name, some (opText op, nulToFFFD s, flag.map fun x => lowerCp x.2)⟩ := by
    simp only [SItem.value, escAttr, SAttr.value, Option.map_some, SValue.value, escForms_value]
  have h := compile_item_general B g₁ g₂ K tag pre post (.attr (escAttr g0 name g1 op g2 s flag g4)) hg₁ hg₂
    hok htbl (by rw [hrend]; exact h0)
  rwa [hrend, hval] at h

/-! ## The excluded point: `escape('') == ''` is not an identifier -/

/-- Kind, pattern and offset of the error, if any. -/
def errInfo : M SelList → Option (ErrKind × Str × Nat)
  | .ok _ => none
  | .error e => some (e.kind, e.pattern, e.offset)

theorem eq_error_of_errInfo {x : M SelList} {k : ErrKind} {p : Str} {o : Nat}
    (h : errInfo x = some (k, p, o)) : x = .error ⟨k, p, o⟩ := by
  cases x with
  | ok _ => simp [errInfo] at h
  | error e =>
    obtain ⟨a, b, d⟩ := e
    simp only [errInfo, Option.some.injEq, Prod.mk.injEq] at h
    obtain ⟨rfl, rfl, rfl⟩ := h
    rfl

/-- **The recorded finding `escape('')`.**  `escape "" = ""`, so `'#' + escape('')` is `#`, `'.' + escape('')`
    is `.`, `'[a=' + escape('') + ']'` is `[a=]` — and the parser model rejects all three with the
    `SelectorSyntaxError`s "Malformed id / class / attribute selector at position 0" (confirmed on the real
    library).  So `s ≠ ""` cannot be dropped from the theorems above: `escape` does not map the empty string to
    an identifier (CSSOM's `CSS.escape('')` returns `''` as well; there is no identifier spelling the empty
    string). -/
theorem escape_empty_not_ident :
    escape [] = [] ∧
    Parser.compile pyFoldEnv Gen.lexicon Gen.builtinsRec (35 :: escape []) [] 0 =
      .error ⟨.malformedId, [35], 0⟩ ∧
    Parser.compile pyFoldEnv Gen.lexicon Gen.builtinsRec (46 :: escape []) [] 0 =
      .error ⟨.malformedClass, [46], 0⟩ ∧
    Parser.compile pyFoldEnv Gen.lexicon Gen.builtinsRec (91 :: 97 :: 61 :: (escape [] ++ [93])) [] 0 =
      .error ⟨.malformedAttribute, [91, 97, 61, 93], 0⟩ :=
  ⟨by decide, eq_error_of_errInfo (by decide +kernel), eq_error_of_errInfo (by decide +kernel),
    eq_error_of_errInfo (by decide +kernel)⟩

/-- … hence `matchText` on `#` raises instead of answering (`selectText` likewise: the `#guard` in `Examples`). -/
theorem matchText_hash_empty (c : Ctx) (l : Loc) :
    matchText c (35 :: escape []) l = .error ⟨.malformedId, [35], 0⟩ := by
  rw [matchText, escape_empty_not_ident.2.1]

/-! ## What the right-hand sides of the `select` theorems say, element by element -/

/-- Membership in `selectSpec` for a one-compound, one-item selector: a descendant element of `tag`, not the
    document object, in the default namespace if the map has one (the implied `*`), satisfying the item. -/
theorem mem_selectSpec_one (c : Ctx) (tag l : Loc) (sm : Simple) :
    l ∈ Css.selectSpec c [.one (.mk none [sm])] tag ↔
      l ∈ Css.descendantElems tag ∧ l.isDoc = false ∧
        ∃ e kids, l.focus = .elem e kids ∧ TagCond c e none ∧ satSimple c l e sm = true := by
  have hT : ∀ e, Css.satType c e (some ⟨.default, none⟩) = true ↔ TagCond c e none := fun e =>
    C12Parse.matchTag_implTag_iff c e none
  simp only [Css.selectSpec, List.mem_filter, List.any_cons, List.any_nil, Bool.or_false, Css.satTop,
    Css.Complex.withImplied, Css.Compound.withImplied, Css.sat, Css.satCompound, Css.satParts, Bool.and_true,
    Bool.and_eq_true, Bool.not_eq_true']
  refine and_congr_right fun _ => and_congr_right fun _ => ?_
  cases hfoc : l.focus with
  | elem e kids =>
    simp only [Bool.and_eq_true, hT]
    exact ⟨fun h => ⟨e, kids, rfl, h⟩, fun ⟨e', k', he, h⟩ => by cases he; exact h⟩
  | str k s => simp

/-- **`select('#' + escape(s))`, membership form**: the result contains exactly the descendant elements of `tag`
    (not the document object; in the default namespace if the caller's map has one) WHOSE ID IS `nulToFFFD s`. -/
theorem mem_select_hash_escape (E : Env) (isXml : Bool) (ns : List (Str × Str)) (s : Str) (hs : s ≠ []) (tag : Loc)
    (limit : Int) (hlim : limit < 1) :
    ∃ r, C01Parse.selectText E isXml ns (35 :: escape s) tag limit = .ok r ∧
      ∀ l, l ∈ r ↔ l ∈ Css.descendantElems tag ∧ l.isDoc = false ∧
        ∃ e kids, l.focus = .elem e kids ∧ TagCond (mkCtx E isXml ns tag) e none ∧
          idOf (mkCtx E isXml ns tag) e = some (nulToFFFD s) := by
  refine ⟨_, select_hash_escape E isXml ns s hs tag limit hlim, fun l => ?_⟩
  rw [mem_selectSpec_one]
  simp only [satSimple, beq_iff_eq]

/-- **`select('.' + escape(s))`, membership form**: … THAT CARRY THE CLASS `nulToFFFD s`. -/
theorem mem_select_dot_escape (E : Env) (isXml : Bool) (ns : List (Str × Str)) (s : Str) (hs : s ≠ []) (tag : Loc)
    (limit : Int) (hlim : limit < 1) :
    ∃ r, C01Parse.selectText E isXml ns (46 :: escape s) tag limit = .ok r ∧
      ∀ l, l ∈ r ↔ l ∈ Css.descendantElems tag ∧ l.isDoc = false ∧
        ∃ e kids, l.focus = .elem e kids ∧ TagCond (mkCtx E isXml ns tag) e none ∧
          hasClass (mkCtx E isXml ns tag) e (nulToFFFD s) = true := by
  refine ⟨_, select_dot_escape E isXml ns s hs tag limit hlim, fun l => ?_⟩
  rw [mem_selectSpec_one]
  simp only [satSimple]

/-- **`select('[' + a + '=' + escape(s) + ']')`, membership form**: … ONE OF WHOSE ATTRIBUTES designated by `a`
    HAS THE VALUE `nulToFFFD s` (under the case rule CSS prescribes for `a`). -/
theorem mem_select_attr_eq_escape (E : Env) (isXml : Bool) (ns : List (Str × Str)) (a s : Str) (hs : s ≠ [])
    (ha : C01Parse.identOkB a = true) (tag : Loc)
    (hfold : Css.caseInsensitive (mkCtx E isXml ns tag) a .none = false ∨ E.env.fold = lowerCp)
    (limit : Int) (hlim : limit < 1) :
    ∃ r, C01Parse.selectText E isXml ns (91 :: (escape a ++ 61 :: (escape s ++ [93]))) tag limit = .ok r ∧
      ∀ l, l ∈ r ↔ l ∈ Css.descendantElems tag ∧ l.isDoc = false ∧
        ∃ e kids, l.focus = .elem e kids ∧ TagCond (mkCtx E isXml ns tag) e none ∧
          ∃ x ∈ e.attrs, designates (mkCtx E isXml ns tag) [] a x = true ∧
            foldCase (Css.caseInsensitive (mkCtx E isXml ns tag) a .none) (nvalJoin (normalizeValue x.val)) =
              foldCase (Css.caseInsensitive (mkCtx E isXml ns tag) a .none) (nulToFFFD s) := by
  refine ⟨_, select_attr_eq_escape E isXml ns a s hs ha tag hfold limit hlim, fun l => ?_⟩
  rw [mem_selectSpec_one]
  simp [satSimple, C12Parse.satAttr_iff, AttrHolds, Passes, Css.valTest]

/-! ## Non-vacuity: a small tree, and `s` with NUL, a leading digit, a lone `-`, a control character, non-ASCII
  code points, a space (all confirmed on the real library with the same tree built through bs4) -/

namespace Examples
open C12Parse (ok_true_of ok_false_of)

def E0 : Env := ⟨asciiEnv, fun _ => 0, id⟩

def sNul : Str := [0, 97]                 -- "\x00a"
def sDigit : Str := "1a".toStr
def sDash : Str := "-".toStr
def sCtl : Str := [1, 98]                 -- "\x01b"
def sUni : Str := [233, 0x1F600]          -- "é😀"
def sSpace : Str := "a b".toStr

def sattr (k : String) (v : Str) : Attr := ⟨k.toStr, none, none, .str v⟩

/-- `<p id=v class="x" + v title=v>` (the class attribute as the list the tree builder makes). -/
def el (v : Str) : Elem :=
  ⟨false, "p".toStr, none, none,
    [sattr "id" v, ⟨"class".toStr, none, none, .seq [.str "x".toStr, .str v] []⟩, sattr "title" v]⟩

def docE : Elem := ⟨true, "[document]".toStr, none, none, []⟩

/-- Seven `p` elements whose id / class / title are: U+FFFD `a`, `1a`, `-`, U+0001 `b`, `é😀`, `other`, `a b`. -/
def tree : Node :=
  .elem docE [.elem (el [0xFFFD, 97]) [], .elem (el sDigit) [], .elem (el sDash) [], .elem (el sCtl) [],
    .elem (el sUni) [], .elem (el "other".toStr) [], .elem (el sSpace) []]

def top : Loc := ⟨tree, []⟩
def ctx : Ctx := mkCtx E0 false [] top
def child (i : Nat) : Loc := (top.children.drop i).headD top

-- what `escape` writes, and the forms
example : escape sNul = [0xFFFD, 97] ∧ escape sDigit = "\\31 a".toStr ∧ escape sDash = "\\-".toStr ∧
    escape sCtl = "\\1 b".toStr ∧ escape sUni = sUni ∧ escape sSpace = "a\\ b".toStr := by
  unfold sDigit sDash sSpace; decide_lit
example : escForms sNul = [(0xFFFD, .lit), (97, .lit)] ∧
    escForms sDigit = [(49, .hex 2 [] (some .space)), (97, .lit)] ∧ escForms sDash = [(45, .bs)] ∧
    escForms sCtl = [(1, .hex 1 [] (some .space)), (98, .lit)] ∧ escForms sSpace = [(97, .lit), (32, .bs), (98, .lit)] := by
  decide +kernel
-- admissible even directly in front of a hex digit / an identifier character (the terminator is part of the escape)
example : identOK (escForms [49]) "a".toStr := escForms_ok _ (by decide) _
example : ¬ identOK (escForms []) [] := by rw [escForms_ok_iff]; simp

/-- `#<U+FFFD>a` (from `s = "\x00a"`): instance of `hash_escape_text` on the first element … -/
example : matchText ctx (35 :: escape sNul) (child 0) = .ok true :=
  ok_true_of (hash_escape_text ctx (child 0) (el [0xFFFD, 97]) [] rfl sNul (by decide))
    ⟨rfl, Or.inl (by decide), by decide⟩

/-- … and on the second one, whose id is `1a`. -/
example : matchText ctx (35 :: escape sNul) (child 1) = .ok false :=
  ok_false_of (hash_escape_text ctx (child 1) (el sDigit) [] rfl sNul (by decide))
    (by rintro ⟨_, _, h⟩; revert h; decide)

/-- `#\31 a` -/
example : matchText ctx "#\\31 a".toStr (child 1) = .ok true := by
  have h := ok_true_of (hash_escape_text ctx (child 1) (el sDigit) [] rfl sDigit (by decide))
    ⟨rfl, Or.inl (by decide), by decide⟩
  rwa [show 35 :: escape sDigit = "#\\31 a".toStr from by unfold sDigit; decide_lit] at h

/-- `.\-` -/
example : matchText ctx ".\\-".toStr (child 2) = .ok true := by
  have h := ok_true_of (dot_escape_text ctx (child 2) (el sDash) [] rfl sDash (by decide))
    ⟨rfl, Or.inl (by decide), by decide⟩
  rwa [show 46 :: escape sDash = ".\\-".toStr from by unfold sDash; decide_lit] at h

/-- `[title=\1 b]` -/
example : matchText ctx "[title=\\1 b]".toStr (child 3) = .ok true := by
  have h := ok_true_of (attr_eq_escape_text ctx (child 3) (el sCtl) [] rfl (C12Parse.Examples.lits "title") sCtl
    (by decide) (by simp only [identOK]; decide) (by decide) (fun _ => rfl))
    ⟨rfl, Or.inl (by decide), sattr "title" sCtl, by simp [el], by decide, by decide⟩
  rwa [show 91 :: (renderIdentWith (C12Parse.Examples.lits "title") ++ 61 :: (escape sCtl ++ [93])) =
    "[title=\\1 b]".toStr from by decide_lit] at h

/-- `p.x#é😀[title]`: instance of `escape_id_text` with a type selector, an item in front and one behind. -/
example : matchText ctx ([112, 46, 120, 35] ++ sUni ++ "[title]".toStr) (child 4) = .ok true := by
  have h := ok_true_of (escape_id_text ctx (child 4) (el sUni) [] rfl (some ⟨none, .name (C12Parse.Examples.lits "p")⟩)
    [.cls (C12Parse.Examples.lits "x")] [.attr ⟨[], C12Parse.Examples.lits "title", none, []⟩] sUni (by decide) [] []
    (by decide) (by decide)
    (by intro t ht; cases ht; simp only [STagN.ok, STag.ok, identOK]; decide)
    (by simp only [itemsOK, SItem.ok, identOK]; decide)
    (by simp only [itemsOK, SItem.ok, SAttr.ok, identOK]; decide)
    (by intro x hx; simp at hx; rcases hx with rfl | rfl <;> rfl)
    (by decide) (by intro ns name t hm; simp [simplesOf, simpleOf, testOf, SAttr.value] at hm))
    ⟨rfl, ⟨Or.inl (by decide), Or.inr (by unfold C12.NameEq; decide)⟩,
      by intro x hx; simp [simplesOf, simpleOf] at hx; subst hx; decide,
      by decide,
      by intro x hx; simp [simplesOf, simpleOf, testOf, SAttr.value] at hx; subst hx; decide⟩
  rwa [show [] ++ (tagText (some ⟨none, .name (C12Parse.Examples.lits "p")⟩) ++
      (renderItems [.cls (C12Parse.Examples.lits "x")] ++ ((35 :: escape sUni) ++
        renderItems [.attr ⟨[], C12Parse.Examples.lits "title", none, []⟩]))) ++ [] =
    [112, 46, 120, 35] ++ sUni ++ "[title]".toStr from by decide_lit] at h

def posOf (x : Except Parser.Err (List Loc)) : Option (List (List Nat)) :=
  match x with
  | .ok r => some (r.map Loc.pos)
  | .error _ => none

/-- `select('#a\ b')`: instance of `select_hash_escape`; the right-hand side evaluates to the seventh element. -/
example : C01Parse.selectText E0 false [] "#a\\ b".toStr top 0 =
    .ok (Css.selectSpec ctx [.one (.mk none [.id sSpace])] top) :=
  select_hash_escape E0 false [] sSpace (by decide) top 0 (by decide)
example : (Css.selectSpec ctx [.one (.mk none [.id sSpace])] top).map Loc.pos = [[6]] := by decide +kernel

-- the model evaluated directly on the texts `'#' + escape(s)`, `'.' + escape(s)`, `'[title=' + escape(s) + ']'`
-- (real library, same tree: [0], [1], [2], [3], [4], [6] for each of the three forms)
#guard posOf (C01Parse.selectText E0 false [] (35 :: escape sNul) top 0) == some [[0]]
#guard posOf (C01Parse.selectText E0 false [] (46 :: escape sDigit) top 0) == some [[1]]
#guard posOf (C01Parse.selectText E0 false [] ("[title=".toStr ++ escape sDash ++ "]".toStr) top 0) == some [[2]]
#guard posOf (C01Parse.selectText E0 false [] (35 :: escape sCtl) top 0) == some [[3]]
#guard posOf (C01Parse.selectText E0 false [] (46 :: escape sUni) top 0) == some [[4]]
#guard posOf (C01Parse.selectText E0 false [] (46 :: escape sSpace) top 0) == some [[6]]
#guard posOf (C01Parse.selectText E0 false [] ("[title=".toStr ++ escape sSpace ++ " i]".toStr) top 0) == some [[6]]
#guard posOf (C01Parse.selectText E0 false [] (35 :: escape "-1".toStr) top 0) == some []
#guard posOf (C01Parse.selectText E0 false [] ("p#".toStr ++ escape sDigit ++ ".x, p.x#".toStr ++ escape sCtl) top 0)
  == some [[1], [3]]
-- the excluded point
#guard posOf (C01Parse.selectText E0 false [] (35 :: escape []) top 0) == none
-- without the terminating space the next character would be read into the escape: `#\31a` is the id U+031A
#guard posOf (C01Parse.selectText E0 false [] "#\\31a".toStr top 0) == some []

end Examples

#print axioms escape_forms
#print axioms escForms_ok_iff
#print axioms compound_simple_text
#print axioms item_in_compound_text
#print axioms escAttr_ok_iff
#print axioms escape_id_text
#print axioms escape_class_text
#print axioms escape_attr_text
#print axioms hash_escape_text
#print axioms dot_escape_text
#print axioms attr_eq_escape_text
#print axioms select_hash_escape
#print axioms select_dot_escape
#print axioms select_attr_eq_escape
#print axioms mem_select_hash_escape
#print axioms mem_select_dot_escape
#print axioms mem_select_attr_eq_escape
#print axioms compile_item_general
#print axioms compile_escape_id_general
#print axioms compile_escape_class_general
#print axioms compile_escape_value_general
#print axioms escape_empty_not_ident
#print axioms matchText_hash_empty

end C10Parse
end SoupVerif
