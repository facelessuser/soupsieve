/-
  C01 — `CSSMatch.match_attributes`, TRANSLATED from the source (`Generated/PyAttrs.lean`, regenerated on
  every run by gen/gen_py_attrs.py: the inner `for … else` as `valueLoop`, the outer flag loop with `break` as
  `attrLoop`, the frame as `matchAttributes`) and PROVED equal, for all contexts, elements and attribute-selector
  lists, to the hand-written model `SoupVerif.matchAttributes` (Model/Match.lean) every C01 / C04 / C11 / C12
  theorem about attribute selectors is stated over.

  The corollaries restate the attribute theorems of C11 / C12 (`gen_attr_ns_empty_eq_bare`: fix 3a64a82) about
  the regenerated definition.

  The proofs only use the three generated names `valueLoop`, `attrLoop`, `matchAttributes` (fixed by the
  translator), not the numbering of locals.
-/
import SoupVerif.Generated.PyAttrs
import SoupVerif.Properties.C11
import SoupVerif.Properties.C12

namespace SoupVerif
namespace C01GenAttrs

/-- The value test of the model on one yielded value, for a chosen pattern. -/
def passes (c : Ctx) (pat : Option Rx) (v : NVal) : Bool :=
  match pat with
  | none => true
  | some r => Rx.isMatch c.env r (nvalJoin v)

theorem model_eq (c : Ctx) (e : Elem) (attrs : List AttrSel) :
    SoupVerif.matchAttributes c e attrs =
      attrs.all fun a => (matchAttributeValues c e a.attrName a.pfx).any (passes c (C12.patternOf c a)) := rfl

/-- The generated inner `for … else`: left by `break` iff some value passes. -/
theorem gen_valueLoop_eq (c : Ctx) (pat : Option Rx) (vs : List NVal) :
    Gen.PyAttrs.valueLoop c pat vs = vs.any (passes c pat) := by
  induction vs with
  | nil => rfl
  | cons v rest ih =>
    simp only [Gen.PyAttrs.valueLoop, List.any_cons, ih]
    cases pat <;> cases v <;> simp [passes, nvalJoin]

/-- The generated outer loop started with flag `true`: every attribute selector is satisfied. -/
theorem gen_attrLoop_eq (c : Ctx) (e : Elem) (attrs : List AttrSel) :
    Gen.PyAttrs.attrLoop c e attrs true = SoupVerif.matchAttributes c e attrs := by
  rw [model_eq]
  induction attrs with
  | nil => rfl
  | cons a rest ih =>
    simp only [Gen.PyAttrs.attrLoop, List.all_cons, gen_valueLoop_eq, ih]
    show (if List.any _ (passes c (C12.patternOf c a)) = true then _ else _) = _
    split <;> simp_all

/-- The regenerated `match_attributes` is the hand-written model, for all arguments. -/
theorem gen_matchAttributes_eq (c : Ctx) (e : Elem) (attrs : List AttrSel) :
    Gen.PyAttrs.matchAttributes c e attrs = SoupVerif.matchAttributes c e attrs := by
  unfold Gen.PyAttrs.matchAttributes
  cases attrs with
  | nil => rfl
  | cons a rest => simp [gen_attrLoop_eq]

theorem gen_matchAttributes_nil (c : Ctx) (e : Elem) : Gen.PyAttrs.matchAttributes c e [] = true := by
  rw [gen_matchAttributes_eq]; rfl

theorem gen_matchAttributes_append (c : Ctx) (e : Elem) (A B : List AttrSel) :
    Gen.PyAttrs.matchAttributes c e (A ++ B) =
      (Gen.PyAttrs.matchAttributes c e A && Gen.PyAttrs.matchAttributes c e B) := by
  simp only [gen_matchAttributes_eq]; exact C11.matchAttributes_append c e A B

theorem gen_attr_value_test (c : Ctx) (e : Elem) (s : AttrSel) :
    Gen.PyAttrs.matchAttributes c e [s] = (matchAttributeValues c e s.attrName s.pfx).any (C12.passes c s) := by
  rw [gen_matchAttributes_eq]; exact C12.attr_value_test c e s

theorem gen_attr_ns_empty_eq_bare (c : Ctx) (e : Elem) (a p : Str) (pat xt : Option Rx)
    (hp : p ≠ []) (hs : p ≠ "*".toStr) (hm : c.nsGet p = some []) :
    Gen.PyAttrs.matchAttributes c e [⟨a, p, pat, xt⟩] = Gen.PyAttrs.matchAttributes c e [⟨a, [], pat, xt⟩] := by
  simp only [gen_matchAttributes_eq]; exact C12.attr_ns_empty_matchAttributes_eq_bare c e a p pat xt hp hs hm

end C01GenAttrs
end SoupVerif
