/-
  C06 / C09 / C17 — the dispatch of `CSSParser.parse_pseudo_class` on the pseudo-class NAME, tied to the
  source text by translation + proof.

  `gen/gen_py_parsedisp.py` reads `parse_pseudo_class` from css_parser.py with `ast` on every run: the frame
  (`complex_pseudo`, the six `PSEUDO_*` table tests in their order, the two raises, `return has_selector, is_html`)
  is compared with a template (fail closed); the `if pseudo == ':root' … elif pseudo in (':link', ':any-link') …`
  chain of the `PSEUDO_SIMPLE` branch is emitted as
  `Gen.PyParseDisp.pseudoNames : List (List String × ParseDisp.PseudoAction)` in source order.

  Proved here: the names of the chain are exactly the regenerated `PSEUDO_SIMPLE` table, each once; for every
  string the branch the source takes is the one the hand model (`Parser.applySimplePseudo`,
  `Refine.Compile.plainPseudo`) takes; the lists and flags the branches use are the regenerated ones.
-/
import SoupVerif.Generated.PyParseDisp
import SoupVerif.Generated.Lexicon
import SoupVerif.Generated.Tables
import SoupVerif.Refine.Builders
import SoupVerif.Refine.C17StateKw
import SoupVerif.Lemmas.StrLit
namespace SoupVerif
namespace C06GenPseudo
open Rx SoupVerif.Parser SoupVerif.ParseDisp SoupVerif.Refine.Compile

/-- The chain of the source tests the model's names, in the model's order. -/
theorem pseudoKeys_eq : pseudoKeysOf Gen.PyParseDisp.pseudoNames = modelPseudoKeys := rfl

/-- As lists of code points these are the regenerated `PSEUDO_SIMPLE` in another order. -/
theorem pseudoKeys_perm : (modelPseudoKeys.map String.toStr).Perm Gen.PSEUDO_SIMPLE := by
  simp only [modelPseudoKeys, List.map_cons, List.map_nil]
  decide_lit

theorem PSEUDO_SIMPLE_nodup : Gen.PSEUDO_SIMPLE.Nodup := by decide +kernel

/-- The names of the chain are exactly the regenerated `PSEUDO_SIMPLE`. -/
theorem pseudoNames_keys (n : Str) :
    n ∈ (pseudoKeysOf Gen.PyParseDisp.pseudoNames).map String.toStr ↔ n ∈ Gen.PSEUDO_SIMPLE := by
  rw [pseudoKeys_eq]; exact pseudoKeys_perm.mem_iff

/-- … each once: no name is shadowed by an earlier branch. -/
theorem pseudoNames_nodup : ((pseudoKeysOf Gen.PyParseDisp.pseudoNames).map String.toStr).Nodup := by
  rw [pseudoKeys_eq]; exact pseudoKeys_perm.nodup_iff.mpr PSEUDO_SIMPLE_nodup

theorem pseudoActionOf_isSome_iff (table : List (List String × PseudoAction)) (name : Str) :
    (pseudoActionOf table name).isSome ↔ name ∈ (pseudoKeysOf table).map String.toStr := by
  unfold pseudoActionOf pseudoKeysOf
  rw [Option.isSome_map, List.find?_isSome]
  simp only [List.mem_map, List.mem_flatMap, List.any_eq_true, beq_iff_eq]
  constructor
  · rintro ⟨e, he, k, hk, rfl⟩
    exact ⟨k, ⟨e, he, hk⟩, rfl⟩
  · rintro ⟨k, ⟨e, he, hk⟩, rfl⟩
    exact ⟨e, he, k, hk, rfl⟩

theorem pseudoActionOf_eq_none_iff (table : List (List String × PseudoAction)) (name : Str) :
    pseudoActionOf table name = none ↔ name ∉ (pseudoKeysOf table).map String.toStr := by
  rw [← pseudoActionOf_isSome_iff]
  cases pseudoActionOf table name <;> simp

/-- Every simple pseudo-class name has a branch in the source. -/
theorem every_simple_has_branch (n : Str) (h : n ∈ Gen.PSEUDO_SIMPLE) :
    (pseudoActionOf Gen.PyParseDisp.pseudoNames n).isSome := by
  rw [pseudoActionOf_isSome_iff, pseudoNames_keys]; exact h

theorem pseudoActionOf_nil (name : Str) : pseudoActionOf [] name = none := rfl

theorem pseudoActionOf_cons (ks : List String) (a : PseudoAction) (t : List (List String × PseudoAction))
    (name : Str) :
    pseudoActionOf ((ks, a) :: t) name =
      if ks.any (fun k => name == k.toStr) then some a else pseudoActionOf t name := by
  unfold pseudoActionOf
  rw [List.find?_cons]
  split <;> simp_all

/-- For every string: the branch the source takes for the name is the one the model takes.
    Read as a chain of tests, the generated table is the chain of `modelPseudoAction`, test by test. -/
theorem pseudo_dispatch_agrees (name : Str) :
    pseudoActionOf Gen.PyParseDisp.pseudoNames name = modelPseudoAction name := by
  unfold Gen.PyParseDisp.pseudoNames modelPseudoAction
  simp only [pseudoActionOf_cons, pseudoActionOf_nil, List.any_cons, List.any_nil, Bool.or_false]
  rfl

theorem modelPseudoAction_none_of_not_mem (name : Str) (h : name ∉ modelPseudoKeys.map String.toStr) :
    modelPseudoAction name = none := by
  rw [← pseudo_dispatch_agrees, pseudoActionOf_eq_none_iff, pseudoKeys_eq]; exact h

theorem builtinOf_eq (B : Builtins) :
    builtinOf B "CSS_LINK" = some B.link ∧ builtinOf B "CSS_CHECKED" = some B.checked ∧
    builtinOf B "CSS_DEFAULT" = some B.dflt ∧ builtinOf B "CSS_INDETERMINATE" = some B.indeterminate ∧
    builtinOf B "CSS_DISABLED" = some B.disabled ∧ builtinOf B "CSS_ENABLED" = some B.enabled ∧
    builtinOf B "CSS_REQUIRED" = some B.required ∧ builtinOf B "CSS_OPTIONAL" = some B.optional ∧
    builtinOf B "CSS_READ_ONLY" = some B.readOnly ∧ builtinOf B "CSS_READ_WRITE" = some B.readWrite ∧
    builtinOf B "CSS_IN_RANGE" = some B.inRange ∧ builtinOf B "CSS_OUT_OF_RANGE" = some B.outOfRange ∧
    builtinOf B "CSS_PLACEHOLDER_SHOWN" = some B.placeholderShown := by
  simp [builtinOf]

/-- The model's name dispatch factors through the table. -/
theorem applySimplePseudo_eq_runPseudo (P : PEnv) (pseudo : Str) (sel : SelB) :
    applySimplePseudo P pseudo sel = runPseudo P.B (modelPseudoAction pseudo) sel := by
  unfold applySimplePseudo modelPseudoAction
  -- both sides become the same chain of tests once `runPseudo` is moved into the branches
  simp only [apply_ite (runPseudo P.B · sel)]
  simp only [runPseudo, builtinOf_eq P.B]
  rfl

/-- … hence through the GENERATED table. -/
theorem applySimplePseudo_gen (P : PEnv) (pseudo : Str) (sel : SelB) :
    applySimplePseudo P pseudo sel = runPseudo P.B (pseudoActionOf Gen.PyParseDisp.pseudoNames pseudo) sel := by
  rw [applySimplePseudo_eq_runPseudo, pseudo_dispatch_agrees]

/-- `plainPseudo` (what `C09Compile.denote` / `C17Parse` / `C02Parse` use for `:name`) over the generated tables. -/
theorem plainPseudo_gen (B : Builtins) (n : Str) (b : SelB) :
    plainPseudo B n b =
      if inList Gen.PSEUDO_SIMPLE n then runPseudo B (pseudoActionOf Gen.PyParseDisp.pseudoNames n) b
      else b.setNoMatch := by
  unfold plainPseudo
  rw [applySimplePseudo_gen]
  rfl

/-- In a chain without repeated names, a name takes the branch it is listed in. -/
theorem pseudoActionOf_of_mem : ∀ {table : List (List String × PseudoAction)} {ks : List String}
    {a : PseudoAction} {k : String}, ((pseudoKeysOf table).map String.toStr).Nodup → (ks, a) ∈ table → k ∈ ks →
    pseudoActionOf table k.toStr = some a
  | [], _, _, _, _, h, _ => nomatch h
  | (ks', a') :: t, ks, a, k, hn, h, hk => by
    rw [pseudoActionOf_cons]
    have hn' : (ks'.map String.toStr ++ (pseudoKeysOf t).map String.toStr).Nodup := by
      simpa [pseudoKeysOf] using hn
    rcases List.mem_cons.mp h with h | h
    · cases h
      rw [if_pos]
      exact List.any_eq_true.mpr ⟨k, hk, beq_self_eq_true _⟩
    · have hkt : k.toStr ∈ (pseudoKeysOf t).map String.toStr :=
        List.mem_map_of_mem (List.mem_flatMap.mpr ⟨_, h, hk⟩)
      rw [if_neg, pseudoActionOf_of_mem (List.nodup_append.mp hn').2.1 h hk]
      intro hany
      obtain ⟨k', hk', he⟩ := List.any_eq_true.mp hany
      exact (List.nodup_append.mp hn').2.2 _ (List.mem_map_of_mem hk') _ hkt (eq_of_beq he).symm

theorem simple_of_mem {ks : List String} {a : PseudoAction} {k : String}
    (h : (ks, a) ∈ Gen.PyParseDisp.pseudoNames) (hk : k ∈ ks) : inList Gen.PSEUDO_SIMPLE k.toStr = true :=
  List.any_eq_true.mpr
    ⟨_, (pseudoNames_keys _).mp (List.mem_map_of_mem (List.mem_flatMap.mpr ⟨_, h, hk⟩)), beq_self_eq_true _⟩

/-- A name of the chain of the source, as it is written there: `plainPseudo` runs its branch. -/
theorem plainPseudo_of_mem (B : Builtins) {ks : List String} {a : PseudoAction} {k : String}
    (h : (ks, a) ∈ Gen.PyParseDisp.pseudoNames) (hk : k ∈ ks) (b : SelB) :
    plainPseudo B k.toStr b = runPseudo B (some a) b := by
  rw [plainPseudo_gen, simple_of_mem h hk, if_pos rfl, pseudoActionOf_of_mem pseudoNames_nodup h hk]

/-- The names the branches append are the regenerated pre-compiled lists. -/
theorem builtinOf_gen :
    builtinOf Gen.builtinsRec "CSS_LINK" = some Gen.CSS_LINK ∧ builtinOf Gen.builtinsRec "CSS_CHECKED" = some Gen.CSS_CHECKED ∧
    builtinOf Gen.builtinsRec "CSS_DEFAULT" = some Gen.CSS_DEFAULT ∧
    builtinOf Gen.builtinsRec "CSS_INDETERMINATE" = some Gen.CSS_INDETERMINATE ∧
    builtinOf Gen.builtinsRec "CSS_DISABLED" = some Gen.CSS_DISABLED ∧ builtinOf Gen.builtinsRec "CSS_ENABLED" = some Gen.CSS_ENABLED ∧
    builtinOf Gen.builtinsRec "CSS_REQUIRED" = some Gen.CSS_REQUIRED ∧ builtinOf Gen.builtinsRec "CSS_OPTIONAL" = some Gen.CSS_OPTIONAL ∧
    builtinOf Gen.builtinsRec "CSS_READ_ONLY" = some Gen.CSS_READ_ONLY ∧
    builtinOf Gen.builtinsRec "CSS_READ_WRITE" = some Gen.CSS_READ_WRITE ∧
    builtinOf Gen.builtinsRec "CSS_IN_RANGE" = some Gen.CSS_IN_RANGE ∧
    builtinOf Gen.builtinsRec "CSS_OUT_OF_RANGE" = some Gen.CSS_OUT_OF_RANGE ∧
    builtinOf Gen.builtinsRec "CSS_PLACEHOLDER_SHOWN" = some Gen.CSS_PLACEHOLDER_SHOWN :=
  builtinOf_eq Gen.builtinsRec

/-- Every `appendBuiltin` of the generated table names a list the model has. -/
theorem builtins_known : ∀ e ∈ Gen.PyParseDisp.pseudoNames, ∀ n, e.2 = .appendBuiltin n →
    (builtinOf Gen.builtinsRec n).isSome := by
  have h : (Gen.PyParseDisp.pseudoNames.all fun e => match e.2 with
      | .appendBuiltin n => (builtinOf Gen.builtinsRec n).isSome
      | _ => true) = true := by decide +kernel
  intro e he n hn
  have := List.all_eq_true.mp h e he
  rw [hn] at this
  exact this

/-- The flags the `orFlag` / `appendFlagList` branches use are the regenerated `SEL_` values. -/
theorem pseudo_flags_gen :
    pseudoActionOf Gen.PyParseDisp.pseudoNames ":root".toStr = some (.orFlag Gen.gen_SEL_ROOT) ∧
    pseudoActionOf Gen.PyParseDisp.pseudoNames ":scope".toStr = some (.orFlag Gen.gen_SEL_SCOPE) ∧
    pseudoActionOf Gen.PyParseDisp.pseudoNames ":empty".toStr = some (.orFlag Gen.gen_SEL_EMPTY) ∧
    pseudoActionOf Gen.PyParseDisp.pseudoNames ":defined".toStr = some (.appendFlagList Gen.gen_SEL_DEFINED false true) := by
  -- the four rows stand first in the chain (compared as written); a listed name takes its row since no name repeats
  have row (i : Nat) {r : List String × PseudoAction} (h : Gen.PyParseDisp.pseudoNames[i]? = some r) :
      r ∈ Gen.PyParseDisp.pseudoNames := List.mem_of_getElem? h
  exact ⟨pseudoActionOf_of_mem pseudoNames_nodup (row 0 rfl) (List.mem_singleton_self _),
    pseudoActionOf_of_mem pseudoNames_nodup (row 2 rfl) (List.mem_singleton_self _),
    pseudoActionOf_of_mem pseudoNames_nodup (row 3 rfl) (List.mem_singleton_self _),
    pseudoActionOf_of_mem pseudoNames_nodup (row 1 rfl) (List.mem_singleton_self _)⟩

open Refine.C17Parse in
/-- Where a state keyword of C17 stands in `Gen.PyParseDisp.pseudoNames`, read off the generated file: the position of
    its branch (`:root`, `:defined`, `:scope`, `:empty` come first) and the keyword as written there.  When the source
    reorders the chain, `stateRow_spec` fails and the positions are to be read off again. -/
private def stateRow : StateKw → Nat × String
  | .link => (4, ":link") | .anyLink => (4, ":any-link") | .checked => (5, ":checked") | .dflt => (6, ":default")
  | .indeterminate => (7, ":indeterminate") | .disabled => (8, ":disabled") | .enabled => (9, ":enabled")
  | .required => (10, ":required") | .optional => (11, ":optional") | .readOnly => (12, ":read-only")
  | .readWrite => (13, ":read-write") | .inRange => (14, ":in-range") | .outOfRange => (15, ":out-of-range")
  | .placeholderShown => (16, ":placeholder-shown")

open Refine.C17Parse in
/-- At its position stands a row that lists the keyword (rows and keys are compared as written, nothing is evaluated)
    and appends a list whose name `builtinOf` resolves, for every table `B`, to the field `K.pick` reads. -/
private theorem stateRow_spec (K : StateKw) : ∃ ks n,
    (ks, PseudoAction.appendBuiltin n) ∈ Gen.PyParseDisp.pseudoNames ∧ (stateRow K).2 ∈ ks ∧
      ∀ B, builtinOf B n = some (K.pick B) := by
  have h : ∃ ks n, Gen.PyParseDisp.pseudoNames[(stateRow K).1]? = some (ks, .appendBuiltin n) ∧
      (stateRow K).2 ∈ ks ∧ ∀ B, builtinOf B n = some (K.pick B) := by
    cases K <;> exact ⟨_, _, rfl, by simp only [stateRow, List.mem_cons, List.mem_singleton, or_true, true_or],
      fun B => by simp only [builtinOf_eq B, StateKw.pick]⟩
  obtain ⟨ks, n, h, hk, hn⟩ := h
  exact ⟨ks, n, List.mem_of_getElem? h, hk, hn⟩

open Refine.C17Parse in
/-- The branch of a state keyword of C17 in the generated chain: it lists the keyword and appends the pre-compiled
    list `K.pick` reads. -/
theorem state_branch (K : StateKw) : ∃ ks a k, (ks, a) ∈ Gen.PyParseDisp.pseudoNames ∧ k ∈ ks ∧
    k.toStr = 58 :: K.name ∧ ∀ B b, runPseudo B (some a) b = b.addSub (K.pick B) := by
  obtain ⟨ks, n, hmem, hk, hn⟩ := stateRow_spec K
  refine ⟨ks, _, _, hmem, hk, ?_, fun B b => by simp only [runPseudo, hn B]⟩
  cases K <;> simp only [stateRow, StateKw.name] <;> decide_lit

open Refine.C17Parse in
/-- C17's `plainPseudo_state` over the generated table: a state keyword appends its pre-compiled list. -/
theorem state_keyword_gen (B : Builtins) (K : StateKw) (b : SelB) :
    runPseudo B (pseudoActionOf Gen.PyParseDisp.pseudoNames (58 :: K.name)) b = b.addSub (K.pick B) := by
  obtain ⟨ks, a, k, h, hk, hkn, hr⟩ := state_branch K
  rw [← hkn, pseudoActionOf_of_mem pseudoNames_nodup h hk, hr]

end C06GenPseudo
end SoupVerif
