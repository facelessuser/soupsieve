/-
  C06 (`css_unescape` cannot leave the code-point range) about the Lean term TRANSLATED from the source text of the
  replacement function `replace(m)` nested in `css_parser.css_unescape`.

  The parser model's `Parser.cssUnescape` contains a hand-written copy of that closure (`C06.unescRepl`, with the
  clamp `C06.clampCp`).  `gen/gen_py_strings.py` translates the Python closure — the if/elif chain on
  `m.group(1)`, `m.group(2)`, `m.group(3)`, `int(m.group(1)[1:], 16)`, the clamp
  `if codepoint == 0 or codepoint > 0x10FFFF: codepoint = UNICODE_REPLACEMENT_CHAR` (constant translated from its
  module-level assignment), `chr`, `m.group(2)[1:]`, `'\ufffd'`, `''` — into `Gen.PyStrings.replace : Groups → Str`, a
  function of what `m.group` returns.  Proved here: on every match object whose participating groups are non-empty
  spans of the content the translated closure equals the hand model's (`gen_replace_eq`); the engine only produces
  such match objects for expressions all of whose groups consume, which the two expressions regenerated from the
  source do; hence `Parser.cssUnescape` IS `RE.sub(<translated replace>, content)` (`cssUnescape_generated`), and the
  C06 statements hold of the translated closure.

  An edit of the clamp bounds, of the replacement constant, of the base-16 parse, of the `[1:]` slices, of which group
  is tested in which order or of what a branch returns changes `Generated/PyStrings.lean` and breaks
  `gen_replace_group*` / `gen_replace_eq` (or makes the translator fail).
-/
import SoupVerif.Properties.C06
import SoupVerif.Lemmas.CapsReal
import SoupVerif.Generated.PyStrings
namespace SoupVerif
namespace C06Gen
open Rx SoupVerif.Parser ParserProgress PyStrings

/-- Group 1 truthy (a hex escape): the result is the one character `clampCp (int(m.group(1)[1:], 16))`, with the
    hand model's clamp `C06.clampCp`. -/
theorem gen_replace_group1 (m : Groups) (h : truthy (m 1) = true) :
    Gen.PyStrings.replace m = [C06.clampCp (intHex ((text (m 1)).drop 1))] := by
  simp only [Gen.PyStrings.replace, h, C06.clampCp, Gen.PyStrings.UNICODE_REPLACEMENT_CHAR]
  repeat' split
  all_goals simp_all

theorem gen_replace_group2 (m : Groups) (h1 : truthy (m 1) = false) (h2 : truthy (m 2) = true) :
    Gen.PyStrings.replace m = (text (m 2)).drop 1 := by
  simp [Gen.PyStrings.replace, h1, h2]

theorem gen_replace_group3 (m : Groups) (h1 : truthy (m 1) = false) (h2 : truthy (m 2) = false)
    (h3 : truthy (m 3) = true) : Gen.PyStrings.replace m = [0xFFFD] := by
  simp [Gen.PyStrings.replace, h1, h2, h3]

theorem gen_replace_none (m : Groups) (h1 : truthy (m 1) = false) (h2 : truthy (m 2) = false)
    (h3 : truthy (m 3) = false) : Gen.PyStrings.replace m = [] := by
  simp [Gen.PyStrings.replace, h1, h2, h3]

theorem groupsOf_none (content : Str) (caps : Caps) (k : Nat) (h : capSpan caps k = none) :
    groupsOf content caps k = none := by
  simp [groupsOf, h]

theorem groupsOf_some (content : Str) (caps : Caps) (k a b : Nat) (h : capSpan caps k = some (a, b)) :
    groupsOf content caps k = some (slice content a b) := by
  simp [groupsOf, h]

theorem truthy_none : truthy none = false := rfl

theorem truthy_slice (content : Str) (a b : Nat) (hab : a < b) (hb : b ≤ content.length) :
    truthy (some (slice content a b)) = true := by
  have hl : 0 < (slice content a b).length := by
    unfold slice; simp only [List.length_take, List.length_drop]; omega
  cases hs : slice content a b with
  | nil => rw [hs] at hl; cases hl
  | cons _ _ => rfl

theorem slice_drop_one (content : Str) (a b : Nat) : (slice content a b).drop 1 = slice content (a + 1) b := by
  unfold slice
  rw [List.drop_take, List.drop_drop]
  congr 1

/-- Every group among 1, 2, 3 that took part in the match is a non-empty span inside the subject — what
    CPython's `re` guarantees for `RE_CSS_ESC` / `RE_CSS_STR_ESC`, each of whose groups starts with a backslash. -/
def RealGroups (content : Str) (caps : Caps) : Prop :=
  ∀ k a b, (k = 1 ∨ k = 2 ∨ k = 3) → capSpan caps k = some (a, b) → a < b ∧ b ≤ content.length

/-- On every match object whose groups are real (non-empty, inside the subject) the closure
    translated from the current source is the hand model's closure `C06.unescRepl` (the text of
    `Parser.cssUnescape`), whatever the content and whichever groups took part. -/
theorem gen_replace_eq (content : Str) (caps : Caps) (h : RealGroups content caps) :
    Gen.PyStrings.replace (groupsOf content caps) = C06.unescRepl content caps := by
  unfold C06.unescRepl
  split
  · rename_i a b h1
    obtain ⟨hab, hb⟩ := h 1 a b (Or.inl rfl) h1
    rw [gen_replace_group1 _ (by rw [groupsOf_some _ _ _ _ _ h1]; exact truthy_slice _ _ _ hab hb),
      groupsOf_some _ _ _ _ _ h1, if_pos hab]
    simp only [text, Option.getD_some, slice_drop_one, intHex]
  · rename_i h1
    have t1 : truthy (groupsOf content caps 1) = false := by rw [groupsOf_none _ _ _ h1]; rfl
    split
    · rename_i a b h2
      obtain ⟨hab, hb⟩ := h 2 a b (Or.inr (Or.inl rfl)) h2
      rw [gen_replace_group2 _ t1 (by rw [groupsOf_some _ _ _ _ _ h2]; exact truthy_slice _ _ _ hab hb),
        groupsOf_some _ _ _ _ _ h2]
      simp only [text, Option.getD_some, slice_drop_one]
    · rename_i h2
      have t2 : truthy (groupsOf content caps 2) = false := by rw [groupsOf_none _ _ _ h2]; rfl
      split
      · rename_i ab h3
        obtain ⟨hab, hb⟩ := h 3 ab.1 ab.2 (Or.inr (Or.inr rfl)) h3
        rw [gen_replace_group3 _ t1 t2 (by rw [groupsOf_some _ _ _ _ _ h3]; exact truthy_slice _ _ _ hab hb)]
      · rename_i h3
        have t3 : truthy (groupsOf content caps 3) = false := by rw [groupsOf_none _ _ _ h3]; rfl
        rw [gen_replace_none _ t1 t2 t3]

/-- `css_unescape(content, string)` as the regex-engine model runs it, but with the replacement function TRANSLATED
    from the source: `RE.sub(replace, content)` where `replace` sees the match object `groupsOf content caps`. -/
def cssUnescapeGen (env : CharEnv) (L : Lexicon) (content : Str) (string : Bool) : Str :=
  subWith env (if string then L.reCssStrEsc else L.reCssEsc)
    (fun caps => Gen.PyStrings.replace (groupsOf content caps)) content

/-- `pattern.sub(f, s)` depends on `f` only through the match objects the engine actually produces on `s`. -/
theorem subWith_go_congr (env : CharEnv) (r : Rx) (f g : Caps → Str) (s : Str)
    (h : ∀ i j caps, i ≤ s.length → matchAt env r s i = some (j, caps) → f caps = g caps) :
    ∀ fuel i, subWith.go env r f s fuel i = subWith.go env r g s fuel i := by
  intro fuel
  induction fuel with
  | zero => intro i; simp [subWith.go]
  | succ n ih =>
    intro i
    unfold subWith.go
    by_cases hi : i > s.length
    · simp [hi]
    · simp only [hi, if_false]
      cases hm : matchAt env r s i with
      | none => simp only [ih]
      | some jc =>
        obtain ⟨j, caps⟩ := jc
        simp only [h i j caps (by omega) hm, ih]

/-- The engine's match objects for an expression all of whose groups consume are real. -/
theorem realGroups_of_matchAt {env : CharEnv} {r : Rx} {content : Str} {i j : Nat} {caps : Caps}
    (hg : CapsReal.groupsConsume r = true) (hi : i ≤ content.length)
    (hm : matchAt env r content i = some (j, caps)) : RealGroups content caps := by
  intro k a b _ hk
  have h1 := CapsReal.matchAt_capSpan_pos hg hm hk
  have h2 := matchAt_le_length hm hi
  omega

/-- For every lexicon whose two escape expressions have only consuming groups, every character environment, every
    content: the parser model's `css_unescape` IS `RE.sub` with the translated closure. -/
theorem cssUnescape_eq_gen (env : CharEnv) (L : Lexicon) (content : Str) (string : Bool)
    (h1 : CapsReal.groupsConsume L.reCssEsc = true) (h2 : CapsReal.groupsConsume L.reCssStrEsc = true) :
    Parser.cssUnescape env L content string = cssUnescapeGen env L content string := by
  rw [C06.cssUnescape_eq]
  unfold cssUnescapeGen subWith
  apply subWith_go_congr
  intro i j caps hi hm
  have hg : CapsReal.groupsConsume (if string then L.reCssStrEsc else L.reCssEsc) = true := by
    cases string <;> simpa
  exact (gen_replace_eq content caps (realGroups_of_matchAt hg hi hm)).symm

/-- Both escape expressions REGENERATED from the source have only consuming groups (each group starts with `\\`). -/
theorem gen_escapes_consume :
    CapsReal.groupsConsume Gen.lexicon.reCssEsc = true ∧ CapsReal.groupsConsume Gen.lexicon.reCssStrEsc = true := by
  decide

/-- With the regular expressions regenerated from the source and the replacement function
    translated from the source, `css_unescape` of the parser model — the function every C06 / C07 / C10 theorem about
    unescaping speaks of — is `RE.sub(replace, content)` of exactly those two, for every environment and content. -/
theorem cssUnescape_generated (env : CharEnv) (content : Str) (string : Bool) :
    Parser.cssUnescape env Gen.lexicon content string = cssUnescapeGen env Gen.lexicon content string :=
  cssUnescape_eq_gen env Gen.lexicon content string gen_escapes_consume.1 gen_escapes_consume.2

/-- Whatever the match object, the translated closure returns characters of one of its groups, or code points in
    `1..0x10FFFF` (U+FFFD included): the `chr(codepoint)` of the source cannot raise. -/
theorem gen_replace_valid (m : Groups) :
    ∀ cp ∈ Gen.PyStrings.replace m, (∃ k t, m k = some t ∧ cp ∈ t) ∨ (0 < cp ∧ cp ≤ 0x10FFFF) := by
  intro cp h
  cases h1 : truthy (m 1) with
  | true =>
    rw [gen_replace_group1 m h1, List.mem_singleton] at h
    subst h; exact Or.inr (C06.clampCp_valid _)
  | false =>
    cases h2 : truthy (m 2) with
    | true =>
      rw [gen_replace_group2 m h1 h2] at h
      cases hm : m 2 with
      | none => rw [hm] at h2; cases h2
      | some t =>
        rw [hm] at h
        exact Or.inl ⟨2, t, hm, List.mem_of_mem_drop h⟩
    | false =>
      cases h3 : truthy (m 3) with
      | true =>
        rw [gen_replace_group3 m h1 h2 h3, List.mem_singleton] at h
        subst h; exact Or.inr (by decide)
      | false => rw [gen_replace_none m h1 h2 h3] at h; cases h

/-- On the engine's match objects: characters of the content, or code points in `1..0x10FFFF`. -/
theorem gen_replace_valid_content (content : Str) (caps : Caps) :
    ∀ cp ∈ Gen.PyStrings.replace (groupsOf content caps), cp ∈ content ∨ (0 < cp ∧ cp ≤ 0x10FFFF) := by
  intro cp h
  rcases gen_replace_valid _ cp h with ⟨k, t, hk, ht⟩ | h
  · left
    unfold groupsOf at hk
    cases hc : capSpan caps k with
    | none => rw [hc] at hk; cases hk
    | some ab =>
      rw [hc] at hk
      simp only [Option.map_some, Option.some.injEq] at hk
      subst hk
      exact C06.mem_slice ht
  · exact Or.inr h

/-- `unescape_total` for the translated closure: for ANY regular expressions in the two slots, any environment
    and any content, every code point `RE.sub(replace, content)` returns is a code point of the content or lies in
    `1..0x10FFFF`. -/
theorem unescape_total (env : CharEnv) (L : Lexicon) (content : Str) (string : Bool) :
    ∀ cp ∈ cssUnescapeGen env L content string, cp ∈ content ∨ (0 < cp ∧ cp ≤ 0x10FFFF) :=
  C06.subWith_go_mem env _ _ content _ (gen_replace_valid_content content) (fun _ hx => Or.inl hx) _ _

/-- The clamp, about the translated closure: a hex escape whose value is 0 or above U+10FFFF yields U+FFFD. -/
theorem gen_replace_group1_FFFD (m : Groups) (h : truthy (m 1) = true)
    (hbad : intHex ((text (m 1)).drop 1) = 0 ∨ intHex ((text (m 1)).drop 1) > 0x10FFFF) :
    Gen.PyStrings.replace m = [0xFFFD] := by
  rw [gen_replace_group1 m h, C06.clampCp_replaces _ hbad]

/-! ### Where the hand model and the translation differ: match objects no `re` match produces

  `C06.unescRepl` tests "group k took part" (`capSpan caps k ≠ none`, and `b > a` for group 1), the Python tests the
  truth value of the group's text.  They differ only on captures with an EMPTY participating group, which
  `realGroups_of_matchAt` excludes for the expressions of the source. -/

-- group 1 took part but is empty, group 3 is `\`: Python falls through to the `elif m.group(3)` branch
example : Gen.PyStrings.replace (groupsOf [92] [(1, 0, 0), (3, 0, 1)]) = [0xFFFD] ∧
    C06.unescRepl [92] [(1, 0, 0), (3, 0, 1)] = [] := by decide

-- on the captures `re` produces the two agree; `\41 ` : group 1 = "\41 "  →  "A"
example : Gen.PyStrings.replace (groupsOf [92, 52, 49, 32] [(1, 0, 4)]) = [0x41] := by decide
-- `\0` → U+FFFD,  `\110000` → U+FFFD,  `\10FFFF` → U+10FFFF
example : Gen.PyStrings.replace (groupsOf [92, 48] [(1, 0, 2)]) = [0xFFFD] := by decide
example : Gen.PyStrings.replace (groupsOf [92, 49, 49, 48, 48, 48, 48] [(1, 0, 7)]) = [0xFFFD] := by decide
example : Gen.PyStrings.replace (groupsOf [92, 49, 48, 70, 70, 70, 70] [(1, 0, 7)]) = [0x10FFFF] := by decide
-- `\g` : group 2 → "g";  `\` at the end : group 3 → U+FFFD;  group 4 (escaped newline in a string) → ""
example : Gen.PyStrings.replace (groupsOf [92, 103] [(2, 0, 2)]) = [103] := by decide
example : Gen.PyStrings.replace (groupsOf [92] [(3, 0, 1)]) = [0xFFFD] := by decide
example : Gen.PyStrings.replace (groupsOf [92, 10] [(4, 0, 2)]) = [] := by decide
-- end to end with the regenerated expression and the engine
example : cssUnescapeGen asciiEnv Gen.lexicon [97, 92, 52, 49, 32, 92, 103, 92] false = [97, 0x41, 103, 0xFFFD] := by
  decide +kernel

end C06Gen
end SoupVerif
