/-
  C09, end to end: the COMPILED RESULT depends only on the token values, not on their spelling.

  `Properties/C09.lean` proves the component facts for hand-written scanners, `Properties/C09Rx.lean`
  restates them about the regular expressions regenerated from `css_parser.py` (via
  `Refine/{Ident,Wsc,StringTok,Unescape}.lean`).  This file does the remaining part for a sub-grammar:
  the induction through the tokenizer (`selector_iter`: which of the twelve slots of the token table matches at
  each position, in table order) and through the state machine (`parse_selectors`) of the parser model,
  down to the frozen structure `Parser.compile` returns.

  THE FULL STATEMENT (not proved in full generality, neither here nor in `C09Compile2.lean`):

      theorem compile_spelling_invariant (T : TokenSeq) (sp₁ sp₂ : Spelling T) :
          Parser.compile pyFoldEnv Gen.lexicon Gen.builtinsRec (render T sp₁) [] 0 =
            Parser.compile pyFoldEnv Gen.lexicon Gen.builtinsRec (render T sp₂) [] 0

  WHAT IS PROVED:  `compile_eq_denote` — for every selector list `l : SSelList` of the grammar below, in
  every admissible spelling, `Parser.compile pyFoldEnv Gen.lexicon B (g₁ ++ l.render ++ g₂) [] 0 =
  .ok (denote B l.value)`, where `denote` is computed from the VALUES alone (a fold that mirrors
  `parse_selectors`, written without positions: `Refine/Denote.lean`, on the builders of `Refine/Builders.lean`) — and its corollary
  `compile_spelling_invariant_partial`: two spellings with the same values compile to the same structure.
  `B : Builtins` is arbitrary (in particular `Gen.builtinsRec`).  Environment: `pyFoldEnv` (Python's
  IGNORECASE folding, what the driver runs the token regexes under); every regex lemma used is also
  available for `asciiEnv`, but the statements here are for `pyFoldEnv` only.

  COVERED GRAMMAR (`SSelList`, `SCompound`, `SItem`; text = `render`, values = `value`, side conditions = `ok`;
  the definitions are in `Refine/Syntax.lean`):

    pattern   := gap list gap                       -- gap: any `isGap` text (whitespace and complete comments)
    list      := compound (comb compound)*
    comb      := gap [,+>~] gap                     -- the comma is a combinator for the tokenizer
               | descgap                            -- `DescGap`: a gap with a whitespace unit outside comments
    compound  := tag? item*   (not both empty)
    tag       := `*` | IDENT                        -- no namespace prefix
    item      := `#` IDENT | `.` IDENT
               | `[` gap IDENT ( gap OP? `=` gap VALUE ( gap FLAG )? )? gap `]`      -- no namespace prefix
               | `:` NAME                           -- NAME in the simple / simple-no-match tables
               | `:` FN `(` gap list gap `)`        -- FN one of not, is, where, matches; lists nest
               | `:` NTH `(` gap ANB gap `)`        -- NTH one of nth-child, nth-last-child, nth-of-type,
                                                    --   nth-last-of-type
               | `:` NTHC `(` gap ANB descgap OF descgap list gap `)`   -- NTHC: nth-child, nth-last-child
               | `:` DIR `(` gap (LTR | RTL) gap `)`
    OP        := one of ! ~ ^ | * $
    VALUE     := IDENT | `"` STRBODY `"` | `'` STRBODY `'`
    FLAG      := i | I | s | S
    ANB       := EVEN | ODD | [-+]? DIGITS [nN]? | [-+]? [nN]           -- the forms with n/N optionally
                 followed by  gap [-+] gap DIGITS                        --   (`SAnB`; value: lower case, no gaps)
    EVEN, ODD, OF, LTR, RTL := the keyword in any letter case (`mixCase`)
    IDENT     := any spelling `renderIdentWith forms` with `validForms` (in its context), `headOk`, `rangeOk`:
                 literal characters, `\c`, `\` + 1..6 hex digits in either case with any zero padding and any
                 of the six whitespace terminators or none
    NAME, FN, NTH, DIR := IDENT whose code points lower-case to the name (any letter case, any escapes)
    STRBODY   := any `renderStrWith pieces` with `validStr`, `pieceRangeOk` (escapes, line continuations)

  That is: every item of C09's sentence — whitespace and comments wherever CSS allows them, identifiers and
  strings written with escapes, single / double quotes / bare identifier for the same value, letter case of
  pseudo-class names, An+B keywords, `of`, `:dir()` arguments and the `i`/`s` flags.

  NOT COVERED HERE: namespace prefixes (`ns|tag`, `[ns|attr]`), `:lang()`, `:contains()` (value lists),
  `:has()` (relative selectors, leading combinators), empty slots of the forgiving lists of `:is()` /
  `:where()`, custom selectors (`:--name`), `&`: `Properties/C09Compile2.lean` proves the same theorem for a
  grammar with all of these, by the same induction over its own syntax type.  This file's grammar is the one
  `Refine/C01ParseBase`, `C02ParseSem`, `C17ParseBase`, `C20ParseBase` build on; `NsParseBase`, `C05ParseBase`
  and what follows them build on C09Compile2's.  Not covered by either: patterns on which `compile` raises.
  (`run_attr_ns`, `Refine/CompileLeaf.lean`, takes an optional namespace prefix although this grammar has none:
  C09Compile2 uses it for `[ns|attr]`.)

  HYPOTHESES of the theorem, all explicit:
    * `l.ok g₂`: the side conditions above (decidable, context-dependent only through the next character);
    * the text contains no NUL (`css_parser` replaces NUL by U+FFFD before tokenizing, which would change
      the values spelled);
    * error offsets (which do depend on the spelling) do not arise: on this grammar `compile` succeeds.

  HOW: which token matches at a position is decided by first characters (C07's `Rx.first`, evaluated in the
  kernel on the regenerated token regexes); one refinement lemma per token (what the regenerated regex reads on
  the rendering and which text each of its groups then holds, `Refine/Reads.lean`) and one loop iteration per token
  in `Refine/Compile*.lean` (the items that open no nested list once for both grammars: `run_leaf`,
  `Refine/CompileLeaf.lean`); then the mutual induction `run_item` … `run_list` below, whose invariant forgets
  `pos` and `index` (`setF`).  Fuel: the loop needs one unit per token plus what nested lists need
  (`SSelList.cost ≤ text length + 1`, `SSelList.cost_le`), well below the `2·|pattern| + 8` allotted.

  Every shape lemma is `rfl` against `Generated/Regexes.lean`; only the stable names `Gen.tok_*`, `Gen.cp_*`
  are mentioned (never the renumbered shared sub-expressions).
-/
import SoupVerif.Refine.CompileLeaf
import SoupVerif.Lemmas.StrLit
namespace SoupVerif
namespace C09Compile
open Rx SoupVerif.Parser ParserProgress Escape Spelling Refine.Compile

theorem SItem.render_cons (it : SItem) : ∃ c cs, it.render = c :: cs ∧ itemStart c = true := by
  cases it <;> exact ⟨_, _, by first | rw [SItem.render, SAttr.render] | rw [SItem.render], rfl⟩

theorem safeStart_items (items : List SItem) (r : Str) (hr : SafeStart r) :
    SafeStart (renderItems items ++ r) := by
  cases items with
  | nil => simpa [renderItems] using hr
  | cons it rest =>
    obtain ⟨c, cs, hc, h⟩ := it.render_cons
    rw [renderItems, hc]
    exact safeStart_cons _ _ (itemStart_safe h)

theorem safeStart_rest (rest : List (SComb × SCompound)) (r : Str) (hok : restOK rest r)
    (hr : SafeStart r) : SafeStart (renderRest rest ++ r) := by
  cases rest with
  | nil => simpa [renderRest] using hr
  | cons x rest =>
    rw [restOK] at hok
    rw [renderRest, List.append_assoc]
    exact safeStart_comb x.1 hok.1 _

theorem SCompound.render_head (c : SCompound) (r : Str) (hok : c.ok r) :
    ∃ x xs, c.render = x :: xs ∧ isCssWs x = false ∧ x ≠ 47 ∧ isComb x = false ∧ x ≠ 41 := by
  obtain ⟨tag, items⟩ := c
  simp only [SCompound.ok] at hok
  obtain ⟨htag, _, hne⟩ := hok
  cases tag with
  | none =>
    have hne' : items ≠ [] := by simpa using hne
    cases items with
    | nil => exact absurd rfl hne'
    | cons it rest =>
      obtain ⟨x, xs, hx, h⟩ := it.render_cons
      exact ⟨x, xs ++ renderItems rest, by simp [SCompound.render, renderItems, hx], itemStart_head h⟩
  | some tg =>
    obtain ⟨x, xs, hx, h⟩ := tg.render_head _ htag
    exact ⟨x, xs ++ renderItems items, by simp [SCompound.render, hx], nsStart_head (by simp [nsStart, h])⟩

theorem SCompound.render_noGap (c : SCompound) (r t : Str) (hok : c.ok r) :
    noGapStart (c.render ++ t) = true := by
  obtain ⟨x, xs, hx, hw, h47, _, _⟩ := c.render_head r hok
  simp [hx, noGapStart, hw, h47]

theorem SSelList.render_noGap (l : SSelList) (r t : Str) (hok : l.ok r) :
    noGapStart (l.render ++ t) = true := by
  obtain ⟨first, rest⟩ := l
  rw [SSelList.ok] at hok
  rw [SSelList.render, List.append_assoc]
  exact first.render_noGap _ _ hok.1

theorem identOK_length {f : Forms} {r : Str} (h : identOK f r) : 1 ≤ (renderIdentWith f).length := by
  obtain ⟨x, xs, hx, _⟩ := headOk_first f h.2.1
  simp [hx]

mutual
theorem SItem.need_le : ∀ (it : SItem) (r : Str), it.ok r → it.need + 1 ≤ it.render.length
  | .id f, r, h => by rw [SItem.ok] at h; have := identOK_length h; simp [SItem.need, SItem.render]
  | .cls f, r, h => by rw [SItem.ok] at h; have := identOK_length h; simp [SItem.need, SItem.render]
  | .attr a, r, h => by simp [SItem.need, SItem.render, SAttr.render]
  | .pseudo f, r, h => by simp [SItem.need, SItem.render]
  | .fn f g₁ l g₂, r, h => by
    rw [SItem.ok] at h
    have h1 := identOK_length h.1
    have h2 := SSelList.cost_le l _ h.2.2.2.2
    simp only [SItem.need, SItem.render, List.length_cons, List.length_append, List.length_nil]
    omega
  | .nth f g₁ a g₂, r, h => by simp [SItem.need, SItem.render]
  | .dir f g₁ ltr m g₂, r, h => by simp [SItem.need, SItem.render]
  | .nthOf f g₁ a dg1 m dg2 l g₂, r, h => by
    rw [SItem.ok] at h
    have h1 := identOK_length h.1
    have h2 := SSelList.cost_le l _ h.2.2.2.2.2.2.2
    simp only [SItem.need, SItem.render, List.length_cons, List.length_append, List.length_nil]
    omega
theorem itemsNeed_le : ∀ (items : List SItem) (r : Str), itemsOK items r →
    itemsNeed items + items.length ≤ (renderItems items).length
  | [], _, _ => by simp [itemsNeed, renderItems]
  | it :: rest, r, h => by
    rw [itemsOK] at h
    have h1 := SItem.need_le it _ h.1
    have h2 := itemsNeed_le rest r h.2
    simp only [itemsNeed, renderItems, List.length_cons, List.length_append]
    omega
theorem SCompound.need_le : ∀ (c : SCompound) (r : Str), c.ok r → c.need + c.size ≤ c.render.length
  | .mk tag items, r, h => by
    simp only [SCompound.ok] at h
    have h1 := itemsNeed_le items r h.2.1
    cases tag with
    | none => simpa [SCompound.need, SCompound.size, SCompound.render] using h1
    | some tg =>
      have h2 : 1 ≤ tg.render.length := by
        cases tg with
        | star => simp [STag.render]
        | name f => exact identOK_length h.1
      simp only [SCompound.need, SCompound.size, SCompound.render, Option.isSome_some, if_true,
        List.length_append]
      omega
theorem restNeed_le : ∀ (rest : List (SComb × SCompound)) (r : Str), restOK rest r →
    restNeed rest + restSize rest ≤ (renderRest rest).length
  | [], _, _ => by simp [restNeed, restSize, renderRest]
  | x :: rest, r, h => by
    rw [restOK] at h
    obtain ⟨y, ys, hy, _⟩ := x.1.render_head h.1
    have h1 := SCompound.need_le x.2 _ h.2.1
    have h2 := restNeed_le rest r h.2.2
    simp only [restNeed, restSize, renderRest, List.length_append, hy, List.length_cons]
    omega
theorem SSelList.cost_le : ∀ (l : SSelList) (r : Str), l.ok r → l.cost ≤ l.render.length + 1
  | .mk first rest, r, h => by
    rw [SSelList.ok] at h
    have h1 := SCompound.need_le first _ h.1
    have h2 := restNeed_le rest r h.2
    simp only [SSelList.cost, SSelList.render, List.length_append]
    omega
end

theorem fnName_facts (n : Str) (h : fnName n) :
    ∃ fl, NestedFlags fl ∧
      C09Compile2.fnFlags n = fl ∧
      (((fl &&& FLG_NOT) != 0) = (n == ":not".toStr)) ∧
      inList Gen.lexicon.pseudoComplex n = true ∧
      Gen.lexicon.special.find? (fun e => e.1 == n) = none ∧
      n.tail.head? ≠ some 45 := by
  rcases h with h | h | h | h <;> subst h
  · exact ⟨67, Or.inl rfl, by decide, by decide, by decide, by decide, by decide⟩
  · exact ⟨1089, Or.inr (Or.inl rfl), by decide, by decide, by decide, by decide, by decide⟩
  · exact ⟨1089, Or.inr (Or.inl rfl), by decide, by decide, by decide, by decide, by decide⟩
  · exact ⟨65, Or.inr (Or.inr rfl), by decide, by decide, by decide, by decide, by decide⟩

theorem initLS_nested (pos idx fl : Nat) (cust : Custom) (h : NestedFlags fl) :
    initLS pos idx fl cust = setF ({} : LS) pos idx cust := by
  rcases h with h | h | h <;> subst h <;> rfl

theorem finishSel_nested (B : Builtins) (s : Str) (fl : Nat) (st : LS) (hfl : NestedFlags fl)
    (h : st.hasSelector = true) (hc : st.closed = true) :
    finishSel pyFoldEnv Gen.lexicon B s fl st =
      .ok (finishNested ((fl &&& FLG_NOT) != 0) st, st.pos, st.custom) := by
  rcases hfl with e | e | e <;> subst e <;>
    simp [finishSel, cleanupLS, finalSels, finishNested, h, hc, FLG_OPEN, FLG_PSEUDO, FLG_RELATIVE,
      FLG_FORGIVE, FLG_DEFAULT, FLG_INDETERMINATE, FLG_IN_RANGE, FLG_OUT_OF_RANGE, FLG_PLACEHOLDER_SHOWN,
      FLG_NOT]

theorem finishSel_top (B : Builtins) (s : Str) (st : LS) (h : st.hasSelector = true) :
    finishSel pyFoldEnv Gen.lexicon B s 0 st = .ok (finishTop st, st.pos, st.custom) := by
  simp [finishSel, cleanupLS, finalSels, finishTop, h]

theorem nested_flags_facts (fl : Nat) (h : NestedFlags fl) :
    ((fl &&& FLG_RELATIVE) != 0) = false ∧ ((fl &&& FLG_PSEUDO) != 0) = true ∧
      ((fl &&& FLG_OPEN) != 0) = true := by
  rcases h with e | e | e <;> subst e <;> decide

section Run
variable (B : Builtins) (s : Str)

mutual
theorem run_item : ∀ (it : SItem) (flags : Nat) (st : LS) (fuel : Nat) (r : Str),
    s.drop st.pos = it.render ++ r → it.ok r → SafeStart r → it.need ≤ fuel →
    ∃ p idx, s.drop p = r ∧
      parseLoop pyFoldEnv Gen.lexicon B s (fuel + 1) flags st =
        parseLoop pyFoldEnv Gen.lexicon B s fuel flags
          { st with pos := p, index := idx, sel := it.value.apply B st.sel, hasSelector := true }
  | .id f, flags, st, fuel, r, hd, hok, hr, _ => run_leaf B s (.id f) rfl flags st fuel r hd hok hr
  | .cls f, flags, st, fuel, r, hd, hok, hr, _ => run_leaf B s (.cls f) rfl flags st fuel r hd hok hr
  | .attr a, flags, st, fuel, r, hd, hok, hr, _ => run_leaf B s (.attr a) rfl flags st fuel r hd hok hr
  | .pseudo f, flags, st, fuel, r, hd, hok, hr, _ => run_leaf B s (.pseudo f) rfl flags st fuel r hd hok hr
  | .fn f g₁ l g₂, flags, st, fuel, r, hd, hok, hr, hn => by
    rw [SItem.render] at hd
    simp only [List.cons_append, List.append_assoc, List.nil_append] at hd
    rw [SItem.ok] at hok
    obtain ⟨⟨hv, hh, hcp⟩, hname, hg₁, hg₂, hl⟩ := hok
    obtain ⟨fl, hnf, hfl, hnot, hin, hfind, hdash⟩ := fnName_facts _ hname
    obtain ⟨x, xs, hxs, hx⟩ := name_head f hh hdash
    have hR : noGapStart (l.render ++ (g₂ ++ 41 :: r)) = true := l.render_noGap _ _ hl
    have hstop : s.drop (st.pos + 1 + (renderIdentWith f).length + 1 + g₁.length) =
        l.render ++ (g₂ ++ 41 :: r) :=
      drop_add_of_drop_append (RxBasic.drop_succ_of_drop_cons
        (drop_add_of_drop_append (RxBasic.drop_succ_of_drop_cons hd)))
    rw [SItem.need] at hn
    obtain ⟨k, rfl⟩ : ∃ k, fuel = k + 1 := ⟨fuel - 1, by omega⟩
    obtain ⟨p', hp', hsub⟩ := run_list l fl (st.pos + 1 + (renderIdentWith f).length + 1 + g₁.length)
      (st.pos + 1 + (renderIdentWith f).length + 1 + g₁.length) st.custom k g₂ r hnf hstop hl hg₂ (by omega)
    refine ⟨p', st.pos + 1 + (renderIdentWith f).length + 1 + g₁.length, hp', ?_⟩
    rw [step_pseudo_open s B (k + 1) flags st hd hxs hx hv hh hcp hg₁ hR hfind hin fl hfl _ p' st.custom hsub,
      SItem.value, Item.apply, hnot]
  | .nth f g₁ a g₂, flags, st, fuel, r, hd, hok, hr, _ =>
    run_leaf B s (.nth f g₁ a g₂) rfl flags st fuel r hd hok hr
  | .nthOf f g₁ a dg1 m dg2 l g₂, flags, st, fuel, r, hd, hok, hr, hn => by
    rw [SItem.render] at hd
    simp only [List.cons_append, List.append_assoc, List.nil_append] at hd
    rw [SItem.ok] at hok
    obtain ⟨⟨hv, hh, hcp⟩, hname, hg₁, ha, hdg1, hdg2, hg₂, hl⟩ := hok
    have hR : noGapStart (l.render ++ (g₂ ++ 41 :: r)) = true := l.render_noGap _ _ hl
    have hof := lower_of m
    have hstop := nth_of_start s a hd hof
    rw [SItem.need] at hn
    obtain ⟨k, rfl⟩ : ∃ k, fuel = k + 1 := ⟨fuel - 1, by omega⟩
    obtain ⟨p', hp', hsub⟩ := run_list l 65
      (st.pos + 1 + (renderIdentWith f).length + 1 + g₁.length + a.render.length + dg1.length + 2 + dg2.length)
      (st.pos + 1 + (renderIdentWith f).length + 1 + g₁.length + a.render.length + dg1.length + 2 + dg2.length)
      st.custom k g₂ r (Or.inr (Or.inr rfl)) hstop hl hg₂ (by omega)
    refine ⟨p', st.pos + 1 + (renderIdentWith f).length + 1 + g₁.length + a.render.length + dg1.length + 2 +
      dg2.length, hp', ?_⟩
    rw [step_nth_child_of B s (k + 1) flags st a ha hd hv hh hcp hg₁ hdg1 hdg2 hof hR hname _ p' _ hsub,
      SItem.value, Item.apply]
    rfl
  | .dir f g₁ ltr m g₂, flags, st, fuel, r, hd, hok, hr, _ =>
    run_leaf B s (.dir f g₁ ltr m g₂) rfl flags st fuel r hd hok hr
theorem run_items : ∀ (items : List SItem) (flags : Nat) (st : LS) (fuel : Nat) (r : Str),
    s.drop st.pos = renderItems items ++ r → itemsOK items r → SafeStart r → itemsNeed items ≤ fuel →
    ∃ p idx, s.drop p = r ∧
      parseLoop pyFoldEnv Gen.lexicon B s (fuel + items.length) flags st =
        parseLoop pyFoldEnv Gen.lexicon B s fuel flags
          { st with pos := p, index := idx,
                    sel := applyItems B (itemsValue items) st.sel,
                    hasSelector := st.hasSelector || !items.isEmpty }
  | [], flags, st, fuel, r, hd, _, _, _ => by
    refine ⟨st.pos, st.index, by simpa [renderItems] using hd, ?_⟩
    simp [itemsValue, applyItems]
  | it :: rest, flags, st, fuel, r, hd, hok, hr, hn => by
    have hsafe := safeStart_items rest r hr
    rw [itemsOK] at hok
    obtain ⟨hit, hrest⟩ := hok
    rw [renderItems, List.append_assoc] at hd
    rw [itemsNeed] at hn
    obtain ⟨p₁, i₁, hp₁, h1⟩ := run_item it flags st (fuel + rest.length) _ hd hit hsafe (by omega)
    obtain ⟨p, idx, hp, h2⟩ := run_items rest flags
      { st with pos := p₁, index := i₁, sel := it.value.apply B st.sel, hasSelector := true }
      fuel r hp₁ hrest hr (by omega)
    refine ⟨p, idx, hp, ?_⟩
    rw [List.length_cons, ← Nat.add_assoc, h1, h2]
    simp [itemsValue, applyItems]
theorem run_compound : ∀ (c : SCompound) (flags : Nat) (st : LS) (fuel : Nat) (r : Str),
    s.drop st.pos = c.render ++ r → c.ok r → SafeStart r → c.need ≤ fuel → st.hasSelector = false →
    ∃ p idx, s.drop p = r ∧
      parseLoop pyFoldEnv Gen.lexicon B s (fuel + c.size) flags st =
        parseLoop pyFoldEnv Gen.lexicon B s fuel flags
          { st with pos := p, index := idx, sel := c.value.buildOn B st.sel, hasSelector := true }
  | .mk tag items, flags, st, fuel, r, hd, hok, hr, hn, hs => by
    simp only [SCompound.ok] at hok
    obtain ⟨htag, hitems, hne⟩ := hok
    rw [SCompound.need] at hn
    have hsafe := safeStart_items items r hr
    cases tag with
    | none =>
      have hne' : items ≠ [] := by simpa using hne
      obtain ⟨p, idx, hp, h⟩ := run_items items flags st fuel r
        (by simpa [SCompound.render] using hd) hitems hr hn
      refine ⟨p, idx, hp, ?_⟩
      have he : items.isEmpty = false := by cases items <;> simp at hne' ⊢
      simpa [SCompound.size, SCompound.value, Compound.buildOn, he] using h
    | some tg =>
      simp only [SCompound.render, List.append_assoc] at hd
      have h1 := run_stag B s flags tg st (fuel + items.length) _ hd htag hsafe hs
      obtain ⟨p, idx, hp, h2⟩ := run_items items flags
        { st with pos := st.pos + tg.render.length, sel := st.sel.setTag ⟨tg.value, none⟩, hasSelector := true,
                  index := st.pos + tg.render.length } fuel r (drop_add_of_drop_append hd) hitems hr hn
      refine ⟨p, idx, hp, ?_⟩
      have : fuel + SCompound.size (.mk (some tg) items) = fuel + items.length + 1 := by
        simp [SCompound.size]; omega
      rw [this, h1, h2]
      simp [SCompound.value, Compound.buildOn]
theorem run_rest : ∀ (rest : List (SComb × SCompound)) (flags : Nat) (st : LS) (fuel : Nat) (r : Str),
    ((flags &&& FLG_RELATIVE) != 0) = false →
    s.drop st.pos = renderRest rest ++ r → restOK rest r → SafeStart r → restNeed rest ≤ fuel →
    st.hasSelector = true →
    ∃ p idx, s.drop p = r ∧
      parseLoop pyFoldEnv Gen.lexicon B s (fuel + restSize rest) flags st =
        parseLoop pyFoldEnv Gen.lexicon B s fuel flags
          (setF (foldRest B ((flags &&& FLG_PSEUDO) != 0) (restValue rest) st) p idx st.custom)
  | [], flags, st, fuel, r, _, hd, _, _, _, _ => by
    exact ⟨st.pos, st.index, by simpa [renderRest] using hd, rfl⟩
  | (cb, c) :: rest, flags, st, fuel, r, hrel, hd, hok, hr, hn, hs => by
    rw [restOK] at hok
    obtain ⟨hcb, hc, hrest⟩ := hok
    rw [restNeed] at hn
    have hn' : c.need + restNeed rest ≤ fuel := hn
    have hsafe := safeStart_rest rest r hrest hr
    obtain ⟨x, xs, hx, hxw, hx47, hxc, hx41⟩ := c.render_head _ hc
    have hRng : noGapStart (c.render ++ (renderRest rest ++ r)) = true := c.render_noGap _ _ hc
    obtain ⟨p₁, hp₁, _, h₁⟩ : ∃ p, s.drop p = c.render ++ (renderRest rest ++ r) ∧ p ≤ s.length ∧
        parseLoop pyFoldEnv Gen.lexicon B s (fuel + restSize rest + c.size + 1) flags st =
          parseLoop pyFoldEnv Gen.lexicon B s (fuel + restSize rest + c.size) flags
            { combStep cb.value ((flags &&& FLG_PSEUDO) != 0) st with pos := p, index := p } := by
      cases cb with
      | sym g₁ ch g₂ =>
        obtain ⟨hg₁, hg₂, hcomb⟩ := hcb
        exact step_comb B s _ flags st (c := ch)
          (by simpa [renderRest, SComb.render, List.append_assoc] using hd) hg₁ hg₂ hcomb hRng hrel hs
      | desc g =>
        exact step_desc B s _ flags st
          (by simpa [renderRest, SComb.render, List.append_assoc] using hd) hcb hRng
          (by simp [hx]) (by simp [hx, hxc]) (by simp [hx, hx41]) hrel hs
    obtain ⟨p₂, i₂, hp₂, h₂⟩ := run_compound c flags
      { combStep cb.value ((flags &&& FLG_PSEUDO) != 0) st with pos := p₁, index := p₁ }
      (fuel + restSize rest) (renderRest rest ++ r) hp₁ hc hsafe (by omega)
      (combStep_facts _ _ st).1
    have hst : ({ ({ combStep cb.value ((flags &&& FLG_PSEUDO) != 0) st with pos := p₁, index := p₁ } : LS) with
        pos := p₂, index := i₂,
        sel := c.value.buildOn B ({ combStep cb.value ((flags &&& FLG_PSEUDO) != 0) st with
          pos := p₁, index := p₁ } : LS).sel,
        hasSelector := true } : LS) =
        setF { combStep cb.value ((flags &&& FLG_PSEUDO) != 0) st with
          sel := c.value.buildOn B SelB.empty, hasSelector := true } p₂ i₂ st.custom := by
      rw [← (combStep_facts cb.value ((flags &&& FLG_PSEUDO) != 0) st).2.2]
      exact slot_state _ (combStep_facts _ _ st).2.1 _ _ _ _ _ _ _
    rw [hst] at h₂
    obtain ⟨p, idx, hp, h₃⟩ := run_rest rest flags
      (setF { combStep cb.value ((flags &&& FLG_PSEUDO) != 0) st with
          sel := c.value.buildOn B SelB.empty, hasSelector := true } p₂ i₂ st.custom)
      fuel r hrel hp₂ hrest hr (by omega) rfl
    refine ⟨p, idx, hp, ?_⟩
    have hf : fuel + restSize ((cb, c) :: rest) = fuel + restSize rest + c.size + 1 := by
      simp [restSize]; omega
    rw [hf, h₁, h₂, h₃, foldRest_frame, setF_setF, restValue, foldRest]
    rfl
theorem run_list : ∀ (l : SSelList) (fl pos idx : Nat) (cust : Custom) (f : Nat) (g₂ r : Str),
    NestedFlags fl → s.drop pos = l.render ++ (g₂ ++ 41 :: r) → l.ok (g₂ ++ 41 :: r) → isGap g₂ →
    l.cost ≤ f →
    ∃ p', s.drop p' = r ∧
      parseSelectors pyFoldEnv Gen.lexicon B s (f + 1) pos idx fl cust =
        .ok (finishNested ((fl &&& FLG_NOT) != 0) (l.value.loopState B true), p', cust)
  | .mk first rest, fl, pos, idx, cust, f, g₂, r, hfl, hd, hok, hg₂, hcost => by
    rw [SSelList.ok] at hok
    obtain ⟨hfirst, hrest⟩ := hok
    rw [SSelList.cost] at hcost
    obtain ⟨hrel, hps, hopen⟩ := nested_flags_facts fl hfl
    have hsafe0 := safeStart_close g₂ r hg₂
    have hsafe := safeStart_rest rest _ hrest hsafe0
    rw [SSelList.render, List.append_assoc] at hd
    rw [parseSelectors_succ, initLS_nested pos idx fl cust hfl]
    obtain ⟨p₁, i₁, hp₁, h₁⟩ := run_compound first fl (setF ({} : LS) pos idx cust)
      (f - first.size) _ hd hfirst hsafe (by omega) rfl
    rw [show f - first.size + first.size = f by omega] at h₁
    -- `h₁`, `h₂` with the states written through `setF`, as the rewrites below need them
    have h₁' : parseLoop pyFoldEnv Gen.lexicon B s f fl (setF ({} : LS) pos idx cust) =
        parseLoop pyFoldEnv Gen.lexicon B s (f - first.size) fl
          (setF { sel := first.value.buildOn B SelB.empty, hasSelector := true } p₁ i₁ cust) := h₁
    obtain ⟨p₂, i₂, hp₂, h₂⟩ := run_rest rest fl
      (setF { sel := first.value.buildOn B SelB.empty, hasSelector := true } p₁ i₁ cust)
      (f - first.size - restSize rest) _ hrel hp₁ hrest hsafe0 (by omega) rfl
    rw [show f - first.size - restSize rest + restSize rest = f - first.size by omega] at h₂
    obtain ⟨k, hk⟩ : ∃ k, f - first.size - restSize rest = k + 1 :=
      ⟨f - first.size - restSize rest - 1, by omega⟩
    rw [hk] at h₂
    have h₂' : parseLoop pyFoldEnv Gen.lexicon B s (f - first.size) fl
        (setF { sel := first.value.buildOn B SelB.empty, hasSelector := true } p₁ i₁ cust) =
      parseLoop pyFoldEnv Gen.lexicon B s (k + 1) fl
        (setF (foldRest B ((fl &&& FLG_PSEUDO) != 0) (restValue rest)
          (setF { sel := first.value.buildOn B SelB.empty, hasSelector := true } p₁ i₁ cust)) p₂ i₂ cust) := h₂
    obtain ⟨p', hp', h₃⟩ := step_close s B k fl
      (setF (foldRest B ((fl &&& FLG_PSEUDO) != 0) (restValue rest)
        (setF { sel := first.value.buildOn B SelB.empty, hasSelector := true } p₁ i₁ cust)) p₂ i₂ cust)
      hp₂ hg₂ (by
        rw [foldRest_frame]
        exact foldRest_hasSelector B _ _ _ rfl) hopen
    refine ⟨p', hp', ?_⟩
    rw [h₁', h₂', h₃]
    simp only
    rw [finishSel_nested B s fl _ hfl (by
      rw [foldRest_frame]
      exact foldRest_hasSelector B _ _ _ rfl) rfl]
    rw [hps, foldRest_frame, SSelList.value, SelListV.loopState]
    rfl
end

/-- The top-level loop (flags 0) at the text of a selector list `l`, admissible in front of `r`, inside any
    pattern and with fuel `f ≥ l.cost`: after the tokens of `l` it stands in front of `r`, in the state the
    values of `l` determine, with more than `f - l.cost` units of fuel left. -/
theorem run_list_top (l : SSelList) (p₀ f : Nat) (r : Str)
    (hd : s.drop p₀ = l.render ++ r) (hok : l.ok r) (hr : SafeStart r) (hf : l.cost ≤ f) :
    ∃ p idx k, s.drop p = r ∧ f - l.cost < k ∧
      parseLoop pyFoldEnv Gen.lexicon B s f 0 (initLS p₀ 0 0 []) =
        parseLoop pyFoldEnv Gen.lexicon B s k 0 (setF (l.value.loopState B false) p idx []) := by
  obtain ⟨first, rest⟩ := l
  rw [SSelList.ok] at hok
  obtain ⟨hfirst, hrest⟩ := hok
  rw [SSelList.cost] at hf ⊢
  obtain ⟨k, rfl⟩ : ∃ k, f = k + restSize rest + first.size := ⟨f - (first.size + restSize rest), by omega⟩
  obtain ⟨p₁, i₁, hp₁, h₁⟩ := run_compound B s first 0 (initLS p₀ 0 0 []) (k + restSize rest)
    (renderRest rest ++ r) (by rw [← List.append_assoc]; exact hd) hfirst (safeStart_rest rest r hrest hr)
    (by omega) rfl
  obtain ⟨p, idx, hp, h₂⟩ := run_rest B s rest 0
    (setF { sel := first.value.buildOn B SelB.empty, hasSelector := true } p₁ i₁ [])
    k r rfl hp₁ hrest hr (by omega) rfl
  refine ⟨p, idx, k, hp, by omega, h₁.trans (h₂.trans ?_)⟩
  rw [foldRest_frame, setF_setF]
  rfl

end Run

/-- `compile` with no custom selectors and no NUL in the pattern: the loop, then `finishSel`. -/
theorem compile_unfold (B : Builtins) (pattern : Str) (flags : Nat) (h0 : ∀ c ∈ pattern, c ≠ 0) :
    Parser.compile pyFoldEnv Gen.lexicon B pattern [] flags =
      match parseLoop pyFoldEnv Gen.lexicon B pattern (2 * pattern.length + 7) flags
          (initLS (startIndex (penv B pattern)) 0 flags []) with
      | .error e => .error e
      | .ok st =>
        match finishSel pyFoldEnv Gen.lexicon B pattern flags st with
        | .error e => .error e
        | .ok r => .ok r.1 := by
  rw [C06.compile_eq, C06.compileF_def]
  have hc : processCustom pyFoldEnv Gen.lexicon [] = .ok [] := rfl
  rw [hc]
  simp only [nulFix_id pattern h0]
  have : C06.allotted pattern [] = (2 * pattern.length + 7) + 1 := by
    simp [C06.allotted, nulFix_id pattern h0]
  rw [this, parseSelectors_succ]
  cases parseLoop pyFoldEnv Gen.lexicon B pattern (2 * pattern.length + 7) flags
      (initLS (startIndex (penv B pattern)) 0 flags []) <;> rfl

/-- **The compiled result, computed from the values.**  For every selector list `l` of the covered
    grammar written in any admissible spelling (`l.ok`), with arbitrary gaps `g₁`, `g₂` at the two ends,
    `Parser.compile` on the text returns the structure `denote` computes from the VALUES of `l` alone. -/
theorem compile_eq_denote (B : Builtins) (g₁ g₂ : Str) (l : SSelList)
    (hg₁ : isGap g₁) (hg₂ : isGap g₂) (hok : l.ok g₂)
    (h0 : ∀ x ∈ g₁ ++ l.render ++ g₂, x ≠ 0) :
    Parser.compile pyFoldEnv Gen.lexicon B (g₁ ++ l.render ++ g₂) [] 0 = .ok (denote B l.value) := by
  have hcost := l.cost_le g₂ hok
  rw [compile_unfold B _ 0 h0]
  generalize hs : g₁ ++ l.render ++ g₂ = s
  have hstart : s.drop (startIndex (penv B s)) = l.render ++ g₂ := by
    rw [startIndex_drop, ← hs, List.append_assoc, C09.skipWSC_append_gen g₁ _ hg₁]
    exact SpellingLemmas.skipWSC_of_noGapStart _ (l.render_noGap _ _ hok)
  have hlen : l.render.length ≤ s.length := by rw [← hs]; simp; omega
  obtain ⟨p, idx, k, hp, _, h⟩ := run_list_top B s l _ (2 * s.length + 7) g₂ hstart hok (safeStart_gap g₂ hg₂)
    (by omega)
  rw [h, parseLoop_end B s _ 0 _ (by show isGap (s.drop p); rw [hp]; exact hg₂)]
  simp only
  rw [finishSel_top B s (setF _ p idx []) (l.value.loopState_hasSelector B false)]
  rfl

/-- **Spelling invariance of the compiled result (the part of `compile_spelling_invariant` that is
    proved).**  Two texts of the covered grammar — any gaps, any escapes, any quotes, any letter case of
    keywords — that spell the same values compile to the same structure. -/
theorem compile_spelling_invariant_partial (B : Builtins) (g₁ g₂ g₁' g₂' : Str) (l l' : SSelList)
    (hg₁ : isGap g₁) (hg₂ : isGap g₂) (hg₁' : isGap g₁') (hg₂' : isGap g₂')
    (hok : l.ok g₂) (hok' : l'.ok g₂')
    (h0 : ∀ x ∈ g₁ ++ l.render ++ g₂, x ≠ 0) (h0' : ∀ x ∈ g₁' ++ l'.render ++ g₂', x ≠ 0)
    (hval : l.value = l'.value) :
    Parser.compile pyFoldEnv Gen.lexicon B (g₁ ++ l.render ++ g₂) [] 0 =
      Parser.compile pyFoldEnv Gen.lexicon B (g₁' ++ l'.render ++ g₂') [] 0 := by
  rw [compile_eq_denote B g₁ g₂ l hg₁ hg₂ hok h0, compile_eq_denote B g₁' g₂' l' hg₁' hg₂' hok' h0', hval]

#print axioms compile_eq_denote
#print axioms compile_spelling_invariant_partial

/-! ## Non-vacuity: a concrete instance -/

/-- ` d\69 v > .x` -/
def exampleA : SSelList :=
  .mk (.mk (some (.name [(100, .lit), (105, .hex 2 [] (some .space)), (118, .lit)])) [])
    [(.sym [32] 62 [32], .mk none [.cls [(120, .lit)]])]

/-- `div/**/>.\78 ` (the space ends the escape) -/
def exampleB : SSelList :=
  .mk (.mk (some (.name [(100, .lit), (105, .lit), (118, .lit)])) [])
    [(.sym [47, 42, 42, 47] 62 [], .mk none [.cls [(120, .hex 2 [] (some .space))]])]

theorem exampleA_ok : exampleA.ok [] := by
  simp only [exampleA, SSelList.ok, SCompound.ok, restOK, itemsOK, SItem.ok, STag.ok, SComb.ok, identOK,
    renderRest, renderItems, SComb.render, SCompound.render, SItem.render]
  decide

theorem exampleB_ok : exampleB.ok [] := by
  simp only [exampleB, SSelList.ok, SCompound.ok, restOK, itemsOK, SItem.ok, STag.ok, SComb.ok, identOK,
    renderRest, renderItems, SComb.render, SCompound.render, SItem.render]
  decide

theorem example_text : ([32] ++ exampleA.render ++ []) = " d\\69 v > .x".toStr ∧
    ([] ++ exampleB.render ++ []) = "div/**/>.\\78 ".toStr := by decide_lit

example : ([32] ++ exampleA.render ++ []) = " d\\69 v > .x".toStr ∧
    ([] ++ exampleB.render ++ []) = "div/**/>.\\78 ".toStr := example_text

example : Parser.compile pyFoldEnv Gen.lexicon Gen.builtinsRec " d\\69 v > .x".toStr [] 0 =
    Parser.compile pyFoldEnv Gen.lexicon Gen.builtinsRec "div/**/>.\\78 ".toStr [] 0 := by
  rw [← example_text.1, ← example_text.2]
  exact compile_spelling_invariant_partial Gen.builtinsRec [32] [] [] [] exampleA exampleB
    (by decide) (by decide) (by decide) (by decide) exampleA_ok exampleB_ok (by decide) (by decide) rfl

end C09Compile
end SoupVerif
