/-
  C19, tied to the PARSER by proof: `:-soup-contains(v1, …, vk)`, `:-soup-contains-own(…)` and the deprecated
  alias `:contains(…)` from the selector TEXT.

  `Properties/C09Compile2.lean`: the parser model on the text of `:NAME(` gap VALUES gap `)` in any spelling
  (values quoted or bare, escapes, gaps and comments around the commas, the name in any letter case or with
  escapes) adds ONE `SelectorContains` record — the VALUES in source order, `own` iff the name is
  `:-soup-contains-own` — to the compound (`Item.contains`, `SelB.addContains`).  `Properties/C19.lean`:
  `match_contains` on such a record is the structural specification of `Spec/Text.lean`
  (`contains_iff_prop`, `containsOwn_iff_prop`: `Spec.Contains` / `Spec.ContainsOwn` — some value occurs in the
  concatenation, in document order, of the text nodes among the descendants / within a single text node that
  is a direct child; comments, CDATA, processing instructions, declarations and doctypes are not text; the
  content of an `iframe` is cut in an HTML document: `cutOf c c.isHtml`).  Composed here (with `ListText`, `one`,
  `selOf`, `withItem` of `Refine/TextVerdict.lean`): a compound matches iff its type
  selector passes and every item alone holds (`C09Compile2.matchSel_freeze_compound`), and the item `:NAME(V)` alone
  is `match_contains` on its ONE record (`Item.holds_contains`), each record of a compound being tested on its own
  kind of content; hence `X:NAME(V)` matches iff `X` does and `TextCond` holds of the VALUES, for ANY non-empty
  compound `X`; the three names, and the alias `:contains`, are instances.

  Hypotheses: `ListText` (the side conditions of `C09Compile2`: gaps, `ok`, no custom selector, no NUL).  No
  hypothesis on the context or the tree; `l` is the location of an element `e` (for the document object the
  verdict is false).  `denote` builds `⟨V.values, own⟩ : ContainsSel`, which is the argument of
  `C19.contains_iff_prop` / `containsOwn_iff_prop`.
-/
import SoupVerif.Refine.TextVerdict
import SoupVerif.Properties.C19
import SoupVerif.Refine.BuilderMerge
import SoupVerif.Lemmas.StrLit
namespace SoupVerif
namespace C19Parse
open SoupVerif.Parser ParserProgress Refine.Compile Spelling
open C09Compile (Forms)
open C09Compile2
open C01Parse (implB implTag)
open C05Parse (ListText one withItem selOf one_render withItem_render withItem_isEmpty)
open C12Parse (matchText matchTextApi TagCond)
open TextLemmas (cutOf)

/-! ## The matcher on a compound with one more text pseudo-class -/

/-- `own` of the record: the name is `:-soup-contains-own`. -/
def ownOf (f : Forms) : Bool := 58 :: lower (valueOf f) == ":-soup-contains-own".toStr

/-- **`X:NAME(V)` at the top level: the compound `X`, and `match_contains` on the one record
    `⟨VALUES, own⟩`** — what the item alone demands (`C05Parse.matchSel_withItem`). -/
theorem matchSel_withContains (B : Builtins) (c : Ctx) (l : Loc) (e : Elem) (X : SCompound) (f : Forms)
    (i₁ : Str) (V : SValues) (i₂ : Str) :
    matchSel c l e (selOf B (withItem X (.contains f i₁ V i₂))) =
      (matchSel c l e (selOf B X) && matchContains c l [⟨V.values, ownOf f⟩]) := by
  rw [C05Parse.matchSel_withItem, SItem.value, Item.holds_contains]
  rfl

/-! ## C19 on selector TEXT -/

/-- What `:-soup-contains(vs)` (`own = false`) / `:-soup-contains-own(vs)` (`own = true`) says about the node
    at `l`, by the structural specification of `Spec/Text.lean`: some value occurs in the concatenation, in
    document order, of the text nodes among the descendants / within a single text node that is a direct
    child.  Only `.text` strings are text; the content of an `iframe` is cut in an HTML document. -/
def TextCond (c : Ctx) (l : Loc) (own : Bool) (vs : List Str) : Prop :=
  if own = true then Spec.ContainsOwn (cutOf c c.isHtml) vs l.focus
  else Spec.Contains (cutOf c c.isHtml) vs l.focus

theorem matchContains_one (c : Ctx) (l : Loc) (own : Bool) (vs : List Str) :
    matchContains c l [⟨vs, own⟩] = true ↔ TextCond c l own vs := by
  cases own with
  | false => simpa [TextCond] using C19.contains_iff_prop c l vs
  | true => simpa [TextCond] using C19.containsOwn_iff_prop c l vs

section Laws
variable (c : Ctx) (l : Loc) (e : Elem) (kids : List Node) (hf : l.focus = .elem e kids)
include hf

/-- **`X:NAME(v1, …, vk)`** — `NAME` one of `-soup-contains`, `-soup-contains-own`, `contains`, in any spelling;
    `X` ANY non-empty compound of the grammar of `C09Compile2` (it may itself contain text pseudo-classes, of
    either kind) — **matches exactly when `X` matches and `TextCond` holds of the VALUES**, from the TEXT. -/
theorem contains_compound_text (X : SCompound) (f : Forms) (i₁ i₂ : Str) (V : SValues) (g₁ g₂ gX₁ gX₂ : Str)
    (hXC : ListText g₁ (one (withItem X (.contains f i₁ V i₂))) g₂) (hX : ListText gX₁ (one X) gX₂) :
    ∃ bXC bX,
      matchText c (g₁ ++ (X.render ++ (SItem.contains f i₁ V i₂).render) ++ g₂) l = .ok bXC ∧
      matchText c (gX₁ ++ X.render ++ gX₂) l = .ok bX ∧
      (bXC = true ↔ bX = true ∧ TextCond c l (ownOf f) V.values) := by
  refine ⟨_, _, by rw [← withItem_render]; exact hXC.one_verdict c l e kids hf, hX.one_verdict c l e kids hf, ?_⟩
  rw [matchSel_withContains, ← matchContains_one]
  simp only [Bool.and_eq_true, and_assoc]

/-- **`E:NAME(v1, …, vk)`, `E` an optional type selector (`ns|E`, `*|E`, `|E`, `E`, `*`, or none), in EVERY
    spelling**: the parser model accepts the text, and the matcher model run on the result accepts the element
    iff it is not the document object, its type passes (`TagCond`; without a type selector the implied `*`,
    i.e. the default namespace) and `TextCond` holds of the VALUES. -/
theorem contains_type_text (tag : Option STagN) (f : Forms) (i₁ i₂ : Str) (V : SValues) (g₁ g₂ : Str)
    (h : ListText g₁ (one (.mk tag [.contains f i₁ V i₂])) g₂) :
    ∃ b, matchText c (g₁ ++ (SCompound.mk tag [.contains f i₁ V i₂]).render ++ g₂) l = .ok b ∧
      (b = true ↔ e.isDoc = false ∧ TagCond c e (tag.map STagN.value) ∧ TextCond c l (ownOf f) V.values) := by
  refine h.compound_iff c l e kids hf ?_
  simp only [itemsValue, SItem.value, List.all_cons, List.all_nil, Bool.and_true, Item.holds_contains]
  exact matchContains_one c l _ _

/-- **`E:-soup-contains(v1, …, vk)`**: some `vi` occurs in the concatenation, in document order, of the text
    nodes among the descendants of the element. -/
theorem soup_contains_text (tag : Option STagN) (f : Forms) (i₁ i₂ : Str) (V : SValues) (g₁ g₂ : Str)
    (hn : 58 :: lower (valueOf f) = ":-soup-contains".toStr)
    (h : ListText g₁ (one (.mk tag [.contains f i₁ V i₂])) g₂) :
    ∃ b, matchText c (g₁ ++ (SCompound.mk tag [.contains f i₁ V i₂]).render ++ g₂) l = .ok b ∧
      (b = true ↔ e.isDoc = false ∧ TagCond c e (tag.map STagN.value) ∧
        Spec.Contains (cutOf c c.isHtml) V.values l.focus) := by
  have h2 := contains_type_text c l e kids hf tag f i₁ i₂ V g₁ g₂ h
  rw [show ownOf f = false by rw [ownOf, hn]; decide_lit] at h2
  exact h2

/-- **`E:contains(v1, …, vk)`** (the deprecated alias): as `:-soup-contains`. -/
theorem contains_alias_text (tag : Option STagN) (f : Forms) (i₁ i₂ : Str) (V : SValues) (g₁ g₂ : Str)
    (hn : 58 :: lower (valueOf f) = ":contains".toStr)
    (h : ListText g₁ (one (.mk tag [.contains f i₁ V i₂])) g₂) :
    ∃ b, matchText c (g₁ ++ (SCompound.mk tag [.contains f i₁ V i₂]).render ++ g₂) l = .ok b ∧
      (b = true ↔ e.isDoc = false ∧ TagCond c e (tag.map STagN.value) ∧
        Spec.Contains (cutOf c c.isHtml) V.values l.focus) := by
  have h2 := contains_type_text c l e kids hf tag f i₁ i₂ V g₁ g₂ h
  rw [show ownOf f = false by rw [ownOf, hn]; decide_lit] at h2
  exact h2

/-- **`E:-soup-contains-own(v1, …, vk)`**: some `vi` occurs within a single text node that is a direct child
    of the element. -/
theorem soup_contains_own_text (tag : Option STagN) (f : Forms) (i₁ i₂ : Str) (V : SValues) (g₁ g₂ : Str)
    (hn : 58 :: lower (valueOf f) = ":-soup-contains-own".toStr)
    (h : ListText g₁ (one (.mk tag [.contains f i₁ V i₂])) g₂) :
    ∃ b, matchText c (g₁ ++ (SCompound.mk tag [.contains f i₁ V i₂]).render ++ g₂) l = .ok b ∧
      (b = true ↔ e.isDoc = false ∧ TagCond c e (tag.map STagN.value) ∧
        Spec.ContainsOwn (cutOf c c.isHtml) V.values l.focus) := by
  have h2 := contains_type_text c l e kids hf tag f i₁ i₂ V g₁ g₂ h
  rw [show ownOf f = true by rw [ownOf, hn]; decide_lit] at h2
  exact h2

/-- **Only the VALUES and the kind count**: two texts `X:NAME(V)`, `X:NAME'(V')` with equal VALUES and the same
    kind (`:contains` and `:-soup-contains` are one kind) have the same verdict — any spelling of the names,
    of the values (quoted, bare, escaped), of the gaps. -/
theorem contains_spelling_text (X : SCompound) (f f' : Forms) (i₁ i₂ i₁' i₂' : Str) (V V' : SValues)
    (g₁ g₂ g₁' g₂' : Str) (hv : V.values = V'.values) (hk : ownOf f = ownOf f')
    (h : ListText g₁ (one (withItem X (.contains f i₁ V i₂))) g₂)
    (h' : ListText g₁' (one (withItem X (.contains f' i₁' V' i₂'))) g₂') :
    ∃ b, matchText c (g₁ ++ (X.render ++ (SItem.contains f i₁ V i₂).render) ++ g₂) l = .ok b ∧
      matchText c (g₁' ++ (X.render ++ (SItem.contains f' i₁' V' i₂').render) ++ g₂') l = .ok b := by
  refine ⟨_, by rw [← withItem_render]; exact h.one_verdict c l e kids hf, ?_⟩
  rw [← withItem_render, h'.one_verdict c l e kids hf, matchSel_withContains, matchSel_withContains, hv, hk]

end Laws

/-- `SoupSieve.match` on the text (`matchTextApi E isXml ns = matchText (mkCtx E isXml ns l)`). -/
theorem contains_type_text_api (E : Env) (isXml : Bool) (ns : List (Str × Str)) (l : Loc) (e : Elem)
    (kids : List Node) (hf : l.focus = .elem e kids) (tag : Option STagN) (f : Forms) (i₁ i₂ : Str)
    (V : SValues) (g₁ g₂ : Str) (h : ListText g₁ (one (.mk tag [.contains f i₁ V i₂])) g₂) :
    ∃ b, matchTextApi E isXml ns (g₁ ++ (SCompound.mk tag [.contains f i₁ V i₂]).render ++ g₂) l = .ok b ∧
      (b = true ↔ e.isDoc = false ∧ TagCond (mkCtx E isXml ns l) e (tag.map STagN.value) ∧
        TextCond (mkCtx E isXml ns l) l (ownOf f) V.values) :=
  contains_type_text (mkCtx E isXml ns l) l e kids hf tag f i₁ i₂ V g₁ g₂ h

/-! ## Non-vacuity: concrete texts on the tree of `Properties/C19.lean` -/

namespace Examples
open C19 (chtml sample sampleLoc)

def lits (s : String) : Forms := s.toStr.map fun c => (c, EscForm.lit)
def divE : Elem := { isDoc := false, name := "div".toStr, pfx := none, ns := none, attrs := [] }

theorem sample_focus : sampleLoc.focus = .elem divE sample.kids := rfl

/-- `div:-soup-CONTAINS( "zz" , b\63 )` (the second value is `bc`, spelled with an escape) -/
def cA : SCompound :=
  .mk (some ⟨none, .name (lits "div")⟩)
    [.contains (lits "-soup-CONTAINS") [32]
      ⟨.str 34 ("zz".toStr.map fun c => .ch c .lit), [([32], [32], .ident [(98, .lit), (99, .hex 2 [] none)])]⟩ []]

/-- `:-soup-contains-own(ab)` -/
def cB : SCompound := .mk none [.contains (lits "-soup-contains-own") [] ⟨.ident (lits "ab"), []⟩ []]

/-- `div:contains('cd')` -/
def cC : SCompound :=
  .mk (some ⟨none, .name (lits "div")⟩)
    [.contains (lits "contains") [] ⟨.str 39 ("cd".toStr.map fun c => .ch c .lit), []⟩ []]

theorem cA_text : ListText [] (one cA) [32] :=
  ListText.of_compound (by decide) (by decide)
    (by
      simp only [cA, SCompound.ok, itemsOK, SItem.ok, STagN.ok, C09Compile.STag.ok, C09Compile.identOK,
          SValues.ok, vrestOK, C09Compile.SValue.ok, containsName]
      decide +kernel)
    rfl (by simp [cA, SCompound.tbl, itemsTbl, SItem.tbl]) (by decide +kernel)

theorem cB_text : ListText [] (one cB) [] :=
  ListText.of_compound (by decide) (by decide)
    (by
      simp only [cB, SCompound.ok, itemsOK, SItem.ok, C09Compile.identOK, SValues.ok, vrestOK, containsName,
          C09Compile.SValue.ok]
      decide +kernel)
    rfl (by simp [cB, SCompound.tbl, itemsTbl, SItem.tbl]) (by decide +kernel)

theorem cC_text : ListText [] (one cC) [] :=
  ListText.of_compound (by decide) (by decide)
    (by
      simp only [cC, SCompound.ok, itemsOK, SItem.ok, STagN.ok, C09Compile.STag.ok, C09Compile.identOK,
          SValues.ok, vrestOK, C09Compile.SValue.ok, containsName]
      decide +kernel)
    rfl (by simp [cC, SCompound.tbl, itemsTbl, SItem.tbl]) (by decide +kernel)

theorem cA_render : [] ++ cA.render ++ [32] = "div:-soup-CONTAINS( \"zz\" , b\\63) ".toStr := by decide_lit
theorem cB_render : [] ++ cB.render ++ [] = ":-soup-contains-own(ab)".toStr := by decide_lit
theorem cC_render : [] ++ cC.render ++ [] = "div:contains('cd')".toStr := by decide_lit

example : ([] ++ cA.render ++ [32]) = "div:-soup-CONTAINS( \"zz\" , b\\63) ".toStr ∧
    ([] ++ cB.render ++ []) = ":-soup-contains-own(ab)".toStr ∧
    ([] ++ cC.render ++ []) = "div:contains('cd')".toStr := ⟨cA_render, cB_render, cC_render⟩

/-- `bc` occurs across two text nodes (`a`,`b` | `c`): instance of `soup_contains_text`. -/
example : matchText chtml "div:-soup-CONTAINS( \"zz\" , b\\63) ".toStr sampleLoc = .ok true := by
  rw [← cA_render]
  exact C12Parse.ok_true_of
    (soup_contains_text chtml sampleLoc divE _ sample_focus _ _ _ _ _ [] [32] (by decide +kernel) cA_text)
    ⟨rfl, ⟨Or.inl rfl, Or.inr (by unfold C12.NameEq; decide)⟩,
      (C19.contains_spec _ _ _).mp (by decide +kernel)⟩

/-- `ab` is in no SINGLE direct text child: instance of `soup_contains_own_text`. -/
example : matchText chtml ":-soup-contains-own(ab)".toStr sampleLoc = .ok false := by
  rw [← cB_render]
  exact C12Parse.ok_false_of
    (soup_contains_own_text chtml sampleLoc divE _ sample_focus _ _ _ _ _ [] [] (by decide +kernel) cB_text)
    (by
      rintro ⟨_, _, h⟩
      exact absurd ((C19.containsOwn_spec _ _ _).mpr h) (by decide +kernel))

/-- `cd` lies around the cut `iframe`: instance of `contains_alias_text`. -/
example : matchText chtml "div:contains('cd')".toStr sampleLoc = .ok true := by
  rw [← cC_render]
  exact C12Parse.ok_true_of
    (contains_alias_text chtml sampleLoc divE _ sample_focus _ _ _ _ _ [] [] (by decide +kernel) cC_text)
    ⟨rfl, ⟨Or.inl rfl, Or.inr (by unfold C12.NameEq; decide)⟩,
      (C19.contains_spec _ _ _).mp (by decide +kernel)⟩

def isOk (x : Except Parser.Err Bool) (b : Bool) : Bool :=
  match x with
  | .ok b' => b == b'
  | .error _ => false

-- the model evaluated directly on the same texts (and a few more), as a cross-check
#guard isOk (matchText chtml "div:-soup-CONTAINS( \"zz\" , b\\63) ".toStr sampleLoc) true
#guard isOk (matchText chtml ":-soup-contains-own(ab)".toStr sampleLoc) false
#guard isOk (matchText chtml "div:contains('cd')".toStr sampleLoc) true
#guard isOk (matchText chtml ":-soup-contains(I)".toStr sampleLoc) false          -- inside the iframe
#guard isOk (matchText C19.cxml ":-soup-contains(cIJd)".toStr sampleLoc) true     -- XML: no cut
#guard isOk (matchText chtml ":-soup-contains(X)".toStr sampleLoc) false          -- a comment is not text
#guard isOk (matchText chtml ":-soup-contains-own(b):-soup-contains(cd)".toStr sampleLoc) true
#guard isOk (matchText chtml ":-soup-contains(cd):-soup-contains-own(b)".toStr sampleLoc) true

end Examples

#print axioms matchSel_withContains
#print axioms contains_compound_text
#print axioms contains_type_text
#print axioms soup_contains_text
#print axioms contains_alias_text
#print axioms soup_contains_own_text
#print axioms contains_spelling_text
#print axioms contains_type_text_api

end C19Parse
end SoupVerif
