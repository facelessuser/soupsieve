/-
  C02: the generated adjustment block of `match_nth` (`Generated/PyNth.lean`) ENDS — with the fuels the hand model
  `Nth.matchOne` supplies — and `Nth.matchOne` restated on the generated pieces.
-/
import SoupVerif.Properties.C02GenNth
namespace SoupVerif
namespace C02GenNth
open Nth PyWhile Gen.PyNth

/-- the first adjustment loop ends within `|idx| + (last_index + 1) + 2` turns -/
theorem loop1_terminates (a b L : Int) :
    ∀ (fuel : Nat) (count idx lastIdx : Int) (adj : Option Bool),
      (idx < 1 → (adj = some true ∧ 1 ≤ fuel) ∨ (adj ≠ some true ∧ 2 - idx ≤ (fuel : Int))) →
      (idx > L + 1 → (adj = some false ∧ 1 ≤ fuel) ∨ (adj ≠ some false ∧ idx - L ≤ (fuel : Int))) →
      ∃ r, whileBrk (loop1Cond L a b true 1) (loop1Step L a b true 1) fuel
        (count, idx, lastIdx, encode adj) = some r := by
  intro fuel
  induction fuel with
  | zero =>
    intro count idx lastIdx adj hlo hhi
    have h1 : ¬ idx < 1 := fun h => by rcases hlo h with ⟨_, h'⟩ | ⟨_, h'⟩ <;> omega
    have h3 : ¬ idx > L + 1 := fun h => by rcases hhi h with ⟨_, h'⟩ | ⟨_, h'⟩ <;> omega
    rw [whileBrk_zero, if_neg (by simp [loop1Cond, h1, h3])]
    exact ⟨_, rfl⟩
  | succ n ih =>
    intro count idx lastIdx adj hlo hhi
    rw [loop1_succ]
    by_cases h1 : idx < 1
    · rw [if_pos h1]
      split
      · exact ⟨_, rfl⟩
      · rename_i hadj
        split
        · exact ⟨_, rfl⟩
        · -- still below 1 and closer to it: the budget `2 - idx` has gone down
          have hf : 2 - idx ≤ ((n + 1 : Nat) : Int) := by
            rcases hlo h1 with ⟨h', _⟩ | ⟨_, h'⟩
            · rw [h'] at hadj; exact absurd rfl hadj
            · exact h'
          exact ih _ _ _ (some false) (fun _ => .inr ⟨nofun, by omega⟩) (fun _ => .inl ⟨rfl, by omega⟩)
    · rw [if_neg h1]
      by_cases h3 : idx > L + 1
      · rw [if_pos h3]
        split
        · exact ⟨_, rfl⟩
        · rename_i hadj
          split
          · exact ⟨_, rfl⟩
          · have hf : idx - L ≤ ((n + 1 : Nat) : Int) := by
              rcases hhi h3 with ⟨h', _⟩ | ⟨_, h'⟩
              · rw [h'] at hadj; exact absurd rfl hadj
              · exact h'
            exact ih _ _ _ (some true) (fun _ => .inl ⟨rfl, by omega⟩) (fun _ => .inr ⟨nofun, by omega⟩)
      · rw [if_neg h3]; exact ⟨_, rfl⟩

theorem loop1_inv (a b L : Int) (fuel : Nat) (count idx lastIdx : Int) (x : Option Int)
    (r : Int × Int × Int × Option Int) (h0 : idx = a * count + b)
    (h : whileBrk (loop1Cond L a b true 1) (loop1Step L a b true 1) fuel (count, idx, lastIdx, x) = some r) :
    r.2.1 = a * r.1 + b := by
  refine whileBrk_inv _ _ (fun st => st.2.1 = a * st.1 + b) ?_ fuel _ r h0 h
  rintro ⟨c, i, l, x⟩ _ hP
  simp only at hP
  simp only [loop1Step, ↓reduceIte]
  (repeat' split) <;> first | exact hP | simp

theorem loop2_terminates (a b : Int) (ha : a < 0) :
    ∀ (fuel : Nat) (count idx lastIdx lowest : Int), idx = a * count + b → idx ≤ (fuel : Int) →
      ∃ r, whileBrk (loop2Cond a b true 1) (loop2Step a b true 1) fuel (count, idx, lastIdx, lowest) = some r := by
  intro fuel
  induction fuel with
  | zero =>
    intro count idx lastIdx lowest h0 hf
    unfold whileBrk
    have hc : ¬ loop2Cond a b true 1 (count, idx, lastIdx, lowest) = true := by
      simp [loop2Cond]; omega
    rw [if_neg hc]; exact ⟨_, rfl⟩
  | succ n ih =>
    intro count idx lastIdx lowest h0 hf
    unfold whileBrk
    by_cases h1 : idx ≥ 1
    · have hc : loop2Cond a b true 1 (count, idx, lastIdx, lowest) = true := by simp [loop2Cond, h1]
      rw [if_pos hc]
      simp only [loop2Step, ↓reduceIte]
      have e : a * (count + 1) + b = idx + a := by rw [Int.mul_add]; omega
      exact ih _ _ _ _ rfl (by rw [e]; push_cast at hf; omega)
    · have hc : ¬ loop2Cond a b true 1 (count, idx, lastIdx, lowest) = true := by simp [loop2Cond, h1]
      rw [if_neg hc]; exact ⟨_, rfl⟩

/-- With the fuels `Nth.matchOne` itself supplies, the generated adjustment block ENDS, and its result
    is the model's `(count, count_incr, idx)` — for all integers `a`, `b` and every parent length. -/
theorem adjustBlock_model_fuel (a b : Int) (len : Nat) :
    adjustBlock (b.natAbs + len + 4) ((Nth.adjust a b ((len : Int) - 1) (b.natAbs + len + 4) 0 b none).2.natAbs + 2)
        ((len : Int) - 1) a b true 0 1 b b =
      some (modelAdjust a b ((len : Int) - 1) (b.natAbs + len + 4)
        ((Nth.adjust a b ((len : Int) - 1) (b.natAbs + len + 4) 0 b none).2.natAbs + 2) 0 b) := by
  obtain ⟨r1, h1⟩ := loop1_terminates a b ((len : Int) - 1) (b.natAbs + len + 4) 0 b b none
    (by intro _; right; refine ⟨by simp, ?_⟩; omega)
    (by intro _; right; refine ⟨by simp, ?_⟩; omega)
  have e1 := loop1_sim a b ((len : Int) - 1) _ 0 b b none r1 h1
  have inv := loop1_inv a b ((len : Int) - 1) _ 0 b b _ r1 (by simp) h1
  obtain ⟨c1, i1, l1, x1⟩ := r1
  simp only at e1 inv
  have h1' : whileBrk (loop1Cond ((len : Int) - 1) a b true 1) (loop1Step ((len : Int) - 1) a b true 1)
      (b.natAbs + len + 4) (0, b, b, (none : Option Int)) = some (c1, i1, l1, x1) := h1
  rw [e1]
  show adjustBlock _ (i1.natAbs + 2) _ _ _ _ _ _ _ _ = some (modelAdjust _ _ _ _ (i1.natAbs + 2) _ _)
  suffices h : ∃ r, adjustBlock (b.natAbs + len + 4) (i1.natAbs + 2) ((len : Int) - 1) a b true 0 1 b b = some r by
    obtain ⟨r, h⟩ := h
    have := adjustBlock_eq _ _ a b _ 0 b b r h
    rw [h, this]
  unfold adjustBlock
  simp only [↓reduceIte, h1']
  by_cases ha : a < 0
  · obtain ⟨r2, h2⟩ := loop2_terminates a b ha (i1.natAbs + 2) c1 i1 l1 c1 inv (by omega)
    obtain ⟨c2, i2, l2, x2⟩ := r2
    simp only [ha, decide_true, ↓reduceIte, h2]
    exact ⟨_, rfl⟩
  · simp only [ha, decide_false]
    exact ⟨_, rfl⟩

/-- **`Nth.matchOne` restated on the generated pieces**: the positional matcher model is the generated initial
    state, the generated adjustment block (which ends), then the main loop `Nth.outer` — each turn of which is the generated
    test and the generated advance (`outer_step`) around the child walk `Nth.inner` — started from the block's result. -/
theorem matchOne_gen {α : Type} (counted isEl : α → Bool) (a b : Int) (walk : List α) :
    ∃ r, adjustBlock (b.natAbs + walk.length + 4)
          ((Nth.adjust a b ((walk.length : Int) - 1) (b.natAbs + walk.length + 4) 0 b none).2.natAbs + 2)
          ((walk.length : Int) - 1) a b true 0 1 b b = some r ∧
      Nth.matchOne counted isEl a b true walk =
        Nth.outer counted isEl a b true ((walk.length : Int) - 1) r.2.1
          (walk.length + (if a < 0 then r.1.natAbs else 0) + 3) r.1 r.2.2.1 walk 0 := by
  refine ⟨_, adjustBlock_model_fuel a b walk.length, ?_⟩
  unfold Nth.matchOne modelAdjust
  by_cases ha : a < 0
  · simp [ha, idxOf]
  · simp [ha, idxOf]

/-- **C02 main theorem on the generated start**: on a well-formed walk, the main loop started from the state the GENERATED
    initialisation and adjustment compute answers `∃ n ≥ 0, a·n + b = position`. -/
theorem gen_matchOne_iff {α : Type} (counted isEl : α → Bool) (a b : Int) (walk pre : List α) (e : α) (post : List α)
    (hwalk : walk = pre ++ e :: post) (hpre : ∀ x ∈ pre, isEl x = false)
    (he : isEl e = true) (hc : counted e = true) :
    ∃ r, adjustBlock (b.natAbs + walk.length + 4)
          ((Nth.adjust a b ((walk.length : Int) - 1) (b.natAbs + walk.length + 4) 0 b none).2.natAbs + 2)
          ((walk.length : Int) - 1) a b true 0 1 b b = some r ∧
      (Nth.outer counted isEl a b true ((walk.length : Int) - 1) r.2.1
          (walk.length + (if a < 0 then r.1.natAbs else 0) + 3) r.1 r.2.2.1 walk 0 = true ↔
        ∃ n : Nat, a * (n : Int) + b = (((pre.filter counted).length + 1 : Nat) : Int)) := by
  obtain ⟨r, h, hm⟩ := matchOne_gen counted isEl a b walk
  exact ⟨r, h, by rw [← hm]; exact C02.matchOne_iff counted isEl a b walk pre e post hwalk hpre he hc⟩

end C02GenNth
end SoupVerif
