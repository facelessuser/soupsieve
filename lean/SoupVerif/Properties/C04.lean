/-
  C04  Answers do not depend on query history; matching never mutates the tree.

  Model  : `Memo.matchDefaultM`, `Memo.matchIndeterminateM`, `Memo.langOfM` / `Memo.matchLangM`
           (Model/Memo.lean): the Python functions WITH their memo tables, as a state machine;
           `matchDefault`, `matchIndeterminate`, `langOf` / `matchLang` (Model/Match.lean): the
           same functions without tables.
  Claim  : threading any history of queries through the tables gives, at every step, the answer
           of the table-free function (`history_independent`).

  Setting.  All queried elements belong to one document `d` (`InDoc d l`: following `l.pos` from
  the top of `d` arrives at `l`); under that hypothesis equal positions mean equal locations, which
  is what Python's `f is form` on table keys needs.

  SIDE CONDITION (a deviation candidate of the Python code).  `match_indeterminate` stores the
  bool it computed for the FIRST radio that asked about `(form, name)`; its scan skips
  `child is el`.  The stored bool is therefore "no OTHER radio of the group is checked, other
  than the first asker", and it is re-used for every later asker.  This is transparent only if
  no asker is itself a checked radio of its group (`askerChecked c l = false`):
    * `memo_transparent_indeterminate` / `inv_step_indeterminate` carry that hypothesis;
    * `indeterminate_general` / `indeterminate_second_asker` say exactly what happens without it
      (the second asker receives the first asker's answer);
    * the `example`s at the end exhibit two radios of one group, the second checked, where the
      memoised answer for the second differs from the table-free answer, in both query orders;
    * `guard_list_implies_side`: the guard `:not([checked])` of the
      built-in `:indeterminate` selector implies the side condition in every document kind: the
      attribute selector and the scan compare attribute names by the same rule (lower-cased
      unless the document is XML; ecfbb7b in the library).  The scan also compares the `type` VALUE as
      `[type="radio"]` does (01d00ae) and counts only HTML elements as group members (8eff4e2,
      `Memo.isCheckedRadioOf`); the side condition mentions neither: it is about the ASKER and
      follows from `:not([checked])` alone.  The scan restated in the guard's atoms is
      `C17.checkedRadio_is_guard_radio`, `C17.radioCheckedScan_def`, `C17.scanMember_guarded`.
    * A selector built by hand that sets `SEL_INDETERMINATE` without the guard is outside
      `history_independent` (`Admissible` asks for the side condition).

  Non-mutation is structural in the model: trees are values and no function returns a tree.
-/
import SoupVerif.Lemmas.Memo
import SoupVerif.Lemmas.MatchAlgebra
import SoupVerif.Lemmas.RadioScan
namespace SoupVerif
namespace C04
open Memo MemoLemmas

/-- Every cached entry equals what the table-free function computes. -/
structure MemoInv (d : Doc) (c : Ctx) (σ : State) : Prop where
  /-- `(root, lang)`: the `<meta>` search below `root` is enabled and gives `lang`. -/
  metaLang : ∀ r v, (r, v) ∈ σ.metaLang →
    ∃ root, d.locAt? r = some root ∧ metaCond c root = true ∧ SoupVerif.metaLang c root = v
  /-- `(form, button)`: `button` is the first submit button of `form`. -/
  defaultForms : ∀ f b, (f, b) ∈ σ.defaultForms →
    ∃ form bl, d.locAt? f = some form ∧
      firstSubmit c (c.tagDescendants form true) = some bl ∧ bl.pos = b
  /-- `(form, name, i)`: `i` says whether the group has no checked radio at all. -/
  indeterminateForms : ∀ f n i, (f, n, i) ∈ σ.indeterminateForms →
    ∃ form, d.locAt? f = some form ∧ groupIndeterminate c form n = i

theorem inv_init (d : Doc) (c : Ctx) : MemoInv d c State.init :=
  ⟨by intro r v h; simp [State.init] at h, by intro f b h; simp [State.init] at h,
   by intro f n i h; simp [State.init] at h⟩

theorem default_step {d : Doc} {c : Ctx} {σ : State} (l : Loc) (hinv : MemoInv d c σ) (hl : InDoc d l) :
    (matchDefaultM c σ l).1 = matchDefault c l ∧ MemoInv d c (matchDefaultM c σ l).2 := by
  unfold matchDefaultM matchDefault
  cases hdf : defaultForm c l with
  | none => exact ⟨rfl, hinv⟩
  | some form =>
    have hform : InDoc d form := defaultForm_inDoc c l form hl hdf
    simp only
    cases hfind : σ.defaultForms.find? (fun p => p.1 == form.pos) with
    | some hit =>
      obtain ⟨f, t⟩ := hit
      have hmem := List.mem_of_find?_eq_some hfind
      have hkey : f = form.pos := by simpa using List.find?_some hfind
      obtain ⟨form', bl, hloc, hsub, hb⟩ := hinv.defaultForms f t hmem
      rw [hkey] at hloc
      have : form' = form := hform.of_locAt hloc
      subst this
      simp only [hsub]
      refine ⟨?_, hinv⟩
      rw [← hb]; rfl
    | none =>
      simp only
      cases hsub : firstSubmit c (c.tagDescendants form true) with
      | none => exact ⟨rfl, hinv⟩
      | some b =>
        refine ⟨rfl, ⟨hinv.metaLang, ?_, hinv.indeterminateForms⟩⟩
        intro f t hmem
        simp only [List.mem_append, List.mem_singleton, Prod.mk.injEq] at hmem
        rcases hmem with hmem | ⟨rfl, rfl⟩
        · exact hinv.defaultForms f t hmem
        · exact ⟨form, b, hform, hsub, rfl⟩

theorem memo_transparent_default {d : Doc} {c : Ctx} {σ : State} (l : Loc)
    (hinv : MemoInv d c σ) (hl : InDoc d l) :
    (matchDefaultM c σ l).1 = matchDefault c l := (default_step l hinv hl).1

theorem inv_step_default {d : Doc} {c : Ctx} {σ : State} (l : Loc)
    (hinv : MemoInv d c σ) (hl : InDoc d l) :
    MemoInv d c (matchDefaultM c σ l).2 := (default_step l hinv hl).2

theorem askerChecked_false {c : Ctx} {l : Loc} {e : Elem} {form : Loc}
    (he : l.elem? = some e) (hf : parentForm c l = some form) (h : askerChecked c l = false) :
    isCheckedRadioOf c form (c.attrByName e "name".toStr) l = false := by
  unfold askerChecked at h
  simpa only [he, hf] using h

theorem indeterminate_step {d : Doc} {c : Ctx} {σ : State} (l : Loc) (hinv : MemoInv d c σ)
    (hl : InDoc d l) (hside : askerChecked c l = false) :
    (matchIndeterminateM c σ l).1 = matchIndeterminate c l ∧
      MemoInv d c (matchIndeterminateM c σ l).2 := by
  rw [matchIndeterminate_eq]
  unfold matchIndeterminateM
  cases he : l.elem? with
  | none => exact ⟨rfl, hinv⟩
  | some e =>
    simp only
    cases hpf : parentForm c l with
    | none => exact ⟨rfl, hinv⟩
    | some form =>
      have hform : InDoc d form := parentForm_inDoc c l form hl hpf
      have hs := askerChecked_false he hpf hside
      have hscan := indeterminateScan_eq c form (c.attrByName e "name".toStr) l hform hl hs
      simp only
      cases hfind : σ.indeterminateForms.find?
          (fun p => p.1 == form.pos && p.2.1 == c.attrByName e "name".toStr) with
      | some hit =>
        obtain ⟨f, n, i⟩ := hit
        have hmem := List.mem_of_find?_eq_some hfind
        have hkey : f = form.pos ∧ n = c.attrByName e "name".toStr := by
          simpa using List.find?_some hfind
        obtain ⟨form', hloc, hg⟩ := hinv.indeterminateForms f n i hmem
        rw [hkey.1] at hloc
        have : form' = form := hform.of_locAt hloc
        subst this
        refine ⟨?_, hinv⟩
        simp only
        rw [hscan, ← hkey.2, hg]
      | none =>
        refine ⟨rfl, ⟨hinv.metaLang, hinv.defaultForms, ?_⟩⟩
        intro f n i hmem
        simp only [List.mem_append, List.mem_singleton, Prod.mk.injEq] at hmem
        rcases hmem with hmem | ⟨rfl, rfl, rfl⟩
        · exact hinv.indeterminateForms f n i hmem
        · exact ⟨form, hform, hscan.symm⟩

/-- Transparent when the asking element is not itself a checked radio of its group. -/
theorem memo_transparent_indeterminate {d : Doc} {c : Ctx} {σ : State} (l : Loc)
    (hinv : MemoInv d c σ) (hl : InDoc d l) (hside : askerChecked c l = false) :
    (matchIndeterminateM c σ l).1 = matchIndeterminate c l := (indeterminate_step l hinv hl hside).1

theorem inv_step_indeterminate {d : Doc} {c : Ctx} {σ : State} (l : Loc)
    (hinv : MemoInv d c σ) (hl : InDoc d l) (hside : askerChecked c l = false) :
    MemoInv d c (matchIndeterminateM c σ l).2 := (indeterminate_step l hinv hl hside).2

/-- Without any hypothesis: a hit returns the stored bool, a miss the table-free answer. -/
theorem indeterminate_general (c : Ctx) (σ : State) (l : Loc) (e : Elem) (form : Loc)
    (he : l.elem? = some e) (hpf : parentForm c l = some form) :
    (matchIndeterminateM c σ l).1 =
      (match σ.indeterminateForms.find?
          (fun p => p.1 == form.pos && p.2.1 == c.attrByName e "name".toStr) with
       | some (_, _, i) => i
       | none => matchIndeterminate c l) := by
  rw [matchIndeterminate_eq]
  unfold matchIndeterminateM
  cases hfind : σ.indeterminateForms.find?
      (fun p => p.1 == form.pos && p.2.1 == c.attrByName e "name".toStr) with
  | none => simp only [he, hpf, hfind]
  | some hit => obtain ⟨f, n, i⟩ := hit; simp only [he, hpf, hfind]

/-- What happens without the side condition: after a miss by `l1`, every later asker `l2` of the
    same `(form, name)` receives `l1`'s answer — computed with `l1`, not `l2`, left out of the
    scan. -/
theorem indeterminate_second_asker (c : Ctx) (σ : State) (l1 l2 : Loc) (e1 e2 : Elem) (form : Loc)
    (h1 : l1.elem? = some e1) (h2 : l2.elem? = some e2)
    (hf1 : parentForm c l1 = some form) (hf2 : parentForm c l2 = some form)
    (hname : c.attrByName e2 "name".toStr = c.attrByName e1 "name".toStr)
    (hmiss : σ.indeterminateForms.find?
      (fun p => p.1 == form.pos && p.2.1 == c.attrByName e1 "name".toStr) = none) :
    (matchIndeterminateM c (matchIndeterminateM c σ l1).2 l2).1 = matchIndeterminate c l1 := by
  rw [indeterminate_general c _ l2 e2 form h2 hf2, hname]
  have hσ : (matchIndeterminateM c σ l1).2.indeterminateForms =
      σ.indeterminateForms ++ [(form.pos, c.attrByName e1 "name".toStr, matchIndeterminate c l1)] := by
    rw [matchIndeterminate_eq]
    unfold matchIndeterminateM
    simp only [h1, hf1, hmiss]
  rw [hσ, List.find?_append, hmiss]
  simp

/-- The sub-selector `:not([checked])` as it appears in the generated IR of `CSS_INDETERMINATE`. -/
def notCheckedGuard : SelList :=
  .mk [.mk none [] [] [⟨"checked".toStr, [], none, none⟩] [] [] (.mk [] false false) .none [] [] 0] true false

open StateLaws in
/-- The guard `:not([checked])` of the built-in `:indeterminate` selector
    (`html|input[type="radio"][name]:not([name='']):not([checked])`, the compound that carries the
    `SEL_INDETERMINATE` flag) implies the side condition of `memo_transparent_indeterminate`, in every
    document kind: the attribute selector and the scan compare attribute names by the same rule
    (`C17.hasAttr_eq_any_key`), and an element without `[checked]` is no checked radio
    (`C17.radioCheckedScan_eq`). -/
theorem guard_list_implies_side (c : Ctx) (l : Loc) (e : Elem) (he : l.elem? = some e)
    (h : matchList c l e notCheckedGuard = true) : askerChecked c l = false := by
  have hg : hasAttr c e "checked" = false := by
    have hs : notCheckedGuard = notL [cmp none [A "checked"] []] := rfl
    rw [hs, matchList_notL, matchAny_cons, matchAny_nil, matchSel_cmp, matchTag_none, matchAttributes_A,
      matchSubs_nil] at h
    simpa using h
  unfold askerChecked
  simp only [he]
  split
  · rfl
  · unfold isCheckedRadioOf
    simp only [he, C17.radioCheckedScan_of_not_checked c e _ hg, Bool.and_false, Bool.false_and]

def subsOf : Sel → List SelList
  | .mk _ _ _ _ _ subs _ _ _ _ _ => subs
  | .null => []
def flagsOf : Sel → Nat
  | .mk _ _ _ _ _ _ _ _ _ _ flags => flags
  | .null => 0

/-- Tie to the generated IR: in `CSS_INDETERMINATE` exactly one compound (the last) carries
    `SEL_INDETERMINATE`, and its last sub-selector list is `notCheckedGuard`. -/
example : (Gen.CSS_INDETERMINATE.sels.map fun s => hasFlag (flagsOf s) SEL_INDETERMINATE) =
    [false, false, false, true] := by decide
example : (Gen.CSS_INDETERMINATE.sels.getLast?.map fun s => (subsOf s).getLast?) =
    some (some notCheckedGuard) := rfl

/-- The built-in `:indeterminate`: the compound that carries `SEL_INDETERMINATE` asks
    `match_indeterminate` only after its sub-selectors matched (`match_selectors` tests
    `selector.selectors` before the flag, `matchSel` conjoins them in that order), and then the
    side condition holds. -/
theorem builtin_asks_only_guarded (c : Ctx) (l : Loc) (e : Elem) (he : l.elem? = some e) (s : Sel)
    (hs : Gen.CSS_INDETERMINATE.sels.getLast? = some s)
    (h : matchSubs c l e (subsOf s) = true) : askerChecked c l = false := by
  have hg : (Gen.CSS_INDETERMINATE.sels.getLast?.map fun s => (subsOf s).getLast?) =
      some (some notCheckedGuard) := rfl
  rw [hs] at hg
  simp only [Option.map_some, Option.some.injEq] at hg
  have hmem : notCheckedGuard ∈ subsOf s := List.mem_of_getLast? hg
  rw [matchSubs_eq_all, List.all_eq_true] at h
  exact guard_list_implies_side c l e he (h _ hmem)

theorem lang_step {d : Doc} {c : Ctx} {σ : State} (l : Loc) (hinv : MemoInv d c σ) (hl : InDoc d l) :
    (langOfM c σ l).1 = langOf c l ∧ MemoInv d c (langOfM c σ l).2 := by
  rw [langOfM_eq, langOf_eq]
  have hlast := langWalk_last_inDoc c l hl
  generalize langWalk c (l :: c.ancestors l c.isHtml) l = w at hlast ⊢
  obtain ⟨found, last⟩ := w
  simp only at hlast ⊢
  cases found with
  | some v => exact ⟨rfl, hinv⟩
  | none =>
    simp only
    cases hhit : (σ.metaLang.filter (fun p => p.1 == last.pos)).getLast? with
    | some hit =>
      obtain ⟨r, v⟩ := hit
      have hmem := List.mem_filter.mp (List.mem_of_getLast? hhit)
      have hkey : r = last.pos := by simpa using hmem.2
      obtain ⟨root, hloc, hcond, hv⟩ := hinv.metaLang r v hmem.1
      rw [hkey] at hloc
      have : root = last := hlast.of_locAt hloc
      subst this
      simp only [hcond, if_true, hv]
      exact ⟨trivial, hinv⟩
    | none =>
      simp only
      cases hcond : metaCond c last with
      | false => exact ⟨rfl, hinv⟩
      | true =>
        simp only [if_true]
        rw [metaLang_eq]
        cases hhead : findHead c last with
        | none => exact ⟨rfl, hinv⟩
        | some head =>
          refine ⟨rfl, ⟨?_, hinv.defaultForms, hinv.indeterminateForms⟩⟩
          intro r v hmem
          simp only [List.mem_append, List.mem_singleton, Prod.mk.injEq] at hmem
          rcases hmem with hmem | ⟨rfl, rfl⟩
          · exact hinv.metaLang r v hmem
          · exact ⟨last, hlast, hcond, by rw [metaLang_eq, hhead]⟩

theorem memo_transparent_lang {d : Doc} {c : Ctx} {σ : State} (l : Loc)
    (hinv : MemoInv d c σ) (hl : InDoc d l) :
    (langOfM c σ l).1 = langOf c l := (lang_step l hinv hl).1

theorem inv_step_lang {d : Doc} {c : Ctx} {σ : State} (l : Loc)
    (hinv : MemoInv d c σ) (hl : InDoc d l) :
    MemoInv d c (langOfM c σ l).2 := (lang_step l hinv hl).2

theorem memo_transparent_matchLang {d : Doc} {c : Ctx} {σ : State} (l : Loc) (langs : List LangSel)
    (hinv : MemoInv d c σ) (hl : InDoc d l) :
    (matchLangM c σ l langs).1 = matchLang c l langs ∧ MemoInv d c (matchLangM c σ l langs).2 := by
  rw [matchLang_eq, ← memo_transparent_lang l hinv hl]
  exact ⟨rfl, inv_step_lang l hinv hl⟩

/-- The queries covered: elements of the document; for `:indeterminate` the side condition. -/
def Admissible (d : Doc) (c : Ctx) : Query → Prop
  | .default l => InDoc d l
  | .indeterminate l => InDoc d l ∧ askerChecked c l = false
  | .lang l _ => InDoc d l
  | .langOf l => InDoc d l

theorem step_correct {d : Doc} {c : Ctx} {σ : State} (q : Query) (hinv : MemoInv d c σ)
    (hq : Admissible d c q) :
    (step c σ q).1 = pureAnswer c q ∧ MemoInv d c (step c σ q).2 := by
  cases q with
  | default l => exact (default_step l hinv hq).imp (congrArg Answer.bool) id
  | indeterminate l => exact (indeterminate_step l hinv hq.1 hq.2).imp (congrArg Answer.bool) id
  | lang l langs => exact (memo_transparent_matchLang l langs hinv hq).imp (congrArg Answer.bool) id
  | langOf l => exact (lang_step l hinv hq).imp (congrArg Answer.lang) id

/-- Folding the memoised functions through any list of queries gives, at each step, the answer
    of the table-free function; the tables stay correct. -/
theorem history_independent {d : Doc} {c : Ctx} : ∀ (qs : List Query) (σ : State),
    MemoInv d c σ → (∀ q ∈ qs, Admissible d c q) →
    (run c σ qs).1 = qs.map (pureAnswer c) ∧ MemoInv d c (run c σ qs).2 := by
  intro qs
  induction qs with
  | nil => intro σ hinv _; exact ⟨rfl, hinv⟩
  | cons q qs ih =>
    intro σ hinv hall
    obtain ⟨h1, h2⟩ := step_correct q hinv (hall q (by simp))
    obtain ⟨h3, h4⟩ := ih (step c σ q).2 h2 (fun x hx => hall x (by simp [hx]))
    exact ⟨by simp only [run, h1, h3, List.map_cons], h4⟩

/-- From the empty tables of a fresh `CSSMatch`. -/
theorem history_independent_init (d : Doc) (c : Ctx) (qs : List Query)
    (hall : ∀ q ∈ qs, Admissible d c q) :
    (run c State.init qs).1 = qs.map (pureAnswer c) :=
  (history_independent qs State.init (inv_init d c) hall).1

/-- The answer to a query is the same after any two histories. -/
theorem same_answer_after_any_history (d : Doc) (c : Ctx) (h1 h2 : List Query) (q : Query)
    (a1 : ∀ x ∈ h1, Admissible d c x) (a2 : ∀ x ∈ h2, Admissible d c x) (aq : Admissible d c q) :
    (step c (run c State.init h1).2 q).1 = (step c (run c State.init h2).2 q).1 := by
  rw [(step_correct q (history_independent h1 State.init (inv_init d c) a1).2 aq).1,
    (step_correct q (history_independent h2 State.init (inv_init d c) a2).2 aq).1]

def chtml : Ctx :=
  { env := asciiEnv, bidi := fun _ => 0, wildStrip := id, isXml := false, hasHtmlNs := false,
    isHtml := true, root := none, scope := none, namespaces := [], iframeRestrict := false }

def mkElem (name : String) (attrs : List (String × String)) : Elem :=
  { isDoc := false, name := name.toStr, pfx := none, ns := none,
    attrs := attrs.map fun (k, v) => ⟨k.toStr, none, none, .str v.toStr⟩ }

def radioPlain : Node := .elem (mkElem "input" [("type", "radio"), ("name", "a")]) []
def radioChecked : Node := .elem (mkElem "input" [("type", "radio"), ("name", "a"), ("checked", "")]) []
def submitBtn : Node := .elem (mkElem "button" [("type", "submit")]) []
def formElem : Elem := mkElem "form" []

/-- `<form><input type=radio name=a><input type=radio name=a checked><button type=submit></form>` -/
def formDoc : Doc := ⟨false, .elem formElem [radioPlain, radioChecked, submitBtn]⟩
def r1 : Loc := ⟨radioPlain, [⟨[], formElem, [radioChecked, submitBtn]⟩]⟩
def r2 : Loc := ⟨radioChecked, [⟨[radioPlain], formElem, [submitBtn]⟩]⟩
def btn : Loc := ⟨submitBtn, [⟨[radioChecked, radioPlain], formElem, []⟩]⟩

example : InDoc formDoc r1 := rfl
example : InDoc formDoc r2 := rfl
example : InDoc formDoc btn := rfl

/-- The answers on `formDoc`, evaluated together. -/
theorem formDoc_answers :
    ((matchDefaultM chtml State.init btn).1 = true ∧
      (matchDefaultM chtml State.init btn).2.defaultForms = [([], [2])] ∧
      (matchDefaultM chtml (matchDefaultM chtml State.init btn).2 r1).1 = false ∧
      (matchDefault chtml btn = true ∧ matchDefault chtml r1 = false)) ∧
    (askerChecked chtml r1 = false ∧ askerChecked chtml r2 = true) ∧
    (matchIndeterminate chtml r1 = false ∧ matchIndeterminate chtml r2 = true) ∧
    ((matchIndeterminateM chtml State.init r1).1 = false ∧
      (matchIndeterminateM chtml (matchIndeterminateM chtml State.init r1).2 r2).1 = false) ∧
    ((matchIndeterminateM chtml State.init r2).1 = true ∧
      (matchIndeterminateM chtml (matchIndeterminateM chtml State.init r2).2 r1).1 = true) ∧
    (run chtml State.init [.indeterminate r1, .indeterminate r2]).1 ≠
      [Query.indeterminate r1, .indeterminate r2].map (pureAnswer chtml) := by
  decide +kernel

-- `:default`: miss then hit, same answers
example : (matchDefaultM chtml State.init btn).1 = true := formDoc_answers.1.1
example : (matchDefaultM chtml State.init btn).2.defaultForms = [([], [2])] := formDoc_answers.1.2.1
example : (matchDefaultM chtml (matchDefaultM chtml State.init btn).2 r1).1 = false := formDoc_answers.1.2.2.1
example : matchDefault chtml btn = true ∧ matchDefault chtml r1 = false := formDoc_answers.1.2.2.2

-- `:indeterminate`: `r1` is not checked (side condition holds), `r2` is
example : askerChecked chtml r1 = false ∧ askerChecked chtml r2 = true := formDoc_answers.2.1
-- table-free answers: `r1` sees the checked `r2`; `r2` (left out of its own scan) sees nothing
example : matchIndeterminate chtml r1 = false ∧ matchIndeterminate chtml r2 = true := formDoc_answers.2.2.1
-- order r1, r2: `r2` receives `r1`'s stored `False`
example : (matchIndeterminateM chtml State.init r1).1 = false := formDoc_answers.2.2.2.1.1
example : (matchIndeterminateM chtml (matchIndeterminateM chtml State.init r1).2 r2).1 = false :=
  formDoc_answers.2.2.2.1.2
-- order r2, r1: `r1` receives `r2`'s stored `True`
example : (matchIndeterminateM chtml State.init r2).1 = true := formDoc_answers.2.2.2.2.1.1
example : (matchIndeterminateM chtml (matchIndeterminateM chtml State.init r2).2 r1).1 = true :=
  formDoc_answers.2.2.2.2.1.2
/-- The counterexample in one statement: the same query, two histories, two answers. -/
example : (run chtml State.init [.indeterminate r1, .indeterminate r2]).1 ≠
    [Query.indeterminate r1, .indeterminate r2].map (pureAnswer chtml) := formDoc_answers.2.2.2.2.2

end C04
end SoupVerif
