/-
  C06 — "compile() accepts or rejects every string with a documented error only".

  Object of the theorems: `Parser.compile env L B pattern custom flags : Except Err SelList`, the
  function-for-function model of `CSSParser(pattern, custom, flags).process_selectors()` preceded
  by `process_custom` (Model/Parser.lean), instantiated with the token regular expressions the
  translator extracts from the Python source on every run (`Gen.lexicon`).  `Err.kind`
  enumerates the documented raise sites; anything else CPython could raise is `ErrKind.pyBug`.
  In the model the only producer of `pyBug` is fuel exhaustion of `parseSelectors`
  ("RecursionError"); `parseLoop` with no fuel left would silently stop (return its state).
  Both are excluded here: the fuel `Parser.compile` allots is provably enough, and above the
  bound the result does not depend on the fuel at all.

  Everything is proved for ALL patterns, ALL custom maps, ALL flags, ANY `CharEnv`, ANY table of built-in
  selectors.  The fuel bound is
      `needSel pattern pos c = 2·(|pattern| − pos) + 2 + Σ_{(k ↦ source t) ∈ c} (2·|t| + 2)`.
  Why this is enough although one alias may be *used* many times: fuel is passed down, not
  threaded — a nested call and the continuation after it both receive the same `fuel`, so
  fuel bounds the depth of the call tree, and along one branch an alias is expanded at most
  once (it is erased from the map before its definition is parsed, and replaced by the
  compiled list afterwards).  `Parser.compile` allots
      `2·|pattern| + 4·Σ(|def|+2) + 8 ≥ needSel` (`allotted_ge_need`).
  The repaired `chr()` ValueError of `css_unescape` is covered by `unescape_total`; the unrepaired behaviour is
  exhibited (`old_behaviour_emits_110000`).

  NOT covered:
  * `int(m.group(1)[1:], 16)` in `css_unescape` would raise ValueError if group 1 contained a
    comment (`RE_CSS_ESC` uses `WSC?`, which includes `/*…*/`, after the hex digits).  The model's
    `hexPrefixVal` reads the leading hex digits only, so this ValueError is not representable in
    `Parser.cssUnescape`; `Escape.cssUnescapeRaises` (`Model/Escape.lean`) models it.  It is unreachable from
    `compile`, because `css_unescape(…)` (non-string mode) is
    only applied to text matched by `IDENTIFIER`, which cannot contain an unescaped `/`; that
    argument goes through the regex engine on the token expressions and is not proved here (it
    is covered by the differential harness).
  * The inner fuels of `subWith`, `parseValues`, `Rx.search`, `Rx.iter` are not addressed here
    (they are ≥ the number of positions and cannot produce an error value).
-/
import SoupVerif.Lemmas.ParserProgress
namespace SoupVerif
namespace C06
open Rx SoupVerif.Parser ParserProgress

/-- Every ordinary slot of `CSSParser.css_tokens` is non-nullable. -/
theorem tokens_nonnullable :
    ∀ t ∈ Gen.lexicon.tokens, t.2 = false → nullable t.1.rx = false := by decide +kernel

/-- Every sub-pattern of the `SpecialPseudoPattern` slot is non-nullable. -/
theorem special_nonnullable : ∀ e ∈ Gen.lexicon.special, nullable e.2.rx = false := by
  decide +kernel

theorem lexicon_ok : LexOK Gen.lexicon := ⟨tokens_nonnullable, special_nonnullable⟩

variable {P : PEnv}

/-- A token ends strictly after the position it was tried at. -/
theorem token_progress (hL : P.L = Gen.lexicon) {i : Nat} {t : Token}
    (h : matchToken P i P.L.tokens = some t) : i < t.stop :=
  (matchToken_spec P i (hL ▸ special_nonnullable) _ (hL ▸ tokens_nonnullable) t h).2.1

/-- A token ends inside the pattern. -/
theorem token_in_bounds (hL : P.L = Gen.lexicon) {i : Nat} {t : Token}
    (h : matchToken P i P.L.tokens = some t) : t.stop ≤ P.pattern.length :=
  (matchToken_spec P i (hL ▸ special_nonnullable) _ (hL ▸ tokens_nonnullable) t h).2.2

theorem token_start (hL : P.L = Gen.lexicon) {i : Nat} {t : Token}
    (h : matchToken P i P.L.tokens = some t) : t.start = i :=
  (matchToken_spec P i (hL ▸ special_nonnullable) _ (hL ▸ tokens_nonnullable) t h).1

/-- Any regex result lies inside the subject (for every expression, nullable or not). -/
theorem match_in_bounds {env : CharEnv} {r : Rx} {s : Str} {i j : Nat} {c : Caps}
    (h : matchAt env r s i = some (j, c)) (hi : i ≤ s.length) : i ≤ j ∧ j ≤ s.length :=
  ⟨(matchAt_le h).1, matchAt_le_length h hi⟩

/-- `selector_iter` yields a token that makes progress, or stops, or raises a positioned
    `SelectorSyntaxError` of a documented kind (`NoBug e.kind`; at these sites: the "malformed …" / "invalid character"
    kinds). -/
theorem nextToken_cases (hL : P.L = Gen.lexicon) (i : Nat) :
    (∃ t, nextToken P i = .ok (some t) ∧ t.start = i ∧ i < t.stop ∧ t.stop ≤ P.pattern.length) ∨
    nextToken P i = .ok none ∨
    (∃ e, nextToken P i = .error e ∧ e.pattern = P.pattern ∧ e.offset ≤ P.pattern.length ∧
      NoBug e.kind) := by
  cases h : nextToken P i with
  | error e => exact Or.inr (Or.inr ⟨e, rfl, nextToken_error h⟩)
  | ok o =>
    cases o with
    | none => exact Or.inr (Or.inl rfl)
    | some t => exact Or.inl ⟨t, rfl, nextToken_some (hL ▸ lexicon_ok) h⟩

section fuel
variable (env : CharEnv) (B : Builtins)

/-- One more unit of fuel changes nothing above the bound. -/
theorem fuel_step {pattern : Str} {pos idx : Nat} (fl : Nat) {c : Custom} {f : Nat}
    (hp : pos ≤ pattern.length) (hi : idx ≤ pattern.length) (hf : needSel pattern pos c ≤ f) :
    parseSelectors env Gen.lexicon B pattern (f + 1) pos idx fl c =
      parseSelectors env Gen.lexicon B pattern f pos idx fl c :=
  (sel_stable lexicon_ok fl hp hi hf).1

/-- The result of `parseSelectors` does not depend on the fuel once
    `fuel ≥ needSel pattern pos c = 2·(|pattern| − pos) + 2 + W c`. -/
theorem fuel_sufficient {pattern : Str} {pos idx : Nat} (fl : Nat) {c : Custom}
    (hp : pos ≤ pattern.length) (hi : idx ≤ pattern.length) :
    ∀ f, needSel pattern pos c ≤ f →
      parseSelectors env Gen.lexicon B pattern f pos idx fl c =
        parseSelectors env Gen.lexicon B pattern (needSel pattern pos c) pos idx fl c := by
  intro f hf
  obtain ⟨d, rfl⟩ := Nat.exists_eq_add_of_le hf
  induction d with
  | zero => rfl
  | succ d ih =>
    rw [← Nat.add_assoc, fuel_step env B fl hp hi (Nat.le_add_right _ _)]
    exact ih (Nat.le_add_right _ _)

/-- Above the bound `parseSelectors` never reports exhausted fuel, and its errors are parser
    errors (never one of the two `process_custom` kinds). -/
theorem parseSelectors_no_pybug {pattern : Str} {pos idx : Nat} (fl : Nat) {c : Custom} {f : Nat}
    (hp : pos ≤ pattern.length) (hi : idx ≤ pattern.length) (hf : needSel pattern pos c ≤ f) {e : Err}
    (h : parseSelectors env Gen.lexicon B pattern f pos idx fl c = .error e) : NoBug e.kind :=
  (sel_stable lexicon_ok fl hp hi hf).2 e h

/-- Every error of `parseSelectors` (any fuel) has its offset inside the pattern it names. -/
theorem parseSelectors_err_offset {pattern : Str} {pos idx : Nat} (fl : Nat) {c : Custom} {f : Nat}
    (hp : pos ≤ pattern.length) (hi : idx ≤ pattern.length) {e : Err}
    (h : parseSelectors env Gen.lexicon B pattern f pos idx fl c = .error e) :
    e.offset ≤ e.pattern.length := by
  have := sel_post (env := env) (B := B) lexicon_ok f pattern pos idx fl c hp hi
  rw [h] at this; exact this

/-- The position returned by `parseSelectors` is between the start and the end of the pattern,
    and the custom map it returns has no more uncompiled source text than the one given. -/
theorem parseSelectors_ok_bounds {pattern : Str} {pos idx : Nat} (fl : Nat) {c : Custom} {f : Nat}
    (hp : pos ≤ pattern.length) (hi : idx ≤ pattern.length) {l : SelList} {p' : Nat} {c' : Custom}
    (h : parseSelectors env Gen.lexicon B pattern f pos idx fl c = .ok (l, p', c')) :
    pos ≤ p' ∧ p' ≤ pattern.length ∧ W c' ≤ W c := by
  have := sel_post (env := env) (B := B) lexicon_ok f pattern pos idx fl c hp hi
  rw [h] at this; exact this

end fuel

/-- `Parser.compile` with the fuel as a parameter. -/
def compileF (env : CharEnv) (L : Lexicon) (B : Builtins) (fuel : Nat) (pattern : Str)
    (custom : List (Str × Str)) (parseFlags : Nat) : M SelList := do
  let c ← processCustom env L custom
  let pat := nulFix pattern
  let P : PEnv := ⟨env, L, B, pat⟩
  let (l, _, _) ← parseSelectors env L B pat fuel (startIndex P) 0 parseFlags c
  pure l

theorem compile_eq (env : CharEnv) (L : Lexicon) (B : Builtins) (pattern : Str)
    (custom : List (Str × Str)) (flags : Nat) :
    compile env L B pattern custom flags = compileF env L B (allotted pattern custom) pattern custom flags :=
  rfl

/-- The allotted fuel is at least the bound of `fuel_sufficient`. -/
theorem allotted_ge_need (env : CharEnv) (L : Lexicon) (B : Builtins) (pattern : Str)
    (custom : List (Str × Str)) {c : Custom} (h : processCustom env L custom = .ok c) :
    needSel (nulFix pattern) (startIndex ⟨env, L, B, nulFix pattern⟩) c ≤ allotted pattern custom := by
  have h1 := processCustom_ok h
  have h2 := defWeight_le_allotted custom
  unfold needSel allotted
  omega

theorem compileF_def (env : CharEnv) (L : Lexicon) (B : Builtins) (F : Nat) (pattern : Str)
    (custom : List (Str × Str)) (flags : Nat) :
    compileF env L B F pattern custom flags =
      match processCustom env L custom with
      | .error e => .error e
      | .ok c =>
        match parseSelectors env L B (nulFix pattern) F (startIndex ⟨env, L, B, nulFix pattern⟩) 0 flags c with
        | .error e => .error e
        | .ok r => .ok r.1 := by
  unfold compileF
  cases processCustom env L custom with
  | error e => rfl
  | ok c =>
    show (parseSelectors env L B (nulFix pattern) F (startIndex ⟨env, L, B, nulFix pattern⟩) 0 flags c >>=
      fun x => match x with | (l, _, _) => pure l) =
      (match parseSelectors env L B (nulFix pattern) F (startIndex ⟨env, L, B, nulFix pattern⟩) 0 flags c with
        | .error e => .error e
        | .ok r => .ok r.1)
    cases parseSelectors env L B (nulFix pattern) F (startIndex ⟨env, L, B, nulFix pattern⟩) 0 flags c with
    | error e => rfl
    | ok r => rfl

section compile
variable (env : CharEnv) (B : Builtins) (pattern : Str) (custom : List (Str × Str)) (flags : Nat)

/-- `fuel_sufficient` for `compile`: any fuel ≥ the allotted one gives the same result. -/
theorem compile_fuel_irrelevant (F : Nat) (hF : allotted pattern custom ≤ F) :
    compileF env Gen.lexicon B F pattern custom flags = compile env Gen.lexicon B pattern custom flags := by
  rw [compile_eq, compileF_def, compileF_def]
  cases hc : processCustom env Gen.lexicon custom with
  | error e => rfl
  | ok c =>
    have hn := allotted_ge_need env Gen.lexicon B pattern custom hc
    have hs := startIndex_le ⟨env, Gen.lexicon, B, nulFix pattern⟩
    simp only [] at hs
    have e1 := fuel_sufficient env B flags hs (Nat.zero_le _) F (Nat.le_trans hn hF)
    have e2 := fuel_sufficient env B flags hs (Nat.zero_le _) _ hn
    simp only []
    rw [e1, e2]

/-- Errors of `compile`: either one of the two `process_custom` errors (with empty pattern and
    offset 0), or an error of `parseSelectors` run with the allotted fuel. -/
theorem compile_error_cases {e : Err} (h : compile env Gen.lexicon B pattern custom flags = .error e) :
    (processCustom env Gen.lexicon custom = .error e) ∨
    (∃ c, processCustom env Gen.lexicon custom = .ok c ∧
      parseSelectors env Gen.lexicon B (nulFix pattern) (allotted pattern custom)
        (startIndex ⟨env, Gen.lexicon, B, nulFix pattern⟩) 0 flags c = .error e) := by
  rw [compile_eq, compileF_def] at h
  cases hc : processCustom env Gen.lexicon custom with
  | error e' =>
    rw [hc] at h
    have h' : (Except.error e' : M SelList) = .error e := h
    cases h'; exact Or.inl rfl
  | ok c =>
    rw [hc] at h
    right; refine ⟨c, rfl, ?_⟩
    simp only [] at h
    cases hp : parseSelectors env Gen.lexicon B (nulFix pattern) (allotted pattern custom)
        (startIndex ⟨env, Gen.lexicon, B, nulFix pattern⟩) 0 flags c with
    | error e' =>
      rw [hp] at h
      have h' : (Except.error e' : M SelList) = .error e := h
      cases h'; rfl
    | ok r => rw [hp] at h; cases h

/-- **C06, main statement.** `compile` never fails with anything but a documented error: the
    model's catch-all kind `pyBug` (here: exhausted fuel, "RecursionError") does not occur. -/
theorem compile_no_pybug_gen {e : Err} (h : compile env Gen.lexicon B pattern custom flags = .error e) :
    ∀ w, e.kind ≠ .pyBug w := by
  rcases compile_error_cases env B pattern custom flags h with hc | ⟨c, hc, hp⟩
  · intro w hw
    rcases (processCustom_error hc).1 with h1 | h1 <;> rw [h1] at hw <;> cases hw
  · have hs := startIndex_le ⟨env, Gen.lexicon, B, nulFix pattern⟩
    exact (parseSelectors_no_pybug env B flags hs (Nat.zero_le _)
      (allotted_ge_need env Gen.lexicon B pattern custom hc) hp).1

end compile

/-- `compile_no_pybug_gen` in the ASCII environment, with the generated built-ins. -/
theorem compile_no_pybug : ∀ (pattern : Str) (custom : List (Str × Str)) (flags : Nat) (e : Err),
    Parser.compile asciiEnv Gen.lexicon Gen.builtinsRec pattern custom flags = .error e →
    ∀ w, e.kind ≠ .pyBug w :=
  fun pattern custom flags _ h => compile_no_pybug_gen asciiEnv Gen.builtinsRec pattern custom flags h

/-- The same for the environment the driver runs the parser model in: ASCII folding plus the four
    non-ASCII code points Python's `re.IGNORECASE` identifies with `i`, `s`, `k` (e.g. `ſ` is accepted
    in the position of the attribute case flag). -/
theorem compile_no_pybug_py : ∀ (pattern : Str) (custom : List (Str × Str)) (flags : Nat) (e : Err),
    Parser.compile pyFoldEnv Gen.lexicon Gen.builtinsRec pattern custom flags = .error e →
    ∀ w, e.kind ≠ .pyBug w :=
  fun pattern custom flags _ h => compile_no_pybug_gen pyFoldEnv Gen.builtinsRec pattern custom flags h

/-- `compile` returns a selector list or raises one of the documented errors. -/
theorem compile_total (env : CharEnv) (B : Builtins) (pattern : Str) (custom : List (Str × Str))
    (flags : Nat) :
    (∃ l, compile env Gen.lexicon B pattern custom flags = .ok l) ∨
    (∃ e, compile env Gen.lexicon B pattern custom flags = .error e ∧ ∀ w, e.kind ≠ .pyBug w) := by
  cases h : compile env Gen.lexicon B pattern custom flags with
  | ok l => exact Or.inl ⟨l, rfl⟩
  | error e => exact Or.inr ⟨e, rfl, compile_no_pybug_gen env B pattern custom flags h⟩

/-- The KeyError (`customCollision`) and the bad-name SelectorSyntaxError come from
    `process_custom` only; everything raised afterwards is a parser error. -/
theorem compile_custom_errors_only_from_map (env : CharEnv) (B : Builtins) (pattern : Str)
    (custom : List (Str × Str)) (flags : Nat) {e : Err}
    (h : compile env Gen.lexicon B pattern custom flags = .error e) :
    (processCustom env Gen.lexicon custom = .error e ∧
      (e.kind = .badCustomName ∨ e.kind = .customCollision)) ∨
    (e.kind ≠ .badCustomName ∧ e.kind ≠ .customCollision) := by
  rcases compile_error_cases env B pattern custom flags h with hc | ⟨c, hc, hp⟩
  · exact Or.inl ⟨hc, (processCustom_error hc).1⟩
  · have hs := startIndex_le ⟨env, Gen.lexicon, B, nulFix pattern⟩
    exact Or.inr (parseSelectors_no_pybug env B flags hs (Nat.zero_le _)
      (allotted_ge_need env Gen.lexicon B pattern custom hc) hp).2

/-- Without custom selectors neither `process_custom` error can occur. -/
theorem compile_nocustom_kinds (env : CharEnv) (B : Builtins) (pattern : Str) (flags : Nat) {e : Err}
    (h : compile env Gen.lexicon B pattern [] flags = .error e) :
    e.kind ≠ .badCustomName ∧ e.kind ≠ .customCollision := by
  rcases compile_custom_errors_only_from_map env B pattern [] flags h with ⟨hc, _⟩ | h2
  · cases hc
  · exact h2

/-- **Offsets.** Every error of `compile` carries an offset inside the pattern it reports (for
    the two `process_custom` errors the model reports the empty pattern and offset 0, so they need not be
    excluded). -/
theorem err_offset_in_range (env : CharEnv) (B : Builtins) (pattern : Str)
    (custom : List (Str × Str)) (flags : Nat) {e : Err}
    (h : compile env Gen.lexicon B pattern custom flags = .error e) : e.offset ≤ e.pattern.length := by
  rcases compile_error_cases env B pattern custom flags h with hc | ⟨c, _, hp⟩
  · obtain ⟨_, h2, h3⟩ := processCustom_error hc
    rw [h2, h3]; exact Nat.le_refl _
  · have hs := startIndex_le ⟨env, Gen.lexicon, B, nulFix pattern⟩
    exact parseSelectors_err_offset env B flags hs (Nat.zero_le _) hp

/-! ## `css_unescape` cannot leave the code-point range -/

/-- The closure without the repair (`value = chr(int(m.group(1)[1:], 16))`). -/
def unescReplOld (content : Str) (caps : Caps) : Str :=
  match Rx.capSpan caps 1 with
  | some (a, b) =>
    if b > a then [hexPrefixVal (slice content (a + 1) b)] else []
  | none =>
    match Rx.capSpan caps 2 with
    | some (a, b) => slice content (a + 1) b
    | none =>
      match Rx.capSpan caps 3 with
      | some _ => [0xFFFD]
      | none => []

theorem clampCp_valid (cp : Nat) : 0 < clampCp cp ∧ clampCp cp ≤ 0x10FFFF := by
  unfold clampCp
  split
  · decide
  · rename_i h
    simp only [Bool.or_eq_true, beq_iff_eq, decide_eq_true_eq, not_or] at h
    omega

/-- The repaired site: a parsed value of 0 or above U+10FFFF is replaced by U+FFFD. -/
theorem clampCp_replaces (cp : Nat) (h : cp = 0 ∨ cp > 0x10FFFF) : clampCp cp = 0xFFFD := by
  unfold clampCp
  rcases h with h | h
  · simp [h]
  · have : decide (cp > 0x10FFFF) = true := by simpa using h
    simp [this]

theorem clampCp_id (cp : Nat) (h0 : 0 < cp) (h1 : cp ≤ 0x10FFFF) : clampCp cp = cp := by
  unfold clampCp
  have : (cp == 0 || decide (cp > 0x10FFFF)) = false := by
    simp only [Bool.or_eq_false_iff, beq_eq_false_iff_ne, decide_eq_false_iff_not]; omega
  rw [this]; rfl

/-- Group 1 (a hex escape): the value emitted is the clamped code point — for ALL captures and
    ALL contents. -/
theorem unescRepl_group1 (content : Str) (caps : Caps) (a b : Nat)
    (h : Rx.capSpan caps 1 = some (a, b)) (hab : b > a) :
    unescRepl content caps = [clampCp (hexPrefixVal (slice content (a + 1) b))] := by
  unfold unescRepl; rw [h]; simp only [hab, if_true]

theorem unescRepl_group1_FFFD (content : Str) (caps : Caps) (a b : Nat)
    (h : Rx.capSpan caps 1 = some (a, b)) (hab : b > a)
    (hbad : hexPrefixVal (slice content (a + 1) b) = 0 ∨ hexPrefixVal (slice content (a + 1) b) > 0x10FFFF) :
    unescRepl content caps = [0xFFFD] := by
  rw [unescRepl_group1 content caps a b h hab, clampCp_replaces _ hbad]

theorem mem_slice {s : Str} {a b x : Nat} (h : x ∈ slice s a b) : x ∈ s :=
  List.mem_of_mem_drop (List.mem_of_mem_take h)

/-- Whatever the match object, the closure returns characters of `content`, or U+FFFD, or a hex
    value in `1..0x10FFFF`. -/
theorem unescRepl_valid (content : Str) (caps : Caps) :
    ∀ cp ∈ unescRepl content caps, cp ∈ content ∨ (0 < cp ∧ cp ≤ 0x10FFFF) := by
  intro cp h
  unfold unescRepl at h
  split at h
  · split at h
    · simp only [List.mem_singleton] at h; subst h; exact Or.inr (clampCp_valid _)
    · cases h
  · split at h
    · exact Or.inl (mem_slice h)
    · split at h
      · simp only [List.mem_singleton] at h; subst h; exact Or.inr (by decide)
      · cases h

/-- `pattern.sub(f, s)` only emits what `f` returns and characters of `s`. -/
theorem subWith_go_mem (env : CharEnv) (r : Rx) (f : Caps → Str) (s : Str) (Q : Nat → Prop)
    (hf : ∀ caps, ∀ x ∈ f caps, Q x) (hs : ∀ x ∈ s, Q x) :
    ∀ fuel i, ∀ x ∈ subWith.go env r f s fuel i, Q x := by
  intro fuel
  induction fuel with
  | zero => intro i x h; simp [subWith.go] at h
  | succ n ih =>
    intro i x h
    have hget : ∀ ch, s[i]? = some ch → Q ch := fun ch hc => hs ch (List.mem_of_getElem? hc)
    unfold subWith.go at h
    split at h
    · cases h
    · split at h
      · split at h
        · rcases List.mem_append.mp h with h | h
          · exact hf _ x h
          · exact ih _ x h
        · rcases List.mem_append.mp h with h | h
          · exact hf _ x h
          · split at h
            · rename_i ch hc
              rcases List.mem_cons.mp h with h | h
              · subst h; exact hget _ hc
              · exact ih _ x h
            · cases h
      · split at h
        · rename_i ch hc
          rcases List.mem_cons.mp h with h | h
          · subst h; exact hget _ hc
          · exact ih _ x h
        · cases h

/-- **`unescape_total`.** Every code point `css_unescape` returns is a code point of its input or
    lies in `1..0x10FFFF` (U+FFFD included): `chr()` cannot raise, for any regular expression in
    the two slots, any environment and any content. -/
theorem unescape_total (env : CharEnv) (L : Lexicon) (content : Str) (string : Bool) :
    ∀ cp ∈ Parser.cssUnescape env L content string, cp ∈ content ∨ (0 < cp ∧ cp ≤ 0x10FFFF) := by
  rw [cssUnescape_eq]
  exact subWith_go_mem env _ _ content _ (unescRepl_valid content) (fun x hx => Or.inl hx) _ _

/-- On a Python string (all code points ≤ U+10FFFF) the result is a Python string. -/
theorem unescape_in_range (env : CharEnv) (L : Lexicon) (content : Str) (string : Bool)
    (h : ∀ c ∈ content, c ≤ 0x10FFFF) : ∀ cp ∈ Parser.cssUnescape env L content string, cp ≤ 0x10FFFF := by
  intro cp hcp
  rcases unescape_total env L content string cp hcp with h1 | h1
  · exact h cp h1
  · exact h1.2

/-- No NUL is ever produced from NUL-free content (`compile` replaces NUL by U+FFFD first). -/
theorem unescape_no_nul (env : CharEnv) (L : Lexicon) (content : Str) (string : Bool)
    (h : ∀ c ∈ content, c ≠ 0) : ∀ cp ∈ Parser.cssUnescape env L content string, cp ≠ 0 := by
  intro cp hcp
  rcases unescape_total env L content string cp hcp with h1 | h1
  · exact h cp h1
  · omega

/-- `\110000`: a hex escape above U+10FFFF, on which the unrepaired `css_unescape` raised. -/
def esc110000 : Str := [92, 49, 49, 48, 48, 48, 48]

/-- The repaired code on `\110000` (through the regex engine on the generated `RE_CSS_ESC`). -/
theorem repaired_emits_FFFD : Parser.cssUnescape asciiEnv Gen.lexicon esc110000 = [0xFFFD] := by
  decide +kernel

/-- The unrepaired closure would hand 0x110000 to `chr()` — the ValueError is expressible in
    the model and the clamp is what removes it. -/
theorem old_behaviour_emits_110000 :
    subWith asciiEnv Gen.lexicon.reCssEsc (unescReplOld esc110000) esc110000 = [0x110000] := by
  decide +kernel

/-- Same for `\0` (NUL): old closure emits 0, repaired emits U+FFFD. -/
theorem old_behaviour_emits_nul :
    subWith asciiEnv Gen.lexicon.reCssEsc (unescReplOld [92, 48]) [92, 48] = [0] ∧
    Parser.cssUnescape asciiEnv Gen.lexicon [92, 48] = [0xFFFD] := by
  decide +kernel

/-! ## Cyclic custom selectors terminate with the documented error -/

def kindOf (r : M SelList) : Option ErrKind :=
  match r with
  | .error e => some e.kind
  | .ok _ => none

/-- `:--a` -/
def nameA : Str := [58, 45, 45, 97]
/-- `:--b` -/
def nameB : Str := [58, 45, 45, 98]

/-- `custom = {":--a": ":--a"}`: SelectorSyntaxError "Undefined custom selector". -/
theorem custom_cycle_terminates_self :
    kindOf (compile asciiEnv Gen.lexicon Gen.builtinsRec nameA [(nameA, nameA)]) = some .undefinedCustom := by
  decide +kernel

/-- `custom = {":--a": ":--b", ":--b": ":--a"}`. -/
theorem custom_cycle_terminates_mutual :
    kindOf (compile asciiEnv Gen.lexicon Gen.builtinsRec nameA [(nameA, nameB), (nameB, nameA)]) =
      some .undefinedCustom := by
  decide +kernel

/-- The error is reported against the definition being expanded, at the end of the alias. -/
theorem custom_cycle_error_site :
    (match compile asciiEnv Gen.lexicon Gen.builtinsRec nameA [(nameA, nameB), (nameB, nameA)] with
      | .error e => (e.pattern, e.offset)
      | .ok _ => ([], 0)) = (nameA, 4) := by
  decide +kernel

/-! ## The other documented errors of a custom table -/

/-- Two names differing only in case: the documented KeyError. -/
theorem custom_case_collision :
    kindOf (compile asciiEnv Gen.lexicon Gen.builtinsRec nameA [(nameA, nameB), ([58, 45, 45, 65], nameB)]) =
      some .customCollision := by
  decide +kernel

/-- A malformed custom name: SelectorSyntaxError. -/
theorem custom_bad_name :
    kindOf (compile asciiEnv Gen.lexicon Gen.builtinsRec nameA [([97], nameB)]) = some .badCustomName := by
  decide +kernel

end C06
end SoupVerif
