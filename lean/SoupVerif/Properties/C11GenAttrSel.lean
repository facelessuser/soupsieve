/-
  C11 / C01 about the Lean terms TRANSLATED from the source text of `CSSParser.parse_attribute_selector`.

  Which regular expression, with which flags, an attribute selector compiles to is decided in the hand model by
  `Parser.parseAttribute` / `Parser.attrPattern` (Model/Parser.lean); C11's `lits_case_rule` / `value_eq_template`
  and C01Attr's `tmpl_*` / `attrPattern_sem` are statements about those.  `gen/gen_py_attrsel.py` translates the
  DECISIONS of the Python function on every run (`Generated/PyAttrSel.lean`): the flags chain (`flagsOf`), the quote
  test on the value (`valueQuoted`), the operator chain with its empty-value and white-space guards and the `!`
  branch (`decisionOf` = `templateOf`, `inverseOf`), the second pattern (`pattern2Of`), and the template texts.

  Proved here, for ALL arguments (`gen_flagsOf`: for a flag text that is not empty, `case_ ≠ some []`): each regenerated decision is the hand model's (`gen_flagsOf`, `gen_decisionOf`,
  `gen_valueQuoted`, `gen_pattern2Of`, `gen_pattern`); hence `parseAttribute_eq_gen` (**the tie**): the hand model's
  handler equals `genParseAttribute`, the handler in which every decision is taken by the regenerated definitions —
  so every theorem about `Parser.parseAttribute` (and through it `Parser.parseSelectors`, `Parser.compile`) holds of the regenerated
  decisions; C11's case rule and C01Attr's rules restated about them (`gen_lits_case_rule` … `gen_pattern_sem`).
  An edit of a test, of a flag expression, of a template or of the order of dependent branches changes
  `Generated/PyAttrSel.lean` and breaks `gen_flagsOf` / `gen_decisionOf` / `gen_pattern2Of`.
  The hand model has no DOTALL bit (its `.` always matches a line feed): `gen_dotAll` is what justifies that.
  NOT proved: that `templateStrings` are the texts of the `Rx` instances of `Generated/Regexes.lean` (`attr_*`) — the
  translator checks at generation time that the live library compiles one selector per template to
  `text % re.escape(value)`; only the list of constructors is checked here (`templateStrings_keys`).
-/
import SoupVerif.Properties.C01Attr
import SoupVerif.Properties.C11
import SoupVerif.Generated.PyAttrSel
import SoupVerif.Lemmas.List
namespace SoupVerif
namespace C11GenAttrSel
open Rx PyAttrSel

/-- The regular expression `re.compile(<template text> % re.escape(value), flags)` of each template of
    `parse_attribute_selector`, in the hand model's vocabulary (`Parser.lits value ic` = the escaped value under
    `re.I` or not; the texts are in `PyAttrSel.Template`'s comment and `Gen.PyAttrSel.templateStrings`). -/
def instantiate (t : Template) (value : Str) (ic : Bool) : Option Rx :=
  match t with
  | .none => none
  | .unmatchable => some (Parser.noMatchSet ic)
  | .prefix => some (Parser.mkSeq ([.bos] ++ Parser.lits value ic ++ [C01Attr.dotStar]))
  | .suffix => some (Parser.mkSeq ([C01Attr.lazyDot] ++ Parser.lits value ic ++ [.eos]))
  | .contains => some (Parser.mkSeq ([C01Attr.lazyDot] ++ Parser.lits value ic ++ [C01Attr.dotStar]))
  | .word => some (Parser.mkSeq ([C01Attr.lazyDot, C01Attr.leftAlt ic] ++ Parser.lits value ic ++
      [C01Attr.rightLook ic, C01Attr.dotStar]))
  | .wordUnmatchable => some (Parser.mkSeq ([C01Attr.lazyDot, C01Attr.leftAlt ic] ++ [Parser.noMatchSet ic] ++
      [C01Attr.rightLook ic, C01Attr.dotStar]))
  | .dash => some (Parser.mkSeq ([.bos] ++ Parser.lits value ic ++ [C01Attr.dashOpt ic, .eos]))
  | .equals => some (Parser.mkSeq ([.bos] ++ Parser.lits value ic ++ [.eos]))

/-- The template `Parser.attrPattern` instantiates, as a chain of the hand model's own tests (`ve`: the value is
    empty, `vw`: it contains white space). -/
def modelTemplate (op : Str) (ve vw : Bool) : Template :=
  let c0 := op.head?.getD 61
  if op.isEmpty then .none
  else if (c0 == 94 || c0 == 36 || c0 == 42) && ve then .unmatchable
  else if c0 == 94 then .prefix
  else if c0 == 36 then .suffix
  else if c0 == 42 then .contains
  else if c0 == 126 then (if ve || vw then .wordUnmatchable else .word)
  else if c0 == 124 then .dash
  else .equals

theorem i_str : "i".toStr = [105] := by decide

theorem gen_flagsOf (case_ : Option Str) (attr : Str) (h : case_ ≠ some []) :
    Gen.PyAttrSel.flagsOf case_ attr =
      match case_ with
      | some c => { ignoreCase := c == "i".toStr, dotAll := true, isType := false }
      | none => if lower attr == "type".toStr then { ignoreCase := true, dotAll := true, isType := true }
                else { ignoreCase := false, dotAll := true, isType := false } := by
  rw [i_str, SatLeaf.type_toStr]
  cases case_ with
  | none => simp [Gen.PyAttrSel.flagsOf, pyTruthy]
  | some c =>
    have hc : c ≠ [] := fun e => h (by rw [e])
    simp [Gen.PyAttrSel.flagsOf, pyTruthy, pyEqStr, hc]
    rw [Bool.eq_iff_iff]; simp

/-- One step down two parallel `if` chains. -/
theorem ite_both {α β γ} (g : α → γ) (f : β → γ) {c : Prop} [Decidable c] {a b : α} {x y : β}
    (h₁ : g a = f x) (h₂ : g b = f y) : g (if c then a else b) = f (if c then x else y) := by
  by_cases h : c
  · rw [if_pos h, if_pos h]; exact h₁
  · rw [if_neg h, if_neg h]; exact h₂

theorem attrPattern_eq_instantiate (op value : Str) (ic hasWs : Bool) :
    (if op.isEmpty then none else some (Parser.attrPattern op value ic hasWs)) =
      instantiate (modelTemplate op value.isEmpty hasWs) value ic := by
  unfold modelTemplate Parser.attrPattern
  -- the same tests in the same order on both sides; in each branch `instantiate` computes
  let f := (instantiate · value ic)
  have step := @ite_both _ _ _ some f
  refine ite_both id f rfl <| step rfl <| step rfl <| step rfl <| step rfl <| step ?_ <| step rfl rfl
  exact ite_both (fun v => some (Parser.mkSeq (_ ++ v ++ _))) f rfl rfl

theorem startsWith_char (c k : Nat) (rest : Str) : pyStartsWith (some (c :: rest)) [[k]] = (c == k) := by
  simp [pyStartsWith, List.isPrefixOf, Bool.beq_comm (a := k)]

theorem startsWith_cons (s : Option Str) (p q : Str) (ps : List Str) :
    pyStartsWith s (p :: q :: ps) = (pyStartsWith s [p] || pyStartsWith s (q :: ps)) := by
  cases s <;> simp [pyStartsWith]

theorem gen_decisionOf (op : Str) (ve vw : Bool) :
    Gen.PyAttrSel.decisionOf (some op) ve vw = (modelTemplate op ve vw, op.head? == some 33) := by
  cases op with
  | nil => rfl
  | cons c rest =>
    -- both chains look at the first character only: on each of the five they test both compute
    by_cases hc : c = 94 ∨ c = 36 ∨ c = 42 ∨ c = 126 ∨ c = 124
    · rcases hc with rfl | rfl | rfl | rfl | rfl <;> cases ve <;> cases vw <;> rfl
    · simp only [not_or] at hc
      simp [Gen.PyAttrSel.decisionOf, startsWith_cons, startsWith_char, pyTruthy, modelTemplate, hc]

theorem gen_templateOf (op : Str) (ve vw : Bool) :
    Gen.PyAttrSel.templateOf (some op) ve vw = modelTemplate op ve vw := by
  simp [Gen.PyAttrSel.templateOf, gen_decisionOf]

theorem gen_inverseOf (op : Str) (ve vw : Bool) :
    Gen.PyAttrSel.inverseOf (some op) ve vw = (op.head? == some 33) := by
  simp [Gen.PyAttrSel.inverseOf, gen_decisionOf]

/-- `m.group('cmp')` is `None`: as for the empty string. -/
theorem gen_decisionOf_none (ve vw : Bool) : Gen.PyAttrSel.decisionOf none ve vw = (.none, false) := by
  simp [Gen.PyAttrSel.decisionOf, pyTruthy]

/-- The pattern the hand model compiles is the instance of the template the generated chain picks. -/
theorem gen_pattern (op value : Str) (ic hasWs : Bool) :
    (if op.isEmpty then none else some (Parser.attrPattern op value ic hasWs)) =
      instantiate (Gen.PyAttrSel.templateOf (some op) value.isEmpty hasWs) value ic := by
  rw [gen_templateOf, attrPattern_eq_instantiate]

theorem gen_valueQuoted (raw : Str) :
    Gen.PyAttrSel.valueQuoted raw = (match raw.head? with | some q => q == 34 || q == 39 | none => false) := by
  cases raw with
  | nil => rfl
  | cons c rest => simp [Gen.PyAttrSel.valueQuoted, startsWith_cons, startsWith_char]

theorem gen_pattern2Of (isType hasPattern : Bool) :
    Gen.PyAttrSel.pattern2Of isType hasPattern = if isType && hasPattern then some (false, true) else none := by
  simp [Gen.PyAttrSel.pattern2Of]

/-- The hand model's second pattern (`xml_type_pattern`) through the generated decision. -/
theorem gen_pattern2 (op value : Str) (ic hasWs isType : Bool) :
    (if isType then
        (if op.isEmpty then none else some (Parser.attrPattern op value ic hasWs)).map
          (fun _ => Parser.attrPattern op value false hasWs)
      else none) =
      (match Gen.PyAttrSel.pattern2Of isType
          (instantiate (Gen.PyAttrSel.templateOf (some op) value.isEmpty hasWs) value ic).isSome with
        | some (ic2, _) => instantiate (Gen.PyAttrSel.templateOf (some op) value.isEmpty hasWs) value ic2
        | none => none) := by
  have h1 := gen_pattern op value ic hasWs
  have h2 := gen_pattern op value false hasWs
  rw [← h1, gen_pattern2Of]
  cases isType <;> cases h : op.isEmpty <;> simp [h] at h2 ⊢ <;> exact h2

/-- `parse_attribute_selector` with every DECISION taken by the definitions regenerated from the source:
    the frame (group reads, unescaping, the final append / `:not()` nesting) is that of the hand model. -/
def genParseAttribute (P : Parser.PEnv) (t : Parser.Token) (sel : Parser.SelB) : Parser.SelB :=
  let op := (t.group P "cmp").getD []
  let case_ : Option Str := match t.group P "case" with
    | some c => if c.isEmpty then none else some (lower c)
    | none => none
  let ns : Str := match t.group P "attr_ns" with
    | some n => if n.isEmpty then [] else Parser.cssUnescape P.env P.L (n.take (n.length - 1))
    | none => []
  let attr := Parser.cssUnescape P.env P.L ((t.group P "attr_name").getD [])
  let fl := Gen.PyAttrSel.flagsOf case_ attr
  let value : Str :=
    if !pyTruthy (some op) then []
    else
      let raw := (t.group P "value").getD []
      if Gen.PyAttrSel.valueQuoted raw then Parser.cssUnescape P.env P.L (Parser.slice raw 1 (raw.length - 1)) true
      else Parser.cssUnescape P.env P.L raw
  let hasWs := (Rx.search P.env P.L.reWs value).isSome
  let tmpl := Gen.PyAttrSel.templateOf (some op) value.isEmpty hasWs
  let pattern : Option Rx := instantiate tmpl value fl.ignoreCase
  let pattern2 : Option Rx :=
    match Gen.PyAttrSel.pattern2Of fl.isType pattern.isSome with
    | some (ic2, _) => instantiate tmpl value ic2
    | none => none
  let selAttr : AttrSel := { attrName := attr, pfx := ns, pattern := pattern, xmlTypePattern := pattern2 }
  if Gen.PyAttrSel.inverseOf (some op) value.isEmpty hasWs then
    let sub := (Parser.SelB.empty.addAttr selAttr).freeze
    sel.addSub (.mk [sub] true false)
  else sel.addAttr selAttr

/-- **The tie.**  The hand model's attribute handler IS the handler whose decisions are the regenerated ones,
    for every token, parser environment and selector under construction. -/
theorem parseAttribute_eq_gen (P : Parser.PEnv) (t : Parser.Token) (sel : Parser.SelB) :
    Parser.parseAttribute P t sel = genParseAttribute P t sel := by
  unfold Parser.parseAttribute genParseAttribute
  generalize (t.group P "cmp").getD [] = op
  generalize (t.group P "value").getD [] = raw
  generalize Parser.cssUnescape P.env P.L ((t.group P "attr_name").getD []) = attr
  have hv : ∀ A B : Str, (if Gen.PyAttrSel.valueQuoted raw = true then A else B) =
      match raw.head? with | some q => if q == 34 || q == 39 then A else B | none => B := by
    intro A B; rw [gen_valueQuoted]; cases raw <;> rfl
  simp only [← gen_pattern2]
  simp only [hv, pyTruthy, Bool.not_not, ← gen_pattern, gen_inverseOf]
  generalize (if op.isEmpty = true then [] else _ : Str) = value
  generalize (Rx.search P.env P.L.reWs value).isSome = hasWs
  -- value, patterns and `inverse` agree; the flags are left, and `case_` is never `some []`
  have hnone : Gen.PyAttrSel.flagsOf none attr = _ := gen_flagsOf none attr (by simp)
  cases t.group P "case" with
  | none =>
    rw [hnone]
    cases lower attr == "type".toStr <;> rfl
  | some c =>
    cases c with
    | nil =>
      simp only [List.isEmpty_nil, ↓reduceIte]
      rw [hnone]
      cases lower attr == "type".toStr <;> rfl
    | cons a c =>
      simp only [List.isEmpty_cons, Bool.false_eq_true, ↓reduceIte]
      rw [gen_flagsOf (some (lower (a :: c))) attr (by simp [lower])]
      rfl

/-- The pattern the regenerated decisions give for operator `op`, value `v`, case flag `case_` on attribute `attr`. -/
def genPattern (op : Str) (case_ : Option Str) (attr v : Str) (hasWs : Bool) : Option Rx :=
  instantiate (Gen.PyAttrSel.templateOf (some op) v.isEmpty hasWs) v (Gen.PyAttrSel.flagsOf case_ attr).ignoreCase

/-- For an operator that is written, it is the hand model's `attrPattern` at the regenerated case bit. -/
theorem genPattern_eq {op : Str} (hop : op.isEmpty = false) (case_ : Option Str) (attr v : Str) (w : Bool) :
    genPattern op case_ attr v w = some (Parser.attrPattern op v (Gen.PyAttrSel.flagsOf case_ attr).ignoreCase w) := by
  rw [genPattern, ← gen_pattern, hop]; rfl

/-- `re.DOTALL` is set on every path. -/
theorem gen_dotAll (case_ : Option Str) (attr : Str) : (Gen.PyAttrSel.flagsOf case_ attr).dotAll = true := by
  simp only [Gen.PyAttrSel.flagsOf]
  repeat' split
  all_goals simp

/-- `re.I` exactly when the flag is `i`, or no flag is given and the attribute is `type` (ASCII case-insensitively);
    `is_type` exactly in the second case. -/
theorem gen_ignoreCase (case_ : Option Str) (attr : Str) (h : case_ ≠ some []) :
    (Gen.PyAttrSel.flagsOf case_ attr).ignoreCase =
      (case_ == some "i".toStr || (case_ == none && lower attr == "type".toStr)) ∧
    (Gen.PyAttrSel.flagsOf case_ attr).isType = (case_ == none && lower attr == "type".toStr) := by
  rw [gen_flagsOf _ _ h]
  cases case_ with
  | none => by_cases ht : lower attr = "type".toStr <;> simp [ht]
  | some c => simp

/-- `lits_case_rule` / `value_eq_template` (C11) about the regenerated decisions: the pattern of `[attr=v]`
    (`[attr=v i]`, `[attr=v s]`) matches exactly `v`, up to ASCII case iff the regenerated `ignoreCase` bit is set. -/
theorem gen_lits_case_rule (case_ : Option Str) (attr v s : Str) (w : Bool) :
    ∃ p, genPattern [61] case_ attr v w = some p ∧
      Rx.isMatch asciiEnv p s =
        (if (Gen.PyAttrSel.flagsOf case_ attr).ignoreCase then lower s == lower v else s == v) := by
  refine ⟨_, genPattern_eq rfl case_ attr v w, ?_⟩
  rw [C01Attr.shape_eq1]; exact C11.value_eq_template _ v s

/-- The same for `!=` (the pattern is that of `=`; the regenerated `inverse` nests it under `:not()`). -/
theorem gen_ne_rule (case_ : Option Str) (attr v s : Str) (w : Bool) :
    Gen.PyAttrSel.inverseOf (some [33, 61]) v.isEmpty w = true ∧
    ∃ p, genPattern [33, 61] case_ attr v w = some p ∧
      Rx.isMatch asciiEnv p s =
        (if (Gen.PyAttrSel.flagsOf case_ attr).ignoreCase then lower s == lower v else s == v) := by
  refine ⟨by simp [gen_inverseOf], _, genPattern_eq rfl case_ attr v w, ?_⟩
  rw [C01Attr.shape_ne]; exact C11.value_eq_template _ v s

/-- Only `!` sets `inverse`. -/
theorem gen_inverse_iff (op : Str) (ve vw : Bool) :
    Gen.PyAttrSel.inverseOf (some op) ve vw = true ↔ op.head? = some 33 := by
  simp [gen_inverseOf]

/-- `^=`, `$=`, `*=` with an empty value (C01Attr `tmpl_empty`): the regenerated chain picks the unmatchable class,
    and its pattern matches no string, whatever the flags. -/
theorem gen_empty_rule (env : CharEnv) (c0 : Nat) (rest : Str) (case_ : Option Str) (attr s : Str) (w : Bool)
    (h : c0 = 94 ∨ c0 = 36 ∨ c0 = 42) :
    Gen.PyAttrSel.templateOf (some (c0 :: rest)) true w = .unmatchable ∧
    ∃ p, genPattern (c0 :: rest) case_ attr [] w = some p ∧ Rx.isMatch env p s = false := by
  refine ⟨?_, _, genPattern_eq rfl case_ attr [] w, C01Attr.tmpl_empty env c0 rest _ w s h⟩
  rw [gen_templateOf]; rcases h with rfl | rfl | rfl <;> simp [modelTemplate]

/-- `~=` with an empty value or a value containing white space (C01Attr `tmpl_word_none`): the regenerated guard
    picks `wordUnmatchable` — exactly then — and the pattern matches no string. -/
theorem gen_word_rule (env : CharEnv) (rest : Str) (case_ : Option Str) (attr v s : Str) (w : Bool) :
    Gen.PyAttrSel.templateOf (some (126 :: rest)) v.isEmpty w =
      (if v.isEmpty || w then .wordUnmatchable else .word) ∧
    ((v = [] ∨ w = true) →
      ∃ p, genPattern [126, 61] case_ attr v w = some p ∧ Rx.isMatch env p s = false) := by
  refine ⟨?_, fun h => ⟨_, genPattern_eq rfl case_ attr v w, C01Attr.tmpl_word_none env v s _ w h⟩⟩
  rw [gen_templateOf]; simp [modelTemplate]

/-- The full C01 reading (`attrPattern_sem_ascii`) of every pattern the regenerated decisions give: for each of the
    seven operators it is the specification's value test with the regenerated case bit. -/
theorem gen_pattern_sem (op : Css.AttrOp) (case_ : Option Str) (attr v s : Str) :
    ∃ p, genPattern op.text case_ attr v (v.any isCssWs) = some p ∧
      Rx.isMatch asciiEnv p s = Css.valTest op v (Gen.PyAttrSel.flagsOf case_ attr).ignoreCase s :=
  ⟨_, genPattern_eq (by cases op <;> rfl) case_ attr v _, C01Attr.attrPattern_sem_ascii op v s _⟩

/-- Every template with a text has one in the regenerated table. -/
theorem templateStrings_keys :
    Gen.PyAttrSel.templateStrings.map (·.1) =
      [.unmatchable, .prefix, .suffix, .contains, .word, .wordUnmatchable, .dash, .equals] := by decide

end C11GenAttrSel
end SoupVerif
