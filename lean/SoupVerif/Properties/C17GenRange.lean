/-
  C17 — `:in-range` / `:out-of-range` in terms of the decision of `CSSMatch.match_range` TRANSLATED from the
  source (`Gen.PyLoops.rangeDecision`, `Generated/PyLoops.lean`; equality with the matcher model:
  `Properties/C18GenRange.lean`).  `C17.oorOf` (the function `rangeStateE` / `inrange_eq` / `outofrange_eq`
  are stated with) is the generated decision for `:out-of-range`.
-/
import SoupVerif.Properties.C17
import SoupVerif.Properties.C18GenRange

namespace SoupVerif.C17
open SoupVerif StateLaws

theorem handDecision_oorOf (itype : Str) (mn mx v : Option Inputs.PVal) (inRange : Bool) :
    C18.handDecision itype mn mx v inRange =
      (if mn.isNone && mx.isNone then false
       else if inRange then !oorOf itype mn mx v else oorOf itype mn mx v) := rfl

/-- With a valid bound, `oorOf` is the generated decision for `:out-of-range` … -/
theorem oorOf_eq_gen (itype : Str) (mn mx v : Option Inputs.PVal) (h : (mn.isNone && mx.isNone) = false) :
    oorOf itype mn mx v = Gen.PyLoops.rangeDecision itype mn mx v false := by
  rw [C18.rangeDecision_eq_hand, handDecision_oorOf, h]; rfl

/-- … and its negation is the generated decision for `:in-range`. -/
theorem not_oorOf_eq_gen (itype : Str) (mn mx v : Option Inputs.PVal) (h : (mn.isNone && mx.isNone) = false) :
    (!oorOf itype mn mx v) = Gen.PyLoops.rangeDecision itype mn mx v true := by
  rw [C18.rangeDecision_eq_hand, handDecision_oorOf, h]; rfl

/-- The state `match_range` establishes, with the generated decision: when none of the four reads raises,
    `rangeState` is `none` without a valid bound and otherwise `some` of the generated `:out-of-range` decision. -/
theorem rangeState_gen (c : Ctx) (e : Elem) (itype : Str) (mn mx v : Option Inputs.PVal)
    (hT : lowerE ((c.attrByName e Gen.PyLoops.rangeAttrType).getD (.str [])) = .ok itype)
    (hmn : parseValueE itype (c.attrByName e Gen.PyLoops.rangeAttrMin) = .ok mn)
    (hmx : parseValueE itype (c.attrByName e Gen.PyLoops.rangeAttrMax) = .ok mx)
    (hv : parseValueE itype (c.attrByName e Gen.PyLoops.rangeAttrValue) = .ok v) :
    rangeState c e =
      (if mn.isNone && mx.isNone then none else some (Gen.PyLoops.rangeDecision itype mn mx v false)) := by
  rw [rangeState_of_reads c e hT hmn hmx hv]
  cases hb : (mn.isNone && mx.isNone)
  · simp [oorOf_eq_gen _ _ _ _ hb]
  · simp

/-- `:in-range` / `:out-of-range` on an HTML document = the compound (an HTML `input` of a range type carrying
    `min` or `max`) and the decision translated from the source of `match_range`. -/
theorem inrange_eq_gen (c : Ctx) (l : Loc) (e : Elem) (hc : c.isHtml = true)
    (itype : Str) (mn mx v : Option Inputs.PVal)
    (hT : lowerE ((c.attrByName e Gen.PyLoops.rangeAttrType).getD (.str [])) = .ok itype)
    (hmn : parseValueE itype (c.attrByName e Gen.PyLoops.rangeAttrMin) = .ok mn)
    (hmx : parseValueE itype (c.attrByName e Gen.PyLoops.rangeAttrMax) = .ok mx)
    (hv : parseValueE itype (c.attrByName e Gen.PyLoops.rangeAttrValue) = .ok v) :
    matchList c l e Gen.CSS_IN_RANGE =
        (rangeCompoundHolds c e && Gen.PyLoops.rangeDecision itype mn mx v true) ∧
    matchList c l e Gen.CSS_OUT_OF_RANGE =
        (rangeCompoundHolds c e && Gen.PyLoops.rangeDecision itype mn mx v false) := by
  rw [inrange_eq c l e hc, outofrange_eq c l e hc, rangeState_gen c e itype mn mx v hT hmn hmx hv]
  cases hb : (mn.isNone && mx.isNone)
  · rw [← not_oorOf_eq_gen _ _ _ _ hb, ← oorOf_eq_gen _ _ _ _ hb]
    cases oorOf itype mn mx v <;> simp
  · have h1 : mn = none := by cases mn <;> simp_all
    have h2 : mx = none := by cases mx <;> simp_all
    subst h1 h2
    simp [C18.rangeDecision_no_bounds]

end SoupVerif.C17
