/-
  C06 / C20 end to end: WHAT THE DIAGNOSTIC OF A REJECTED SELECTOR TEXT SAYS.

  `Properties/C06.lean` proves that `Parser.compile` (the parser model over the token expressions
  regenerated from `css_parser.py`) returns a selector list or a documented error whose offset lies inside
  the pattern it names; `Properties/C20.lean` proves what `getPatternContext pattern index` (the model of
  `util.get_pattern_context`) returns for every `index ≤ |pattern|`.  This file composes them, and says WHICH
  offset the common mistakes get, from the text.

  PART 1 — every error: a positioned error of `compile` (any pattern, custom map, flag word, environment)
    carries a diagnostic that satisfies all clauses of C20, and names the pattern given or the definition of one
    of the custom selectors given (`diagnostic_of_error`); every other error is of a kind without position.
    The message text is not modelled.

  PART 2 — which offset.  `T = l.render` is the text of ANY selector list `l : SSelList` of the smaller grammar
    (`Refine/Syntax.lean`: type selectors, `#id`, `.class`, attribute selectors, the argument-less
    pseudo-classes, `:not/:is/:where/:matches(…)` nested, `:nth-*()` with `of S`, `:dir()`, combinators and
    commas; identifiers and strings in any admissible spelling, gaps = whitespace and comments wherever CSS
    allows them), admissible in front of what follows (`l.ok r`); `g₁` is any leading gap.  Environment
    `pyFoldEnv`, no custom selectors, flags 0, no NUL in the pattern (as in `compile_eq_denote`).
    The theorems `offset_*` give the error kind and the offset for (a) an unmatched `)`, (b) a character no token starts
    with, (c) a dangling, (d) a leading or doubled combinator, (e) an unknown pseudo-class — after `T`, (′) at the start of
    the pattern resp. after a second combinator, (″) after `T` and a combinator — and, without a label, for an at-rule.
  PART 3 — line and column as functions of the text: `diag_*`.  With `Refine/C20ParseCtx.lean`
    (`ctx_after_prefix`): for the errors at `|g₁ T|` the line is the LAST line of `g₁ T` and the column one
    past the end of that line (`CleanCut`: unless `g₁ T` ends in `\r` and the rest begins with `\n`); for (c)
    the last line of the whole text; for (d) line 1, column 1.
-/
import SoupVerif.Refine.C20ParseBase
import SoupVerif.Refine.C20ParseOrigin
import SoupVerif.Refine.C20ParseCtx
import SoupVerif.Lemmas.StrLit
namespace SoupVerif
namespace C20Parse
open Rx SoupVerif.Parser ParserProgress Escape Spelling Refine.Compile C09Compile Refine.C20Parse
open Context Spec Spec.Ctx

/-! ## Part 1: the diagnostic of every error -/

/-- The raise sites of the form `raise SelectorSyntaxError(msg, self.pattern, index)`. -/
def positioned : ErrKind → Bool
  | .undefinedCustom | .invalidPseudoSyntax | .unknownPseudo | .multipleCombinators
  | .combinatorNeedsSelector | .expectedSelector | .unmatchedClose | .tagNotAtStart | .unclosedPseudo
  | .malformedAttribute | .malformedClass | .malformedId | .malformedPseudo | .invalidCharacter => true
  | .badCustomName | .atRule | .pseudoElement | .customCollision | .pyBug _ => false

/-- `SelectorSyntaxError.__init__(msg, pattern, index)`: `self.context, self.line, self.col =
    get_pattern_context(pattern, index)` when pattern and index are given; all three stay `None`
    otherwise (and for the exceptions that are not `SelectorSyntaxError`). -/
def diagnostic (e : Err) : Option (Str × Nat × Nat) :=
  if positioned e.kind then some (getPatternContext e.pattern e.offset) else none

/-- Every clause of C20 about the triple `d = (context, line, col)` reported for offset `i` of pattern `p`. -/
structure DiagOK (p : Str) (i : Nat) (d : Str × Nat × Nat) : Prop where
  /-- the offset identifies a position inside the pattern (its end included) -/
  in_range : i ≤ p.length
  /-- line = 1 + number of line-break units (`\r\n` one unit, lone `\n`, lone `\r`) ending at or before `i` -/
  line : d.2.1 = 1 + breaksBefore p i
  /-- … the same count as a direct left-to-right recursion -/
  line_rec : d.2.1 = 1 + breaksBeforeRec p i
  /-- column = offset within that line + 1 -/
  col : d.2.2 = i - lineStart p i + 1
  /-- line start + (column − 1) is the offset -/
  position : lineStart p i + (d.2.2 - 1) = i
  line_range : 1 ≤ d.2.1 ∧ d.2.1 ≤ numLines p
  col_pos : 1 ≤ d.2.2
  /-- the context reproduces the pattern's lines with a marker on the reported line and a caret under the
      reported column (one column to the left at the `\n` of a `\r\n` pair): `Spec.Ctx.expectedContext` -/
  text : d.1 = expectedContext p i
  /-- the marked line exists -/
  marked : breaksBefore p i < (lines p).length
  /-- the offset at the very end: the last line, never inside a `\r\n` pair -/
  at_end : i = p.length → d.2.1 = numLines p ∧ inCrLf p i = false
  /-- the offset at the `\n` of a `\r\n` pair: same line as the `\r`, one column further -/
  crlf : inCrLf p i = true → i ∉ breakEnds p ∧ i + 1 ∈ breakEnds p ∧
    d.2.1 = (getPatternContext p (i - 1)).2.1 ∧ d.2.2 = (getPatternContext p (i - 1)).2.2 + 1

/-- `Properties/C20.lean`, collected. -/
theorem diagOK_of_le (p : Str) (i : Nat) (hi : i ≤ p.length) : DiagOK p i (getPatternContext p i) where
  in_range := hi
  line := C20.ctx_line p i hi
  line_rec := C20.ctx_line_rec p i hi
  col := C20.ctx_col p i hi
  position := (C20.ctx_position p i hi).1
  line_range := ⟨C20.ctx_line_pos p i hi, C20.ctx_line_le p i hi⟩
  col_pos := C20.ctx_col_pos p i hi
  text := C20.ctx_text p i hi
  marked := C20.ctx_marked_exists p i
  at_end := by
    intro h; subst h
    have := C20.ctx_end_offset p
    exact ⟨by rw [this.1], this.2⟩
  crlf := C20.ctx_crlf p i hi

/-- **`diagnostic_of_error`.**  Every positioned error of `compile` — any pattern, any custom map, any flag
    word — carries a `(context, line, col)` that satisfies all clauses of C20 for the pattern and offset it
    names, and the pattern it names is the (NUL-replaced) pattern given to `compile` or the (NUL-replaced)
    definition of one of the custom selectors given to `compile`. -/
theorem diagnostic_of_error (env : CharEnv) (B : Builtins) (pattern : Str) (custom : List (Str × Str))
    (flags : Nat) {e : Err} (h : Parser.compile env Gen.lexicon B pattern custom flags = .error e)
    (hk : positioned e.kind = true) :
    ∃ d, diagnostic e = some d ∧ DiagOK e.pattern e.offset d ∧
      (e.pattern = nulFix pattern ∨ ∃ kv ∈ custom, e.pattern = nulFix kv.2) := by
  refine ⟨getPatternContext e.pattern e.offset, by simp [diagnostic, hk],
    diagOK_of_le _ _ (C06.err_offset_in_range env B pattern custom flags h), ?_⟩
  rcases compile_error_origin env B pattern custom flags h with ⟨hbad, _, _⟩ | ⟨_, horig⟩
  · rcases hbad with hb | hb <;> rw [hb] at hk <;> cases hk
  · exact horig

/-- Without custom selectors the pattern named is the (NUL-replaced) pattern given. -/
theorem diagnostic_of_error_nocustom (env : CharEnv) (B : Builtins) (pattern : Str) (flags : Nat) {e : Err}
    (h : Parser.compile env Gen.lexicon B pattern [] flags = .error e) (hk : positioned e.kind = true) :
    e.pattern = nulFix pattern ∧ e.offset ≤ pattern.length ∧
      diagnostic e = some (getPatternContext (nulFix pattern) e.offset) ∧
      DiagOK (nulFix pattern) e.offset (getPatternContext (nulFix pattern) e.offset) := by
  obtain ⟨d, hd, hok, horig⟩ := diagnostic_of_error env B pattern [] flags h hk
  have hp : e.pattern = nulFix pattern := by
    rcases horig with h1 | ⟨kv, hm, _⟩
    · exact h1
    · cases hm
  have hle := hok.in_range
  rw [hp, nulFix_length] at hle
  refine ⟨hp, hle, by simp [diagnostic, hk, hp], diagOK_of_le _ _ (by rw [nulFix_length]; exact hle)⟩

/-- Every error of `compile` is a positioned `SelectorSyntaxError`, or one of: the `SelectorSyntaxError`
    of `process_custom` (no pattern), `NotImplementedError` (at-rule, pseudo-element), `KeyError`. -/
theorem error_classes (env : CharEnv) (B : Builtins) (pattern : Str) (custom : List (Str × Str))
    (flags : Nat) {e : Err} (h : Parser.compile env Gen.lexicon B pattern custom flags = .error e) :
    positioned e.kind = true ∨
      (diagnostic e = none ∧
        (e.kind = .badCustomName ∨ e.kind = .atRule ∨ e.kind = .pseudoElement ∨ e.kind = .customCollision)) := by
  have hnb := C06.compile_no_pybug_gen env B pattern custom flags h
  cases hkd : e.kind with
  | pyBug w => exact absurd hkd (hnb w)
  | badCustomName => right; simp [diagnostic, positioned, hkd]
  | atRule => right; simp [diagnostic, positioned, hkd]
  | pseudoElement => right; simp [diagnostic, positioned, hkd]
  | customCollision => right; simp [diagnostic, positioned, hkd]
  | _ => left; rfl

/-! ## Part 2: which offset -/

section Offsets
variable (B : Builtins)

/-- (a) A valid selector list text followed (after any gap) by an unmatched `)`: "Unmatched pseudo-class
    close" at the end of the list text. -/
theorem offset_unmatched_close (g₁ g rest : Str) (l : SSelList) (hg₁ : isGap g₁) (hg : isGap g)
    (hok : l.ok (g ++ 41 :: rest)) (h0 : ∀ x ∈ g₁ ++ l.render ++ (g ++ 41 :: rest), x ≠ 0) :
    Parser.compile pyFoldEnv Gen.lexicon B (g₁ ++ l.render ++ (g ++ 41 :: rest)) [] 0 =
      .error ⟨.unmatchedClose, g₁ ++ l.render ++ (g ++ 41 :: rest), (g₁ ++ l.render).length⟩ := by
  obtain ⟨st, k, hpos, hd, hs, hc⟩ :=
    compile_after_prefix B g₁ _ l hg₁ hok (safeStart_close g rest hg) (by simp) h0
  rw [hc, loop_unmatched_close B _ (k + 1) 0 st hd hg hs rfl, hpos]

/-- (b) … followed by an ASCII character no token starts with (and that does not continue the last
    identifier: not a digit, not `(`): "Invalid character" at the end of the list text. -/
theorem offset_invalid_char (g₁ rest : Str) (c : Nat) (l : SSelList) (hg₁ : isGap g₁)
    (hc : noTokenStart c = true) (hid : identContChar c = false) (h40 : c ≠ 40)
    (hok : l.ok (c :: rest)) (h0 : ∀ x ∈ g₁ ++ l.render ++ (c :: rest), x ≠ 0) :
    Parser.compile pyFoldEnv Gen.lexicon B (g₁ ++ l.render ++ (c :: rest)) [] 0 =
      .error ⟨.invalidCharacter, g₁ ++ l.render ++ (c :: rest), (g₁ ++ l.render).length⟩ := by
  obtain ⟨_, _, h92, h124⟩ := noTokenStart_not_comb hc
  have hsafe : SafeStart (c :: rest) := safeStart_cons c rest ⟨hid, h92, h124, h40⟩
  obtain ⟨st, k, hpos, hd, hs, hcmp⟩ := compile_after_prefix B g₁ _ l hg₁ hok hsafe (by simp) h0
  rw [hcmp, loop_invalid_char B _ (k + 1) 0 st hd hc, hpos]

/-- (b′) The pattern begins (after any gap) with a character no token starts with. -/
theorem offset_invalid_char_start (g₁ rest : Str) (c : Nat) (hg₁ : isGap g₁)
    (hc : noTokenStart c = true) (h0 : ∀ x ∈ g₁ ++ (c :: rest), x ≠ 0) :
    Parser.compile pyFoldEnv Gen.lexicon B (g₁ ++ (c :: rest)) [] 0 =
      .error ⟨.invalidCharacter, g₁ ++ (c :: rest), g₁.length⟩ := by
  obtain ⟨_, hws, h47, _⟩ := noTokenStart_facts hc
  rw [compile_at_start B g₁ (c :: rest) hg₁ (by simp [noGapStart, hws, h47]) (by simp) h0,
    loop_invalid_char B _ _ 0 (initLS g₁.length 0 0 []) (c := c) (cs := rest)
      (List.drop_left' rfl) hc]
  rfl

/-- (c) A dangling combinator (`,` `+` `>` `~`, gaps around it) at the end: "Expected a selector" at the
    LENGTH of the whole text — the "offset at the very end" case of C20. -/
theorem offset_dangling_comb (g₁ g₂ g₃ : Str) (c : Nat) (l : SSelList) (hg₁ : isGap g₁) (hg₂ : isGap g₂)
    (hg₃ : isGap g₃) (hcomb : isComb c = true) (hok : l.ok (g₂ ++ c :: g₃))
    (h0 : ∀ x ∈ g₁ ++ l.render ++ (g₂ ++ c :: g₃), x ≠ 0) :
    Parser.compile pyFoldEnv Gen.lexicon B (g₁ ++ l.render ++ (g₂ ++ c :: g₃)) [] 0 =
      .error ⟨.expectedSelector, g₁ ++ l.render ++ (g₂ ++ c :: g₃),
        (g₁ ++ l.render ++ (g₂ ++ c :: g₃)).length⟩ := by
  have e : g₂ ++ c :: g₃ = (SComb.sym g₂ c g₃).render ++ [] := (List.append_nil _).symm
  rw [e] at hok h0 ⊢
  obtain ⟨st, k, hpos, hidx, hd, hs, hcmp⟩ := compile_after_comb B g₁ [] l (.sym g₂ c g₃) hg₁ ⟨hg₂, hg₃, hcomb⟩ hok rfl
    (fun _ h => nomatch h) h0
  rw [hcmp, parseLoop_end B _ (k + 1) 0 st (by show isGap (List.drop _ _); rw [hd]; rfl)]
  simp only
  rw [finishSel_expected B _ st hs, hidx, hpos, List.append_nil]

/-- (d) A leading combinator (after any gap; `,` `+` `>` `~`), WHATEVER follows: "The combinator … must have
    a selector before it" at offset 0 — not at the combinator, not at the end of the leading gap. -/
theorem offset_leading_comb (g₁ rest : Str) (c : Nat) (hg₁ : isGap g₁) (hcomb : isComb c = true)
    (h0 : ∀ x ∈ g₁ ++ (c :: rest), x ≠ 0) :
    Parser.compile pyFoldEnv Gen.lexicon B (g₁ ++ (c :: rest)) [] 0 =
      .error ⟨.combinatorNeedsSelector, g₁ ++ (c :: rest), 0⟩ := by
  rw [compile_at_start B g₁ (c :: rest) hg₁ (noGapStart_comb hcomb rest) (by simp) h0,
    loop_leading_comb B (g₁ ++ c :: rest) _ 0 (initLS g₁.length 0 0 []) (c := c) (g := []) (rest := rest)
      (List.drop_left' rfl) rfl hcomb rfl rfl rfl]
  rfl

/-- (d′) Two combinators in a row after a valid list text, WHATEVER follows the second: the error is
    reported at the end of the first combinator token (its trailing gap included), i.e. at the second
    combinator. -/
theorem offset_double_comb (g₁ g₂ g₃ rest : Str) (c c' : Nat) (l : SSelList) (hg₁ : isGap g₁)
    (hg₂ : isGap g₂) (hg₃ : isGap g₃) (hcomb : isComb c = true) (hcomb' : isComb c' = true)
    (hok : l.ok (g₂ ++ c :: (g₃ ++ c' :: rest)))
    (h0 : ∀ x ∈ g₁ ++ l.render ++ (g₂ ++ c :: (g₃ ++ c' :: rest)), x ≠ 0) :
    Parser.compile pyFoldEnv Gen.lexicon B (g₁ ++ l.render ++ (g₂ ++ c :: (g₃ ++ c' :: rest))) [] 0 =
      .error ⟨.combinatorNeedsSelector, g₁ ++ l.render ++ (g₂ ++ c :: (g₃ ++ c' :: rest)),
        (g₁ ++ l.render ++ (g₂ ++ c :: g₃)).length⟩ := by
  have e : g₂ ++ c :: (g₃ ++ c' :: rest) = (SComb.sym g₂ c g₃).render ++ c' :: rest := by simp [SComb.render]
  rw [e] at hok h0 ⊢
  obtain ⟨st, k, hpos, hidx, hd, hs, hcmp⟩ := compile_after_comb B g₁ (c' :: rest) l (.sym g₂ c g₃) hg₁
    ⟨hg₂, hg₃, hcomb⟩ hok (noGapStart_comb hcomb' rest) (fun _ h => nomatch h) h0
  rw [hcmp, loop_leading_comb B _ k 0 st (c := c') (g := []) (rest := rest) hd rfl hcomb' rfl rfl hs, hidx, hpos]
  rfl

/-- The hypotheses on a pseudo-class name `:name` written as `58 :: renderIdentWith f`, followed by `r`. -/
structure BadPseudo (f : Forms) (r : Str) : Prop where
  ident : identOK f r
  /-- the name is not `:-…` written with a literal dash (`:--name` is the custom-selector token) -/
  nodash : (renderIdentWith f).head? ≠ some 45
  /-- what follows neither continues the identifier nor opens an argument list -/
  stop : ¬ continuesIdent r
  noparen : r.head? ≠ some 40
  /-- the lower-cased name is in neither table of argument-less pseudo-classes -/
  unknown₁ : inList Gen.lexicon.pseudoSimple (58 :: lower (valueOf f)) = false
  unknown₂ : inList Gen.lexicon.pseudoSimpleNoMatch (58 :: lower (valueOf f)) = false

/-- (e) `:name` for a name the library does not know (in any spelling and letter case), directly after a
    valid list text: the error is at the START of the pseudo-class token (the colon). -/
theorem offset_unknown_pseudo (g₁ r : Str) (f : Forms) (l : SSelList) (hg₁ : isGap g₁) (hb : BadPseudo f r)
    (hok : l.ok (58 :: (renderIdentWith f ++ r)))
    (h0 : ∀ x ∈ g₁ ++ l.render ++ (58 :: (renderIdentWith f ++ r)), x ≠ 0) :
    Parser.compile pyFoldEnv Gen.lexicon B (g₁ ++ l.render ++ (58 :: (renderIdentWith f ++ r))) [] 0 =
      .error ⟨pseudoErrKind (58 :: lower (valueOf f)), g₁ ++ l.render ++ (58 :: (renderIdentWith f ++ r)),
        (g₁ ++ l.render).length⟩ := by
  obtain ⟨st, k, hpos, hd, _, hcmp⟩ := compile_after_prefix B g₁ _ l hg₁ hok
    (safeStart_cons 58 _ (by decide)) (by simp) h0
  rw [hcmp, loop_unknown_pseudo B _ (k + 1) 0 st hd hb.nodash hb.ident.1 hb.ident.2.1 hb.stop hb.noparen
    hb.ident.2.2 hb.unknown₁ hb.unknown₂, hpos]

/-- (e′) The same at the start of the pattern. -/
theorem offset_unknown_pseudo_start (g₁ r : Str) (f : Forms) (hg₁ : isGap g₁) (hb : BadPseudo f r)
    (h0 : ∀ x ∈ g₁ ++ (58 :: (renderIdentWith f ++ r)), x ≠ 0) :
    Parser.compile pyFoldEnv Gen.lexicon B (g₁ ++ (58 :: (renderIdentWith f ++ r))) [] 0 =
      .error ⟨pseudoErrKind (58 :: lower (valueOf f)), g₁ ++ (58 :: (renderIdentWith f ++ r)), g₁.length⟩ := by
  rw [compile_at_start B g₁ _ hg₁ (by simp [noGapStart, isCssWs]) (by simp) h0,
    loop_unknown_pseudo B _ _ 0 (initLS g₁.length 0 0 []) (forms := f) (r := r)
      (List.drop_left' rfl)
      hb.nodash hb.ident.1 hb.ident.2.1 hb.stop hb.noparen hb.ident.2.2 hb.unknown₁ hb.unknown₂]
  rfl

/-- An at-rule directly after a valid list text: `NotImplementedError` (kind `atRule`), at the `@`. -/
theorem offset_at_rule (g₁ r : Str) (f : Forms) (l : SSelList) (hg₁ : isGap g₁) (hf : identOK f r)
    (hr : ¬ continuesIdent r) (hok : l.ok (64 :: (renderIdentWith f ++ r)))
    (h0 : ∀ x ∈ g₁ ++ l.render ++ (64 :: (renderIdentWith f ++ r)), x ≠ 0) :
    Parser.compile pyFoldEnv Gen.lexicon B (g₁ ++ l.render ++ (64 :: (renderIdentWith f ++ r))) [] 0 =
      .error ⟨.atRule, g₁ ++ l.render ++ (64 :: (renderIdentWith f ++ r)), (g₁ ++ l.render).length⟩ := by
  obtain ⟨st, k, hpos, hd, _, hcmp⟩ := compile_after_prefix B g₁ _ l hg₁ hok
    (safeStart_cons 64 _ (by decide)) (by simp) h0
  rw [hcmp, loop_at_rule B _ (k + 1) 0 st hd hf.1 hf.2.1 hr, hpos]

/-- An at-rule at the start of the pattern (`@media …`): `NotImplementedError`, at the `@`. -/
theorem offset_at_rule_start (g₁ r : Str) (f : Forms) (hg₁ : isGap g₁) (hf : identOK f r)
    (hr : ¬ continuesIdent r) (h0 : ∀ x ∈ g₁ ++ (64 :: (renderIdentWith f ++ r)), x ≠ 0) :
    Parser.compile pyFoldEnv Gen.lexicon B (g₁ ++ (64 :: (renderIdentWith f ++ r))) [] 0 =
      .error ⟨.atRule, g₁ ++ (64 :: (renderIdentWith f ++ r)), g₁.length⟩ := by
  rw [compile_at_start B g₁ _ hg₁ (by simp [noGapStart, isCssWs]) (by simp) h0,
    loop_at_rule B _ _ 0 (initLS g₁.length 0 0 []) (forms := f) (r := r)
      (List.drop_left' rfl)
      hf.1 hf.2.1 hr]
  rfl

/-! ### The same mistakes at the start of a NEW compound: after `T` and a combinator `cb`
    (`g c g'` with `c` one of `,` `+` `>` `~`, or a descendant gap).  The offset is `|g₁ T cb|`. -/

/-- (b″) `T cb c rest`, e.g. `a $` or `a > !`: "Invalid character" at the character (here also digits, `(`). -/
theorem offset_invalid_char_after_comb (g₁ rest : Str) (c : Nat) (l : SSelList) (cb : SComb) (hg₁ : isGap g₁)
    (hcb : cb.ok) (hc : noTokenStart c = true) (hok : l.ok (cb.render ++ c :: rest))
    (h0 : ∀ x ∈ g₁ ++ l.render ++ (cb.render ++ c :: rest), x ≠ 0) :
    Parser.compile pyFoldEnv Gen.lexicon B (g₁ ++ l.render ++ (cb.render ++ c :: rest)) [] 0 =
      .error ⟨.invalidCharacter, g₁ ++ l.render ++ (cb.render ++ c :: rest),
        (g₁ ++ l.render ++ cb.render).length⟩ := by
  obtain ⟨_, hws, h47, _⟩ := noTokenStart_facts hc
  obtain ⟨hnc, h41, _⟩ := noTokenStart_not_comb hc
  obtain ⟨st, k, hpos, _, hd, _, hcmp⟩ := compile_after_comb B g₁ (c :: rest) l cb hg₁ hcb hok
    (by simp [noGapStart, hws, h47]) (fun _ _ => ⟨by simp, by simpa using hnc, by simpa using h41⟩) h0
  rw [hcmp, loop_invalid_char B _ k 0 st hd hc, hpos]

/-- (e″) `T cb :name r`, e.g. `a :nosuch` or `a > :nosuch`: the error is at the colon. -/
theorem offset_unknown_pseudo_after_comb (g₁ r : Str) (f : Forms) (l : SSelList) (cb : SComb)
    (hg₁ : isGap g₁) (hcb : cb.ok) (hb : BadPseudo f r)
    (hok : l.ok (cb.render ++ 58 :: (renderIdentWith f ++ r)))
    (h0 : ∀ x ∈ g₁ ++ l.render ++ (cb.render ++ 58 :: (renderIdentWith f ++ r)), x ≠ 0) :
    Parser.compile pyFoldEnv Gen.lexicon B (g₁ ++ l.render ++ (cb.render ++ 58 :: (renderIdentWith f ++ r)))
        [] 0 =
      .error ⟨pseudoErrKind (58 :: lower (valueOf f)),
        g₁ ++ l.render ++ (cb.render ++ 58 :: (renderIdentWith f ++ r)),
        (g₁ ++ l.render ++ cb.render).length⟩ := by
  obtain ⟨st, k, hpos, _, hd, _, hcmp⟩ := compile_after_comb B g₁ _ l cb hg₁ hcb hok
    (by simp [noGapStart, isCssWs]) (fun _ _ => ⟨by simp, by simp [isComb], by simp⟩) h0
  rw [hcmp, loop_unknown_pseudo B _ k 0 st hd hb.nodash hb.ident.1 hb.ident.2.1 hb.stop hb.noparen
    hb.ident.2.2 hb.unknown₁ hb.unknown₂, hpos]

/-- `T cb @ident r`, e.g. `a @x`: `NotImplementedError` at the `@`. -/
theorem offset_at_rule_after_comb (g₁ r : Str) (f : Forms) (l : SSelList) (cb : SComb)
    (hg₁ : isGap g₁) (hcb : cb.ok) (hf : identOK f r) (hr : ¬ continuesIdent r)
    (hok : l.ok (cb.render ++ 64 :: (renderIdentWith f ++ r)))
    (h0 : ∀ x ∈ g₁ ++ l.render ++ (cb.render ++ 64 :: (renderIdentWith f ++ r)), x ≠ 0) :
    Parser.compile pyFoldEnv Gen.lexicon B (g₁ ++ l.render ++ (cb.render ++ 64 :: (renderIdentWith f ++ r)))
        [] 0 =
      .error ⟨.atRule, g₁ ++ l.render ++ (cb.render ++ 64 :: (renderIdentWith f ++ r)),
        (g₁ ++ l.render ++ cb.render).length⟩ := by
  obtain ⟨st, k, hpos, _, hd, _, hcmp⟩ := compile_after_comb B g₁ _ l cb hg₁ hcb hok
    (by simp [noGapStart, isCssWs]) (fun _ _ => ⟨by simp, by simp [isComb], by simp⟩) h0
  rw [hcmp, loop_at_rule B _ k 0 st hd hf.1 hf.2.1 hr, hpos]

end Offsets

/-! ## Part 3: line and column from the text -/

/-- An error positioned at the end of a prefix `a` of its pattern `a ++ b`: the diagnostic names the LAST
    line of `a` and the column one past the end of that line; the context is C20's block. -/
theorem diagnostic_after_prefix (k : ErrKind) (hk : positioned k = true) (a b : Str) (hcut : CleanCut a b) :
    diagnostic ⟨k, a ++ b, a.length⟩ =
      some (expectedContext (a ++ b) a.length, numLines a, a.length - lineStart a a.length + 1) := by
  have hi : a.length ≤ (a ++ b).length := by simp
  have h1 := C20.ctx_text (a ++ b) a.length hi
  have h2 := ctx_after_prefix a b hcut
  simp only [diagnostic, hk, if_true, Option.some.injEq]
  exact Prod.ext h1 h2

/-- … at the very end of its pattern: the last line of the pattern. -/
theorem diagnostic_at_end (k : ErrKind) (hk : positioned k = true) (p : Str) :
    diagnostic ⟨k, p, p.length⟩ =
      some (expectedContext p p.length, numLines p, p.length - lineStart p p.length + 1) := by
  simp only [diagnostic, hk, if_true, Option.some.injEq]
  exact (C20.ctx_end_offset p).1

/-- … at offset 0: line 1, column 1. -/
theorem diagnostic_at_zero (k : ErrKind) (hk : positioned k = true) (p : Str) :
    diagnostic ⟨k, p, 0⟩ = some (expectedContext p 0, 1, 1) := by
  simp only [diagnostic, hk, if_true, Option.some.injEq]
  exact Prod.ext (C20.ctx_text p 0 (Nat.zero_le _)) (ctx_at_zero p)

/-- … in a pattern without `\n` / `\r`: line 1, column offset + 1, context = the pattern, a newline,
    `offset` spaces, `^`. -/
theorem diagnostic_single_line (k : ErrKind) (hk : positioned k = true) (p : Str) (i : Nat)
    (h : ∀ c ∈ p, c ≠ 10 ∧ c ≠ 13) :
    diagnostic ⟨k, p, i⟩ = some (p ++ [10] ++ caretLine i, 1, i + 1) := by
  simp only [diagnostic, hk, if_true, Option.some.injEq]
  exact ctx_single_line p i h

section Diag
variable (B : Builtins)

/-- (a) with its diagnostic: line and column are those of the END of `g₁ ++ T`. -/
theorem diag_unmatched_close (g₁ g rest : Str) (l : SSelList) (hg₁ : isGap g₁) (hg : isGap g)
    (hok : l.ok (g ++ 41 :: rest)) (h0 : ∀ x ∈ g₁ ++ l.render ++ (g ++ 41 :: rest), x ≠ 0)
    (hcut : CleanCut (g₁ ++ l.render) (g ++ 41 :: rest)) :
    ∃ e, Parser.compile pyFoldEnv Gen.lexicon B (g₁ ++ l.render ++ (g ++ 41 :: rest)) [] 0 = .error e ∧
      e.kind = .unmatchedClose ∧
      diagnostic e = some (expectedContext (g₁ ++ l.render ++ (g ++ 41 :: rest)) (g₁ ++ l.render).length,
        numLines (g₁ ++ l.render),
        (g₁ ++ l.render).length - lineStart (g₁ ++ l.render) (g₁ ++ l.render).length + 1) :=
  ⟨_, offset_unmatched_close B g₁ g rest l hg₁ hg hok h0, rfl,
    diagnostic_after_prefix _ rfl _ _ hcut⟩

/-- (b) with its diagnostic (`CleanCut` holds by itself: the offending character is not `\n`). -/
theorem diag_invalid_char (g₁ rest : Str) (c : Nat) (l : SSelList) (hg₁ : isGap g₁)
    (hc : noTokenStart c = true) (hid : identContChar c = false) (h40 : c ≠ 40)
    (hok : l.ok (c :: rest)) (h0 : ∀ x ∈ g₁ ++ l.render ++ (c :: rest), x ≠ 0) :
    ∃ e, Parser.compile pyFoldEnv Gen.lexicon B (g₁ ++ l.render ++ (c :: rest)) [] 0 = .error e ∧
      e.kind = .invalidCharacter ∧
      diagnostic e = some (expectedContext (g₁ ++ l.render ++ (c :: rest)) (g₁ ++ l.render).length,
        numLines (g₁ ++ l.render),
        (g₁ ++ l.render).length - lineStart (g₁ ++ l.render) (g₁ ++ l.render).length + 1) := by
  refine ⟨_, offset_invalid_char B g₁ rest c l hg₁ hc hid h40 hok h0, rfl,
    diagnostic_after_prefix _ rfl _ _ (cleanCut_of_head ?_)⟩
  have := (noTokenStart_facts hc).2.1
  simp only [List.head?_cons, ne_eq, Option.some.injEq]
  intro h; subst h; simp [isCssWs] at this

/-- (c) with its diagnostic: the last line of the whole text, one column past its end. -/
theorem diag_dangling_comb (g₁ g₂ g₃ : Str) (c : Nat) (l : SSelList) (hg₁ : isGap g₁) (hg₂ : isGap g₂)
    (hg₃ : isGap g₃) (hcomb : isComb c = true) (hok : l.ok (g₂ ++ c :: g₃))
    (h0 : ∀ x ∈ g₁ ++ l.render ++ (g₂ ++ c :: g₃), x ≠ 0) :
    ∃ e, Parser.compile pyFoldEnv Gen.lexicon B (g₁ ++ l.render ++ (g₂ ++ c :: g₃)) [] 0 = .error e ∧
      e.kind = .expectedSelector ∧
      diagnostic e = some (expectedContext (g₁ ++ l.render ++ (g₂ ++ c :: g₃))
          (g₁ ++ l.render ++ (g₂ ++ c :: g₃)).length,
        numLines (g₁ ++ l.render ++ (g₂ ++ c :: g₃)),
        (g₁ ++ l.render ++ (g₂ ++ c :: g₃)).length -
          lineStart (g₁ ++ l.render ++ (g₂ ++ c :: g₃)) (g₁ ++ l.render ++ (g₂ ++ c :: g₃)).length + 1) :=
  ⟨_, offset_dangling_comb B g₁ g₂ g₃ c l hg₁ hg₂ hg₃ hcomb hok h0, rfl, diagnostic_at_end _ rfl _⟩

/-- (d) with its diagnostic: line 1, column 1, whatever the leading gap contains. -/
theorem diag_leading_comb (g₁ rest : Str) (c : Nat) (hg₁ : isGap g₁) (hcomb : isComb c = true)
    (h0 : ∀ x ∈ g₁ ++ (c :: rest), x ≠ 0) :
    ∃ e, Parser.compile pyFoldEnv Gen.lexicon B (g₁ ++ (c :: rest)) [] 0 = .error e ∧
      e.kind = .combinatorNeedsSelector ∧
      diagnostic e = some (expectedContext (g₁ ++ (c :: rest)) 0, 1, 1) :=
  ⟨_, offset_leading_comb B g₁ rest c hg₁ hcomb h0, rfl, diagnostic_at_zero _ rfl _⟩

theorem positioned_pseudoErrKind (n : Str) : positioned (pseudoErrKind n) = true := by
  unfold pseudoErrKind; split <;> rfl

/-- (e) with its diagnostic (`CleanCut` holds by itself: the token starts with `:`). -/
theorem diag_unknown_pseudo (g₁ r : Str) (f : Forms) (l : SSelList) (hg₁ : isGap g₁) (hb : BadPseudo f r)
    (hok : l.ok (58 :: (renderIdentWith f ++ r)))
    (h0 : ∀ x ∈ g₁ ++ l.render ++ (58 :: (renderIdentWith f ++ r)), x ≠ 0) :
    ∃ e, Parser.compile pyFoldEnv Gen.lexicon B (g₁ ++ l.render ++ (58 :: (renderIdentWith f ++ r))) [] 0 =
        .error e ∧
      e.kind = pseudoErrKind (58 :: lower (valueOf f)) ∧
      diagnostic e = some (expectedContext (g₁ ++ l.render ++ (58 :: (renderIdentWith f ++ r)))
          (g₁ ++ l.render).length,
        numLines (g₁ ++ l.render),
        (g₁ ++ l.render).length - lineStart (g₁ ++ l.render) (g₁ ++ l.render).length + 1) :=
  ⟨_, offset_unknown_pseudo B g₁ r f l hg₁ hb hok h0, rfl,
    diagnostic_after_prefix _ (positioned_pseudoErrKind _) _ _ (cleanCut_of_head (by simp))⟩

/-- An at-rule gets no diagnostic (`NotImplementedError` has no line / column / context). -/
theorem diag_at_rule_start (g₁ r : Str) (f : Forms) (hg₁ : isGap g₁) (hf : identOK f r)
    (hr : ¬ continuesIdent r) (h0 : ∀ x ∈ g₁ ++ (64 :: (renderIdentWith f ++ r)), x ≠ 0) :
    ∃ e, Parser.compile pyFoldEnv Gen.lexicon B (g₁ ++ (64 :: (renderIdentWith f ++ r))) [] 0 = .error e ∧
      e.kind = .atRule ∧ diagnostic e = none :=
  ⟨_, offset_at_rule_start B g₁ r f hg₁ hf hr h0, rfl, rfl⟩

end Diag

/-! ## Non-vacuity: concrete instances (each compared with the real library) -/

/-- `div.x` -/
def exT : SSelList := .mk (.mk (some (.name [(100, .lit), (105, .lit), (118, .lit)])) [.cls [(120, .lit)]]) []

example : exT.render = "div.x".toStr := by decide

theorem exT_ok (r : Str) (h : validForms [(120, EscForm.lit)] r = true) : exT.ok r := by
  simp only [exT, SSelList.ok, SCompound.ok, restOK, itemsOK, SItem.ok, STag.ok, identOK,
    renderRest, renderItems, SItem.render, List.nil_append, List.append_nil]
  exact ⟨⟨⟨rfl, by decide, by decide⟩, ⟨⟨h, by decide, by decide⟩, trivial⟩, Or.inl rfl⟩, trivial⟩

/-- An error against a text given as a literal, from the error against the same text put together from its
    parts. -/
theorem error_on_text {B : Builtins} {t t' : Str} {k : ErrKind} {n n' : Nat} (ht : t = t') (hn : n = n')
    (h : Parser.compile pyFoldEnv Gen.lexicon B t [] 0 = .error ⟨k, t, n⟩) :
    Parser.compile pyFoldEnv Gen.lexicon B t' [] 0 = .error ⟨k, t', n'⟩ := ht ▸ hn ▸ h

/-- `div.x )` : Python reports line 1, column 6 (offset 5), "Unmatched pseudo-class close at position 5". -/
example : Parser.compile pyFoldEnv Gen.lexicon Gen.builtinsRec "div.x )".toStr [] 0 =
    .error ⟨.unmatchedClose, "div.x )".toStr, 5⟩ :=
  error_on_text (by decide_lit) (by decide +kernel)
    (offset_unmatched_close Gen.builtinsRec [] [32] [] exT (by decide) (by decide) (exT_ok _ (by decide)) (by decide +kernel))

/-- `div.x!` : "Invalid character '!' position 5". -/
example : Parser.compile pyFoldEnv Gen.lexicon Gen.builtinsRec "div.x!".toStr [] 0 =
    .error ⟨.invalidCharacter, "div.x!".toStr, 5⟩ :=
  error_on_text (by decide_lit) (by decide +kernel)
    (offset_invalid_char Gen.builtinsRec [] [] 33 exT (by decide) ((noTokenStart_iff 33).mpr (by decide))
      (by decide) (by decide) (exT_ok _ (by decide)) (by decide +kernel))

/-- `div.x\n>` + space : "Expected a selector at position 8", line 2, column 3. -/
example : Parser.compile pyFoldEnv Gen.lexicon Gen.builtinsRec "div.x\n> ".toStr [] 0 =
    .error ⟨.expectedSelector, "div.x\n> ".toStr, 8⟩ :=
  error_on_text (by decide_lit) (by decide +kernel)
    (offset_dangling_comb Gen.builtinsRec [] [10] [32] 62 exT (by decide) (by decide) (by decide) (by decide)
      (exT_ok _ (by decide)) (by decide +kernel))

/-- ` > div` : "The combinator '>' at position 0, must have a selector before it", line 1, column 1. -/
example : Parser.compile pyFoldEnv Gen.lexicon Gen.builtinsRec " > div".toStr [] 0 =
    .error ⟨.combinatorNeedsSelector, " > div".toStr, 0⟩ :=
  error_on_text (by decide_lit) (by decide +kernel)
    (offset_leading_comb Gen.builtinsRec [32] " div".toStr 62 (by decide) (by decide) (by decide +kernel))

/-- `div.x > ~ p` : "The combinator '~' at position 8, must have a selector before it". -/
example : Parser.compile pyFoldEnv Gen.lexicon Gen.builtinsRec "div.x > ~ p".toStr [] 0 =
    .error ⟨.combinatorNeedsSelector, "div.x > ~ p".toStr, 8⟩ :=
  error_on_text (by decide_lit) (by decide +kernel)
    (offset_double_comb Gen.builtinsRec [] [32] [32] " p".toStr 62 126 exT (by decide) (by decide) (by decide)
      (by decide) (by decide) (exT_ok _ (by decide)) (by decide +kernel))

/-- `div.x:NoSuch` : "':nosuch' was detected as a pseudo-class …", line 1, column 6. -/
example : Parser.compile pyFoldEnv Gen.lexicon Gen.builtinsRec "div.x:NoSuch".toStr [] 0 =
    .error ⟨.unknownPseudo, "div.x:NoSuch".toStr, 5⟩ :=
  error_on_text (by decide_lit) (by decide +kernel)
    (offset_unknown_pseudo Gen.builtinsRec [] [] ("NoSuch".toStr.map fun c => (c, .lit)) exT (by decide)
      ⟨⟨by decide, by decide, by decide⟩, by decide, by decide, by decide, by decide, by decide⟩
      (exT_ok _ (by decide)) (by decide +kernel))

/-- `div.x:not` (no parenthesis): "Invalid syntax for pseudo class ':not'", same position. -/
example : Parser.compile pyFoldEnv Gen.lexicon Gen.builtinsRec "div.x:not".toStr [] 0 =
    .error ⟨.invalidPseudoSyntax, "div.x:not".toStr, 5⟩ :=
  error_on_text (by decide_lit) (by decide +kernel)
    (offset_unknown_pseudo Gen.builtinsRec [] [] ("not".toStr.map fun c => (c, .lit)) exT (by decide)
      ⟨⟨by decide, by decide, by decide⟩, by decide, by decide, by decide, by decide, by decide⟩
      (exT_ok _ (by decide)) (by decide +kernel))

/-- `div.x $` : "Invalid character '$' position 6" (after the descendant combinator). -/
example : Parser.compile pyFoldEnv Gen.lexicon Gen.builtinsRec "div.x $".toStr [] 0 =
    .error ⟨.invalidCharacter, "div.x $".toStr, 6⟩ :=
  error_on_text (by decide_lit) (by decide +kernel)
    (offset_invalid_char_after_comb Gen.builtinsRec [] [] 36 exT (.desc [32]) (by decide)
      (DescGap.ws 32 [] (by decide) (by decide)) ((noTokenStart_iff 36).mpr (by decide)) (exT_ok _ (by decide)) (by decide +kernel))

/-- `div.x >\n:nosuch` : unknown pseudo-class at offset 8 = line 2, column 1. -/
example : Parser.compile pyFoldEnv Gen.lexicon Gen.builtinsRec "div.x >\n:nosuch".toStr [] 0 =
    .error ⟨.unknownPseudo, "div.x >\n:nosuch".toStr, 8⟩ :=
  error_on_text (by decide_lit) (by decide +kernel)
    (offset_unknown_pseudo_after_comb Gen.builtinsRec [] [] ("nosuch".toStr.map fun c => (c, .lit)) exT
      (.sym [32] 62 [10]) (by decide) ⟨by decide, by decide, by decide⟩
      ⟨⟨by decide, by decide, by decide⟩, by decide, by decide, by decide, by decide, by decide⟩
      (exT_ok _ (by decide)) (by decide +kernel))

/-- `@media` : NotImplementedError "At-rules found at position 0". -/
example : Parser.compile pyFoldEnv Gen.lexicon Gen.builtinsRec "@media".toStr [] 0 =
    .error ⟨.atRule, "@media".toStr, 0⟩ :=
  error_on_text (by decide_lit) (by decide +kernel)
    (offset_at_rule_start Gen.builtinsRec [] [] ("media".toStr.map fun c => (c, .lit)) (by decide)
      ⟨by decide, by decide, by decide⟩ (by decide) (by decide +kernel))

/-- The diagnostic of `div.x\n> ` (dangling combinator on the second line): line 2, column 3, the caret
    under column 3 of the marked line. -/
example : diagnostic ⟨.expectedSelector, "div.x\n> ".toStr, 8⟩ =
    some ("    div.x\n--> > \n      ^".toStr, 2, 3) := by decide +kernel

end C20Parse
end SoupVerif

#print axioms SoupVerif.C20Parse.diagnostic_of_error
#print axioms SoupVerif.C20Parse.diagnostic_of_error_nocustom
#print axioms SoupVerif.C20Parse.error_classes
#print axioms SoupVerif.C20Parse.offset_unmatched_close
#print axioms SoupVerif.C20Parse.offset_invalid_char
#print axioms SoupVerif.C20Parse.offset_invalid_char_start
#print axioms SoupVerif.C20Parse.offset_dangling_comb
#print axioms SoupVerif.C20Parse.offset_leading_comb
#print axioms SoupVerif.C20Parse.offset_double_comb
#print axioms SoupVerif.C20Parse.offset_unknown_pseudo
#print axioms SoupVerif.C20Parse.offset_unknown_pseudo_start
#print axioms SoupVerif.C20Parse.offset_at_rule
#print axioms SoupVerif.C20Parse.offset_at_rule_start
#print axioms SoupVerif.C20Parse.offset_invalid_char_after_comb
#print axioms SoupVerif.C20Parse.offset_unknown_pseudo_after_comb
#print axioms SoupVerif.C20Parse.offset_at_rule_after_comb
#print axioms SoupVerif.C20Parse.diag_unmatched_close
#print axioms SoupVerif.C20Parse.diag_invalid_char
#print axioms SoupVerif.C20Parse.diag_dangling_comb
#print axioms SoupVerif.C20Parse.diag_leading_comb
#print axioms SoupVerif.C20Parse.diag_unknown_pseudo
#print axioms SoupVerif.C20Parse.diag_at_rule_start
