/-
  C19  Text pseudo-classes see exactly the character data CSS/HTML count as content.

  Model  : `Ctx.descendants`, `Ctx.text`, `Ctx.ownText`, `matchContains`, `matchEmpty`,
           `matchPlaceholderShown`, `findBidiKids` (Model/Match.lean);
           the `next_good` loop of `get_descendants` as Python runs it: `TextWalk.skipWalk`
           over `TextWalk.preorder` (Model/TextWalk.lean)
  Spec   : `Spec.textOf`, `Spec.ownTexts`, `Spec.Contains`, `Spec.ContainsOwn`,
           `Spec.isEmptyElem`, `Spec.eraseSpecial` (Spec/Text.lean) — structural recursion on the
           tree, no walk.

  Chain of the proof:
    Python loop  (`skipWalk ∘ preorder`, index arithmetic for `next_good`)
      = structural walk `cutWalkKids` (yield a cut iframe, do not enter it)   `skipwalk_eq_structural`
      = foci of `Loc.descendants (fun d => !cut d)`                           `skipwalk_eq_descendants`
    and the text of that walk is `Spec.textOf`                                `text_eq`.

  Notes on statements.
    * `text_eq`, `own_eq`, `empty_iff` hold for EVERY location (for a string node both sides are
      empty); there is no "l is an element" hypothesis.
    * The iframe cut of `:-soup-contains` is `c.isHtml && c.isIframe e` (`cutOf c c.isHtml`).
      `matchPlaceholderShown` calls `get_text(el)` with `no_iframe=False`: no cut there
      (`placeholder_eq`).  `matchEmpty` looks at direct children only and never cuts: an
      `iframe` with element or text children is not `:empty`.
    * `matchContains_cons` (`Lemmas/MatchAlgebra.lean`; here `matchContains_mixed`, `matchContains_all`): every `:-soup-contains()` / `:-soup-contains-own()` list is tested
      against its own kind of content (two caches in the source, `content` and `own_content`).
-/
import SoupVerif.Lemmas.Text
import SoupVerif.Lemmas.MatchAlgebra
import SoupVerif.Lemmas.StrLit
namespace SoupVerif
namespace C19
open TextWalk Spec TextLemmas

/-- The `next_good` loop over bs4's full pre-order list yields exactly the structural pre-order
    of `n` that yields an iframe-cut element but does not enter it. -/
theorem skipwalk_eq_structural (cut : Elem → Bool) (n : Node) :
    skipWalk (preorder cut n) = cutWalkKids cut n.kids := by
  rw [skipWalk, skipWalkT_preorder, filter_keep_false]

/-- `tags=True` yields the elements of the same walk. -/
theorem skipwalk_tags (cut : Elem → Bool) (n : Node) :
    skipWalkT true (preorder cut n) = (skipWalk (preorder cut n)).filter Node.isTag := by
  rw [skipwalk_eq_structural, skipWalkT_preorder, keep_true]

/-- … and this is what `Loc.descendants` with `enter d = !cut d` yields, for all trees. -/
theorem skipwalk_eq_descendants (cut : Elem → Bool) (l : Loc) :
    skipWalk (preorder cut l.focus) =
      (l.descendants (fun d => !cutLoc cut d)).map Loc.focus := by
  rw [skipwalk_eq_structural, Loc.descendants_focus cut _ (fun _ => rfl)]

/-- `get_descendants(el, tags, no_iframe)` — guard on `el`, then the loop — is the structural walk of `el`,
    filtered to the elements when `tags`. -/
theorem getDescendants_structural (cut : Elem → Bool) (tags : Bool) (n : Node) :
    getDescendants cut tags n = (cutWalkNode cut n).filter (keep tags) := by
  rw [cutWalkNode_eq]
  cases n with
  | elem e ks =>
    simp only [getDescendants]
    split
    · rfl
    · exact skipWalkT_preorder cut tags _
  | str k s => rfl

/-- The whole of `get_descendants(el, tags=False, no_iframe)` against the model's `Ctx.descendants`. -/
theorem getDescendants_eq (c : Ctx) (l : Loc) (ni : Bool) :
    getDescendants (cutOf c ni) false l.focus = (c.descendants l ni).map Loc.focus := by
  rw [getDescendants_structural, filter_keep_false, Ctx.descendants_focus]

/-- `get_tag_descendants(el, no_iframe)` likewise. -/
theorem getTagDescendants_eq (c : Ctx) (l : Loc) (ni : Bool) :
    getDescendants (cutOf c ni) true l.focus = (c.tagDescendants l ni).map Loc.focus := by
  rw [getDescendants_structural, keep_true, ← Ctx.descendants_focus, Ctx.tagDescendants, List.filter_map]
  rfl

/-- `get_text(el, no_iframe)` is the structural text content. -/
theorem text_eq (c : Ctx) (l : Loc) (ni : Bool) :
    c.text l ni = Spec.textOf (cutOf c ni) l.focus := by
  unfold Ctx.text
  rw [filter_flatMap_focus Node.isContentString Node.strVal, Ctx.descendants_focus,
    text_cutWalkNode_top]

/-- The loop-level `get_text` agrees too (Python loop → spec, without the zipper). -/
theorem getText_eq (cut : Elem → Bool) (n : Node) : getText cut n = Spec.textOf cut n := by
  rw [getText, getDescendants_structural, filter_keep_false, text_cutWalkNode_top]

/-- `get_own_text(el, no_iframe)`: the direct text children, one string each. -/
theorem own_eq (c : Ctx) (l : Loc) (ni : Bool) :
    c.ownText l ni = Spec.ownTexts (cutOf c ni) l.focus := by
  unfold Ctx.ownText Ctx.contents
  rw [filter_map_focus Node.isContentString Node.strVal, ← cutLoc_cutOf,
    apply_ite (List.map Loc.focus), Loc.children_focus, cutLoc]
  cases l.focus with
  | elem e ks =>
    simp only [ownTexts]
    split
    · rfl
    · exact ownTexts_kids ks
  | str k s => rfl

/-- `get_text(el)` of `:placeholder-shown` (no iframe cut). -/
theorem placeholder_eq (c : Ctx) (l : Loc) :
    matchPlaceholderShown c l =
      (Spec.textOf (fun _ => false) l.focus == [] || Spec.textOf (fun _ => false) l.focus == [10]) := by
  unfold matchPlaceholderShown
  rw [text_eq]
  have : cutOf c false = fun _ => false := by funext e; simp [cutOf]
  rw [this]

/-- One `:-soup-contains(t1, …)`: some `ti` occurs in the text content. -/
theorem contains_iff (c : Ctx) (l : Loc) (ts : List Str) :
    matchContains c l [⟨ts, false⟩] = Spec.contains (cutOf c c.isHtml) ts l.focus := by
  unfold matchContains Spec.contains
  simp only [List.all_cons, List.all_nil, Bool.and_true, Bool.false_eq_true, if_false, text_eq]
  congr 1
  funext t
  rw [occursInB_eq_isInfix]

/-- One `:-soup-contains-own(t1, …)`: some `ti` occurs within a single direct text child. -/
theorem containsOwn_iff (c : Ctx) (l : Loc) (ts : List Str) :
    matchContains c l [⟨ts, true⟩] = Spec.containsOwn (cutOf c c.isHtml) ts l.focus := by
  unfold matchContains Spec.containsOwn
  simp only [List.all_cons, List.all_nil, Bool.and_true, if_true, own_eq]
  congr 1
  funext t
  congr 1
  funext piece
  rw [occursInB_eq_isInfix]

theorem occursInB_iff (t s : Str) : Spec.occursInB t s = true ↔ Spec.occursIn t s := by
  rw [occursInB_eq_isInfix, isInfix_iff_occursIn]

theorem contains_spec (cut : Elem → Bool) (ts : List Str) (n : Node) :
    Spec.contains cut ts n = true ↔ Spec.Contains cut ts n := by
  simp only [Spec.contains, Spec.Contains, List.any_eq_true, occursInB_iff]

theorem containsOwn_spec (cut : Elem → Bool) (ts : List Str) (n : Node) :
    Spec.containsOwn cut ts n = true ↔ Spec.ContainsOwn cut ts n := by
  simp only [Spec.containsOwn, Spec.ContainsOwn, List.any_eq_true, occursInB_iff]

/-- `:-soup-contains(t1, …)` matches exactly when some `ti` occurs in the concatenation, in
    document order, of the text nodes among the descendants (iframe content excluded in HTML). -/
theorem contains_iff_prop (c : Ctx) (l : Loc) (ts : List Str) :
    matchContains c l [⟨ts, false⟩] = true ↔ Spec.Contains (cutOf c c.isHtml) ts l.focus := by
  rw [contains_iff, contains_spec]

/-- `:-soup-contains-own(t1, …)` matches exactly when some `ti` occurs within a single text node
    that is a direct child. -/
theorem containsOwn_iff_prop (c : Ctx) (l : Loc) (ts : List Str) :
    matchContains c l [⟨ts, true⟩] = true ↔ Spec.ContainsOwn (cutOf c c.isHtml) ts l.focus := by
  rw [containsOwn_iff, containsOwn_spec]

/-- Mixed `:-soup-contains-own(a):-soup-contains(b)` in either order: each is tested against
    its own content. -/
theorem matchContains_mixed (c : Ctx) (l : Loc) (a b : List Str) :
    matchContains c l [⟨a, true⟩, ⟨b, false⟩] =
      (Spec.containsOwn (cutOf c c.isHtml) a l.focus && Spec.contains (cutOf c c.isHtml) b l.focus) ∧
    matchContains c l [⟨b, false⟩, ⟨a, true⟩] =
      (Spec.contains (cutOf c c.isHtml) b l.focus && Spec.containsOwn (cutOf c c.isHtml) a l.focus) := by
  constructor
  · rw [matchContains_cons, containsOwn_iff, contains_iff]
  · rw [matchContains_cons, containsOwn_iff, contains_iff]

/-- The general form: every list of the compound against the content of its kind. -/
theorem matchContains_all (c : Ctx) (l : Loc) (cs : List ContainsSel) :
    matchContains c l cs = cs.all fun cl =>
      if cl.own then Spec.containsOwn (cutOf c c.isHtml) cl.text l.focus
      else Spec.contains (cutOf c c.isHtml) cl.text l.focus := by
  induction cs with
  | nil => rfl
  | cons cl rest ih =>
    rw [matchContains_cons, ih, List.all_cons]
    congr 1
    obtain ⟨ts, own⟩ := cl
    cases own
    · simp only [Bool.false_eq_true, if_false]; exact contains_iff c l ts
    · simp only [if_true]; exact containsOwn_iff c l ts

theorem isWs_eq (x : Nat) : Spec.isWs x = isCssWs x := by
  unfold Spec.isWs isCssWs
  cases (x == 32) <;> cases (x == 9) <;> cases (x == 10) <;> cases (x == 13) <;> cases (x == 12) <;> rfl

theorem blocksEmpty_eq (k : Node) :
    (k.isTag || (k.isContentString && k.strVal.any (fun x => !isCssWs x))) = Spec.blocksEmpty k := by
  cases k with
  | elem e ks => rfl
  | str kind s =>
    cases kind <;> simp [Node.isTag, Node.isContentString, Node.strVal, Spec.blocksEmpty, isWs_eq]

/-- `:empty` holds exactly when there is no element child and no text child containing a
    non-whitespace character. -/
theorem empty_iff (l : Loc) : matchEmpty l = Spec.isEmptyElem l.focus := by
  unfold matchEmpty Spec.isEmptyElem
  rw [← Loc.children_focus, List.any_map]
  congr 2
  funext ch
  exact blocksEmpty_eq ch.focus

theorem isEmptyElem_spec (n : Node) : Spec.isEmptyElem n = true ↔ Spec.IsEmptyElem n := by
  unfold Spec.isEmptyElem Spec.IsEmptyElem
  rw [Bool.not_eq_true', List.any_eq_false]
  constructor
  · intro h k hk
    have hb := h k hk
    refine ⟨?_, ?_⟩
    · intro e ks he; subst he; simp [Spec.blocksEmpty] at hb
    · intro s hs x hx
      subst hs
      simp only [Spec.blocksEmpty, List.any_eq_true, Bool.not_eq_true', not_exists, not_and,
        Bool.not_eq_false] at hb
      exact hb x hx
  · intro h k hk
    obtain ⟨h1, h2⟩ := h k hk
    cases k with
    | elem e ks => exact absurd rfl (h1 e ks)
    | str kind s =>
      cases kind <;> simp only [Spec.blocksEmpty, Bool.false_eq_true, not_false_eq_true]
      simp only [List.any_eq_true, Bool.not_eq_true', not_exists, not_and, Bool.not_eq_false]
      exact fun x hx => h2 s rfl x hx

theorem empty_iff_prop (l : Loc) : matchEmpty l = true ↔ Spec.IsEmptyElem l.focus := by
  rw [empty_iff, isEmptyElem_spec]

/-- Erase the payload of every special string in the whole document around (and below) `l`. -/
def frameErase (f : Frame) : Frame := ⟨eraseSpecialKids f.left, f.info, eraseSpecialKids f.right⟩
def locErase (l : Loc) : Loc := ⟨eraseSpecial l.focus, l.up.map frameErase⟩

theorem locErase_focus (l : Loc) : (locErase l).focus = eraseSpecial l.focus := rfl

/-- The spec itself does not read special strings. -/
theorem special_never_text (cut : Elem → Bool) (n : Node) :
    Spec.textOfNode cut (eraseSpecial n) = Spec.textOfNode cut n := textOfNode_erase cut n

theorem special_never_text_textOf (cut : Elem → Bool) (n : Node) :
    Spec.textOf cut (eraseSpecial n) = Spec.textOf cut n := textOf_erase cut n

/-- `get_text` reads only `.text` payloads. -/
theorem text_erase (c : Ctx) (l : Loc) (ni : Bool) : c.text (locErase l) ni = c.text l ni := by
  rw [text_eq, text_eq, locErase_focus, textOf_erase]

/-- `get_own_text` reads only `.text` payloads. -/
theorem ownText_erase (c : Ctx) (l : Loc) (ni : Bool) : c.ownText (locErase l) ni = c.ownText l ni := by
  rw [own_eq, own_eq, locErase_focus, ownTexts_erase]

theorem matchContains_erase (c : Ctx) (l : Loc) (cs : List ContainsSel) :
    matchContains c (locErase l) cs = matchContains c l cs := by
  unfold matchContains
  simp only [text_erase, ownText_erase]

theorem matchEmpty_erase (l : Loc) : matchEmpty (locErase l) = matchEmpty l := by
  rw [empty_iff, empty_iff, locErase_focus, isEmptyElem_erase]

theorem matchPlaceholderShown_erase (c : Ctx) (l : Loc) :
    matchPlaceholderShown c (locErase l) = matchPlaceholderShown c l := by
  unfold matchPlaceholderShown
  simp only [text_erase]

theorem findBidiKids_nil (c : Ctx) : findBidiKids c [] = none := by
  unfold findBidiKids; rfl

/-- `find_bidi` reads only `.text` payloads. -/
theorem findBidiKids_erase (c : Ctx) : ∀ ks : List Node,
    findBidiKids c (eraseSpecialKids ks) = findBidiKids c ks
  | [] => by rw [eraseSpecialKids]
  | .elem e sub :: ks => by
    rw [eraseSpecialKids, eraseSpecial_elem, findBidiKids.eq_def, findBidiKids.eq_def c (_ :: ks)]
    simp only [findBidiKids_erase c sub, findBidiKids_erase c ks]
  | .str kind s :: ks => by
    rw [eraseSpecialKids, findBidiKids.eq_def c (_ :: ks)]
    by_cases h : kind = .text
    · rw [h, eraseSpecial_str_text, findBidiKids.eq_def]
      simp only [findBidiKids_erase c ks]
    · rw [eraseSpecial_str_special _ _ h, findBidiKids.eq_def]
      simp only [bne_iff_ne, ne_eq, h, not_false_eq_true, if_true, findBidiKids_erase c ks]
termination_by ks => ks
decreasing_by all_goals (simp only [List.cons.sizeOf_spec, Node.elem.sizeOf_spec]; omega)

theorem locIsIframe_erase (c : Ctx) (l : Loc) : c.locIsIframe (locErase l) = c.locIsIframe l := by
  unfold Ctx.locIsIframe Loc.elem?
  rw [locErase_focus, elem?_erase]

theorem findBidi_erase (c : Ctx) (l : Loc) : findBidi c (locErase l) = findBidi c l := by
  unfold findBidi
  rw [locIsIframe_erase, locErase_focus, kids_erase, ← eraseSpecialKids_eq_map, findBidiKids_erase]

/-- The concatenation is in document order: `get_text` concatenates the text nodes of the walk in
    the order of the walk, and the walk's positions strictly increase (lexicographic order on
    child-index paths, an ancestor before its descendants). -/
theorem text_order (c : Ctx) (l : Loc) (b : Bool) :
    c.text l b = ((c.descendants l b).filter (fun d => d.focus.isContentString)).flatMap
        (fun d => d.focus.strVal) ∧
    List.Pairwise (fun a b => lexLt a.pos b.pos)
      ((c.descendants l b).filter (fun d => d.focus.isContentString)) :=
  ⟨rfl, (Ctx.descendants_below c l b).sorted.sublist List.filter_sublist⟩

/-- Every text node that contributes lies strictly below `l`. -/
theorem text_nodes_below (c : Ctx) (l : Loc) (b : Bool) :
    ∀ d ∈ (c.descendants l b).filter (fun d => d.focus.isContentString),
      ∃ suffix, suffix ≠ [] ∧ d.pos = l.pos ++ suffix := by
  intro d hd
  obtain ⟨i, s, _, hp⟩ := (Ctx.descendants_below c l b).shape d (List.mem_filter.mp hd).1
  exact ⟨i :: s, by simp, hp⟩

def chtml : Ctx :=
  { env := asciiEnv, bidi := fun _ => 0, wildStrip := id, isXml := false, hasHtmlNs := false,
    isHtml := true, root := none, scope := none, namespaces := [], iframeRestrict := false }
/-- An XML document that is not XHTML: no iframe cut. -/
def cxml : Ctx := { chtml with isXml := true, isHtml := false }

def el (name : String) (kids : List Node) : Node :=
  .elem { isDoc := false, name := name.toStr, pfx := none, ns := none, attrs := [] } kids
def tx (s : String) : Node := .str .text s.toStr

/-- `<div>a<!--X-->b<![CDATA[Y]]><?Z?><!W><!DOCTYPE V><p>c<iframe>I<b>J</b></iframe>d</p>e</div>`
    (all six string kinds interleaved; the iframe, with nested content, is the middle child of `p`, so the
    walk goes on after skipping it). -/
def sample : Node :=
  el "div" [tx "a", .str .comment "X".toStr, tx "b", .str .cdata "Y".toStr, .str .pi "Z".toStr,
    .str .decl "W".toStr, .str .doctype "V".toStr,
    el "p" [tx "c", el "IFRAME" [tx "I", el "b" [tx "J"]], tx "d"], tx "e"]

def sampleLoc : Loc := ⟨sample, []⟩

/-- A tree whose iframe subtree ends the walk (the `break` / run-out branch). -/
def sampleLast : Node := el "div" [tx "a", el "p" [el "iframe" [tx "I", el "b" [tx "J"]]]]

theorem sample_text : chtml.text sampleLoc chtml.isHtml = "abcde".toStr := by decide_lit
theorem sample_own : chtml.ownText sampleLoc chtml.isHtml = ["a".toStr, "b".toStr, "e".toStr] := by decide_lit

theorem matchContains_sample (cs : List ContainsSel) :
    matchContains chtml sampleLoc cs = cs.all fun cl =>
      if cl.own then cl.text.any fun t => ["a".toStr, "b".toStr, "e".toStr].any fun piece => isInfix t piece
      else cl.text.any fun t => isInfix t "abcde".toStr := by
  simp only [matchContains, sample_text, sample_own]

example : chtml.text sampleLoc true = "abcde".toStr := sample_text
example : cxml.text sampleLoc cxml.isHtml = "abcIJde".toStr := by decide_lit
example : chtml.text sampleLoc false = "abcIJde".toStr := by decide_lit
example : getText (cutOf chtml true) sample = "abcde".toStr := by
  rw [getText_eq]; exact (text_eq chtml sampleLoc true).symm.trans sample_text
example : (skipWalk (preorder (cutOf chtml true) sample)).length = 12 := by decide_lit
example : (preorder (cutOf chtml true) sample).length = 15 := by decide_lit
example : (skipWalk (preorder (cutOf chtml true) sampleLast)).length = 3 := by decide_lit
example : (skipWalkT true (preorder (cutOf chtml true) sample)).length = 2 := by decide_lit
example : chtml.ownText sampleLoc true = ["a".toStr, "b".toStr, "e".toStr] := sample_own
-- found across text nodes, not through an iframe, not in a comment
example : matchContains chtml sampleLoc [⟨["bc".toStr], false⟩] = true := by
  rw [matchContains_sample]; decide_lit
example : matchContains chtml sampleLoc [⟨["cd".toStr], false⟩] = true := by
  rw [matchContains_sample]; decide_lit
example : matchContains chtml sampleLoc [⟨["I".toStr], false⟩] = false := by
  rw [matchContains_sample]; decide_lit
example : matchContains cxml sampleLoc [⟨["cIJd".toStr], false⟩] = true := by decide_lit
example : matchContains chtml sampleLoc [⟨["X".toStr], false⟩] = false := by
  rw [matchContains_sample]; decide_lit
example : matchContains chtml sampleLoc [⟨["Y".toStr], false⟩] = false := by
  rw [matchContains_sample]; decide_lit
example : matchContains chtml sampleLoc [⟨["Z".toStr, "W".toStr, "V".toStr], false⟩] = false := by
  rw [matchContains_sample]; decide_lit
-- own text: within ONE direct text child
example : matchContains chtml sampleLoc [⟨["ab".toStr], true⟩] = false := by
  rw [matchContains_sample]; decide_lit
example : matchContains chtml sampleLoc [⟨["ab".toStr], false⟩] = true := by
  rw [matchContains_sample]; decide_lit
example : matchContains chtml sampleLoc [⟨["q".toStr, "e".toStr], true⟩] = true := by
  rw [matchContains_sample]; decide_lit
-- mixed own / not own, both orders
example : matchContains chtml sampleLoc [⟨["b".toStr], true⟩, ⟨["cd".toStr], false⟩] = true := by
  rw [matchContains_sample]; decide_lit
example : matchContains chtml sampleLoc [⟨["cd".toStr], false⟩, ⟨["b".toStr], true⟩] = true := by
  rw [matchContains_sample]; decide_lit
-- the empty string is contained in every element's text, and in own text only when there is a text child
example : matchContains chtml ⟨el "p" [], []⟩ [⟨[[]], false⟩] = true := by decide_lit
example : matchContains chtml ⟨el "p" [], []⟩ [⟨[[]], true⟩] = false := by decide_lit
-- an iframe itself has no text in HTML
example : matchContains chtml ⟨el "iframe" [tx "I"], []⟩ [⟨["I".toStr], false⟩] = false := by decide_lit
example : matchContains chtml ⟨el "iframe" [tx "I"], []⟩ [⟨["I".toStr], true⟩] = false := by decide_lit
example : matchEmpty ⟨el "p" [.str .comment "x".toStr, tx " \n\t", .str .cdata "y".toStr, .str .pi "z".toStr], []⟩ = true := by decide_lit
example : matchEmpty ⟨el "p" [tx " x "], []⟩ = false := by decide_lit
example : matchEmpty ⟨el "p" [el "b" []], []⟩ = false := by decide_lit
-- U+00A0 is not CSS white space
example : matchEmpty ⟨el "p" [.str .text [160]], []⟩ = false := by decide_lit
example : matchEmpty sampleLoc = false := by decide_lit

end C19
end SoupVerif
