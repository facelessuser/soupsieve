/-
  C09, end to end, for (almost) the whole selector grammar: the COMPILED RESULT depends only on the token
  values, not on their spelling.  This file extends `Properties/C09Compile.lean` (read its header first; the
  statements there stay valid) to the parts of the grammar it leaves out: namespace prefixes, `:lang()`,
  the `contains` family, empty slots of the forgiving lists of `:is()` / `:where()`, `:has()` with relative
  selector lists, `&`, and custom selectors `:--name` with a custom dictionary.

  MAIN THEOREMS

    theorem compile_eq_denote2 (B : Builtins) (Γ : Tbl) (custom : List (Str × Str)) (cu0 : Custom)
        (hpc : processCustom pyFoldEnv Gen.lexicon custom = .ok cu0) (hcu0 : CuInv B Γ [] cu0)
        (g₁ g₂ : Str) (l : SSelList) (hg₁ : isGap g₁) (hg₂ : isGap g₂) (hok : l.ok 0 g₂) (htbl : l.tbl Γ)
        (h0 : ∀ x ∈ g₁ ++ l.render ++ g₂, x ≠ 0) :
        Parser.compile pyFoldEnv Gen.lexicon B (g₁ ++ l.render ++ g₂) custom 0 = .ok (denote B l.value)

    theorem compile_spelling_invariant_partial2 …   -- two (pattern, dictionary) pairs with `l.value = l'.value`
                                                     -- compile to the same structure

  and the specialisations `compile_eq_denote2_plain` / `compile_spelling_invariant_partial2_plain` (no
  custom dictionary: exactly the shape of the theorems of `C09Compile.lean`, with the side condition
  `l.tbl []`, "no `:--name` in the pattern") and `compile_eq_denote2_table` (the dictionary given as a list of
  (name as written, key, definition); `process_custom` is then run by the theorem, see below).
  `denote` is computed from the VALUES alone: a fold that mirrors `parse_selectors` for every flag word
  (`combStepG`: `parse_combinator` / `parse_has_combinator`, `closeSt`: the closing parenthesis, `finishG`:
  the clean-up after the loop), written without positions (`Refine/Denote2.lean`, on the builders of `Refine/Builders.lean`).  `B : Builtins` is arbitrary.  Environment:
  `pyFoldEnv`, as in `C09Compile.lean`.

  COVERED GRAMMAR (`SSelList`, `SCompound`, `SItem`; text = `render`, values = `value`, side conditions =
  `ok fl` for the flag word `fl` of the `parse_selectors` call that reads the list, and `tbl Γ`; the definitions are
  in `Refine/Syntax2.lean`).  Everything
  `C09Compile.lean` covers, and:

    tag       := ( NS? `|` )? ( `*` | IDENT )                  -- NS := `*` | IDENT;  `|tag`, `*|tag`, `ns|*`, …
    item      := …
               | `[` gap ( NS? `|` )? IDENT ( … )? gap `]`      -- `[ns|a]`, `[*|a=v]`, `[|a]` (value of `[|a]` = of `[a]`)
               | `:lang(` gap VALUES gap `)`
               | `:contains(` | `:-soup-contains(` | `:-soup-contains-own(`  gap VALUES gap `)`
               | `:` FN `(` gap list gap `)`                    -- FN: also `has`
               | `&`
               | `:--` NAME                                     -- NAME defined in the custom dictionary
    VALUES    := VALUE ( gap `,` gap VALUE )*                   -- VALUE as in attribute selectors: identifier or
                                                                --   quoted string, any admissible spelling
    list      := slot ( comb slot )*      where a slot is a compound or EMPTY, and (`restOK`):
        · in the lists of `:is()` / `:where()` (FLG_FORGIVE) a slot may be empty when it is a whole
          comma-separated alternative: `:is()`, `:is(, a)`, `:is(a, , b)`, `:is(a,)`;
        · in the lists of `:has()` (FLG_RELATIVE) the FIRST slot of an alternative may be empty when a
          combinator other than the comma follows — a leading combinator: `:has(> a, + b c)`;
        · everywhere else (top level, `:not()`, `:matches()`, `of S`, definitions of custom selectors) every
          slot is a compound;
        · the text after an empty slot begins with no gap (the preceding token has taken it): a decomposition
          of the text, not a restriction of the texts.
    dictionary: `Γ : Tbl` maps a key (lower-cased unescaped name with the colon) to its definition
        gap list gap (flags FLG_PSEUDO; the definition may use every covered construct, including other custom
        selectors).  A `:--name` item CARRIES the definition of its name (`SItem.custom f g₁ l g₂`; `l.tbl Γ` says
        it is the one `Γ` has), its value carries the values of the definition: the syntax is a finite tree, so
        the dictionary is acyclic by construction.  The name begins with a literal `--` (the look-ahead of the
        token works on the raw text); the rest of it may be spelled with escapes, in any letter case.

  WHAT IS ASSUMED about the dictionary, and what is proved about it.  `compile_eq_denote2` takes the result of
  `process_custom` as a hypothesis (`hpc`, `hcu0`: every key of `Γ` is in the map with the source text of its
  definition).  `processCustom_table` + `CuInv_init` (used by `compile_eq_denote2_table`) PROVE it from: the keys
  are pairwise different, and every name as written passes `nameOK` — `RE_CUSTOM` matches the lower-cased name
  and the lower-cased unescaped name is the key.  `nameOK` is decidable and is evaluated name by name (the
  engine on the regenerated `Gen.cp_RE_CUSTOM`); `RE_CUSTOM` is NOT refined against a hand-written scanner here.
  The memoisation of `parse_selectors` (a definition is compiled once, with its own name removed from the map,
  then stored) is part of the proof: invariant `CuInv` of the map, `StackLt` (the definitions being expanded are
  bigger than what is being parsed, so it cannot refer to them).  Fuel: `C06.compile_fuel_irrelevant` — the
  proof runs with more fuel than `compile` allots and transfers the result.

  NOT COVERED (none is known to fail):
    * empty slots elsewhere than at the start of an alternative: `:is(a >)`, `:is(a > , b)` (accepted by the
      library, the dangling combinator is dropped); `:is(a, b >)` raises;
    * the text of a definition with NUL (replaced by U+FFFD before it is tokenised), names of custom selectors
      whose leading `--` is written with escapes (such a pattern is an error), dictionaries with two names of the
      same key (KeyError), cyclic dictionaries (`SelectorSyntaxError`, see `C06.custom_cycle_terminates_self` / `_mutual`);
    * `RE_CUSTOM` (see above); all patterns on which `compile` raises; parse flags other than 0.

  HYPOTHESES of the theorems, all explicit: `l.ok 0 g₂` (decidable, context-dependent only through the next
  character), `l.tbl Γ`, no NUL in the pattern, `hpc` / `hcu0` (or `nameOK` + distinct keys).

  HOW.  One token lemma and one loop step per token kind (`Refine/Compile*.lean`; the items that the smaller grammar
  has as well and that open no nested list through `C09Compile.run_leaf`, `Refine/CompileLeaf.lean`), then the mutual induction
  `run_item` … `run_top` below over the syntax, for ALL strings `s` at once (a definition is parsed on its own
  text) and for all flag words; the list level carries the invariant `InvG` (`relations` / `relType` at the
  start of an alternative) and ends with `EndOK` (what the clean-up needs).
-/
import SoupVerif.Refine.CompileLeaf
import SoupVerif.Refine.Compile2Tag
import SoupVerif.Refine.Compile2ValuesStep
import SoupVerif.Refine.Compile2CombStep
import SoupVerif.Refine.Compile2Custom
import SoupVerif.Lemmas.StrLit
namespace SoupVerif
namespace C09Compile2
open Rx SoupVerif.Parser ParserProgress Escape Spelling Refine.Compile
open C09Compile (Forms identOK SValue SAttr AttrV STag SComb plainName setF SafeStart safeStart_cons
  itemStart itemStart_safe itemStart_head safeStart_comb safeStart_gap safeStart_close slot_state setF_setF plainName_no_dash name_head run_attr nulFix_id)

/-- The custom map while parsing: every name of the table that is not being expanded (`stack`) is there,
    as the source text of its definition or as the compiled list its values denote. -/
def CuInv (B : Builtins) (Γ : Tbl) (stack : List Str) (cu : Custom) : Prop :=
  ∀ k g₁ l g₂, defOf Γ k = some (g₁, l, g₂) → k ∉ stack →
    cu.get? k = some (.src (g₁ ++ l.render ++ g₂)) ∨
    cu.get? k = some (.compiled (finishG 1 (l.value.loopState B 1)))

/-- The definitions being expanded are bigger than what is being parsed (so it cannot refer to them:
    the syntax is a finite tree). -/
def StackLt (Γ : Tbl) (stack : List Str) (n : Nat) : Prop :=
  ∀ k ∈ stack, ∀ g₁ l g₂, defOf Γ k = some (g₁, l, g₂) → n < l.cost

theorem StackLt.mono {Γ : Tbl} {stack : List Str} {n m : Nat} (h : StackLt Γ stack n) (hm : m ≤ n) :
    StackLt Γ stack m := fun k hk g₁ l g₂ hd => Nat.lt_of_le_of_lt hm (h k hk g₁ l g₂ hd)

/-- The map `process_custom` makes of a table whose keys are pairwise different. -/
theorem CuInv_init (B : Builtins) (Γ : Tbl) :
    CuInv B Γ [] (Γ.map fun e => (e.1, .src (e.2.1 ++ e.2.2.1.render ++ e.2.2.2))) := by
  intro k g₁ l g₂ hd _
  left
  unfold defOf at hd
  unfold Custom.get?
  rw [List.find?_map]
  cases hf : Γ.find? (fun e => e.1 == k) with
  | none => rw [hf] at hd; cases hd
  | some e =>
    rw [hf] at hd
    simp only [Option.map_some, Option.some.injEq] at hd
    have : (List.find? ((fun e => e.1 == k) ∘ fun e : Str × Str × SSelList × Str =>
        (e.1, CustomVal.src (e.2.1 ++ e.2.2.1.render ++ e.2.2.2))) Γ) = some e := hf
    rw [this]
    simp [hd]

/-- What `process_custom` checks and computes for one name of the custom dictionary: the lower-cased name
    matches `RE_CUSTOM`, and its key is the lower-cased unescaped name.  (A decidable condition on the
    name: `RE_CUSTOM` itself is not refined here.) -/
def nameOK (n key : Str) : Prop :=
  Rx.isMatch pyFoldEnv Gen.lexicon.reCustom (lower n) = true ∧
    lower (Parser.cssUnescape pyFoldEnv Gen.lexicon (lower n)) = key

instance (n key : Str) : Decidable (nameOK n key) := by unfold nameOK; infer_instance

def defText (d : Str × SSelList × Str) : Str := d.1 ++ d.2.1.render ++ d.2.2

theorem customStep_fresh (acc : Custom) (n key v : Str) (h : nameOK n key)
    (hf : acc.any (fun e => e.1 == key) = false) :
    customStep pyFoldEnv Gen.lexicon acc (n, v) = .ok (acc ++ [(key, .src v)]) := by
  unfold customStep
  simp only [h.1, Bool.not_true, Bool.false_eq_true, if_false, h.2, hf]
  rw [Custom.set_fresh acc _ _ hf]

theorem processCustom_go (entries : List (Str × Str × Str × SSelList × Str)) :
    ∀ (acc : Custom), (∀ x ∈ entries, nameOK x.1 x.2.1) →
    (∀ x ∈ entries, acc.any (fun e => e.1 == x.2.1) = false) →
    (entries.map (·.2.1)).Nodup →
    List.foldlM (customStep pyFoldEnv Gen.lexicon) acc (entries.map fun x => (x.1, defText x.2.2)) =
      .ok (acc ++ entries.map fun x => (x.2.1, .src (defText x.2.2))) := by
  induction entries with
  | nil => intro acc _ _ _; simp; rfl
  | cons x rest ih =>
    intro acc hname hfresh hnd
    have hf := hfresh x (by simp)
    rw [List.map_cons, List.foldlM_cons, customStep_fresh acc _ _ _ (hname x (by simp)) hf]
    show List.foldlM (customStep pyFoldEnv Gen.lexicon) (acc ++ [(x.2.1, CustomVal.src (defText x.2.2))]) _ = _
    rw [ih (acc ++ [(x.2.1, CustomVal.src (defText x.2.2))]) (fun y hy => hname y (by simp [hy]))
      (by
        intro y hy
        rw [List.any_append, hfresh y (by simp [hy])]
        simp only [List.any_cons, List.any_nil, Bool.or_false, Bool.false_or, beq_eq_false_iff_ne, ne_eq]
        intro e
        simp only [List.map_cons, List.nodup_cons, List.mem_map] at hnd
        exact hnd.1 ⟨y, hy, e.symm⟩)
      (by simp only [List.map_cons, List.nodup_cons] at hnd; exact hnd.2)]
    simp

/-- `process_custom` on a dictionary whose names pass its checks (`nameOK`, decidable per name) and whose
    keys are pairwise different: the map from the keys to the source texts, in the given order. -/
theorem processCustom_table (entries : List (Str × Str × Str × SSelList × Str))
    (hname : ∀ x ∈ entries, nameOK x.1 x.2.1) (hnd : (entries.map (·.2.1)).Nodup) :
    processCustom pyFoldEnv Gen.lexicon (entries.map fun x => (x.1, defText x.2.2)) =
      .ok ((entries.map (·.2)).map fun e => (e.1, .src (e.2.1 ++ e.2.2.1.render ++ e.2.2.2))) := by
  rw [processCustom_eq, processCustom_go entries [] hname (fun _ _ => rfl) hnd]
  simp [defText]

theorem SItem.render_cons (it : SItem) : ∃ c cs, it.render = c :: cs ∧ itemStart c = true := by
  cases it <;> exact ⟨_, _, by first | rw [SItem.render, SAttr.render] | rw [SItem.render], rfl⟩

theorem safeStart_items (items : List SItem) (r : Str) (hr : SafeStart r) :
    SafeStart (renderItems items ++ r) := by
  cases items with
  | nil => simpa [renderItems] using hr
  | cons it rest =>
    obtain ⟨c, cs, hc, h⟩ := it.render_cons
    rw [renderItems, hc]
    exact safeStart_cons _ _ (itemStart_safe h)

theorem safeStart_rest (fl : Nat) (b : Bool) (rest : List (SComb × SCompound)) (r : Str)
    (hok : restOK fl b rest r) (hr : SafeStart r) : SafeStart (renderRest rest ++ r) := by
  cases rest with
  | nil => simpa [renderRest] using hr
  | cons x rest =>
    rw [restOK] at hok
    rw [renderRest, List.append_assoc]
    exact safeStart_comb x.1 hok.1 _

theorem STagN.render_head (x : STagN) (r : Str) (hok : x.ok r) :
    ∃ c cs, x.render = c :: cs ∧ nsStart c = true := by
  obtain ⟨ns, t⟩ := x
  obtain ⟨ht, hns⟩ := hok
  cases ns with
  | none =>
    obtain ⟨c, cs, hc, h⟩ := t.render_head r ht
    exact ⟨c, cs, by simp [STagN.render, hc], by simp [nsStart, h]⟩
  | some n =>
    obtain ⟨c, cs, hc, h⟩ := n.head _ hns
    cases hn : n.text with
    | nil =>
      rw [hn] at hc
      exact ⟨124, t.render, by simp [STagN.render, hn], by decide⟩
    | cons y ys =>
      rw [hn] at hc
      simp only [List.cons_append, List.cons.injEq] at hc
      exact ⟨y, ys ++ 124 :: t.render, by simp [STagN.render, hn], by rw [hc.1]; exact h⟩

theorem STagN.length_pos (x : STagN) (r : Str) (hok : x.ok r) : 1 ≤ x.render.length := by
  obtain ⟨c, cs, hc, _⟩ := x.render_head r hok
  simp [hc]

theorem SCompound.render_head (c : SCompound) (r : Str) (hok : c.ok r) (hne : c.isEmpty = false) :
    ∃ x xs, c.render = x :: xs ∧ isCssWs x = false ∧ x ≠ 47 ∧ isComb x = false ∧ x ≠ 41 := by
  obtain ⟨tag, items⟩ := c
  simp only [SCompound.ok] at hok
  obtain ⟨htag, _⟩ := hok
  cases tag with
  | none =>
    have hne' : items ≠ [] := by
      intro e; subst e; simp [SCompound.isEmpty] at hne
    cases items with
    | nil => exact absurd rfl hne'
    | cons it rest =>
      obtain ⟨x, xs, hx, h⟩ := it.render_cons
      exact ⟨x, xs ++ renderItems rest, by simp [SCompound.render, renderItems, hx], itemStart_head h⟩
  | some tg =>
    obtain ⟨x, xs, hx, h⟩ := tg.render_head _ htag
    exact ⟨x, xs ++ renderItems items, by simp [SCompound.render, hx], nsStart_head h⟩

theorem SCompound.render_noGap (c : SCompound) (r t : Str) (hok : c.ok r) (hne : c.isEmpty = false) :
    noGapStart (c.render ++ t) = true := by
  obtain ⟨x, xs, hx, hw, h47, _, _⟩ := c.render_head r hok hne
  simp [hx, noGapStart, hw, h47]

theorem SCompound.render_empty (c : SCompound) (h : c.isEmpty = true) : c.render = [] := by
  obtain ⟨tag, items⟩ := c
  simp only [SCompound.isEmpty, Bool.and_eq_true, Option.isNone_iff_eq_none, List.isEmpty_iff] at h
  obtain ⟨rfl, rfl⟩ := h
  simp [SCompound.render, renderItems]

theorem restOK_noGap (fl : Nat) (rest : List (SComb × SCompound)) (r : Str) (hok : restOK fl false rest r) :
    noGapStart (renderRest rest ++ r) = true := by
  cases rest with
  | nil =>
    rw [restOK] at hok
    rcases hok with h | h
    · cases h
    · simpa [renderRest] using h.2
  | cons x rest =>
    rw [restOK] at hok
    simpa [renderRest] using (hok.2.2.1 rfl).1

theorem SSelList.render_noGap (l : SSelList) (fl : Nat) (r : Str) (hok : l.ok fl r) :
    noGapStart (l.render ++ r) = true := by
  obtain ⟨first, rest⟩ := l
  rw [SSelList.ok] at hok
  rw [SSelList.render, List.append_assoc]
  by_cases he : first.isEmpty = true
  · rw [first.render_empty he, List.nil_append]
    have := hok.2.2
    rw [he] at this
    exact restOK_noGap fl rest r this
  · exact first.render_noGap _ _ hok.1 (by simpa using he)

theorem cleanupLS_hasSelector (fl : Nat) (st : LS) (h : EndOK fl st) :
    (cleanupLS fl st).hasSelector = true := by
  unfold cleanupLS
  by_cases hs : st.hasSelector = true
  · simp only [hs, if_true]
    split <;> rfl
  · have hs' : st.hasSelector = false := by simpa using hs
    rcases h with h | ⟨hf, hr⟩
    · exact absurd h hs
    · have hf' : ((fl &&& FLG_FORGIVE) != 0) = true := hf
      simp [hs', hf', hr]

/-- The part of `parse_selectors` after the loop, when it does not raise. -/
theorem finishSel_G (B : Builtins) (s : Str) (fl : Nat) (st : LS)
    (hc : ((fl &&& FLG_OPEN) != 0) = true → st.closed = true) (h : EndOK fl st) :
    finishSel pyFoldEnv Gen.lexicon B s fl st = .ok (finishG fl st, st.pos, st.custom) := by
  have h1 := cleanupLS_hasSelector fl st h
  obtain ⟨_, h2, h3⟩ := cleanupLS_frame fl st
  unfold finishSel finishG
  by_cases ho : ((fl &&& FLG_OPEN) != 0) = true
  · simp [ho, hc ho, h1, h2, h3]
  · simp [ho, h1, h2, h3]

theorem EndOK_setF (fl : Nat) (st : LS) (p idx : Nat) (c : Custom) (h : EndOK fl st) :
    EndOK fl (setF st p idx c) := h

theorem fnName2_facts (n : Str) (h : fnName2 n) :
    ((fnFlags n &&& FLG_OPEN) != 0) = true ∧
      inList Gen.lexicon.pseudoComplex n = true ∧
      Gen.lexicon.special.find? (fun e => e.1 == n) = none ∧
      n.tail.head? ≠ some 45 := by
  rcases h with h | h | h | h | h <;> subst h <;> exact ⟨by decide, by decide, by decide, by decide⟩

section Pre
variable (B : Builtins) (s : Str)

theorem run_tag (flags : Nat) (x : STagN) (st : LS) (fuel : Nat) (R : Str)
    (hd : s.drop st.pos = x.render ++ R) (hok : x.ok R) (hR : SafeStart R) (hs : st.hasSelector = false) :
    parseLoop pyFoldEnv Gen.lexicon B s (fuel + 1) flags st =
      parseLoop pyFoldEnv Gen.lexicon B s fuel flags
        { st with pos := st.pos + x.render.length, sel := st.sel.setTag x.value, hasSelector := true,
                  index := st.pos + x.render.length } := by
  obtain ⟨ns, tg⟩ := x
  obtain ⟨ht, hns⟩ := hok
  cases ns with
  | some n =>
    simp only [STagN.render, List.append_assoc, List.cons_append] at hd
    have := step_tag_ns B s fuel flags st n tg hd hns ht hR.not_cont hs
    have e : st.pos + n.text.length + 1 + tg.render.length =
        st.pos + (STagN.render ⟨some n, tg⟩).length := by
      simp [STagN.render]; omega
    rw [this, e]
    rfl
  | none =>
    exact C09Compile.run_stag B s flags tg st fuel R hd ht hR hs

end Pre

section Run
variable (B : Builtins) (Γ : Tbl)

theorem keep_custom (stack : List Str) (s : Str) (fuel flags : Nat) (st : LS) (r : Str) (X : SelB)
    (hcu : CuInv B Γ stack st.custom)
    (h : ∃ p idx, s.drop p = r ∧
      parseLoop pyFoldEnv Gen.lexicon B s (fuel + 1) flags st =
        parseLoop pyFoldEnv Gen.lexicon B s fuel flags
          { st with pos := p, index := idx, sel := X, hasSelector := true }) :
    ∃ p idx cu', CuInv B Γ stack cu' ∧ s.drop p = r ∧
      parseLoop pyFoldEnv Gen.lexicon B s (fuel + 1) flags st =
        parseLoop pyFoldEnv Gen.lexicon B s fuel flags
          { st with pos := p, index := idx, custom := cu', sel := X, hasSelector := true } := by
  obtain ⟨p, idx, hp, h⟩ := h
  exact ⟨p, idx, st.custom, hcu, hp, h⟩

theorem CuInv_erase {stack : List Str} {cu : Custom} (key : Str) (hinv : CuInv B Γ stack cu) :
    CuInv B Γ (key :: stack) (cu.erase key) := by
  intro k a b c hd hk
  simp only [List.mem_cons, not_or] at hk
  rw [get?_erase_ne _ _ _ hk.1]
  exact hinv k a b c hd hk.2

theorem CuInv_set {stack : List Str} {cu : Custom} {key g₁ g₂ : Str} {l : SSelList}
    (hinv : CuInv B Γ (key :: stack) cu) (hdef : defOf Γ key = some (g₁, l, g₂)) :
    CuInv B Γ stack (cu.set key (.compiled (finishG 1 (l.value.loopState B 1)))) := by
  intro k a b c hd hk
  by_cases hkk : k = key
  · subst hkk
    rw [hdef] at hd
    simp only [Option.some.injEq, Prod.mk.injEq] at hd
    obtain ⟨_, rfl, _⟩ := hd
    right
    exact get?_set_eq _ _ _
  · rw [get?_set_ne _ _ _ _ hkk]
    exact hinv k a b c hd (by simp [hkk, hk])

theorem SSelList.cost_pos (l : SSelList) : 1 ≤ l.cost := by
  obtain ⟨first, rest⟩ := l
  simp only [SSelList.cost]; omega

mutual
theorem run_item : ∀ (it : SItem) (s : Str) (stack : List Str) (flags : Nat) (st : LS) (fuel : Nat) (r : Str),
    s.drop st.pos = it.render ++ r → it.ok r → SafeStart r → it.need ≤ fuel →
    it.tbl Γ → CuInv B Γ stack st.custom → StackLt Γ stack it.need →
    ∃ p idx cu', CuInv B Γ stack cu' ∧ s.drop p = r ∧
      parseLoop pyFoldEnv Gen.lexicon B s (fuel + 1) flags st =
        parseLoop pyFoldEnv Gen.lexicon B s fuel flags
          { st with pos := p, index := idx, custom := cu', sel := it.value.apply B st.sel,
                    hasSelector := true }
  -- `run_leaf` speaks of the smaller grammar's `SItem`; on `.id f`, `.cls f`, `.pseudo f`, `.nth …`, `.dir …` its `render`, `ok`
  -- and `value.apply` reduce to the same terms as this grammar's, so the hypotheses and the conclusion fit as they are
  | .id f, s, stack, flags, st, fuel, r, hd, hok, hr, _, _, hcu, _ =>
    keep_custom B Γ stack s fuel flags st r _ hcu
      (C09Compile.run_leaf B s (.id f) rfl flags st fuel r hd hok hr)
  | .cls f, s, stack, flags, st, fuel, r, hd, hok, hr, _, _, hcu, _ =>
    keep_custom B Γ stack s fuel flags st r _ hcu
      (C09Compile.run_leaf B s (.cls f) rfl flags st fuel r hd hok hr)
  | .attr a, s, stack, flags, st, fuel, r, hd, hok, _, _, _, hcu, _ => by
    rw [SItem.render] at hd
    rw [SItem.ok] at hok
    rw [SItem.value, Item.apply, applyAttr_nil]
    exact keep_custom B Γ stack s fuel flags st r _ hcu (run_attr B s flags a st fuel r hd hok)
  | .attrNs ns a, s, stack, flags, st, fuel, r, hd, hok, _, _, _, hcu, _ => by
    rw [SItem.render] at hd
    rw [SItem.ok] at hok
    rw [SItem.value, Item.apply]
    exact keep_custom B Γ stack s fuel flags st r _ hcu (C09Compile.run_attr_ns B s flags (some ns) a st fuel r
        (by simpa [nsBar] using hd) hok.1
        (fun n h => by cases h; exact hok.2))
  | .pseudo f, s, stack, flags, st, fuel, r, hd, hok, hr, _, _, hcu, _ =>
    keep_custom B Γ stack s fuel flags st r _ hcu
      (C09Compile.run_leaf B s (.pseudo f) rfl flags st fuel r hd hok hr)
  | .fn f g₁ l g₂, s, stack, flags, st, fuel, r, hd, hok, hr, hn, htbl, hcu, hstk => by
    rw [SItem.render] at hd
    simp only [List.cons_append, List.append_assoc, List.nil_append] at hd
    rw [SItem.ok] at hok
    obtain ⟨⟨hv, hh, hcp⟩, hname, hg₁, hg₂, hl⟩ := hok
    rw [SItem.tbl] at htbl
    obtain ⟨hopen, hin, hfind, hdash⟩ := fnName2_facts _ hname
    obtain ⟨x, xs, hxs, hx⟩ := name_head f hh hdash
    have hR : noGapStart (l.render ++ (g₂ ++ 41 :: r)) = true := l.render_noGap _ _ hl
    have hstop : s.drop (st.pos + 1 + (renderIdentWith f).length + 1 + g₁.length) =
        l.render ++ (g₂ ++ 41 :: r) :=
      drop_add_of_drop_append (RxBasic.drop_succ_of_drop_cons
        (drop_add_of_drop_append (RxBasic.drop_succ_of_drop_cons hd)))
    rw [SItem.need] at hn hstk
    obtain ⟨k, rfl⟩ : ∃ k, fuel = k + 1 := ⟨fuel - 1, by omega⟩
    obtain ⟨p', cu', hcu', hp', hsub⟩ := run_list l s stack (fnFlags (58 :: lower (valueOf f)))
      (st.pos + 1 + (renderIdentWith f).length + 1 + g₁.length)
      (st.pos + 1 + (renderIdentWith f).length + 1 + g₁.length) st.custom k g₂ r hopen hstop hl hg₂ (by omega)
      htbl hcu (hstk.mono (by omega))
    refine ⟨p', st.pos + 1 + (renderIdentWith f).length + 1 + g₁.length, cu', hcu', hp', ?_⟩
    rw [step_pseudo_open s B (k + 1) flags st hd hxs hx hv hh hcp hg₁ hR hfind hin
      (fnFlags (58 :: lower (valueOf f))) rfl _ p' cu' hsub, SItem.value, Item.apply]
  | .nth f g₁ a g₂, s, stack, flags, st, fuel, r, hd, hok, hr, _, _, hcu, _ =>
    keep_custom B Γ stack s fuel flags st r _ hcu
      (C09Compile.run_leaf B s (.nth f g₁ a g₂) rfl flags st fuel r hd hok hr)
  | .nthOf f g₁ a dg1 m dg2 l g₂, s, stack, flags, st, fuel, r, hd, hok, hr, hn, htbl, hcu, hstk => by
    rw [SItem.render] at hd
    simp only [List.cons_append, List.append_assoc, List.nil_append] at hd
    rw [SItem.ok] at hok
    obtain ⟨⟨hv, hh, hcp⟩, hname, hg₁, ha, hdg1, hdg2, hg₂, hl⟩ := hok
    rw [SItem.tbl] at htbl
    have hR : noGapStart (l.render ++ (g₂ ++ 41 :: r)) = true := l.render_noGap _ _ hl
    have hof := lower_of m
    have hstop := nth_of_start s a hd hof
    rw [SItem.need] at hn hstk
    obtain ⟨k, rfl⟩ : ∃ k, fuel = k + 1 := ⟨fuel - 1, by omega⟩
    obtain ⟨p', cu', hcu', hp', hsub⟩ := run_list l s stack 65
      (st.pos + 1 + (renderIdentWith f).length + 1 + g₁.length + a.render.length + dg1.length + 2 + dg2.length)
      (st.pos + 1 + (renderIdentWith f).length + 1 + g₁.length + a.render.length + dg1.length + 2 + dg2.length)
      st.custom k g₂ r (by decide) hstop hl hg₂ (by omega) htbl hcu (hstk.mono (by omega))
    refine ⟨p', st.pos + 1 + (renderIdentWith f).length + 1 + g₁.length + a.render.length + dg1.length + 2 +
      dg2.length, cu', hcu', hp', ?_⟩
    rw [step_nth_child_of B s (k + 1) flags st a ha hd hv hh hcp hg₁ hdg1 hdg2 hof hR hname _ p' cu' hsub,
      SItem.value, Item.apply]
  | .dir f g₁ ltr m g₂, s, stack, flags, st, fuel, r, hd, hok, hr, _, _, hcu, _ =>
    keep_custom B Γ stack s fuel flags st r _ hcu
      (C09Compile.run_leaf B s (.dir f g₁ ltr m g₂) rfl flags st fuel r hd hok hr)
  | .lang f g₁ V g₂, s, stack, flags, st, fuel, r, hd, hok, hr, _, _, hcu, _ => by
    rw [SItem.render] at hd
    simp only [List.cons_append, List.append_assoc, List.nil_append] at hd
    rw [SItem.ok] at hok
    obtain ⟨⟨hv, hh, hcp⟩, hname, hg₁, hg₂, hV⟩ := hok
    rw [SItem.value, Item.apply]
    exact keep_custom B Γ stack s fuel flags st r _ hcu
      (step_lang B s fuel flags st V hd hv hh hcp hg₁ hg₂ hV hname)
  | .contains f g₁ V g₂, s, stack, flags, st, fuel, r, hd, hok, hr, _, _, hcu, _ => by
    rw [SItem.render] at hd
    simp only [List.cons_append, List.append_assoc, List.nil_append] at hd
    rw [SItem.ok] at hok
    obtain ⟨⟨hv, hh, hcp⟩, hname, hg₁, hg₂, hV⟩ := hok
    rw [SItem.value, Item.apply]
    exact keep_custom B Γ stack s fuel flags st r _ hcu
      (step_contains B s fuel flags st V hd hv hh hcp hg₁ hg₂ hV hname)
  | .amp, s, stack, flags, st, fuel, r, hd, _, _, _, _, hcu, _ => by
    rw [SItem.render] at hd
    rw [SItem.value, Item.apply]
    exact keep_custom B Γ stack s fuel flags st r _ hcu (step_amp B s fuel flags st hd)
  | .custom f g₁ l g₂, s, stack, flags, st, fuel, r, hd, hok, hr, hn, htbl, hcu, hstk => by
    rw [SItem.render] at hd
    simp only [List.cons_append] at hd
    rw [SItem.ok] at hok
    obtain ⟨hid, h2, hg₁, hg₂, hl, h0⟩ := hok
    obtain ⟨f', rfl⟩ : ∃ f', f = (45, .lit) :: (45, .lit) :: f' :=
      ⟨f.drop 2, by conv => lhs; rw [← List.take_append_drop 2 f]
                    rw [h2]; rfl⟩
    obtain ⟨hv, hh, hcp⟩ := hid
    rw [SItem.tbl] at htbl
    obtain ⟨hdef, hltbl⟩ := htbl
    rw [SItem.need] at hn hstk
    obtain ⟨t, hnt, hk, hstop, hkey⟩ := nextToken_custom s B hd hv hh hr.not_cont hr.not_paren hcp
    simp only [penv] at hnt hkey
    -- the name is not one of those being expanded
    have hns : (58 :: lower (valueOf ((45, EscForm.lit) :: (45, EscForm.lit) :: f'))) ∉ stack := by
      intro hmem
      have := hstk _ hmem g₁ l g₂ hdef
      omega
    rw [SItem.value, Item.apply]
    rcases hcu _ g₁ l g₂ hdef hns with hsrc | hcomp
    · -- the source text of the definition: it is compiled here, with the name taken out of the map
      obtain ⟨k, rfl⟩ : ∃ k, fuel = k + 1 := ⟨fuel - 1, by omega⟩
      have hnul : (g₁ ++ l.render ++ g₂).map (fun c => if c == 0 then 0xFFFD else c) = _ := nulFix_id _ h0
      obtain ⟨p', cu', hcu', hsub⟩ := run_top l (g₁ ++ l.render ++ g₂)
        ((58 :: lower (valueOf ((45, EscForm.lit) :: (45, EscForm.lit) :: f'))) :: stack) 1 g₁ g₂
        (st.custom.erase (58 :: lower (valueOf ((45, EscForm.lit) :: (45, EscForm.lit) :: f')))) k
        (by decide) rfl hg₁ hg₂ hl hltbl (CuInv_erase B Γ _ hcu)
        (by
          intro k' hk' a b c hd'
          simp only [List.mem_cons] at hk'
          rcases hk' with rfl | hk'
          · rw [hdef] at hd'
            simp only [Option.some.injEq, Prod.mk.injEq] at hd'
            obtain ⟨_, rfl, _⟩ := hd'
            have := l.cost_pos; omega
          · have := hstk k' hk' a b c hd'
            omega)
        (by omega)
      refine ⟨t.stop, t.stop, _, CuInv_set B Γ hcu' hdef, hstop, ?_⟩
      rw [parseLoop_custom_src B _ _ _ (k + 1) flags st _ hnt hk _ (g₁ ++ l.render ++ g₂) hkey hsrc
        _ p' cu' (by rw [hnul]; exact hsub)]
    · -- already compiled
      refine ⟨t.stop, t.stop, st.custom, hcu, hstop, ?_⟩
      rw [parseLoop_custom_compiled B _ _ _ fuel flags st _ hnt hk _ (by rw [hkey]; exact hcomp)]
theorem run_items : ∀ (items : List SItem) (s : Str) (stack : List Str) (flags : Nat) (st : LS)
    (fuel : Nat) (r : Str),
    s.drop st.pos = renderItems items ++ r → itemsOK items r → SafeStart r → itemsNeed items ≤ fuel →
    itemsTbl Γ items → CuInv B Γ stack st.custom → StackLt Γ stack (itemsNeed items) →
    ∃ p idx cu', CuInv B Γ stack cu' ∧ s.drop p = r ∧
      parseLoop pyFoldEnv Gen.lexicon B s (fuel + items.length) flags st =
        parseLoop pyFoldEnv Gen.lexicon B s fuel flags
          { st with pos := p, index := idx, custom := cu',
                    sel := applyItems B (itemsValue items) st.sel,
                    hasSelector := st.hasSelector || !items.isEmpty }
  | [], s, stack, flags, st, fuel, r, hd, _, _, _, _, hcu, _ => by
    refine ⟨st.pos, st.index, st.custom, hcu, by simpa [renderItems] using hd, ?_⟩
    simp [itemsValue, applyItems]
  | it :: rest, s, stack, flags, st, fuel, r, hd, hok, hr, hn, htbl, hcu, hstk => by
    have hsafe := safeStart_items rest r hr
    rw [itemsOK] at hok
    obtain ⟨hit, hrest⟩ := hok
    rw [itemsTbl] at htbl
    rw [renderItems, List.append_assoc] at hd
    rw [itemsNeed] at hn hstk
    obtain ⟨p₁, i₁, cu₁, hcu₁, hp₁, h1⟩ := run_item it s stack flags st (fuel + rest.length) _ hd hit hsafe
      (by omega) htbl.1 hcu (hstk.mono (by omega))
    obtain ⟨p, idx, cu', hcu', hp, h2⟩ := run_items rest s stack flags
      { st with pos := p₁, index := i₁, custom := cu₁, sel := it.value.apply B st.sel, hasSelector := true }
      fuel r hp₁ hrest hr (by omega) htbl.2 hcu₁ (hstk.mono (by omega))
    refine ⟨p, idx, cu', hcu', hp, ?_⟩
    rw [List.length_cons, ← Nat.add_assoc, h1, h2]
    simp [itemsValue, applyItems]
theorem run_compound : ∀ (c : SCompound) (s : Str) (stack : List Str) (flags : Nat) (st : LS)
    (fuel : Nat) (r : Str),
    s.drop st.pos = c.render ++ r → c.ok r → SafeStart r → c.need ≤ fuel → st.hasSelector = false →
    c.tbl Γ → CuInv B Γ stack st.custom → StackLt Γ stack c.need →
    ∃ p idx cu', CuInv B Γ stack cu' ∧ s.drop p = r ∧
      parseLoop pyFoldEnv Gen.lexicon B s (fuel + c.size) flags st =
        parseLoop pyFoldEnv Gen.lexicon B s fuel flags
          { st with pos := p, index := idx, custom := cu', sel := c.value.buildOn B st.sel,
                    hasSelector := !c.isEmpty }
  | .mk tag items, s, stack, flags, st, fuel, r, hd, hok, hr, hn, hs, htbl, hcu, hstk => by
    simp only [SCompound.ok] at hok
    obtain ⟨htag, hitems⟩ := hok
    rw [SCompound.need] at hn hstk
    rw [SCompound.tbl] at htbl
    have hsafe := safeStart_items items r hr
    cases tag with
    | none =>
      obtain ⟨p, idx, cu', hcu', hp, h⟩ := run_items items s stack flags st fuel r
        (by simpa [SCompound.render] using hd) hitems hr hn htbl hcu hstk
      refine ⟨p, idx, cu', hcu', hp, ?_⟩
      simpa [SCompound.size, SCompound.value, Compound.buildOn, SCompound.isEmpty, hs] using h
    | some tg =>
      simp only [SCompound.render, List.append_assoc] at hd
      have h1 := run_tag B s flags tg st (fuel + items.length) _ hd htag hsafe hs
      obtain ⟨p, idx, cu', hcu', hp, h2⟩ := run_items items s stack flags
        { st with pos := st.pos + tg.render.length, sel := st.sel.setTag tg.value, hasSelector := true,
                  index := st.pos + tg.render.length } fuel r (drop_add_of_drop_append hd) hitems hr hn
        htbl hcu hstk
      refine ⟨p, idx, cu', hcu', hp, ?_⟩
      have : fuel + SCompound.size (.mk (some tg) items) = fuel + items.length + 1 := by
        simp [SCompound.size]; omega
      rw [this, h1, h2]
      simp [SCompound.value, Compound.buildOn, SCompound.isEmpty]
theorem run_rest : ∀ (rest : List (SComb × SCompound)) (s : Str) (stack : List Str) (flags : Nat) (b : Bool)
    (st : LS) (fuel : Nat) (r : Str),
    s.drop st.pos = renderRest rest ++ r → restOK flags b rest r → SafeStart r → restNeed rest ≤ fuel →
    InvG flags b st →
    restTbl Γ rest → CuInv B Γ stack st.custom → StackLt Γ stack (restNeed rest) →
    ∃ p idx cu', CuInv B Γ stack cu' ∧ s.drop p = r ∧
      parseLoop pyFoldEnv Gen.lexicon B s (fuel + restSize rest) flags st =
        parseLoop pyFoldEnv Gen.lexicon B s fuel flags
          (setF (foldRest B flags (restValue rest) st) p idx cu')
  | [], s, stack, flags, b, st, fuel, r, hd, _, _, _, _, _, hcu, _ => by
    exact ⟨st.pos, st.index, st.custom, hcu, by simpa [renderRest] using hd, rfl⟩
  | (cb, c) :: rest, s, stack, flags, b, st, fuel, r, hd, hok, hr, hn, hinv, htbl, hcu, hstk => by
    rw [restOK] at hok
    obtain ⟨hcb, hc, hb, he, hrest⟩ := hok
    rw [restNeed] at hn hstk
    rw [restTbl] at htbl
    have hn' : c.need + restNeed rest ≤ fuel := hn
    have hstk' : StackLt Γ stack (c.need + restNeed rest) := hstk
    have hsafe := safeStart_rest flags _ rest r hrest hr
    have hRng : noGapStart (c.render ++ (renderRest rest ++ r)) = true := by
      by_cases hce : c.isEmpty = true
      · rw [c.render_empty hce, List.nil_append]
        have hrest' := hrest
        simp only [hce, Bool.not_true] at hrest'
        exact restOK_noGap flags rest r hrest'
      · exact c.render_noGap _ _ hc (by simpa using hce)
    have hvalid : CombValid flags cb.value st := by
      unfold CombValid
      by_cases hrel : relOf flags = true
      · rw [if_pos hrel]
        cases b with
        | true => exact ⟨fun _ => hinv.1, fun _ => Or.inl hinv.1⟩
        | false =>
          have := (hb rfl).2
          rw [if_pos hrel] at this
          exact ⟨fun h => absurd h this.1, fun _ => Or.inr (hinv.2.2 (Or.inr rfl))⟩
      · rw [if_neg hrel]
        cases b with
        | true => exact Or.inl hinv.1
        | false =>
          have := (hb rfl).2
          rw [if_neg hrel] at this
          exact Or.inr ⟨this.2, this.1⟩
    obtain ⟨p₁, hp₁, _, h₁⟩ : ∃ p, s.drop p = c.render ++ (renderRest rest ++ r) ∧ p ≤ s.length ∧
        parseLoop pyFoldEnv Gen.lexicon B s (fuel + restSize rest + c.size + 1) flags st =
          parseLoop pyFoldEnv Gen.lexicon B s (fuel + restSize rest + c.size) flags
            { combStepG flags cb.value st with pos := p, index := p } := by
      cases cb with
      | sym g₁ ch g₂ =>
        obtain ⟨hg₁, hg₂, hcomb⟩ := hcb
        exact step_symG B s _ flags st (c := ch)
          (by simpa [renderRest, SComb.render, List.append_assoc] using hd) hg₁ hg₂ hcomb hRng hvalid
      | desc g =>
        have hce : c.isEmpty = false := by
          cases h : c.isEmpty with
          | false => rfl
          | true => have := (he h).1; simp [SComb.value] at this
        obtain ⟨x, xs, hx, hxw, hx47, hxc, hx41⟩ := c.render_head _ hc hce
        exact step_descG B s _ flags st
          (by simpa [renderRest, SComb.render, List.append_assoc] using hd) hcb hRng
          (by simp [hx]) (by simp [hx, hxc]) (by simp [hx, hx41]) hvalid
    obtain ⟨hf1, hf2, hf3⟩ := combStepG_facts flags cb.value st
    obtain ⟨p₂, i₂, cu₂, hcu₂, hp₂, h₂⟩ := run_compound c s stack flags
      { combStepG flags cb.value st with pos := p₁, index := p₁ }
      (fuel + restSize rest) (renderRest rest ++ r) hp₁ hc hsafe (by omega) hf1 htbl.1
      (by show CuInv B Γ stack (combStepG flags cb.value st).custom; rw [hf3]; exact hcu)
      (hstk'.mono (by omega))
    have hst : ({ ({ combStepG flags cb.value st with pos := p₁, index := p₁ } : LS) with
        pos := p₂, index := i₂, custom := cu₂,
        sel := c.value.buildOn B ({ combStepG flags cb.value st with pos := p₁, index := p₁ } : LS).sel,
        hasSelector := !c.isEmpty } : LS) =
        setF { combStepG flags cb.value st with
          sel := c.value.buildOn B SelB.empty, hasSelector := !c.value.isEmpty } p₂ i₂ cu₂ := by
      rw [SCompound.value_isEmpty]
      exact slot_state _ hf2 _ _ _ _ _ _ _
    rw [hst] at h₂
    obtain ⟨p, idx, cu', hcu', hp, h₃⟩ := run_rest rest s stack flags (!c.isEmpty)
      (setF { combStepG flags cb.value st with
          sel := c.value.buildOn B SelB.empty, hasSelector := !c.value.isEmpty } p₂ i₂ cu₂)
      fuel r hp₂ hrest hr (by omega)
      (by
        rw [SCompound.value_isEmpty]
        apply InvG_setF
        apply InvG_step flags _ b _ st _ hinv
        intro hce
        exact (he (by simpa using hce)).1)
      htbl.2 hcu₂ (hstk'.mono (by omega))
    refine ⟨p, idx, cu', hcu', hp, ?_⟩
    have hf : fuel + restSize ((cb, c) :: rest) = fuel + restSize rest + c.size + 1 := by
      simp [restSize]; omega
    rw [hf, h₁, h₂, h₃, foldRest_frame, setF_setF, restValue, foldRest]
theorem run_list : ∀ (l : SSelList) (s : Str) (stack : List Str) (fl pos idx : Nat) (cust : Custom) (f : Nat)
    (g₂ r : Str),
    ((fl &&& FLG_OPEN) != 0) = true →
    s.drop pos = l.render ++ (g₂ ++ 41 :: r) → l.ok fl (g₂ ++ 41 :: r) → isGap g₂ →
    l.cost ≤ f → l.tbl Γ → CuInv B Γ stack cust → StackLt Γ stack (l.cost - 1) →
    ∃ p' cust', CuInv B Γ stack cust' ∧ s.drop p' = r ∧
      parseSelectors pyFoldEnv Gen.lexicon B s (f + 1) pos idx fl cust =
        .ok (finishG fl (closeSt (l.value.loopState B fl)), p', cust')
  | .mk first rest, s, stack, fl, pos, idx, cust, f, g₂, r, hopen, hd, hok, hg₂, hcost, htbl, hcu, hstk => by
    rw [SSelList.ok] at hok
    obtain ⟨hfirst, _, hrest⟩ := hok
    rw [SSelList.cost] at hcost hstk
    rw [SSelList.tbl] at htbl
    have hsafe0 := safeStart_close g₂ r hg₂
    have hsafe := safeStart_rest fl _ rest _ hrest hsafe0
    rw [SSelList.render, List.append_assoc] at hd
    rw [parseSelectors_succ, initLS_frame pos idx fl cust]
    obtain ⟨p₁, i₁, cu₁, hcu₁, hp₁, h₁⟩ := run_compound first s stack fl (setF (initLS 0 0 fl []) pos idx cust)
      (f - first.size) _ hd hfirst hsafe (by omega) rfl htbl.1 hcu (hstk.mono (by omega))
    rw [show f - first.size + first.size = f by omega] at h₁
    have h₁' : parseLoop pyFoldEnv Gen.lexicon B s f fl (setF (initLS 0 0 fl []) pos idx cust) =
        parseLoop pyFoldEnv Gen.lexicon B s (f - first.size) fl
          (setF (firstSt B fl first.value) p₁ i₁ cu₁) := by
      rw [h₁, ← SCompound.value_isEmpty]; rfl
    obtain ⟨p₂, i₂, cu₂, hcu₂, hp₂, h₂⟩ := run_rest rest s stack fl (!first.isEmpty)
      (setF (firstSt B fl first.value) p₁ i₁ cu₁)
      (f - first.size - restSize rest) _ hp₁ hrest hsafe0 (by omega)
      (by rw [← SCompound.value_isEmpty]; exact InvG_setF _ _ _ _ _ _ (firstSt_inv B fl _))
      htbl.2 hcu₁ (hstk.mono (by omega))
    rw [show f - first.size - restSize rest + restSize rest = f - first.size by omega] at h₂
    obtain ⟨k, hk⟩ : ∃ k, f - first.size - restSize rest = k + 1 :=
      ⟨f - first.size - restSize rest - 1, by omega⟩
    rw [hk] at h₂
    have hend : EndOK fl (foldRest B fl (restValue rest) (firstSt B fl first.value)) := by
      apply foldRest_end B fl rest (!first.isEmpty) _ _ hrest
      rw [← SCompound.value_isEmpty]
      exact firstSt_inv B fl _
    obtain ⟨p', hp', h₃⟩ := step_closeG s B k fl
      (setF (foldRest B fl (restValue rest) (setF (firstSt B fl first.value) p₁ i₁ cu₁)) p₂ i₂ cu₂)
      hp₂ hg₂ (by
        rw [foldRest_frame]
        rcases hend with h | h
        · exact Or.inl h
        · exact Or.inr h.1) hopen
    refine ⟨p', cu₂, hcu₂, hp', ?_⟩
    rw [h₁', h₂, h₃]
    simp only
    have e : ({ closeSt (setF (foldRest B fl (restValue rest) (setF (firstSt B fl first.value) p₁ i₁ cu₁))
          p₂ i₂ cu₂) with pos := p' } : LS) =
        setF (closeSt (foldRest B fl (restValue rest) (firstSt B fl first.value))) p' i₂ cu₂ := by
      rw [foldRest_frame, setF_setF, closeSt_setF]; rfl
    rw [e, finishSel_G B s fl _ (fun _ => rfl) (EndOK_setF fl _ _ _ _ (EndOK_closeSt fl _ hend)),
      finishG_setF, SSelList.value, loopState_eq]
    rfl
/-- A whole pattern (flags without `FLG_OPEN`): the top-level call, or the definition of a custom
    selector (`FLG_PSEUDO`). -/
theorem run_top : ∀ (l : SSelList) (s : Str) (stack : List Str) (fl : Nat) (g₁ g₂ : Str) (cu : Custom)
    (f : Nat),
    ((fl &&& FLG_OPEN) != 0) = false → s = g₁ ++ l.render ++ g₂ → isGap g₁ → isGap g₂ → l.ok fl g₂ →
    l.tbl Γ → CuInv B Γ stack cu → StackLt Γ stack (l.cost - 1) → l.cost ≤ f →
    ∃ p' cu', CuInv B Γ stack cu' ∧
      parseSelectors pyFoldEnv Gen.lexicon B s (f + 1) (startIndex (penv B s)) 0 fl cu =
        .ok (finishG fl (l.value.loopState B fl), p', cu')
  | .mk first rest, s, stack, fl, g₁, g₂, cu, f, hopen, hs, hg₁, hg₂, hok, htbl, hcu, hstk, hcost => by
    have hng := (SSelList.mk first rest).render_noGap fl g₂ hok
    rw [SSelList.ok] at hok
    obtain ⟨hfirst, _, hrest⟩ := hok
    rw [SSelList.cost] at hcost hstk
    rw [SSelList.tbl] at htbl
    have hsafe0 := safeStart_gap g₂ hg₂
    have hsafe := safeStart_rest fl _ rest g₂ hrest hsafe0
    have hstart : s.drop (startIndex (penv B s)) = first.render ++ (renderRest rest ++ g₂) := by
      rw [startIndex_drop, hs, List.append_assoc, C09.skipWSC_append_gen g₁ _ hg₁,
        SpellingLemmas.skipWSC_of_noGapStart _ hng, SSelList.render, List.append_assoc]
    rw [parseSelectors_succ, initLS_frame]
    generalize startIndex (penv B s) = i₀ at hstart ⊢
    obtain ⟨p₁, i₁, cu₁, hcu₁, hp₁, h₁⟩ := run_compound first s stack fl
      (setF (initLS 0 0 fl []) i₀ 0 cu)
      (f - first.size) _ hstart hfirst hsafe (by omega) rfl htbl.1 hcu (hstk.mono (by omega))
    rw [show f - first.size + first.size = f by omega] at h₁
    have h₁' : parseLoop pyFoldEnv Gen.lexicon B s f fl (setF (initLS 0 0 fl []) i₀ 0 cu) =
        parseLoop pyFoldEnv Gen.lexicon B s (f - first.size) fl
          (setF (firstSt B fl first.value) p₁ i₁ cu₁) := by
      rw [h₁, ← SCompound.value_isEmpty]; rfl
    obtain ⟨p, idx, cu₂, hcu₂, hp, h₂⟩ := run_rest rest s stack fl (!first.isEmpty)
      (setF (firstSt B fl first.value) p₁ i₁ cu₁)
      (f - first.size - restSize rest) g₂ hp₁ hrest hsafe0 (by omega)
      (by rw [← SCompound.value_isEmpty]; exact InvG_setF _ _ _ _ _ _ (firstSt_inv B fl _))
      htbl.2 hcu₁ (hstk.mono (by omega))
    rw [show f - first.size - restSize rest + restSize rest = f - first.size by omega] at h₂
    have hend : EndOK fl (foldRest B fl (restValue rest) (firstSt B fl first.value)) := by
      apply foldRest_end B fl rest (!first.isEmpty) _ _ hrest
      rw [← SCompound.value_isEmpty]
      exact firstSt_inv B fl _
    refine ⟨p, cu₂, hcu₂, ?_⟩
    rw [h₁', h₂, parseLoop_end B s _ fl _ (by show isGap (s.drop p); rw [hp]; exact hg₂),
      foldRest_frame, setF_setF]
    simp only
    rw [finishSel_G B s fl _ (fun h => by rw [hopen] at h; cases h) (EndOK_setF fl _ _ _ _ hend),
      finishG_setF, SSelList.value, loopState_eq]
    rfl
end

end Run

/-- **The compiled result, computed from the values.**  For every selector list `l` of the covered
    grammar written in any admissible spelling (`l.ok 0`: the flags of the top-level call), with arbitrary
    gaps `g₁`, `g₂` at the two ends, and every custom table `custom` that `process_custom` accepts and
    turns into a map `cu0` holding the definitions `Γ` that the `:--name` items of `l` carry
    (`l.tbl Γ`, `CuInv B Γ [] cu0`), `Parser.compile` on the text returns the structure `denote` computes
    from the VALUES of `l` alone (which include the values of the definitions of its custom selectors). -/
theorem compile_eq_denote2 (B : Builtins) (Γ : Tbl) (custom : List (Str × Str)) (cu0 : Custom)
    (hpc : processCustom pyFoldEnv Gen.lexicon custom = .ok cu0) (hcu0 : CuInv B Γ [] cu0)
    (g₁ g₂ : Str) (l : SSelList)
    (hg₁ : isGap g₁) (hg₂ : isGap g₂) (hok : l.ok 0 g₂) (htbl : l.tbl Γ)
    (h0 : ∀ x ∈ g₁ ++ l.render ++ g₂, x ≠ 0) :
    Parser.compile pyFoldEnv Gen.lexicon B (g₁ ++ l.render ++ g₂) custom 0 = .ok (denote B l.value) := by
  rw [← C06.compile_fuel_irrelevant pyFoldEnv B _ custom 0
    (C06.allotted (g₁ ++ l.render ++ g₂) custom + l.cost + 1) (by omega),
    C06.compileF_def, hpc]
  simp only [nulFix_id _ h0]
  obtain ⟨p', cu', _, h⟩ := run_top B Γ l (g₁ ++ l.render ++ g₂) [] 0 g₁ g₂ cu0
    (C06.allotted (g₁ ++ l.render ++ g₂) custom + l.cost) (by decide) rfl hg₁ hg₂ hok htbl hcu0
    (fun k hk => by cases hk) (by omega)
  have h' : parseSelectors pyFoldEnv Gen.lexicon B (g₁ ++ l.render ++ g₂)
      (C06.allotted (g₁ ++ l.render ++ g₂) custom + l.cost + 1)
      (startIndex ⟨pyFoldEnv, Gen.lexicon, B, g₁ ++ l.render ++ g₂⟩) 0 0 cu0 =
      .ok (finishG 0 (l.value.loopState B 0), p', cu') := h
  rw [h']
  rfl

/-- **Spelling invariance of the compiled result (the part of `compile_spelling_invariant` that is
    proved).**  Two texts of the covered grammar — any gaps, any escapes, any quotes, any letter case of
    keywords, any spelling of the definitions of their custom selectors — that spell the same values
    compile to the same structure. -/
theorem compile_spelling_invariant_partial2 (B : Builtins) (Γ Γ' : Tbl) (custom custom' : List (Str × Str))
    (cu0 cu0' : Custom)
    (hpc : processCustom pyFoldEnv Gen.lexicon custom = .ok cu0) (hcu0 : CuInv B Γ [] cu0)
    (hpc' : processCustom pyFoldEnv Gen.lexicon custom' = .ok cu0') (hcu0' : CuInv B Γ' [] cu0')
    (g₁ g₂ g₁' g₂' : Str) (l l' : SSelList)
    (hg₁ : isGap g₁) (hg₂ : isGap g₂) (hg₁' : isGap g₁') (hg₂' : isGap g₂')
    (hok : l.ok 0 g₂) (hok' : l'.ok 0 g₂') (htbl : l.tbl Γ) (htbl' : l'.tbl Γ')
    (h0 : ∀ x ∈ g₁ ++ l.render ++ g₂, x ≠ 0) (h0' : ∀ x ∈ g₁' ++ l'.render ++ g₂', x ≠ 0)
    (hval : l.value = l'.value) :
    Parser.compile pyFoldEnv Gen.lexicon B (g₁ ++ l.render ++ g₂) custom 0 =
      Parser.compile pyFoldEnv Gen.lexicon B (g₁' ++ l'.render ++ g₂') custom' 0 := by
  rw [compile_eq_denote2 B Γ custom cu0 hpc hcu0 g₁ g₂ l hg₁ hg₂ hok htbl h0,
    compile_eq_denote2 B Γ' custom' cu0' hpc' hcu0' g₁' g₂' l' hg₁' hg₂' hok' htbl' h0', hval]

/-- `compile_eq_denote2` for a custom dictionary given as a list of (name as written, key, definition) whose
    names pass the checks of `process_custom` (`nameOK`: decidable, name by name) and whose keys are pairwise
    different. -/
theorem compile_eq_denote2_table (B : Builtins) (entries : List (Str × Str × Str × SSelList × Str))
    (hname : ∀ x ∈ entries, nameOK x.1 x.2.1) (hnd : (entries.map (·.2.1)).Nodup)
    (g₁ g₂ : Str) (l : SSelList)
    (hg₁ : isGap g₁) (hg₂ : isGap g₂) (hok : l.ok 0 g₂) (htbl : l.tbl (entries.map (·.2)))
    (h0 : ∀ x ∈ g₁ ++ l.render ++ g₂, x ≠ 0) :
    Parser.compile pyFoldEnv Gen.lexicon B (g₁ ++ l.render ++ g₂)
      (entries.map fun x => (x.1, defText x.2.2)) 0 = .ok (denote B l.value) :=
  compile_eq_denote2 B (entries.map (·.2)) _ _ (processCustom_table entries hname hnd) (CuInv_init B _)
    g₁ g₂ l hg₁ hg₂ hok htbl h0

/-- `compile_eq_denote2` without a custom table. -/
theorem compile_eq_denote2_plain (B : Builtins) (g₁ g₂ : Str) (l : SSelList)
    (hg₁ : isGap g₁) (hg₂ : isGap g₂) (hok : l.ok 0 g₂) (htbl : l.tbl [])
    (h0 : ∀ x ∈ g₁ ++ l.render ++ g₂, x ≠ 0) :
    Parser.compile pyFoldEnv Gen.lexicon B (g₁ ++ l.render ++ g₂) [] 0 = .ok (denote B l.value) :=
  compile_eq_denote2 B [] [] [] rfl (fun k _ _ _ hd _ => by cases hd) g₁ g₂ l hg₁ hg₂ hok htbl h0

/-- `compile_spelling_invariant_partial2` without custom tables. -/
theorem compile_spelling_invariant_partial2_plain (B : Builtins) (g₁ g₂ g₁' g₂' : Str) (l l' : SSelList)
    (hg₁ : isGap g₁) (hg₂ : isGap g₂) (hg₁' : isGap g₁') (hg₂' : isGap g₂')
    (hok : l.ok 0 g₂) (hok' : l'.ok 0 g₂') (htbl : l.tbl []) (htbl' : l'.tbl [])
    (h0 : ∀ x ∈ g₁ ++ l.render ++ g₂, x ≠ 0) (h0' : ∀ x ∈ g₁' ++ l'.render ++ g₂', x ≠ 0)
    (hval : l.value = l'.value) :
    Parser.compile pyFoldEnv Gen.lexicon B (g₁ ++ l.render ++ g₂) [] 0 =
      Parser.compile pyFoldEnv Gen.lexicon B (g₁' ++ l'.render ++ g₂') [] 0 := by
  rw [compile_eq_denote2_plain B g₁ g₂ l hg₁ hg₂ hok htbl h0,
    compile_eq_denote2_plain B g₁' g₂' l' hg₁' hg₂' hok' htbl' h0', hval]

#print axioms compile_eq_denote2
#print axioms compile_spelling_invariant_partial2
#print axioms compile_eq_denote2_table

/-! ## Non-vacuity: concrete instances -/

/-- `*|p[x|y]` -/
def exampleNsA : SSelList :=
  .mk (.mk (some ⟨some .star, .name [(112, .lit)]⟩)
    [.attrNs (.name [(120, .lit)]) ⟨[], [(121, .lit)], none, []⟩]) []

/-- `*|\70 [ x|y ]` -/
def exampleNsB : SSelList :=
  .mk (.mk (some ⟨some .star, .name [(112, .hex 2 [] (some .space))]⟩)
    [.attrNs (.name [(120, .lit)]) ⟨[32], [(121, .lit)], none, [32]⟩]) []

theorem exampleNsA_ok : exampleNsA.ok 0 [] := by
  simp only [exampleNsA, SSelList.ok, SCompound.ok, restOK, SCompound.isEmpty, itemsOK, SItem.ok, STagN.ok, STag.ok, SNs.ok,
    SAttr.ok, identOK, renderRest, renderItems, SItem.render, SAttr.afterName]
  decide_lit

theorem exampleNsB_ok : exampleNsB.ok 0 [] := by
  simp only [exampleNsB, SSelList.ok, SCompound.ok, restOK, SCompound.isEmpty, itemsOK, SItem.ok, STagN.ok, STag.ok, SNs.ok,
    SAttr.ok, identOK, renderRest, renderItems, SItem.render, SAttr.afterName]
  decide_lit

theorem exampleNs_text : ([] ++ exampleNsA.render ++ []) = "*|p[x|y]".toStr ∧
    ([] ++ exampleNsB.render ++ []) = "*|\\70 [ x|y ]".toStr := by decide_lit

example : ([] ++ exampleNsA.render ++ []) = "*|p[x|y]".toStr ∧
    ([] ++ exampleNsB.render ++ []) = "*|\\70 [ x|y ]".toStr := exampleNs_text

example : Parser.compile pyFoldEnv Gen.lexicon Gen.builtinsRec "*|p[x|y]".toStr [] 0 =
    Parser.compile pyFoldEnv Gen.lexicon Gen.builtinsRec "*|\\70 [ x|y ]".toStr [] 0 := by
  rw [← exampleNs_text.1, ← exampleNs_text.2]
  exact compile_spelling_invariant_partial2_plain Gen.builtinsRec [] [] [] [] exampleNsA exampleNsB
    (by decide) (by decide) (by decide) (by decide) exampleNsA_ok exampleNsB_ok (by simp [exampleNsA, SSelList.tbl, SCompound.tbl, itemsTbl, restTbl, SItem.tbl]) (by simp [exampleNsB, SSelList.tbl, SCompound.tbl, itemsTbl, restTbl, SItem.tbl]) (by decide) (by decide) rfl

/-- `p:lang(en , 'de'):-soup-contains-own(x)` -/
def exampleValA : SSelList :=
  .mk (.mk (some ⟨none, .name [(112, .lit)]⟩)
    [.lang [(108, .lit), (97, .lit), (110, .lit), (103, .lit)] []
        ⟨.ident [(101, .lit), (110, .lit)], [([32], [32], .str 39 [.ch 100 .lit, .ch 101 .lit])]⟩ [],
     .contains ("-soup-contains-own".toStr.map fun c => (c, .lit)) []
        ⟨.ident [(120, .lit)], []⟩ []]) []

/-- `p:LANG( "en",d\65 ):-soup-contains-own('x')` -/
def exampleValB : SSelList :=
  .mk (.mk (some ⟨none, .name [(112, .lit)]⟩)
    [.lang [(76, .lit), (65, .lit), (78, .lit), (71, .lit)] [32]
        ⟨.str 34 [.ch 101 .lit, .ch 110 .lit],
         [([], [], .ident [(100, .lit), (101, .hex 2 [] (some .space))])]⟩ [],
     .contains ("-soup-contains-own".toStr.map fun c => (c, .lit)) []
        ⟨.str 39 [.ch 120 .lit], []⟩ []]) []

theorem exampleValA_ok : exampleValA.ok 0 [] := by
  simp only [exampleValA, SSelList.ok, SCompound.ok, restOK, SCompound.isEmpty, itemsOK, SItem.ok, STagN.ok, STag.ok,
    identOK, renderRest, renderItems, SItem.render, SValues.ok, vrestOK, SValue.ok, containsName]
  decide_lit

theorem exampleValB_ok : exampleValB.ok 0 [] := by
  simp only [exampleValB, SSelList.ok, SCompound.ok, restOK, SCompound.isEmpty, itemsOK, SItem.ok, STagN.ok, STag.ok,
    identOK, renderRest, renderItems, SItem.render, SValues.ok, vrestOK, SValue.ok, containsName]
  decide_lit

theorem exampleVal_text : ([] ++ exampleValA.render ++ []) = "p:lang(en , 'de'):-soup-contains-own(x)".toStr ∧
    ([] ++ exampleValB.render ++ []) = "p:LANG( \"en\",d\\65 ):-soup-contains-own('x')".toStr := by decide_lit

example : ([] ++ exampleValA.render ++ []) = "p:lang(en , 'de'):-soup-contains-own(x)".toStr ∧
    ([] ++ exampleValB.render ++ []) = "p:LANG( \"en\",d\\65 ):-soup-contains-own('x')".toStr := exampleVal_text

example : Parser.compile pyFoldEnv Gen.lexicon Gen.builtinsRec
      "p:lang(en , 'de'):-soup-contains-own(x)".toStr [] 0 =
    Parser.compile pyFoldEnv Gen.lexicon Gen.builtinsRec
      "p:LANG( \"en\",d\\65 ):-soup-contains-own('x')".toStr [] 0 := by
  rw [← exampleVal_text.1, ← exampleVal_text.2]
  exact compile_spelling_invariant_partial2_plain Gen.builtinsRec [] [] [] [] exampleValA exampleValB
    (by decide) (by decide) (by decide) (by decide) exampleValA_ok exampleValB_ok (by simp [exampleValA, SSelList.tbl, SCompound.tbl, itemsTbl, restTbl, SItem.tbl]) (by simp [exampleValB, SSelList.tbl, SCompound.tbl, itemsTbl, restTbl, SItem.tbl]) (by decide) (by decide) rfl

/-- `:is(a, , b):where()` -/
def exampleFgA : SSelList :=
  .mk (.mk none
    [.fn [(105, .lit), (115, .lit)] []
      (.mk (.mk (some ⟨none, .name [(97, .lit)]⟩) [])
        [(.sym [] 44 [32], .mk none []), (.sym [] 44 [32], .mk (some ⟨none, .name [(98, .lit)]⟩) [])]) [],
     .fn ("where".toStr.map fun c => (c, .lit)) [] (.mk (.mk none []) []) []]) []

/-- `:IS( a,,b ):where( )` -/
def exampleFgB : SSelList :=
  .mk (.mk none
    [.fn [(73, .lit), (83, .lit)] [32]
      (.mk (.mk (some ⟨none, .name [(97, .lit)]⟩) [])
        [(.sym [] 44 [], .mk none []), (.sym [] 44 [], .mk (some ⟨none, .name [(98, .lit)]⟩) [])]) [32],
     .fn ("where".toStr.map fun c => (c, .lit)) [32] (.mk (.mk none []) []) []]) []

set_option synthInstance.maxSize 2000 in
theorem exampleFgA_ok : exampleFgA.ok 0 [] := by
  simp only [exampleFgA, SSelList.ok, SCompound.ok, restOK, SCompound.isEmpty, itemsOK, SItem.ok, STagN.ok,
    STag.ok, identOK, renderRest, renderItems, SItem.render, SSelList.render, SCompound.render, fnName2,
    SComb.ok, SComb.render, SComb.value, STagN.render, STag.render]
  decide_lit

set_option synthInstance.maxSize 2000 in
theorem exampleFgB_ok : exampleFgB.ok 0 [] := by
  simp only [exampleFgB, SSelList.ok, SCompound.ok, restOK, SCompound.isEmpty, itemsOK, SItem.ok, STagN.ok,
    STag.ok, identOK, renderRest, renderItems, SItem.render, SSelList.render, SCompound.render, fnName2,
    SComb.ok, SComb.render, SComb.value, STagN.render, STag.render]
  decide_lit

theorem exampleFg_text : ([] ++ exampleFgA.render ++ []) = ":is(a, , b):where()".toStr ∧
    ([] ++ exampleFgB.render ++ []) = ":IS( a,,b ):where( )".toStr := by decide_lit

example : ([] ++ exampleFgA.render ++ []) = ":is(a, , b):where()".toStr ∧
    ([] ++ exampleFgB.render ++ []) = ":IS( a,,b ):where( )".toStr := exampleFg_text

example : Parser.compile pyFoldEnv Gen.lexicon Gen.builtinsRec ":is(a, , b):where()".toStr [] 0 =
    Parser.compile pyFoldEnv Gen.lexicon Gen.builtinsRec ":IS( a,,b ):where( )".toStr [] 0 := by
  rw [← exampleFg_text.1, ← exampleFg_text.2]
  exact compile_spelling_invariant_partial2_plain Gen.builtinsRec [] [] [] [] exampleFgA exampleFgB
    (by decide) (by decide) (by decide) (by decide) exampleFgA_ok exampleFgB_ok (by simp [exampleFgA, SSelList.tbl, SCompound.tbl, itemsTbl, restTbl, SItem.tbl]) (by simp [exampleFgB, SSelList.tbl, SCompound.tbl, itemsTbl, restTbl, SItem.tbl]) (by decide) (by decide) rfl

/-- `p&:has(> a, + b c)` -/
def exampleHasA : SSelList :=
  .mk (.mk (some ⟨none, .name [(112, .lit)]⟩)
    [.amp,
     .fn [(104, .lit), (97, .lit), (115, .lit)] []
      (.mk (.mk none [])
        [(.sym [] 62 [32], .mk (some ⟨none, .name [(97, .lit)]⟩) []),
         (.sym [] 44 [32], .mk none []),
         (.sym [] 43 [32], .mk (some ⟨none, .name [(98, .lit)]⟩) []),
         (.desc [32], .mk (some ⟨none, .name [(99, .lit)]⟩) [])]) []]) []

/-- `p&:HAS(>a ,+b  c )` -/
def exampleHasB : SSelList :=
  .mk (.mk (some ⟨none, .name [(112, .lit)]⟩)
    [.amp,
     .fn [(72, .lit), (65, .lit), (83, .lit)] []
      (.mk (.mk none [])
        [(.sym [] 62 [], .mk (some ⟨none, .name [(97, .lit)]⟩) []),
         (.sym [32] 44 [], .mk none []),
         (.sym [] 43 [], .mk (some ⟨none, .name [(98, .lit)]⟩) []),
         (.desc [32, 32], .mk (some ⟨none, .name [(99, .lit)]⟩) [])]) [32]]) []

instance : Decidable (DescGap [32]) := isTrue (.ws 32 [] rfl (by decide))
instance : Decidable (DescGap [32, 32]) := isTrue (.ws 32 [32] rfl (by decide))

set_option synthInstance.maxSize 4000 in
theorem exampleHasA_ok : exampleHasA.ok 0 [] := by
  simp only [exampleHasA, SSelList.ok, SCompound.ok, restOK, SCompound.isEmpty, itemsOK, SItem.ok, STagN.ok,
    STag.ok, identOK, renderRest, renderItems, SItem.render, SSelList.render, SCompound.render, fnName2,
    SComb.ok, SComb.render, SComb.value, STagN.render, STag.render]
  decide_lit

set_option synthInstance.maxSize 4000 in
theorem exampleHasB_ok : exampleHasB.ok 0 [] := by
  simp only [exampleHasB, SSelList.ok, SCompound.ok, restOK, SCompound.isEmpty, itemsOK, SItem.ok, STagN.ok,
    STag.ok, identOK, renderRest, renderItems, SItem.render, SSelList.render, SCompound.render, fnName2,
    SComb.ok, SComb.render, SComb.value, STagN.render, STag.render]
  decide_lit

theorem exampleHas_text : ([] ++ exampleHasA.render ++ []) = "p&:has(> a, + b c)".toStr ∧
    ([] ++ exampleHasB.render ++ []) = "p&:HAS(>a ,+b  c )".toStr := by decide_lit

example : ([] ++ exampleHasA.render ++ []) = "p&:has(> a, + b c)".toStr ∧
    ([] ++ exampleHasB.render ++ []) = "p&:HAS(>a ,+b  c )".toStr := exampleHas_text

example : Parser.compile pyFoldEnv Gen.lexicon Gen.builtinsRec "p&:has(> a, + b c)".toStr [] 0 =
    Parser.compile pyFoldEnv Gen.lexicon Gen.builtinsRec "p&:HAS(>a ,+b  c )".toStr [] 0 := by
  rw [← exampleHas_text.1, ← exampleHas_text.2]
  exact compile_spelling_invariant_partial2_plain Gen.builtinsRec [] [] [] [] exampleHasA exampleHasB
    (by decide) (by decide) (by decide) (by decide) exampleHasA_ok exampleHasB_ok (by simp [exampleHasA, SSelList.tbl, SCompound.tbl, itemsTbl, restTbl, SItem.tbl]) (by simp [exampleHasB, SSelList.tbl, SCompound.tbl, itemsTbl, restTbl, SItem.tbl]) (by decide) (by decide) rfl

def formsX : Forms := [(45, .lit), (45, .lit), (120, .lit)]
def formsY : Forms := [(45, .lit), (45, .lit), (121, .lit)]
def cmpA : SCompound := .mk (some ⟨none, .name [(97, .lit)]⟩) []
def cmpB : SCompound := .mk (some ⟨none, .name [(98, .lit)]⟩) []
def cmpC : SCompound := .mk (some ⟨none, .name [(99, .lit)]⟩) []

/-- `a > b` -/
def defX : SSelList := .mk cmpA [(.sym [32] 62 [32], cmpB)]
/-- `:--x, c` -/
def defY : SSelList := .mk (.mk none [.custom formsX [] defX []]) [(.sym [] 44 [32], cmpC)]
/-- the table `{":--x": "a > b", ":--Y": ":--x, c"}` -/
def tableA : Tbl := [(":--x".toStr, [], defX, []), (":--y".toStr, [], defY, [])]
def customA : List (Str × Str) := [(":--x".toStr, "a > b".toStr), (":--Y".toStr, ":--x, c".toStr)]
/-- `p:--y:--x` -/
def exampleCuA : SSelList :=
  .mk (.mk (some ⟨none, .name [(112, .lit)]⟩) [.custom formsY [] defY [], .custom formsX [] defX []]) []

/-- `a>b` -/
def defX' : SSelList := .mk cmpA [(.sym [] 62 [], cmpB)]
/-- `:--X ,c` -/
def defY' : SSelList :=
  .mk (.mk none [.custom [(45, .lit), (45, .lit), (88, .lit)] [] defX' []]) [(.sym [32] 44 [], cmpC)]
def tableB : Tbl := [(":--y".toStr, [32], defY', []), (":--x".toStr, [], defX', [])]
def customB : List (Str × Str) := [(":--y".toStr, " :--X ,c".toStr), (":--x".toStr, "a>b".toStr)]
/-- `p:--Y:--\78 ` -/
def exampleCuB : SSelList :=
  .mk (.mk (some ⟨none, .name [(112, .lit)]⟩)
    [.custom [(45, .lit), (45, .lit), (89, .lit)] [32] defY' [],
     .custom [(45, .lit), (45, .lit), (120, .hex 2 [] (some .space))] [] defX' []]) []

theorem customA_ok : processCustom pyFoldEnv Gen.lexicon customA =
    .ok (tableA.map fun e => (e.1, .src (e.2.1 ++ e.2.2.1.render ++ e.2.2.2))) := by
  unfold customA tableA
  repeat rw [toStr_ofList]
  rfl

theorem customB_ok : processCustom pyFoldEnv Gen.lexicon customB =
    .ok (tableB.map fun e => (e.1, .src (e.2.1 ++ e.2.2.1.render ++ e.2.2.2))) := by
  unfold customB tableB
  repeat rw [toStr_ofList]
  rfl

set_option synthInstance.maxSize 4000 in
theorem exampleCuA_ok : exampleCuA.ok 0 [] := by
  simp only [exampleCuA, defX, defY, cmpA, cmpB, cmpC, formsX, formsY, SSelList.ok, SCompound.ok, restOK,
    SCompound.isEmpty, itemsOK, SItem.ok, STagN.ok, STag.ok, identOK, renderRest, renderItems, SItem.render,
    SSelList.render, SCompound.render, SComb.ok, SComb.render, SComb.value, STagN.render, STag.render]
  decide_lit

set_option synthInstance.maxSize 4000 in
theorem exampleCuB_ok : exampleCuB.ok 0 [] := by
  simp only [exampleCuB, defX', defY', cmpA, cmpB, cmpC, SSelList.ok, SCompound.ok, restOK,
    SCompound.isEmpty, itemsOK, SItem.ok, STagN.ok, STag.ok, identOK, renderRest, renderItems, SItem.render,
    SSelList.render, SCompound.render, SComb.ok, SComb.render, SComb.value, STagN.render, STag.render]
  decide_lit

theorem exampleCuA_tbl : exampleCuA.tbl tableA := by
  simp only [exampleCuA, defY, SSelList.tbl, SCompound.tbl, itemsTbl, restTbl, SItem.tbl, cmpC, and_true]
  refine ⟨⟨rfl, rfl, ?_⟩, rfl, ?_⟩ <;> simp [defX, cmpA, cmpB, SSelList.tbl, SCompound.tbl, itemsTbl, restTbl]

theorem exampleCuB_tbl : exampleCuB.tbl tableB := by
  simp only [exampleCuB, defY', SSelList.tbl, SCompound.tbl, itemsTbl, restTbl, SItem.tbl, cmpC, and_true]
  refine ⟨⟨rfl, rfl, ?_⟩, rfl, ?_⟩ <;> simp [defX', cmpA, cmpB, SSelList.tbl, SCompound.tbl, itemsTbl, restTbl]

theorem exampleCu_text : exampleCuA.render = "p:--y:--x".toStr ∧ exampleCuB.render = "p:--Y:--\\78 ".toStr := by
  decide_lit

example : exampleCuA.render = "p:--y:--x".toStr ∧ exampleCuB.render = "p:--Y:--\\78 ".toStr := exampleCu_text

/-- `compile("p:--y:--x", {":--x": "a > b", ":--Y": ":--x, c"})` and
    `compile("p:--Y:--\78 ", {":--y": " :--X ,c", ":--x": "a>b"})` give the same structure. -/
example : Parser.compile pyFoldEnv Gen.lexicon Gen.builtinsRec "p:--y:--x".toStr customA 0 =
    Parser.compile pyFoldEnv Gen.lexicon Gen.builtinsRec "p:--Y:--\\78 ".toStr customB 0 := by
  rw [← exampleCu_text.1, ← exampleCu_text.2]
  exact compile_spelling_invariant_partial2 Gen.builtinsRec tableA tableB customA customB _ _
    customA_ok (CuInv_init _ tableA) customB_ok (CuInv_init _ tableB) [] [] [] [] exampleCuA exampleCuB
    (by decide) (by decide) (by decide) (by decide) exampleCuA_ok exampleCuB_ok exampleCuA_tbl exampleCuB_tbl
    (by decide) (by decide) rfl

/-- The same through `compile_eq_denote2_table`: the dictionary as (name as written, key, definition). -/
def entriesA : List (Str × Str × Str × SSelList × Str) :=
  [(":--x".toStr, ":--x".toStr, [], defX, []), (":--Y".toStr, ":--y".toStr, [], defY, [])]

example : Parser.compile pyFoldEnv Gen.lexicon Gen.builtinsRec "p:--y:--x".toStr
      [(":--x".toStr, "a > b".toStr), (":--Y".toStr, ":--x, c".toStr)] 0 =
    .ok (denote Gen.builtinsRec exampleCuA.value) := by
  rw [← exampleCu_text.1,
    show [(":--x".toStr, "a > b".toStr), (":--Y".toStr, ":--x, c".toStr)] =
      entriesA.map (fun x => (x.1, defText x.2.2)) from by decide_lit]
  exact compile_eq_denote2_table Gen.builtinsRec entriesA (by decide) (by decide) [] [] exampleCuA
    (by decide) (by decide) exampleCuA_ok exampleCuA_tbl (by decide)

end C09Compile2
end SoupVerif
