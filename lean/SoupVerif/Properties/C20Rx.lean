/-
  C20 at the level of the regular expressions of the SOURCE.

  `Properties/C20.lean` proves line / column / context of `get_pattern_context` and termination and
  round trip of the debug pretty-printer for hand-written scanners (`Context.splitLines`, the fifteen token
  scanners of `Model/Pretty.lean`).  `Refine/Context.lean` and `Refine/Pretty.lean` prove, for ALL strings and
  positions, that these scanners are exactly `finditer` / `match` of the regex-engine model on the
  expressions REGENERATED from `util.py` and `pretty.py` (`Gen.util_RE_PATTERN_LINE_SPLIT`,
  `Gen.pretty_RE_*`).  Composed here: the C20 statements about the regexes the code compiles.
-/
import SoupVerif.Properties.C20
import SoupVerif.Refine.Context
import SoupVerif.Refine.Pretty
namespace SoupVerif
namespace C20Rx
open Context

/-- `get_pattern_context` with the line matches computed by `finditer` of the engine on the regenerated
    `RE_PATTERN_LINE_SPLIT`. -/
def getPatternContextRx (env : CharEnv) (pattern : Str) (index : Nat) : Str × Nat × Nat :=
  let ms := Refine.Context.withLast 0 (Refine.Context.finditer env Gen.util_RE_PATTERN_LINE_SPLIT pattern)
  let st := ms.foldl (Context.step pattern index) LoopState.init
  (st.text.flatten, st.line, st.col)

theorem getPatternContextRx_eq (env : CharEnv) (p : Str) (i : Nat) :
    getPatternContextRx env p i = getPatternContext p i := by
  unfold getPatternContextRx getPatternContext
  rw [← Refine.Context.splitLines_eq_withLast_finditer env p]

/-- Context, line and column of the `finditer`-based function at once (`C20.ctx_eq`). -/
theorem ctx_eq_rx (env : CharEnv) (p : Str) (i : Nat) (hi : i ≤ p.length) :
    getPatternContextRx env p i =
      (Spec.Ctx.expectedContext p i, 1 + Spec.Ctx.breaksBefore p i, i - Spec.Ctx.lineStart p i + 1) := by
  rw [getPatternContextRx_eq, C20.ctx_eq p i hi]

theorem ctx_line_rx (env : CharEnv) (p : Str) (i : Nat) (hi : i ≤ p.length) :
    (getPatternContextRx env p i).2.1 = 1 + Spec.Ctx.breaksBefore p i := by
  rw [ctx_eq_rx env p i hi]

theorem ctx_col_rx (env : CharEnv) (p : Str) (i : Nat) (hi : i ≤ p.length) :
    (getPatternContextRx env p i).2.2 = i - Spec.Ctx.lineStart p i + 1 := by
  rw [ctx_eq_rx env p i hi]

theorem ctx_text_rx (env : CharEnv) (p : Str) (i : Nat) (hi : i ≤ p.length) :
    (getPatternContextRx env p i).1 = Spec.Ctx.expectedContext p i := by
  rw [ctx_eq_rx env p i hi]

/-- The token dispatch of `pretty()` — `for k, v in TOKENS.items(): m = v.match(sel, index)` — run with the
    engine on the regenerated regexes, in dictionary order, is the model's `firstMatch` (the driver's
    instance: Python's IGNORECASE folding and Unicode `\d`). -/
theorem pretty_dispatch_rx (s : Str) (i : Nat) :
    Pretty.firstMatch Pretty.pyEnv s i =
      PrettyRefine.tokenTable.findSome?
        (fun kr => (Rx.matchAt PrettyRefine.pyFoldEnvNd kr.2 s i).map (fun r => (kr.1, r.1))) :=
  PrettyRefine.firstMatch_refine_py s i

example : getPatternContextRx asciiEnv "a,\r\n,b".toStr 4 = getPatternContext "a,\r\n,b".toStr 4 :=
  getPatternContextRx_eq asciiEnv _ 4

end C20Rx
end SoupVerif
