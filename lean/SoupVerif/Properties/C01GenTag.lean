/-
  C01 — the leaf tests `match_namespace`, `match_tagname`, `match_tag`, `match_id`, `match_classes` of
  `css_match.CSSMatch`, TRANSLATED from the source (`Generated/PyMatchSel.lean`, second half: one Lean
  definition per Python function over the dynamic values of `Model/MatchDyn.lean`) and PROVED equal to the
  hand-written model functions (`Model/Match.lean`) the property theorems are about — for all contexts,
  elements and arguments.  Each statement `Gen.f … = .bool (model …)` also says that no operator of the
  translated body raised (`PV.err` is absorbing).

  With `Properties/C01GenMatch.lean` this ties `match_selectors` AND the first, eighth and ninth test of
  its chain to the source.
-/
import SoupVerif.Properties.C01GenMatch
import SoupVerif.Lemmas.PyVal
namespace SoupVerif.C01GenTag
open SoupVerif SoupVerif.PyMatchSel

-- one simp set serves all branches of a case split; not every branch needs every lemma
set_option linter.unusedSimpArgs false

variable (c : Ctx) (e : Elem)

section
/- the dynamic operators `match_namespace` is written with -/
attribute [local simp] pyTagPrefix PV.ofOptStr pyNsGet pyTagNs pyIsNone pyIsNotNone pyAnd pyOr pyNe pyEq PV.ite
  PV.truthy PV.isErr

theorem gen_match_namespace (t : SelTag) :
    Gen.PyMatchSel.match_namespace c e t = .bool (matchNamespace c e t) := by
  obtain ⟨name, pfx⟩ := t
  unfold Gen.PyMatchSel.match_namespace matchNamespace
  -- the splits are the `if` chain of the source: no prefix / `''` / `*` / a mapped or an unmapped prefix
  cases pfx with
  | none =>
    cases hd : c.nsGet [] with
    | none => simp [hd]
    | some d => by_cases h : c.tagNs e = d <;> simp [hd, h]
  | some p =>
    by_cases hp : p = []
    · subst hp
      cases hn : c.tagNs e <;> simp [hn]
    · have hpe : p.isEmpty = false := by cases p <;> simp_all
      by_cases hs : p = [42]
      · subst hs
        cases hu : c.nsGet [42] <;> simp [hu, String.toStr]
      · have hs' : (p == "*".toStr) = false := by
          simpa [String.toStr] using hs
        cases hu : c.nsGet p with
        | none => simp [hu, hp, hs, hpe, hs']
        | some u => by_cases h : c.tagNs e = u <;> simp [hu, hp, hs, hpe, hs', h]

end

theorem gen_match_tagname (t : SelTag) :
    Gen.PyMatchSel.match_tagname c e t = .bool (matchTagname c e t) := by
  obtain ⟨name, pfx⟩ := t
  unfold Gen.PyMatchSel.match_tagname matchTagname
  cases hx : c.isXml <;>
    simp [pyTagName, pyIsXml, pyGetTag, pyLower, pyNot, pyAnd, pyIsNotNone, pyNotInTuple, pyInTuple, PV.ite,
      PV.truthy, PV.isErr, hx, String.toStr, str_beq]

theorem gen_match_tag (t : Option SelTag) :
    Gen.PyMatchSel.match_tag c e t = .bool (matchTag c e t) := by
  unfold Gen.PyMatchSel.match_tag matchTag
  cases t with
  | none => rfl
  | some t =>
    simp only [gen_match_namespace, gen_match_tagname]
    cases matchNamespace c e t <;> cases matchTagname c e t <;> rfl

theorem gen_match_id (ids : List Str) :
    Gen.PyMatchSel.match_id c e ids = .bool (matchId c e ids) := by
  unfold Gen.PyMatchSel.match_id matchId
  have hf : ∀ x : Str, pyNe (.str x) (pyAttrByName c e (.str [105, 100]) (.str [])) =
      .bool (!((c.attrByName e "id".toStr).getD (.str []) == .str x)) := by
    intro x
    rw [SatLeaf.id_toStr]
    cases hv : c.attrByName e [105, 100] with
    | none => simp [pyAttrByName, hv, pyNe, PV.isErr, bne, BEq.comm]
    | some v => cases v <;> simp [pyAttrByName, hv, pyNe, PV.isErr, PV.ofNVal, bne, BEq.comm]
  simp only [pyAny]
  rw [pyAnyList_bool _ _ hf]
  simp only [PV.ite, PV.truthy]
  have : (ids.any fun x => !((c.attrByName e "id".toStr).getD (.str []) == .str x)) =
      !(ids.all fun i => (c.attrByName e "id".toStr).getD (.str []) == .str i) := by
    rw [List.not_all_eq_any_not]
  rw [this]
  cases ids.all fun i => (c.attrByName e "id".toStr).getD (.str []) == .str i <;> rfl

theorem gen_match_classes (ks : List Str) :
    Gen.PyMatchSel.match_classes c e ks = .bool (matchClasses c e ks) := by
  unfold Gen.PyMatchSel.match_classes matchClasses
  have hf : ∀ x : Str, pyNotIn (.str x) (pyGetClasses c e) = .bool (!(getClasses c e).contains x) := by
    intro x; simp [pyNotIn, pyIn, pyGetClasses, pyNot, PV.truthy]
  simp only [pyAny]
  rw [pyAnyList_bool _ _ hf]
  simp only [PV.ite, PV.truthy]
  have : (ks.any fun x => !(getClasses c e).contains x) = !(ks.all fun k => (getClasses c e).contains k) := by
    rw [List.not_all_eq_any_not]
  rw [this]
  cases ks.all fun k => (getClasses c e).contains k <;> rfl

/-- The three translated leaf tests that occur in the chain of `match_selectors` (`match_tag`, `match_id`,
    `match_classes`), on the fields of one selector. -/
theorem gen_leaves_in_chain (s : SelFields) :
    Gen.PyMatchSel.match_tag c e s.tag = .bool (matchTag c e s.tag) ∧
    Gen.PyMatchSel.match_id c e s.ids = .bool (matchId c e s.ids) ∧
    Gen.PyMatchSel.match_classes c e s.classes = .bool (matchClasses c e s.classes) :=
  ⟨gen_match_tag c e s.tag, gen_match_id c e s.ids, gen_match_classes c e s.classes⟩

/-- C01: a type selector `E` / `ns|E` (regenerated `match_tag`) never raises and decides exactly
    `matchNamespace ∧ matchTagname`. -/
theorem gen_match_tag_some (t : SelTag) :
    Gen.PyMatchSel.match_tag c e (some t) = .bool (matchNamespace c e t && matchTagname c e t) :=
  gen_match_tag c e (some t)

/-- A compound without a type selector (`tag is None`) passes `match_tag`. -/
theorem gen_match_tag_none : Gen.PyMatchSel.match_tag c e none = .bool true := rfl

end SoupVerif.C01GenTag
