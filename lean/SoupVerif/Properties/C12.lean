/-
  C12  Namespace selectors compare namespace URIs through the supplied prefix map.

  Model : `Ctx.tagNs` (`get_tag_ns`), `matchNamespace`, `matchTagname`, `matchTag`,
          `matchAttributeName` (Model/Match.lean); `Ctx.namespaces`/`Ctx.nsGet` is the caller's
          prefix → URI map (`self.namespaces.get`).

  Element side (`ns|E`, `*|E`, `|E`, `E`): `ns_prefix`, `ns_unmapped`, `ns_any`, `ns_none`,
  `ns_default`, with `uri c e` the URI the matcher attributes to the element (`uri_def`,
  `html_without_ns`).  The element's own prefix is never read: `doc_prefix_irrelevant`.

  Attribute side (`[ns|a]`, `[*|a]`, `[|a]`, `[a]`): every branch of `match_attribute_name` is
  rewritten as ONE `List.find?` with an explicit predicate, followed by `normalize_value`:
  `attr_ns`, `attr_ns_empty` (a prefix mapped to the empty string), `attr_ns_unmapped`, `attr_any`, `attr_any_ignores_star_mapping`, `attr_bare`,
  `attr_no_ns_support`.  The document-side prefix text is never read for a prefixed selector:
  `attr_prefix_text_irrelevant`.
  `match_attribute_name` is a generator: `matchAttributeValues` is the list of ALL yielded values and
  every branch is ONE `List.filter` with the same predicate — `attr_ns_values`,
  `attr_ns_unmapped_values`, `attr_any_values`, `attr_bare_values`, `attr_no_ns_support_values`;
  `matchAttributeName` (the `find?` forms above) is its head (`attr_first_of_values`).  An
  attribute selector holds when SOME designated attribute passes the value test:
  `attr_value_test`, `attr_any_value_test`, `attr_ns_value_test`, and on the specification side
  `attr_any_value_test_spec`, `attr_any_ne_spec`, `attr_any_presence_spec`.
  At the end, in `namespace C12Parse`: what `C12Parse.designates` (`Lemmas/Names.lean`) says in each of these cases, as
  propositions over `NameEq` (`designates_*`; the text-level files C11Parse, C12Parse cite them).

  Where the statements are sharper than the prose of the property:
    * `[a]` and `[|a]` compare the WHOLE key text of the attribute (`attr_bare`): a namespaced
      attribute whose key text is `xlink:href` is matched by `[xlink\:href]`, and not by `[href]`.
      "The attribute without a namespace" is right for keys that are plain strings; for a
      `NamespacedAttribute` the key text (prefix included) is what is compared.
    * without namespace support (`supportsNamespaces = false`) the whole key is compared for
      EVERY prefix, so there the key text does matter (`attr_no_ns_support`,
      `key_text_matters_without_ns_support`).
-/
import SoupVerif.Lemmas.Names
import SoupVerif.Lemmas.MatchAlgebra
import SoupVerif.Spec.Css
import SoupVerif.Lemmas.StrLit
namespace SoupVerif
namespace C12
open Names

/-- The namespace URI the matcher attributes to an element (`get_tag_ns`). -/
abbrev uri (c : Ctx) (e : Elem) : Str := c.tagNs e

/-- Prop reading of `Names.nameEq`. -/
def NameEq (c : Ctx) (a b : Str) : Prop := if c.isXml then a = b else lower a = lower b

theorem nameEq_true_iff (c : Ctx) (a b : Str) : nameEq c a b = true ↔ NameEq c a b :=
  nameEq_iff c a b

/-- With namespace support the URI is the element's `namespace` (`None` and `''` both give `''`). -/
theorem uri_def (c : Ctx) (e : Elem) (h : c.supportsNamespaces = true) :
    uri c e = e.ns.getD [] := by
  simp only [uri, Ctx.tagNs, h, if_true]
  cases e.ns <;> rfl

/-- Documents without namespace support treat every element as XHTML. -/
theorem html_without_ns (c : Ctx) (e : Elem) (h : c.supportsNamespaces = false) :
    uri c e = NS_XHTML := by
  simp [uri, Ctx.tagNs, h]

theorem supportsNamespaces_def (c : Ctx) : c.supportsNamespaces = (c.isXml || c.hasHtmlNs) := rfl

/-- The prefix map lookup is "first entry with that key" (a `dict` has at most one). -/
theorem nsGet_nil (c : Ctx) (k : Str) (h : c.namespaces = []) : c.nsGet k = none := by
  simp [Ctx.nsGet, h]

theorem nsGet_cons (c : Ctx) (k k' u : Str) (rest : List (Str × Str))
    (h : c.namespaces = (k', u) :: rest) :
    c.nsGet k = if k' = k then some u else { c with namespaces := rest }.nsGet k := by
  simp only [Ctx.nsGet, h, List.find?_cons]
  by_cases hk : k' = k
  · simp [hk]
  · have : (k' == k) = false := by simpa using hk
    simp [hk, this]

/-- `ns|E`: the element's URI equals the URI the caller mapped `ns` to. -/
theorem ns_prefix (c : Ctx) (e : Elem) (n p : Str) (hp : p ≠ []) (hs : p ≠ "*".toStr) :
    matchNamespace c e ⟨n, some p⟩ = true ↔ ∃ u, c.nsGet p = some u ∧ uri c e = u := by
  rw [star_toStr] at hs
  have hpe : p.isEmpty = false := by cases p <;> simp_all
  have hst : (p == [42]) = false := by simpa using hs
  simp only [matchNamespace, hpe, star_toStr, hst, Bool.false_eq_true, if_false]
  cases c.nsGet p with
  | none => simp
  | some u =>
    simp only [beq_iff_eq, uri]
    constructor
    · intro h; exact ⟨u, rfl, h⟩
    · rintro ⟨u', hu, h⟩; cases hu; exact h

/-- An unmapped prefix matches nothing. -/
theorem ns_unmapped (c : Ctx) (e : Elem) (n p : Str) (hp : p ≠ []) (hs : p ≠ "*".toStr)
    (hm : c.nsGet p = none) : matchNamespace c e ⟨n, some p⟩ = false := by
  cases h : matchNamespace c e ⟨n, some p⟩
  · rfl
  · obtain ⟨u, hu, _⟩ := (ns_prefix c e n p hp hs).mp h
    rw [hm] at hu; cases hu

/-- `*|E` ignores the namespace (also when the caller mapped a prefix `*`). -/
theorem ns_any (c : Ctx) (e : Elem) (n : Str) : matchNamespace c e ⟨n, some "*".toStr⟩ = true := by
  simp [matchNamespace]

/-- `|E` matches only elements without a namespace. -/
theorem ns_none (c : Ctx) (e : Elem) (n : Str) :
    matchNamespace c e ⟨n, some []⟩ = true ↔ uri c e = [] := by
  simp [matchNamespace, uri]

/-- A bare `E` matches any namespace unless the map has a default (`''`) entry, in which case
    the element must be in that namespace. -/
theorem ns_default (c : Ctx) (e : Elem) (n : Str) :
    matchNamespace c e ⟨n, none⟩ = true ↔ (c.nsGet [] = none ∨ c.nsGet [] = some (uri c e)) := by
  simp only [matchNamespace]
  cases c.nsGet [] with
  | none => simp
  | some d =>
    simp only [beq_iff_eq, uri]
    constructor
    · intro h; right; rw [h]
    · rintro (h | h)
      · cases h
      · injection h with h; exact h.symm

/-- `match_tag`: no tag is no constraint; otherwise namespace test and name test. -/
theorem tag_none (c : Ctx) (e : Elem) : matchTag c e none = true := matchTag_none c e

theorem tag_some (c : Ctx) (e : Elem) (t : SelTag) :
    matchTag c e (some t) = (matchNamespace c e t && matchTagname c e t) := rfl

/-- `ns|E` as a whole: named `E` (by the document type's name rule) AND URI equal to the
    mapped one. -/
theorem type_selector_ns (c : Ctx) (e : Elem) (n p : Str) (hp : p ≠ []) (hs : p ≠ "*".toStr) :
    matchTag c e (some ⟨n, some p⟩) = true ↔
      (∃ u, c.nsGet p = some u ∧ uri c e = u) ∧ matchTagname c e ⟨n, some p⟩ = true := by
  rw [tag_some, Bool.and_eq_true, ns_prefix c e n p hp hs]

/-- The name test does not look at the selector's prefix. -/
theorem tagname_ignores_prefix (c : Ctx) (e : Elem) (n : Str) (p q : Option Str) :
    matchTagname c e ⟨n, p⟩ = matchTagname c e ⟨n, q⟩ := rfl

/-- The element's own prefix is never consulted by the type selector test. -/
theorem doc_prefix_irrelevant (c : Ctx) (e : Elem) (t : Option SelTag) (q : Option Str) :
    matchTag c e t = matchTag c { e with pfx := q } t := by
  cases t <;> rfl

/-- Neither is it by the attribute test. -/
theorem doc_prefix_irrelevant_attr (c : Ctx) (e : Elem) (a p : Str) (q : Option Str) :
    matchAttributeName c e a p = matchAttributeName c { e with pfx := q } a p := rfl

/-- What a prefixed attribute selector may read of an attribute: namespace URI, local name, value. -/
def SameNsNameVal (x y : Attr) : Prop := x.kns = y.kns ∧ x.kname = y.kname ∧ x.val = y.val

/-- The relation the property speaks of: additionally the key agrees on attributes that have no
    namespace. -/
def SameUpToPrefixText (x y : Attr) : Prop :=
  x.kns = y.kns ∧ x.kname = y.kname ∧ x.val = y.val ∧ (x.kns = none → x.key = y.key)

theorem inNs_iff (c : Ctx) (a u : Str) (x : Attr) :
    inNs c a u x = true ↔ x.kns = some u ∧ ∃ nm, x.kname = some nm ∧ NameEq c a nm := by
  simp [inNs, localNameEq_iff, nameEq_true_iff]

/-- `[ns|a]`, equational form: the first attribute in namespace `u` with local name `a`
    (`u ≠ []`; a prefix mapped to the empty string is `attr_ns_empty`). -/
theorem attr_ns_eq (c : Ctx) (e : Elem) (a p u : Str) (h : c.supportsNamespaces = true)
    (hp : p ≠ []) (hs : p ≠ "*".toStr) (hm : c.nsGet p = some u) (hu : u ≠ []) :
    matchAttributeName c e a p = (e.attrs.find? (inNs c a u)).map (fun x => normalizeValue x.val) :=
  man_ns h e a p u hp hs hm hu

/-- `[ns|a]` matches attribute `a` in the mapped namespace. -/
theorem attr_ns (c : Ctx) (e : Elem) (a p u : Str) (v : NVal) (h : c.supportsNamespaces = true)
    (hp : p ≠ []) (hs : p ≠ "*".toStr) (hm : c.nsGet p = some u) (hu : u ≠ []) :
    matchAttributeName c e a p = some v ↔
      ∃ x, e.attrs.find? (inNs c a u) = some x ∧ normalizeValue x.val = v := by
  rw [attr_ns_eq c e a p u h hp hs hm hu, Option.map_eq_some_iff]

/-- (fix 3a64a82)  A prefix mapped to the EMPTY string designates attributes without a
    namespace the way `[a]` / `[|a]` do: `[p|a]` IS the whole-key form — the first attribute whose
    full key text is `a` (as `p|E` with `p ↦ ''` is `|E`, `ns_prefix` with `u = []` / `ns_none`). -/
theorem attr_ns_empty (c : Ctx) (e : Elem) (a p : Str) (h : c.supportsNamespaces = true)
    (hp : p ≠ []) (hs : p ≠ "*".toStr) (hm : c.nsGet p = some []) :
    matchAttributeName c e a p =
      (e.attrs.find? (fun x => nameEq c a x.key)).map (fun x => normalizeValue x.val) :=
  man_ns_empty h e a p hp hs hm

/-- … hence `[p|a]` ≡ `[a]` ≡ `[|a]` (the two latter reach the matcher with the empty prefix). -/
theorem attr_ns_empty_eq_bare (c : Ctx) (e : Elem) (a p : Str)
    (hp : p ≠ []) (hs : p ≠ "*".toStr) (hm : c.nsGet p = some []) :
    matchAttributeName c e a p = matchAttributeName c e a [] := by
  cases h : c.supportsNamespaces
  · rw [man_no_ns h, man_no_ns h]
  · rw [man_ns_empty h e a p hp hs hm, man_bare h]

/-- An unmapped prefix matches nothing. -/
theorem attr_ns_unmapped (c : Ctx) (e : Elem) (a p : Str) (h : c.supportsNamespaces = true)
    (hp : p ≠ []) (hs : p ≠ "*".toStr) (hm : c.nsGet p = none) :
    matchAttributeName c e a p = none :=
  man_unmapped h e a p hp hs hm

theorem inAnyNs_iff (c : Ctx) (a : Str) (x : Attr) :
    inAnyNs c a x = true ↔
      (x.kns = none ∧ NameEq c a x.key) ∨
      (x.kns.isSome = true ∧ ∃ nm, x.kname = some nm ∧ NameEq c a nm) := by
  simp [inAnyNs, localNameEq_iff, nameEq_true_iff]

end C12

namespace C12Parse

section
open C12 (NameEq)
variable (c : Ctx) (p a : Str) (x : Attr)

theorem designates_no_ns (h : c.supportsNamespaces = false) :
    designates c p a x = true ↔ lower a = lower x.key := by
  simp only [designates, h, if_true, beq_iff_eq]

theorem designates_bare (h : c.supportsNamespaces = true) :
    designates c [] a x = true ↔ NameEq c a x.key := by
  simp only [designates, h, if_true, if_false, reduceCtorEq, C12.nameEq_true_iff]

theorem designates_any (h : c.supportsNamespaces = true) :
    designates c "*".toStr a x = true ↔
      (x.kns = none ∧ NameEq c a x.key) ∨ (x.kns.isSome = true ∧ ∃ nm, x.kname = some nm ∧ NameEq c a nm) := by
  simp only [designates, h, Names.star_ne_nil, if_true, if_false, reduceCtorEq, C12.inAnyNs_iff]

theorem designates_unmapped (h : c.supportsNamespaces = true) (hp : p ≠ []) (hs : p ≠ "*".toStr)
    (hm : c.nsGet p = none) : designates c p a x = true ↔ False := by
  simp only [designates, h, hp, hs, hm, if_false, reduceCtorEq]

theorem designates_ns_empty (h : c.supportsNamespaces = true) (hp : p ≠ []) (hs : p ≠ "*".toStr)
    (hm : c.nsGet p = some []) : designates c p a x = true ↔ NameEq c a x.key := by
  simp only [designates, h, hp, hs, hm, if_true, if_false, reduceCtorEq, C12.nameEq_true_iff]

theorem designates_ns (u : Str) (h : c.supportsNamespaces = true) (hp : p ≠ []) (hs : p ≠ "*".toStr)
    (hm : c.nsGet p = some u) (hu : u ≠ []) :
    designates c p a x = true ↔ x.kns = some u ∧ ∃ nm, x.kname = some nm ∧ NameEq c a nm := by
  simp only [designates, h, hp, hs, hm, hu, if_false, reduceCtorEq, C12.inNs_iff]
end

end C12Parse

namespace C12
open Names

/-- `[*|a]` matches attribute `a` in any namespace or none — whatever the prefix map says about
    the prefix `*` (the code special-cases `*`). -/
theorem attr_any_ignores_star_mapping (c : Ctx) (e : Elem) (a : Str)
    (h : c.supportsNamespaces = true) :
    matchAttributeName c e a "*".toStr =
      (e.attrs.find? (inAnyNs c a)).map (fun x => normalizeValue x.val) :=
  man_star h e a

/-- The same when `*` is not mapped; the hypothesis is not used (`attr_any_ignores_star_mapping`). -/
theorem attr_any (c : Ctx) (e : Elem) (a : Str) (h : c.supportsNamespaces = true)
    (_hm : c.nsGet "*".toStr = none) :
    matchAttributeName c e a "*".toStr =
      (e.attrs.find? (inAnyNs c a)).map (fun x => normalizeValue x.val) :=
  attr_any_ignores_star_mapping c e a h

/-- Changing the prefix map never changes `[*|a]`. -/
theorem attr_any_map_independent (c : Ctx) (e : Elem) (a : Str) (m : List (Str × Str))
    (h : c.supportsNamespaces = true) :
    matchAttributeName { c with namespaces := m } e a "*".toStr = matchAttributeName c e a "*".toStr := by
  have h1 := attr_any_ignores_star_mapping { c with namespaces := m } e a h
  rw [h1, attr_any_ignores_star_mapping c e a h]
  rfl

/-- `[a]` and `[|a]` (both reach the matcher with the empty prefix): the attribute whose FULL key
    text equals `a` — namespaced or not. -/
theorem attr_bare (c : Ctx) (e : Elem) (a : Str) (h : c.supportsNamespaces = true) :
    matchAttributeName c e a [] =
      (e.attrs.find? (fun x => nameEq c a x.key)).map (fun x => normalizeValue x.val) :=
  man_bare h e a

/-- HTML without namespaces: the prefix is ignored (documented behaviour). -/
theorem attr_no_ns_support (c : Ctx) (e : Elem) (a p : Str) (h : c.supportsNamespaces = false) :
    matchAttributeName c e a p =
      (e.attrs.find? (fun x => lower a == lower x.key)).map (fun x => normalizeValue x.val) :=
  man_no_ns h e a p

/-- Consequently, without namespace support the prefix of the selector is irrelevant. -/
theorem attr_no_ns_support_prefix_irrelevant (c : Ctx) (e : Elem) (a p q : Str)
    (h : c.supportsNamespaces = false) :
    matchAttributeName c e a p = matchAttributeName c e a q := by
  rw [attr_no_ns_support c e a p h, attr_no_ns_support c e a q h]

/-! ### Every designated attribute (`match_attribute_name` is a generator)

  `match_attribute_name` yields the value of EVERY attribute the name test designates and `match_attributes` accepts when SOME yielded value passes the value
  test.  Each branch is ONE `List.filter` with the same predicate as above; the theorems above are
  the heads (`matchAttributeName_eq_head?`). -/

/-- `matchAttributeName` is the first yielded value. -/
theorem attr_first_of_values (c : Ctx) (e : Elem) (a p : Str) :
    matchAttributeName c e a p = (matchAttributeValues c e a p).head? :=
  matchAttributeName_eq_head? c e a p

theorem doc_prefix_irrelevant_attr_values (c : Ctx) (e : Elem) (a p : Str) (q : Option Str) :
    matchAttributeValues c e a p = matchAttributeValues c { e with pfx := q } a p := rfl

/-- `[ns|a]`, `ns ↦ u`: ALL the attributes in namespace `u` with local name `a`, document order. -/
theorem attr_ns_values (c : Ctx) (e : Elem) (a p u : Str) (h : c.supportsNamespaces = true)
    (hp : p ≠ []) (hs : p ≠ "*".toStr) (hm : c.nsGet p = some u) (hu : u ≠ []) :
    matchAttributeValues c e a p =
      (e.attrs.filter (inNs c a u)).map (fun x => normalizeValue x.val) :=
  mav_ns h e a p u hp hs hm hu

/-- (fix 3a64a82)  `[p|a]`, `p ↦ ''`: the attributes whose FULL key text equals `a`, exactly
    what `[a]` / `[|a]` designate (`attr_bare_values`). -/
theorem attr_ns_empty_values (c : Ctx) (e : Elem) (a p : Str) (h : c.supportsNamespaces = true)
    (hp : p ≠ []) (hs : p ≠ "*".toStr) (hm : c.nsGet p = some []) :
    matchAttributeValues c e a p =
      (e.attrs.filter (fun x => nameEq c a x.key)).map (fun x => normalizeValue x.val) :=
  mav_ns_empty h e a p hp hs hm

theorem attr_ns_empty_values_eq_bare (c : Ctx) (e : Elem) (a p : Str)
    (hp : p ≠ []) (hs : p ≠ "*".toStr) (hm : c.nsGet p = some []) :
    matchAttributeValues c e a p = matchAttributeValues c e a [] := by
  cases h : c.supportsNamespaces
  · rw [mav_no_ns h, mav_no_ns h]
  · rw [mav_ns_empty h e a p hp hs hm, mav_bare h]

/-- An unmapped prefix designates nothing. -/
theorem attr_ns_unmapped_values (c : Ctx) (e : Elem) (a p : Str) (h : c.supportsNamespaces = true)
    (hp : p ≠ []) (hs : p ≠ "*".toStr) (hm : c.nsGet p = none) :
    matchAttributeValues c e a p = [] :=
  mav_unmapped h e a p hp hs hm

/-- `[*|a]` designates ALL the attributes with local name `a` in any namespace, and the attribute
    `a` in no namespace — whatever the prefix map says about `*`. -/
theorem attr_any_values (c : Ctx) (e : Elem) (a : Str) (h : c.supportsNamespaces = true) :
    matchAttributeValues c e a "*".toStr =
      (e.attrs.filter (inAnyNs c a)).map (fun x => normalizeValue x.val) :=
  mav_star h e a

/-- Changing the prefix map never changes `[*|a]`. -/
theorem attr_any_values_map_independent (c : Ctx) (e : Elem) (a : Str) (m : List (Str × Str))
    (h : c.supportsNamespaces = true) :
    matchAttributeValues { c with namespaces := m } e a "*".toStr =
      matchAttributeValues c e a "*".toStr := by
  have h1 := attr_any_values { c with namespaces := m } e a h
  rw [h1, attr_any_values c e a h]
  rfl

/-- `[a]` and `[|a]`: the attributes whose FULL key text equals `a` (one, when keys are distinct). -/
theorem attr_bare_values (c : Ctx) (e : Elem) (a : Str) (h : c.supportsNamespaces = true) :
    matchAttributeValues c e a [] =
      (e.attrs.filter (fun x => nameEq c a x.key)).map (fun x => normalizeValue x.val) :=
  mav_bare h e a

/-- HTML without namespaces: the prefix is ignored, the whole key is compared case-insensitively. -/
theorem attr_no_ns_support_values (c : Ctx) (e : Elem) (a p : Str)
    (h : c.supportsNamespaces = false) :
    matchAttributeValues c e a p =
      (e.attrs.filter (fun x => lower a == lower x.key)).map (fun x => normalizeValue x.val) :=
  mav_no_ns h e a p

theorem attr_no_ns_support_prefix_irrelevant_values (c : Ctx) (e : Elem) (a p q : Str)
    (h : c.supportsNamespaces = false) :
    matchAttributeValues c e a p = matchAttributeValues c e a q := by
  rw [attr_no_ns_support_values c e a p h, attr_no_ns_support_values c e a q h]

/-- `[ns|a]` with a non-empty, non-`*` prefix mapped to a NON-EMPTY URI, in a document with
    namespace support: the designated values depend on the attributes only through (`kns`, `kname`, `val`);
    the key text (which carries the document's prefix) is not read at all.  (`u ≠ []` is needed:
    a prefix mapped to `''` compares the whole key (fix 3a64a82), see `attr_ns_empty` and
    `key_text_matters_for_empty_uri`.) -/
theorem attr_prefix_text_irrelevant_values (c : Ctx) (e : Elem) (as bs : List Attr) (a p u : Str)
    (h : c.supportsNamespaces = true) (hp : p ≠ []) (hs : p ≠ "*".toStr) (hm : c.nsGet p = some u)
    (hu : u ≠ [])
    (hrel : Pairwise₂ SameNsNameVal as bs) :
    matchAttributeValues c { e with attrs := as } a p =
      matchAttributeValues c { e with attrs := bs } a p := by
  rw [mav_ns h _ a p u hp hs hm hu, mav_ns h _ a p u hp hs hm hu]
  refine filter_map_pairwise₂ ?_ ?_ hrel
  · rintro x y ⟨h1, h2, _⟩; simp [localNameEq, h1, h2]
  · rintro x y ⟨_, _, h3⟩; simp [valOf, h3]

/-- Every prefixed form (`[ns|a]` mapped to a non-empty URI or unmapped, `[*|a]`), with namespace
    support: the key text is read only on attributes that have no namespace.  (A prefix mapped to `''` is
    the whole-key form `[a]` (fix 3a64a82), which reads the key of every attribute: hence `hne`; `key_text_matters_for_empty_uri` shows it cannot be dropped.) -/
theorem attr_prefix_text_irrelevant_gen_values (c : Ctx) (e : Elem) (as bs : List Attr) (a p : Str)
    (h : c.supportsNamespaces = true) (hp : p ≠ []) (hne : c.nsGet p ≠ some [])
    (hrel : Pairwise₂ SameUpToPrefixText as bs) :
    matchAttributeValues c { e with attrs := as } a p =
      matchAttributeValues c { e with attrs := bs } a p := by
  rw [mav_eq, mav_eq]
  refine filter_map_pairwise₂ ?_ (fun x y h => by simp [valOf, h.2.2.1]) hrel
  rintro x y ⟨h1, h2, _, h4⟩
  have hl : localNameEq c a x = localNameEq c a y := by simp [localNameEq, h2]
  exact desig_congr_prefixed h hp hne h1 hl (fun hn => by rw [h4 hn])

/-- … and so does the first of them. -/
theorem attr_prefix_text_irrelevant (c : Ctx) (e : Elem) (as bs : List Attr) (a p u : Str)
    (h : c.supportsNamespaces = true) (hp : p ≠ []) (hs : p ≠ "*".toStr) (hm : c.nsGet p = some u)
    (hu : u ≠ [])
    (hrel : Pairwise₂ SameNsNameVal as bs) :
    matchAttributeName c { e with attrs := as } a p = matchAttributeName c { e with attrs := bs } a p := by
  rw [matchAttributeName_eq_head?, matchAttributeName_eq_head?,
    attr_prefix_text_irrelevant_values c e as bs a p u h hp hs hm hu hrel]

/-- … and so is the first of them. -/
theorem attr_prefix_text_irrelevant_gen (c : Ctx) (e : Elem) (as bs : List Attr) (a p : Str)
    (h : c.supportsNamespaces = true) (hp : p ≠ []) (hne : c.nsGet p ≠ some [])
    (hrel : Pairwise₂ SameUpToPrefixText as bs) :
    matchAttributeName c { e with attrs := as } a p = matchAttributeName c { e with attrs := bs } a p := by
  rw [matchAttributeName_eq_head?, matchAttributeName_eq_head?,
    attr_prefix_text_irrelevant_gen_values c e as bs a p h hp hne hrel]

/-- The pattern `match_attributes` uses for one attribute selector. -/
def patternOf (c : Ctx) (s : AttrSel) : Option Rx :=
  if c.isXml && s.xmlTypePattern.isSome then s.xmlTypePattern else s.pattern

/-- The value test of `match_attributes` on one value. -/
def passes (c : Ctx) (s : AttrSel) (v : NVal) : Bool :=
  match patternOf c s with
  | none => true
  | some r => Rx.isMatch c.env r (nvalJoin v)

/-- One attribute selector: some designated attribute passes the value test. -/
theorem attr_value_test (c : Ctx) (e : Elem) (s : AttrSel) :
    matchAttributes c e [s] = (matchAttributeValues c e s.attrName s.pfx).any (passes c s) :=
  C11.xml_type_pattern_choice c e s

/-- `[*|a op v]` holds iff SOME attribute with local name `a` in any namespace, or named `a` in no
    namespace, has a value that satisfies the test (`[*|a]`, no pattern: iff there is one). -/
theorem attr_any_value_test (c : Ctx) (e : Elem) (a : Str) (pat xt : Option Rx)
    (h : c.supportsNamespaces = true) :
    matchAttributes c e [⟨a, "*".toStr, pat, xt⟩] = true ↔
      ∃ x ∈ e.attrs, inAnyNs c a x = true ∧
        passes c ⟨a, "*".toStr, pat, xt⟩ (normalizeValue x.val) = true := by
  rw [attr_value_test, attr_any_values c e a h]
  simp only [List.any_map, List.any_filter, List.any_eq_true, Bool.and_eq_true, Function.comp]

/-- `[ns|a op v]`, `ns ↦ u`: likewise over the attributes in namespace `u`. -/
theorem attr_ns_value_test (c : Ctx) (e : Elem) (a p u : Str) (pat xt : Option Rx)
    (h : c.supportsNamespaces = true) (hp : p ≠ []) (hs : p ≠ "*".toStr) (hm : c.nsGet p = some u)
    (hu : u ≠ []) :
    matchAttributes c e [⟨a, p, pat, xt⟩] = true ↔
      ∃ x ∈ e.attrs, inNs c a u x = true ∧ passes c ⟨a, p, pat, xt⟩ (normalizeValue x.val) = true := by
  rw [attr_value_test, attr_ns_values c e a p u h hp hs hm hu]
  simp only [List.any_map, List.any_filter, List.any_eq_true, Bool.and_eq_true, Function.comp]

/-- (fix 3a64a82)  `[p|a op v]`, `p ↦ ''`: some attribute whose full key text is `a` has a
    value that passes — the test of `[a op v]`. -/
theorem attr_ns_empty_value_test (c : Ctx) (e : Elem) (a p : Str) (pat xt : Option Rx)
    (h : c.supportsNamespaces = true) (hp : p ≠ []) (hs : p ≠ "*".toStr) (hm : c.nsGet p = some []) :
    matchAttributes c e [⟨a, p, pat, xt⟩] = true ↔
      ∃ x ∈ e.attrs, nameEq c a x.key = true ∧ passes c ⟨a, p, pat, xt⟩ (normalizeValue x.val) = true := by
  rw [attr_value_test, attr_ns_empty_values c e a p h hp hs hm]
  simp only [List.any_map, List.any_filter, List.any_eq_true, Bool.and_eq_true, Function.comp]

/-- … and it is literally the bare selector's verdict: `[p|a op v]` ≡ `[a op v]` ≡ `[|a op v]`. -/
theorem attr_ns_empty_matchAttributes_eq_bare (c : Ctx) (e : Elem) (a p : Str) (pat xt : Option Rx)
    (hp : p ≠ []) (hs : p ≠ "*".toStr) (hm : c.nsGet p = some []) :
    matchAttributes c e [⟨a, p, pat, xt⟩] = matchAttributes c e [⟨a, [], pat, xt⟩] := by
  rw [attr_value_test, attr_value_test]
  show (matchAttributeValues c e a p).any _ = (matchAttributeValues c e a []).any _
  rw [attr_ns_empty_values_eq_bare c e a p hp hs hm]
  rfl

/-- The specification side (`Css.satAttr`, value tests of `Spec/CssValue.lean`): `[*|a op v flag]`
    for every operator but `!=` … -/
theorem attr_any_value_test_spec (c : Ctx) (e : Elem) (a : Str) (t : Css.AttrTest)
    (h : c.supportsNamespaces = true) (hop : (t.op == Css.AttrOp.ne) = false) :
    Css.satAttr c e "*".toStr a (some t) = true ↔
      ∃ x ∈ e.attrs, inAnyNs c a x = true ∧
        Css.valTest t.op t.value (Css.caseInsensitive c a t.flag)
          (nvalJoin (normalizeValue x.val)) = true := by
  unfold Css.satAttr
  simp only [hop, Bool.false_eq_true, if_false, attr_any_values c e a h, List.any_map,
    List.any_filter, List.any_eq_true, Bool.and_eq_true, Function.comp]

/-- … and `[*|a!=v]` is `:not([*|a=v])`: NO such attribute has the value `v`. -/
theorem attr_any_ne_spec (c : Ctx) (e : Elem) (a : Str) (t : Css.AttrTest)
    (h : c.supportsNamespaces = true) (hop : (t.op == Css.AttrOp.ne) = true) :
    Css.satAttr c e "*".toStr a (some t) = true ↔
      ¬ ∃ x ∈ e.attrs, inAnyNs c a x = true ∧
        Css.valTest t.op t.value (Css.caseInsensitive c a t.flag)
          (nvalJoin (normalizeValue x.val)) = true := by
  unfold Css.satAttr
  simp only [hop, if_true, attr_any_values c e a h, List.any_map, List.any_filter,
    Bool.not_eq_true', ← Bool.not_eq_true, List.any_eq_true, Bool.and_eq_true, Function.comp]

/-- `[*|a]`: there is such an attribute. -/
theorem attr_any_presence_spec (c : Ctx) (e : Elem) (a : Str) (h : c.supportsNamespaces = true) :
    Css.satAttr c e "*".toStr a none = true ↔ ∃ x ∈ e.attrs, inAnyNs c a x = true := by
  unfold Css.satAttr
  simp only [attr_any_values c e a h, List.any_map, List.any_filter, List.any_eq_true,
    Bool.and_eq_true, Function.comp, and_true]

def u1 : Str := "u1".toStr
def u2 : Str := "u2".toStr

/-- An XML document context with prefix map `{svg: u1, '*': u2}`. -/
def cxml : Ctx :=
  { env := asciiEnv, bidi := fun _ => 0, wildStrip := id, isXml := true, hasHtmlNs := false,
    isHtml := false, root := none, scope := none,
    namespaces := [("svg".toStr, u1), ("*".toStr, u2)], iframeRestrict := false }

/-- The same with a default namespace. -/
def cxmlDefault : Ctx := { cxml with namespaces := [([], u1)] }

/-- An HTML document without namespace support (html.parser / lxml). -/
def chtml : Ctx := { cxml with isXml := false }

def circle (pfx : Option Str) (ns : Option Str) (attrs : List Attr) : Elem :=
  { isDoc := false, name := "circle".toStr, pfx := pfx, ns := ns, attrs := attrs }

def xhref (keyText : String) (ns : Str) : Attr :=
  { key := keyText.toStr, kns := some ns, kname := some "href".toStr, val := .str "v".toStr }
def plainHref : Attr := { key := "href".toStr, kns := none, kname := none, val := .str "w".toStr }

-- `svg|circle`: the document's prefix (`s`) differs from the selector's (`svg`); only URIs count.
example : matchTag cxml (circle (some "s".toStr) (some u1) []) (some ⟨"circle".toStr, some "svg".toStr⟩) = true := by decide_lit
example : matchTag cxml (circle (some "svg".toStr) (some u2) []) (some ⟨"circle".toStr, some "svg".toStr⟩) = false := by decide_lit
-- unmapped prefix
example : matchTag cxml (circle none (some u1) []) (some ⟨"circle".toStr, some "nope".toStr⟩) = false := by decide_lit
-- `|circle`
example : matchTag cxml (circle none none []) (some ⟨"circle".toStr, some []⟩) = true := by decide_lit
example : matchTag cxml (circle none (some u1) []) (some ⟨"circle".toStr, some []⟩) = false := by decide_lit
-- bare `circle` with and without a default namespace
example : matchTag cxml (circle none (some u2) []) (some ⟨"circle".toStr, none⟩) = true := by decide_lit
example : matchTag cxmlDefault (circle none (some u2) []) (some ⟨"circle".toStr, none⟩) = false := by decide_lit
example : matchTag cxmlDefault (circle none (some u1) []) (some ⟨"circle".toStr, none⟩) = true := by decide_lit
-- `[svg|href]`: document prefix text `x:` is irrelevant, the URI decides
example : matchAttributeName cxml (circle none none [plainHref, xhref "x:href" u1]) "href".toStr "svg".toStr
    = some (.str "v".toStr) := by decide_lit
example : matchAttributeName cxml (circle none none [plainHref, xhref "svg:href" u2]) "href".toStr "svg".toStr
    = none := by decide_lit
-- `[*|href]`: first attribute named href in any namespace or none; `*` being mapped (to `u2`)
-- does not restrict it to `u2`
example : matchAttributeName cxml (circle none none [xhref "x:href" u1, plainHref]) "href".toStr "*".toStr
    = some (.str "v".toStr) := by decide_lit
example : matchAttributeName cxml (circle none none [plainHref]) "href".toStr "*".toStr
    = some (.str "w".toStr) := by decide_lit
-- `[*|href="v"]` / `[*|href="w"]`: BOTH attributes are designated
example : matchAttributeValues cxml (circle none none [xhref "x:href" u1, plainHref]) "href".toStr "*".toStr
    = [.str "v".toStr, .str "w".toStr] := by decide_lit
example : matchAttributes cxml (circle none none [xhref "x:href" u1, plainHref])
    [⟨"href".toStr, "*".toStr, some (.seq [.lit 119 false, .eos]), none⟩] = true := by decide_lit
example : matchAttributes cxml (circle none none [xhref "x:href" u1, plainHref])
    [⟨"href".toStr, "*".toStr, some (.seq [.lit 118 false, .eos]), none⟩] = true := by decide_lit
example : matchAttributes cxml (circle none none [xhref "x:href" u1, plainHref])
    [⟨"href".toStr, "*".toStr, some (.seq [.lit 122 false, .eos]), none⟩] = false := by decide_lit
-- `[href]` compares the whole key: it does not see `x:href`, `[x\:href]` does
example : matchAttributeName cxml (circle none none [xhref "x:href" u1]) "href".toStr [] = none := by decide_lit
example : matchAttributeName cxml (circle none none [xhref "x:href" u1]) "x:href".toStr []
    = some (.str "v".toStr) := by decide_lit

/-- An XML document context whose prefix map sends `n` to the EMPTY string (and `svg` to `u1`). -/
def cxmlEmpty : Ctx := { cxml with namespaces := [("n".toStr, []), ("svg".toStr, u1)] }

-- `[n|href]`, `n ↦ ''` (fix 3a64a82): the attribute `href` without a namespace, as `[href]`
example : matchAttributeName cxmlEmpty (circle none none [xhref "x:href" u1, plainHref]) "href".toStr "n".toStr
    = some (.str "w".toStr) := by decide_lit
example : matchAttributeName cxmlEmpty (circle none none [xhref "x:href" u1]) "href".toStr "n".toStr
    = none := by decide_lit
-- `n|circle` with the same map: the element without a namespace
example : matchTag cxmlEmpty (circle none none []) (some ⟨"circle".toStr, some "n".toStr⟩) = true := by decide_lit
example : matchTag cxmlEmpty (circle none (some u1) []) (some ⟨"circle".toStr, some "n".toStr⟩) = false := by decide_lit

/-- The hypothesis `u ≠ []` / `nsGet p ≠ some []` of `attr_prefix_text_irrelevant(_gen)` is needed:
    with `n ↦ ''` the selector `[n|x\:href]` is the whole-key form and reads the key text of a
    namespaced attribute. -/
theorem key_text_matters_for_empty_uri :
    cxmlEmpty.supportsNamespaces = true ∧ cxmlEmpty.nsGet "n".toStr = some [] ∧
    SameUpToPrefixText (xhref "x:href" u1) (xhref "y:href" u1) ∧
    matchAttributeName cxmlEmpty (circle none none [xhref "x:href" u1]) "x:href".toStr "n".toStr
      ≠ matchAttributeName cxmlEmpty (circle none none [xhref "y:href" u1]) "x:href".toStr "n".toStr := by
  refine ⟨by decide_lit, by decide_lit, ⟨rfl, rfl, rfl, by decide_lit⟩, by decide_lit⟩

/-- The hypothesis `supportsNamespaces = true` of `attr_prefix_text_irrelevant` is needed: without
    namespace support the whole key text is compared, for every prefix. -/
theorem key_text_matters_without_ns_support :
    SameUpToPrefixText (xhref "x:href" u1) (xhref "y:href" u1) ∧
    matchAttributeName chtml (circle none none [xhref "x:href" u1]) "x:href".toStr "svg".toStr
      ≠ matchAttributeName chtml (circle none none [xhref "y:href" u1]) "x:href".toStr "svg".toStr := by
  refine ⟨⟨rfl, rfl, rfl, by decide_lit⟩, by decide_lit⟩

end C12
end SoupVerif
