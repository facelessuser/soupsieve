/-
  C01, `:has()`: the forward reading used by the specification (`Css.satRel`, `Spec/Css.lean`:
  follow the combinators from the anchor) equals the declarative reading of Selectors-4
  (`Css.satRelDeclarative`, `Spec/CssHas.lean`: SOME element of the document matches
  `:scope k X`), on every element that is not the document object, in a tree whose only document
  object is the top (`DocOnlyTop`, defined with the lemmas in `Lemmas/SatHas.lean`).
-/
import SoupVerif.Lemmas.SatHas
namespace SoupVerif
namespace C01Has

theorem has_forward_eq_declarative (c : Ctx) (l : Loc) (hel : Css.isElem l = true)
    (hdoc : l.isDoc = false) (hT : DocOnlyTop l.top) (r : Css.RelSel) :
    Css.satRel c l r = Css.satRelDeclarative c l r := by
  cases r with
  | mk k x => exact Bool.eq_iff_iff.mpr <|
      SatHas.satRel_iff_declarative c l hel hdoc hT k x

end C01Has
end SoupVerif
