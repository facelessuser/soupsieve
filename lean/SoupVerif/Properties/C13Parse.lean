/-
  C13, tied to the PARSER by proof: `:lang(r1, …, rk)` from the selector TEXT.

  The route of `lang_text`: `C05Parse.ListText.compound_verdict` (`Refine/TextVerdict.lean`: parser and matcher on the
  text of one compound, in any spelling — the type selector passes and every item alone holds),
  `C09Compile2.Item.holds_lang` (the item `:lang(v1, …)` alone is `matchLang` on ONE `SelectorLang` record with the
  values in source order), `matchLang_one` (`Lemmas/MatchAlgebra.lean`; `matchLang` on one record: the language `langOf` determines — nearest
  `lang` / `xml:lang`, `<meta http-equiv="content-language">` fallback — passes SOME range) and
  `C13Rx.extendedFilter_rx_eq_c13` per (range, tag) pair.  `denote_lang` (with `freeze_lang`, `langSel`) states the IR
  the parser builds for `tag? :lang(v1, …)` through `denote`.

  Hypotheses of `lang_text`: the side conditions of `C09Compile2` (`….ok g₂`, gaps, no NUL),
  `c.wildStrip = wildStripRx`, and `hne` — the hypothesis of `C13Rx.extendedFilter_rx_eq_c13`, for every range
  value: no empty subtag after the first (`de--DE`: there the model's loop fails where the bare algorithm would
  match an empty subtag, see `C13.filterLoop_empty_subtag`).  The type selector part is `C12Parse.TagCond`
  (without a type selector: the implied `*`, i.e. the default namespace).
-/
import SoupVerif.Refine.TextVerdict
import SoupVerif.Properties.C13Rx
namespace SoupVerif
namespace C13Parse
open SoupVerif.Parser Refine.Compile Spelling LangLemmas
open C09Compile2 (STagN SItem SCompound itemsOK renderItems itemsValue applyItems Item)
open C01Parse (mkB implB implTag)
open Css (emptyList)
open NsParse C12Parse

/-- The selector a compound `tag? :lang(…)` freezes to. -/
def langSel (tag : Option SelTag) (vs : List Str) : Sel :=
  .mk tag [] [] [] [] [] emptyList .none [] [⟨vs⟩] 0

open C09Compile2 (Compound) in
theorem freeze_lang (B : Builtins) (tagv : Option SelTag) (vs : List Str) :
    (implB false ((Compound.mk tagv [.lang vs]).buildOn B SelB.empty)).freeze =
      langSel (implTag false tagv) vs := by
  cases tagv <;>
    simp [Compound.buildOn, applyItems, Item.apply, SelB.empty, SelB.setTag, SelB.addLang, implB, SelB.tag,
      implTag, SelB.freeze, SelB.size, SelB.sizeList, SelB.freezeF, langSel, emptyList]

open C09Compile2 (Compound denote) in
/-- `denote` on `tag? :lang(v1, …)`: one selector with the tag (the implied `*` when none is written) and one
    `SelectorLang` record holding the VALUES. -/
theorem denote_lang (B : Builtins) (tagv : Option SelTag) (vs : List Str) :
    denote B (.mk (.mk tagv [.lang vs]) []) = .mk [langSel (implTag false tagv) vs] false false := by
  rw [denote_one B _ (by cases tagv <;> simp [Compound.isEmpty]), freeze_lang]

/-- The element's language passes the range list `vs` under RFC 4647 extended filtering with the two edge rules
    of C13 (`Spec.c13Match` on the lower-cased subtag lists): the language `match_lang` determines exists and
    SOME range matches it. -/
def LangCond (c : Ctx) (l : Loc) (vs : List Str) : Prop :=
  ∃ v, langOf c l = some v ∧
    ∃ r ∈ vs, Spec.c13Match ((splitOn 45 r).map lower) ((splitOn 45 (nvalJoin v)).map lower) = true

/-- **C13 on selector TEXT.**  `:lang(r1, …, rk)` — optionally behind a type selector — in EVERY spelling (ranges
    quoted or bare, any escapes, any gaps and comments, the name in any letter case), for a matcher whose
    wildcard strip is the regex-level one (`wildStripRx`: the engine on `RE_WILD_STRIP`, `RE_WILD_TAIL`
    regenerated from the source): the parser model accepts the text, and the matcher model run on the result
    accepts `e` iff `e` is not the document object, its type passes, and some range `ri` (a VALUE) matches the
    element's language under `Spec.c13Match`.  `hne` is the hypothesis of
    `C13Rx.extendedFilter_rx_eq_c13`, for every range. -/
theorem lang_text (c : Ctx) (hw : c.wildStrip = wildStripRx) (l : Loc) (e : Elem) (kids : List Node)
    (hf : l.focus = .elem e kids) (tag : Option STagN) (f : C09Compile.Forms) (i₁ : Str) (V : SValues) (i₂ : Str)
    (g₁ g₂ : Str) (hg₁ : isGap g₁) (hg₂ : isGap g₂) (hok : (SCompound.mk tag [.lang f i₁ V i₂]).ok g₂)
    (h0 : ∀ y ∈ g₁ ++ (SCompound.mk tag [.lang f i₁ V i₂]).render ++ g₂, y ≠ 0)
    (hne : ∀ r ∈ V.values, ∀ x ∈ (splitOn 45 r).tail, x ≠ []) :
    ∃ b, matchText c (g₁ ++ (SCompound.mk tag [.lang f i₁ V i₂]).render ++ g₂) l = .ok b ∧
      (b = true ↔ e.isDoc = false ∧ TagCond c e (tag.map STagN.value) ∧ LangCond c l V.values) := by
  have h : C05Parse.ListText g₁ (C05Parse.one (.mk tag [.lang f i₁ V i₂])) g₂ :=
    .of_compound hg₁ hg₂ hok (SCompound.isEmpty_cons tag _ []) (by simp [SCompound.tbl, C09Compile2.itemsTbl, SItem.tbl]) h0
  refine h.compound_iff c l e kids hf ?_
  simp only [itemsValue, SItem.value, List.all_cons, List.all_nil, Bool.and_true, C09Compile2.Item.holds_lang]
  rw [matchLang_one, hw]
  exact exists_congr fun v => and_congr_right fun _ =>
    exists_congr fun r => and_congr_right fun hr => by rw [C13Rx.extendedFilter_rx_eq_c13 r _ (hne r hr)]

/-- `SoupSieve.match` on the text, for the driver's environment (`E.wildStrip = wildStripRx`). -/
theorem lang_text_api (E : Env) (hw : E.wildStrip = wildStripRx) (isXml : Bool) (ns : List (Str × Str))
    (l : Loc) (e : Elem) (kids : List Node)
    (hf : l.focus = .elem e kids) (tag : Option STagN) (f : C09Compile.Forms) (i₁ : Str) (V : SValues) (i₂ : Str)
    (g₁ g₂ : Str) (hg₁ : isGap g₁) (hg₂ : isGap g₂) (hok : (SCompound.mk tag [.lang f i₁ V i₂]).ok g₂)
    (h0 : ∀ y ∈ g₁ ++ (SCompound.mk tag [.lang f i₁ V i₂]).render ++ g₂, y ≠ 0)
    (hne : ∀ r ∈ V.values, ∀ x ∈ (splitOn 45 r).tail, x ≠ []) :
    ∃ b, matchTextApi E isXml ns (g₁ ++ (SCompound.mk tag [.lang f i₁ V i₂]).render ++ g₂) l = .ok b ∧
      (b = true ↔ e.isDoc = false ∧ TagCond (mkCtx E isXml ns l) e (tag.map STagN.value) ∧
        LangCond (mkCtx E isXml ns l) l V.values) :=
  lang_text (mkCtx E isXml ns l) hw l e kids hf tag f i₁ V i₂ g₁ g₂ hg₁ hg₂ hok h0 hne

namespace Examples

def E0 : Env := ⟨asciiEnv, fun _ => 0, wildStripRx⟩

def htmlE : Elem := ⟨false, "html".toStr, none, none, [⟨"LANG".toStr, none, none, .str "de-Latn-DE".toStr⟩]⟩
def pE : Elem := ⟨false, "p".toStr, none, none, []⟩

/-- `<html LANG="de-Latn-DE"><p/></html>`, at the `p`. -/
def loc : Loc := ⟨.elem pE [], [⟨[], htmlE, []⟩]⟩
def ctx : Ctx := mkCtx E0 false [] loc

theorem lang_loc : langOf ctx loc = some (.str "de-Latn-DE".toStr) := by decide_lit

def lits (s : String) : C09Compile.Forms := s.toStr.map fun c => (c, EscForm.lit)

/-- `p:LANG( fr , "DE-*-de" )` -/
def langP : SCompound :=
  .mk (some ⟨none, .name (lits "p")⟩)
    [.lang (lits "LANG") [32] ⟨.ident (lits "fr"), [([32], [32], .str 34 ("DE-*-de".toStr.map fun c => .ch c .lit))]⟩ [32]]

/-- `p:lang(\66r)` -/
def langFr : SCompound :=
  .mk (some ⟨none, .name (lits "p")⟩)
    [.lang (lits "lang") [] ⟨.ident [(102, .hex 2 [] none), (114, .lit)], []⟩ []]

theorem langP_ok : langP.ok [] := by
  simp only [langP, SCompound.ok, itemsOK, SItem.ok, STagN.ok, C09Compile.STag.ok, C09Compile.identOK,
    SValues.ok, vrestOK, C09Compile.SValue.ok]
  decide +kernel

theorem langFr_ok : langFr.ok [] := by
  simp only [langFr, SCompound.ok, itemsOK, SItem.ok, STagN.ok, C09Compile.STag.ok, C09Compile.identOK,
    SValues.ok, vrestOK, C09Compile.SValue.ok]
  decide +kernel

/-- For the kernel this is `rfl`; the elaborator's unifier would unfold `wildStripRx` (the regex engine) before
    `ctx`, so the definitions on the left are unfolded by name. -/
theorem ctx_wildStrip : ctx.wildStrip = wildStripRx := by simp only [ctx, mkCtx, E0]

theorem langP_render : [] ++ langP.render ++ [] = "p:LANG( fr , \"DE-*-de\" )".toStr := by decide_lit

theorem langFr_render : [] ++ langFr.render ++ [] = "p:lang(\\66r)".toStr := by decide_lit

/-- The second range `DE-*-de` matches the inherited language `de-Latn-DE`: instance of `lang_text`. -/
example : matchText ctx "p:LANG( fr , \"DE-*-de\" )".toStr loc = .ok true := by
  rw [← langP_render]
  exact ok_true_of (lang_text ctx ctx_wildStrip loc pE [] rfl _ _ _ _ _ [] [] (by decide) (by decide) langP_ok
    (by decide +kernel) (by decide +kernel))
    ⟨rfl, ⟨Or.inl rfl, Or.inr (by unfold C12.NameEq; decide)⟩,
      .str "de-Latn-DE".toStr, lang_loc, "DE-*-de".toStr, by decide, by decide_lit⟩

/-- `p:lang(\66r)` (= `fr`) does not. -/
example : matchText ctx "p:lang(\\66r)".toStr loc = .ok false := by
  rw [← langFr_render]
  exact ok_false_of (lang_text ctx ctx_wildStrip loc pE [] rfl _ _ _ _ _ [] [] (by decide) (by decide) langFr_ok
    (by decide +kernel) (by decide +kernel))
    (by
      rintro ⟨_, _, v, hv, r, hr, h⟩
      rw [lang_loc] at hv
      cases hv
      have : r = [102, 114] := by simpa [langFr, SValues.values, vrestValues, C09Compile.SValue.value, valueOf] using hr
      subst this
      revert h; decide +kernel)

def isOk (x : Except Parser.Err Bool) (b : Bool) : Bool :=
  match x with
  | .ok b' => b == b'
  | .error _ => false

-- the model evaluated directly on the same texts, as a cross-check
#guard isOk (matchText ctx "p:LANG( fr , \"DE-*-de\" )".toStr loc) true
#guard isOk (matchText ctx "p:lang(\\66r)".toStr loc) false
#guard isOk (matchText ctx ":lang('*-de')".toStr loc) true
#guard isOk (matchText ctx ":lang('')".toStr loc) false

end Examples

#print axioms denote_lang
#print axioms lang_text
#print axioms lang_text_api

end C13Parse
end SoupVerif
