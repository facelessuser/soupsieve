/-
  C19, source-translated: `CSSMatch.match_empty` and `CSSMatch.match_contains` as REGENERATED from the text of
  soupsieve/css_match.py by gen/gen_py_textfn.py (`Generated/PyTextFn.lean`) are, for ALL arguments, the hand-written
  matcher model (`matchEmpty`, `matchContains` of Model/Match.lean) the theorems of Properties/C19.lean are about.

  Instantiation of the callees (parameters of the generated definitions):
    `children tags no_iframe`   the model's `Ctx.contents l no_iframe`, filtered to elements when `tags`
                                (`get_children` / `get_contents`);
    `is_tag`, `is_content_string`   `Loc.isTag`, `Node.isContentString` of the focus;
    `search r child`            the regex-engine model on the `Rx` regenerated from the source constant
                                (`RE_NOT_EMPTY`), truthiness of the match object;
    `own`, `texts`              the fields of `ContainsSel`;  `str_in`  `isInfix` (Python `a in b` on `str`);
    `get_text ni`, `get_own_text ni`   `Ctx.text l ni`, `Ctx.ownText l ni`.
  A generated definition with another signature (e.g. `is_html` reaching `match_empty`'s iterable) does not fit
  these statements: the build fails, which the pipeline reports as a violation.
-/
import SoupVerif.Properties.C19Rx
import SoupVerif.Generated.PyTextFn
import SoupVerif.Lemmas.PyLoops
namespace SoupVerif
namespace C19Gen
open PyFlagLoop

/-- The generated loop body: a child that is an element, or a content string in which `RE_NOT_EMPTY.search`
    finds something, lowers the flag and ends the loop; any other node leaves it. -/
theorem gen_emptyStep_eq {α : Type} (is_tag ics : α → Bool) (search : Rx → α → Bool) (s : Bool) (x : α) :
    Gen.PyTextFn.emptyStep is_tag ics search s x =
      if (is_tag x || (ics x && search Gen.cm_RE_NOT_EMPTY x)) then (false, true) else (s, false) := by
  unfold Gen.PyTextFn.emptyStep
  cases is_tag x <;> cases ics x <;> cases search Gen.cm_RE_NOT_EMPTY x <;> simp

/-- `get_children(el, tags, no_iframe)` / `get_contents(el, no_iframe)` on the model. -/
def modelChildren (c : Ctx) (l : Loc) (tags noIframe : Bool) : List Loc :=
  (c.contents l noIframe).filter fun ch => !tags || ch.isTag

/-- `RE_<X>.search(child)` as a truth value, in the engine model. -/
def modelSearch (env : CharEnv) (r : Rx) (ch : Loc) : Bool := (Rx.search env r ch.focus.strVal).isSome

/-- **`match_empty` as translated from the source = the hand model `matchEmpty`**, for every context and location. -/
theorem gen_matchEmpty_eq (env : CharEnv) (c : Ctx) (l : Loc) :
    Gen.PyTextFn.matchEmpty (modelChildren c l) c.isHtml Loc.isTag (fun ch => ch.focus.isContentString) (modelSearch env) =
      matchEmpty l := by
  unfold Gen.PyTextFn.matchEmpty
  simp only
  rw [forBreak_clear _ _ (gen_emptyStep_eq _ _ _)]
  unfold matchEmpty modelChildren Ctx.contents modelSearch
  simp [C19Rx.text_test_rx]

/-- `empty_iff` about the regenerated definition. -/
theorem gen_empty_iff (env : CharEnv) (c : Ctx) (l : Loc) :
    Gen.PyTextFn.matchEmpty (modelChildren c l) c.isHtml Loc.isTag (fun ch => ch.focus.isContentString) (modelSearch env) =
      Spec.isEmptyElem l.focus := by
  rw [gen_matchEmpty_eq, C19.empty_iff]

theorem gen_empty_iff_prop (env : CharEnv) (c : Ctx) (l : Loc) :
    Gen.PyTextFn.matchEmpty (modelChildren c l) c.isHtml Loc.isTag (fun ch => ch.focus.isContentString) (modelSearch env) = true ↔
      Spec.IsEmptyElem l.focus := by
  rw [gen_matchEmpty_eq, C19.empty_iff_prop]

/-- The decision for one `SelectorContains` record: some text of the list inside ONE own string (`own`), or inside
    the joined text content. -/
def containsOne (own : Bool) (texts : List Str) (content : Str) (ownContent : List Str) : Bool :=
  texts.any fun t => if own then ownContent.any (fun piece => isInfix t piece) else isInfix t content

/-- The generated body of the outer loop: never breaks, lowers `match` exactly when the record finds nothing. -/
theorem gen_containsStep_eq {ρ : Type} (own : ρ → Bool) (texts : ρ → List Str) (content : Str)
    (ownContent : List Str) (s : Bool) (x : ρ) :
    Gen.PyTextFn.containsStep own texts isInfix content ownContent s x =
      (s && containsOne (own x) (texts x) content ownContent, false) := by
  have hin : ∀ (t : Str) (s : Bool),
      forBreak (fun (s : Bool) x2 => if isInfix t x2 = true then (true, true) else (s, false)) s ownContent =
        (s || ownContent.any (fun piece => isInfix t piece)) :=
    fun t s => forBreak_set _ _ (fun _ _ => rfl) s ownContent
  unfold Gen.PyTextFn.containsStep
  simp only [hin]
  rw [forBreak_any _ (fun t => if own x then ownContent.any (fun piece => isInfix t piece) else isInfix t content)]
  · unfold containsOne
    cases s <;> cases (texts x).any _ <;> simp
  · intro t
    cases own x
    · cases isInfix t content <;> simp
    · simp only [Bool.false_or, if_true]
      cases ownContent.any (fun piece => isInfix t piece) <;> simp

/-- **`match_contains` as translated from the source = the hand model `matchContains`**, for every context,
    location and list of records. -/
theorem gen_matchContains_eq (c : Ctx) (l : Loc) (cs : List ContainsSel) :
    Gen.PyTextFn.matchContains c.isHtml ContainsSel.own ContainsSel.text isInfix (c.text l) (c.ownText l) cs =
      matchContains c l cs := by
  unfold Gen.PyTextFn.matchContains
  simp only
  rw [forBreak_all _ _ (gen_containsStep_eq _ _ _ _)]
  unfold matchContains containsOne
  simp only [Bool.true_and]
  congr 1
  funext cl
  cases cl.own <;> simp

/-- The regenerated function on the spec: every record against the content of its own kind. -/
theorem gen_matchContains_all (c : Ctx) (l : Loc) (cs : List ContainsSel) :
    Gen.PyTextFn.matchContains c.isHtml ContainsSel.own ContainsSel.text isInfix (c.text l) (c.ownText l) cs =
      cs.all fun cl =>
        if cl.own then Spec.containsOwn (TextLemmas.cutOf c c.isHtml) cl.text l.focus
        else Spec.contains (TextLemmas.cutOf c c.isHtml) cl.text l.focus := by
  rw [gen_matchContains_eq, C19.matchContains_all]

/-- `contains_iff` about the regenerated definition. -/
theorem gen_contains_iff (c : Ctx) (l : Loc) (ts : List Str) :
    Gen.PyTextFn.matchContains c.isHtml ContainsSel.own ContainsSel.text isInfix (c.text l) (c.ownText l) [⟨ts, false⟩] = true ↔
      Spec.Contains (TextLemmas.cutOf c c.isHtml) ts l.focus := by
  rw [gen_matchContains_eq, C19.contains_iff_prop]

theorem gen_containsOwn_iff (c : Ctx) (l : Loc) (ts : List Str) :
    Gen.PyTextFn.matchContains c.isHtml ContainsSel.own ContainsSel.text isInfix (c.text l) (c.ownText l) [⟨ts, true⟩] = true ↔
      Spec.ContainsOwn (TextLemmas.cutOf c c.isHtml) ts l.focus := by
  rw [gen_matchContains_eq, C19.containsOwn_iff_prop]

/-- Mixed `:-soup-contains-own(a):-soup-contains(b)`, either order: each list against its own content (the two
    caches of the source stay apart). -/
theorem gen_matchContains_mixed (c : Ctx) (l : Loc) (a b : List Str) :
    Gen.PyTextFn.matchContains c.isHtml ContainsSel.own ContainsSel.text isInfix (c.text l) (c.ownText l) [⟨a, true⟩, ⟨b, false⟩] =
      (Spec.containsOwn (TextLemmas.cutOf c c.isHtml) a l.focus && Spec.contains (TextLemmas.cutOf c c.isHtml) b l.focus) ∧
    Gen.PyTextFn.matchContains c.isHtml ContainsSel.own ContainsSel.text isInfix (c.text l) (c.ownText l) [⟨b, false⟩, ⟨a, true⟩] =
      (Spec.contains (TextLemmas.cutOf c c.isHtml) b l.focus && Spec.containsOwn (TextLemmas.cutOf c c.isHtml) a l.focus) := by
  rw [gen_matchContains_eq, gen_matchContains_eq]
  exact C19.matchContains_mixed c l a b

end C19Gen
end SoupVerif
