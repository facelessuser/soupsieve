/-
  C09 / C06 about the Lean terms TRANSLATED from the source text of the small token handlers of `CSSParser`:
  `parse_tag_pattern`, `parse_class_id`, `parse_pseudo_dir`, `parse_pseudo_lang`, `parse_pseudo_contains`.

  In the hand model these handlers are the branches of `ParseDisp.runCall` (= the branches of `Parser.parseLoop`,
  `ParseDisp.stepOf_eq_runAction`), and the value loop is `Parser.parseValues` (the object of
  `Refine/Compile2ValuesStep.lean` / C09Compile2).  `gen/gen_py_handlers.py` translates the handler BODIES on every run
  (`Generated/PyHandlers.lean`): each handler as a function of `css_unescape`, `finditer`, `m.group(0)` and
  `m.group(name)` returning, in the `Except` monad of the Python exceptions, the one write to `sel` it makes
  (`PyHandlers.Add`: which field, which value) and whether the deprecation warning is issued; the loop body as a
  separate step function.  The frame (`has_selector = True; return has_selector`, the `for … in RE.finditer(e)` shape,
  `if …: continue`, the final `append`) is checked by the translator, which fails closed.

  Proved here, for ALL arguments:
  * each regenerated handler in closed form (what it writes, and exactly when it raises which exception);
  * the two regenerated loop bodies are the same step `stepSpec`
    (`continue` on a non-empty `split`; quoted value → `css_unescape(value[1:-1], True)`; bare → `css_unescape(value)`);
  * `parseValues_gen` (**the value loop**): the hand model's value list = the regenerated step, exceptions erased,
    over the `finditer` model (`finditerOf`: the engine scan on the lexicon's `RE_VALUES`, groups BY NAME through the
    regenerated group table);
  * `runCall_*_gen` (**the tie**): whenever the regenerated handler run on the model's token (`genRun`) does not raise,
    the hand model's handler is exactly its result followed by the checked frame — so every theorem about `runCall` /
    `parseLoop` holds of the regenerated handlers; `parse_class_id` never raises (equality outright).
  DIFFERENCE found (not reachable from a token match): where Python raises (`m.group('tag_name')` / `'dir'` / `'values'`
  / `'name'` is `None`: `TypeError`; a `RE_VALUES` match with falsy `split` and `value` `None`: `AttributeError`) the hand
  model goes on with `''` / skips the match.  NOT proved: that a `RE_VALUES` match always has one of the two groups, and
  that `finditerCaps` is CPython's `finditer` for regular expressions with empty matches (`RE_VALUES` has none).
-/
import SoupVerif.Generated.PyHandlers
import SoupVerif.Generated.Lexicon
import SoupVerif.Lemmas.ParserProgress.Dispatch
import SoupVerif.Lemmas.StrLit
import SoupVerif.Lemmas.PyStr
namespace SoupVerif
namespace C09GenHandlers
open Rx Parser ParserProgress ParseDisp PyHandlers


/-- `parse_tag_pattern`, for ALL arguments. -/
theorem gen_tag (U : Str → Bool → Str) (fi : String → Str → List (String → Option Str)) (g0 : Str)
    (g : String → Option Str) :
    Gen.PyHandlers.parse_tag_pattern U fi g0 g =
      match g "tag_name" with
      | none => .error .typeError
      | some n =>
        .ok (.tag (U n false)
          (match g "tag_ns" with
           | some ns => if ns.isEmpty then none else some (U (ns.take (ns.length - 1)) false)
           | none => none), false) := by
  unfold Gen.PyHandlers.parse_tag_pattern
  generalize g "tag_ns" = a
  generalize g "tag_name" = b
  cases a with
  | none => cases b <;> simp [PyStr.truthy, req, bind, Except.bind, pure, Except.pure]
  | some ns =>
    by_cases h : ns = []
    · cases b <;> simp [PyStr.truthy, req, bind, Except.bind, pure, Except.pure, h]
    · cases b <;> simp [PyStr.truthy, req, bind, Except.bind, pure, Except.pure, h, PyStr.slice_init]

theorem sw1 (c k : Nat) (rest : Str) : ([k] : Str).isPrefixOf (c :: rest) = (k == c) := by
  simp [List.isPrefixOf]

/-- `parse_class_id`, for ALL arguments: never raises. -/
theorem gen_classId (U : Str → Bool → Str) (fi : String → Str → List (String → Option Str)) (g0 : Str)
    (g : String → Option Str) :
    Gen.PyHandlers.parse_class_id U fi g0 g =
      .ok (if g0.head? == some 46 then .classes (U (g0.drop 1) false) else .ids (U (g0.drop 1) false), false) := by
  unfold Gen.PyHandlers.parse_class_id
  cases g0 with
  | nil => simp [startswithAny, bind, Except.bind, pure, Except.pure, PyStr.slice_tail]
  | cons c rest =>
    by_cases h : c = 46 <;>
      simp [startswithAny, bind, Except.bind, pure, Except.pure, PyStr.slice_tail, h, sw1]
    · have h2 : ¬ (46 = c) := fun e => h e.symm
      simp [h2]

/-- `parse_pseudo_dir`, for ALL arguments. -/
theorem gen_dir (U : Str → Bool → Str) (fi : String → Str → List (String → Option Str)) (g0 : Str)
    (g : String → Option Str) :
    Gen.PyHandlers.parse_pseudo_dir U fi g0 g =
      match g "dir" with
      | none => .error .typeError
      | some d => .ok (.flagList (if lower d == "ltr".toStr then SEL_DIR_LTR else SEL_DIR_RTL) false true, false) := by
  unfold Gen.PyHandlers.parse_pseudo_dir
  have hl : "ltr".toStr = [108, 116, 114] := by decide_lit
  rw [hl]
  generalize g "dir" = a
  cases a with
  | none => simp [req, bind, Except.bind]
  | some d =>
    by_cases h : lower d = [108, 116, 114] <;>
      simp [req, bind, Except.bind, pure, Except.pure, h, Gen.gen_SEL_DIR_LTR, Gen.gen_SEL_DIR_RTL, SEL_DIR_LTR, SEL_DIR_RTL]

/-! ## the value loop of `parse_pseudo_lang` / `parse_pseudo_contains` -/

/-- What one iteration does with the value group: `AttributeError` on `None.startswith`. -/
def valueSpec (U : Str → Bool → Str) (g : String → Option Str) : PyStr.M (Option Str) :=
  match g "value" with
  | none => .error .attributeError
  | some v =>
    .ok (some (match v.head? with
      | some q => if q == 34 || q == 39 then U (Parser.slice v 1 (v.length - 1)) true else U v false
      | none => U v false))

/-- One iteration of the loop: `continue` on a non-empty `split` group. -/
def stepSpec (U : Str → Bool → Str) (g : String → Option Str) : PyStr.M (Option Str) :=
  match g "split" with
  | some sp => if !sp.isEmpty then .ok none else valueSpec U g
  | none => valueSpec U g

theorem gen_langStep (U : Str → Bool → Str) (g : String → Option Str) :
    Gen.PyHandlers.parse_pseudo_lang_step U g = stepSpec U g := by
  unfold Gen.PyHandlers.parse_pseudo_lang_step stepSpec valueSpec
  generalize g "split" = sp
  generalize g "value" = v
  rcases sp with _ | sp <;> rcases v with _ | (_ | ⟨c, rest⟩) <;> try rcases sp with _ | ⟨d, sp⟩
  all_goals simp [PyStr.truthy, startswithAny, req, bind, Except.bind, pure, Except.pure, PyStr.slice_inner, sw1]
  all_goals by_cases h1 : c = 34 <;> by_cases h2 : c = 39 <;> simp [h1, h2, eq_comm]

/-- `str.startswith` with a tuple does not depend on the order of the tuple. -/
theorem startswithAny_swap (x : Option Str) (a b : Str) :
    startswithAny x [a, b] = startswithAny x [b, a] := by
  cases x with
  | none => rfl
  | some s =>
    simp only [startswithAny, List.any_cons, List.any_nil, Bool.or_false]
    rw [Bool.or_comm]

/-- The loop body of `parse_pseudo_contains` is that of `parse_pseudo_lang` with the two quotes tested in the
    other order. -/
theorem gen_containsStep (U : Str → Bool → Str) (g : String → Option Str) :
    Gen.PyHandlers.parse_pseudo_contains_step U g = stepSpec U g := by
  rw [← gen_langStep]
  unfold Gen.PyHandlers.parse_pseudo_contains_step Gen.PyHandlers.parse_pseudo_lang_step
  simp only [startswithAny_swap _ [39] [34]]

/-- Exceptions erased: what the hand model does where Python would raise (it skips the match). -/
def erase : PyStr.M (Option Str) → Option Str
  | .ok r => r
  | .error _ => none

/-- The `finditer` model: the scan `Parser.parseValues` makes with the regex engine (`Rx.search` from the end of the
    previous match), each match as its captures. -/
def finditerCaps (env : CharEnv) (r : Rx) (s : Str) : Nat → Nat → List Caps
  | 0, _ => []
  | fuel + 1, i =>
    if i > s.length then [] else
    match Rx.search env r s i with
    | none => []
    | some (_, j, caps) => caps :: finditerCaps env r s fuel (if j > i then j else i + 1)

/-- `RE_VALUES.finditer(s)` on the lexicon's `RE_VALUES`, each match as its `group(name)` function
    (names resolved through the regenerated group table); other regex names: no model. -/
def finditerOf (env : CharEnv) (L : Lexicon) (name : String) (s : Str) : List (String → Option Str) :=
  if name == "RE_VALUES" then
    (finditerCaps env L.reValues.rx s (s.length + 1) 0).map (fun caps n => Parser.group s L.reValues caps n)
  else []

theorem go_eq (P : PEnv) (values : Str) : ∀ fuel i,
    parseValues.go P values fuel i =
      (finditerCaps P.env P.L.reValues.rx values fuel i).filterMap (fun caps =>
        erase (stepSpec (fun c b => cssUnescape P.env P.L c b) (fun n => Parser.group values P.L.reValues caps n))) := by
  intro fuel
  induction fuel with
  | zero => intro i; simp [parseValues.go, finditerCaps]
  | succ fuel ih =>
    intro i
    rw [parseValues.go, finditerCaps]
    by_cases hi : i > values.length
    · simp [hi]
    · simp only [hi, if_false]
      rcases Rx.search P.env P.L.reValues.rx values i with _ | ⟨a, j, caps⟩
      · simp
      · simp only [List.filterMap_cons, parseValues.valueOf, ih]
        generalize List.filterMap _ (finditerCaps P.env P.L.reValues.rx values fuel _) = T
        simp only [stepSpec, valueSpec]
        rcases Parser.group values P.L.reValues caps "split" with _ | sp <;>
          rcases Parser.group values P.L.reValues caps "value" with _ | (_ | ⟨c, v⟩)
        · simp [erase]
        · simp [erase]
        · by_cases h : c = 34 ∨ c = 39 <;> simp [erase, h]
        · by_cases hs : sp = [] <;> simp [erase, hs]
        · by_cases hs : sp = [] <;> simp [erase, hs]
        · by_cases hs : sp = [] <;> by_cases h : c = 34 ∨ c = 39 <;> simp [erase, hs, h]

/-- **The value loop.**  The hand model's value list is the regenerated step (exceptions erased) over the `finditer`
    model on the lexicon's `RE_VALUES`, for ALL texts. -/
theorem parseValues_gen (P : PEnv) (values : Str) :
    parseValues P values =
      (finditerOf P.env P.L "RE_VALUES" values).filterMap (fun g =>
        erase (Gen.PyHandlers.parse_pseudo_lang_step (fun c b => cssUnescape P.env P.L c b) g)) := by
  unfold parseValues finditerOf
  simp [go_eq, gen_langStep, List.filterMap_map, Function.comp_def]

theorem forAppend_ok {α} (step : α → PyStr.M (Option Str)) : ∀ (l : List α) (r : List Str),
    forAppend step l = .ok r → r = l.filterMap (fun m => erase (step m)) := by
  intro l
  induction l with
  | nil => intro r h; simp [forAppend] at h; simp [h]
  | cons m rest ih =>
    intro r h
    rw [forAppend] at h
    rcases hs : step m with e | o
    · simp [hs] at h
    · rcases hr : forAppend step rest with e | l
      · simp [hs, hr] at h
      · simp [hs, hr] at h
        have := ih l hr
        subst h
        cases o <;> simp [erase, hs] <;> exact this

/-- No exception in the loop ⇒ the list it builds is the hand model's. -/
theorem forAppend_lang (P : PEnv) (values : Str) (r : List Str)
    (h : forAppend (fun g => Gen.PyHandlers.parse_pseudo_lang_step (fun c b => cssUnescape P.env P.L c b) g)
      (finditerOf P.env P.L "RE_VALUES" values) = .ok r) : r = parseValues P values := by
  rw [parseValues_gen]; exact forAppend_ok _ _ _ h

theorem forAppend_contains (P : PEnv) (values : Str) (r : List Str)
    (h : forAppend (fun g => Gen.PyHandlers.parse_pseudo_contains_step (fun c b => cssUnescape P.env P.L c b) g)
      (finditerOf P.env P.L "RE_VALUES" values) = .ok r) : r = parseValues P values := by
  simp only [gen_containsStep, ← gen_langStep] at h
  exact forAppend_lang P values r h

/-- `parse_pseudo_lang`, for ALL arguments. -/
theorem gen_lang (U : Str → Bool → Str) (fi : String → Str → List (String → Option Str)) (g0 : Str)
    (g : String → Option Str) :
    Gen.PyHandlers.parse_pseudo_lang U fi g0 g =
      match g "values" with
      | none => .error .typeError
      | some vs =>
        match forAppend (fun m => Gen.PyHandlers.parse_pseudo_lang_step U m) (fi "RE_VALUES" vs) with
        | .error e => .error e
        | .ok l => .ok (.lang l, false) := by
  unfold Gen.PyHandlers.parse_pseudo_lang
  generalize g "values" = a
  cases a with
  | none => simp [req, bind, Except.bind]
  | some vs =>
    simp only [req, bind, Except.bind, pure, Except.pure]
    cases forAppend (fun m => Gen.PyHandlers.parse_pseudo_lang_step U m) (fi "RE_VALUES" vs) <;> rfl

/-- `parse_pseudo_contains`, for ALL arguments: the own flag, the deprecation warning, the value loop. -/
theorem gen_contains (U : Str → Bool → Str) (fi : String → Str → List (String → Option Str)) (g0 : Str)
    (g : String → Option Str) :
    Gen.PyHandlers.parse_pseudo_contains U fi g0 g =
      match g "name" with
      | none => .error .typeError
      | some n =>
        match g "values" with
        | none => .error .typeError
        | some vs =>
          match forAppend (fun m => Gen.PyHandlers.parse_pseudo_contains_step U m) (fi "RE_VALUES" vs) with
          | .error e => .error e
          | .ok l => .ok (.contains l (lower (U n false) == ":-soup-contains-own".toStr),
                          lower (U n false) == ":contains".toStr) := by
  unfold Gen.PyHandlers.parse_pseudo_contains
  have h1 : ":-soup-contains-own".toStr = [58, 45, 115, 111, 117, 112, 45, 99, 111, 110, 116, 97, 105, 110, 115, 45, 111, 119, 110] := by decide_lit
  have h2 : ":contains".toStr = [58, 99, 111, 110, 116, 97, 105, 110, 115] := by decide_lit
  rw [h1, h2]
  generalize g "values" = a
  generalize g "name" = b
  cases b with
  | none => simp [req, bind, Except.bind]
  | some n =>
    cases a with
    | none => simp [req, bind, Except.bind]
    | some vs =>
      simp only [req, bind, Except.bind, pure, Except.pure]
      cases forAppend (fun m => Gen.PyHandlers.parse_pseudo_contains_step U m) (fi "RE_VALUES" vs) <;> rfl

/-! ## the tie to the hand model's handlers (`ParseDisp.runCall`, the meaning of the dispatch table's calls) -/

/-- A regenerated handler run on the model's token: `css_unescape` is the model's, `finditer` the model's scan on the
    lexicon's `RE_VALUES`, `m.group(0)` the token text, `m.group(name)` the token's named group; followed by the FRAME
    the translator checked (`has_selector = True; return has_selector`) and `index = m.end(0)`.  `none`: Python raises. -/
def genRun (env : CharEnv) (L : Lexicon) (B : Builtins) (pattern : Str) (s : LS) (t : Token)
    (h : (Str → Bool → Str) → (String → Str → List (String → Option Str)) → Str → (String → Option Str) →
      PyStr.M (Add × Bool)) : Option Step :=
  match h (fun c b => cssUnescape env L c b) (finditerOf env L) (Parser.slice pattern t.start t.stop)
      (t.group ⟨env, L, B, pattern⟩) with
  | .ok (a, _) => some (.cont { s with sel := a.apply s.sel, hasSelector := true, index := t.stop })
  | .error _ => none

theorem runCall_tag_gen (env : CharEnv) (L : Lexicon) (B : Builtins) (pattern : Str) (s : LS) (t : Token) (st : Step)
    (h : genRun env L B pattern s t Gen.PyHandlers.parse_tag_pattern = some st) :
    runCall env L B pattern s t ("parse_tag_pattern", [], ["has_selector"]) = st := by
  unfold genRun at h
  rw [gen_tag] at h
  rcases hn : t.group ⟨env, L, B, pattern⟩ "tag_name" with _ | n
  · simp [hn] at h
  · simp only [hn, Option.some.injEq] at h
    subst h
    rcases hns : t.group ⟨env, L, B, pattern⟩ "tag_ns" with _ | ns
    · simp [runCall_tag, Add.apply, hn, hns]
    · by_cases he : ns = [] <;> simp [runCall_tag, Add.apply, hn, hns, he]

/-- `parse_class_id` never raises: the hand model's handler IS the regenerated one. -/
theorem runCall_classId_gen (env : CharEnv) (L : Lexicon) (B : Builtins) (pattern : Str) (s : LS) (t : Token) :
    genRun env L B pattern s t Gen.PyHandlers.parse_class_id =
      some (runCall env L B pattern s t ("parse_class_id", [], ["has_selector"])) := by
  unfold genRun
  rw [gen_classId]
  by_cases h : (Parser.slice pattern t.start t.stop).head? = some 46 <;> simp [runCall_class_id, Add.apply, h]

theorem runCall_dir_gen (env : CharEnv) (L : Lexicon) (B : Builtins) (pattern : Str) (s : LS) (t : Token) (st : Step)
    (h : genRun env L B pattern s t Gen.PyHandlers.parse_pseudo_dir = some st) :
    runCall env L B pattern s t ("parse_pseudo_dir", [], ["has_selector"]) = st := by
  unfold genRun at h
  rw [gen_dir] at h
  rcases hn : t.group ⟨env, L, B, pattern⟩ "dir" with _ | d
  · simp [hn] at h
  · simp only [hn, Option.some.injEq] at h
    subst h
    by_cases hd : lower d = "ltr".toStr <;> simp [runCall_dir, Add.apply, hn, hd]

theorem runCall_lang_gen (env : CharEnv) (L : Lexicon) (B : Builtins) (pattern : Str) (s : LS) (t : Token) (st : Step)
    (h : genRun env L B pattern s t Gen.PyHandlers.parse_pseudo_lang = some st) :
    runCall env L B pattern s t ("parse_pseudo_lang", [], ["has_selector"]) = st := by
  unfold genRun at h
  rw [gen_lang] at h
  rcases hn : t.group ⟨env, L, B, pattern⟩ "values" with _ | vs
  · simp [hn] at h
  · simp only [hn] at h
    rcases hf : forAppend (fun m => Gen.PyHandlers.parse_pseudo_lang_step (fun c b => cssUnescape env L c b) m)
        (finditerOf env L "RE_VALUES" vs) with e | l
    · simp [hf] at h
    · simp only [hf, Option.some.injEq] at h
      subst h
      have := forAppend_lang ⟨env, L, B, pattern⟩ vs l hf
      simp [runCall_lang, Add.apply, hn, this]

theorem runCall_contains_gen (env : CharEnv) (L : Lexicon) (B : Builtins) (pattern : Str) (s : LS) (t : Token) (st : Step)
    (h : genRun env L B pattern s t Gen.PyHandlers.parse_pseudo_contains = some st) :
    runCall env L B pattern s t ("parse_pseudo_contains", [], ["has_selector"]) = st := by
  unfold genRun at h
  rw [gen_contains] at h
  rcases hm : t.group ⟨env, L, B, pattern⟩ "name" with _ | nm
  · simp [hm] at h
  rcases hn : t.group ⟨env, L, B, pattern⟩ "values" with _ | vs
  · simp [hm, hn] at h
  · simp only [hm, hn] at h
    rcases hf : forAppend (fun m => Gen.PyHandlers.parse_pseudo_contains_step (fun c b => cssUnescape env L c b) m)
        (finditerOf env L "RE_VALUES" vs) with e | l
    · simp [hf] at h
    · simp only [hf, Option.some.injEq] at h
      subst h
      have := forAppend_contains ⟨env, L, B, pattern⟩ vs l hf
      simp [runCall_contains, Add.apply, hm, hn, this]


theorem genRun_tag_isSome (env : CharEnv) (L : Lexicon) (B : Builtins) (pattern : Str) (s : LS) (t : Token)
    (h : (t.group ⟨env, L, B, pattern⟩ "tag_name").isSome) :
    (genRun env L B pattern s t Gen.PyHandlers.parse_tag_pattern).isSome := by
  unfold genRun
  rw [gen_tag]
  rcases hn : t.group ⟨env, L, B, pattern⟩ "tag_name" with _ | n
  · simp [hn] at h
  · simp

theorem genRun_dir_isSome (env : CharEnv) (L : Lexicon) (B : Builtins) (pattern : Str) (s : LS) (t : Token)
    (h : (t.group ⟨env, L, B, pattern⟩ "dir").isSome) :
    (genRun env L B pattern s t Gen.PyHandlers.parse_pseudo_dir).isSome := by
  unfold genRun
  rw [gen_dir]
  rcases hn : t.group ⟨env, L, B, pattern⟩ "dir" with _ | n
  · simp [hn] at h
  · simp

/-- The step does not raise on a match in which `split` is non-empty or `value` took part (every match of an
    alternation of the two groups — not proved here for `RE_VALUES`). -/
theorem step_ok (U : Str → Bool → Str) (g : String → Option Str)
    (h : PyStr.truthy (g "split") = true ∨ (g "value").isSome) :
    ∃ r, Gen.PyHandlers.parse_pseudo_lang_step U g = .ok r ∧ Gen.PyHandlers.parse_pseudo_contains_step U g = .ok r := by
  rw [gen_langStep, gen_containsStep]
  unfold stepSpec valueSpec
  rcases hs : g "split" with _ | sp <;> rcases hv : g "value" with _ | v
  · simp [hs, hv, PyStr.truthy] at h
  · exact ⟨_, rfl, rfl⟩
  · by_cases he : sp = []
    · simp [hs, hv, PyStr.truthy, he] at h
    · exact ⟨none, by simp [he], by simp [he]⟩
  · by_cases he : sp = []
    · subst he; exact ⟨_, rfl, rfl⟩
    · exact ⟨none, by simp [he], by simp [he]⟩


/-- The loop runs over the regular expression `gen_regexes.py` regenerates for `RE_VALUES`, with its group table. -/
theorem finditerOf_gen (env : CharEnv) (s : Str) :
    finditerOf env Gen.lexicon "RE_VALUES" s =
      (finditerCaps env Gen.cp_RE_VALUES s (s.length + 1) 0).map
        (fun caps n => Parser.group s ⟨"RE_VALUES", Gen.cp_RE_VALUES, Gen.cp_RE_VALUES_groups⟩ caps n) := by
  simp [finditerOf, Gen.lexicon]

theorem handlers_list : Gen.PyHandlers.handlers =
    ["parse_tag_pattern", "parse_class_id", "parse_pseudo_dir", "parse_pseudo_lang", "parse_pseudo_contains"] := rfl

/-- `:dir(ltr)` and nothing else selects the left-to-right flag (any case of the keyword). -/
theorem gen_dir_flag (U : Str → Bool → Str) (fi : String → Str → List (String → Option Str)) (g0 : Str)
    (g : String → Option Str) (d : Str) (h : g "dir" = some d) :
    Gen.PyHandlers.parse_pseudo_dir U fi g0 g =
      .ok (.flagList (if lower d = "ltr".toStr then 32 else 64) false true, false) := by
  rw [gen_dir, h]
  by_cases hd : lower d = "ltr".toStr <;> simp [hd, SEL_DIR_LTR, SEL_DIR_RTL]

/-- A quoted value loses exactly its two quotes and is unescaped as a string; a bare one is unescaped as an identifier. -/
theorem gen_step_value (U : Str → Bool → Str) (g : String → Option Str) (c : Nat) (v : Str)
    (hs : g "split" = none) (hv : g "value" = some (c :: v)) :
    Gen.PyHandlers.parse_pseudo_lang_step U g =
      .ok (some (if c = 34 ∨ c = 39 then U (v.take (v.length - 1)) true else U (c :: v) false)) := by
  rw [gen_langStep]
  unfold stepSpec valueSpec
  by_cases h : c = 34 ∨ c = 39 <;> simp [hs, hv, h, Parser.slice]

theorem gen_step_split (U : Str → Bool → Str) (g : String → Option Str) (sp : Str)
    (hs : g "split" = some sp) (hne : sp ≠ []) :
    Gen.PyHandlers.parse_pseudo_lang_step U g = .ok none ∧ Gen.PyHandlers.parse_pseudo_contains_step U g = .ok none := by
  rw [gen_langStep, gen_containsStep]
  unfold stepSpec
  simp [hs, hne]

end C09GenHandlers
end SoupVerif
