/-
  C12 (also C11 / C01) — WHICH ATTRIBUTES an attribute selector designates: the generator
  `CSSMatch.match_attribute_name`, TRANSLATED from the source (`Generated/PyAttrName.lean`: the prologue
  `prefixLookup`, the per-attribute decisions `designates` / `designatesPlain` of the two loops, and the frame
  `match_attribute_name`, over the dynamic values of `Model/MatchDyn.lean` / `Model/AttrNameDyn.lean`) and PROVED
  equal to the hand-written model the property theorems are about (`Model/Match.lean` `matchAttributeValues`: its
  prologue is `nsOf`, its per-attribute test `desigWith`) — for all contexts, elements,
  names, prefixes and attributes.

  Python truthiness is the point: `if prefix:` (None and '' are falsy), `not ns` (None and '' are falsy),
  `namespace is None`, `(A) if not self.is_xml else (B)`.  The C12 theorems are restated at the end about the
  regenerated generator.

  HYPOTHESIS `KeyOk` — and a (known, documented) finding.  A key with a namespace but NO local name
  (`NamespacedAttribute('xmlns', None, uri)`, only API-built) makes the third decision call `util.lower(None)` in
  non-XML documents: the library raises `TypeError`, the hand model answers "not designated".
  `gen_designates_nameless_raises` proves the regenerated decision is `.err` there; everywhere else
  (`KeyOk`: XML document, or no namespace, or a local name) the two agree.
-/
import SoupVerif.Generated.PyAttrName
import SoupVerif.Properties.C12
import SoupVerif.Lemmas.PyVal
namespace SoupVerif.C12GenAttr
open SoupVerif SoupVerif.PyMatchSel SoupVerif.PyAttrName SoupVerif.Names


/-- The key of the attribute does not make `util.lower(name)` raise: XML document (names are compared with
    `!=`), or a key without namespace (a plain `str`), or a key with a local name. -/
def KeyOk (c : Ctx) (x : Attr) : Prop := c.isXml = true ∨ x.kns = none ∨ x.kname.isSome = true

variable (c : Ctx)

theorem gen_prefixLookup (a : PV) (p : Str) :
    Gen.PyAttrName.prefixLookup c a (.str p) =
      if p = [] then .go .none
      else match c.nsGet p with
        | some u => .go (.str u)
        | none => if p = "*".toStr then .go .none else .ret := by
  unfold Gen.PyAttrName.prefixLookup
  by_cases hp : p = []
  · subst hp; simp [Pre.ite, PV.truthy]
  · have hpe : p.isEmpty = false := by cases p <;> simp_all
    by_cases hs : p = [42]
    · subst hs
      cases hu : c.nsGet [42] <;>
        simp [Pre.ite, PV.truthy, pyNsGet, PV.ofOptStr, pyAnd, pyIsNone, pyNe, PV.isErr, hu]
    · cases hu : c.nsGet p <;>
        simp [Pre.ite, PV.truthy, pyNsGet, PV.ofOptStr, pyAnd, pyIsNone, pyNe, PV.isErr, hu, hp, hs, hpe]

/-- `prefix = None`: no lookup. -/
theorem gen_prefixLookup_none (a : PV) : Gen.PyAttrName.prefixLookup c a .none = .go .none := by
  simp [Gen.PyAttrName.prefixLookup, Pre.ite, PV.truthy]

attribute [local simp] not_bool and_bool or_bool eq_str ite_bool
@[local simp] theorem not_opt (o : Option Str) : pyNot (PV.ofOptStr o) = .bool (nsFalsy o) := by
  cases o <;> simp [pyNot, PV.ofOptStr, PV.truthy, nsFalsy]
@[local simp] theorem ne_str (a b : Str) : pyNe (.str a) (.str b) = .bool (a != b) := by
  by_cases h : a = b <;> simp [pyNe, PV.isErr, h, bne, str_beq]
@[local simp] theorem ne_opt (a b : Option Str) : pyNe (PV.ofOptStr a) (PV.ofOptStr b) = .bool (a != b) := by
  cases a <;> cases b <;> simp [pyNe, PV.isErr, PV.ofOptStr, bne, str_beq]
@[local simp] theorem ne_opt_str (a : Option Str) (b : Str) : pyNe (PV.ofOptStr a) (.str b) = .bool (a != some b) :=
  ne_opt a (some b)
theorem ofOpt_some (u : Str) : PV.ofOptStr (some u) = .str u := rfl
theorem ofOpt_none : PV.ofOptStr none = .none := rfl
@[local simp] theorem isNone_str (u : Str) : pyIsNone (.str u) = .bool false := rfl
@[local simp] theorem isNone_none : pyIsNone .none = .bool true := rfl
@[local simp] theorem ne_str_none (a : Str) : pyNe (.str a) .none = .bool true := by simp [pyNe, PV.isErr]
@[local simp] theorem isNone_opt (o : Option Str) : pyIsNone (PV.ofOptStr o) = .bool o.isNone := by
  cases o <;> rfl
@[local simp] theorem lower_str (a : Str) : pyLower (.str a) = .str (lower a) := PyMatchSel.lower_str a
@[local simp] theorem ite_tf (p : Prop) [Decidable p] :
    (if p then PV.bool true else PV.bool false) = .bool (decide p) := by by_cases h : p <;> simp [h]
@[local simp] theorem ite_ft (p : Prop) [Decidable p] :
    (if p then PV.bool false else PV.bool true) = .bool (!decide p) := by by_cases h : p <;> simp [h]
theorem dec_beq (x y : Str) : decide (x = y) = (x == y) := by rw [Bool.eq_iff_iff]; simp
@[local simp] theorem isXml_bool : pyIsXml c = .bool c.isXml := PyMatchSel.isXml_bool c
theorem ofOptStr_some (u : Str) : PV.str u = PV.ofOptStr (some u) := rfl

private theorem lower_bne (a b : Str) : (PV.str (lower a) != PV.str (lower b)) = !(lower a == lower b) := by
  cases h : lower a == lower b <;> simp_all [bne]

theorem gen_nameEq (a k : Str) :
    PV.ite (pyOr (pyAnd (pyIsXml c) (pyEq (.str a) (.str k)))
      (pyAnd (pyNot (pyIsXml c)) (pyEq (pyLower (.str a)) (pyLower (.str k))))) (.bool true) (.bool false) =
      .bool (nameEq c a k) := by
  cases hx : c.isXml <;> simp [nameEq, hx, dec_beq]

/-- The local-name test of the last branch; on a missing local name it raises in a non-XML document. -/
theorem gen_localNameNe (a : Str) (x : Attr) (hk : c.isXml = true ∨ x.kname.isSome = true) :
    PV.ite (pyNot (pyIsXml c)) (pyNe (pyLower (.str a)) (pyLower (PV.ofOptStr x.kname)))
      (pyNe (.str a) (PV.ofOptStr x.kname)) = .bool (!localNameEq c a x) := by
  unfold localNameEq
  cases hn : x.kname with
  | none =>
    have hx : c.isXml = true := by simpa [hn] using hk
    simp [hx, ofOpt_none]
  | some nm => cases hx : c.isXml <;> simp [nameEq, hx, ofOpt_some, bne]

/-- The test `matchAttributeValues` makes on one attribute once the prologue has given `ns` (the text of its `filter`
    argument, Model/Match.lean): the whole key when there is no namespace to compare, else namespace and local name. -/
def desigWith (ns : Option Str) (a p : Str) (x : Attr) : Bool :=
  if (nsFalsy ns && !(p == "*".toStr)) || (p == "*".toStr && x.kns.isNone) then nameEq c a x.key
  else match x.kns with
    | none => false
    | some kn => if ns != some kn && !(p == "*".toStr) then false else localNameEq c a x

/-- The decision of the first loop with a given `ns` (what the prologue computed) is the model's test. -/
theorem gen_designates_ns (a p : Str) (ns : Option Str) (x : Attr) (hk : KeyOk c x) :
    Gen.PyAttrName.designates c (.str a) (.str p) (PV.ofOptStr ns) (pyKey x) (pySplitNamespace x) =
      .bool (desigWith c ns a p x) := by
  unfold Gen.PyAttrName.designates desigWith
  simp only [star_toStr, pyKey, pySplitNamespace, gen_nameEq]
  cases hkn : x.kns with
  | none => cases hn : nsFalsy ns <;> by_cases hs : p = [42] <;> simp [hn, hs]
  | some kn =>
    have hk' : c.isXml = true ∨ x.kname.isSome = true := by simpa [KeyOk, hkn] using hk
    simp only [gen_localNameNe c a x hk']
    by_cases hne : ns = some kn
    · subst hne
      cases hn : kn.isEmpty <;> by_cases hs : p = [42] <;> simp [hn, hs]
    · cases hn : nsFalsy ns <;> by_cases hs : p = [42] <;> simp [hn, hs, hne]

theorem gen_designatesPlain (a : Str) (p : PV) (x : Attr) :
    Gen.PyAttrName.designatesPlain c (.str a) p (pyKey x) (pySplitNamespace x) = .bool (lower a == lower x.key) := by
  unfold Gen.PyAttrName.designatesPlain
  cases h : lower a == lower x.key <;> simp_all [pyKey, bne]

/-- The model's view of the prologue: `none` = early `return`, `some ns` = the loop runs with `ns`. -/
def nsOf (p : Str) : Option (Option Str) :=
  if p = [] then some none
  else match c.nsGet p with
    | some u => some (some u)
    | none => if p = "*".toStr then some none else none

theorem gen_prefixLookup_nsOf (a : PV) (p : Str) :
    Gen.PyAttrName.prefixLookup c a (.str p) =
      match nsOf c p with
      | none => .ret
      | some ns => .go (PV.ofOptStr ns) := by
  rw [gen_prefixLookup, nsOf]
  by_cases hp : p = []
  · simp [hp, PV.ofOptStr]
  · cases hu : c.nsGet p with
    | some u => simp [hp, PV.ofOptStr]
    | none => by_cases hs : p = [42] <;> simp [hp, hs, PV.ofOptStr]

/-- `matchAttributeValues` with namespace support, read with the prologue `nsOf` and the test `desigWith`. -/
theorem values_nsOf (e : Elem) (a p : Str) (h : c.supportsNamespaces = true) :
    matchAttributeValues c e a p =
      match nsOf c p with
      | none => []
      | some ns => (e.attrs.filter (desigWith c ns a p)).map fun x => normalizeValue x.val := by
  unfold matchAttributeValues nsOf desigWith
  rw [if_pos h]
  by_cases hp : p = []
  · subst hp; rfl
  · have hpe : (!p.isEmpty) = true := by cases p <;> simp_all
    rw [if_neg hp, if_pos hpe]
    cases c.nsGet p with
    | some u => rfl
    | none => by_cases hs : p = "*".toStr <;> simp [hs] <;> rfl

/-- A loop whose body decides `g` on every item (and does not raise) yields the values of the items `g` selects,
    in order. -/
theorem pyYieldLoop_bool (f : Attr → PV) (g : Attr → Bool) (l : List Attr) (h : ∀ x ∈ l, f x = .bool (g x)) :
    pyYieldLoop f l = Yields.done ((l.filter g).map fun x => normalizeValue x.val) := by
  induction l with
  | nil => rfl
  | cons x rest ih =>
    have hx := h x (List.mem_cons_self)
    have ih' := ih (fun y hy => h y (List.mem_cons_of_mem _ hy))
    rw [pyYieldLoop, hx, ih']
    cases hg : g x <;> simp [PV.truthy, hg, Yields.done]

def KeysOk (e : Elem) : Prop := ∀ x ∈ e.attrs, KeyOk c x

/-- **The regenerated generator yields what the hand model says, and does not raise**: `matchAttributeValues`,
    the function the C12 / C11 / C01 attribute theorems are about. -/
theorem gen_match_attribute_name (e : Elem) (a p : Str) (hk : KeysOk c e) :
    Gen.PyAttrName.match_attribute_name c e (.str a) (.str p) = Yields.done (matchAttributeValues c e a p) := by
  unfold Gen.PyAttrName.match_attribute_name
  cases h : c.supportsNamespaces with
  | false =>
    simp only [pySupportsNs, h, Yields.ite, PV.truthy, pyIterAttributes]
    rw [pyYieldLoop_bool _ _ _ (fun x _ => gen_designatesPlain c a (.str p) x), mav_no_ns h]
    rfl
  | true =>
    simp only [pySupportsNs, h, Yields.ite, PV.truthy, pyIterAttributes, if_true]
    rw [gen_prefixLookup_nsOf, values_nsOf c e a p h]
    cases nsOf c p with
    | none => rfl
    | some ns => exact pyYieldLoop_bool _ _ _ (fun x hx => gen_designates_ns c a p ns x (hk x hx))

/-- `matchAttributeValues` = the values of the attributes the GENERATED decision selects (with the `ns` the
    generated prologue computed), in document order. -/
theorem values_eq_gen_selected (e : Elem) (a p : Str) (ns : PV) (h : c.supportsNamespaces = true)
    (hk : KeysOk c e) (hpre : Gen.PyAttrName.prefixLookup c (.str a) (.str p) = .go ns) :
    matchAttributeValues c e a p =
      (e.attrs.filter fun x =>
        (Gen.PyAttrName.designates c (.str a) (.str p) ns (pyKey x) (pySplitNamespace x)).truthy).map
        fun x => normalizeValue x.val := by
  rw [values_nsOf c e a p h]
  rw [gen_prefixLookup_nsOf] at hpre
  cases hn : nsOf c p with
  | none => rw [hn] at hpre; cases hpre
  | some ns' =>
    rw [hn] at hpre
    cases hpre
    exact congrArg _ (List.filter_congr fun x hx => by rw [gen_designates_ns c a p ns' x (hk x hx)]; rfl)

/-- … when the generated prologue returns early, nothing is yielded. -/
theorem values_nil_of_gen_ret (e : Elem) (a p : Str) (h : c.supportsNamespaces = true)
    (hk : KeysOk c e) (hpre : Gen.PyAttrName.prefixLookup c (.str a) (.str p) = .ret) :
    matchAttributeValues c e a p = [] := by
  rw [values_nsOf c e a p h]
  rw [gen_prefixLookup_nsOf] at hpre
  cases hn : nsOf c p with
  | none => rfl
  | some ns' => rw [hn] at hpre; cases hpre

/-- without namespace support: the values of the attributes the generated decision of the second loop selects. -/
theorem values_eq_gen_selected_plain (e : Elem) (a p : Str) (h : c.supportsNamespaces = false) :
    matchAttributeValues c e a p =
      (e.attrs.filter fun x =>
        (Gen.PyAttrName.designatesPlain c (.str a) (.str p) (pyKey x) (pySplitNamespace x)).truthy).map
        fun x => normalizeValue x.val := by
  simp only [gen_designatesPlain, PV.truthy]
  exact mav_no_ns h e a p

theorem gen_none_prefix (e : Elem) (a : Str) :
    Gen.PyAttrName.match_attribute_name c e (.str a) .none = Gen.PyAttrName.match_attribute_name c e (.str a) (.str []) := by
  unfold Gen.PyAttrName.match_attribute_name
  have h1 : Gen.PyAttrName.prefixLookup c (.str a) (.str []) = .go .none := by
    rw [gen_prefixLookup]; simp
  rw [gen_prefixLookup_none, h1]
  have hd : ∀ ns k sp, Gen.PyAttrName.designates c (.str a) .none ns k sp =
      Gen.PyAttrName.designates c (.str a) (.str []) ns k sp := by
    intro ns k sp
    unfold Gen.PyAttrName.designates
    have e1 : pyNe .none (.str [42]) = pyNe (.str []) (.str [42]) := by decide
    have e2 : pyEq .none (.str [42]) = pyEq (.str []) (.str [42]) := by decide
    simp only [e1, e2]
  have hp : ∀ k sp, Gen.PyAttrName.designatesPlain c (.str a) .none k sp =
      Gen.PyAttrName.designatesPlain c (.str a) (.str []) k sp := by
    intro k sp; rfl
  simp only [hd, hp]

/-- `util.lower(None)`: with `[*|a]` the third decision raises for an
    attribute whose key has a namespace but no local name, in a non-XML document.  (The hand model says "not
    designated"; the real library raises `TypeError`: documented in DESIGN §1 (the observed list), only API-built keys.) -/
theorem gen_designates_nameless_raises (a key kn : Str) (v : PyVal) (ns : Option Str) (hx : c.isXml = false) :
    Gen.PyAttrName.designates c (.str a) (.str "*".toStr) (PV.ofOptStr ns) (pyKey ⟨key, some kn, none, v⟩)
      (pySplitNamespace ⟨key, some kn, none, v⟩) = .err := by
  unfold Gen.PyAttrName.designates
  have e1 : pyLower .none = .err := rfl
  have e2 : ∀ x, pyNe x .err = .err := by intro x; cases x <;> simp [pyNe, PV.isErr]
  have e3 : ∀ x y, PV.ite .err x y = .err := fun _ _ => rfl
  cases hn : nsFalsy ns <;>
    simp [pyKey, pySplitNamespace, hx, hn, ofOpt_some, ofOpt_none, e1, e2, e3]

variable (e : Elem) (hk : KeysOk c e)
include hk

/-- `[ns|a]`, `ns ↦ u ≠ ''`: ALL the attributes in namespace `u` with local name `a`, document order. -/
theorem gen_attr_ns_values (a p u : Str) (h : c.supportsNamespaces = true)
    (hp : p ≠ []) (hs : p ≠ "*".toStr) (hm : c.nsGet p = some u) (hu : u ≠ []) :
    Gen.PyAttrName.match_attribute_name c e (.str a) (.str p) =
      Yields.done ((e.attrs.filter (C12.inNs c a u)).map fun x => normalizeValue x.val) := by
  rw [gen_match_attribute_name c e a p hk, C12.attr_ns_values c e a p u h hp hs hm hu]

/-- `[p|a]`, `p ↦ ''`: the attributes whose FULL key text equals `a`. -/
theorem gen_attr_ns_empty_values (a p : Str) (h : c.supportsNamespaces = true)
    (hp : p ≠ []) (hs : p ≠ "*".toStr) (hm : c.nsGet p = some []) :
    Gen.PyAttrName.match_attribute_name c e (.str a) (.str p) =
      Yields.done ((e.attrs.filter (fun x => nameEq c a x.key)).map fun x => normalizeValue x.val) := by
  rw [gen_match_attribute_name c e a p hk, C12.attr_ns_empty_values c e a p h hp hs hm]

/-- … exactly what `[a]` / `[|a]` designate. -/
theorem gen_attr_ns_empty_values_eq_bare (a p : Str)
    (hp : p ≠ []) (hs : p ≠ "*".toStr) (hm : c.nsGet p = some []) :
    Gen.PyAttrName.match_attribute_name c e (.str a) (.str p) =
      Gen.PyAttrName.match_attribute_name c e (.str a) (.str []) := by
  rw [gen_match_attribute_name c e a p hk, gen_match_attribute_name c e a [] hk,
    C12.attr_ns_empty_values_eq_bare c e a p hp hs hm]

/-- An unmapped prefix designates nothing. -/
theorem gen_attr_ns_unmapped_values (a p : Str) (h : c.supportsNamespaces = true)
    (hp : p ≠ []) (hs : p ≠ "*".toStr) (hm : c.nsGet p = none) :
    Gen.PyAttrName.match_attribute_name c e (.str a) (.str p) = Yields.done [] := by
  rw [gen_match_attribute_name c e a p hk, C12.attr_ns_unmapped_values c e a p h hp hs hm]

/-- `[*|a]`: ALL the attributes with local name `a` in any namespace, and the attribute `a` in no namespace —
    whatever the prefix map says about `*`. -/
theorem gen_attr_any_values (a : Str) (h : c.supportsNamespaces = true) :
    Gen.PyAttrName.match_attribute_name c e (.str a) (.str "*".toStr) =
      Yields.done ((e.attrs.filter (C12.inAnyNs c a)).map fun x => normalizeValue x.val) := by
  rw [gen_match_attribute_name c e a _ hk, C12.attr_any_values c e a h]

/-- `[a]` and `[|a]`: the attributes whose FULL key text equals `a`. -/
theorem gen_attr_bare_values (a : Str) (h : c.supportsNamespaces = true) :
    Gen.PyAttrName.match_attribute_name c e (.str a) (.str []) =
      Yields.done ((e.attrs.filter (fun x => nameEq c a x.key)).map fun x => normalizeValue x.val) := by
  rw [gen_match_attribute_name c e a [] hk, C12.attr_bare_values c e a h]

omit hk in
/-- HTML without namespaces: the prefix is ignored, the whole key is compared case-insensitively (no hypothesis on
    the keys: the second loop never looks at `split_namespace`). -/
theorem gen_attr_no_ns_support_values (a p : Str) (h : c.supportsNamespaces = false) :
    Gen.PyAttrName.match_attribute_name c e (.str a) (.str p) =
      Yields.done ((e.attrs.filter (fun x => lower a == lower x.key)).map fun x => normalizeValue x.val) := by
  unfold Gen.PyAttrName.match_attribute_name
  simp only [pySupportsNs, h, Yields.ite, PV.truthy, pyIterAttributes]
  exact pyYieldLoop_bool _ _ _ (fun x _ => gen_designatesPlain c a (.str p) x)

end SoupVerif.C12GenAttr
