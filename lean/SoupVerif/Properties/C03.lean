/-
  C03 — All query entry points are views of one match relation (`matchEl`).

  `select` / `iselect` are one function in the model (`SoupSieve.select` is `list(self.iselect(…))`);
  `selectIn` is `CSSMatch.select(limit)`.
-/
import SoupVerif.Properties.C01
namespace SoupVerif.C03
open SoupVerif

/-- `limit <= 0`: all matching element descendants, in the order of the walk. -/
theorem select_all (c : Ctx) (sel : SelList) (tag : Loc) (limit : Int) (hl : limit < 1) :
    selectIn c sel tag limit = (c.tagDescendants tag false).filter (matchEl c sel) := by
  unfold selectIn; simp [hl]

/-- `limit = k > 0`: the first `k` items of the unlimited result. -/
theorem select_limit (c : Ctx) (sel : SelList) (tag : Loc) (k : Int) (hk : 0 < k) :
    selectIn c sel tag k = (selectIn c sel tag 0).take k.toNat := by
  unfold selectIn
  have h1 : ¬ k < 1 := by omega
  simp [h1]

/-- Whatever the limit, the result is a prefix of the unlimited result. -/
theorem select_limit_prefix (c : Ctx) (sel : SelList) (tag : Loc) (limit : Int) :
    selectIn c sel tag limit <+: selectIn c sel tag 0 := by
  by_cases hl : limit < 1
  · rw [select_all c sel tag limit hl, select_all c sel tag 0 (by decide)]
    exact List.prefix_refl _
  · rw [select_limit c sel tag limit (by omega)]
    exact List.take_prefix _ _

/-- Number of results under a positive limit. -/
theorem select_limit_length (c : Ctx) (sel : SelList) (tag : Loc) (k : Int) (hk : 0 < k) :
    (selectIn c sel tag k).length = min k.toNat (selectIn c sel tag 0).length := by
  rw [select_limit c sel tag k hk, List.length_take]

/-- `select_one` is the first item of `select`, or `None`. -/
theorem selectOne_head (E : Env) (x : Bool) (ns : List (Str × Str)) (sel : SelList) (tag : Loc) :
    selectOne E x ns sel tag = (select E x ns sel tag 0).head? := by
  unfold selectOne select
  rw [select_limit _ sel tag 1 (by decide)]
  simp [List.head?_take]

theorem selectOne_none_iff (E : Env) (x : Bool) (ns : List (Str × Str)) (sel : SelList) (tag : Loc) :
    selectOne E x ns sel tag = none ↔ select E x ns sel tag 0 = [] := by
  rw [selectOne_head]; exact List.head?_eq_none_iff

/-- Only elements, never the document object. -/
theorem select_elements_only (c : Ctx) (sel : SelList) (tag : Loc) (limit : Int) :
    ∀ l ∈ selectIn c sel tag limit, l.isTag = true ∧ l.isDoc = false :=
  fun l h => (C01.select_sound c sel tag limit l h).2

/-- Every result matches; and without a limit every matching element descendant is a result. -/
theorem select_mem_iff (c : Ctx) (sel : SelList) (tag : Loc) (limit : Int) (hl : limit < 1) (l : Loc) :
    l ∈ selectIn c sel tag limit ↔ l ∈ c.tagDescendants tag false ∧ matchEl c sel l = true := by
  rw [select_all c sel tag limit hl, List.mem_filter]

theorem select_sublist_descendants (c : Ctx) (sel : SelList) (tag : Loc) (limit : Int) :
    (selectIn c sel tag limit).Sublist (tag.descendants (fun _ => true)) :=
  (C01.select_sublist c sel tag limit).trans (Ctx.descendants_false c tag ▸ c.tagDescendants_sublist tag false)

/-- The candidates of `select` are exactly the elements reachable from `tag` by one or more
    `children` steps. -/
theorem select_candidates (c : Ctx) (tag d : Loc) :
    d ∈ c.tagDescendants tag false ↔ IsDesc tag d ∧ d.isTag = true := by
  unfold Ctx.tagDescendants
  rw [List.mem_filter, Ctx.descendants_false, Loc.mem_descendants_iff]

/-- Every descendant's position has `l.pos` as a strict prefix. -/
theorem desc_pos_prefix (enter : Loc → Bool) (l : Loc) :
    ∀ d ∈ l.descendants enter, ∃ suffix, suffix ≠ [] ∧ d.pos = l.pos ++ suffix := by
  intro d hd
  obtain ⟨i, s, _, hp⟩ := (l.descendants_below enter).shape d hd
  exact ⟨i :: s, by simp, hp⟩

/-- `tag` is not among its own descendants. -/
theorem self_not_descendant (enter : Loc → Bool) (l : Loc) :
    ∀ d ∈ l.descendants enter, d.pos ≠ l.pos := by
  intro d hd
  obtain ⟨s, hs, hp⟩ := desc_pos_prefix enter l d hd
  rw [hp]; exact mt List.append_right_eq_self.mp hs

/-- The walk is in document order: positions strictly increase (lexicographically, a prefix —
    an ancestor — first). -/
theorem descendants_preorder (enter : Loc → Bool) (l : Loc) :
    List.Pairwise lexLt ((l.descendants enter).map Loc.pos) :=
  List.pairwise_map.mpr (l.descendants_below enter).sorted

/-- No location is visited twice. -/
theorem descendants_pos_nodup (enter : Loc → Bool) (l : Loc) :
    ((l.descendants enter).map Loc.pos).Nodup :=
  List.nodup_iff_pairwise_ne.mpr ((descendants_preorder enter l).imp lexLt_ne)

theorem children_pos (l : Loc) (k : Nat) (hk : k < l.children.length) :
    (l.children[k]).pos = l.pos ++ [k] := l.children_pos_get k hk

/-- `select` returns its results in document order … -/
theorem select_preorder (c : Ctx) (sel : SelList) (tag : Loc) (limit : Int) :
    List.Pairwise lexLt ((selectIn c sel tag limit).map Loc.pos) :=
  (descendants_preorder _ tag).sublist ((select_sublist_descendants c sel tag limit).map Loc.pos)

/-- … without duplicates … -/
theorem select_nodup (c : Ctx) (sel : SelList) (tag : Loc) (limit : Int) :
    ((selectIn c sel tag limit).map Loc.pos).Nodup :=
  List.Nodup.sublist ((select_sublist_descendants c sel tag limit).map Loc.pos)
    (descendants_pos_nodup _ tag)

/-- … and never `tag` itself: every result lies strictly below `tag`. -/
theorem select_strictly_below (c : Ctx) (sel : SelList) (tag : Loc) (limit : Int) :
    ∀ r ∈ selectIn c sel tag limit, ∃ suffix, suffix ≠ [] ∧ r.pos = tag.pos ++ suffix :=
  fun r hr => desc_pos_prefix _ tag r ((select_sublist_descendants c sel tag limit).subset hr)

theorem select_never_self (c : Ctx) (sel : SelList) (tag : Loc) (limit : Int) :
    ∀ r ∈ selectIn c sel tag limit, r.same tag = false := by
  intro r hr
  have := self_not_descendant _ tag r ((select_sublist_descendants c sel tag limit).subset hr)
  cases h : r.same tag
  · rfl
  · exact absurd ((Loc.same_iff r tag).mp h) this

theorem closest_spec (E : Env) (x : Bool) (ns : List (Str × Str)) (sel : SelList) (tag : Loc) :
    closest E x ns sel tag = (tag :: tag.ancestors).find? (matchEl (mkCtx E x ns tag) sel) := rfl

/-- The result of `closest` is an element and never the document object (that it matches: `closest_matches`). -/
theorem closest_never_doc (E : Env) (x : Bool) (ns : List (Str × Str)) (sel : SelList) (tag r : Loc)
    (h : closest E x ns sel tag = some r) : r.isDoc = false ∧ r.isTag = true := by
  rw [closest_spec] at h
  have := matchEl_true _ sel r (List.find?_some h)
  exact ⟨this.2, this.1⟩

theorem closest_matches (E : Env) (x : Bool) (ns : List (Str × Str)) (sel : SelList) (tag r : Loc)
    (h : closest E x ns sel tag = some r) : matchEl (mkCtx E x ns tag) sel r = true := by
  rw [closest_spec] at h; exact List.find?_some h

/-- The result is `tag` itself or one of its ancestors (its position is a prefix of `tag`'s). -/
theorem closest_ancestor_or_self (E : Env) (x : Bool) (ns : List (Str × Str)) (sel : SelList)
    (tag r : Loc) (h : closest E x ns sel tag = some r) :
    r = tag ∨ (r ∈ tag.ancestors ∧ ∃ s, s ≠ [] ∧ tag.pos = r.pos ++ s) := by
  rw [closest_spec] at h
  rcases List.mem_cons.mp (List.mem_of_find?_eq_some h) with rfl | hm
  · exact Or.inl rfl
  · exact Or.inr ⟨hm, tag.ancestors_pos r hm⟩

/-- Nearest: nothing strictly nearer on the ancestor-or-self chain matches. -/
theorem closest_nearest (E : Env) (x : Bool) (ns : List (Str × Str)) (sel : SelList) (tag r : Loc)
    (h : closest E x ns sel tag = some r) :
    ∃ nearer farther, tag :: tag.ancestors = nearer ++ r :: farther ∧
      ∀ a ∈ nearer, matchEl (mkCtx E x ns tag) sel a = false := by
  rw [closest_spec] at h
  obtain ⟨_, as, bs, heq, hno⟩ := List.find?_eq_some_iff_append.mp h
  exact ⟨as, bs, heq, fun a ha => by simpa using hno a ha⟩

/-- `None` exactly when nothing on the chain matches. -/
theorem closest_none_iff (E : Env) (x : Bool) (ns : List (Str × Str)) (sel : SelList) (tag : Loc) :
    closest E x ns sel tag = none ↔
      ∀ a ∈ tag :: tag.ancestors, matchEl (mkCtx E x ns tag) sel a = false := by
  rw [closest_spec, List.find?_eq_none]
  simp

/-- `closest` returns `tag` itself when `tag` matches. -/
theorem closest_self (E : Env) (x : Bool) (ns : List (Str × Str)) (sel : SelList) (tag : Loc)
    (h : matchTagApi E x ns sel tag = true) : closest E x ns sel tag = some tag := by
  unfold matchTagApi at h
  rw [closest_spec, List.find?_cons_of_pos h]

theorem filterTag_spec (E : Env) (x : Bool) (ns : List (Str × Str)) (sel : SelList) (tag : Loc) :
    filterTag E x ns sel tag =
      (tag.children.filter Loc.isTag).filter (matchEl (mkCtx E x ns tag) sel) := rfl

/-- `filter(tag)`: exactly the matching element children, in order. -/
theorem filterTag_children_only (E : Env) (x : Bool) (ns : List (Str × Str)) (sel : SelList) (tag r : Loc) :
    r ∈ filterTag E x ns sel tag ↔
      r ∈ tag.children ∧ r.isTag = true ∧ matchEl (mkCtx E x ns tag) sel r = true := by
  rw [filterTag_spec, List.mem_filter, List.mem_filter, and_assoc]

theorem filterTag_sublist (E : Env) (x : Bool) (ns : List (Str × Str)) (sel : SelList) (tag : Loc) :
    (filterTag E x ns sel tag).Sublist tag.children :=
  List.filter_sublist.trans List.filter_sublist

/-- The `isinstance(tag, bs4.Tag)` test of `filter` is implied by `match`. -/
theorem filterTag_eq (E : Env) (x : Bool) (ns : List (Str × Str)) (sel : SelList) (tag : Loc) :
    filterTag E x ns sel tag = tag.children.filter (matchEl (mkCtx E x ns tag) sel) := by
  rw [filterTag_spec, List.filter_filter]
  congr 1
  funext r
  cases h : matchEl (mkCtx E x ns tag) sel r
  · simp
  · simp [(matchEl_true _ sel r h).1]

/-- Each result of `filter(tag)` is a child: its position is `tag.pos ++ [k]`. -/
theorem filterTag_pos (E : Env) (x : Bool) (ns : List (Str × Str)) (sel : SelList) (tag r : Loc)
    (h : r ∈ filterTag E x ns sel tag) : ∃ k, k < tag.children.length ∧ r.pos = tag.pos ++ [k] := by
  have hm := (filterTag_sublist E x ns sel tag).subset h
  obtain ⟨k, hk, rfl⟩ := List.getElem_of_mem hm
  exact ⟨k, hk, tag.children_pos_get k hk⟩

/-- `filter(iterable)`: the `Tag` items that match (each with a matcher made for that item). -/
theorem filterIter_spec (E : Env) (x : Bool) (ns : List (Str × Str)) (sel : SelList) (items : List Loc) :
    filterIter E x ns sel items = (items.filter Loc.isTag).filter (matchTagApi E x ns sel) := by
  unfold filterIter
  rw [List.filter_filter]
  congr 1
  funext n
  exact Bool.and_comm _ _

/-- Order is preserved and nothing is invented. -/
theorem filterIter_sublist (E : Env) (x : Bool) (ns : List (Str × Str)) (sel : SelList) (items : List Loc) :
    (filterIter E x ns sel items).Sublist items := List.filter_sublist

theorem filterIter_mem (E : Env) (x : Bool) (ns : List (Str × Str)) (sel : SelList) (items : List Loc) (r : Loc) :
    r ∈ filterIter E x ns sel items ↔ r ∈ items ∧ r.isTag = true ∧ matchTagApi E x ns sel r = true := by
  unfold filterIter; simp [List.mem_filter]

/-- Strings are dropped. -/
theorem filterIter_drops_strings (E : Env) (x : Bool) (ns : List (Str × Str)) (sel : SelList)
    (items : List Loc) : ∀ r ∈ filterIter E x ns sel items, r.isTag = true ∧ r.isDoc = false := by
  intro r hr
  have := ((filterIter_mem E x ns sel items r).mp hr).2.2
  exact matchEl_true _ sel r this

/-- `:scope` is the element the call was made on … -/
theorem scope_is_target (E : Env) (x : Bool) (ns : List (Str × Str)) (tag : Loc)
    (h : ¬ tag.same tag.top = true) : (mkCtx E x ns tag).scope = some tag := by
  unfold mkCtx; simp [h]

/-- … i.e. whenever `tag` has a parent. -/
theorem scope_is_target' (E : Env) (x : Bool) (ns : List (Str × Str)) (tag : Loc)
    (h : tag.up ≠ []) : (mkCtx E x ns tag).scope = some tag :=
  scope_is_target E x ns tag (fun hs => h ((Loc.same_top_iff tag).mp hs))

/-- Called on the document object, `:scope` is the root element: the first element child of the
    document. -/
theorem scope_of_document (E : Env) (x : Bool) (ns : List (Str × Str)) (tag : Loc)
    (hup : tag.up = []) (hdoc : tag.isDoc = true) :
    (mkCtx E x ns tag).scope = (mkCtx E x ns tag).root ∧
      (mkCtx E x ns tag).root = tag.children.find? Loc.isTag := by
  have htop := Loc.top_of_up_nil tag hup
  have hsame : tag.same tag = true := (Loc.same_iff tag tag).mpr rfl
  unfold mkCtx
  simp [htop, hsame, hdoc]

/-- Called on a detached element (no parent, not a document), `:scope` and `:root` are that
    element. -/
theorem scope_of_detached (E : Env) (x : Bool) (ns : List (Str × Str)) (tag : Loc)
    (hup : tag.up = []) (hdoc : tag.isDoc = false) :
    (mkCtx E x ns tag).scope = some tag ∧ (mkCtx E x ns tag).root = some tag := by
  have htop := Loc.top_of_up_nil tag hup
  have hsame : tag.same tag = true := (Loc.same_iff tag tag).mpr rfl
  unfold mkCtx
  simp [htop, hsame, hdoc]

/-- `match_scope(el)`: `el` is (the same object as) the scope. -/
theorem matchScope_iff (c : Ctx) (l : Loc) :
    matchScope c l = true ↔ ∃ s, c.scope = some s ∧ s.pos = l.pos := by
  unfold matchScope
  cases h : c.scope with
  | none => simp
  | some s => simp [Loc.same_iff]

/-- The matcher made by an entry point never restricts iframes at top level and carries the
    caller's namespace map. -/
theorem mkCtx_fields (E : Env) (x : Bool) (ns : List (Str × Str)) (tag : Loc) :
    (mkCtx E x ns tag).iframeRestrict = false ∧ (mkCtx E x ns tag).namespaces = ns ∧
      (mkCtx E x ns tag).isXml = x := ⟨rfl, rfl, rfl⟩

end SoupVerif.C03
