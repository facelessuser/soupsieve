/-
C16 -- importing works in either order.

The import-time behaviour of every bs4 / soupsieve module is the generated event graph
`Gen.Imports.graph` (rebuilt from the source text on every run); `Model/Imports.lean` executes it the
way CPython's import system does.  The theorems below are about **all** sequences of import statements
typed into one fresh interpreter.  The kernel runs each of the eight statements once in a fresh interpreter
(`first_import`); on this tree they all end in one state in which every statement is settled, so what a
sequence does after its first statement is given by `execEntry_settled`.

Names are numbers in the model; `Gen.Imports.names` gives their text (`names_of_entry_ids`,
`graph_modules`).
-/
import SoupVerif.Generated.Imports
import SoupVerif.Lemmas.Imports

namespace SoupVerif.C16
open SoupVerif.Imports

abbrev G : Graph := Gen.Imports.graph
abbrev ids : EntryIds := Gen.Imports.entryIds
abbrev names : List String := Gen.Imports.names

abbrev fresh : Interp := .empty Gen.Imports.width

abbrev exec (st : Interp) (e : EntryPoint) : Except ImportErr Interp := execEntry G ids st e

/-- A sequence of import statements, one after the other, in the same interpreter. -/
abbrev runSeq (st : Interp) (seq : List EntryPoint) : Except ImportErr Interp := run G ids st seq

/-! ### The generated data is what it is meant to be -/

/-- Node k is module k, parents precede children, every name id is below `width`; there is a text for
every id. -/
theorem graph_wellFormed : (G.wellFormed Gen.Imports.width && (names.length == Gen.Imports.width)) = true := by
  decide +kernel

/-- The translator understood every top-level statement of every module (no `unknown` event). -/
theorem no_unknown_events :
    G.all (fun node => node.events.all (fun e => match e with | .unknown _ => false | _ => true)) = true := by
  decide +kernel

/-- The modules of the graph, by name: the seven soupsieve modules and the bs4 modules on the import chain. -/
theorem graph_modules :
    G.map (fun node => nameOf names node.name) =
      ["bs4", "bs4.element", "soupsieve", "soupsieve.__meta__", "soupsieve.util", "soupsieve.pretty",
       "soupsieve.css_types", "soupsieve.css_match", "soupsieve.css_parser", "bs4.builder",
       "bs4.builder._htmlparser", "bs4.dammit", "bs4.css", "bs4._deprecation", "bs4.formatter", "bs4.filter",
       "bs4._typing", "bs4.exceptions", "bs4._warnings", "bs4.builder._html5lib", "bs4.builder._lxml"] :=
  rfl

/-- Parent / last-component ids agree with the dotted names. -/
theorem graph_dotted_names :
    G.all (fun node =>
      match node.parent with
      | none => nameOf names node.name == nameOf names node.leaf
      | some p => nameOf names node.name == nameOf names p ++ "." ++ nameOf names node.leaf) = true := by
  decide +kernel

/-- The ids the entry points use denote "bs4", "bs4.element", "soupsieve", "soupsieve.css_match",
"soupsieve.css_parser", "soupsieve.css_types", "BeautifulSoup" and the members of `soupsieve.__all__`. -/
theorem names_of_entry_ids :
    [ids.bs4, ids.bs4Element, ids.soupsieve, ids.cssMatch, ids.cssParser, ids.cssTypes, ids.beautifulSoup].map
        (nameOf names) =
      ["bs4", "bs4.element", "soupsieve", "soupsieve.css_match", "soupsieve.css_parser", "soupsieve.css_types",
       "BeautifulSoup"] ∧
    ids.all.map (nameOf names) = Gen.Imports.soupsieveAllNames :=
  ⟨rfl, rfl⟩

/-! ### The first statement -/

/-- Total version of `exec` (a failing statement leaves the state alone; by `any_order_ok` it never happens). -/
def step (s : Interp) (e : EntryPoint) : Interp :=
  match exec s e with
  | .ok s' => s'
  | .error _ => s

/-- `sys.modules` after `import bs4` in a fresh interpreter. -/
def loaded : Interp := step fresh .importBs4

/-- The one evaluation of the import machine: each of the eight statements is run once in a fresh interpreter.
On this tree every one of them ends in `loaded`, where every module is fully initialised, soupsieve and bs4
are present, and nothing is left for any statement to do. The laws of this tree below follow from this without
running the machine again (the pinned graph further down is another tree: `pinned_runs` runs it). -/
theorem first_import :
    (∀ e ∈ entryPoints, exec fresh e = .ok loaded) ∧ loaded.allDone = true ∧ loaded.has ids.soupsieve = true ∧
      loaded.has ids.bs4 = true ∧
      ∀ e ∈ entryPoints, (e.events ids).all (fun ev => ev.settled G loaded) = true := by
  decide +kernel

theorem exec_fresh (e : EntryPoint) : exec fresh e = .ok loaded := first_import.1 e (mem_entryPoints e)

theorem settled_loaded (e : EntryPoint) : (e.events ids).all (fun ev => ev.settled G loaded) = true :=
  first_import.2.2.2.2 e (mem_entryPoints e)

theorem exec_loaded (e : EntryPoint) : exec loaded e = .ok loaded :=
  execEntry_settled G ids loaded e (settled_loaded e)

/-- A non-empty sequence ends where its first statement ends: in `loaded`. -/
theorem runSeq_fresh_cons (e : EntryPoint) (rest : List EntryPoint) : runSeq fresh (e :: rest) = .ok loaded :=
  (run_cons_ok G ids fresh loaded e rest (exec_fresh e)).trans (run_settled G ids loaded settled_loaded rest)

/-- Each statement, typed first into a fresh interpreter, succeeds; every module it
touched (everything that is in `sys.modules` afterwards) is fully initialised, and soupsieve and bs4 are among
them. -/
theorem fresh_import_ok : ∀ e ∈ entryPoints,
    ∃ st, runSeq fresh [e] = .ok st ∧ st.allDone = true ∧ st.has ids.soupsieve = true ∧ st.has ids.bs4 = true :=
  fun e _ => ⟨loaded, runSeq_fresh_cons e [], first_import.2.1, first_import.2.2.1, first_import.2.2.2.1⟩

/-- Every sequence of import statements -- any statements, any order, any length, with
repetitions -- succeeds in a fresh interpreter. -/
theorem any_order_ok (seq : List EntryPoint) : isOk (runSeq fresh seq) = true := by
  cases seq with
  | nil => rfl
  | cons e rest => rw [runSeq_fresh_cons]; rfl

/-- After any sequence every module in `sys.modules` is fully initialised: no partially initialised module survives. -/
theorem no_partial_modules (seq : List EntryPoint) (st : Interp) (h : runSeq fresh seq = .ok st) :
    st.allDone = true := by
  cases seq with
  | nil => cases h; rfl
  | cons e rest =>
    obtain rfl : loaded = st := Except.ok.inj ((runSeq_fresh_cons e rest).symm.trans h)
    exact first_import.2.1

/-! ### Re-import -/

/-- In any interpreter state whatsoever: when the modules a statement names are already in
`sys.modules` -- in whatever state of initialisation -- and the names it fetches are already bound, the
statement succeeds and changes nothing. -/
theorem reimport_noop (st : Interp) (e : EntryPoint)
    (h : (e.events ids).all (fun ev => ev.settled G st) = true) : runSeq st [e] = .ok st :=
  run_cons_ok G ids st st e [] (execEntry_settled G ids st e h)

/-- After the first statement every statement is settled ... -/
theorem settled_after_first {e₀ : EntryPoint} {st : Interp} (h : runSeq fresh [e₀] = .ok st) (e : EntryPoint) :
    (e.events ids).all (fun ev => ev.settled G st) = true := by
  obtain rfl : loaded = st := Except.ok.inj ((runSeq_fresh_cons e₀ []).symm.trans h)
  exact settled_loaded e

/-- ... hence the second, third, ... statement never changes `sys.modules` again: the whole sequence ends in
the state the first statement produced. -/
theorem later_imports_noop (e₀ : EntryPoint) (st : Interp) (h : runSeq fresh [e₀] = .ok st)
    (rest : List EntryPoint) : runSeq fresh (e₀ :: rest) = .ok st :=
  (runSeq_fresh_cons e₀ rest).trans ((runSeq_fresh_cons e₀ []).symm.trans h)

/-! ### The final state does not depend on the order

The model's state does not record the insertion order of `sys.modules`, so "the same final state" is plain
equality: the same modules, each with the same bound names, each fully initialised. -/

/-- On this tree every statement, typed first, leaves the state `import bs4` leaves ... -/
theorem first_import_loads_everything :
    entryPoints.all (fun e => exec fresh e == exec fresh .importBs4) = true := by
  simp only [exec_fresh, beq_self_eq_true, List.all_eq_true, implies_true]

/-- ... so *every* non-empty sequence, whatever it is made of, ends in one and the same state. -/
theorem final_state_unique (seq₁ seq₂ : List EntryPoint) (h₁ : seq₁ ≠ []) (h₂ : seq₂ ≠ []) :
    ∃ st, runSeq fresh seq₁ = .ok st ∧ runSeq fresh seq₂ = .ok st := by
  obtain ⟨e₁, r₁, rfl⟩ := List.exists_cons_of_ne_nil h₁
  obtain ⟨e₂, r₂, rfl⟩ := List.exists_cons_of_ne_nil h₂
  exact ⟨loaded, runSeq_fresh_cons e₁ r₁, runSeq_fresh_cons e₂ r₂⟩

/-- Two sequences made of the same statements in a different order leave
the same `sys.modules` behind. -/
theorem final_state_order_independent (seq₁ seq₂ : List EntryPoint) (p : seq₁.Perm seq₂) :
    ∃ st, runSeq fresh seq₁ = .ok st ∧ runSeq fresh seq₂ = .ok st := by
  cases seq₁ with
  | nil => cases p.nil_eq; exact ⟨fresh, rfl, rfl⟩
  | cons e rest =>
    exact final_state_unique _ _ (List.cons_ne_nil e rest) fun h => List.cons_ne_nil e rest (h ▸ p).eq_nil

/-! ### The reachable states

`fresh` and `loaded` are all there is: the pair is closed under every statement, so it is an inductive
invariant of the interpreter. -/

def reachable : List Interp := [fresh, loaded]

def closedUnder (R : List Interp) : Bool :=
  R.all fun s => entryPoints.all fun e =>
    match exec s e with
    | .ok s' => R.contains s'
    | .error _ => false

/-- `reachable` contains the fresh interpreter and is closed under every statement (in particular no statement
fails in any reachable state). -/
theorem reachable_closed : (reachable.contains fresh && closedUnder reachable) = true := by
  simp [reachable, closedUnder, exec_fresh, exec_loaded]

/-- Every reachable state has only fully initialised modules. -/
theorem reachable_allDone : reachable.all (fun s => s.allDone) = true := by
  simp only [reachable, List.all_cons, List.all_nil, first_import.2.1, Bool.and_true]
  rfl

/-- In every reachable state other than the fresh interpreter every entry point is settled. -/
theorem reachable_settled :
    reachable.all (fun s => s == fresh ||
      entryPoints.all (fun e => (e.events ids).all (fun ev => ev.settled G s))) = true := by
  have : entryPoints.all (fun e => (e.events ids).all (fun ev => ev.settled G loaded)) = true :=
    List.all_eq_true.mpr fun e _ => settled_loaded e
  simp only [reachable, List.all_cons, List.all_nil, this, beq_self_eq_true, Bool.or_true, Bool.true_or,
    Bool.and_true]

/-- On reachable states any two statements commute. -/
theorem step_comm_reachable :
    (reachable.all fun s => entryPoints.all fun e₁ => entryPoints.all fun e₂ =>
      step (step s e₁) e₂ == step (step s e₂) e₁) = true := by
  simp [reachable, step, exec_fresh, exec_loaded]

/-! ### No import-time output -/

/-- No module-level or class-level call of print / warnings.warn / sys.stdout.write / logging.* in soupsieve. -/
theorem no_import_effects : Gen.Imports.importTimeOutput = [] := by decide

/-- The functions that may run at import time contain no function-local import of a bs4 / soupsieve module
(such statements are not part of the event lists). -/
theorem no_import_time_local_imports : Gen.Imports.importTimeLocalImports = [] := by decide

/-! ### The historical defect is expressible -/

/-- css_match as it was: `class _FakeParent(bs4.Tag)` evaluates `bs4.Tag` right after `import bs4`. -/
def insertAfterImportBs4 (tag : Name) : List Event → List Event
  | [] => []
  | .importMod m :: rest =>
    if m == ids.bs4 then .importMod m :: .useAttr ids.bs4 tag false :: rest
    else .importMod m :: insertAfterImportBs4 tag rest
  | e :: rest => e :: insertAfterImportBs4 tag rest

def pinnedGraph : Graph :=
  G.map fun node =>
    if node.name == ids.cssMatch then
      { node with events := insertAfterImportBs4 (idOf names "Tag") node.events }
    else node

/-- The four runs of the pinned graph, evaluated together (they share the graph and the two name look-ups). -/
theorem pinned_runs :
    run pinnedGraph ids fresh [.importBs4] = .error (.attributeError (idOf names "bs4") (idOf names "Tag")) ∧
    (run pinnedGraph ids fresh [.fromBs4ImportBeautifulSoup] =
        .error (.attributeError (idOf names "bs4") (idOf names "Tag")) ∧
      run pinnedGraph ids fresh [.importBs4Element] =
        .error (.attributeError (idOf names "bs4") (idOf names "Tag"))) ∧
    isOk (run pinnedGraph ids fresh [.importSoupsieve, .importBs4]) = true := by
  decide +kernel

/-- With the pinned css_match, `import bs4` in a fresh interpreter dies with
`AttributeError: partially initialized module 'bs4' has no attribute 'Tag'` ... -/
example : run pinnedGraph ids fresh [.importBs4] =
    .error (.attributeError (idOf names "bs4") (idOf names "Tag")) :=
  pinned_runs.1

/-- ... and so do `from bs4 import BeautifulSoup` and `import bs4.element` ... -/
example : run pinnedGraph ids fresh [.fromBs4ImportBeautifulSoup] =
      .error (.attributeError (idOf names "bs4") (idOf names "Tag")) ∧
    run pinnedGraph ids fresh [.importBs4Element] =
      .error (.attributeError (idOf names "bs4") (idOf names "Tag")) :=
  pinned_runs.2.1

/-- ... while `import soupsieve` first still works (which is why the test-suite never saw it). -/
example : isOk (run pinnedGraph ids fresh [.importSoupsieve, .importBs4]) = true :=
  pinned_runs.2.2

end SoupVerif.C16
