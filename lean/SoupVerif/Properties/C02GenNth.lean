/-
  C02: the integer bookkeeping of `CSSMatch.match_nth`, TRANSLATED from the source on every run
  (`gen/gen_py_nth.py` → `Generated/PyNth.lean`), against the hand-written three-loop model `Model/Nth.lean`
  (`Nth.adjust`, `Nth.floorLoop`, `Nth.outer`, `Nth.matchOne`) that `Properties/C02.lean` is about.

  Translated and proved equal to the model: the twelve initial assignments (`init_eq`), the two adjustment loops
  and the whole `if var:` block (`loop1_sim`, `loop2_sim`, `adjustBlock_eq`; that the block ENDS with the model's
  fuels is `Properties/C02GenNthTerm.lean`), the test and the advance of the main loop (`outer_step`).  The child
  walk `Nth.inner` is NOT translated; the translator checks its frame.
  The proofs mention only the names of the generated definitions (`init`, `loop1Cond/Step`, `loop2Cond/Step`, `adjustBlock`,
  `mainCond`, `advance`), no local names.
-/
import SoupVerif.Generated.PyNth
import SoupVerif.Properties.C02
import SoupVerif.Lemmas.PyLoops
namespace SoupVerif
namespace C02GenNth
open Nth PyWhile Gen.PyNth

theorem init_eq (last : Bool) (a b : Int) (var : Bool) (len : Int) :
    init last a b var len =
      (last, len - 1, (if last then len - 1 else 0), 0, a, b, var, 0, 1, (if last then -1 else 1),
        idxOf a b var 0, idxOf a b var 0) := by
  simp [init, idxOf]

/-- the model's `adjust` flag as the Python value of the local (`None`, `-1`, `1`) -/
def encode : Option Bool → Option Int
  | none => none
  | some true => some 1
  | some false => some (-1)

theorem encode_isSome_one (adj : Option Bool) :
    ((encode adj).isSome && (encode adj == some 1)) = (adj == some true) := by
  rcases adj with _ | _ | _ <;> rfl

theorem encode_isSome_neg (adj : Option Bool) :
    ((encode adj).isSome && (encode adj == some (-1))) = (adj == some false) := by
  rcases adj with _ | _ | _ <;> rfl

/-- One turn of the translated loop, in the shape of `Nth.adjust`. -/
theorem loop1_succ (a b L : Int) (n : Nat) (count idx lastIdx : Int) (adj : Option Bool) :
    whileBrk (loop1Cond L a b true 1) (loop1Step L a b true 1) (n + 1) (count, idx, lastIdx, encode adj) =
      if idx < 1 then
        if adj == some true then some (count, idx, lastIdx, encode adj)
        else if 0 - (a * (count + 1) + b) ≥ 0 - idx then
          some (count + 1, a * (count + 1) + b, a * (count + 1) + b, encode (some false))
        else whileBrk (loop1Cond L a b true 1) (loop1Step L a b true 1) n
          (count + 1, a * (count + 1) + b, a * (count + 1) + b, encode (some false))
      else if idx > L + 1 then
        if adj == some false then some (count, idx, lastIdx, encode adj)
        else if a * (count + 1) + b - L ≥ idx - L then
          some (count + 1, a * (count + 1) + b, a * (count + 1) + b, encode (some true))
        else whileBrk (loop1Cond L a b true 1) (loop1Step L a b true 1) n
          (count + 1, a * (count + 1) + b, a * (count + 1) + b, encode (some true))
      else some (count, idx, lastIdx, encode adj) := by
  rw [whileBrk_succ]
  simp only [loop1Cond, loop1Step, encode_isSome_one, encode_isSome_neg, if_true]
  by_cases h1 : idx < 1
  · simp only [h1, decide_true, Bool.true_or, if_true]
    cases adj == some true
    · simp only [Bool.false_eq_true, if_false]
      by_cases h2 : 0 - (a * (count + 1) + b) ≥ 0 - idx
      · simp only [h2, decide_true, if_true]; rfl
      · simp only [h2, decide_false, Bool.false_eq_true, if_false]; rfl
    · rfl
  · simp only [h1, decide_false, Bool.false_or, Bool.false_eq_true, if_false]
    by_cases h3 : idx > L + 1
    · simp only [h3, decide_true, if_true]
      cases adj == some false
      · simp only [Bool.false_eq_true, if_false]
        by_cases h2 : a * (count + 1) + b - L ≥ idx - L
        · simp only [h2, decide_true, if_true]; rfl
        · simp only [h2, decide_false, Bool.false_eq_true, if_false]; rfl
      · rfl
    · simp only [h3, decide_false, Bool.false_eq_true, if_false]

theorem loop1_sim (a b lastIndex : Int) :
    ∀ (fuel : Nat) (count idx lastIdx : Int) (adj : Option Bool) (r : Int × Int × Int × Option Int),
      whileBrk (loop1Cond lastIndex a b true 1) (loop1Step lastIndex a b true 1) fuel
          (count, idx, lastIdx, encode adj) = some r →
      Nth.adjust a b lastIndex fuel count idx adj = (r.1, r.2.1) := by
  intro fuel
  induction fuel with
  | zero =>
    intro count idx lastIdx adj r h
    rw [whileBrk_zero] at h
    split at h <;> cases h
    rfl
  | succ n ih =>
    intro count idx lastIdx adj r h
    rw [loop1_succ] at h
    unfold Nth.adjust
    simp only []
    by_cases h1 : idx < 1
    · simp only [h1, decide_true, Bool.true_or, if_true] at h ⊢
      split at h
      · cases h; rw [if_pos ‹_›]
      · rw [if_neg ‹_›]
        split at h
        · cases h; rw [if_pos ‹_›]
        · rw [if_neg ‹_›]; exact ih _ _ _ _ r h
    · simp only [h1, decide_false, Bool.false_or, if_false] at h ⊢
      by_cases h3 : idx > lastIndex + 1
      · simp only [h3, decide_true, if_true] at h ⊢
        split at h
        · cases h; rw [if_pos ‹_›]
        · rw [if_neg ‹_›]
          split at h
          · cases h; rw [if_pos ‹_›]
          · rw [if_neg ‹_›]; exact ih _ _ _ _ r h
      · simp only [h3, decide_false, Bool.false_eq_true, if_false] at h ⊢
        cases h; rfl

theorem loop2_sim (a b : Int) :
    ∀ (fuel : Nat) (count idx lastIdx lowest : Int) (r : Int × Int × Int × Int),
      whileBrk (loop2Cond a b true 1) (loop2Step a b true 1) fuel (count, idx, lastIdx, lowest) = some r →
      Nth.floorLoop a b fuel count idx lowest = r.2.2.2 := by
  intro fuel
  induction fuel with
  | zero =>
    intro count idx lastIdx lowest r h
    unfold whileBrk at h
    split at h
    · cases h
    · cases h; simp [Nth.floorLoop]
  | succ n ih =>
    intro count idx lastIdx lowest r h
    unfold whileBrk at h
    unfold Nth.floorLoop
    by_cases h1 : idx ≥ 1
    · have hc : loop2Cond a b true 1 (count, idx, lastIdx, lowest) = true := by simp [loop2Cond, h1]
      rw [if_pos hc] at h
      simp [loop2Step] at h
      simp [h1]
      exact ih _ _ _ _ r h
    · have hc : ¬ loop2Cond a b true 1 (count, idx, lastIdx, lowest) = true := by simp [loop2Cond, h1]
      rw [if_neg hc] at h
      cases h; simp [h1]

/-- the model's result of the adjustment: `(count, count_incr, idx)` handed to `Nth.outer` by `Nth.matchOne` -/
def modelAdjust (a b lastIndex : Int) (fuel1 fuel2 : Nat) (count idx : Int) : Int × Int × Int × Int :=
  let r := Nth.adjust a b lastIndex fuel1 count idx none
  if a < 0 then
    let lowest := Nth.floorLoop a b fuel2 r.1 r.2 r.1
    (lowest, -1, a * lowest + b, a * lowest + b)
  else (r.1, 1, a * r.1 + b, a * r.1 + b)

/-- Whenever the generated block ends (with whatever fuels), its result is the model's at the same fuels -/
theorem adjustBlock_eq (fuel1 fuel2 : Nat) (a b lastIndex count idx lastIdx : Int) (r : Int × Int × Int × Int)
    (h : adjustBlock fuel1 fuel2 lastIndex a b true count 1 idx lastIdx = some r) :
    r = modelAdjust a b lastIndex fuel1 fuel2 count idx := by
  unfold adjustBlock at h
  simp only [if_true] at h
  split at h
  · cases h
  · rename_i c1 i1 l1 x1 h1
    have e1 := loop1_sim a b lastIndex fuel1 count idx lastIdx none _ h1
    simp only at e1
    unfold modelAdjust
    rw [e1]
    by_cases ha : a < 0
    · simp only [ha, decide_true, if_true] at h ⊢
      split at h
      · cases h
      · rename_i c2 i2 l2 x2 h2
        have e2 := loop2_sim a b fuel2 c1 i1 l1 c1 _ h2
        simp only at e2
        simp at h
        rw [e2, ← h]
    · simp [ha] at h ⊢
      rw [← h]

theorem adjustBlock_nonvar (fuel1 fuel2 : Nat) (a b lastIndex count incr idx lastIdx : Int) :
    adjustBlock fuel1 fuel2 lastIndex a b false count incr idx lastIdx = some (count, incr, idx, lastIdx) := by
  simp [adjustBlock]

theorem mainCond_eq (lastIndex idx : Int) :
    mainCond lastIndex idx = (decide (1 ≤ idx) && decide (idx ≤ lastIndex + 1)) := rfl

theorem advance_eq (a b : Int) (var : Bool) (incr count idx lastIdx : Int) :
    advance a b var incr count idx lastIdx =
      if count + incr < 0 then ((count + incr, idx, idx), true)
      else if idxOf a b var (count + incr) == idx then ((count + incr, idxOf a b var (count + incr), idx), true)
      else ((count + incr, idxOf a b var (count + incr), idx), false) := by
  unfold advance idxOf
  by_cases h1 : count + incr < 0
  · simp [h1]
  · by_cases h2 : (if var = true then a * (count + incr) + b else a) = idx
    · simp [h1, h2]
    · have h2' : ¬ idx = (if var = true then a * (count + incr) + b else a) := fun e => h2 e.symm
      simp [h1, h2, h2']

/-- One turn of the model's main loop `Nth.outer` IS the generated test, the (untranslated) child walk
    `Nth.inner`, then the generated advance -/
theorem outer_step {α : Type} (counted isEl : α → Bool) (a b : Int) (var : Bool) (lastIndex incr : Int)
    (fuel : Nat) (count idx lastIdx : Int) (rest : List α) (rel : Int) :
    Nth.outer counted isEl a b var lastIndex incr (fuel + 1) count idx rest rel =
      if mainCond lastIndex idx then
        match Nth.inner counted isEl idx rest rel with
        | .hit m => m
        | .cont rest' rel' =>
          match advance a b var incr count idx lastIdx with
          | (_, true) => false
          | ((count', idx', _), false) => Nth.outer counted isEl a b var lastIndex incr fuel count' idx' rest' rel'
      else false := by
  rw [advance_eq, mainCond_eq]
  conv => lhs; unfold Nth.outer
  by_cases hc : (decide (1 ≤ idx) && decide (idx ≤ lastIndex + 1)) = true
  · simp only [hc, if_true]
    cases Nth.inner counted isEl idx rest rel with
    | hit m => rfl
    | cont rest' rel' =>
      by_cases h1 : count + incr < 0
      · simp [h1]
      · by_cases h2 : idxOf a b var (count + incr) = idx
        · simp [h1, h2]
        · simp [h1, h2]
  · simp only [hc]; simp

end C02GenNth
end SoupVerif
