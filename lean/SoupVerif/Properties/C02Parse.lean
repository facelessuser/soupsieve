/-
  C02, from the selector TEXT: every accepted spelling of An+B, end to end.

  `Properties/C02.lean`, `C02Site.lean` (the `¬var` reading: `matchNth_sat`, `matchNth_const_iff`, `Lemmas/NthSite.lean`)
  prove that the matcher model on an nth RECORD `(a, var, b, of_type, last, S)` holds iff the `of S` pre-check passes and `a·n + b = position` for some `n ≥ 0` (`var`), resp.
  `a = position` (`¬var`).  `Properties/C09Compile.lean` proves that the parser model on the TEXT of any
  spelling returns `denote` of the token values.  This file composes them with

    * `Refine/C02ParseAnB.lean` — `anbValue : SAnB → Int × Int`, the CSS value `(A, B)` of a spelled An+B
      (CSS Syntax §6, written independently of the parser), and `parse_anb_value`: the record
      `parse_pseudo_nth` builds designates exactly `{A·n + B | n ≥ 0}`;
    * `Refine/C02ParseSem.lean` — an item that adds nth records adds a conjunct for the matcher.

  TEXTS (`textOf cx tag items g₁ g₂`, hypotheses `Spelled …` = those of `compile_eq_denote`, `NoComma cx`):
      g₁  [ first (comb compound)* comb ]  tag? pre… ITEM post…  g₂
  one complex selector of `C09Compile`'s grammar whose subject compound contains ITEM anywhere among its
  simple selectors; gaps / comments, escapes, letter case, quotes as in that grammar.

  The theorems say, for every tree / context `c` and every located element `l` with element `e`: the text
  compiles to some `sl`, and `matchList c l e sl ↔ (the selector without ITEM matches) ∧ (what ITEM means)`.

  NOT A DEFECT OF THE MATCHER, but worth knowing: the `-child` keywords do NOT compile to the same
  nth records as `:nth-child(1)` / `:nth-last-child(1)`: `parse_pseudo_class` stores an EMPTY `of S` list
  (`ct.SelectorList()`), `parse_pseudo_nth` stores `CSS_NTH_OF_S_DEFAULT` (`*|*`).  The real library agrees
  (`sv.compile(':first-child').selectors != sv.compile(':nth-child(1)').selectors`).  They coincide at the
  matcher (`matchNth_default`: `*|*` counts every element), which is what `keyword_eq_nth_text` states, while
  `keyword_oftype_compile_eq` gives identical structures for the `-of-type` keywords.

  The first conjunct "the selector without ITEM matches" is `matchList c l e (denote B (restV cx tag pre post))`:
  by `compile_rest` this is the compiled form of ANY admissible spelling of the text without ITEM; when
  nothing is left of the subject compound it is the implied `*` (`matchList_rest_tagOnly`).

  OUTSIDE: selector lists with commas (the statement would need the other alternatives), nth items in a
  non-subject compound or inside `:not()` / `:is()` arguments, the grammar of `C09Compile2` (namespaces,
  `:has`, …), patterns on which `compile` raises (among them An+B with more than 4300 digits).

  Concrete texts and trees that instantiate the theorems here (non-vacuity; `nth_of_text_iff` and `keyword_text_iff` only
  through `#guard`s on the model): `Audit/C02Parse.lean`.
-/
import SoupVerif.Refine.C02ParseSem
import SoupVerif.Properties.C09Compile
namespace SoupVerif
namespace C02Parse
open SoupVerif.Parser Escape Spelling Refine.Compile Refine.C02Parse C02Site
open C09Compile (Forms identOK SItem SCompound SSelList SComb STag itemsValue restValue renderItems renderRest
  itemsOK restOK plainName Item Compound SelListV denote finishNested applyItems itemsValue_append restValue_append)

/-- What stands in front of the subject compound: nothing, or `first (comb compound)* comb`. -/
abbrev Cx := Option (SCompound × List (SComb × SCompound) × SComb)

/-- The selector `cx tag? items…`: the subject compound `tag? items…` alone (`cx = none`), or behind the
    compounds and combinators of `cx`. -/
def selOf (cx : Cx) (tag : Option STag) (items : List SItem) : SSelList :=
  match cx with
  | none => .mk (.mk tag items) []
  | some (first, rest₀, cb) => .mk first (rest₀ ++ [(cb, .mk tag items)])

def Cx.value (cx : Cx) : CtxV := cx.map fun q => (q.1.value, restValue q.2.1, q.2.2.value)

/-- No comma among the combinators of the context (the comma is a combinator for the tokenizer): the text is
    ONE complex selector, whose subject is the compound under consideration. -/
def NoComma (cx : Cx) : Prop := NoCommaV cx.value

def textOf (cx : Cx) (tag : Option STag) (items : List SItem) (g₁ g₂ : Str) : Str :=
  g₁ ++ (selOf cx tag items).render ++ g₂

/-- The hypotheses of `C09Compile.compile_eq_denote` for that text: `g₁`, `g₂` are gaps (white space and
    complete comments), every token is spelled admissibly in its context, the text contains no NUL. -/
structure Spelled (cx : Cx) (tag : Option STag) (items : List SItem) (g₁ g₂ : Str) : Prop where
  gap₁ : isGap g₁
  gap₂ : isGap g₂
  ok : (selOf cx tag items).ok g₂
  noNul : ∀ c ∈ textOf cx tag items g₁ g₂, c ≠ 0

/-- The values of the selector without the items under consideration ("the compound's other parts", and the
    context); when nothing is left of the subject compound this is the implied `*`. -/
def restV (cx : Cx) (tag : Option STag) (pre post : List SItem) : SelListV :=
  selV cx.value (.mk (tag.map STag.value) (itemsValue (pre ++ post)))

/-- The empty `of S` list (`ct.SelectorList()`): every element sibling is counted. -/
abbrev noOf : SelList := .mk [] false false

theorem selOf_value (cx : Cx) (tag : Option STag) (items : List SItem) :
    (selOf cx tag items).value = selV cx.value (.mk (tag.map STag.value) (itemsValue items)) := by
  cases cx with
  | none => simp only [selOf, Cx.value, Option.map_none, selV, SSelList.value, SCompound.value, restValue]
  | some q =>
    obtain ⟨first, rest₀, cb⟩ := q
    simp only [selOf, Cx.value, Option.map_some, selV, SSelList.value, SCompound.value, restValue_append,
      restValue]

theorem compile_text (B : Builtins) {cx : Cx} {tag : Option STag} {items : List SItem} {g₁ g₂ : Str}
    (hs : Spelled cx tag items g₁ g₂) :
    Parser.compile pyFoldEnv Gen.lexicon B (textOf cx tag items g₁ g₂) [] 0 =
      .ok (denote B (selV cx.value (.mk (tag.map STag.value) (itemsValue items)))) := by
  rw [← selOf_value]
  exact C09Compile.compile_eq_denote B g₁ g₂ _ hs.gap₁ hs.gap₂ hs.ok hs.noNul

/-- The first conjunct of the theorems below is what any admissible spelling of the rest compiles to. -/
theorem compile_rest (B : Builtins) {cx : Cx} {tag : Option STag} {pre post : List SItem} {g₁ g₂ : Str}
    (hs : Spelled cx tag (pre ++ post) g₁ g₂) :
    Parser.compile pyFoldEnv Gen.lexicon B (textOf cx tag (pre ++ post) g₁ g₂) [] 0 =
      .ok (denote B (restV cx tag pre post)) :=
  compile_text B hs

/-- The text `g₁ cx tag? pre… mids… post… g₂` compiles, and the result matches an element exactly when the
    compiled rest does and the records the items `mids` add all match. -/
theorem compile_insert (B : Builtins) {cx : Cx} (hnc : NoComma cx) {tag : Option STag}
    {pre mids post : List SItem} {g₁ g₂ : Str}
    {rs : List NthSel} (h : AddsNthL B (itemsValue mids) rs) (hs : Spelled cx tag (pre ++ mids ++ post) g₁ g₂) :
    ∃ sl, Parser.compile pyFoldEnv Gen.lexicon B (textOf cx tag (pre ++ mids ++ post) g₁ g₂) [] 0 = .ok sl ∧
      ∀ (c : Ctx) (l : Loc) (e : Elem),
        matchList c l e sl = (matchList c l e (denote B (restV cx tag pre post)) && matchNths c l e rs) := by
  refine ⟨_, compile_text B hs, ?_⟩
  intro c l e
  rw [restV, itemsValue_append, itemsValue_append, itemsValue_append]
  exact matchList_insertL B cx.value hnc _ h _ _ _ c l e

theorem itemsOK_mem : ∀ (items : List SItem) (r : Str), itemsOK items r → ∀ it ∈ items, ∃ r', it.ok r'
  | [], _, _, it, hit => by simp at hit
  | p :: rest, r, h, it, hit => by
    rw [itemsOK] at h
    rcases List.mem_cons.1 hit with rfl | hit
    · exact ⟨_, h.1⟩
    · exact itemsOK_mem rest r h.2 it hit

theorem restOK_snoc : ∀ (l : List (SComb × SCompound)) (x : SComb × SCompound) (r : Str),
    restOK (l ++ [x]) r → x.2.ok r
  | [], x, r, h => by
    simp only [List.nil_append, restOK, renderRest, List.nil_append] at h
    exact h.2.1
  | y :: l, x, r, h => by
    rw [List.cons_append, restOK] at h
    exact restOK_snoc l x r h.2.2

theorem Spelled.item_ok {cx : Cx} {tag : Option STag} {items : List SItem} {g₁ g₂ : Str}
    (hs : Spelled cx tag items g₁ g₂) (it : SItem) (hit : it ∈ items) : ∃ r', it.ok r' := by
  have hok := hs.ok
  cases cx with
  | none =>
    simp only [selOf, SSelList.ok, SCompound.ok, renderRest, List.nil_append] at hok
    exact itemsOK_mem items g₂ hok.1.2.1 it hit
  | some q =>
    obtain ⟨first, rest₀, cb⟩ := q
    simp only [selOf, SSelList.ok] at hok
    have := restOK_snoc rest₀ (cb, .mk tag items) g₂ hok.2
    simp only [SCompound.ok] at this
    exact itemsOK_mem items g₂ this.2.1 it hit

theorem anb_ok_of_nth {f : Forms} {ga gb r : Str} {x : SAnB} (h : (SItem.nth f ga x gb).ok r) : x.ok := by
  rw [SItem.ok] at h
  exact h.2.2.2.2

/-- **C02 from the text.**  For every text `g₁ tag? pre… :NAME( ga x gb ) post… g₂` of `C09Compile`'s grammar
    (any spelling of the name `f` — letter case, escapes —, any accepted spelling `x` of An+B, any gaps), for
    every table `B` of built-in lists: the parser model compiles it, and the matcher model run on the result
    matches the element `e` at `l` exactly when the compound's other parts match, `e` passes the `of S`
    pre-check of the record (`B.nthOfSDefault`, i.e. `*|*`, for the `-child` names; none for `-of-type`) and
    `A·n + B = position` for some integer `n ≥ 0`, where `(A, B) = anbValue x` is the CSS value of `x`. -/
theorem nth_text_iff (B : Builtins) (g₁ g₂ : Str) (cx : Cx) (hnc : NoComma cx) (tag : Option STag)
    (pre post : List SItem)
    (f : Forms) (ga : Str) (x : SAnB) (gb : Str) (k : NthName) (hk : 58 :: lower (valueOf f) = k.text)
    (hs : Spelled cx tag (pre ++ [.nth f ga x gb] ++ post) g₁ g₂) :
    ∃ sl, Parser.compile pyFoldEnv Gen.lexicon B (textOf cx tag (pre ++ [.nth f ga x gb] ++ post) g₁ g₂) [] 0
        = .ok sl ∧
      ∀ (c : Ctx) (l : Loc) (e : Elem), l.elem? = some e →
        (matchList c l e sl = true ↔
          matchList c l e (denote B (restV cx tag pre post)) = true ∧
          preCheck c l e (nthSels B k none) = true ∧
          ∃ n : Nat, (anbValue x).1 * (n : Int) + (anbValue x).2 =
            ((position c l e k.isOfType k.isLast (nthSels B k none) : Nat) : Int)) := by
  have hx : x.ok := by
    obtain ⟨r', h⟩ := hs.item_ok (.nth f ga x gb) (by simp)
    exact anb_ok_of_nth h
  have hv : itemsValue [SItem.nth f ga x gb] = [.nth k.text x.canon] := by
    simp only [itemsValue, SItem.value, hk]
  obtain ⟨sl, hc, hm⟩ := compile_insert B hnc (rs := [nthRecord B k x.canon none])
    (by rw [hv]; exact AddsNthL.single (addsNth_nth B k x.canon)) hs
  refine ⟨sl, hc, ?_⟩
  intro c l e he
  rw [hm, Bool.and_eq_true, matchNths_single, nthRecord, matchNth_designates c l e he,
    parse_anb_value B [] x hx]

/-- … with soupsieve's own built-in lists (`Gen.builtinsRec`, regenerated from `css_parser.py`): the default
    `of S` is `*|*`, which every element passes, so the position is the one among ALL element siblings
    (of the element's own type for `-of-type`; counted from the end for `-last-`). -/
theorem nth_text_iff' (g₁ g₂ : Str) (cx : Cx) (hnc : NoComma cx) (tag : Option STag) (pre post : List SItem)
    (f : Forms) (ga : Str) (x : SAnB) (gb : Str) (k : NthName) (hk : 58 :: lower (valueOf f) = k.text)
    (hs : Spelled cx tag (pre ++ [.nth f ga x gb] ++ post) g₁ g₂) :
    ∃ sl, Parser.compile pyFoldEnv Gen.lexicon Gen.builtinsRec
        (textOf cx tag (pre ++ [.nth f ga x gb] ++ post) g₁ g₂) [] 0 = .ok sl ∧
      ∀ (c : Ctx) (l : Loc) (e : Elem), l.elem? = some e →
        (matchList c l e sl = true ↔
          matchList c l e (denote Gen.builtinsRec (restV cx tag pre post)) = true ∧
          ∃ n : Nat, (anbValue x).1 * (n : Int) + (anbValue x).2 =
            ((position c l e k.isOfType k.isLast noOf : Nat) : Int)) := by
  obtain ⟨sl, hc, hm⟩ := nth_text_iff Gen.builtinsRec g₁ g₂ cx hnc tag pre post f ga x gb k hk hs
  refine ⟨sl, hc, ?_⟩
  intro c l e he
  rw [hm c l e he, position_nthSels]
  simp [preCheck_nthSels]

/-- What `parse_selectors` returns for the argument `S` of `of S` (`FLG_PSEUDO | FLG_OPEN`; the induction
    `run_list` of `C09Compile`), from the values of `S`. -/
def ofList (B : Builtins) (S : SSelList) : SelList := finishNested false (S.value.loopState B true)

theorem ofList_nonEmpty (B : Builtins) (S : SSelList) : (ofList B S).nonEmpty = true := by
  simp [ofList, finishNested, SelList.nonEmpty, SelList.sels]

/-- **`:nth-child(x of S)`, `:nth-last-child(x of S)`**: the same with the compiled `S` as filter — the
    element must itself match `S`, and the position is counted among the siblings that match `S`. -/
theorem nth_of_text_iff (B : Builtins) (g₁ g₂ : Str) (cx : Cx) (hnc : NoComma cx) (tag : Option STag)
    (pre post : List SItem)
    (f : Forms) (ga : Str) (x : SAnB) (dg1 : Str) (m : List Bool) (dg2 : Str) (S : SSelList) (gb : Str)
    (k : NthName) (hk : 58 :: lower (valueOf f) = k.text)
    (hs : Spelled cx tag (pre ++ [.nthOf f ga x dg1 m dg2 S gb] ++ post) g₁ g₂) :
    k.isOfType = false ∧
    ∃ sl, Parser.compile pyFoldEnv Gen.lexicon B
        (textOf cx tag (pre ++ [.nthOf f ga x dg1 m dg2 S gb] ++ post) g₁ g₂) [] 0 = .ok sl ∧
      ∀ (c : Ctx) (l : Loc) (e : Elem), l.elem? = some e →
        (matchList c l e sl = true ↔
          matchList c l e (denote B (restV cx tag pre post)) = true ∧
          matchList c l e (ofList B S) = true ∧
          ∃ n : Nat, (anbValue x).1 * (n : Int) + (anbValue x).2 =
            ((position c l e false k.isLast (ofList B S) : Nat) : Int)) := by
  obtain ⟨r', hit⟩ := hs.item_ok (.nthOf f ga x dg1 m dg2 S gb) (by simp)
  rw [SItem.ok] at hit
  have hx : x.ok := hit.2.2.2.1
  have hkc : k.isOfType = false := by
    have := hit.2.1
    rw [hk] at this
    exact (nthChildName_iff k).1 this
  refine ⟨hkc, ?_⟩
  have hv : itemsValue [SItem.nthOf f ga x dg1 m dg2 S gb] = [.nthOf k.text x.canon S.value] := by
    simp only [itemsValue, SItem.value, hk]
  obtain ⟨sl, hc, hm⟩ := compile_insert B hnc
    (rs := [nthRecord B k x.canon (some (finishNested false (S.value.loopState B true)))])
    (by rw [hv]; exact AddsNthL.single (addsNth_nthOf B k x.canon S.value)) hs
  refine ⟨sl, hc, ?_⟩
  intro c l e he
  have hsel : nthSels B k (some (finishNested false (S.value.loopState B true))) = ofList B S := by
    simp [nthSels, hkc, ofList]
  rw [hm, Bool.and_eq_true, matchNths_single, nthRecord, matchNth_designates c l e he,
    parse_anb_value B [] x hx, hsel, hkc, preCheck_iff, ofList_nonEmpty]
  simp

/-- The compiled compound that consists of a type selector only — or of nothing, which stands for the
    implied `*` (in the default namespace, if one is declared) — tests just the type. -/
theorem matchList_rest_tagOnly (B : Builtins) (tag : Option STag) (c : Ctx) (l : Loc) (e : Elem) :
    matchList c l e (denote B (restV none tag [] [])) =
      matchTag c e (some ⟨(tag.map STag.value).getD [42], none⟩) := by
  rw [restV, Cx.value, Option.map_none, selV, denote_single, SatCore.matchList_single]
  cases tag <;> exact BuilderMerge.matchSel_freeze_tagOnly c l e _

/-- **`E:nth-child(x)`** (and the three other names), `E` a type selector, `*`, or absent: the compiled
    text matches exactly the elements of type `E` (`match_tag`) whose position is `A·n + B` for some `n ≥ 0`. -/
theorem type_nth_text_iff (g₁ g₂ : Str) (tag : Option STag)
    (f : Forms) (ga : Str) (x : SAnB) (gb : Str) (k : NthName) (hk : 58 :: lower (valueOf f) = k.text)
    (hs : Spelled none tag [.nth f ga x gb] g₁ g₂) :
    ∃ sl, Parser.compile pyFoldEnv Gen.lexicon Gen.builtinsRec (textOf none tag [.nth f ga x gb] g₁ g₂) [] 0
        = .ok sl ∧
      ∀ (c : Ctx) (l : Loc) (e : Elem), l.elem? = some e →
        (matchList c l e sl = true ↔
          matchTag c e (some ⟨(tag.map STag.value).getD [42], none⟩) = true ∧
          ∃ n : Nat, (anbValue x).1 * (n : Int) + (anbValue x).2 =
            ((position c l e k.isOfType k.isLast noOf : Nat) : Int)) := by
  obtain ⟨sl, hc, hm⟩ := nth_text_iff' g₁ g₂ none trivial tag [] [] f ga x gb k hk (by simpa using hs)
  refine ⟨sl, by simpa using hc, ?_⟩
  intro c l e he
  rw [hm c l e he, matchList_rest_tagOnly]

/-- **`:first-child`, `:last-child`, `:only-child`, `:first-of-type`, `:last-of-type`, `:only-of-type`** in
    any spelling of the name (letter case, escapes): the compiled text matches exactly when the compound's
    other parts match and the element is at position 1 in each direction the keyword names
    (`kw.forms`: `[child]`, `[lastChild]`, `[child, lastChild]`, `[ofType]`, …). -/
theorem keyword_text_iff (B : Builtins) (g₁ g₂ : Str) (cx : Cx) (hnc : NoComma cx) (tag : Option STag)
    (pre post : List SItem)
    (f : Forms) (kw : Keyword) (hk : 58 :: lower (valueOf f) = kw.text)
    (hs : Spelled cx tag (pre ++ [.pseudo f] ++ post) g₁ g₂) :
    ∃ sl, Parser.compile pyFoldEnv Gen.lexicon B (textOf cx tag (pre ++ [.pseudo f] ++ post) g₁ g₂) [] 0 = .ok sl ∧
      ∀ (c : Ctx) (l : Loc) (e : Elem), l.elem? = some e →
        (matchList c l e sl = true ↔
          matchList c l e (denote B (restV cx tag pre post)) = true ∧
          ∀ k ∈ kw.forms, position c l e k.isOfType k.isLast noOf = 1) := by
  have hv : itemsValue [SItem.pseudo f] = [.pseudo kw.text] := by
    simp only [itemsValue, SItem.value, hk]
  obtain ⟨sl, hc, hm⟩ := compile_insert B hnc (rs := kw.forms.map kwRecord)
    (by rw [hv]; exact AddsNthL.single (addsNth_kw B kw)) hs
  refine ⟨sl, hc, ?_⟩
  intro c l e he
  rw [hm, Bool.and_eq_true, matchNths_iff]
  apply and_congr_right
  intro _
  simp only [List.mem_map, forall_exists_index, and_imp, forall_apply_eq_imp_iff₂]
  apply forall_congr'
  intro k
  apply imp_congr_right
  intro _
  rw [kwRecord, matchNth_const_iff c l e he, preCheck_empty]
  simp only [true_and]
  show (1 : Int) = ((position c l e k.isOfType k.isLast noOf : Nat) : Int) ↔ _
  omega

/-- The item is `:NAME(x)` for the functional name `k`, in any spelling, with an An+B of CSS value `0n+1`
    (`1`, `+1`, `01`, `0n+1`, `-0N + 1`, …). -/
def NthOne (it : SItem) (k : NthName) : Prop :=
  ∃ f ga x gb, it = .nth f ga x gb ∧ 58 :: lower (valueOf f) = k.text ∧ anbValue x = (0, 1)

/-- … an `-of-type` name with a bare integer of value 1 (`1`, `+1`, `01`, …). -/
def NthOneInt (it : SItem) (k : NthName) : Prop :=
  ∃ f ga x gb, it = .nth f ga x gb ∧ 58 :: lower (valueOf f) = k.text ∧ anbValue x = (0, 1) ∧
    hasN x = false ∧ k.isOfType = true

theorem nthOnes_records {mids : List SItem} {ks : List NthName} (h : List.Forall₂ NthOne mids ks)
    (hok : ∀ it ∈ mids, ∃ r, it.ok r) :
    ∃ rs, AddsNthL Gen.builtinsRec (itemsValue mids) rs ∧
      ∀ (c : Ctx) (l : Loc) (e : Elem), l.elem? = some e →
        matchNths c l e rs = matchNths c l e (ks.map kwRecord) := by
  induction h with
  | nil => exact ⟨[], by simpa only [itemsValue] using AddsNthL.nil _, fun _ _ _ _ => rfl⟩
  | @cons it k mids ks h1 _ ih =>
    obtain ⟨rs', ha, hm⟩ := ih (fun it hit => hok it (by simp [hit]))
    obtain ⟨f, ga, x, gb, rfl, hk, hx1⟩ := h1
    obtain ⟨r, hr⟩ := hok (.nth f ga x gb) (by simp)
    have hx := anb_ok_of_nth hr
    refine ⟨[nthRecord Gen.builtinsRec k x.canon none] ++ rs', ?_, ?_⟩
    · simp only [itemsValue, SItem.value, hk]
      exact AddsNthL.cons (addsNth_nth _ k x.canon) ha
    · intro c l e he
      simp only [List.singleton_append, List.map_cons, matchNths]
      rw [matchNth_one c l e he k x hx hx1, hm c l e he]

theorem nthOneInts_records (B : Builtins) {mids : List SItem} {ks : List NthName}
    (h : List.Forall₂ NthOneInt mids ks) (hok : ∀ it ∈ mids, ∃ r, it.ok r) :
    AddsNthL B (itemsValue mids) (ks.map kwRecord) := by
  induction h with
  | nil => simpa only [itemsValue, List.map_nil] using AddsNthL.nil _
  | @cons it k mids ks h1 _ ih =>
    have ha := ih (fun it hit => hok it (by simp [hit]))
    obtain ⟨f, ga, x, gb, rfl, hk, hx1, hn, hot⟩ := h1
    obtain ⟨r, hr⟩ := hok (.nth f ga x gb) (by simp)
    have hx := anb_ok_of_nth hr
    simp only [itemsValue, SItem.value, hk, List.map_cons]
    have := AddsNthL.cons (addsNth_nth B k x.canon) ha
    rwa [nthRecord_one_ofType B k hot x hx hn hx1] at this

/-- **The keyword forms coincide with the An+B forms.**  With soupsieve's built-in lists: a text with a
    keyword (any spelling) and a text with, in its place, the functional forms the keyword abbreviates —
    `:nth-child(x)` for `:first-child`, `:nth-last-child(x)` for `:last-child`, both for `:only-child`, and
    the `-of-type` ones — each `x` ANY accepted spelling of the value `0n+1`, the rest of the two compounds
    having the same values: both compile, and the results match the same elements. -/
theorem keyword_eq_nth_text (g₁ g₂ g₁' g₂' : Str) (cx cx' : Cx) (hnc : NoComma cx) (hnc' : NoComma cx')
    (tag tag' : Option STag) (pre post pre' post' : List SItem)
    (f : Forms) (kw : Keyword) (hk : 58 :: lower (valueOf f) = kw.text)
    (mids : List SItem) (hmids : List.Forall₂ NthOne mids kw.forms)
    (hrest : restV cx tag pre post = restV cx' tag' pre' post')
    (hs : Spelled cx tag (pre ++ [.pseudo f] ++ post) g₁ g₂) (hs' : Spelled cx' tag' (pre' ++ mids ++ post') g₁' g₂') :
    ∃ sl sl',
      Parser.compile pyFoldEnv Gen.lexicon Gen.builtinsRec (textOf cx tag (pre ++ [.pseudo f] ++ post) g₁ g₂) [] 0
        = .ok sl ∧
      Parser.compile pyFoldEnv Gen.lexicon Gen.builtinsRec (textOf cx' tag' (pre' ++ mids ++ post') g₁' g₂') [] 0
        = .ok sl' ∧
      ∀ (c : Ctx) (l : Loc) (e : Elem), l.elem? = some e → matchList c l e sl = matchList c l e sl' := by
  have hv : itemsValue [SItem.pseudo f] = [.pseudo kw.text] := by
    simp only [itemsValue, SItem.value, hk]
  obtain ⟨sl, hc, hm⟩ := compile_insert Gen.builtinsRec hnc (rs := kw.forms.map kwRecord)
    (by rw [hv]; exact AddsNthL.single (addsNth_kw _ kw)) hs
  obtain ⟨rs, ha, hr⟩ := nthOnes_records hmids
    (fun it hit => hs'.item_ok it (by simp [hit]))
  obtain ⟨sl', hc', hm'⟩ := compile_insert Gen.builtinsRec hnc' ha hs'
  refine ⟨sl, sl', hc, hc', ?_⟩
  intro c l e he
  rw [hm, hm', hrest, hr c l e he]

/-- **… and for the `-of-type` keywords the compiled structures are identical** when `x` is a bare integer
    (`:first-of-type` ≡ `:nth-of-type(1)`, `:only-of-type` ≡ `:nth-of-type(+1):nth-last-of-type(01)`, …),
    for every table of built-in lists.  (For the `-child` keywords they are NOT: `parse_pseudo_class` gives
    the record an empty `of S` list, `parse_pseudo_nth` gives it `CSS_NTH_OF_S_DEFAULT`;
    see `Audit/C02Parse.lean`.) -/
theorem keyword_oftype_compile_eq (B : Builtins) (g₁ g₂ g₁' g₂' : Str) (cx cx' : Cx) (hcx : cx.value = cx'.value)
    (tag tag' : Option STag) (pre post pre' post' : List SItem)
    (f : Forms) (kw : Keyword) (hk : 58 :: lower (valueOf f) = kw.text)
    (mids : List SItem) (hmids : List.Forall₂ NthOneInt mids kw.forms)
    (htag : tag.map STag.value = tag'.map STag.value) (hpre : itemsValue pre = itemsValue pre')
    (hpost : itemsValue post = itemsValue post')
    (hs : Spelled cx tag (pre ++ [.pseudo f] ++ post) g₁ g₂) (hs' : Spelled cx' tag' (pre' ++ mids ++ post') g₁' g₂') :
    Parser.compile pyFoldEnv Gen.lexicon B (textOf cx tag (pre ++ [.pseudo f] ++ post) g₁ g₂) [] 0 =
      Parser.compile pyFoldEnv Gen.lexicon B (textOf cx' tag' (pre' ++ mids ++ post') g₁' g₂') [] 0 := by
  have hv : itemsValue [SItem.pseudo f] = [.pseudo kw.text] := by
    simp only [itemsValue, SItem.value, hk]
  have ha := nthOneInts_records B hmids (fun it hit => hs'.item_ok it (by simp [hit]))
  rw [compile_text B hs, compile_text B hs', itemsValue_append, itemsValue_append, itemsValue_append,
    itemsValue_append, hv, htag, hpre, hpost, hcx]
  congr 1
  exact denote_congrL B _ _ _ (AddsNthL.single (addsNth_kw B kw)) ha _ _ _

#print axioms nth_text_iff
#print axioms nth_text_iff'
#print axioms nth_of_text_iff
#print axioms type_nth_text_iff
#print axioms keyword_text_iff
#print axioms keyword_eq_nth_text
#print axioms keyword_oftype_compile_eq

end C02Parse
end SoupVerif
