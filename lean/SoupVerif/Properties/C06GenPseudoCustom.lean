/-
  C06 / C09 about the PROGRAM translated from the source text of `CSSParser.parse_pseudo_class_custom`
  (`gen/gen_py_pcustom.py` → `Generated/PyPseudoCustom.lean`, regenerated on every run; vocabulary and interpreter
  `Model/PseudoCustomProg.lean`).

  * `runCall_pseudo_custom_gen` (**the tie**): the "parse_pseudo_class_custom" branch of the hand model's
    `ParseDisp.runCall` (= `Parser.parseLoop`, `ParseDisp.stepOf_eq_runAction`) IS the interpreter `runCustom` of the
    REGENERATED program, for every environment, loop state and token.
  * `gen_erased_before_subcompile` (the reason `C06.custom_cycle_terminates_*` hold): a source-text entry is compiled
    by a nested parse with `FLG_PSEUDO` whose custom table NO LONGER contains the name being expanded, so a
    self-reference inside it hits `gen_undefined_at_end` instead of recursing; the result is stored and appended.
-/
import SoupVerif.Generated.PyPseudoCustom
import SoupVerif.Model.PseudoCustomProg
import SoupVerif.Lemmas.ParserProgress.Dispatch
import SoupVerif.Lemmas.ParserProgress.CustomMap
namespace SoupVerif
namespace C06GenPseudoCustom
open SoupVerif.Parser ParseDisp CustomProg
open Gen.PyPseudoCustom (program)

/-- **The tie**: the hand model's handler is the interpreter of the regenerated program. -/
theorem runCall_pseudo_custom_gen (env : CharEnv) (L : Lexicon) (B : Builtins) (pattern : Str) (s : LS) (t : Token) :
    runCall env L B pattern s t ("parse_pseudo_class_custom", [], ["has_selector"])
      = runCustom env L B pattern s t program := by
  rw [runCall_custom]
  simp only [runCustom, program, applyFns]
  cases h : s.custom.get? (lower (cssUnescape env L ((t.group ⟨env, L, B, pattern⟩ "name").getD []))) with
  | none => rfl
  | some v => cases v <;> rfl

/-- the name the regenerated program looks up -/
def genName (env : CharEnv) (L : Lexicon) (B : Builtins) (pattern : Str) (t : Token) : Str :=
  lower (cssUnescape env L ((t.group ⟨env, L, B, pattern⟩ "name").getD []))

theorem gen_name_unescaped_then_lowered :
    program.pre.head? = some (.computeName [.lower, .cssUnescape] "name") := by decide

/-- undefined (or being expanded) name: `SelectorSyntaxError` against `self.pattern` at `m.end(0)` -/
theorem gen_undefined_at_end (env : CharEnv) (L : Lexicon) (B : Builtins) (pattern : Str) (s : LS) (t : Token)
    (h : s.custom.get? (genName env L B pattern t) = none) :
    runCustom env L B pattern s t program
      = .done (.error { kind := .undefinedCustom, pattern := pattern, offset := t.stop }) := by
  unfold genName at h
  simp only [runCustom, program, applyFns, h]
  rfl

/-- source-text entry: nested parse of the text (pattern = the looked-up text, flags = `FLG_PSEUDO`, index 0) with a
    table in which the name is UNDEFINED; afterwards the compiled list is stored under the name and appended. -/
theorem gen_erased_before_subcompile (env : CharEnv) (L : Lexicon) (B : Builtins) (pattern : Str) (s : LS) (t : Token)
    (text : Str) (h : s.custom.get? (genName env L B pattern t) = some (.src text)) :
    ∃ pat2 pos c k, runCustom env L B pattern s t program = .nest pat2 pos 0 FLG_PSEUDO c k ∧
      pat2 = text.map (fun c => if c == 0 then 0xFFFD else c) ∧
      c.get? (genName env L B pattern t) = none ∧
      ∀ l p c'', k (l, p, c'') =
        { s with sel := s.sel.addSub l, hasSelector := true,
                 custom := c''.set (genName env L B pattern t) (.compiled l), index := t.stop } := by
  unfold genName at h ⊢
  simp only [runCustom, program, applyFns, h]
  exact ⟨_, _, _, _, rfl, rfl, ParserProgress.Custom.get?_erase_self _ _, fun _ _ _ => rfl⟩

/-- compiled entry (memoised): appended as is; no nested parse; the table is not touched. -/
theorem gen_compiled_reused (env : CharEnv) (L : Lexicon) (B : Builtins) (pattern : Str) (s : LS) (t : Token)
    (l : SelList) (h : s.custom.get? (genName env L B pattern t) = some (.compiled l)) :
    runCustom env L B pattern s t program
      = .cont { s with sel := s.sel.addSub l, hasSelector := true, index := t.stop } := by
  unfold genName at h
  simp only [runCustom, program, applyFns, h]
  rfl

end C06GenPseudoCustom
end SoupVerif
