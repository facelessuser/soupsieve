/-
  C06 (also used by C09 / C20) — the token dispatch, the flag prologue and the flag epilogue of
  `CSSParser.parse_selectors`, TIED TO THE SOURCE TEXT by translation + proof.

  `gen/gen_py_parsedisp.py` reads `parse_selectors` from css_parser.py with `ast` on every run and emits
  `Generated/PyParseDisp.lean`:
    `Gen.PyParseDisp.switches`   — the prologue `is_x = bool(flags & FLG_X)`          (switch, mask), source order
    `Gen.PyParseDisp.finalFlags` — the epilogue `if is_x: selectors[-1].flags = SEL_X` (switch, value), source order
    `Gen.PyParseDisp.dispatch`   — the `if key == … / elif key in (…)` chain           (keys, `ParseDisp.Action`)
  (everything else in the function is compared with templates by the translator, which fails closed).

  Proved here about the hand-written model (`Model/Parser.lean` `parseSelectors` / `parseLoop`,
  `Model/ParserStep.lean` `stepOf` / `finalSels`, the objects of C06.lean, C09Compile.lean, C20Parse.lean):
  the keys of the generated chain are exactly the token names of the regenerated lexicon, each once (every token
  has exactly one branch, no branch is dead); for EVERY string the generated chain selects the action the model
  performs, and the model's step function IS `runAction` of that action; the generated switch and flag tables are
  the tests and assignments the model makes, the LAST row whose switch is on winning.
-/
import SoupVerif.Generated.PyParseDisp
import SoupVerif.Generated.Lexicon
import SoupVerif.Generated.Tables
import SoupVerif.Lemmas.ParserProgress.Fuel
import SoupVerif.Lemmas.ParserProgress.Dispatch
namespace SoupVerif
namespace C06GenDispatch
open Rx SoupVerif.Parser SoupVerif.ParserProgress SoupVerif.ParseDisp

/-- The names a token of lexicon `L` can carry: the plain slots and the sub-patterns of the special slot. -/
def tokenNames (L : Lexicon) : List String :=
  (L.tokens.filter (fun e => !e.2)).map (·.1.name) ++ L.special.map (·.2.name)

/-- Every token the model tokenizer yields carries one of the lexicon's token names. -/
theorem token_name_mem (P : PEnv) (i : Nat) (t : Token) (h : nextToken P i = .ok (some t)) :
    t.name ∈ tokenNames P.L := by
  rcases nextToken_outcome P i with h' | ⟨t', hm, h'⟩ | ⟨k, _, _, h'⟩ <;> rw [h'] at h <;> cases h
  obtain ⟨tr, hmem, _, hname, _⟩ := matchToken_some P i _ hm
  rw [hname]
  rcases hmem with hmem | ⟨nm, hmem⟩
  · exact List.mem_append_left _ (List.mem_map.mpr ⟨_, List.mem_filter.mpr ⟨hmem, rfl⟩, rfl⟩)
  · exact List.mem_append_right _ (List.mem_map.mpr ⟨_, hmem, rfl⟩)

theorem dispatch_keys_eq : keysOf Gen.PyParseDisp.dispatch = modelKeys := rfl

theorem modelKeys_eq_tokenNames (k : String) : k ∈ modelKeys ↔ k ∈ tokenNames Gen.lexicon := by
  have h1 : ∀ k ∈ modelKeys, k ∈ tokenNames Gen.lexicon := by decide +kernel
  have h2 : ∀ k ∈ tokenNames Gen.lexicon, k ∈ modelKeys := by decide +kernel
  exact ⟨h1 k, h2 k⟩

/-- The keys of the chain in the source are exactly the token names of the regenerated lexicon. -/
theorem dispatch_keys (k : String) :
    k ∈ keysOf Gen.PyParseDisp.dispatch ↔ k ∈ tokenNames Gen.lexicon :=
  dispatch_keys_eq ▸ modelKeys_eq_tokenNames k

/-- … each exactly once: no key is shadowed by an earlier branch (no dead branch). -/
theorem dispatch_keys_nodup : (keysOf Gen.PyParseDisp.dispatch).Nodup := by
  rw [dispatch_keys_eq]; decide +kernel

theorem actionOf_isSome_iff (table : List (List String × Action)) (key : String) :
    (actionOf table key).isSome ↔ key ∈ keysOf table := by
  unfold actionOf keysOf
  rw [Option.isSome_map, List.find?_isSome]
  simp only [List.mem_flatMap, List.contains_iff_mem]

/-- Every token the tokenizer can yield (with the regenerated lexicon) has a branch in the source. -/
theorem every_token_has_branch (env : CharEnv) (B : Builtins) (pattern : Str) (i : Nat) (t : Token)
    (h : nextToken ⟨env, Gen.lexicon, B, pattern⟩ i = .ok (some t)) :
    (actionOf Gen.PyParseDisp.dispatch t.name).isSome := by
  rw [actionOf_isSome_iff, dispatch_keys]
  exact token_name_mem _ i t h

theorem actionOf_nil (key : String) : actionOf [] key = none := rfl

theorem actionOf_cons (ks : List String) (a : Action) (t : List (List String × Action)) (key : String) :
    actionOf ((ks, a) :: t) key = if ks.contains key then some a else actionOf t key := by
  unfold actionOf
  rw [List.find?_cons]
  cases ks.contains key <;> rfl

/-- For every string: the branch the source takes for token `key` is the one the model takes.
    Read as a chain of tests, the generated table is the chain of `modelAction`, test by test. -/
theorem dispatch_agrees (key : String) : actionOf Gen.PyParseDisp.dispatch key = modelAction key := by
  unfold Gen.PyParseDisp.dispatch modelAction
  simp only [actionOf_cons, actionOf_nil, List.contains_cons, List.contains_nil, Bool.or_false]
  rfl

/-- The model's step function factors through the table form (`ParseDisp.stepOf_eq_runAction`), hence through the
    GENERATED table: one iteration of the model's loop is the meaning of the branch the SOURCE takes for this token. -/
theorem stepOf_gen (env : CharEnv) (L : Lexicon) (B : Builtins) (pattern : Str) (flags : Nat) (s : LS) :
    stepOf env L B pattern flags s =
      match nextToken ⟨env, L, B, pattern⟩ s.pos with
      | .error e => .done (.error e)
      | .ok none => .done (.ok s)
      | .ok (some t) =>
        runAction env L B pattern flags { s with pos := t.stop } t (actionOf Gen.PyParseDisp.dispatch t.name) := by
  rw [stepOf_eq_runAction]
  simp only [dispatch_agrees]
  rcases nextToken ⟨env, L, B, pattern⟩ s.pos with e | (_ | t) <;> rfl

/-- The loop of the model (the object of C06 / C09Compile / C20Parse), restated over the generated chain. -/
theorem parseLoop_gen (env : CharEnv) (L : Lexicon) (B : Builtins) (pattern : Str) (fuel flags : Nat) (s : LS) :
    parseLoop env L B pattern (fuel + 1) flags s =
      match nextToken ⟨env, L, B, pattern⟩ s.pos with
      | .error e => .error e
      | .ok none => .ok s
      | .ok (some t) =>
        runStep (fun p => parseSelectors env L B p fuel) (parseLoop env L B pattern fuel flags)
          (runAction env L B pattern flags { s with pos := t.stop } t (actionOf Gen.PyParseDisp.dispatch t.name)) := by
  rw [parseLoop_succ, stepOf_gen]
  generalize nextToken ⟨env, L, B, pattern⟩ s.pos = nt
  rcases nt with e | (_ | t) <;> rfl

/-- The masks / values `gen_tables.py` reads from the live modules are the ones the model uses. -/
theorem tables_eq_model :
    Gen.FLG_OPEN = Parser.FLG_OPEN ∧ Gen.FLG_PSEUDO = Parser.FLG_PSEUDO ∧ Gen.FLG_RELATIVE = Parser.FLG_RELATIVE ∧
    Gen.FLG_NOT = Parser.FLG_NOT ∧ Gen.FLG_HTML = Parser.FLG_HTML ∧ Gen.FLG_DEFAULT = Parser.FLG_DEFAULT ∧
    Gen.FLG_INDETERMINATE = Parser.FLG_INDETERMINATE ∧ Gen.FLG_IN_RANGE = Parser.FLG_IN_RANGE ∧
    Gen.FLG_OUT_OF_RANGE = Parser.FLG_OUT_OF_RANGE ∧ Gen.FLG_PLACEHOLDER_SHOWN = Parser.FLG_PLACEHOLDER_SHOWN ∧
    Gen.FLG_FORGIVE = Parser.FLG_FORGIVE ∧
    Gen.gen_SEL_DEFAULT = SEL_DEFAULT ∧ Gen.gen_SEL_INDETERMINATE = SEL_INDETERMINATE ∧
    Gen.gen_SEL_IN_RANGE = SEL_IN_RANGE ∧ Gen.gen_SEL_OUT_OF_RANGE = SEL_OUT_OF_RANGE ∧
    Gen.gen_SEL_PLACEHOLDER_SHOWN = SEL_PLACEHOLDER_SHOWN ∧ Gen.gen_SEL_SCOPE = SEL_SCOPE := by decide +kernel

/-- The prologue of the source: each switch tests the mask of the same name, in this order. -/
theorem switches_masks : Gen.PyParseDisp.switches =
    [("is_open", Gen.FLG_OPEN), ("is_pseudo", Gen.FLG_PSEUDO), ("is_relative", Gen.FLG_RELATIVE), ("is_not", Gen.FLG_NOT),
     ("is_html", Gen.FLG_HTML), ("is_default", Gen.FLG_DEFAULT), ("is_indeterminate", Gen.FLG_INDETERMINATE),
     ("is_in_range", Gen.FLG_IN_RANGE), ("is_out_of_range", Gen.FLG_OUT_OF_RANGE),
     ("is_placeholder_shown", Gen.FLG_PLACEHOLDER_SHOWN), ("is_forgive", Gen.FLG_FORGIVE)] := by decide +kernel

/-- The epilogue of the source: which `SEL_` value each switch assigns, in this order. -/
theorem finalFlags_values : Gen.PyParseDisp.finalFlags =
    [("is_default", Gen.gen_SEL_DEFAULT), ("is_indeterminate", Gen.gen_SEL_INDETERMINATE), ("is_in_range", Gen.gen_SEL_IN_RANGE),
     ("is_out_of_range", Gen.gen_SEL_OUT_OF_RANGE), ("is_placeholder_shown", Gen.gen_SEL_PLACEHOLDER_SHOWN)] := by decide +kernel

/-- The flag the `amp` branch of the source sets is the model's. -/
theorem amp_sets_scope : actionOf Gen.PyParseDisp.dispatch "amp" = some (.setScope Gen.gen_SEL_SCOPE) := by decide +kernel

/-- Each switch of the source is the test the model makes (`has FLG_X` in `parseSelectors` / `parseLoop`). -/
theorem switchOf_model (flags : Nat) :
    let sw := switchOf Gen.PyParseDisp.switches flags
    sw "is_open" = ((flags &&& Parser.FLG_OPEN) != 0) ∧ sw "is_pseudo" = ((flags &&& Parser.FLG_PSEUDO) != 0) ∧
    sw "is_relative" = ((flags &&& Parser.FLG_RELATIVE) != 0) ∧ sw "is_not" = ((flags &&& Parser.FLG_NOT) != 0) ∧
    sw "is_html" = ((flags &&& Parser.FLG_HTML) != 0) ∧ sw "is_default" = ((flags &&& Parser.FLG_DEFAULT) != 0) ∧
    sw "is_indeterminate" = ((flags &&& Parser.FLG_INDETERMINATE) != 0) ∧
    sw "is_in_range" = ((flags &&& Parser.FLG_IN_RANGE) != 0) ∧
    sw "is_out_of_range" = ((flags &&& Parser.FLG_OUT_OF_RANGE) != 0) ∧
    sw "is_placeholder_shown" = ((flags &&& Parser.FLG_PLACEHOLDER_SHOWN) != 0) ∧
    sw "is_forgive" = ((flags &&& Parser.FLG_FORGIVE) != 0) := by
  refine ⟨?_, ?_, ?_, ?_, ?_, ?_, ?_, ?_, ?_, ?_, ?_⟩ <;> rfl

/-- The model's epilogue is the generated table applied in source order — for ALL flags (every combination of
    switches) and all selector lists. -/
theorem finalSels_gen (flags : Nat) (sels : List SelB) :
    finalSels flags sels =
      applyFinal Gen.PyParseDisp.finalFlags (switchOf Gen.PyParseDisp.switches flags) sels := by
  obtain ⟨-, -, -, -, -, h1, h2, h3, h4, h5, -⟩ := switchOf_model flags
  simp only [applyFinal, Gen.PyParseDisp.finalFlags, List.foldl_cons, List.foldl_nil, h1, h2, h3, h4, h5]
  rfl

/-- The flag a table assigns: the value of the LAST row whose switch is on (later assignments overwrite). -/
def resultFlag (final : List (String × Nat)) (sw : String → Bool) : Option Nat :=
  ((final.filter (fun e => sw e.1)).getLast?).map (·.2)

theorem modifyLast_snoc (init : List SelB) (x : SelB) (f : SelB → SelB) :
    modifyLast (init ++ [x]) f = init ++ [f x] := by
  simp [modifyLast, List.reverse_append]

theorem setFlags_setFlags (a b : Nat) (x : SelB) : (x.setFlags a).setFlags b = x.setFlags b := by
  cases x; rfl

theorem resultFlag_cons (e : String × Nat) (rest : List (String × Nat)) (sw : String → Bool) :
    resultFlag (e :: rest) sw =
      match resultFlag rest sw with
      | some v => some v
      | none => if sw e.1 then some e.2 else none := by
  unfold resultFlag
  rw [List.filter_cons]
  generalize rest.filter (fun e => sw e.1) = F
  by_cases he : sw e.1 = true
  · rw [if_pos he]
    cases F with
    | nil => simp [he]
    | cons y ys =>
      rw [List.getLast?_cons_cons]
      cases hz : (y :: ys).getLast? with
      | none => simp at hz
      | some z => rfl
  · rw [if_neg he]
    cases F.getLast? <;> simp [he]

/-- The resulting flag of the last selector, for any table, any combination of switches. -/
theorem applyFinal_last (final : List (String × Nat)) (sw : String → Bool) (init : List SelB) (x : SelB) :
    applyFinal final sw (init ++ [x]) =
      init ++ [match resultFlag final sw with
               | some v => x.setFlags v
               | none => x] := by
  induction final generalizing x with
  | nil => simp [applyFinal, resultFlag]
  | cons e rest ih =>
    have hstep : applyFinal (e :: rest) sw (init ++ [x]) =
        applyFinal rest sw (init ++ [if sw e.1 then x.setFlags e.2 else x]) := by
      simp only [applyFinal, List.foldl_cons]
      by_cases he : sw e.1 = true
      · simp only [he, if_true, modifyLast_snoc]
      · simp only [he, if_false, Bool.false_eq_true]
    rw [hstep, ih, resultFlag_cons]
    cases resultFlag rest sw with
    | some v =>
      by_cases he : sw e.1 = true
      · simp only [he, if_true, setFlags_setFlags]
      · simp only [he, if_false, Bool.false_eq_true]
    | none =>
      by_cases he : sw e.1 = true
      · simp only [he, if_true]
      · simp only [he, if_false, Bool.false_eq_true]

/-- The priority the source order of the epilogue gives, spelled out: the last statement wins. -/
theorem resultFlag_gen (sw : String → Bool) :
    resultFlag Gen.PyParseDisp.finalFlags sw =
      if sw "is_placeholder_shown" then some SEL_PLACEHOLDER_SHOWN
      else if sw "is_out_of_range" then some SEL_OUT_OF_RANGE
      else if sw "is_in_range" then some SEL_IN_RANGE
      else if sw "is_indeterminate" then some SEL_INDETERMINATE
      else if sw "is_default" then some SEL_DEFAULT
      else none := by
  simp only [resultFlag, Gen.PyParseDisp.finalFlags, List.filter_cons, List.filter_nil]
  generalize sw "is_placeholder_shown" = b5
  generalize sw "is_out_of_range" = b4
  generalize sw "is_in_range" = b3
  generalize sw "is_indeterminate" = b2
  generalize sw "is_default" = b1
  cases b1 <;> cases b2 <;> cases b3 <;> cases b4 <;> cases b5 <;> rfl

/-- The model's epilogue on a non-empty list, for every combination of switches. -/
theorem finalSels_result (flags : Nat) (init : List SelB) (x : SelB) :
    finalSels flags (init ++ [x]) =
      init ++ [match resultFlag Gen.PyParseDisp.finalFlags (switchOf Gen.PyParseDisp.switches flags) with
               | some v => x.setFlags v
               | none => x] := by
  rw [finalSels_gen, applyFinal_last]

/-- `parseSelectors` (the object of C06 / C09Compile / C20Parse) with its epilogue restated over the generated tables. -/
theorem parseSelectors_gen (env : CharEnv) (L : Lexicon) (B : Builtins) (pattern : Str)
    (fuel pos index flags : Nat) (custom : Custom) :
    let sw := switchOf Gen.PyParseDisp.switches flags
    parseSelectors env L B pattern (fuel + 1) pos index flags custom =
      match parseLoop env L B pattern fuel flags (initLS pos index flags custom) with
      | .error e => .error e
      | .ok s =>
        let P : PEnv := ⟨env, L, B, pattern⟩
        if sw "is_open" && !s.closed then .error (P.err .unclosedPseudo s.index)
        else
          let s' := cleanupLS flags s
          if !s'.hasSelector then .error (P.err .expectedSelector s'.index)
          else .ok (.mk ((applyFinal Gen.PyParseDisp.finalFlags sw s'.selectors).map SelB.freeze) (sw "is_not") s'.isHtml,
                    s'.pos, s'.custom) := by
  intro sw
  obtain ⟨h1, -, -, h4, -, -, -, -, -, -, -⟩ := switchOf_model flags
  rw [parseSelectors_succ]
  cases parseLoop env L B pattern fuel flags (initLS pos index flags custom) with
  | error e => rfl
  | ok s =>
    simp only [finishSel, finalSels_gen]
    rw [show sw "is_open" = ((flags &&& Parser.FLG_OPEN) != 0) from h1,
        show sw "is_not" = ((flags &&& Parser.FLG_NOT) != 0) from h4]

end C06GenDispatch
end SoupVerif
