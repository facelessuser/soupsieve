/-
C03 (wrapper layer): every module-level query function of `soupsieve/__init__.py` returns what
`compile(pattern, namespaces, flags, custom=custom, **kwargs)` followed by the same-named method
returns.  The facts are `decide`d on `Generated/Wrappers.lean`, which gen/gen_wrappers.py rebuilds
from the source text on every run; dropping `custom=custom` from any wrapper empties `compileKwargs` for that wrapper and makes `wrappers_forward_all` false.
-/
import SoupVerif.Generated.Wrappers

namespace SoupVerif.C03Wrappers
open SoupVerif.Gen.Wrappers

/-- Arguments the same-named `SoupSieve` method must receive. Unknown names get a value no wrapper can have. -/
def expected (name : String) : List String :=
  if name = "closest" then ["tag"]
  else if name = "match" then ["tag"]
  else if name = "filter" then ["iterable"]
  else if name = "select_one" then ["tag"]
  else if name = "select" then ["tag", "limit"]
  else if name = "iselect" then ["tag", "limit"]
  else ["<no such entry point>"]

/-- Positional parameters each wrapper must declare (the call target second, `limit` only on the selecting ones). -/
def expectedParams (name : String) : List String :=
  if name = "select" ∨ name = "iselect" then ["select", "tag", "namespaces", "limit", "flags"]
  else if name = "filter" then ["select", "iterable", "namespaces", "flags"]
  else ["select", "tag", "namespaces", "flags"]

/-- The list covers exactly the six entry points, once each. -/
theorem wrappers_names :
    wrappers.map (·.name) = ["closest", "match", "filter", "select_one", "select", "iselect"] := rfl

/-- Every wrapper hands pattern, namespaces, flags positionally, `custom=custom` by keyword and its
`**kwargs` to `compile`, then calls the method of its own name with the remaining arguments. -/
theorem wrappers_forward_all : ∀ w ∈ wrappers,
    w.compileArgs = ["select", "namespaces", "flags"] ∧ w.compileKwargs = [("custom", "custom")] ∧
    w.passesKwargs = true ∧ w.method = w.name ∧ w.methodArgs = expected w.name := by decide +kernel

/-- The translator recognised every body (`return compile(..).m(..)` / `yield from compile(..).m(..)`), the callee
is the module-level function `compile` (defined once, not shadowed), no keyword is passed to the method, and only
`iselect` is a generator. -/
theorem wrappers_shape : ∀ w ∈ wrappers,
    w.shape ≠ .unknown ∧ (w.shape = .yieldFrom ↔ w.name = "iselect") ∧
    w.callee = "compile" ∧ w.calleeIsModuleFn = true ∧ w.methodKwargs = [] ∧ w.note = "" := by decide +kernel

/-- Signatures: positional parameters as documented, `custom` keyword-only, `**kwargs`, no `*args`. -/
theorem wrappers_signature : ∀ w ∈ wrappers,
    w.params = expectedParams w.name ∧ w.kwonly = ["custom"] ∧ w.vararg = "" ∧ w.varkw = "kwargs" := by decide +kernel

/-- Every forwarded name is a parameter of the wrapper (so it denotes the caller's argument), and every
parameter is forwarded exactly once, either to `compile` or to the method. -/
theorem wrappers_params_partition : ∀ w ∈ wrappers,
    (w.compileArgs ++ w.compileKwargs.map (·.2) ++ w.methodArgs).Perm (w.params ++ w.kwonly) := by decide +kernel

/-- `compile` takes (pattern, namespaces, flags, *, custom, **kwargs): the three positional arguments of the
wrappers land on pattern / namespaces / flags and the keyword on `custom`; `compile` passes all four to the
cached compiler, each in its own argument. -/
theorem compile_signature :
    compileParams = ["pattern", "namespaces", "flags"] ∧ compileKwonly = ["custom"] ∧
    compileVararg = "" ∧ compileVarkw = "kwargs" ∧
    compileCacheCallee = "cp._cached_css_compile" ∧
    compileCacheArgsUse = [["pattern"], ["namespaces"], ["custom"], ["flags"]] :=
  ⟨rfl, rfl, rfl, rfl, rfl, rfl⟩

/-- No other top-level function of `__init__.py` goes through `compile`; the exported `SoupSieve` is css_match's. -/
theorem no_other_callers : otherCompileCallers = [] ∧ soupSieveAlias = "cm.SoupSieve" := ⟨rfl, rfl⟩

/-- `CSSMatch(self.selectors, target, self.namespaces, self.flags).m(args)` -/
def viaMatcher (target m : String) (args : List String) : Call :=
  { kind := .ctor, target := "CSSMatch", ctorArgs := ["self.selectors", target, "self.namespaces", "self.flags"],
    method := m, args := args, kwargs := [] }

/-- `self.m(args, kwargs)` -/
def viaSelf (m : String) (args : List String) (kwargs : List (String × String)) : Call :=
  { kind := .self, target := "self", ctorArgs := [], method := m, args := args, kwargs := kwargs }

theorem delegation_names :
    delegations.map (·.name) = ["match", "closest", "filter", "select_one", "select", "iselect"] := rfl

/-- `match → CSSMatch.match(tag)`, `closest → CSSMatch.closest()`, `filter → CSSMatch.filter()` or per-item
`self.match(node)`, `select_one → self.select(tag, limit=1)`, `select → self.iselect(tag, limit)`,
`iselect → CSSMatch.select(limit)`. Every `CSSMatch` is built from (selectors, the call target, namespaces, flags). -/
theorem delegation_targets :
    delegations =
      [ { name := "match", params := ["tag"], calls := [viaMatcher "tag" "match" ["tag"]] },
        { name := "closest", params := ["tag"], calls := [viaMatcher "tag" "closest" []] },
        { name := "filter", params := ["iterable"],
          calls := [viaMatcher "iterable" "filter" [], viaSelf "match" ["node"] []] },
        { name := "select_one", params := ["tag"], calls := [viaSelf "select" ["tag"] [("limit", "1")]] },
        { name := "select", params := ["tag", "limit"], calls := [viaSelf "iselect" ["tag", "limit"] []] },
        { name := "iselect", params := ["tag", "limit"], calls := [viaMatcher "tag" "select" ["limit"]] } ] :=
  rfl

theorem delegation_ctor_args : ∀ d ∈ delegations, ∀ c ∈ d.calls, c.kind = .ctor →
    c.ctorArgs = ["self.selectors", (d.params.headD "?"), "self.namespaces", "self.flags"] := by decide +kernel

/-- The method parameters agree with what the wrappers pass (`expected`). -/
theorem delegation_params : ∀ d ∈ delegations, d.params = expected d.name := by decide +kernel

/-- A `select` wrapper that does not hand `custom=custom` to `compile`. -/
def droppedCustom : Wrapper :=
  { name := "select", params := ["select", "tag", "namespaces", "limit", "flags"],
    kwonly := ["custom"], vararg := "", varkw := "kwargs", shape := .ret, callee := "compile",
    calleeIsModuleFn := true, compileArgs := ["select", "namespaces", "flags"], compileKwargs := [],
    passesKwargs := true, method := "select", methodArgs := ["tag", "limit"], methodKwargs := [], note := "" }

/-- Expressibility of the historical defect: a wrapper that drops `custom=custom` fails the forwarding predicate. -/
example : ¬ ∀ w ∈ [droppedCustom],
    w.compileArgs = ["select", "namespaces", "flags"] ∧ w.compileKwargs = [("custom", "custom")] ∧
    w.passesKwargs = true ∧ w.method = w.name ∧ w.methodArgs = expected w.name := by decide +kernel

end SoupVerif.C03Wrappers
