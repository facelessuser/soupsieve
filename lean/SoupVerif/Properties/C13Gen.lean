/-
  C13 — `CSSMatch.extended_language_filter`, TRANSLATED from the Python source on every run
  (`gen/gen_py_loops.py` → `Generated/PyLoops.lean`: `langSplit` = the str / list prefix with the two regex
  substitutions on the regexes regenerated from the source, `langInit` = the other statements before the loop,
  `langCond` / `langStep` = header and body of the `while` loop, `langResult` = the final return, `langRun` = the
  whole function over the fuel-bounded iterator `PyLoop.whileLoop` of `Model/PyLoop.lean`), is proved equal to the
  hand-written model `Lang.extendedFilter` (`Model/Lang.lean`) for ALL range and tag strings.

  No `IndexError` escapes and the fuel `len(ranges) + len(subtags) + 2` suffices (`runOn_eq_filterCore`); the
  result holds for every model `low` of `str.lower()` (`langRun_eq_filterCore`).  Indices are integers (`Int`;
  Python indexing incl. negative indices is modelled by `PyLoop.getItem`); they never decrease (`langStep_mono`),
  hence stay ≥ 1 in the loop: the only `IndexError` is `sindex ≥ len(subtags)`.
-/
import SoupVerif.Generated.PyLoops
import SoupVerif.Properties.C13Rx
import SoupVerif.Lemmas.PyLoops

namespace SoupVerif
namespace C13Gen
open LangLemmas Gen.PyLoops PyLoop

theorem getItem_nat {α : Type} (l : List α) (i : Nat) (h : i < l.length) :
    PyLoop.getItem l (i : Int) = .ok l[i] := by
  unfold PyLoop.getItem
  have h1 : ¬ ((i : Int) < 0) := by omega
  simp [h1, h]

theorem getItem_len {α : Type} (l : List α) (i : Nat) (h : l.length ≤ i) :
    PyLoop.getItem l (i : Int) = .error .indexError := by
  unfold PyLoop.getItem
  have h1 : ¬ ((i : Int) < 0) := by omega
  simp [h1, h]

theorem len_eq_one (n : Nat) : (((n : Int)) == 1) = (n == 1) := by
  rw [Bool.eq_iff_iff]; simp only [beq_iff_eq]; omega

theorem langCond_false (ranges subtags : List Str) (a b : Int) :
    langCond ranges subtags ⟨a, b, false⟩ = false := by
  simp [langCond]

theorem langCond_true (ranges subtags : List Str) (i : Nat) (b : Int) :
    langCond ranges subtags ⟨(i : Int), b, true⟩ = decide (i < ranges.length) := by
  simp [langCond]

/-- One run of the body from indices inside both lists: the four branches of `filterLoop`. -/
theorem langStep_nat (ranges subtags : List Str) (i j : Nat) (hi : i < ranges.length) (hj : j < subtags.length) :
    langStep ranges subtags ⟨(i : Int), (j : Int), true⟩ = .ok
      (if ranges[i].isEmpty then ⟨(i : Int), (j : Int), false⟩
       else if subtags[j] == ranges[i] then ⟨((i + 1 : Nat) : Int), ((j + 1 : Nat) : Int), true⟩
       else if subtags[j].length == 1 then ⟨(i : Int), (j : Int), false⟩
       else ⟨(i : Int), ((j + 1 : Nat) : Int), true⟩) := by
  simp only [langStep, getItem_nat _ _ hi, getItem_nat _ _ hj, Int.ofNat_eq_natCast, len_eq_one, Int.natCast_add,
    Int.cast_ofNat_Int]
  simp only [apply_ite Except.ok]

/-- … and the `IndexError` branch: out of subtags. -/
theorem langStep_out (ranges subtags : List Str) (i j : Nat) (hi : i < ranges.length) (hj : subtags.length ≤ j) :
    langStep ranges subtags ⟨(i : Int), (j : Int), true⟩ = .ok ⟨(i : Int), (j : Int), false⟩ := by
  simp only [langStep, getItem_nat _ _ hi, getItem_len _ _ hj]

/-- The loop, started in a state whose flag is still set, ends (within the fuel) with the flag the hand model's
    `filterLoop` computes on the remaining ranges and subtags. -/
theorem loop_spec (ranges subtags : List Str) :
    ∀ (fuel i j : Nat), i ≤ ranges.length → j ≤ subtags.length → subtags.length - j + 1 ≤ fuel →
      ∃ st', PyLoop.whileLoop (langCond ranges subtags) (langStep ranges subtags) fuel ⟨(i : Int), (j : Int), true⟩
          = .ok (some st') ∧
        st'.matched = Lang.filterLoop (ranges.drop i) (subtags.drop j) := by
  intro fuel
  induction fuel with
  | zero => intro i j _ _ hf; omega
  | succ n ih =>
    intro i j hi hj hf
    have stop : ∀ a b : Int, ∃ st', PyLoop.whileLoop (langCond ranges subtags) (langStep ranges subtags) n ⟨a, b, false⟩
        = .ok (some st') ∧ st'.matched = false :=
      fun a b => ⟨_, whileLoop_done _ _ _ _ (langCond_false _ _ _ _), rfl⟩
    by_cases hlt : i < ranges.length
    · have hc : langCond ranges subtags ⟨(i : Int), (j : Int), true⟩ = true := by
        rw [langCond_true]; simpa using hlt
      rw [List.drop_eq_getElem_cons hlt]
      by_cases hjlt : j < subtags.length
      · rw [whileLoop_step _ _ _ _ _ hc (langStep_nat ranges subtags i j hlt hjlt),
          List.drop_eq_getElem_cons hjlt, filterLoop_cons_cons]
        by_cases h1 : ranges[i].isEmpty = true
        · rw [if_pos h1, if_pos h1]; exact stop _ _
        rw [if_neg h1, if_neg h1]
        by_cases h2 : (subtags[j] == ranges[i]) = true
        · rw [if_pos h2, if_pos h2]; exact ih (i + 1) (j + 1) (by omega) (by omega) (by omega)
        rw [if_neg h2, if_neg h2]
        by_cases h3 : (subtags[j].length == 1) = true
        · rw [if_pos h3, if_pos h3]; exact stop _ _
        rw [if_neg h3, if_neg h3, ← List.drop_eq_getElem_cons hlt]
        exact ih i (j + 1) hi (by omega) (by omega)
      · have hs : subtags.drop j = [] := List.drop_eq_nil_of_le (by omega)
        rw [whileLoop_step _ _ _ _ _ hc (langStep_out ranges subtags i j hlt (by omega)), hs, filterLoop_cons_nil]
        exact stop _ _
    · have hc : langCond ranges subtags ⟨(i : Int), (j : Int), true⟩ = false := by
        rw [langCond_true]; simpa using hlt
      have hr : ranges.drop i = [] := List.drop_eq_nil_of_le (by omega)
      rw [whileLoop_done _ _ _ _ hc, hr, filterLoop_nil]
      exact ⟨_, rfl, rfl⟩

/-- `langRun` after the string-level prefix, as a function of the two subtag lists (the same term). -/
def runOn (ranges subtags : List Str) : Except PyLoop.Exc (Option Bool) :=
  match langInit ranges subtags with
  | .error e => .error e
  | .ok (.inl b) => .ok (some b)
  | .ok (.inr st) =>
    match PyLoop.whileLoop (langCond ranges subtags) (langStep ranges subtags) (ranges.length + subtags.length + 2) st with
    | .error e => .error e
    | .ok none => .ok none
    | .ok (some st) => .ok (some (langResult st))

theorem langRun_eq_runOn (low : Str → Str) (range tag : Str) :
    langRun low range tag = runOn (langSplit low range tag).1 (langSplit low range tag).2 := rfl

theorem len_cons_eq_one (x : Str) (xs : List Str) : ((((x :: xs).length : Nat) : Int) == 1) = xs.isEmpty := by
  rw [len_eq_one]; cases xs <;> simp

/-- On non-empty subtag lists (all `str.split` produces) the translated program neither raises nor runs out of
    fuel, and returns what the hand model `Lang.filterCore` returns. -/
theorem runOn_eq_filterCore (r : Str) (rs : List Str) (s : Str) (ss : List Str) :
    runOn (r :: rs) (s :: ss) = .ok (some (Lang.filterCore (r :: rs) (s :: ss))) := by
  have g1 : PyLoop.getItem (r :: rs) 0 = .ok r := getItem_nat (r :: rs) 0 (by simp)
  have g2 : PyLoop.getItem (s :: ss) 0 = .ok s := getItem_nat (s :: ss) 0 (by simp)
  unfold runOn Lang.filterCore
  by_cases h0 : (rs.isEmpty && r.isEmpty) = true
  · -- the early return
    have hi : langInit (r :: rs) (s :: ss) = .ok (.inl (ss.isEmpty && r == s)) := by
      simp only [langInit, g1, g2, Int.ofNat_eq_natCast, len_cons_eq_one]
      simp [h0]
    simp [hi, h0]
  · by_cases h1 : ((r != "*".toStr && r != s) || (r == "*".toStr && ss.isEmpty && s.isEmpty)) = true
    · -- the primary subtag does not match: the loop is not entered
      have hi : langInit (r :: rs) (s :: ss) = .ok (.inr ⟨1, 1, false⟩) := by
        simp only [langInit, g1, g2, Int.ofNat_eq_natCast, len_cons_eq_one]
        simp [h0, h1]
      simp only [hi, whileLoop_done _ _ _ _ (langCond_false _ _ _ _)]
      simp [h0, h1, langResult]
    · have hi : langInit (r :: rs) (s :: ss) = .ok (.inr ⟨((1 : Nat) : Int), ((1 : Nat) : Int), true⟩) := by
        simp only [langInit, g1, g2, Int.ofNat_eq_natCast, len_cons_eq_one]
        simp [h0, h1]
      obtain ⟨st', h3, h4⟩ := loop_spec (r :: rs) (s :: ss) ((r :: rs).length + (s :: ss).length + 2) 1 1
        (by simp) (by simp) (by simp; omega)
      simp only [hi, h3]
      simp [h0, h1, langResult, h4]

/-- The string-level prefix: the regex substitutions are `wildStripRx` (the regex-engine model on the two
    regexes regenerated from the source), then `.lower()` and `.split('-')`. -/
theorem langSplit_eq (low : Str → Str) (range tag : Str) :
    langSplit low range tag = (splitOn 45 (low (wildStripRx range)), splitOn 45 (low tag)) := by
  -- syntactic after unfolding (no evaluation of the regex engine: a changed prefix fails at once)
  simp only [langSplit, wildStripRx, show ("-".toStr : Str) = [45] from by decide,
    show ("".toStr : Str) = [] from by decide]

/-- **`extended_language_filter` translated from the source = the hand model**, for every `str.lower` model `low`
    and all strings: no exception, fuel never exhausted. -/
theorem langRun_eq_filterCore (low : Str → Str) (range tag : Str) :
    langRun low range tag =
      .ok (some (Lang.filterCore (splitOn 45 (low (wildStripRx range))) (splitOn 45 (low tag)))) := by
  rw [langRun_eq_runOn, langSplit_eq]
  obtain ⟨r, rs, hr⟩ := splitOn_exists (low (wildStripRx range))
  obtain ⟨s, ss, hs⟩ := splitOn_exists (low tag)
  simp only [hr, hs]
  exact runOn_eq_filterCore r rs s ss

/-- With `str.lower()` modelled as the hand model models it (`lower`): the translated program is
    `Lang.extendedFilter` on the regex-level wildcard strip. -/
theorem langRun_eq_extendedFilter (range tag : Str) :
    langRun lower range tag = .ok (some (Lang.extendedFilter wildStripRx range tag)) :=
  langRun_eq_filterCore lower range tag

/-- The main C13 theorem about the translated program: RFC 4647 extended filtering with the property's two edge
    rules (`Spec.c13Match`) on the lower-cased subtag lists, for every range text without an empty subtag after
    the first and every tag text. -/
theorem langRun_eq_c13 (range tag : Str) (hne : ∀ x ∈ (splitOn 45 range).tail, x ≠ []) :
    langRun lower range tag =
      .ok (some (Spec.c13Match ((splitOn 45 range).map lower) ((splitOn 45 tag).map lower))) := by
  rw [langRun_eq_extendedFilter, C13Rx.extendedFilter_rx_eq_c13 range tag hne]

theorem langRun_case_insensitive (r r' t t' : Str) (hr : lower r = lower r') (ht : lower t = lower t') :
    langRun lower r t = langRun lower r' t' := by
  rw [langRun_eq_extendedFilter, langRun_eq_extendedFilter, C13Rx.filter_rx_case_insensitive r r' t t' hr ht]

/-! ### The indices never go negative (so `subtags[sindex]` raises exactly when `sindex ≥ len(subtags)`) -/

theorem langStep_mono (ranges subtags : List Str) (st st' : LState)
    (h : langStep ranges subtags st = .ok st') :
    st.rindex ≤ st'.rindex ∧ st.sindex ≤ st'.sindex := by
  unfold langStep at h
  dsimp only at h
  repeat' split at h
  all_goals (cases h; try (constructor <;> (try dsimp only) <;> omega))

theorem langInit_state (ranges subtags : List Str) (st : LState)
    (h : langInit ranges subtags = .ok (.inr st)) : st.rindex = 1 ∧ st.sindex = 1 := by
  unfold langInit at h
  dsimp only at h
  repeat' split at h
  all_goals (cases h; try (constructor <;> rfl))

/-- For a non-negative index, `l[i]` raises exactly when `i ≥ len(l)`. -/
theorem getItem_error_iff {α : Type} (l : List α) (i : Int) (h : 0 ≤ i) :
    PyLoop.getItem l i = .error .indexError ↔ (l.length : Int) ≤ i := by
  obtain ⟨n, rfl⟩ := Int.eq_ofNat_of_zero_le h
  by_cases hn : n < l.length
  · rw [getItem_nat l n hn]; constructor
    · intro hh; cases hh
    · intro hh; omega
  · rw [getItem_len l n (by omega)]; constructor
    · intro _; omega
    · intro _; rfl

/-- the answer of a run: `some b` = returned `b`; `none` = raised or out of fuel -/
def answer : Except PyLoop.Exc (Option Bool) → Option Bool
  | .ok (some b) => some b
  | _ => none

example : answer (langRun lower "de-*-DE".toStr "de-Latn-de".toStr) = some true := by decide_lit
example : answer (langRun lower "de-de".toStr "de-x-de".toStr) = some false := by decide_lit
example : answer (langRun lower "*".toStr "".toStr) = some false := by decide_lit
example : answer (langRun lower "".toStr "".toStr) = some true := by decide_lit
example : answer (langRun lower "*-ch".toStr "de-latn-ch".toStr) = some true := by decide_lit
-- the iterator reports an exhausted fuel (never the case for `langRun`, by `langRun_eq_filterCore`)
example : PyLoop.whileLoop (fun n : Nat => decide (n < 5)) (fun n => .ok (n + 1)) 3 0 = .ok none := by rfl
example : PyLoop.whileLoop (fun n : Nat => decide (n < 5)) (fun n => .ok (n + 1)) 5 0 = .ok (some 5) := by rfl
example : PyLoop.getItem [10, 20, 30] (-1) = .ok 30 ∧ PyLoop.getItem [10, 20, 30] 3 = .error .indexError ∧
    PyLoop.getItem [10, 20, 30] (-4) = .error .indexError := ⟨by rfl, by rfl, by rfl⟩

end C13Gen
end SoupVerif
