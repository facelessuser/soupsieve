/-
  C17 — HTML state pseudo-classes follow their definitions and partition laws.

  The laws are about the terms `Gen.CSS_*` generated from the live Python module
  (`Generated/Builtins.lean`), under an arbitrary context `c` with `c.isHtml = true`, at an
  arbitrary location `l` / element `e`.  `matchList c l e Gen.CSS_X` is what the matcher computes
  for the pseudo-class `:x` (the parser appends `Gen.CSS_X` to the `subs` of the compound, see
  `link_eq_anylink`).

  In order: the shape of each list as a formula on the element (`X_eq`) and the partition laws of the pairs
  required / optional, enabled / disabled, read-write / read-only, in-range / out-of-range; the range state of
  `match_range` behind the last pair (the keyword test on `type`, the readings of `min` / `max` / `value`); the
  definitions of `:placeholder-shown`, `:default`, `:indeterminate`, `:disabled` on the tree, with the two scans the
  matcher runs for them (the first submit button of the form, the checked radio button of the group) shown to
  select only what their guard selects; that every walk stops at the `iframe` boundary of the element's own
  document; and `:dir()`: `match_dir` as a walk along the ancestors, its partition and the list the parser appends.
-/
import SoupVerif.Lemmas.StateLawsSem
import SoupVerif.Properties.C18Range
import SoupVerif.Lemmas.StateLawsRel
import SoupVerif.Lemmas.StateLawsDir
import SoupVerif.Lemmas.RadioScan
import SoupVerif.Generated.Lexicon
import SoupVerif.Lemmas.StrLit
namespace SoupVerif.C17
open SoupVerif StateLaws C11 Names

/-- Evaluate a re-stated built-in down to the atoms of `StateLawsSem`. -/
macro "state_simp" : tactic =>
  `(tactic| simp (disch := decide_lit) only [matchList_isL, matchList_notL, matchAny_cons, matchAny_nil,
      matchSel_cmpG, matchNths_nil, relPart_E, flagPart_zero, matchSubs_cons, matchSubs_nil, matchTag_none, matchTag_T, matchTag_HT,
      matchTag_HT_star, matchAttributes_nil, matchAttributes_A, htmlOnly_hasAttr, matchAttributes_Aty,
      matchAttributes_Aval, matchAttributes_cons2, Bool.and_true, Bool.true_and, Bool.or_false, Bool.false_or,
      List.isEmpty_cons, Bool.not_false, List.map_cons, List.map_nil, Bool.bne_false])

variable (c : Ctx) (l : Loc) (e : Elem)

/-- The element is in the XHTML namespace (always, when the parser keeps no namespaces). -/
abbrev isHtmlEl (c : Ctx) (e : Elem) : Bool := c.isHtmlTag e

/-- An HTML element whose name is one of `names`. -/
def htmlNamed (c : Ctx) (e : Elem) (names : List String) : Bool :=
  c.isHtmlTag e && names.any (tagIs c e)

/-- Form controls that can be enabled/disabled, from the HTML list
    (button, input, select, textarea, optgroup, option, fieldset) — with soupsieve's exclusion of
    `<input type=hidden>`. -/
def isFormControl (c : Ctx) (e : Elem) : Bool :=
  c.isHtmlTag e &&
    (["button", "select", "textarea", "fieldset", "optgroup", "option"].any (tagIs c e) ||
      (tagIs c e "input" && !typeIs c e "hidden"))

/-- What the matcher computes for `:is(input:not([type=hidden]), button, …, option, fieldset)`. -/
theorem ctl8_eq :
    matchList c.htmlOnly l e ctl8 =
      (["button", "select", "textarea", "fieldset", "optgroup", "option"].any (tagIs c e) ||
        (tagIs c e "input" && !typeIs c e "hidden")) := by
  unfold ctl8
  state_simp
  simp only [List.any_cons, List.any_nil, Bool.or_false]
  ac_rfl

/-- The five-element variant used below a disabled fieldset. -/
theorem ctl5_eq :
    matchList c.htmlOnly l e ctl5 =
      (["button", "select", "textarea", "fieldset"].any (tagIs c e) ||
        (tagIs c e "input" && !typeIs c e "hidden")) := by
  unfold ctl5
  state_simp
  simp only [List.any_cons, List.any_nil, Bool.or_false]
  ac_rfl

theorem ctl5_imp_ctl8 (h : matchList c.htmlOnly l e ctl5 = true) :
    matchList c.htmlOnly l e ctl8 = true := by
  rw [ctl5_eq] at h; rw [ctl8_eq]
  simp only [List.any_cons, List.any_nil, Bool.or_false, Bool.or_eq_true] at h ⊢
  rcases h with (h | h | h | h) | h <;> simp only [h, true_or, or_true]

/-- Two tests that split `P` by a third: never both, one of them iff `P`, and under `P` exactly one.  The pair laws
    below are instances; where a test is not given in the shape `P && x` a lemma `*_split` brings it there
    (`!!x` for `x` when the other test is the one written with `!`). -/
theorem partition_laws {A B P x : Bool} (hA : A = (P && x)) (hB : B = (P && !x)) :
    ¬ (A = true ∧ B = true) ∧ ((A = true ∨ B = true) ↔ P = true) ∧ (P = true → A = !B) := by
  subst hA hB; cases P <;> cases x <;> simp

theorem required_eq (hc : c.isHtml = true) :
    matchList c l e Gen.CSS_REQUIRED =
      (htmlNamed c e ["input", "textarea", "select"] && hasAttr c e "required") := by
  rw [shape_REQUIRED, matchList_html c l e hc]
  state_simp
  simp only [htmlNamed, List.any_cons, List.any_nil, Bool.or_false]
  cases c.isHtmlTag e <;> cases hasAttr c e "required" <;> simp

theorem optional_eq (hc : c.isHtml = true) :
    matchList c l e Gen.CSS_OPTIONAL =
      (htmlNamed c e ["input", "textarea", "select"] && !hasAttr c e "required") := by
  rw [shape_OPTIONAL, matchList_html c l e hc]
  state_simp
  simp only [htmlNamed, List.any_cons, List.any_nil, Bool.or_false]
  cases c.isHtmlTag e <;> cases hasAttr c e "required" <;> simp

theorem required_optional_disjoint (hc : c.isHtml = true) :
    ¬ (matchList c l e Gen.CSS_REQUIRED = true ∧ matchList c l e Gen.CSS_OPTIONAL = true) :=
  (partition_laws (required_eq c l e hc) (optional_eq c l e hc)).1

/-- `:required` and `:optional` together cover exactly the HTML `input`, `select`, `textarea`. -/
theorem required_optional_partition (hc : c.isHtml = true) :
    (matchList c l e Gen.CSS_REQUIRED = true ∨ matchList c l e Gen.CSS_OPTIONAL = true) ↔
      htmlNamed c e ["input", "textarea", "select"] = true :=
  (partition_laws (required_eq c l e hc) (optional_eq c l e hc)).2.1

/-- On an HTML `input`, `select` or `textarea` exactly one of `:required`, `:optional` holds. -/
theorem required_xor_optional (hc : c.isHtml = true)
    (hn : htmlNamed c e ["input", "textarea", "select"] = true) :
    matchList c l e Gen.CSS_REQUIRED = !matchList c l e Gen.CSS_OPTIONAL :=
  (partition_laws (required_eq c l e hc) (optional_eq c l e hc)).2.2 hn

/-- `html|optgroup[disabled] >` as evaluated at `l` (spelled out in `disabled_def`). -/
def inDisabledOptgroup (c : Ctx) (l : Loc) : Bool := relPart c.htmlOnly l (disabledParent "optgroup")
/-- `html|fieldset[disabled] >` -/
def childOfDisabledFieldset (c : Ctx) (l : Loc) : Bool := relPart c.htmlOnly l (disabledParent "fieldset")
/-- `html|fieldset[disabled] > html|*:not(legend:nth-of-type(1)) ` (descendant) -/
def belowDisabledFieldsetNotLegend (c : Ctx) (l : Loc) : Bool :=
  relPart c.htmlOnly l notFirstLegendInDisabledFieldset

/-- The four alternatives of `:disabled`; the three relational ones kept symbolic. -/
theorem disabled_eq (hc : c.isHtml = true) :
    matchList c l e Gen.CSS_DISABLED =
      (c.isHtmlTag e &&
        ((hasAttr c e "disabled" && matchList c.htmlOnly l e ctl8) ||
         (tagIs c e "option" && inDisabledOptgroup c l) ||
         (matchList c.htmlOnly l e ctl5 && childOfDisabledFieldset c l) ||
         (matchList c.htmlOnly l e ctl5 && belowDisabledFieldsetNotLegend c l))) := by
  rw [shape_DISABLED, matchList_html c l e hc]
  state_simp
  unfold inDisabledOptgroup childOfDisabledFieldset belowDisabledFieldsetNotLegend
  cases c.isHtmlTag e <;> simp [Bool.or_assoc]

/-- The subject compound of every alternative of `:disabled` is within the control list. -/
theorem disabled_imp_control (hc : c.isHtml = true) (h : matchList c l e Gen.CSS_DISABLED = true) :
    isFormControl c e = true := by
  rw [disabled_eq c l e hc] at h
  unfold isFormControl
  rw [← ctl8_eq c l e]
  have h5 := ctl5_imp_ctl8 c l e
  have hopt : tagIs c e "option" = true → matchList c.htmlOnly l e ctl8 = true := by
    intro ho; rw [ctl8_eq]; simp [ho]
  revert h h5 hopt
  cases c.isHtmlTag e <;> cases matchList c.htmlOnly l e ctl8 <;>
    cases matchList c.htmlOnly l e ctl5 <;> cases tagIs c e "option" <;> simp

/-- `:enabled` = control ∧ ¬`:disabled`. -/
theorem enabled_eq (hc : c.isHtml = true) :
    matchList c l e Gen.CSS_ENABLED = (isFormControl c e && !matchList c l e Gen.CSS_DISABLED) := by
  rw [shape_ENABLED, matchList_html c l e hc]
  state_simp
  rw [matchList_htmlOnly' c l e Gen.CSS_DISABLED rfl, ctl8_eq]
  unfold isFormControl
  rw [Bool.and_assoc]

theorem disabled_split (hc : c.isHtml = true) :
    matchList c l e Gen.CSS_DISABLED = (isFormControl c e && !!matchList c l e Gen.CSS_DISABLED) := by
  have := disabled_imp_control c l e hc
  revert this
  cases matchList c l e Gen.CSS_DISABLED <;> cases isFormControl c e <;> simp

theorem enabled_disabled_disjoint (hc : c.isHtml = true) :
    ¬ (matchList c l e Gen.CSS_ENABLED = true ∧ matchList c l e Gen.CSS_DISABLED = true) :=
  (partition_laws (enabled_eq c l e hc) (disabled_split c l e hc)).1

/-- `:enabled` and `:disabled` together cover exactly the form controls. -/
theorem enabled_or_disabled_iff_control (hc : c.isHtml = true) :
    (matchList c l e Gen.CSS_ENABLED = true ∨ matchList c l e Gen.CSS_DISABLED = true) ↔
      isFormControl c e = true :=
  (partition_laws (enabled_eq c l e hc) (disabled_split c l e hc)).2.1

/-- On a form control exactly one of the two holds. -/
theorem enabled_xor_disabled (hc : c.isHtml = true) (hk : isFormControl c e = true) :
    matchList c l e Gen.CSS_ENABLED = !matchList c l e Gen.CSS_DISABLED :=
  (partition_laws (enabled_eq c l e hc) (disabled_split c l e hc)).2.2 hk

/-- A keyword against a value, as the selectors `[type=kw]` compare them (`litsEq`, folding unless the document is XML)
    and as the scans of `match_default`, `match_indeterminate` and `match_range` do (`lower` unless XML): the same
    test, in XML and in the ASCII environment. -/
theorem kwTest (c : Ctx) (kw s : Str) (henv : c.isXml = true ∨ c.env = asciiEnv) :
    litsEq c.env (!c.isXml) kw s = (if c.isXml then s == kw else lower s == lower kw) := by
  cases hx : c.isXml
  · rcases henv with h | h
    · rw [hx] at h; cases h
    · rw [h]; exact litsEq_ic _ _
  · exact litsEq_exact _ _ _

/-- `[type=v]` in the ASCII environment (as in the `[type=hidden]` exclusion): SOME `type` attribute has the
    value, up to ASCII case in an HTML document, exactly in an XHTML document parsed as XML. -/
theorem typeIs_ascii (v : String) (henv : c.env = asciiEnv) :
    typeIs c e v = (attrVals c e "type").any fun s =>
      if c.isXml then s == v.toStr else lower s == lower v.toStr := by
  unfold typeIs attrEq
  congr 1; funext s
  exact kwTest c _ s (.inr henv)

/-- The single-attribute formulation (the test reads THE `type` attribute), valid when `[type]` designates
    at most one attribute — every tree made by a parser. -/
theorem typeIs_ascii_unique (v : String) (henv : c.env = asciiEnv)
    (hu : (attrVals c e "type").length ≤ 1) :
    typeIs c e v = (match attrVal c e "type" with
      | none => false
      | some s => if c.isXml then s == v.toStr else lower s == lower v.toStr) := by
  rw [typeIs_ascii c e v henv, attrVal_eq_head?]
  match h : attrVals c e "type", hu with
  | [], _ => rfl
  | [s], _ => simp
  | _ :: _ :: _, hu => simp at hu

/-- `:read-only` is the complement of `:read-write` within the HTML-namespace elements. -/
theorem readwrite_readonly_partition (hc : c.isHtml = true) :
    matchList c l e Gen.CSS_READ_ONLY = (c.isHtmlTag e && !matchList c l e Gen.CSS_READ_WRITE) := by
  rw [shape_READ_ONLY, matchList_html c l e hc]
  state_simp
  rw [matchList_htmlOnly' c l e Gen.CSS_READ_WRITE rfl]

/-- Elements outside the XHTML namespace are neither. -/
theorem readwrite_false_of_not_html (hc : c.isHtml = true) (hn : c.isHtmlTag e = false) :
    matchList c l e Gen.CSS_READ_WRITE = false := by
  rw [shape_READ_WRITE, matchList_html c l e hc]
  simp only [matchAny_cons, matchAny_nil, matchSel_cmpG, matchTag_HT_star, hn, Bool.false_and,
    Bool.or_self, bne_self_eq_false, Bool.and_false]

theorem readonly_false_of_not_html (hc : c.isHtml = true) (hn : c.isHtmlTag e = false) :
    matchList c l e Gen.CSS_READ_ONLY = false := by
  rw [readwrite_readonly_partition c l e hc, hn, Bool.false_and]

theorem readwrite_split (hc : c.isHtml = true) :
    matchList c l e Gen.CSS_READ_WRITE = (c.isHtmlTag e && matchList c l e Gen.CSS_READ_WRITE) := by
  cases hh : c.isHtmlTag e
  · rw [readwrite_false_of_not_html c l e hc hh]; rfl
  · rw [Bool.true_and]

/-- Every HTML-namespace element is exactly one of `:read-write`, `:read-only`. -/
theorem readwrite_xor_readonly (hc : c.isHtml = true) (hh : c.isHtmlTag e = true) :
    matchList c l e Gen.CSS_READ_WRITE ≠ matchList c l e Gen.CSS_READ_ONLY := by
  rw [(partition_laws (readwrite_split c l e hc) (readwrite_readonly_partition c l e hc)).2.2 hh]
  cases matchList c l e Gen.CSS_READ_ONLY <;> simp

/-- `:read-write` or `:read-only` holds exactly of the HTML-namespace elements. -/
theorem readwrite_or_readonly_iff (hc : c.isHtml = true) :
    (matchList c l e Gen.CSS_READ_WRITE = true ∨ matchList c l e Gen.CSS_READ_ONLY = true) ↔
      c.isHtmlTag e = true :=
  (partition_laws (readwrite_split c l e hc) (readwrite_readonly_partition c l e hc)).2.1

theorem link_appends (P : Parser.PEnv) (s : Parser.SelB) :
    Parser.applySimplePseudo P ":link".toStr s = s.addSub P.B.link := by
  unfold Parser.applySimplePseudo; simp (decide := true)

/-- `parse_pseudo_class` appends the same list for `:link` and `:any-link`. -/
theorem link_eq_anylink (P : Parser.PEnv) (s : Parser.SelB) :
    Parser.applySimplePseudo P ":link".toStr s = Parser.applySimplePseudo P ":any-link".toStr s := by
  rw [link_appends]
  unfold Parser.applySimplePseudo; simp (decide := true)

/-- In the parser instance the driver runs, the list appended for `:link` is the generated `CSS_LINK`. -/
theorem link_builtin : Gen.builtinsRec.link = Gen.CSS_LINK := rfl

/-- `:link`: an HTML `a` or `area` carrying `href`. -/
theorem link_eq (hc : c.isHtml = true) :
    matchList c l e Gen.CSS_LINK = (htmlNamed c e ["a", "area"] && hasAttr c e "href") := by
  rw [shape_LINK, matchList_html c l e hc]
  state_simp
  simp only [htmlNamed, List.any_cons, List.any_nil, Bool.or_false]
  cases c.isHtmlTag e <;> cases hasAttr c e "href" <;> simp

/-- The relation `html|form ` (descendant combinator) of the last alternative of `:default`, as evaluated at `l`. -/
def inFormRel (c : Ctx) (l : Loc) : Bool :=
  relPart c.htmlOnly l (isL [cmpG (HT "form") [] [] [] E .desc 0])

theorem default_eq (hc : c.isHtml = true) :
    matchList c l e Gen.CSS_DEFAULT =
      (matchList c l e Gen.CSS_CHECKED ||
        (c.isHtmlTag e && typeIs c e "submit" && (tagIs c e "button" || tagIs c e "input") &&
          inFormRel c l && matchDefault c l)) := by
  rw [shape_DEFAULT, matchList_html c l e hc]
  state_simp
  rw [matchList_htmlOnly' c l e Gen.CSS_CHECKED rfl, flagPart_default, htmlOnly_matchDefault]
  rfl

theorem checked_sub_default (hc : c.isHtml = true) (h : matchList c l e Gen.CSS_CHECKED = true) :
    matchList c l e Gen.CSS_DEFAULT = true := by
  rw [default_eq c l e hc, h, Bool.true_or]

/-- `:checked`: a checkbox or radio `input` with `checked`, or an `option` with `selected`. -/
theorem checked_eq (hc : c.isHtml = true) :
    matchList c l e Gen.CSS_CHECKED =
      (c.isHtmlTag e &&
        ((tagIs c e "input" && (typeIs c e "checkbox" || typeIs c e "radio") && hasAttr c e "checked") ||
         (tagIs c e "option" && hasAttr c e "selected"))) := by
  rw [shape_CHECKED, matchList_html c l e hc]
  state_simp
  cases c.isHtmlTag e <;> cases tagIs c e "input" <;> cases hasAttr c e "checked" <;> simp

/-- What `match_range` establishes before looking at its `condition` argument:
    an exception, `none` = neither `min` nor `max` parses (→ `False` for both conditions),
    `some o` = a bound exists and `o` = "the value is out of range". -/
def rangeStateE (c : Ctx) (e : Elem) : Except PyErr (Option Bool) :=
  match lowerE ((c.attrByName e "type".toStr).getD (.str [])) with
  | .error x => .error x
  | .ok itype =>
    match parseValueE itype (c.attrByName e "min".toStr) with
    | .error x => .error x
    | .ok mn =>
      match parseValueE itype (c.attrByName e "max".toStr) with
      | .error x => .error x
      | .ok mx =>
        if mn.isNone && mx.isNone then .ok none
        else
          match parseValueE itype (c.attrByName e "value".toStr) with
          | .error x => .error x
          | .ok value => .ok (some (oorOf itype mn mx value))

/-- `some o` iff no exception and a bound parses. -/
def rangeState (c : Ctx) (e : Elem) : Option Bool :=
  match rangeStateE c e with
  | .ok r => r
  | .error _ => none

theorem htmlOnly_rangeState : rangeState c.htmlOnly e = rangeState c e := rfl

theorem matchRangeE_eq (cond : Nat) :
    matchRangeE c e cond =
      (match rangeStateE c e with
       | .error x => .error x
       | .ok none => .ok false
       | .ok (some o) => .ok (if hasFlag cond SEL_IN_RANGE then !o else o)) := by
  unfold matchRangeE rangeStateE
  cases lowerE ((c.attrByName e "type".toStr).getD (.str [])) with
  | error x => rfl
  | ok itype =>
    simp only [bind, Except.bind]
    cases parseValueE itype (c.attrByName e "min".toStr) with
    | error x => rfl
    | ok mn =>
      simp only
      cases parseValueE itype (c.attrByName e "max".toStr) with
      | error x => rfl
      | ok mx =>
        simp only
        cases hb : (mn.isNone && mx.isNone)
        · simp only [Bool.false_eq_true, if_false]
          cases parseValueE itype (c.attrByName e "value".toStr) with
          | error x => rfl
          | ok value => rfl
        · rfl

theorem matchRange_in : matchRange c e SEL_IN_RANGE = (rangeState c e == some false) := by
  unfold matchRange rangeState
  rw [matchRangeE_eq]
  cases rangeStateE c e with
  | error x => rfl
  | ok r =>
    cases r with
    | none => rfl
    | some o => cases o <;> rfl

theorem matchRange_out : matchRange c e SEL_OUT_OF_RANGE = (rangeState c e == some true) := by
  unfold matchRange rangeState
  rw [matchRangeE_eq]
  cases rangeStateE c e with
  | error x => rfl
  | ok r =>
    cases r with
    | none => rfl
    | some o => cases o <;> rfl

/-- `matchRange c e IN = !matchRange c e OUT` whenever a bound parses (and nothing raises). -/
theorem matchRange_compl (h : (rangeState c e).isSome = true) :
    matchRange c e SEL_IN_RANGE = !matchRange c e SEL_OUT_OF_RANGE := by
  rw [matchRange_in, matchRange_out]
  cases hr : rangeState c e with
  | none => rw [hr] at h; simp at h
  | some o => cases o <;> rfl

/-- Without a valid bound (or when a read raises) `matchRange` is false for both conditions. -/
theorem matchRange_none (h : rangeState c e = none) :
    matchRange c e SEL_IN_RANGE = false ∧ matchRange c e SEL_OUT_OF_RANGE = false := by
  rw [matchRange_in, matchRange_out, h]; exact ⟨rfl, rfl⟩

/-- The compound shared by `:in-range` and `:out-of-range`: an HTML `input` whose `type` is one of
    the seven range types and which carries `min` or `max`. -/
def rangeCompoundHolds (c : Ctx) (e : Elem) : Bool :=
  c.isHtmlTag e && tagIs c e "input" &&
    ["date", "month", "week", "time", "datetime-local", "number", "range"].any (typeIs c e) &&
    (hasAttr c e "min" || hasAttr c e "max")

theorem rangeCompound_eq (F : Nat) :
    matchSel c.htmlOnly l e (rangeCompound F) = (rangeCompoundHolds c e && flagPart c.htmlOnly l e F) := by
  unfold rangeCompound rangeCompoundHolds
  state_simp
  simp only [List.any_cons, List.any_nil, Bool.or_false, Bool.and_assoc]

theorem inrange_eq (hc : c.isHtml = true) :
    matchList c l e Gen.CSS_IN_RANGE = (rangeCompoundHolds c e && (rangeState c e == some false)) := by
  rw [shape_IN_RANGE, matchList_html c l e hc]
  simp only [matchAny_cons, matchAny_nil, Bool.or_false, rangeCompound_eq, flagPart_in_range,
    matchRange_in, htmlOnly_rangeState, List.isEmpty_cons, Bool.not_false, Bool.true_and, Bool.bne_false]

theorem outofrange_eq (hc : c.isHtml = true) :
    matchList c l e Gen.CSS_OUT_OF_RANGE = (rangeCompoundHolds c e && (rangeState c e == some true)) := by
  rw [shape_OUT_OF_RANGE, matchList_html c l e hc]
  simp only [matchAny_cons, matchAny_nil, Bool.or_false, rangeCompound_eq, flagPart_out_of_range,
    matchRange_out, htmlOnly_rangeState, List.isEmpty_cons, Bool.not_false, Bool.true_and, Bool.bne_false]

/-- The two as a split of "the compound holds and `match_range` finds a valid bound". -/
theorem inrange_outofrange_split (hc : c.isHtml = true) :
    matchList c l e Gen.CSS_IN_RANGE =
        (rangeCompoundHolds c e && (rangeState c e).isSome && (rangeState c e == some false)) ∧
    matchList c l e Gen.CSS_OUT_OF_RANGE =
        (rangeCompoundHolds c e && (rangeState c e).isSome && !(rangeState c e == some false)) := by
  rw [inrange_eq c l e hc, outofrange_eq c l e hc]
  cases rangeCompoundHolds c e <;> cases rangeState c e with
  | none => exact ⟨rfl, rfl⟩
  | some o => cases o <;> exact ⟨rfl, rfl⟩

theorem inrange_outofrange_disjoint (hc : c.isHtml = true) :
    ¬ (matchList c l e Gen.CSS_IN_RANGE = true ∧ matchList c l e Gen.CSS_OUT_OF_RANGE = true) :=
  (partition_laws (inrange_outofrange_split c l e hc).1 (inrange_outofrange_split c l e hc).2).1

/-- `:in-range` ∪ `:out-of-range` = the range-typed inputs with `min`/`max` for which `match_range`
    finds a valid bound (without raising). -/
theorem inrange_or_outofrange_iff (hc : c.isHtml = true) :
    (matchList c l e Gen.CSS_IN_RANGE = true ∨ matchList c l e Gen.CSS_OUT_OF_RANGE = true) ↔
      (rangeCompoundHolds c e = true ∧ (rangeState c e).isSome = true) :=
  (partition_laws (inrange_outofrange_split c l e hc).1 (inrange_outofrange_split c l e hc).2).2.1.trans
    Bool.and_eq_true_iff

theorem rangeState_of_reads {itype : Str} {mn mx value : Option Inputs.PVal}
    (hT : lowerE ((c.attrByName e "type".toStr).getD (.str [])) = .ok itype)
    (hmn : parseValueE itype (c.attrByName e "min".toStr) = .ok mn)
    (hmx : parseValueE itype (c.attrByName e "max".toStr) = .ok mx)
    (hv : parseValueE itype (c.attrByName e "value".toStr) = .ok value) :
    rangeState c e = if mn.isNone && mx.isNone then none else some (oorOf itype mn mx value) := by
  unfold rangeState rangeStateE
  simp only [hT, hmn, hmx, hv]
  cases mn.isNone && mx.isNone <;> rfl

/-- No bound parses: `match_range` answers `False` before it reads `value`. -/
theorem rangeState_no_bound {itype : Str}
    (hT : lowerE ((c.attrByName e "type".toStr).getD (.str [])) = .ok itype)
    (hmn : parseValueE itype (c.attrByName e "min".toStr) = .ok none)
    (hmx : parseValueE itype (c.attrByName e "max".toStr) = .ok none) :
    rangeState c e = none := by
  unfold rangeState rangeStateE
  simp only [hT, hmn, hmx]
  rfl

/-- "A valid bound", spelled out. -/
theorem rangeState_isSome_iff :
    (rangeState c e).isSome = true ↔
      ∃ itype mn mx value,
        lowerE ((c.attrByName e "type".toStr).getD (.str [])) = .ok itype ∧
        parseValueE itype (c.attrByName e "min".toStr) = .ok mn ∧
        parseValueE itype (c.attrByName e "max".toStr) = .ok mx ∧
        (mn.isSome = true ∨ mx.isSome = true) ∧
        parseValueE itype (c.attrByName e "value".toStr) = .ok value := by
  constructor
  · -- the state is `some _` only at the end of the chain of reads
    intro h
    unfold rangeState rangeStateE at h
    split at h
    · rename_i o ho
      split at ho
      · cases ho
      · rename_i itype h1
        split at ho
        · cases ho
        · rename_i mn h2
          split at ho
          · cases ho
          · rename_i mx h3
            split at ho
            · cases ho; cases h
            · split at ho
              · cases ho
              · rename_i v h4
                refine ⟨itype, mn, mx, v, h1, h2, h3, ?_, h4⟩
                cases mn <;> cases mx <;> simp_all
    · cases h
  · rintro ⟨itype, mn, mx, v, h1, h2, h3, hb, h4⟩
    rw [rangeState_of_reads c e h1 h2 h3 h4]
    cases mn <;> cases mx <;> simp_all

/-- The selector and `match_range` read the same attribute (the first one named `type`, `min`,
    `max`): `get_attribute_by_name` = the attribute selector's lookup for a lower-case name. -/
theorem range_same_attribute (n : String) (hl : lower n.toStr = n.toStr) :
    (c.attrByName e n.toStr).map nvalJoin = attrVal c e n := by
  unfold attrVal; rw [attrByName_eq_selector c e _ hl]

/-- Consistency of the type test: in the ASCII environment, when the `type` attribute holds a
    string and is the only attribute `[type]` designates, `[type=v]` (for a lower-case keyword `v`)
    implies that `match_range` dispatches on `v`.
    (Without the three hypotheses this fails; see the deviations in `Audit/C17`.  The uniqueness
    hypothesis is needed because the selector accepts when ANY
    attribute named `type` — `type`, `TYPE`, … in a hand-edited non-XML tree — has the value,
    `match_range` reads the first one through `get_attribute_by_name`.) -/
theorem range_type_consistent (v : String) (hl : lower v.toStr = v.toStr) (henv : c.env = asciiEnv)
    (s : Str) (hs : c.attrByName e "type".toStr = some (.str s))
    (hu : (attrVals c e "type").length ≤ 1) (ht : typeIs c e v = true) :
    lowerE ((c.attrByName e "type".toStr).getD (.str [])) = .ok v.toStr := by
  have hv : attrVal c e "type" = some s := by
    rw [← range_same_attribute c e "type" (by decide_lit), hs]; rfl
  rw [typeIs_ascii_unique c e v henv hu, hv] at ht
  rw [hs]
  show Except.ok (lower s) = _
  cases hx : c.isXml
  · simp only [hx, Bool.false_eq_true, if_false, beq_iff_eq, hl] at ht; rw [ht]
  · simp only [hx, if_true, beq_iff_eq] at ht; rw [ht, hl]

/-- In general (several attributes named `type`): `[type=v]` implies that SOME attribute `[type]`
    designates has the value `v` (up to case in HTML); `match_range` dispatches on the first. -/
theorem range_type_some (v : String) (henv : c.env = asciiEnv) (ht : typeIs c e v = true) :
    ∃ s ∈ attrVals c e "type", if c.isXml then s = v.toStr else lower s = lower v.toStr := by
  rw [typeIs_ascii c e v henv, List.any_eq_true] at ht
  obtain ⟨s, hm, h⟩ := ht
  refine ⟨s, hm, ?_⟩
  cases hx : c.isXml <;> simpa [hx] using h

/-- The `placeholder` attribute is present and its value is not the empty string. -/
def placeholderNonEmpty (c : Ctx) (e : Elem) : Bool :=
  hasAttr c e "placeholder" && !attrEmpty c e "placeholder"

/-- No `type`, `type=""`, or one of the text-like keywords. -/
def placeholderInputType (c : Ctx) (e : Elem) : Bool :=
  !hasAttr c e "type" || attrEmpty c e "type" ||
    ["text", "search", "url", "tel", "email", "password", "number"].any (typeIs c e)

/-- `get_text(el)` is `''` or `'\n'` (all descendant text, *not* cut at iframes). -/
def textBlank (c : Ctx) (l : Loc) : Bool := c.text l false == [] || c.text l false == [10]

/-- The Boolean identity behind `placeholder_def`.  `h`: HTML element; `i` / `ta`: named `input` / `textarea`;
    `p` / `pe`: `placeholder` present / empty; `ty`: a text-like type; `v`: no or empty `value`; `tb`: blank text. -/
theorem placeholder_bool : ∀ h i p pe ty v ta tb : Bool,
    (h && i && p && (ty && (!pe && v)) || h && ta && p && !pe && tb) =
      (h && (p && !pe) && (i && ty && v || ta && tb)) := by decide +kernel

/-- `:placeholder-shown` ⇔ an `input` of a text-like type (or none) with a non-empty `placeholder`
    and no / an empty `value` attribute, or a `textarea` with a non-empty `placeholder` whose text
    content is `""` or `"\n"`.  The content test applies to the *last* alternative only (the
    `textarea`): `parse_selectors` flags `selectors[-1]`. -/
theorem placeholder_def (hc : c.isHtml = true) :
    matchList c l e Gen.CSS_PLACEHOLDER_SHOWN =
      (c.isHtmlTag e && placeholderNonEmpty c e &&
        ((tagIs c e "input" && placeholderInputType c e && (!hasAttr c e "value" || attrEmpty c e "value")) ||
         (tagIs c e "textarea" && textBlank c l))) := by
  rw [shape_PLACEHOLDER_SHOWN, matchList_html c l e hc]
  state_simp
  rw [typeIn_eq, flagPart_placeholder, htmlOnly_matchPlaceholderShown]
  simp only [attrEq_empty, placeholderNonEmpty, placeholderInputType]
  have ht : matchPlaceholderShown c l = textBlank c l := rfl
  rw [ht]
  exact placeholder_bool _ _ _ _ _ _ _ _

/-- `p` is an HTML `form` element. -/
def isHtmlForm (c : Ctx) (p : Loc) : Bool :=
  match p.elem? with
  | some pe => c.isHtmlTag pe && tagIs c pe "form"
  | none => false

/-- `isHtmlForm` as `match_default` / `get_parent_form` test it (name first). -/
theorem isHtmlForm_eq (p : Loc) :
    isHtmlForm c p = (match p.elem? with
      | some pe => c.tagName pe == "form".toStr && c.isHtmlTag pe
      | none => false) := by
  unfold isHtmlForm
  cases p.elem? with
  | none => rfl
  | some pe => exact Bool.and_comm ..

/-- `html|form ` (descendant combinator), spelled out. -/
theorem inFormRel_eq : inFormRel c l = ancestorIs c l (isHtmlForm c) := by
  unfold inFormRel
  rw [relPart_desc c l _ rfl]
  congr 1
  funext t
  unfold isHtmlForm
  cases t.elem? with
  | none => rfl
  | some te =>
    simp only
    state_simp

/-- When the combinator `html|form ` finds a form above `l`, so does `match_default`. -/
theorem defaultForm_isSome_of_rel (h : inFormRel c l = true) : (defaultForm c l).isSome = true := by
  rw [inFormRel_eq] at h
  unfold ancestorIs at h
  obtain ⟨p, hp, hform⟩ := List.any_eq_true.mp h
  have hp' : p ∈ c.ancestors l true := (List.takeWhile_sublist _).subset hp
  unfold defaultForm
  rw [List.find?_isSome]
  exact ⟨p, hp', (isHtmlForm_eq c p).symm.trans hform⟩

/-- `:default` ⇔ `:checked`, or a `button`/`input` of type `submit` below an HTML `form` that is
    the first submit button of its nearest form (`firstSubmit`, scanning the form's descendants
    with the iframe cut). -/
theorem default_def (hc : c.isHtml = true) :
    matchList c l e Gen.CSS_DEFAULT =
      (matchList c l e Gen.CSS_CHECKED ||
        (c.isHtmlTag e && (tagIs c e "button" || tagIs c e "input") && typeIs c e "submit" &&
          ancestorIs c l (isHtmlForm c) &&
          (match defaultForm c l with
           | none => false
           | some form =>
             match firstSubmit c (c.tagDescendants form true) with
             | some b => b.same l
             | none => false))) := by
  rw [default_eq c l e hc, inFormRel_eq]
  have : matchDefault c l = (match defaultForm c l with
      | none => false
      | some form =>
        match firstSubmit c (c.tagDescendants form true) with
        | some b => b.same l
        | none => false) := rfl
  rw [← this]
  cases c.isHtmlTag e <;> cases typeIs c e "submit" <;> cases (tagIs c e "button" || tagIs c e "input") <;> rfl

/-- In a well-formed tree the document object can only be the *last* ancestor, and it is not a
    `form`. -/
def DocOnlyOnTop (c : Ctx) (l : Loc) : Prop :=
  ∀ pre d post, c.ancestors l true = pre ++ d :: post → d.isDoc = true →
    post = [] ∧ isHtmlForm c d = false

/-- Under `DocOnlyOnTop` the combinator test `html|form ` is implied by `match_default`. -/
theorem inFormRel_of_matchDefault (hd : DocOnlyOnTop c l) (h : matchDefault c l = true) :
    ancestorIs c l (isHtmlForm c) = true := by
  unfold ancestorIs
  rw [any_takeWhile_of_last (isHtmlForm c) (fun p => !p.isDoc) _
    (fun pre d post hs hq => hd pre d post hs (by simpa using hq))]
  unfold matchDefault at h
  cases hf : defaultForm c l with
  | none => rw [hf] at h; cases h
  | some f =>
    unfold defaultForm at hf
    have hmem := List.mem_of_find?_eq_some hf
    have hp := List.find?_some hf
    rw [List.any_eq_true]
    exact ⟨f, hmem, (isHtmlForm_eq c f).trans hp⟩

/-- Under `DocOnlyOnTop`: `:default` ⇔ `:checked` ∨ (a `button`/`input` of type `submit` that is the first submit
    button of its nearest HTML `form`). -/
theorem default_def_wellformed (hc : c.isHtml = true) (hd : DocOnlyOnTop c l) :
    matchList c l e Gen.CSS_DEFAULT =
      (matchList c l e Gen.CSS_CHECKED ||
        (c.isHtmlTag e && (tagIs c e "button" || tagIs c e "input") && typeIs c e "submit" &&
          matchDefault c l)) := by
  rw [default_eq c l e hc, inFormRel_eq]
  have := inFormRel_of_matchDefault c l hd
  revert this
  cases matchDefault c l <;> cases ancestorIs c l (isHtmlForm c) <;>
    cases c.isHtmlTag e <;> cases typeIs c e "submit" <;> cases (tagIs c e "button" || tagIs c e "input") <;> simp

/-- The `type` test of `match_default`'s own scan (a non-empty string equal to `submit`, ASCII
    case-insensitively in HTML, exactly in XML). -/
def scanIsSubmit (c : Ctx) (e : Elem) : Bool :=
  match (c.attrByName e "type".toStr).getD (.str []) with
  | .str v => !v.isEmpty && (if !c.isXml then lower v else v) == "submit".toStr
  | .list _ => false

theorem firstSubmit_cons (ch : Loc) (rest : List Loc) :
    firstSubmit c (ch :: rest) =
      (match ch.elem? with
       | none => firstSubmit c rest
       | some ce =>
         if c.tagName ce == "form".toStr then none
         else if (c.tagName ce == "input".toStr || c.tagName ce == "button".toStr) && c.isHtmlTag ce then
           (if scanIsSubmit c ce then some ch else firstSubmit c rest)
         else firstSubmit c rest) := by
  rw [firstSubmit]
  cases ch.elem? with
  | none => rfl
  | some ce =>
    simp only
    cases c.tagName ce == "form".toStr
    · cases ((c.tagName ce == "input".toStr || c.tagName ce == "button".toStr) && c.isHtmlTag ce)
      · rfl
      · simp only [Bool.false_eq_true, if_false, if_true]
        unfold scanIsSubmit
        generalize (c.attrByName ce "type".toStr).getD (.str []) = G
        cases G <;> rfl
    · rfl

/-- **The scan of `match_default` returns only what its guard can select** (fix 8eff4e2).  The
    button the scan finds is an HTML element named `input` or `button` whose `type` the scan reads
    as `submit` — the atoms of the guard `html|*:is(button, input)[type="submit"]`.  `c.isHtmlTag be`
    is what keeps an `<input type=submit>` inside `<svg>` (html5lib) from being "the form's default
    button". -/
theorem firstSubmit_guarded : ∀ (xs : List Loc) (b : Loc), firstSubmit c xs = some b →
    ∃ be, b.elem? = some be ∧ c.isHtmlTag be = true ∧
      (tagIs c be "input" || tagIs c be "button") = true ∧ scanIsSubmit c be = true
  | [], b, h => by rw [firstSubmit] at h; cases h
  | ch :: rest, b, h => by
    rw [firstSubmit_cons] at h
    cases hce : ch.elem? with
    | none => rw [hce] at h; exact firstSubmit_guarded rest b h
    | some ce =>
      rw [hce] at h
      simp only at h
      split at h
      · cases h
      · split at h
        · rename_i hg
          split at h
          · rename_i hsub
            cases h
            rw [Bool.and_eq_true] at hg
            exact ⟨ce, hce, hg.2, hg.1, hsub⟩
          · exact firstSubmit_guarded rest b h
        · exact firstSubmit_guarded rest b h

/-- The scan's notion of "submit" and the guarding selector's `[type="submit"]` coincide — in HTML
    *and* in XML — in the ASCII environment, for a `type` attribute
    that is not list-valued and is the only attribute `[type]` designates (the scan reads the first
    one, the selector accepts any of them). -/
theorem scanIsSubmit_eq_typeIs (henv : c.env = asciiEnv)
    (hstr : ∀ ls, c.attrByName e "type".toStr ≠ some (.list ls))
    (hu : (attrVals c e "type").length ≤ 1) :
    scanIsSubmit c e = typeIs c e "submit" := by
  have hv := range_same_attribute c e "type" (by decide_lit)
  rw [typeIs_ascii_unique c e "submit" henv hu, ← hv]
  unfold scanIsSubmit
  have hl : lower "submit".toStr = "submit".toStr := by decide_lit
  cases ha : c.attrByName e "type".toStr with
  | none => rfl
  | some w =>
    cases w with
    | list ls => exact absurd ha (hstr ls)
    | str v =>
      simp only [Option.getD_some, Option.map_some, nvalJoin, hl]
      cases c.isXml <;> cases v with
        | nil => decide_lit
        | cons a t => simp

/-- The Boolean identity behind `indeterminate_def`.  `h`: HTML element; `i` / `pr`: named `input` / `progress`;
    `ck` / `r`: type `checkbox` / `radio`; `ind`, `chk`, `v`: `indeterminate`, `checked`, `value` present;
    `nm` / `em`: `name` present / empty; `mi`: `match_indeterminate`. -/
theorem indeterminate_bool : ∀ h i ck ind r nm em chk pr v mi : Bool,
    (h && i && (ck && ind) || (h && i && r && ((!nm || em) && !chk) ||
      (h && pr && !v || h && i && (r && nm) && (!em && !chk) && mi))) =
    (h && (i && ck && ind || i && r && !chk && (!nm || em || mi) || pr && !v)) := by decide +kernel

/-- `:indeterminate` ⇔ a checkbox `input` carrying `indeterminate`; or an unchecked radio `input`
    that has no (or an empty) `name`, or whose group — same `name`, same form — has no checked
    member (`match_indeterminate`); or a `progress` without `value`. -/
theorem indeterminate_def (hc : c.isHtml = true) :
    matchList c l e Gen.CSS_INDETERMINATE =
      (c.isHtmlTag e &&
        ((tagIs c e "input" && typeIs c e "checkbox" && hasAttr c e "indeterminate") ||
         (tagIs c e "input" && typeIs c e "radio" && !hasAttr c e "checked" &&
            (!hasAttr c e "name" || attrEmpty c e "name" || matchIndeterminate c l)) ||
         (tagIs c e "progress" && !hasAttr c e "value"))) := by
  rw [shape_INDETERMINATE, matchList_html c l e hc]
  state_simp
  rw [flagPart_indeterminate, htmlOnly_matchIndeterminate]
  simp only [attrEq_empty]
  exact indeterminate_bool _ _ _ _ _ _ _ _ _ _ _

/-- What `match_indeterminate` computes: no *other* `input` below the element's form (or, without
    a form, below the top-most ancestor reached with the iframe cut) is a checked radio of the same
    `name` owned by the same form. -/
theorem matchIndeterminate_def (kids : List Node) (hl : l.focus = .elem e kids) :
    matchIndeterminate c l =
      (match parentForm c l with
       | none => false
       | some form =>
         !(c.tagDescendants form true).any fun ch =>
            !ch.same l &&
            (match ch.elem? with
             | none => false
             | some ce =>
               c.tagName ce == "input".toStr && c.isHtmlTag ce &&
                 radioCheckedScan c.isXml (c.attrByName e "name".toStr) ce.attrs false false false &&
                 (match parentForm c ch with
                  | some f => f.same form
                  | none => false))) := by
  unfold matchIndeterminate
  have he : l.elem? = some e := congrArg Node.elem? hl
  rw [he]
  simp only
  cases parentForm c l with
  | none => rfl
  | some form =>
    simp only
    congr 2
    funext ch
    cases ch.same l <;> rfl

/-! ### The radio-group scan classifies a control as the guard does (fix 01d00ae)

  `match_indeterminate` is asked only about elements the guard
  `html|input[type="radio"][name]:not([name='']):not([checked])` selected, and its scan decides for
  every OTHER `input` of the form whether it is a checked radio of the group.  The definition of
  `:indeterminate` is meaningful only if "radio" and "checked" mean the same in both places: names
  (ecfbb7b) and the `type` VALUE (01d00ae) are compared by the same rule, exactly in XML, ASCII
  case-insensitively in HTML.  `radioCheckedScan_eq` (`Lemmas/RadioScan`) is the scan as a closed
  formula; `checkedRadio_is_guard_radio` / `radioCheckedScan_def` restate it in the guard's atoms
  `typeIs · "radio"` and `hasAttr · "checked"` for EVERY document kind (the `type="RADIO"` examples below
  show the XML case). -/

/-- `[type=radio]` on one attribute: the name test and the value test of the guard. -/
def guardRadioAttr (c : Ctx) (a : Attr) : Bool :=
  nameEq c "type".toStr a.key && litsEq c.env (!c.isXml) "radio".toStr (nvalJoin (normalizeValue a.val))

theorem typeIs_radio_eq_any (c : Ctx) (e : Elem) : typeIs c e "radio" = e.attrs.any (guardRadioAttr c) := by
  unfold typeIs attrEq attrVals
  rw [mav_bare_all]
  simp only [List.any_map, List.any_filter, Function.comp, valOf]
  rfl

/-- The value test of the scan and the value test of `[type=radio]` on a string value: in XML both
    are `=`; in HTML both fold ASCII case (the guard through the regex engine's folding, hence the
    environment hypothesis). -/
theorem valIsRadio_eq_guard (c : Ctx) (s : Str) (henv : c.isXml = true ∨ c.env = asciiEnv) :
    valIsRadio c.isXml (.str s) = litsEq c.env (!c.isXml) "radio".toStr (nvalJoin (.str s)) := by
  rw [kwTest c _ _ henv, show lower "radio".toStr = "radio".toStr by decide_lit]
  unfold valIsRadio nvalJoin
  cases c.isXml <;> rfl

/-- A control the scan takes for a radio is one the guard `[type=radio]` selects — in every document
    kind (in XML neither folds the case of the value: `<input type="RADIO">` of an XHTML document parsed as XML is
    a radio for neither). -/
theorem scanRadioAttr_imp_guard (c : Ctx) (a : Attr) (henv : c.isXml = true ∨ c.env = asciiEnv)
    (h : scanRadioAttr c.isXml a = true) : guardRadioAttr c a = true := by
  unfold scanRadioAttr at h
  unfold guardRadioAttr
  rw [scanKey_eq_nameEq c a _ (by decide_lit)] at h
  rw [Bool.and_eq_true] at h ⊢
  refine ⟨h.1, ?_⟩
  cases hv : normalizeValue a.val with
  | str s => rw [← valIsRadio_eq_guard c s henv, ← hv]; exact h.2
  | list l => rw [hv] at h; exact absurd h.2 (by simp [valIsRadio])

/-- On string values (every tree a parser makes: `type` is not a multi-valued attribute) the two
    tests coincide. -/
theorem scanRadioAttr_eq_guard (c : Ctx) (a : Attr) (henv : c.isXml = true ∨ c.env = asciiEnv)
    (s : Str) (hv : normalizeValue a.val = .str s) : scanRadioAttr c.isXml a = guardRadioAttr c a := by
  unfold scanRadioAttr guardRadioAttr
  rw [scanKey_eq_nameEq c a _ (by decide_lit), hv, valIsRadio_eq_guard c s henv]

/-- The `type` attributes of the element hold strings (not the list a multi-valued-attribute
    builder would make). -/
def TypeIsString (c : Ctx) (e : Elem) : Prop :=
  ∀ a ∈ e.attrs, nameEq c "type".toStr a.key = true → ∃ s, normalizeValue a.val = .str s

theorem scanRadio_imp_typeIs (c : Ctx) (e : Elem) (henv : c.isXml = true ∨ c.env = asciiEnv)
    (h : e.attrs.any (scanRadioAttr c.isXml) = true) : typeIs c e "radio" = true := by
  rw [typeIs_radio_eq_any]
  rw [List.any_eq_true] at h ⊢
  obtain ⟨a, ha, hr⟩ := h
  exact ⟨a, ha, scanRadioAttr_imp_guard c a henv hr⟩

theorem scanRadio_eq_typeIs (c : Ctx) (e : Elem) (henv : c.isXml = true ∨ c.env = asciiEnv)
    (hstr : TypeIsString c e) : e.attrs.any (scanRadioAttr c.isXml) = typeIs c e "radio" := by
  rw [typeIs_radio_eq_any]
  unfold TypeIsString at hstr
  generalize e.attrs = as at hstr ⊢
  induction as with
  | nil => rfl
  | cons a t ih =>
    have iht := ih (fun x hx => hstr x (List.mem_cons_of_mem _ hx))
    simp only [List.any_cons, iht]
    congr 1
    cases hk : nameEq c "type".toStr a.key with
    | true =>
      obtain ⟨s, hs⟩ := hstr a (List.mem_cons_self) hk
      exact scanRadioAttr_eq_guard c a henv s hs
    | false =>
      unfold scanRadioAttr guardRadioAttr
      rw [scanKey_eq_nameEq c a _ (by decide_lit), hk]; rfl

/-- **The scan and the guard agree** (fix 01d00ae).  A control other than the asker counts as a
    checked radio of the group only if the guard's own atoms hold of it: it is what `[type=radio]`
    selects and it carries `[checked]` — in HTML, XHTML and XML alike. -/
theorem checkedRadio_is_guard_radio (c : Ctx) (e : Elem) (name : Option NVal)
    (henv : c.isXml = true ∨ c.env = asciiEnv)
    (h : radioCheckedScan c.isXml name e.attrs false false false = true) :
    typeIs c e "radio" = true ∧ hasAttr c e "checked" = true := by
  rw [radioCheckedScan_eq _ _ _ _ _ _ rfl] at h
  simp only [Bool.false_or, Bool.and_eq_true] at h
  refine ⟨scanRadio_imp_typeIs c e henv h.1.1, ?_⟩
  rw [hasAttr_eq_any_key c e "checked" (by decide_lit)]
  exact h.1.2

/-- The scan in the guard's vocabulary, exactly: `[type=radio]`, `[checked]`, and some `name`
    attribute holding the group's name. -/
theorem radioCheckedScan_def (c : Ctx) (e : Elem) (name : Option NVal)
    (henv : c.isXml = true ∨ c.env = asciiEnv) (hstr : TypeIsString c e) :
    radioCheckedScan c.isXml name e.attrs false false false =
      (typeIs c e "radio" && hasAttr c e "checked" && e.attrs.any (scanNameAttr c.isXml name)) := by
  rw [radioCheckedScan_eq _ _ _ _ _ _ rfl, scanRadio_eq_typeIs c e henv hstr,
    hasAttr_eq_any_key c e "checked" (by decide_lit)]
  simp only [Bool.false_or]
  rfl

/-- **A member of the group that blocks `:indeterminate` is a `:checked` HTML radio button** (fixes
    01d00ae and 8eff4e2).  The per-control test of the scan (`matchIndeterminate_def`) implies the
    atoms of `:checked` for that control: an HTML element named `input` that `[type=radio]` and
    `[checked]` select (`c.isHtmlTag ce`: not an `<input>` inside `<svg>`, html5lib; `typeIs c ce "radio"`: also
    in XML). -/
theorem scanMember_guarded (c : Ctx) (ce : Elem) (name : Option NVal)
    (henv : c.isXml = true ∨ c.env = asciiEnv)
    (h : (c.tagName ce == "input".toStr && c.isHtmlTag ce &&
          radioCheckedScan c.isXml name ce.attrs false false false) = true) :
    c.isHtmlTag ce = true ∧ tagIs c ce "input" = true ∧ typeIs c ce "radio" = true ∧
      hasAttr c ce "checked" = true := by
  simp only [Bool.and_eq_true] at h
  obtain ⟨⟨h1, h2⟩, h3⟩ := h
  obtain ⟨h4, h5⟩ := checkedRadio_is_guard_radio c ce name henv h3
  exact ⟨h2, h1, h4, h5⟩

/-- A member of the group that blocks `:indeterminate` is selected by `:checked`. -/
theorem scanMember_is_checked (c : Ctx) (ch : Loc) (ce : Elem) (name : Option NVal)
    (hc : c.isHtml = true) (henv : c.isXml = true ∨ c.env = asciiEnv)
    (h : (c.tagName ce == "input".toStr && c.isHtmlTag ce &&
          radioCheckedScan c.isXml name ce.attrs false false false) = true) :
    matchList c ch ce Gen.CSS_CHECKED = true := by
  obtain ⟨h1, h2, h3, h4⟩ := scanMember_guarded c ce name henv h
  rw [checked_eq c ch ce hc, h1, h2, h3, h4]
  simp

/-- XHTML parsed as XML: `<input type="RADIO" name="a" checked="">` is NOT a checked radio of group
    `a` (nor does `[type="radio"]` select it); in HTML it is. -/
example : radioCheckedScan true (some (.str "a".toStr))
    [⟨"type".toStr, none, none, .str "RADIO".toStr⟩, ⟨"name".toStr, none, none, .str "a".toStr⟩,
     ⟨"checked".toStr, none, none, .str []⟩] false false false = false := by decide_lit
example : radioCheckedScan false (some (.str "a".toStr))
    [⟨"type".toStr, none, none, .str "RADIO".toStr⟩, ⟨"name".toStr, none, none, .str "a".toStr⟩,
     ⟨"checked".toStr, none, none, .str []⟩] false false false = true := by decide_lit
example : radioCheckedScan true (some (.str "a".toStr))
    [⟨"type".toStr, none, none, .str "radio".toStr⟩, ⟨"name".toStr, none, none, .str "a".toStr⟩,
     ⟨"checked".toStr, none, none, .str []⟩] false false false = true := by decide_lit

/-- `p` is an HTML element named `n` carrying `disabled`. -/
def isDisabledHtml (c : Ctx) (n : String) (p : Loc) : Bool :=
  match p.elem? with
  | some pe => c.isHtmlTag pe && tagIs c pe n && hasAttr c pe "disabled"
  | none => false

theorem disabledParent_eq (n : String) (hl : lower n.toStr = n.toStr)
    (hs : (n.toStr == "*".toStr) = false) :
    relPart c.htmlOnly l (disabledParent n) = parentIs c l (isDisabledHtml c n) := by
  unfold disabledParent
  rw [relPart_child c l _ rfl]
  congr 1
  funext t
  unfold isDisabledHtml
  cases t.elem? with
  | none => rfl
  | some te =>
    simp only
    rw [matchSel_cmpG, matchTag_HT c te n hl hs]
    state_simp

/-- `legend:nth-of-type(1)` as evaluated at `t`. -/
def isFirstLegend (c : Ctx) (t : Loc) (te : Elem) : Bool :=
  tagIs c te "legend" && matchNth c.htmlOnly t te (NthSel.mk 1 false 0 true false E)

/-- `t` is an HTML element, not the first `legend`, and a child of a disabled HTML `fieldset`. -/
def isNonLegendChildOfDisabledFieldset (c : Ctx) (t : Loc) : Bool :=
  match t.elem? with
  | some te => c.isHtmlTag te && !isFirstLegend c t te && parentIs c t (isDisabledHtml c "fieldset")
  | none => false

theorem belowDisabledFieldsetNotLegend_eq :
    belowDisabledFieldsetNotLegend c l = ancestorIs c l (isNonLegendChildOfDisabledFieldset c) := by
  unfold belowDisabledFieldsetNotLegend notFirstLegendInDisabledFieldset
  rw [relPart_desc c l _ rfl]
  congr 1
  funext t
  unfold isNonLegendChildOfDisabledFieldset isFirstLegend
  cases t.elem? with
  | none => rfl
  | some te =>
    simp only
    rw [matchSel_cmpG, disabledParent_eq c t "fieldset" (by decide_lit) (by decide_lit)]
    state_simp
    simp only [matchNths, Bool.and_true]

/-- `:disabled` ⇔ an HTML form control (`isFormControl`'s list) carrying `disabled`; or an `option`
    whose parent is a disabled `optgroup`; or an `input` (not hidden) / `button` / `select` /
    `textarea` / `fieldset` that is a child of a disabled `fieldset`, or a descendant of a child —
    other than the first `legend` — of a disabled `fieldset`.  Parents and ancestors are taken
    with the iframe cut and exclude the document object. -/
theorem disabled_def (hc : c.isHtml = true) :
    matchList c l e Gen.CSS_DISABLED =
      (c.isHtmlTag e &&
        ((hasAttr c e "disabled" &&
            (["button", "select", "textarea", "fieldset", "optgroup", "option"].any (tagIs c e) ||
              (tagIs c e "input" && !typeIs c e "hidden"))) ||
         (tagIs c e "option" && parentIs c l (isDisabledHtml c "optgroup")) ||
         ((["button", "select", "textarea", "fieldset"].any (tagIs c e) ||
              (tagIs c e "input" && !typeIs c e "hidden")) &&
            (parentIs c l (isDisabledHtml c "fieldset") ||
             ancestorIs c l (isNonLegendChildOfDisabledFieldset c))))) := by
  rw [disabled_eq c l e hc, ctl8_eq, ctl5_eq]
  unfold inDisabledOptgroup childOfDisabledFieldset
  rw [disabledParent_eq c l "optgroup" (by decide_lit) (by decide_lit),
    disabledParent_eq c l "fieldset" (by decide_lit) (by decide_lit), belowDisabledFieldsetNotLegend_eq]
  cases c.isHtmlTag e <;> simp [Bool.and_or_distrib_left, Bool.or_assoc]

/-! ## Everything is evaluated inside the element's own document -/

theorem ancestorsCut_stops_at_iframe (ps : List Loc) :
    (∀ p ∈ c.ancestorsCut true ps, c.locIsIframe p = false) ∧
    (∃ rest, ps = c.ancestorsCut true ps ++ rest ∧
      ∀ q, rest.head? = some q → c.locIsIframe q = true) :=
  StateLaws.ancestorsCut_stops_at_iframe c ps

/-- Inside an HTML-only list `iframe_restrict` is set. -/
theorem iframe_local_flag : c.htmlOnly.iframeRestrict = true := htmlOnly_iframeRestrict c

/-- The descendant and child combinators of the built-ins walk `c.ancestors l true` /
    `c.parent l true`. -/
theorem iframe_local_desc (on : Loc → Bool) :
    relationWalk c.htmlOnly l .desc on = ((c.ancestors l true).takeWhile (fun p => !p.isDoc)).any on :=
  relationWalk_desc c l on

theorem iframe_local_child (on : Loc → Bool) :
    relationWalk c.htmlOnly l .child on =
      (match c.parent l true with
       | some p => !p.isDoc && on p
       | none => false) :=
  relationWalk_child c l on

/-- `c.parent l true` never returns an iframe. -/
theorem parent_true_not_iframe (p : Loc) (h : c.parent l true = some p) : c.locIsIframe p = false := by
  unfold Ctx.parent at h
  cases hp : l.parent? with
  | none => rw [hp] at h; cases h
  | some q =>
    rw [hp] at h
    simp only [Bool.true_and] at h
    cases hq : c.locIsIframe q with
    | true => rw [hq] at h; simp at h
    | false =>
      rw [hq] at h
      simp only [Bool.false_eq_true, if_false, Option.some.injEq] at h
      rw [← h]; exact hq

/-- `match_default` only inspects `c.ancestors l true` and `c.tagDescendants form true`. -/
theorem iframe_local_default :
    matchDefault c l =
      (match (c.ancestors l true).find? (fun p =>
          match p.elem? with
          | some pe => c.tagName pe == "form".toStr && c.isHtmlTag pe
          | none => false) with
       | none => false
       | some form =>
         match firstSubmit c (c.tagDescendants form true) with
         | some b => b.same l
         | none => false) := rfl

/-- `get_parent_form` of `match_indeterminate` only inspects `c.ancestors · true`. -/
theorem iframe_local_parentForm (x : Loc) :
    parentForm c x =
      (match (c.ancestors x true).find? (fun p =>
          match p.elem? with
          | some pe => c.tagName pe == "form".toStr && c.isHtmlTag pe
          | none => false) with
       | some f => some f
       | none => (c.ancestors x true).getLast?) := rfl

/-- `match_indeterminate` scans `c.tagDescendants form true` (see `matchIndeterminate_def`). -/
theorem iframe_local_indeterminate (kids : List Node) (hl : l.focus = .elem e kids) (form : Loc)
    (hf : parentForm c l = some form) :
    matchIndeterminate c l =
      !(c.tagDescendants form true).any fun ch =>
          !ch.same l &&
          (match ch.elem? with
           | none => false
           | some ce =>
             c.tagName ce == "input".toStr && c.isHtmlTag ce &&
               radioCheckedScan c.isXml (c.attrByName e "name".toStr) ce.attrs false false false &&
               (match parentForm c ch with
                | some f => f.same form
                | none => false)) := by
  rw [matchIndeterminate_def c l e kids hl, hf]

/-- `match_dir` walks `l :: c.ancestors l true`. -/
theorem iframe_local_dir (d : Nat) :
    matchDir c l d =
      (if hasFlag d SEL_DIR_LTR && hasFlag d SEL_DIR_RTL then false
       else matchDirWalk c d false (l :: c.ancestors l true)) := rfl

/-- No member of `c.ancestors l true` is an iframe. -/
theorem iframe_local_ancestors (p : Loc) (hp : p ∈ c.ancestors l true) : c.locIsIframe p = false :=
  ancestors_no_iframe c l p hp

/-- `c.tagDescendants form true` is empty for an iframe and otherwise reaches its members
    through non-iframe locations only. -/
theorem iframe_local_descendants (form d : Loc) (hd : d ∈ c.tagDescendants form true) :
    c.locIsIframe form = false ∧ IsDescVia (fun x => !c.locIsIframe x) form d :=
  tagDescendants_iframe_cut c form d hd

/-- The one exception: the content test of `:placeholder-shown` reads `get_text(el)` with
    `no_iframe=False`. -/
theorem placeholder_text_not_cut :
    matchPlaceholderShown c l = (c.text l false == [] || c.text l false == [10]) := rfl

/-- One direction asked for: `match_dir` is the walk. -/
theorem matchDir_walk (d : Nat) (h : (hasFlag d SEL_DIR_LTR && hasFlag d SEL_DIR_RTL) = false) :
    matchDir c l d = matchDirWalk c d false (l :: c.ancestors l true) := by
  rw [iframe_local_dir, h]; rfl

theorem matchDir_ltr :
    matchDir c l SEL_DIR_LTR = matchDirWalk c SEL_DIR_LTR false (l :: c.ancestors l true) :=
  matchDir_walk c l _ (by decide)

theorem matchDir_rtl :
    matchDir c l SEL_DIR_RTL = matchDirWalk c SEL_DIR_RTL false (l :: c.ancestors l true) :=
  matchDir_walk c l _ (by decide)

theorem ancestors_elem (p : Loc) (hp : p ∈ c.ancestors l true) : ∃ pe, p.elem? = some pe := by
  rw [ancestors_true] at hp
  exact ancestorsAux_elem _ _ p ((List.takeWhile_sublist _).subset hp)

/-- **`match_dir` is "the direction computed along `el :: ancestors` is the requested one"** (one direction asked
    for; the subject in the XHTML namespace).  `dir_partition`, `dir_explicit`, `dir_neither`, `dir_neither_foreign`
    read it for a chain with a root, a subject that answers by itself, a chain that defers throughout, a foreign
    subject. -/
theorem matchDir_eq_dirOf (d : Nat) (hd : (hasFlag d SEL_DIR_LTR && hasFlag d SEL_DIR_RTL) = false)
    (he : l.elem? = some e) :
    matchDir c l d = (c.isHtmlTag e && dirOf c (l :: c.ancestors l true) == some d) := by
  rw [matchDir_walk c l d hd]
  exact matchDirWalk_subject c d l e _ he

/-- An element in the XHTML namespace whose chain `l :: ancestors` (with the
    iframe cut) contains an XHTML-namespace element `r` with `c.isRoot r` is exactly one of
    `:dir(ltr)`, `:dir(rtl)`.  Ancestors in other namespaces between the two are skipped. -/
theorem dir_partition (kids : List Node) (hl : l.focus = .elem e kids) (hh : c.isHtmlTag e = true)
    (r : Loc) (hmem : r ∈ l :: c.ancestors l true) (re : Elem) (hre : r.elem? = some re)
    (hrh : c.isHtmlTag re = true) (hroot : c.isRoot r = true) :
    matchDir c l SEL_DIR_LTR ≠ matchDir c l SEL_DIR_RTL := by
  have he : l.elem? = some e := congrArg Node.elem? hl
  obtain ⟨pre, post, hsplit⟩ := List.append_of_mem hmem
  have hpre : ∀ p ∈ pre, ∃ pe, p.elem? = some pe := by
    intro p hp
    have hp' : p ∈ l :: c.ancestors l true := by rw [hsplit]; exact List.mem_append_left _ hp
    rcases List.mem_cons.mp hp' with rfl | hp''
    · exact ⟨e, he⟩
    · exact ancestors_elem c l p hp''
  -- a direction is computed, and it is `ltr` or `rtl`
  have hs := dirOf_isSome_of_root c pre r post hpre ⟨re, hre, hrh⟩ hroot
  rw [← hsplit] at hs
  rw [matchDir_eq_dirOf c l e _ (by decide) he, matchDir_eq_dirOf c l e _ (by decide) he, hh]
  cases hx : dirOf c (l :: c.ancestors l true) with
  | none => rw [hx] at hs; cases hs
  | some x => exact (dirOf_val c _ x hx).ne

/-- An explicit `dir="ltr"`/`dir="rtl"` on an HTML-namespace element decides by itself. -/
theorem dir_explicit (kids : List Node) (hl : l.focus = .elem e kids) (hh : c.isHtmlTag e = true)
    (s : Str) (x : Nat) (hs : c.attrByName e "dir".toStr = some (.str s))
    (hx : dirOfAttr (lower s) = some x) (h0 : x ≠ 0) (d : Nat) (inh : Bool) :
    matchDirWalk c d inh (l :: c.ancestors l true) = (x == d) := by
  have he : l.elem? = some e := congrArg Node.elem? hl
  have : dirStep c l e = .is x := by
    unfold dirStep DirAtoms.step
    have hd : (dirAtoms c l e).dirA = some x := by
      show (match (c.attrByName e "dir".toStr).getD (.str []) with
        | .str s => dirOfAttr (lower s)
        | .list _ => none) = some x
      rw [hs]; exact hx
    rw [hd]
    have : (x != 0) = true := by simpa using h0
    simp only [this, if_true]
  rw [matchDirWalk_html_head c d inh l e _ he hh, matchDirWalk_true, dirOf_cons c _ he, if_pos hh, this]
  exact Option.some_beq_some ..

/-- If every HTML-namespace level of the chain defers to its parent (no verdict before
    the chain ends), neither `:dir(ltr)` nor `:dir(rtl)` matches. -/
theorem dir_neither (h : ∀ p ∈ l :: c.ancestors l true, ∀ pe, p.elem? = some pe →
      c.isHtmlTag pe = true → dirStep c p pe = .up) :
    matchDir c l SEL_DIR_LTR = false ∧ matchDir c l SEL_DIR_RTL = false := by
  cases he : l.elem? with
  | none =>
    rw [matchDir_ltr, matchDir_rtl, matchDirWalk_cons, matchDirWalk_cons, he]
    exact ⟨rfl, rfl⟩
  | some e =>
    rw [matchDir_eq_dirOf c l e _ (by decide) he, matchDir_eq_dirOf c l e _ (by decide) he,
      dirOf_none_of_all_up c _ h]
    exact ⟨Bool.and_false _, Bool.and_false _⟩

/-- A subject outside the XHTML namespace matches neither. -/
theorem dir_neither_foreign (kids : List Node) (hl : l.focus = .elem e kids)
    (hh : c.isHtmlTag e = false) :
    matchDir c l SEL_DIR_LTR = false ∧ matchDir c l SEL_DIR_RTL = false := by
  have he : l.elem? = some e := congrArg Node.elem? hl
  rw [matchDir_eq_dirOf c l e _ (by decide) he, matchDir_eq_dirOf c l e _ (by decide) he, hh]
  exact ⟨rfl, rfl⟩

/-- The list the parser appends for `:dir(ltr)` / `:dir(rtl)` (an HTML-only list holding one
    flagged compound). -/
def dirList (v : Nat) : SelList := .mk [cmpG none [] [] [] E .none v] false true

theorem dirList_parser (v : Nat) :
    SelList.mk [(Parser.SelB.empty.setFlags v).freeze] false true = dirList v := rfl

/-- `:dir(ltr)` / `:dir(rtl)` as selector lists are `match_dir` (in an HTML document; in a
    document that is XML but not XHTML they match nothing). -/
theorem dirList_eq (ltr : Bool) (hc : c.isHtml = true) :
    matchList c l e (dirList (if ltr then SEL_DIR_LTR else SEL_DIR_RTL)) =
      matchDir c l (if ltr then SEL_DIR_LTR else SEL_DIR_RTL) := by
  unfold dirList
  rw [matchList_html c l e hc]
  state_simp
  rw [flagPart_dir, htmlOnly_matchDir]

theorem dirList_ltr (hc : c.isHtml = true) :
    matchList c l e (dirList SEL_DIR_LTR) = matchDir c l SEL_DIR_LTR := dirList_eq c l e true hc

theorem dirList_rtl (hc : c.isHtml = true) :
    matchList c l e (dirList SEL_DIR_RTL) = matchDir c l SEL_DIR_RTL := dirList_eq c l e false hc

/-- `dir_partition` at the selector level: an HTML-namespace element with an HTML-namespace root
    at or above it is exactly one of `:dir(ltr)` and `:dir(rtl)`. -/
theorem dir_partition_selectors (hc : c.isHtml = true) (kids : List Node)
    (hl : l.focus = .elem e kids) (hh : c.isHtmlTag e = true)
    (r : Loc) (hmem : r ∈ l :: c.ancestors l true) (re : Elem) (hre : r.elem? = some re)
    (hrh : c.isHtmlTag re = true) (hroot : c.isRoot r = true) :
    matchList c l e (dirList SEL_DIR_LTR) ≠ matchList c l e (dirList SEL_DIR_RTL) := by
  rw [dirList_ltr c l e hc, dirList_rtl c l e hc]
  exact dir_partition c l e kids hl hh r hmem re hre hrh hroot

end SoupVerif.C17
