/-
  C12, tied to the PARSER by proof: namespace selectors from the selector TEXT.

  `Properties/C12.lean` proves what the matcher model does with an IR tag / attribute record that carries a
  prefix.  `Properties/C09Compile2.lean` proves which IR the parser model builds from the text of a selector
  in any spelling (`compile_eq_denote2_plain`).  This file composes the two for the compounds

      ( ns|E | *|E | |E | E )?  ( [ns|a …] | [*|a …] | [|a …] | [a …] )*        E a name or `*`,  … = (op value flag)?

  (at least one of the parts present), in EVERY spelling (escapes in identifiers, either kind of quotes or a
  bare identifier for the value, gaps and comments inside the brackets and around the compound, any letter
  case of the flag).

  `compound_text` is the general theorem (the parser accepts, and the matcher accepts `e` iff `e` is not the
  document object ∧ `TagCond` ∧ every attribute selector `AttrHolds`); the type-selector and attribute-selector
  forms follow one by one, each about `matchText` (`Refine/MatchText.lean`).

  The right-hand sides mention the tree (`uri c e` = the element's namespace URI, `e.name`, the attributes'
  `kns` / `kname` / `key` / `val`), the caller's map (`c.nsGet`) and the VALUES of the selector (prefix value,
  name value, `testOf`: operator, value, flag) — never the prefix text of the document, never the spelling.

  HOW.  `Refine/MatchText.lean` (`matchText`; `TagCond`, `matchNamespace_iff`: the C12 reading of the type selector),
  `Refine/TextVerdict.lean` (`ListText.compound_verdict`: parser, then matcher, on one compound: the type passes and every
  item alone holds), `Refine/C10ParseCompound.lean` (`C10Parse.all_holds_simples`: … in the CSS reading, for a compound of
  `#id`, `.class` and attribute selectors; the compounds above are its attribute-only case), then the C12 reading of the
  attribute selectors: `Names.mav_eq` (`designates`, `Lemmas/Names.lean`), `satAttr_iff`.

  Hypotheses, all explicit: the side conditions of `C09Compile2` (`….ok g₂`, gaps, no NUL in the text);
  `hfold`: a case-INSENSITIVE value test (flag `i`, or the `type` attribute of a non-XML document) needs a
  matcher environment that folds ASCII (`c.env.fold = lowerCp`, true of the driver's `asciiEnv`);
  per form: namespace support, what the map says about the prefix VALUE.

  Things the statements make visible (all confirmed on the real library):
    * an attribute selector WITHOUT a type selector carries the implied `*`, which is subject to the default
      namespace (`TagCond c e none`): `[a]` under a map with a `''` entry matches only elements in that
      namespace;
    * the prefix is compared by VALUE: `\*|E` is `*|E` (an identifier spelling of `*`), hence the
      hypothesis `valueOf f ≠ "*"` of the `ns|…` forms;
    * `[ns|a!=v]` with an unmapped `ns` holds of every element (no attribute is designated).
-/
import SoupVerif.Refine.TextVerdict
import SoupVerif.Refine.C10ParseCompound
import SoupVerif.Properties.C12
import SoupVerif.Lemmas.StrLit
namespace SoupVerif
namespace C12Parse
open SoupVerif.Parser Refine.Compile Spelling
open C09Compile (AttrV SAttr SAttrOp opText STag)
open C09Compile2 (STagN SItem SCompound itemsOK renderItems itemsValue applyItems applyAttr Item)
open Css (AttrTest AttrOp CaseFlag Parts addSimple)
open C01Parse (mkB implB implTag)
open NsParse

/-- Prefix value (`[]` when there is no prefix or the prefix is empty), name and test of an attribute
    selector; `none` for the other simple selectors. -/
def attrOf : SItem → Option (Str × Str × Option AttrTest)
  | .attr a => some ([], valueOf a.name, testOf a.value)
  | .attrNs ns a => some (ns.value, valueOf a.name, testOf a.value)
  | _ => none

def attrsOf (items : List SItem) : List (Str × Str × Option AttrTest) := items.filterMap attrOf

theorem simpleOf_of_attrOf (it : SItem) (h : (attrOf it).isSome = true) :
    C10Parse.simpleOf it = (attrOf it).map fun s => .attr s.1 s.2.1 s.2.2 := by
  cases it <;> first | rfl | simp [attrOf] at h

/-- Some comparison of the list is case-insensitive in this document. -/
def needsFold (c : Ctx) (ss : List (Str × Str × Option AttrTest)) : Prop :=
  ∃ s ∈ ss, ∃ t, s.2.2 = some t ∧ Css.caseInsensitive c s.2.1 t.flag = true

theorem simplesOf_attrs (items : List SItem) (hall : ∀ it ∈ items, (attrOf it).isSome = true) :
    C10Parse.simplesOf items = (attrsOf items).map fun s => Css.Simple.attr s.1 s.2.1 s.2.2 := by
  rw [attrsOf, List.map_filterMap]
  exact List.filterMap_congr fun it hit => simpleOf_of_attrOf it (hall it hit)

/-- **C12 on selector TEXT, general form.**  A compound made of an optional type selector (`E`, `*`, with
    prefix `ns|`, `*|`, `|` or none) and any number of attribute selectors (`[a]`, `[ns|a]`, `[*|a]`, `[|a]`,
    with or without `op value flag`), in ANY spelling, between two gaps: the parser model accepts the text,
    and the matcher model run on the result accepts the element `e` exactly when `e` is not the document
    object, its type passes (`TagCond`: URIs and local name) and every attribute selector holds
    (`AttrHolds` over the attributes `designates` selects by URI / local name / key). -/
theorem compound_text (c : Ctx) (l : Loc) (e : Elem) (kids : List Node)
    (hf : l.focus = .elem e kids) (tag : Option STagN) (items : List SItem) (g₁ g₂ : Str)
    (hg₁ : isGap g₁) (hg₂ : isGap g₂) (hok : (SCompound.mk tag items).ok g₂)
    (hne : (SCompound.mk tag items).isEmpty = false)
    (hall : ∀ it ∈ items, (attrOf it).isSome = true)
    (h0 : ∀ x ∈ g₁ ++ (SCompound.mk tag items).render ++ g₂, x ≠ 0)
    (hfold : needsFold c (attrsOf items) → c.env.fold = lowerCp) :
    ∃ b, matchText c (g₁ ++ (SCompound.mk tag items).render ++ g₂) l = .ok b ∧
      (b = true ↔ e.isDoc = false ∧ TagCond c e (tag.map STagN.value) ∧
        ∀ s ∈ attrsOf items, AttrHolds c e s.2.1 s.2.2 (fun x => designates c s.1 s.2.1 x = true)) := by
  have hs := simplesOf_attrs items hall
  have hall' : ∀ it ∈ items, (C10Parse.simpleOf it).isSome = true := fun it hit => by
    rw [simpleOf_of_attrOf it (hall it hit), Option.isSome_map]; exact hall it hit
  refine (C05Parse.ListText.of_compound hg₁ hg₂ hok hne (C10Parse.tbl_of_simple tag items hall') h0).compound_iff
    c l e kids hf ?_
  rw [C10Parse.all_holds_simples _ c l e g₂ items hok.2 hall' (fun ns name t hm hci => hfold (by
      rw [hs, List.mem_map] at hm
      obtain ⟨s, hs', he⟩ := hm
      injection he with _ h2 h3
      exact ⟨s, hs', t, h3, h2 ▸ hci⟩)), hs, List.all_map, List.all_eq_true]
  simp only [Function.comp, Css.satSimple, satAttr_iff]

theorem nameCond_star (c : Ctx) (e : Elem) : NameCond c e STag.star.value := Or.inl (by decide)

theorem nameCond_name (c : Ctx) (e : Elem) (n : Str) (hn : n ≠ "*".toStr) :
    NameCond c e n ↔ C12.NameEq c n e.name := by
  unfold NameCond
  exact ⟨fun h => h.resolve_left hn, Or.inr⟩

/-- **A type selector, any prefix form, any spelling**: the element is not the document object, its
    namespace URI passes `NsCond` for the prefix VALUE and its local name passes `NameCond` for the name
    VALUE. -/
theorem type_text (c : Ctx) (l : Loc) (e : Elem) (kids : List Node) (hf : l.focus = .elem e kids)
    (x : STagN) (g₁ g₂ : Str) (hg₁ : isGap g₁) (hg₂ : isGap g₂) (hok : x.ok g₂)
    (h0 : ∀ y ∈ g₁ ++ x.render ++ g₂, y ≠ 0) :
    ∃ b, matchText c (g₁ ++ x.render ++ g₂) l = .ok b ∧
      (b = true ↔ e.isDoc = false ∧ NsCond c e x.value.pfx ∧ NameCond c e x.value.name) := by
  obtain ⟨b, h1, h2⟩ := compound_text c l e kids hf (some x) [] g₁ g₂ hg₁ hg₂ ((SCompound.ok_tagOnly x g₂).2 hok)
    (SCompound.isEmpty_some x []) (by simp) (by rw [SCompound.render_tagOnly]; exact h0)
    (by rintro ⟨s, hs, _⟩; simp [attrsOf] at hs)
  rw [SCompound.render_tagOnly] at h1
  refine ⟨b, h1, h2.trans ?_⟩
  simp [attrsOf, TagCond]

/-- **`ns|E`** (`ns` an identifier in any spelling whose VALUE `p` is not `*`; `E` a name or `*`):
    `p` is mapped, the element's namespace URI equals the URI the map gives for `p`, and the local name is
    `E`. -/
theorem ns_type_text (c : Ctx) (l : Loc) (e : Elem) (kids : List Node) (hf : l.focus = .elem e kids)
    (f : C09Compile.Forms) (t : STag) (hs : valueOf f ≠ "*".toStr) (g₁ g₂ : Str) (hg₁ : isGap g₁)
    (hg₂ : isGap g₂) (hok : (STagN.mk (some (.name f)) t).ok g₂)
    (h0 : ∀ y ∈ g₁ ++ (STagN.mk (some (.name f)) t).render ++ g₂, y ≠ 0) :
    ∃ b, matchText c (g₁ ++ (renderIdentWith f ++ 124 :: t.render) ++ g₂) l = .ok b ∧
      (b = true ↔ e.isDoc = false ∧ (∃ u, c.nsGet (valueOf f) = some u ∧ C12.uri c e = u) ∧
        NameCond c e t.value) := by
  obtain ⟨b, h1, h2⟩ := type_text c l e kids hf _ g₁ g₂ hg₁ hg₂ hok h0
  refine ⟨b, h1, h2.trans ?_⟩
  have hp : valueOf f ≠ [] := forms_value_ne_nil hok.2
  simp only [STagN.value, Option.map_some, SNs.value, NsCond, hp, hs, if_false]

/-- **`*|E`**: any namespace or none; only the local name is tested. -/
theorem any_type_text (c : Ctx) (l : Loc) (e : Elem) (kids : List Node) (hf : l.focus = .elem e kids)
    (t : STag) (g₁ g₂ : Str) (hg₁ : isGap g₁) (hg₂ : isGap g₂) (hok : (STagN.mk (some .star) t).ok g₂)
    (h0 : ∀ y ∈ g₁ ++ (STagN.mk (some .star) t).render ++ g₂, y ≠ 0) :
    ∃ b, matchText c (g₁ ++ (42 :: 124 :: t.render) ++ g₂) l = .ok b ∧
      (b = true ↔ e.isDoc = false ∧ NameCond c e t.value) := by
  obtain ⟨b, h1, h2⟩ := type_text c l e kids hf _ g₁ g₂ hg₁ hg₂ hok h0
  refine ⟨b, h1, h2.trans ?_⟩
  simp [STagN.value, SNs.value, NsCond]

/-- **`|E`**: the element has no namespace (its URI is empty). -/
theorem none_type_text (c : Ctx) (l : Loc) (e : Elem) (kids : List Node) (hf : l.focus = .elem e kids)
    (t : STag) (g₁ g₂ : Str) (hg₁ : isGap g₁) (hg₂ : isGap g₂) (hok : (STagN.mk (some .empty) t).ok g₂)
    (h0 : ∀ y ∈ g₁ ++ (STagN.mk (some .empty) t).render ++ g₂, y ≠ 0) :
    ∃ b, matchText c (g₁ ++ (124 :: t.render) ++ g₂) l = .ok b ∧
      (b = true ↔ e.isDoc = false ∧ C12.uri c e = [] ∧ NameCond c e t.value) := by
  obtain ⟨b, h1, h2⟩ := type_text c l e kids hf _ g₁ g₂ hg₁ hg₂ hok h0
  refine ⟨b, h1, h2.trans ?_⟩
  simp [STagN.value, SNs.value, NsCond]

/-- **`E`** (no prefix): any namespace — unless the map has a default (`''`) entry, then the element's URI is
    that one. -/
theorem bare_type_text (c : Ctx) (l : Loc) (e : Elem) (kids : List Node) (hf : l.focus = .elem e kids)
    (t : STag) (g₁ g₂ : Str) (hg₁ : isGap g₁) (hg₂ : isGap g₂) (hok : (STagN.mk none t).ok g₂)
    (h0 : ∀ y ∈ g₁ ++ (STagN.mk none t).render ++ g₂, y ≠ 0) :
    ∃ b, matchText c (g₁ ++ t.render ++ g₂) l = .ok b ∧
      (b = true ↔ e.isDoc = false ∧ (c.nsGet [] = none ∨ c.nsGet [] = some (C12.uri c e)) ∧
        NameCond c e t.value) := by
  obtain ⟨b, h1, h2⟩ := type_text c l e kids hf _ g₁ g₂ hg₁ hg₂ hok h0
  exact ⟨b, h1, h2⟩

/-- **`*|*`**: every element (the document object aside). -/
theorem any_universal_text (c : Ctx) (l : Loc) (e : Elem) (kids : List Node) (hf : l.focus = .elem e kids)
    (g₁ g₂ : Str) (hg₁ : isGap g₁) (hg₂ : isGap g₂) (h0 : ∀ y ∈ g₁ ++ "*|*".toStr ++ g₂, y ≠ 0) :
    ∃ b, matchText c (g₁ ++ "*|*".toStr ++ g₂) l = .ok b ∧ (b = true ↔ e.isDoc = false) := by
  obtain ⟨b, h1, h2⟩ := any_type_text c l e kids hf .star g₁ g₂ hg₁ hg₂ ⟨trivial, trivial⟩ h0
  exact ⟨b, h1, h2.trans (by simp [nameCond_star])⟩

/-- `[ gap (prefix `|`)? name … ]` as a simple selector of the grammar. -/
def attrItem : Option SNs → SAttr → SItem
  | none, a => .attr a
  | some n, a => .attrNs n a

/-- The prefix VALUE the matcher receives (`[a]` and `[|a]`: the empty string). -/
def pfxValue : Option SNs → Str
  | none => []
  | some n => n.value

theorem attrOf_attrItem (ns : Option SNs) (a : SAttr) :
    attrOf (attrItem ns a) = some (pfxValue ns, valueOf a.name, testOf a.value) := by
  cases ns <;> rfl

/-- **An attribute selector, any prefix form, with or without a value test, any spelling** (optionally
    behind a type selector `tag`; without one the implied `*` subjects the element to the default
    namespace, `TagCond … none`): `D` being a description of the attributes that the prefix VALUE and the
    name VALUE designate. -/
theorem attr_text (c : Ctx) (l : Loc) (e : Elem) (kids : List Node) (hf : l.focus = .elem e kids)
    (tag : Option STagN) (ns : Option SNs) (a : SAttr) (g₁ g₂ : Str) (hg₁ : isGap g₁) (hg₂ : isGap g₂)
    (hok : (SCompound.mk tag [attrItem ns a]).ok g₂)
    (h0 : ∀ y ∈ g₁ ++ (SCompound.mk tag [attrItem ns a]).render ++ g₂, y ≠ 0)
    (hfold : ∀ t, testOf a.value = some t → Css.caseInsensitive c (valueOf a.name) t.flag = true →
      c.env.fold = lowerCp)
    (D : Attr → Prop) (hD : ∀ x, designates c (pfxValue ns) (valueOf a.name) x = true ↔ D x) :
    ∃ b, matchText c (g₁ ++ (SCompound.mk tag [attrItem ns a]).render ++ g₂) l = .ok b ∧
      (b = true ↔ e.isDoc = false ∧ TagCond c e (tag.map STagN.value) ∧
        AttrHolds c e (valueOf a.name) (testOf a.value) D) := by
  obtain ⟨b, h1, h2⟩ := compound_text c l e kids hf tag [attrItem ns a] g₁ g₂ hg₁ hg₂ hok
    (SCompound.isEmpty_cons tag _ [])
    (List.forall_mem_singleton.2 (by rw [attrOf_attrItem]; rfl)) h0
    (by
      rintro ⟨s, hs, t, ht, hci⟩
      simp only [attrsOf, List.filterMap_cons, attrOf_attrItem, List.filterMap_nil, List.mem_singleton] at hs
      subst hs
      exact hfold t ht hci)
  refine ⟨b, h1, h2.trans ?_⟩
  simp only [attrsOf, List.filterMap_cons, attrOf_attrItem, List.filterMap_nil, List.mem_singleton,
    forall_eq]
  rw [AttrHolds_congr c e _ _ _ D hD]

theorem prefix_value_ne_nil {tag : Option STagN} {f : C09Compile.Forms} {a : SAttr} {r : Str}
    (hok : (SCompound.mk tag [attrItem (some (.name f)) a]).ok r) : valueOf f ≠ [] := by
  simp only [SCompound.ok, itemsOK, renderItems, attrItem, SItem.ok] at hok
  exact forms_value_ne_nil hok.2.1.2

/-! ### The forms, one by one.  `tag` is an optional type selector in front (`none`: the attribute selector
  alone, e.g. `[ns|a=v]`; then `TagCond c e none` is the default-namespace condition of the implied `*`).
  The right-hand sides mention the tree (`e.attrs`: namespace URI `kns`, local name `kname`, key, value),
  the caller's map (`c.nsGet`) and the VALUES of the selector only. -/

/-- **`[ns|a]`, `[ns|a op v flag]`**, `ns` an identifier whose VALUE `p` (not `*`) the map sends to a non-empty URI `u`,
    in a document with namespace support: SOME attribute with namespace URI `u` and local name `a` (passes the test).  -/
theorem attr_ns_text (c : Ctx) (l : Loc) (e : Elem) (kids : List Node) (hf : l.focus = .elem e kids)
    (tag : Option STagN) (f : C09Compile.Forms) (a : SAttr) (g₁ g₂ : Str) (hg₁ : isGap g₁) (hg₂ : isGap g₂)
    (hok : (SCompound.mk tag [attrItem (some (.name f)) a]).ok g₂)
    (h0 : ∀ y ∈ g₁ ++ (SCompound.mk tag [attrItem (some (.name f)) a]).render ++ g₂, y ≠ 0)
    (hfold : ∀ t, testOf a.value = some t → Css.caseInsensitive c (valueOf a.name) t.flag = true →
      c.env.fold = lowerCp)
    (h : c.supportsNamespaces = true) (hs : valueOf f ≠ "*".toStr) (u : Str)
    (hm : c.nsGet (valueOf f) = some u) (hu : u ≠ []) :
    ∃ b, matchText c (g₁ ++ (SCompound.mk tag [attrItem (some (.name f)) a]).render ++ g₂) l = .ok b ∧
      (b = true ↔ e.isDoc = false ∧ TagCond c e (tag.map STagN.value) ∧
        AttrHolds c e (valueOf a.name) (testOf a.value) (fun x => x.kns = some u ∧ ∃ nm, x.kname = some nm ∧ C12.NameEq c (valueOf a.name) nm)) :=
  attr_text c l e kids hf tag (some (.name f)) a g₁ g₂ hg₁ hg₂ hok h0 hfold _ (fun x => designates_ns c _ _ x u h (prefix_value_ne_nil hok) hs hm hu)

/-- **`[ns|a …]`, `ns` not in the map**: no attribute is designated (so the selector fails — and `[ns|a!=v]` holds).  -/
theorem attr_ns_unmapped_text (c : Ctx) (l : Loc) (e : Elem) (kids : List Node) (hf : l.focus = .elem e kids)
    (tag : Option STagN) (f : C09Compile.Forms) (a : SAttr) (g₁ g₂ : Str) (hg₁ : isGap g₁) (hg₂ : isGap g₂)
    (hok : (SCompound.mk tag [attrItem (some (.name f)) a]).ok g₂)
    (h0 : ∀ y ∈ g₁ ++ (SCompound.mk tag [attrItem (some (.name f)) a]).render ++ g₂, y ≠ 0)
    (hfold : ∀ t, testOf a.value = some t → Css.caseInsensitive c (valueOf a.name) t.flag = true →
      c.env.fold = lowerCp)
    (h : c.supportsNamespaces = true) (hs : valueOf f ≠ "*".toStr) (hm : c.nsGet (valueOf f) = none) :
    ∃ b, matchText c (g₁ ++ (SCompound.mk tag [attrItem (some (.name f)) a]).render ++ g₂) l = .ok b ∧
      (b = true ↔ e.isDoc = false ∧ TagCond c e (tag.map STagN.value) ∧
        AttrHolds c e (valueOf a.name) (testOf a.value) (fun _ => False)) :=
  attr_text c l e kids hf tag (some (.name f)) a g₁ g₂ hg₁ hg₂ hok h0 hfold _ (fun x => designates_unmapped c _ _ x h (prefix_value_ne_nil hok) hs hm)

/-- **`[ns|a …]`, `ns ↦ ''`** (fix 3a64a82): as `[a …]` — the attribute whose whole key is `a`.  -/
theorem attr_ns_empty_text (c : Ctx) (l : Loc) (e : Elem) (kids : List Node) (hf : l.focus = .elem e kids)
    (tag : Option STagN) (f : C09Compile.Forms) (a : SAttr) (g₁ g₂ : Str) (hg₁ : isGap g₁) (hg₂ : isGap g₂)
    (hok : (SCompound.mk tag [attrItem (some (.name f)) a]).ok g₂)
    (h0 : ∀ y ∈ g₁ ++ (SCompound.mk tag [attrItem (some (.name f)) a]).render ++ g₂, y ≠ 0)
    (hfold : ∀ t, testOf a.value = some t → Css.caseInsensitive c (valueOf a.name) t.flag = true →
      c.env.fold = lowerCp)
    (h : c.supportsNamespaces = true) (hs : valueOf f ≠ "*".toStr) (hm : c.nsGet (valueOf f) = some []) :
    ∃ b, matchText c (g₁ ++ (SCompound.mk tag [attrItem (some (.name f)) a]).render ++ g₂) l = .ok b ∧
      (b = true ↔ e.isDoc = false ∧ TagCond c e (tag.map STagN.value) ∧
        AttrHolds c e (valueOf a.name) (testOf a.value) (fun x => C12.NameEq c (valueOf a.name) x.key)) :=
  attr_text c l e kids hf tag (some (.name f)) a g₁ g₂ hg₁ hg₂ hok h0 hfold _ (fun x => designates_ns_empty c _ _ x h (prefix_value_ne_nil hok) hs hm)

/-- **`[*|a]`, `[*|a op v flag]`**: SOME attribute with local name `a` in any namespace, or with key `a` in no namespace
    (passes the test) — whatever the map says about a prefix `*`.  -/
theorem attr_any_text (c : Ctx) (l : Loc) (e : Elem) (kids : List Node) (hf : l.focus = .elem e kids)
    (tag : Option STagN) (a : SAttr) (g₁ g₂ : Str) (hg₁ : isGap g₁) (hg₂ : isGap g₂)
    (hok : (SCompound.mk tag [attrItem (some .star) a]).ok g₂)
    (h0 : ∀ y ∈ g₁ ++ (SCompound.mk tag [attrItem (some .star) a]).render ++ g₂, y ≠ 0)
    (hfold : ∀ t, testOf a.value = some t → Css.caseInsensitive c (valueOf a.name) t.flag = true →
      c.env.fold = lowerCp)
    (h : c.supportsNamespaces = true) :
    ∃ b, matchText c (g₁ ++ (SCompound.mk tag [attrItem (some .star) a]).render ++ g₂) l = .ok b ∧
      (b = true ↔ e.isDoc = false ∧ TagCond c e (tag.map STagN.value) ∧
        AttrHolds c e (valueOf a.name) (testOf a.value) (fun x => (x.kns = none ∧ C12.NameEq c (valueOf a.name) x.key) ∨
          (x.kns.isSome = true ∧ ∃ nm, x.kname = some nm ∧ C12.NameEq c (valueOf a.name) nm))) :=
  attr_text c l e kids hf tag (some .star) a g₁ g₂ hg₁ hg₂ hok h0 hfold _ (fun x => designates_any c _ x h)

/-- **`[|a]`, `[|a op v flag]`**: the attribute whose WHOLE key is `a` (the value of `[|a]` is that of `[a]`).  -/
theorem attr_none_text (c : Ctx) (l : Loc) (e : Elem) (kids : List Node) (hf : l.focus = .elem e kids)
    (tag : Option STagN) (a : SAttr) (g₁ g₂ : Str) (hg₁ : isGap g₁) (hg₂ : isGap g₂)
    (hok : (SCompound.mk tag [attrItem (some .empty) a]).ok g₂)
    (h0 : ∀ y ∈ g₁ ++ (SCompound.mk tag [attrItem (some .empty) a]).render ++ g₂, y ≠ 0)
    (hfold : ∀ t, testOf a.value = some t → Css.caseInsensitive c (valueOf a.name) t.flag = true →
      c.env.fold = lowerCp)
    (h : c.supportsNamespaces = true) :
    ∃ b, matchText c (g₁ ++ (SCompound.mk tag [attrItem (some .empty) a]).render ++ g₂) l = .ok b ∧
      (b = true ↔ e.isDoc = false ∧ TagCond c e (tag.map STagN.value) ∧
        AttrHolds c e (valueOf a.name) (testOf a.value) (fun x => C12.NameEq c (valueOf a.name) x.key)) :=
  attr_text c l e kids hf tag (some .empty) a g₁ g₂ hg₁ hg₂ hok h0 hfold _ (fun x => designates_bare c _ x h)

/-- **`[a]`, `[a op v flag]`**: the attribute whose WHOLE key is `a`.  -/
theorem attr_bare_text (c : Ctx) (l : Loc) (e : Elem) (kids : List Node) (hf : l.focus = .elem e kids)
    (tag : Option STagN) (a : SAttr) (g₁ g₂ : Str) (hg₁ : isGap g₁) (hg₂ : isGap g₂)
    (hok : (SCompound.mk tag [attrItem none a]).ok g₂)
    (h0 : ∀ y ∈ g₁ ++ (SCompound.mk tag [attrItem none a]).render ++ g₂, y ≠ 0)
    (hfold : ∀ t, testOf a.value = some t → Css.caseInsensitive c (valueOf a.name) t.flag = true →
      c.env.fold = lowerCp)
    (h : c.supportsNamespaces = true) :
    ∃ b, matchText c (g₁ ++ (SCompound.mk tag [attrItem none a]).render ++ g₂) l = .ok b ∧
      (b = true ↔ e.isDoc = false ∧ TagCond c e (tag.map STagN.value) ∧
        AttrHolds c e (valueOf a.name) (testOf a.value) (fun x => C12.NameEq c (valueOf a.name) x.key)) :=
  attr_text c l e kids hf tag none a g₁ g₂ hg₁ hg₂ hok h0 hfold _ (fun x => designates_bare c _ x h)

/-- **Documents without namespace support** (HTML parsed by `html.parser` / `lxml`): every form, whatever the prefix,
    compares the whole key ASCII case-insensitively.  -/
theorem attr_no_ns_support_text (c : Ctx) (l : Loc) (e : Elem) (kids : List Node) (hf : l.focus = .elem e kids)
    (tag : Option STagN) (ns : Option SNs) (a : SAttr) (g₁ g₂ : Str) (hg₁ : isGap g₁) (hg₂ : isGap g₂)
    (hok : (SCompound.mk tag [attrItem ns a]).ok g₂)
    (h0 : ∀ y ∈ g₁ ++ (SCompound.mk tag [attrItem ns a]).render ++ g₂, y ≠ 0)
    (hfold : ∀ t, testOf a.value = some t → Css.caseInsensitive c (valueOf a.name) t.flag = true →
      c.env.fold = lowerCp)
    (h : c.supportsNamespaces = false) :
    ∃ b, matchText c (g₁ ++ (SCompound.mk tag [attrItem ns a]).render ++ g₂) l = .ok b ∧
      (b = true ↔ e.isDoc = false ∧ TagCond c e (tag.map STagN.value) ∧
        AttrHolds c e (valueOf a.name) (testOf a.value) (fun x => lower (valueOf a.name) = lower x.key)) :=
  attr_text c l e kids hf tag ns a g₁ g₂ hg₁ hg₂ hok h0 hfold _ (fun x => designates_no_ns c _ _ x h)

/-! ## Non-vacuity: concrete texts on a small tree (contexts and attributes of `Properties/C12.lean`) -/

namespace Examples
open C12 (cxml cxmlDefault cxmlEmpty chtml circle xhref plainHref u1 u2)

/-- An element `<s:circle xmlns:s="u1" x:href="v" href="w">` (document prefixes `s`, `x`), alone. -/
def el : Elem := circle (some "s".toStr) (some u1) [xhref "x:href" u1, plainHref]
def loc : Loc := ⟨.elem el [], []⟩

/-- the prefix `svg`, written `s\76 g` -/
def svgF : C09Compile.Forms := [(115, .lit), (118, .hex 2 [] (some .space)), (103, .lit)]

/-- `/**/s\76 g|circle ` under the map `{svg: u1, *: u2}`: instance of `ns_type_text`; the document's own prefix
    is `s`, only the URIs are compared. -/
example : matchText cxml "/**/s\\76 g|circle ".toStr loc = .ok true :=
  on_text (by decide_lit) <| ok_true_of (ns_type_text cxml loc el [] rfl svgF (.name (lits "circle")) (by decide) "/**/".toStr " ".toStr
    (by decide) (by decide) ⟨identOK_lit _ (by decide) _, by unfold SNs.ok; decide⟩ (by decide))
    ⟨rfl, ⟨u1, by decide, by decide⟩, Or.inr (by unfold C12.NameEq; decide)⟩

/-- `|circle`: the element is in the namespace `u1`, so it fails (`none_type_text`). -/
example : matchText cxml "|circle".toStr loc = .ok false :=
  on_text (by decide_lit) <| ok_false_of (none_type_text cxml loc el [] rfl (.name (lits "circle")) [] [] (by decide) (by decide)
    ⟨identOK_lit _ (by decide) _, trivial⟩ (by decide))
    (by rintro ⟨_, h, _⟩; revert h; decide)

/-- `circle` under a default namespace `u1` (`bare_type_text`) … -/
example : matchText cxmlDefault "circle".toStr loc = .ok true :=
  on_text (by decide_lit) <| ok_true_of (bare_type_text cxmlDefault loc el [] rfl (.name (lits "circle")) [] [] (by decide) (by decide)
    ⟨identOK_lit _ (by decide) _, trivial⟩ (by decide))
    ⟨rfl, Or.inr (by decide), Or.inr (by unfold C12.NameEq; decide)⟩

/-- … and the same element in the namespace `u2`: not in the default namespace. -/
example : matchText cxmlDefault "circle".toStr ⟨.elem (circle none (some u2) []) [], []⟩ = .ok false :=
  on_text (by decide_lit) <| ok_false_of (bare_type_text cxmlDefault _ _ [] rfl (.name (lits "circle")) [] [] (by decide) (by decide)
    ⟨identOK_lit _ (by decide) _, trivial⟩ (by decide))
    (by rintro ⟨_, h, _⟩; revert h; decide)

/-- `*|*` -/
example : matchText cxml " *|* ".toStr loc = .ok true :=
  on_text (by decide_lit) <| ok_true_of (any_universal_text cxml loc el [] rfl [32] [32] (by decide) (by decide) (by decide)) rfl

/-- `[ *|href = 'w' ]` -/
def anyHref : SAttr := ⟨[32], lits "href", some ⟨[32], none, [32], .str 39 [.ch 119 .lit], none⟩, [32]⟩

theorem anyHref_ok (ns : Option SNs) (hns : ∀ n, ns = some n → n = .star ∨ n = .empty ∨ n = .name (lits "svg") ∨
    n = .name (lits "nope")) : (SCompound.mk none [attrItem ns anyHref]).ok [] := by
  have ha : anyHref.ok [] := by simp +decide [anyHref, SAttr.ok, C09Compile.SValue.ok]
  cases ns with
  | none => exact ⟨trivial, ha, trivial⟩
  | some n =>
    refine ⟨trivial, ⟨ha, ?_⟩, trivial⟩
    rcases hns n rfl with rfl | rfl | rfl | rfl
    exacts [trivial, trivial, identOK_lit _ (by decide) _, identOK_lit _ (by decide) _]

theorem plainHref_mem : plainHref ∈ el.attrs := by simp [el, circle]

theorem passes_w : Passes cxml (valueOf anyHref.name) ⟨.eq, "w".toStr, .none⟩ plainHref := by
  unfold Passes; decide

/-- `[ *|href = 'w' ]`: the SECOND attribute with local name `href` (the one in no namespace) passes — instance
    of `attr_any_text`; the map's entry for `*` plays no part. -/
example : matchText cxml "[ *|href = 'w' ]".toStr loc = .ok true :=
  on_text (by decide_lit) <| ok_true_of (attr_any_text cxml loc el [] rfl none anyHref [] [] (by decide) (by decide)
    (anyHref_ok _ (by simp)) (by decide) (fun _ _ _ => rfl) rfl)
    ⟨rfl, Or.inl (by decide), plainHref, plainHref_mem, Or.inl ⟨rfl, by unfold C12.NameEq; decide⟩, passes_w⟩

/-- `[ svg|href = 'w' ]`: the attribute in the namespace `u1` has the value `v` — fails (`attr_ns_text`). -/
example : matchText cxml "[ svg|href = 'w' ]".toStr loc = .ok false :=
  on_text (by decide_lit) <| ok_false_of (attr_ns_text cxml loc el [] rfl none (lits "svg") anyHref [] [] (by decide) (by decide)
    (anyHref_ok _ (by simp)) (by decide) (fun _ _ _ => rfl) rfl (by decide) u1 (by decide) (by decide))
    (by
      rintro ⟨_, _, x, hx, ⟨hk, _⟩, hp⟩
      simp only [el, circle, List.mem_cons, List.not_mem_nil, or_false] at hx
      rcases hx with rfl | rfl
      · revert hp; unfold Passes; decide
      · revert hk; decide)

/-- `[ nope|href = 'w' ]`, `nope` unmapped: fails (`attr_ns_unmapped_text`). -/
example : matchText cxml "[ nope|href = 'w' ]".toStr loc = .ok false :=
  on_text (by decide_lit) <| ok_false_of (attr_ns_unmapped_text cxml loc el [] rfl none (lits "nope") anyHref [] [] (by decide) (by decide)
    (anyHref_ok _ (by simp)) (by decide) (fun _ _ _ => rfl) rfl (by decide) (by decide))
    (by rintro ⟨_, _, x, _, hf, _⟩; exact hf)

/-- `[ href = 'w' ]` and `[ |href = 'w' ]`: the attribute whose whole key is `href`. -/
example : matchText cxml "[ href = 'w' ]".toStr loc = .ok true ∧ matchText cxml "[ |href = 'w' ]".toStr loc = .ok true :=
  ⟨on_text (by decide_lit) <| ok_true_of (attr_bare_text cxml loc el [] rfl none anyHref [] [] (by decide) (by decide)
      (anyHref_ok _ (by simp)) (by decide) (fun _ _ _ => rfl) rfl)
      ⟨rfl, Or.inl (by decide), plainHref, plainHref_mem, by unfold C12.NameEq; decide, passes_w⟩,
   on_text (by decide_lit) <| ok_true_of (attr_none_text cxml loc el [] rfl none anyHref [] [] (by decide) (by decide)
      (anyHref_ok _ (by simp)) (by decide) (fun _ _ _ => rfl) rfl)
      ⟨rfl, Or.inl (by decide), plainHref, plainHref_mem, by unfold C12.NameEq; decide, passes_w⟩⟩

def isOk (x : Except Parser.Err Bool) (b : Bool) : Bool :=
  match x with
  | .ok b' => b == b'
  | .error _ => false

-- the model evaluated directly on the same texts (and a few more), as a cross-check of the statements
#guard isOk (matchText cxml "/**/s\\76 g|circle ".toStr loc) true
#guard isOk (matchText cxml "[ *|href = 'w' ]".toStr loc) true
#guard isOk (matchText cxml "[ svg|href = 'w' ]".toStr loc) false
#guard isOk (matchText cxml "[svg|href=v]".toStr loc) true
#guard isOk (matchText cxml "[nope|href!=w]".toStr loc) true        -- `AttrHolds … (fun _ => False)` for `!=`
#guard isOk (matchText cxml "[x\\:href]".toStr loc) true            -- whole key
#guard isOk (matchText cxmlEmpty "[n|href=w]".toStr loc) true       -- `n ↦ ''`
#guard isOk (matchText cxml "\\*|circle".toStr ⟨.elem (circle none (some u2) []) [], []⟩) true   -- value `*`

end Examples

#print axioms compound_text
#print axioms type_text
#print axioms ns_type_text
#print axioms any_type_text
#print axioms none_type_text
#print axioms bare_type_text
#print axioms any_universal_text
#print axioms attr_text
#print axioms attr_ns_text
#print axioms attr_ns_unmapped_text
#print axioms attr_ns_empty_text
#print axioms attr_any_text
#print axioms attr_none_text
#print axioms attr_bare_text
#print axioms attr_no_ns_support_text

end C12Parse
end SoupVerif
