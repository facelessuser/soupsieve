/-
  C18, second part — `match_range`: valid values are compared in calendar/numeric order, time
  ranges whose min exceeds max wrap around midnight, and an invalid or missing value is never
  out of range.

  Model: `matchRangeE` in `SoupVerif.Model.Match` (transcription of `CSSMatch.match_range`).
  Spec : `Spec.OutOfRange` in `SoupVerif.Spec.Calendar`.
  (Kept apart from `Properties/C18.lean` so that the calendar theorems do not depend on the
  matcher model.)

  `C17.oorOf` (the `out_of_range` flag of `match_range` as a function of the parsed values) stands here, below both
  its users: `handDecision` of this file and `C17.rangeStateE` of `Properties/C17.lean`.  So does what `parseValueE` does
  on any value (`C08.parseValueE_eq`, over `C08.isRangeType`: the seven types whose values `parse_value` reads), which
  `Properties/C08.lean` (when `match_range` raises) and `Properties/C18Parse.lean` (other types) both use.
-/
import SoupVerif.Model.Match
import SoupVerif.Properties.C18

namespace SoupVerif

namespace C18
open Inputs

/-- The strict order the matcher uses on parsed values. -/
def ltV (a b : PVal) : Prop := Inputs.ltP a b = true

end C18

namespace C17

/-- `outOfRange` of `match_range`, as a function of the parsed values. -/
def oorOf (itype : Str) (mn mx value : Option Inputs.PVal) : Bool :=
  match value with
  | none => false
  | some v =>
    let lowBad := match mn with | some m => Inputs.ltP v m | none => false
    let highBad := match mx with | some m => Inputs.ltP m v | none => false
    if itype == "time".toStr then
      match mn, mx with
      | some m1, some m2 =>
        if Inputs.ltP m2 m1 then Inputs.ltP v m1 && Inputs.ltP m2 v
        else lowBad || highBad
      | _, _ => lowBad || highBad
    else if ["date", "datetime-local", "month", "week", "number", "range"].any (fun t => t.toStr == itype) then
      lowBad || highBad
    else false

end C17

namespace C08

/-- The types for which `Inputs.parse_value` applies a regular expression to the value. -/
def isRangeType (it : Str) : Bool :=
  ["date", "month", "week", "time", "datetime-local", "number", "range"].any (fun t => t.toStr == it)

def isListV : Option NVal → Bool
  | some (.list _) => true
  | _ => false

/-- What `parse_value` returns for a value that is not a list. -/
def parsedOf (it : Str) : Option NVal → Option Inputs.PVal
  | some (.str s) => Inputs.parseValue it s
  | _ => none

/-- `parse_value` on any value: `TypeError` for a list where a regular expression would be applied to it, otherwise
    what the string (if it is one) parses to. -/
theorem parseValueE_eq (it : Str) (v : Option NVal) :
    parseValueE it v = if (isRangeType it && isListV v) = true then .error .typeError else .ok (parsedOf it v) := by
  rcases v with _ | _ | l
  · simp [parseValueE, isListV, parsedOf]
  · simp [parseValueE, isListV, parsedOf]
  · simp only [parseValueE, isRangeType, isListV, parsedOf, Bool.and_true]

theorem parseValue_nonrange (it s : Str) (hR : isRangeType it = false) :
    Inputs.parseValue it s = none := by
  apply C18.parse_other_type
  intro k hk hkt
  have : isRangeType it = true := by
    unfold isRangeType
    rw [List.any_eq_true]
    exact ⟨k, hk, by simp [hkt]⟩
  rw [hR] at this
  cases this

/-- The seven types as `match_range` tests them: `time`, or one of the six linearly ordered ones. -/
theorem isRangeType_split (t : Str) :
    isRangeType t = ((t == "time".toStr) ||
      ["date", "datetime-local", "month", "week", "number", "range"].any fun k => k.toStr == t) := by
  simp only [isRangeType, List.any_cons, List.any_nil, Bool.or_false, BEq.comm (a := t)]
  ac_rfl

end C08

namespace C18
open Inputs

/-- Every `type` for which `parseValue` can produce a value is `time` or one of the six
    linearly ordered types of `match_range`. -/
theorem parseValue_some_known (t s : Str) (v : PVal) (h : Inputs.parseValue t s = some v) :
    (t == "time".toStr) = true ∨
      (["date", "datetime-local", "month", "week", "number", "range"].any
        fun k => k.toStr == t) = true := by
  rw [← Bool.or_eq_true, ← C08.isRangeType_split]
  cases hR : C08.isRangeType t
  · rw [C08.parseValue_nonrange t s hR] at h; cases h
  · rfl

theorem parseValueE_some_known (t : Str) (x : Option NVal) (v : PVal)
    (h : parseValueE t x = .ok (some v)) :
    (t == "time".toStr) = true ∨
      (["date", "datetime-local", "month", "week", "number", "range"].any
        fun k => k.toStr == t) = true := by
  unfold parseValueE at h
  split at h
  · cases h
  · rename_i s
    exact parseValue_some_known t s v (by injection h)
  · split at h <;> cases h

/-- The decision of the hand model: everything `matchRangeE` does after its `parseValueE` calls, as a function
    of the parsed values (`matchRangeE_hand` below: this IS the tail of `matchRangeE`). -/
def handDecision (itype : Str) (mn mx value : Option PVal) (inRange : Bool) : Bool :=
  if mn.isNone && mx.isNone then false
  else if inRange then !C17.oorOf itype mn mx value else C17.oorOf itype mn mx value

theorem matchRangeE_hand (c : Ctx) (e : Elem) (cond : Nat) :
    matchRangeE c e cond = (do
      let itype ← lowerE ((c.attrByName e "type".toStr).getD (.str []))
      let mn ← parseValueE itype (c.attrByName e "min".toStr)
      let mx ← parseValueE itype (c.attrByName e "max".toStr)
      if mn.isNone && mx.isNone then return false
      let value ← parseValueE itype (c.attrByName e "value".toStr)
      return handDecision itype mn mx value (hasFlag cond SEL_IN_RANGE)) := by
  unfold matchRangeE handDecision C17.oorOf
  refine bind_congr fun itype => bind_congr fun mn => bind_congr fun mx => ?_
  cases hb : (mn.isNone && mx.isNone)
  · simp only [Bool.false_eq_true, if_false]; rfl
  · simp [hb]

theorem matchRangeE_hand_ok (c : Ctx) (e : Elem) (cond : Nat) (itype : Str) (mn mx v : Option PVal)
    (hT : lowerE ((c.attrByName e "type".toStr).getD (.str [])) = .ok itype)
    (hmn : parseValueE itype (c.attrByName e "min".toStr) = .ok mn)
    (hmx : parseValueE itype (c.attrByName e "max".toStr) = .ok mx)
    (hv : parseValueE itype (c.attrByName e "value".toStr) = .ok v) :
    matchRangeE c e cond = .ok (handDecision itype mn mx v (hasFlag cond SEL_IN_RANGE)) := by
  rw [matchRangeE_hand]
  simp only [hT, hmn, hmx, hv, bind, Except.bind, pure, Except.pure]
  cases hb : (mn.isNone && mx.isNone)
  · rfl
  · simp [handDecision, hb]

/-- The decision against the specification: `false` when neither bound is valid; otherwise `:out-of-range`
    (`inRange = false`) holds exactly when the value is out of range in the sense of `Spec.OutOfRange` (wrap-around
    for `type=time` only) and `:in-range` is its negation.  `hk`: a parsed value exists only for `time` and the six
    linearly ordered types (`parseValue_some_known`). -/
theorem handDecision_iff (itype : Str) (mn mx v : Option PVal) (inRange : Bool)
    (hk : ∀ x, v = some x → (itype == "time".toStr) = true ∨
      (["date", "datetime-local", "month", "week", "number", "range"].any
        fun k => k.toStr == itype) = true) :
    handDecision itype mn mx v inRange = true ↔
      (mn.isSome ∨ mx.isSome) ∧
        (if inRange = true then ¬ Spec.OutOfRange ltV (itype = "time".toStr) mn mx v
         else Spec.OutOfRange ltV (itype = "time".toStr) mn mx v) := by
  unfold handDecision C17.oorOf
  cases v with
  | none =>
    cases mn <;> cases mx <;> cases inRange <;> simp [Spec.OutOfRange]
  | some x =>
    have hk' := hk x rfl
    by_cases ht : (itype == "time".toStr) = true
    · have ht' : itype = "time".toStr := by simpa using ht
      cases mn with
      | none =>
        cases mx <;> cases inRange <;> simp [Spec.OutOfRange, ht, ltV]
      | some a =>
        cases mx with
        | none => cases inRange <;> simp [Spec.OutOfRange, ht, ltV]
        | some b =>
          by_cases hw : ltP b a = true
          · cases inRange <;> cases h1 : ltP x a <;> cases h2 : ltP b x <;>
              simp [Spec.OutOfRange, ht', ltV, hw, h1, h2]
          · cases inRange <;> cases h1 : ltP x a <;> cases h2 : ltP b x <;>
              simp [Spec.OutOfRange, ht', ltV, hw, h1, h2]
    · have hl := hk'.resolve_left ht
      have ht' : ¬ itype = "time".toStr := by simpa using ht
      cases mn <;> cases mx <;> cases inRange <;>
        simp [Spec.OutOfRange, ht, ht', ltV, hl]

/-- `match_range`, whenever none of the attribute reads raises: the answer is `false` when
    neither `min` nor `max` is valid; otherwise `:out-of-range` holds exactly when the value is
    out of range in the sense of `Spec.OutOfRange` (with wrap-around for `type=time` only), and
    `:in-range` is its negation. -/
theorem range_def (c : Ctx) (e : Elem) (cond : Nat) (itype : Str) (mn mx v : Option PVal)
    (hT : lowerE ((c.attrByName e "type".toStr).getD (.str [])) = .ok itype)
    (hmn : parseValueE itype (c.attrByName e "min".toStr) = .ok mn)
    (hmx : parseValueE itype (c.attrByName e "max".toStr) = .ok mx)
    (hv : parseValueE itype (c.attrByName e "value".toStr) = .ok v) :
    ∃ b, matchRangeE c e cond = .ok b ∧
      (b = true ↔ (mn.isSome ∨ mx.isSome) ∧
        (if hasFlag cond SEL_IN_RANGE then
          ¬ Spec.OutOfRange ltV (itype = "time".toStr) mn mx v
         else Spec.OutOfRange ltV (itype = "time".toStr) mn mx v)) :=
  ⟨_, matchRangeE_hand_ok c e cond itype mn mx v hT hmn hmx hv,
    handDecision_iff _ _ _ _ _ fun _ hx => parseValueE_some_known _ _ _ (hx ▸ hv)⟩

/-- `match_range` never raises when none of the four attributes it reads is a list (for every year, below 1000 and
    above 9999 included: the week count is arithmetic). -/
theorem range_total_of (c : Ctx) (e : Elem) (cond : Nat)
    (hstr : ∀ k ∈ ["type", "min", "max", "value"], ∀ l, c.attrByName e k.toStr ≠ some (.list l)) :
    ∃ b, matchRangeE c e cond = .ok b := by
  have hA : ∀ k ∈ ["type", "min", "max", "value"],
      c.attrByName e k.toStr = none ∨ ∃ s, c.attrByName e k.toStr = some (.str s) := by
    intro k hk
    cases h0 : c.attrByName e k.toStr with
    | none => exact Or.inl rfl
    | some x =>
      cases x with
      | str s => exact Or.inr ⟨s, rfl⟩
      | list l => exact absurd h0 (hstr k hk l)
  obtain ⟨itype, hT⟩ : ∃ itype, lowerE ((c.attrByName e "type".toStr).getD (.str [])) = .ok itype := by
    rcases hA "type" (by simp) with h | ⟨s, h⟩ <;> rw [h] <;> exact ⟨_, rfl⟩
  have hP : ∀ k ∈ ["type", "min", "max", "value"], ∃ r, parseValueE itype (c.attrByName e k.toStr) = .ok r :=
    fun k hk => by rcases hA k hk with h | ⟨s, h⟩ <;> rw [h] <;> exact ⟨_, rfl⟩
  obtain ⟨mn, hmn⟩ := hP "min" (by simp)
  obtain ⟨mx, hmx⟩ := hP "max" (by simp)
  obtain ⟨v, hv⟩ := hP "value" (by simp)
  obtain ⟨b, hb, -⟩ := range_def c e cond itype mn mx v hT hmn hmx hv
  exact ⟨b, hb⟩

/-- In particular when no attribute at all is a list. -/
theorem range_total (c : Ctx) (e : Elem) (cond : Nat)
    (hstr : ∀ k l, c.attrByName e k ≠ some (.list l)) :
    ∃ b, matchRangeE c e cond = .ok b :=
  range_total_of c e cond fun _ _ l => hstr _ l

/-- An invalid or missing `value` is never out of range (and is in range as soon as there is a
    valid `min` or `max`). -/
theorem range_missing_value (c : Ctx) (e : Elem) (cond : Nat) (itype : Str) (mn mx : Option PVal)
    (hT : lowerE ((c.attrByName e "type".toStr).getD (.str [])) = .ok itype)
    (hmn : parseValueE itype (c.attrByName e "min".toStr) = .ok mn)
    (hmx : parseValueE itype (c.attrByName e "max".toStr) = .ok mx)
    (hv : parseValueE itype (c.attrByName e "value".toStr) = .ok none) :
    matchRangeE c e cond =
      .ok (hasFlag cond SEL_IN_RANGE && (mn.isSome || mx.isSome)) := by
  obtain ⟨b, hb, hiff⟩ := range_def c e cond itype mn mx none hT hmn hmx hv
  rw [hb]
  congr 1
  cases b <;> cases hf : hasFlag cond SEL_IN_RANGE <;> cases mn <;> cases mx <;>
    simp_all [Spec.OutOfRange]

/-- No valid `min` and no valid `max`: neither `:in-range` nor `:out-of-range` matches. -/
theorem range_no_bounds (c : Ctx) (e : Elem) (cond : Nat) (itype : Str) (v : Option PVal)
    (hT : lowerE ((c.attrByName e "type".toStr).getD (.str [])) = .ok itype)
    (hmn : parseValueE itype (c.attrByName e "min".toStr) = .ok none)
    (hmx : parseValueE itype (c.attrByName e "max".toStr) = .ok none)
    (hv : parseValueE itype (c.attrByName e "value".toStr) = .ok v) :
    matchRangeE c e cond = .ok false := by
  obtain ⟨b, hb, hiff⟩ := range_def c e cond itype none none v hT hmn hmx hv
  rw [hb]; cases b
  · rfl
  · simp at hiff

/-- Times of day, minimum later than maximum: the range wraps around midnight, and a valid time
    is out of range exactly when it lies strictly after the maximum and strictly before the
    minimum (in minutes since midnight). -/
theorem range_time_wrap (h1 i1 h2 i2 h i : Nat) (b1 : i1 ≤ 59) (b2 : i2 ≤ 59) (b : i ≤ 59)
    (hw : h2 * 60 + i2 < h1 * 60 + i1) :
    Spec.OutOfRange ltV ("time".toStr = "time".toStr)
        (some (.ints [h1, i1])) (some (.ints [h2, i2])) (some (.ints [h, i])) ↔
      (h2 * 60 + i2 < h * 60 + i ∧ h * 60 + i < h1 * 60 + i1) := by
  have e1 := order_time_mono h2 i2 h1 i1 b2 b1
  have e2 := order_time_mono h2 i2 h i b2 b
  have e3 := order_time_mono h i h1 i1 b b1
  have hw' : Inputs.ltInts [h2, i2] [h1, i1] = true := e1.2 hw
  simp [Spec.OutOfRange, ltV, ltP_ints, hw', e2, e3]

/-- Times of day, minimum not later than maximum: the ordinary interval. -/
theorem range_time_plain (h1 i1 h2 i2 h i : Nat) (b1 : i1 ≤ 59) (b2 : i2 ≤ 59) (b : i ≤ 59)
    (hw : ¬ h2 * 60 + i2 < h1 * 60 + i1) :
    Spec.OutOfRange ltV ("time".toStr = "time".toStr)
        (some (.ints [h1, i1])) (some (.ints [h2, i2])) (some (.ints [h, i])) ↔
      (h * 60 + i < h1 * 60 + i1 ∨ h2 * 60 + i2 < h * 60 + i) := by
  have e1 := order_time_mono h2 i2 h1 i1 b2 b1
  have e2 := order_time_mono h2 i2 h i b2 b
  have e3 := order_time_mono h i h1 i1 b b1
  have hw' : ¬ Inputs.ltInts [h2, i2] [h1, i1] = true := fun hh => hw (e1.1 hh)
  simp [Spec.OutOfRange, ltV, ltP_ints, hw', e2, e3]

/-- Dates never wrap: out of range is "before the minimum day or after the maximum day". -/
theorem range_date (y1 m1 d1 y2 m2 d2 y m d : Nat) (itype : Str) (hne : itype ≠ "time".toStr)
    (v1 : Spec.validDate y1 m1 d1) (v2 : Spec.validDate y2 m2 d2) (v : Spec.validDate y m d) :
    Spec.OutOfRange ltV (itype = "time".toStr)
        (some (.ints [y1, m1, d1])) (some (.ints [y2, m2, d2])) (some (.ints [y, m, d])) ↔
      (Spec.dayNumber y m d < Spec.dayNumber y1 m1 d1 ∨
        Spec.dayNumber y2 m2 d2 < Spec.dayNumber y m d) := by
  simp [Spec.OutOfRange, ltV, ltP_ints, hne,
    order_date_mono _ _ _ _ _ _ v v1, order_date_mono _ _ _ _ _ _ v2 v]

-- 23:00–02:00 wraps: 01:30 and 23:30 are in range, 12:00 is out of range
example : ¬ Spec.OutOfRange ltV ("time".toStr = "time".toStr)
    (some (.ints [23, 0])) (some (.ints [2, 0])) (some (.ints [1, 30])) := by
  rw [range_time_wrap _ _ _ _ _ _ (by decide) (by decide) (by decide) (by decide)]; decide
example : Spec.OutOfRange ltV ("time".toStr = "time".toStr)
    (some (.ints [23, 0])) (some (.ints [2, 0])) (some (.ints [12, 0])) := by
  rw [range_time_wrap _ _ _ _ _ _ (by decide) (by decide) (by decide) (by decide)]; decide
example : ¬ Spec.OutOfRange ltV ("time".toStr = "time".toStr)
    (some (PVal.ints [23, 0])) (some (.ints [2, 0])) none := by
  simp [Spec.OutOfRange]

end C18
end SoupVerif
