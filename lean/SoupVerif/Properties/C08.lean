/-
  C08  Matching never raises on any tree — leaf level.

  The matcher model (`Model/Match.lean`) is made of total Lean functions; the places where
  CPython can raise are explicit: `lowerE` (`util.lower` on a list: unhashable for the
  `lru_cache` → `TypeError`), `parseValueE` (`RE_x.match(value)` on a list → `TypeError`) and
  their caller `matchRangeE` (`match_range`).  This file proves

    * `range_total`      no error when `type`/`min`/`max`/`value` hold what parsers store there
                         (`ParserShaped`: never a sequence);
    * `range_error_iff`  exactly when `matchRangeE` errors; `range_error_is_typeError`: the error is `TypeError`;
    * the historical defect (`util.lower(None)` for a missing `type`) as `matchRangeOldE`;
    * `normalize_total`, `normalize_list_items_str`   shape of `normalize_value`'s result;
    * `inputs_total` family   `Inputs.parse_value` gives `None` for unknown types; the ISO-week
                         count is arithmetic and defined for every year (0 and huge included).

  SIDE CONDITION found (a deviation candidate).  `ParserShaped` is needed: with a builder whose
  `multi_valued_attributes` makes `type` (or `min`/`max`/`value` of a range type) a list, the
  Python code raises `TypeError` (reproduced: `<input type="number x" min="1" value="3">` with
  `multi_valued_attributes={'*': ['type']}` and `:in-range`).  No stock parser does that.

  SCOPE NOTE (`matcher_total_note`).  For list-valued `dir`, `lang`, `type` (in `match_dir`,
  `match_default`, `match_indeterminate`), `http-equiv`, `content`, `value` (with `dir=auto`) the
  functions `matchDirWalk`, `findBidiKids`, `firstSubmit`, `radioCheckedScan`, `metaLangScan`,
  `matchLang` of the model take a conventional branch (`.list _ => none/false/skip/join`) where
  CPython raises (`util.lower(list)` → `TypeError`, `list.lower` → `AttributeError`,
  `unicodedata.bidirectional('ab')` → `TypeError`).  Under `ParserShapedFor` for those names the
  branches are unreachable (`attrByName_not_list`); outside it the model does not describe the
  Python code.

  DOMAIN OF FAITHFULNESS.  On `ParserShapedDoc` trees the Python counterparts use only total
  operations (dictionary iteration, `==`, `in`, loops over `contents`/`descendants`, `.parent`
  walks that stop at `None`, `util.lower`/`RE.match`/`.lower()`/`unicodedata.bidirectional(c)`
  on strings and single characters).  OUTSIDE that domain the model's `.list _` branches are
  conventions and CPython raises instead (all reproduced with
  `BeautifulSoup(..., 'html.parser', multi_valued_attributes={'*': [attr]})`):

  | attribute (list-valued)     | selector                      | Python                                  | model branch                         |
  |-----------------------------|-------------------------------|-----------------------------------------|--------------------------------------|
  | `type`                      | `:in-range`/`:out-of-range`   | `TypeError` (unhashable list)           | `lowerE` → `.error .typeError` (faithful) |
  | `min`/`max`/`value`, range type | `:in-range`/`:out-of-range` | `TypeError` (expected string)         | `parseValueE` → `.error .typeError` (faithful) |
  | `dir`                       | `:dir(ltr)`                   | `TypeError` (unhashable list)           | `matchDirWalk`/`findBidiKids`: `.list _ => none` |
  | `type` with `dir=auto`      | `:dir(ltr)` on `input`        | `TypeError` (unhashable list)           | `matchDirWalk`: `.list _ => []`      |
  | `value` with `dir=auto`     | `:dir(ltr)` on `input type=text` | `TypeError` (`bidirectional()` of a str) | `matchDirWalk`: `.list _ => []`   |
  | `type` of an `input`        | `:indeterminate`              | `TypeError` (unhashable list)           | `radioCheckedScan`: `.list _ => false` |
  | `type` of `input`/`button`  | `:default` (non-empty list)   | `TypeError` (unhashable list)           | `firstSubmit`: `.list _ =>` skip     |
  | `lang` / `xml:lang`         | `:lang(en)`                   | `AttributeError` (`list.lower`)         | `matchLang`: joined with spaces      |
  | `http-equiv` of a `meta`    | `p:lang(en)` (meta fallback)  | `TypeError` (unhashable list)           | `metaLangScan`: `.list _ => false`   |
  | `content` of a `meta`       | `p:lang(en)` (meta fallback)  | `AttributeError` (`list.lower`)         | `matchLang`: joined with spaces      |

  `name` (compared with `==`) and `placeholder` (only tested for presence by an attribute
  selector) are total in Python for lists too; they are in `stateAttrs` only to keep the domain
  simple.  No stock parser stores a list for any attribute of `stateAttrs`; a builder with a
  custom `multi_valued_attributes` can.  Exception-freedom of the real code on generated trees
  is checked by the harness, not here.
-/
import SoupVerif.Properties.C18Range
import SoupVerif.Lemmas.StrLit
namespace SoupVerif
namespace C08

/-- The value is a sequence (`list`/`tuple`): the only shape `normalize_value` turns into a list. -/
def isSeq : PyVal → Bool
  | .seq _ _ => true
  | _ => false

/-- Key comparison of `get_attribute_by_name`: exact in XML, lower-cased key otherwise. -/
def keyIs (c : Ctx) (a : Attr) (name : Str) : Bool :=
  if c.isXml then a.key == name else lower a.key == name

/-- The attributes called `names` (compared as the matcher compares them) never hold a sequence:
    `str`, `None`, `bytes` or any other object (whose `str()` is taken). -/
def ParserShapedFor (names : List String) (c : Ctx) (e : Elem) : Prop :=
  ∀ a ∈ e.attrs, ∀ n ∈ names, keyIs c a n.toStr = true → isSeq a.val = false

/-- What `match_range` reads. -/
def rangeAttrs : List String := ["type", "min", "max", "value"]

/-- The element is as a tree builder makes it, as far as `match_range` looks: none of the four attributes it reads
    holds a sequence. -/
def ParserShaped (c : Ctx) (e : Elem) : Prop := ParserShapedFor rangeAttrs c e

/-- `normalize_value` is total: a string for `None`/`str`/`bytes`/other objects, a list of
    strings for a sequence. -/
theorem normalize_total (v : PyVal) :
    (isSeq v = false ∧ ∃ s, normalizeValue v = .str s) ∨
    (∃ items r, v = .seq items r ∧ normalizeValue v = .list (items.map normalizeItem)) := by
  cases v with
  | none => exact Or.inl ⟨rfl, _, rfl⟩
  | str s => exact Or.inl ⟨rfl, _, rfl⟩
  | bytes d => exact Or.inl ⟨rfl, _, rfl⟩
  | seq items r => exact Or.inr ⟨items, r, rfl, rfl⟩
  | other r => exact Or.inl ⟨rfl, _, rfl⟩

theorem normalize_str_iff (v : PyVal) : (∃ s, normalizeValue v = .str s) ↔ isSeq v = false := by
  cases v <;> simp [normalizeValue, isSeq]

theorem normalize_list_iff (v : PyVal) : (∃ l, normalizeValue v = .list l) ↔ isSeq v = true := by
  cases v <;> simp [normalizeValue, isSeq]

/-- Every item of a normalised sequence is a string: one per item, a nested sequence through its
    `str()` (never a nested list), `None` as `''`. -/
theorem normalize_list_items_str (items : List PyVal) (r : Str) :
    ∃ l : List Str, normalizeValue (.seq items r) = .list l ∧ l.length = items.length ∧
      ∀ i (h : i < items.length), l[i]? = some (normalizeItem items[i]) := by
  refine ⟨items.map normalizeItem, rfl, by simp, ?_⟩
  intro i h
  simp [h]

theorem normalizeItem_nested (items : List PyVal) (r : Str) : normalizeItem (.seq items r) = r := rfl
theorem normalizeItem_none : normalizeItem .none = [] := rfl

/-- A shaped attribute never reads as a list. -/
theorem attrByName_not_list {names : List String} {c : Ctx} {e : Elem}
    (hs : ParserShapedFor names c e) {n : String} (hn : n ∈ names) (l : List Str) :
    c.attrByName e n.toStr ≠ some (.list l) := by
  intro h
  unfold Ctx.attrByName at h
  have key : ∀ a ∈ e.attrs, keyIs c a n.toStr = true → normalizeValue a.val ≠ .list l := by
    intro a ha hk hl
    have h1 := hs a ha n hn hk
    have h2 := (normalize_list_iff a.val).mp ⟨l, hl⟩
    rw [h1] at h2
    cases h2
  split at h
  · rename_i hx
    rw [Option.map_eq_some_iff] at h
    obtain ⟨a, hfind, hv⟩ := h
    have hp := List.find?_some hfind
    exact key a (List.mem_of_find?_eq_some hfind)
      (by unfold keyIs; rw [if_pos hx]; simpa using hp) hv
  · rename_i hx
    rw [Option.map_eq_some_iff] at h
    obtain ⟨a, hfind, hv⟩ := h
    have hp := List.find?_some hfind
    exact key a (List.mem_of_find?_eq_some hfind)
      (by unfold keyIs; rw [if_neg hx]; simpa using hp) hv

theorem lowerE_ok_iff (v : NVal) : (∃ s, lowerE v = .ok s) ↔ ∃ s, v = .str s := by
  cases v <;> simp [lowerE]

/-- `match_range` returns a value for every condition and every context and element that are `ParserShaped` (none of
    `type`, `min`, `max`, `value` holds a sequence; without it: `range_error`), whatever the content of these attributes
    (missing, empty, malformed, any year). -/
theorem range_total (c : Ctx) (e : Elem) (cond : Nat) (hs : ParserShaped c e) :
    ∃ b, matchRangeE c e cond = .ok b :=
  C18.range_total_of c e cond fun _ hk l => attrByName_not_list hs hk l

/-- The `Bool` wrapper `matchRange` used inside `matchSel` turns an error into `false`; on
    parser-shaped elements there is no error to swallow. -/
theorem matchRange_faithful (c : Ctx) (e : Elem) (cond : Nat) (hs : ParserShaped c e) :
    matchRangeE c e cond = .ok (matchRange c e cond) := by
  obtain ⟨b, hb⟩ := range_total c e cond hs
  unfold matchRange
  rw [hb]; rfl

/-- The reads that raise, in the order Python performs them:
    `type` is a list; or the type is one of the seven range types and `min` is a list, or `max`
    is, or (some bound being valid, so that the early `return False` is not taken) `value` is. -/
def raisesCore (tv : NVal) (mnv mxv vv : Option NVal) : Bool :=
  match tv with
  | .list _ => true
  | .str s =>
    isRangeType (lower s) &&
      (isListV mnv || isListV mxv ||
        (!((parsedOf (lower s) mnv).isNone && (parsedOf (lower s) mxv).isNone) && isListV vv))

/-- `match_range` raises on `e` (`raisesCore` on the `type` value; an absent `type` reads as `''`). -/
def rangeRaises (c : Ctx) (e : Elem) : Bool :=
  raisesCore ((c.attrByName e "type".toStr).getD (.str []))
    (c.attrByName e "min".toStr) (c.attrByName e "max".toStr) (c.attrByName e "value".toStr)

/-- When `match_range` raises, and that it raises nothing but `TypeError`: after `parseValueE_eq` the body of
    `matchRangeE` is four tests in a row, each a Boolean of the attribute read. -/
theorem range_error (c : Ctx) (e : Elem) (cond : Nat) :
    (matchRangeE c e cond = .error .typeError ↔ rangeRaises c e = true) ∧
      ∀ err, matchRangeE c e cond = .error err → err = .typeError := by
  rw [C18.matchRangeE_hand]
  unfold rangeRaises raisesCore
  cases (c.attrByName e "type".toStr).getD (.str []) with
  | list l => simp [lowerE, bind, Except.bind]
  | str s =>
    simp only [lowerE, parseValueE_eq, bind, Except.bind, pure, Except.pure]
    generalize isRangeType (lower s) = R
    generalize isListV (c.attrByName e "min".toStr) = l1
    generalize isListV (c.attrByName e "max".toStr) = l2
    generalize isListV (c.attrByName e "value".toStr) = l3
    generalize parsedOf (lower s) (c.attrByName e "min".toStr) = p1
    generalize parsedOf (lower s) (c.attrByName e "max".toStr) = p2
    -- the reads in the order Python performs them; the first list that is reached raises
    cases R
    · cases p1 <;> cases p2 <;> simp
    cases l1
    · cases l2
      · cases p1 <;> cases p2 <;> cases l3 <;> simp
      · simp
    · simp

/-- `match_range` raises exactly when a read attribute normalises to a list AND the branch that
    uses it is reached (`rangeRaises`). -/
theorem range_error_iff (c : Ctx) (e : Elem) (cond : Nat) :
    (∃ err, matchRangeE c e cond = .error err) ↔ rangeRaises c e = true := by
  obtain ⟨h1, h2⟩ := range_error c e cond
  exact ⟨fun ⟨err, he⟩ => h1.mp (h2 err he ▸ he), fun hr => ⟨_, h1.mpr hr⟩⟩

theorem range_error_is_typeError (c : Ctx) (e : Elem) (cond : Nat) (err : PyErr)
    (h : matchRangeE c e cond = .error err) : err = .typeError :=
  (range_error c e cond).2 err h

/-- Parser-shaped elements never satisfy the raising condition. -/
theorem shaped_not_raises (c : Ctx) (e : Elem) (hs : ParserShaped c e) : rangeRaises c e = false := by
  cases h : rangeRaises c e with
  | false => rfl
  | true =>
    obtain ⟨err, he⟩ := (range_error_iff c e 0).mpr h
    obtain ⟨b, hb⟩ := range_total c e 0 hs
    rw [hb] at he
    cases he

/-! ### Examples: a list-valued `type`, and the historical `util.lower(None)` -/

def chtml : Ctx :=
  { env := asciiEnv, bidi := fun _ => 0, wildStrip := id, isXml := false, hasHtmlNs := false,
    isHtml := true, root := none, scope := none, namespaces := [], iframeRestrict := false }

def input (attrs : List (String × PyVal)) : Elem :=
  { isDoc := false, name := "input".toStr, pfx := none, ns := none,
    attrs := attrs.map fun (k, v) => ⟨k.toStr, none, none, v⟩ }

def sv (s : String) : PyVal := .str s.toStr

/-- Results of `matchRangeE` can be compared, so that the vectors below are decided by evaluation. -/
local instance : DecidableEq (Except PyErr Bool)
  | .ok a, .ok b => decidable_of_iff (a = b) (by simp)
  | .error a, .error b => decidable_of_iff (a = b) (by simp)
  | .ok _, .error _ => isFalse nofun
  | .error _, .ok _ => isFalse nofun

/-- `<input type=["number","x"] min="1" value="3">` (a builder with a multi-valued `type`). -/
example : matchRangeE chtml
    (input [("type", .seq [sv "number", sv "x"] "['number', 'x']".toStr), ("min", sv "1"), ("value", sv "3")])
    SEL_IN_RANGE = .error .typeError := by decide +kernel

/-- A list-valued `min` raises only for a range type … -/
example : matchRangeE chtml
    (input [("type", sv "number"), ("min", .seq [sv "1", sv "2"] []), ("value", sv "3")])
    SEL_IN_RANGE = .error .typeError := by decide +kernel
/-- … not for `type=text` (`parse_value` never touches the value) … -/
example : matchRangeE chtml
    (input [("type", sv "text"), ("min", .seq [sv "1", sv "2"] []), ("value", sv "3")])
    SEL_IN_RANGE = .ok false := by decide +kernel
/-- … and a list-valued `value` is not even read when there is no valid bound. -/
example : matchRangeE chtml
    (input [("type", sv "number"), ("min", sv "x"), ("value", .seq [sv "3"] [])])
    SEL_IN_RANGE = .ok false := by decide +kernel
example : matchRangeE chtml
    (input [("type", sv "number"), ("min", sv "1"), ("value", .seq [sv "3"] [])])
    SEL_IN_RANGE = .error .typeError := by decide +kernel
/-- `None`, bytes, numbers (their `str()`) are fine. -/
example : matchRangeE chtml
    (input [("type", sv "number"), ("min", .other "1".toStr), ("max", .none), ("value", .bytes "3".toStr)])
    SEL_IN_RANGE = .ok true := by decide +kernel

/-- The historical code: `util.lower(self.get_attribute_by_name(el, 'type'))` — no default, so a
    missing `type` handed `None` to `util.lower` (`for c in None` → `TypeError`). -/
def matchRangeOldE (c : Ctx) (e : Elem) (condition : Nat) : Except PyErr Bool := do
  let _itype ← (match c.attrByName e "type".toStr with
    | none => (Except.error PyErr.typeError : Except PyErr Str)
    | some v => lowerE v)
  matchRangeE c e condition

/-- `<input max="5">` (no `type`): the old code raises, the repaired code answers `False`. -/
example : matchRangeOldE chtml (input [("max", sv "5")]) SEL_IN_RANGE = .error .typeError := by decide +kernel
example : matchRangeE chtml (input [("max", sv "5")]) SEL_IN_RANGE = .ok false := by decide +kernel
example : matchRangeE chtml (input [("max", sv "5")]) SEL_OUT_OF_RANGE = .ok false := by decide +kernel
/-- With a `type` both agree. -/
example : matchRangeOldE chtml (input [("type", sv "number"), ("max", sv "5"), ("value", sv "7")]) SEL_OUT_OF_RANGE
    = matchRangeE chtml (input [("type", sv "number"), ("max", sv "5"), ("value", sv "7")]) SEL_OUT_OF_RANGE := by
  decide +kernel
example : matchRangeE chtml (input [("type", sv "number"), ("max", sv "5"), ("value", sv "7")]) SEL_OUT_OF_RANGE
    = .ok true := by decide +kernel

/-- The old code raises exactly when the repaired one does, or `type` is missing. -/
theorem old_error_iff (c : Ctx) (e : Elem) (cond : Nat) :
    (∃ err, matchRangeOldE c e cond = .error err) ↔
      (c.attrByName e "type".toStr = none ∨ rangeRaises c e = true) := by
  rw [← range_error_iff c e cond]
  unfold matchRangeOldE
  cases h : c.attrByName e "type".toStr with
  | none => simp [bind, Except.bind]
  | some v =>
    cases v with
    | str s => simp [lowerE, bind, Except.bind]
    | list l =>
      have : matchRangeE c e cond = .error .typeError := by
        unfold matchRangeE; rw [h]; rfl
      simp [lowerE, bind, Except.bind, this]

/-- `parse_value` returns `None` for every type outside the seven it knows. -/
theorem inputs_unknown_type (ty s : Str) (h : isRangeType ty = false) : Inputs.parseValue ty s = none :=
  parseValue_nonrange ty s h

/-- The weekday of 31 December is always a weekday number — no division by zero, no table lookup
    out of range, for every year including 0. -/
theorem dec31_range (y : Nat) : 1 ≤ Inputs.dec31 y ∧ Inputs.dec31 y ≤ 7 := by
  unfold Inputs.dec31
  simp only
  split
  · omega
  · rename_i h
    have : (y + y / 4 - y / 100 + y / 400) % 7 ≠ 0 := by simpa using h
    omega

/-- The ISO week count is 52 or 53 for every year whatsoever (no `strptime`, no `ValueError`). -/
theorem maxWeek_total (y : Nat) : Inputs.maxWeek y = 52 ∨ Inputs.maxWeek y = 53 := by
  unfold Inputs.maxWeek
  split
  · exact Or.inr rfl
  · exact Or.inl rfl

/-- `validate_week` is a plain comparison against that count. -/
theorem validateWeek_total (y w : Nat) :
    Inputs.validateWeek y w = (decide (1 ≤ w) && decide (w ≤ Inputs.maxWeek y)) := rfl

theorem validateWeek_small (y w : Nat) (h1 : 1 ≤ w) (h2 : w ≤ 52) : Inputs.validateWeek y w = true := by
  rw [validateWeek_total]
  rcases maxWeek_total y with h | h <;> simp [h, h1] <;> omega

theorem validateWeek_large (y w : Nat) (h : 54 ≤ w) : Inputs.validateWeek y w = false := by
  rw [validateWeek_total]
  rcases maxWeek_total y with h' | h' <;> simp [h'] <;> omega

/-- The inputs of the historical `ValueError`s (`strptime` on years below 1000 / above 9999). -/
example : Inputs.parseValue "week".toStr "0999-W01".toStr = some (.ints [999, 1]) := by decide_lit
example : Inputs.parseValue "week".toStr "10000-W01".toStr = some (.ints [10000, 1]) := by decide_lit
example : Inputs.parseValue "week".toStr "0000-W01".toStr = none := by decide_lit      -- year 0 is invalid
example : Inputs.validateWeek 0 1 = true := by decide
example : Inputs.validateWeek 100000000 53 = false := by decide
example : Inputs.validateWeek 100000004 53 = true := by decide
example : matchRangeE chtml (input [("type", sv "week"), ("min", sv "0999-W01"), ("value", sv "0998-W52")])
    SEL_OUT_OF_RANGE = .ok true := by decide +kernel
example : matchRangeE chtml (input [("type", sv "week"), ("max", sv "10000-W01"), ("value", sv "10000-W02")])
    SEL_OUT_OF_RANGE = .ok true := by decide +kernel

/-! ### Totality: `parse_value`, `match_range` on a whole document -/

/-- `parse_value` is total on strings: a value or `None`, for every type and every string. -/
theorem inputs_total (ty s : Str) : Inputs.parseValue ty s = none ∨ ∃ v, Inputs.parseValue ty s = some v := by
  cases Inputs.parseValue ty s with
  | none => exact Or.inl rfl
  | some v => exact Or.inr ⟨v, rfl⟩

/-- The attributes the state pseudo-classes read (`:in-range`/`:out-of-range`, `:dir()`,
    `:lang()`, `:default`, `:indeterminate`, `:placeholder-shown`, and the `<meta>` language
    search). -/
def stateAttrs : List String :=
  ["type", "min", "max", "value", "dir", "lang", "xml:lang", "name", "http-equiv", "content", "placeholder"]

/-- `a` is one of them under ANY of the key comparisons the matcher uses (exact, lower-cased, or
    the local name of a namespaced key for `xml:lang`). -/
def isStateAttr (a : Attr) : Bool :=
  stateAttrs.any (fun n => n.toStr == lower a.key) ||
    (match a.kname with
     | some nm => lower nm == "lang".toStr
     | none => false)

/-- None of the attributes the state pseudo-classes read holds a sequence. -/
def ElemShaped (e : Elem) : Prop := ∀ a ∈ e.attrs, isStateAttr a = true → isSeq a.val = false

mutual
/-- All elements of a tree (the node itself included). -/
def allElems : Node → List Elem
  | .elem e kids => e :: allElemsKids kids
  | .str _ _ => []
def allElemsKids : List Node → List Elem
  | [] => []
  | k :: ks => allElems k ++ allElemsKids ks
end

/-- Every element of the tree is parser-shaped for the whole state-attribute set.  This is the
    domain of faithfulness of the total model (`Model/Match.lean`): the harness generates list
    values only for attributes OUTSIDE `stateAttrs`. -/
def ParserShapedDoc (n : Node) : Prop := ∀ e ∈ allElems n, ElemShaped e

theorem stateAttrs_lower : ∀ n ∈ stateAttrs, lower n.toStr = n.toStr := by decide +kernel

theorem elemShaped_for (c : Ctx) (e : Elem) (h : ElemShaped e) : ParserShapedFor stateAttrs c e := by
  intro a ha n hn hk
  apply h a ha
  unfold isStateAttr
  rw [Bool.or_eq_true]
  left
  rw [List.any_eq_true]
  refine ⟨n, hn, ?_⟩
  unfold keyIs at hk
  split at hk
  · have : a.key = n.toStr := by simpa using hk
    rw [this, stateAttrs_lower n hn]; simp
  · have : lower a.key = n.toStr := by simpa using hk
    rw [this]; simp

theorem parserShapedFor_mono {names names' : List String} {c : Ctx} {e : Elem}
    (hsub : ∀ n ∈ names', n ∈ names) (h : ParserShapedFor names c e) : ParserShapedFor names' c e :=
  fun a ha n hn hk => h a ha n (hsub n hn) hk

theorem elemShaped_parserShaped (c : Ctx) (e : Elem) (h : ElemShaped e) : ParserShaped c e :=
  parserShapedFor_mono (by decide) (elemShaped_for c e h)

/-- On a parser-shaped document `match_range` never raises, on any element, in any context. -/
theorem doc_range_total (n : Node) (hd : ParserShapedDoc n) (c : Ctx) (e : Elem) (he : e ∈ allElems n)
    (cond : Nat) : ∃ b, matchRangeE c e cond = .ok b :=
  range_total c e cond (elemShaped_parserShaped c e (hd e he))

/-- On a parser-shaped document no attribute read by name ever sees a list, for every name of
    `stateAttrs` (so every `.list _` branch on such a read in the model is dead code there). -/
theorem doc_attr_not_list (n : Node) (hd : ParserShapedDoc n) (c : Ctx) (e : Elem) (he : e ∈ allElems n)
    (name : String) (hn : name ∈ stateAttrs) (l : List Str) :
    c.attrByName e name.toStr ≠ some (.list l) :=
  attrByName_not_list (elemShaped_for c e (hd e he)) hn l

/-- `matchList` returns a value on every context, location and selector list: it is a total Lean function, which is
    all this statement says.  What that means for the Python code is said in the module docstring (domain of
    faithfulness). -/
theorem matcher_total_note (c : Ctx) (l : Loc) (e : Elem) (sel : SelList) :
    ∃ b : Bool, matchList c l e sel = b := ⟨_, rfl⟩

end C08
end SoupVerif
