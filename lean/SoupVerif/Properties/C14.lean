/-
C14 -- concurrent compilation and matching behave as if run one at a time.

Two halves:

* a theorem about the scheduling model (`Model/Sched.lean`): threads that touch no shared mutable slot --
  only their own state and the cache API, whose contract is "the value stored for key k is `parse k`" --
  end, under EVERY schedule (any interleaving, any number of threads), in the state they reach when run
  alone; proved by induction on the schedule;
* facts about the source text (`Generated/Effects.lean`, rebuilt on every run): no function of soupsieve
  stores into an object that outlives the call, apart from objects still under construction; the matcher
  never writes to a Beautiful Soup object; the debug flag only guards printing.

The old tokenizer protocol (`self.matched_name = ...` in `match()`, read back in `get_name()`) is shown to be
expressible in the model and to go wrong under a 2-thread, 4-step schedule.
-/
import SoupVerif.Model.Sched
import SoupVerif.Generated.Effects

namespace SoupVerif.C14
open SoupVerif.Sched

section Noninterference
variable {L Loc Val Key : Type} [DecidableEq Loc] [DecidableEq Key]

theorem cacheOK_update {parse : Key → Val} {ca : Key → Option Val} (h : CacheOK parse ca) (q : Key) :
    CacheOK parse (update ca q (some (parse q))) := by
  intro k v hk
  unfold update at hk
  split at hk
  · next heq => cases hk; rw [heq]
  · exact h k v hk

omit [DecidableEq Key] in
theorem cacheOK_empty (parse : Key → Val) : CacheOK parse (fun _ => none) := by
  intro k v hk; cases hk

/-- One step of a thread all of whose remaining steps are safe, against a correct cache: its own state moves exactly as
`pureStep` says (which mentions neither the store nor the cache), and the cache stays correct. -/
theorem stepThread_safe (parse : Key → Val) (sh : Loc → Val) (ca : Key → Option Val)
    (th : Thread L Loc Val Key) (hs : ∀ s ∈ th.prog, s.Safe parse) (hc : CacheOK parse ca) :
    (stepThread parse sh ca th).2.2 = pureStep parse th ∧ CacheOK parse (stepThread parse sh ca th).2.1 := by
  obtain ⟨st, prog⟩ := th
  cases prog with
  | nil => exact ⟨rfl, hc⟩
  | cons s rest =>
    have hsafe := hs s (List.mem_cons_self ..)
    cases s with
    | loc f => exact ⟨rfl, hc⟩
    | readShared x k => exact absurd hsafe (by simp [Step.Safe])
    | writeShared x v => exact absurd hsafe (by simp [Step.Safe])
    | cacheGet key k =>
      refine ⟨?_, hc⟩
      simp only [stepThread, pureStep]
      cases hq : ca (key st) with
      | none => rfl
      | some v => rw [hc _ _ hq]; rfl
    | cachePut key v =>
      refine ⟨rfl, ?_⟩
      simp only [stepThread]
      have : v st = parse (key st) := hsafe st
      rw [this]
      exact cacheOK_update hc _
    | cacheClear => exact ⟨rfl, cacheOK_empty parse⟩

omit [DecidableEq Loc] [DecidableEq Key] in
theorem pureStep_prog_subset (parse : Key → Val) (th : Thread L Loc Val Key) :
    ∀ s ∈ (pureStep parse th).prog, s ∈ th.prog := by
  obtain ⟨st, prog⟩ := th
  cases prog with
  | nil => intro s hs; exact hs
  | cons s0 rest =>
    intro s hs
    have : (pureStep parse ⟨st, s0 :: rest⟩).prog = rest := by cases s0 <;> rfl
    rw [this] at hs
    exact List.mem_cons_of_mem _ hs

/-- All threads safe and the cache correct: the invariant of the induction. -/
def Inv (parse : Key → Val) (c : Config L Loc Val Key) : Prop :=
  (∀ th ∈ c.threads, ∀ s ∈ th.prog, s.Safe parse) ∧ CacheOK parse c.cache

theorem sched1_spec (parse : Key → Val) (t : Nat) (c : Config L Loc Val Key) (h : Inv parse c) :
    Inv parse (sched1 parse t c) ∧
    ∀ i, (sched1 parse t c).threads[i]? =
      if t = i then (c.threads[i]?).map (pureStep parse) else c.threads[i]? := by
  unfold sched1
  cases ht : c.threads[t]? with
  | none =>
    refine ⟨h, fun i => ?_⟩
    by_cases hti : t = i
    · subst hti; simp [ht]
    · simp [hti]
  | some th =>
    have hmem : th ∈ c.threads := List.mem_of_getElem? ht
    obtain ⟨hstep, hcache⟩ := stepThread_safe parse c.shared c.cache th (h.1 th hmem) h.2
    have hlt : t < c.threads.length := (List.getElem?_eq_some_iff.mp ht).1
    refine ⟨⟨?_, hcache⟩, fun i => ?_⟩
    · intro th' hth' s hs
      simp only at hth'
      rcases List.mem_or_eq_of_mem_set hth' with hold | hnew
      · exact h.1 th' hold s hs
      · rw [hnew, hstep] at hs
        exact h.1 th hmem s (pureStep_prog_subset parse th s hs)
    · show (c.threads.set t (stepThread parse c.shared c.cache th).2.2)[i]? = _
      rw [List.getElem?_set]
      by_cases hti : t = i
      · subst hti; rw [ht]; simp [hlt, hstep]
      · simp [hti]

/-- Under the invariant, after any schedule every thread is where `count` of its own safe steps put it --
a function of the thread alone. -/
theorem run_spec (parse : Key → Val) (sched : Schedule) : ∀ (c : Config L Loc Val Key), Inv parse c →
    Inv parse (run parse sched c) ∧
    ∀ i, (run parse sched c).threads[i]? = (c.threads[i]?).map (pureAdvance parse (sched.count i)) := by
  induction sched with
  | nil =>
    intro c h
    refine ⟨h, fun i => ?_⟩
    show c.threads[i]? = _
    cases c.threads[i]? <;> simp [pureAdvance]
  | cons t s ih =>
    intro c h
    obtain ⟨h1, hthreads⟩ := sched1_spec parse t c h
    obtain ⟨h2, hrest⟩ := ih (sched1 parse t c) h1
    refine ⟨h2, fun i => ?_⟩
    show (run parse s (sched1 parse t c)).threads[i]? = _
    rw [hrest i, hthreads i]
    by_cases hti : t = i
    · subst hti
      cases c.threads[t]? with
      | none => simp
      | some th => simp [pureAdvance]
    · have : (t :: s).count i = s.count i := by simp [hti]
      simp [hti, this]

/-- If no thread has a step that reads or writes a shared slot -- only steps on its own
state and cache operations obeying the cache's contract -- then under every schedule (any interleaving, any
number of threads, any initial shared store, any correct initial cache) each thread is exactly where it is
when it runs alone, from an empty cache, for as many steps as the schedule gave it. -/
theorem noninterference (parse : Key → Val) (c : Config L Loc Val Key)
    (hsafe : ∀ th ∈ c.threads, ∀ s ∈ th.prog, s.Safe parse) (hcache : CacheOK parse c.cache)
    (sched : Schedule) (i : Nat) (th : Thread L Loc Val Key) (hi : c.threads[i]? = some th) :
    (run parse sched c).threads[i]? = runAlone parse c.shared (sched.count i) th := by
  have h1 := (run_spec parse sched c ⟨hsafe, hcache⟩).2 i
  have hmem : th ∈ c.threads := List.mem_of_getElem? hi
  have inv2 : Inv parse (⟨c.shared, fun _ => none, [th]⟩ : Config L Loc Val Key) :=
    ⟨fun th' hth' => by
      have : th' = th := by simpa using hth'
      subst this; exact hsafe th' hmem, cacheOK_empty parse⟩
  have h2 := (run_spec parse (List.replicate (sched.count i) 0) _ inv2).2 0
  unfold runAlone
  rw [h1, h2, hi]
  simp

/-- Nothing wrong is left behind in the cache: after any schedule every entry is still `parse key`. -/
theorem cache_stays_correct (parse : Key → Val) (c : Config L Loc Val Key)
    (hsafe : ∀ th ∈ c.threads, ∀ s ∈ th.prog, s.Safe parse) (hcache : CacheOK parse c.cache)
    (sched : Schedule) : CacheOK parse (run parse sched c).cache :=
  (run_spec parse sched c ⟨hsafe, hcache⟩).1.2

/-- Where a thread is depends only on how many turns it was given: two schedules that give thread `i` equally many
turns leave it in the same state (in particular a thread given at least as many turns as it has steps has
finished, with the result of its solo run, under either). -/
theorem finished_result_independent (parse : Key → Val) (c : Config L Loc Val Key)
    (hsafe : ∀ th ∈ c.threads, ∀ s ∈ th.prog, s.Safe parse) (hcache : CacheOK parse c.cache)
    (s₁ s₂ : Schedule) (i : Nat) (h : s₁.count i = s₂.count i) :
    (run parse s₁ c).threads[i]? = (run parse s₂ c).threads[i]? := by
  rw [(run_spec parse s₁ c ⟨hsafe, hcache⟩).2 i, (run_spec parse s₂ c ⟨hsafe, hcache⟩).2 i, h]

end Noninterference

/-! ### The old tokenizer protocol, in the model -/

namespace OldProtocol

/-- `SpecialPseudoPattern.match` stored which sub-pattern matched in `self.matched_name` (one slot, the object
sits in the class-level `CSSParser.css_tokens`), `get_name` read it back in a later step.  Local state: the
handler name the thread ends up with. -/
def tokenize (mine : String) : List (Step String Unit String Unit) :=
  [.writeShared () (fun _ => mine), .readShared () (fun v _ => v)]

def threads : List (Thread String Unit String Unit) :=
  [⟨"", tokenize "pseudo_nth_child"⟩, ⟨"", tokenize "pseudo_lang"⟩]

def start : Config String Unit String Unit := ⟨fun _ => "", fun _ => none, threads⟩

/-- Alone, thread 0 parses `:nth-child(2n+1)` with the nth-child handler ... -/
example : (runAlone (fun _ => "") (fun _ => "") 2 ⟨"", tokenize "pseudo_nth_child"⟩).map (·.state) =
    some "pseudo_nth_child" := by decide +kernel

/-- ... with thread 1 (compiling `:lang(en)`) squeezed between its two steps, it gets the `:lang()` handler:
2 threads, 4 steps. -/
example : ((run (fun _ => "") [0, 1, 0, 1] start).threads[0]?).map (·.state) = some "pseudo_lang" := by decide +kernel

/-- The sequential schedule is fine. -/
example : ((run (fun _ => "") [0, 0, 1, 1] start).threads[0]?).map (·.state) = some "pseudo_nth_child" := by
  decide +kernel

end OldProtocol

/-! ### The source has no shared slot left -/

open Gen.Effects in
/-- No store in any function of soupsieve hits an object that outlives the call (a
module global, a class attribute, an instance kept in one of them) or an object the translator cannot place:
all stores go to objects under construction (`__init__`) or to objects that live for one API call. -/
theorem shared_slots_empty :
    (Gen.Effects.sharedWrites.filter (fun w => w.lifetime == .shared || w.lifetime == .unknown)) = [] := by
  decide +kernel

open Gen.Effects in
/-- Stores through local variables and parameters hit per-call objects or containers created in the same
function. -/
theorem local_writes_unshared :
    (Gen.Effects.localWrites.filter (fun w => w.binding == .unknown)) = [] := by
  decide +kernel

/-- The classes taken to live for one API call are never instantiated-and-stored at module or class level,
and their instances are never stored into longer-lived receivers (as far as the AST shows). -/
theorem per_call_classes_checked : Gen.Effects.perCallClasses.all (·.2) = true := by decide +kernel

/-- The per-call classes and the classes kept in module globals / class attributes are disjoint. -/
theorem per_call_not_stored :
    Gen.Effects.perCallClasses.all (fun p => !Gen.Effects.storedClasses.contains p.1) = true := by
  decide +kernel

/-- The token matchers are among the shared objects (so a store in their methods would be reported). -/
theorem token_matchers_are_shared :
    (Gen.Effects.storedClasses.contains "SelectorPattern" &&
     Gen.Effects.storedClasses.contains "SpecialPseudoPattern") = true := by decide +kernel

/-- The matcher never stores into a Beautiful Soup object: the only stores that
touch tree-like attributes are to objects under construction (`_FakeParent.__init__`'s `self.contents`). -/
theorem tree_writes_fresh_only : Gen.Effects.treeWrites.all (·.freshObject) = true := by decide +kernel

/-- Every `if self.debug:` block only prints. -/
theorem debug_only_prints : Gen.Effects.debugGuarded.all (·.onlyPrints) = true := by decide +kernel

/-- The debug flag is read nowhere but in those guards. -/
theorem debug_read_only_in_guards : Gen.Effects.debugReads = [] := by decide +kernel

/-- The only shared mutable state left is the two `lru_cache`s (the atomic maps of the model). -/
theorem caches_are :
    Gen.Effects.caches.map (fun c => (c.modName, c.function, c.maxsize)) =
      [("soupsieve.css_parser", "_cached_css_compile", some 500), ("soupsieve.util", "lower", some 512)] :=
  rfl

/-- No function of the library changes an interpreter-wide setting (recursion limit, switch
interval, warnings filters, locale, signal handlers, `os.environ`, `sys.modules`, `sys.path`, the `re` cache, …): such state is
shared by every thread although it is no object of the library, so the write analysis above cannot see it.  Regenerated from
the source on every run (`gen_effects.interpreter_setters`); a temporary change that is "restored afterwards" is a change. -/
theorem interpreter_setters_empty : Gen.Effects.interpreterSetters = [] := by decide +kernel

end SoupVerif.C14
