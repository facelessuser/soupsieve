/-
  C17 — the small `CSSMatch` tests `match_defined`, `match_placeholder_shown`, `match_scope`, TRANSLATED FROM THE
  SOURCE on every run (`gen/gen_py_smallfn.py` → `Generated/PySmallFn.lean`, over the dynamic values of
  `Model/SmallFnDyn.lean`), are the hand models `matchDefined`, `matchPlaceholderShown`, `matchScope`
  (Model/Match.lean) that the state-selector theorems of `Properties/C17.lean` (`placeholder_def`,
  `placeholder_text_not_cut`), `Properties/C19.lean` and `Properties/C03.lean` (`matchScope_iff`) are about —
  FOR ALL contexts and elements, and with a `bool` result (so nothing raises on the way).
-/
import SoupVerif.Generated.PySmallFn
import SoupVerif.Properties.C17
namespace SoupVerif
namespace C17GenSmall
open PySmallFn StateLaws C11 Names

theorem strFindFrom_single_nonneg (ch : Nat) (s : Str) (i : Nat) :
    strFindFrom [ch] s i = -1 ∨ (i : Int) ≤ strFindFrom [ch] s i := by
  induction s generalizing i with
  | nil => left; simp [strFindFrom]
  | cons x xs ih =>
    unfold strFindFrom
    split
    · right; exact Int.le_refl _
    · rcases ih (i + 1) with h | h
      · left; exact h
      · right; omega

/-- `s.find(ch) == -1` iff `ch` does not occur in `s`. -/
theorem strFind_single (ch : Nat) (s : Str) : (strFind s [ch] == -1) = !s.contains ch := by
  unfold strFind
  suffices h : ∀ i : Nat, (strFindFrom [ch] s i == -1) = !s.contains ch from h 0
  induction s with
  | nil => intro i; simp [strFindFrom]
  | cons x xs ih =>
    intro i
    unfold strFindFrom
    by_cases hx : ch = x
    · subst hx
      have hp : ([ch] : Str).isPrefixOf (ch :: xs) = true := by simp [List.isPrefixOf]
      rw [if_pos hp]
      have : ((i : Int) == -1) = false := by
        rw [beq_eq_false_iff_ne]; omega
      rw [this]; simp
    · have hp : ¬ (([ch] : Str).isPrefixOf (x :: xs) = true) := by
        simp [List.isPrefixOf, hx]
      rw [if_neg hp, ih (i + 1)]
      simp [hx]

/-- **`match_defined`** translated from the source = the hand model, for every context and element. -/
theorem match_defined_eq (c : Ctx) (l : Loc) (e : Elem) :
    Gen.PySmallFn.match_defined c l e = .bool (matchDefined c e) := by
  unfold Gen.PySmallFn.match_defined matchDefined
  simp only [pyGetTag, pyGetPrefix, pyFind, pyIsNotNone, pyAnd, V.truthy, pyEq, pyNe, pyNot, if_true]
  have h1 := strFind_single 45 (c.tagName e)
  have h2 := strFind_single 58 (c.tagName e)
  cases hp : c.prefixName e with
  | none =>
    simp only [V.ofOptStr, pyOr, V.truthy, h1, h2, Option.isSome_none, Bool.or_false]
    cases (c.tagName e).contains 45 <;> cases (c.tagName e).contains 58 <;> rfl
  | some p =>
    simp only [V.ofOptStr, pyOr, V.truthy, h1, h2, Option.isSome_some, Bool.or_true]
    cases (c.tagName e).contains 45 <;> cases (c.tagName e).contains 58 <;> rfl

/-- **`match_placeholder_shown`** translated from the source = the hand model. -/
theorem match_placeholder_shown_eq (c : Ctx) (l : Loc) (e : Elem) :
    Gen.PySmallFn.match_placeholder_shown c l e = .bool (matchPlaceholderShown c l) := by
  unfold Gen.PySmallFn.match_placeholder_shown matchPlaceholderShown
  simp only [pyGetText, pyInTuple, V.isErr, List.any_cons, List.any_nil, Bool.or_false, Bool.false_eq_true,
    if_false, pyInList, pyEq]
  cases (c.text l false == []) <;> cases (c.text l false == [10]) <;>
    simp [V.ite, V.truthy]

/-- **`match_scope`** translated from the source = the hand model. -/
theorem match_scope_eq (c : Ctx) (l : Loc) (e : Elem) :
    Gen.PySmallFn.match_scope c l e = .bool (matchScope c l) := by
  unfold Gen.PySmallFn.match_scope matchScope pyScope pyEl
  cases c.scope <;> rfl

/-- `C17.placeholder_text_not_cut`: the content test of `:placeholder-shown` as the source has it reads
    `get_text(el)` with `no_iframe=False` and accepts exactly `''` and `'\n'`. -/
theorem gen_placeholder_text (c : Ctx) (l : Loc) (e : Elem) :
    Gen.PySmallFn.match_placeholder_shown c l e = .bool (c.text l false == [] || c.text l false == [10]) :=
  match_placeholder_shown_eq c l e

/-- `placeholder_def` (C17) with the content test replaced by the translated function: `:placeholder-shown`
    matches iff … or a `textarea` with a non-empty placeholder on which the TRANSLATED `match_placeholder_shown`
    returns `True`. -/
theorem gen_placeholder_def (c : Ctx) (l : Loc) (e : Elem) (hc : c.isHtml = true) :
    matchList c l e Gen.CSS_PLACEHOLDER_SHOWN =
      (c.isHtmlTag e && C17.placeholderNonEmpty c e &&
        ((tagIs c e "input" && C17.placeholderInputType c e &&
            (!hasAttr c e "value" || attrEmpty c e "value")) ||
         (tagIs c e "textarea" && (Gen.PySmallFn.match_placeholder_shown c l e).truthy))) := by
  rw [match_placeholder_shown_eq, C17.placeholder_def c l e hc]
  rfl

/-- `matchScope_iff` (C03): the translated `match_scope` returns `True` iff the element is the scope object. -/
theorem gen_match_scope_iff (c : Ctx) (l : Loc) (e : Elem) :
    Gen.PySmallFn.match_scope c l e = .bool true ↔ ∃ s, c.scope = some s ∧ s.pos = l.pos := by
  rw [match_scope_eq]
  unfold matchScope
  cases h : c.scope with
  | none => simp
  | some s => simp [Loc.same_iff]

/-- `:defined` as the source has it: a name without `-`, or with `:`, or an element with a prefix. -/
theorem gen_match_defined_iff (c : Ctx) (l : Loc) (e : Elem) :
    Gen.PySmallFn.match_defined c l e = .bool true ↔
      ((c.tagName e).contains 45 = false ∨ (c.tagName e).contains 58 = true ∨ (c.prefixName e).isSome = true) := by
  rw [match_defined_eq]
  unfold matchDefined
  simp [or_assoc]

end C17GenSmall
end SoupVerif
