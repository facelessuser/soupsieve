/-
  C11, from the selector TEXT: "In HTML documents tag names and attribute names in a selector match regardless
  of ASCII case, attribute values match case-sensitively except for the type attribute, and the i and s flags
  force insensitive or sensitive comparison.  In XML and XHTML documents tag names, attribute names and all
  attribute values match case-sensitively unless i is given."

  `Properties/C11.lean` proves the IR-level facts (what the matcher model does with a name / a pattern it is
  handed).  `Properties/C12Parse.lean` and `Refine/C10ParseCompound.lean` prove what the parser model AND the matcher model do
  with the TEXT of a compound `tag? (#id | .class | [attr…] | [ns|attr…])*` in any spelling
  (`compound_simple_text`, `type_text`, `attr_text`; the verdict as a Bool: `ListText.compound_verdict`, `Refine/TextVerdict.lean`,
  with `C10Parse.all_holds_simples`).  This file composes them into the case laws, each about
  `C12Parse.matchText` (text → parser model → matcher model on one element; `SoupSieve.match` is
  `matchTextApi`).  The document kind enters through `c.isXml` only, as in `Properties/C11.lean`:
  `c.isXml = false` — HTML by html.parser / lxml / html5lib, XHTML markup parsed by an HTML parser;
  `c.isXml = true` — XML, XHTML parsed as XML (then `c.isHtml` holds too; it plays no part in these rules).

  Neither the model nor the library has a quirks mode (`grep -ri quirk /repo/soupsieve`: nothing; `#ab` does not
  match `id="Ab"` under any parser): `id_text`, `class_text` compare exactly in every document kind.

  Hypotheses, all explicit: the side conditions of `C09Compile2` for each text (`….ok g₂`, gaps, no NUL);
  `c.env.fold = lowerCp` where a comparison is case-insensitive (true of the driver's `asciiEnv`), as in
  `C12Parse.attr_text`.  Only the stable names `Gen.lexicon` / `Gen.builtinsRec` are reached (through
  `matchText`).

  The `#guard` lines of `Examples` agree with soupsieve (html.parser, lxml, html5lib; lxml-xml for XML and XHTML).
-/
import SoupVerif.Refine.C11ParseBase
import SoupVerif.Refine.C10ParseCompound
import SoupVerif.Lemmas.StrLit
namespace SoupVerif
namespace C11Parse
open Names Spelling SoupVerif.Parser
open C09Compile (Forms identOK AttrV SAttr SAttrOp SValue opText flagText STag)
open C09Compile2 (STagN SItem SCompound itemsOK renderItems)
open Css (AttrTest AttrOp CaseFlag Simple satSimple satAttr valTest foldCase caseInsensitive idOf hasClass)
open C12 (NameEq)
open C12Parse (matchText TagCond NsCond NameCond AttrHolds Passes designates testOf opOf flagOf attrItem pfxValue)
open C10Parse (simpleOf simplesOf)

/-- **Two compounds that are case variants of each other** (`TagVariant`, `SimpleVariant`: names equal under the
    document's name rule, values equal up to ASCII case where the comparison is case-insensitive) give the same
    verdict on every element. -/
theorem compound_case_text (c : Ctx) (l : Loc) (e : Elem) (kids : List Node) (hf : l.focus = .elem e kids)
    (tag tag' : Option STagN) (items items' : List SItem) (g₁ g₂ g₁' g₂' : Str)
    (hg₁ : isGap g₁) (hg₂ : isGap g₂) (hg₁' : isGap g₁') (hg₂' : isGap g₂')
    (hok : (SCompound.mk tag items).ok g₂) (hok' : (SCompound.mk tag' items').ok g₂')
    (hne : (SCompound.mk tag items).isEmpty = false) (hne' : (SCompound.mk tag' items').isEmpty = false)
    (hall : ∀ it ∈ items, (simpleOf it).isSome = true) (hall' : ∀ it ∈ items', (simpleOf it).isSome = true)
    (h0 : ∀ x ∈ g₁ ++ (SCompound.mk tag items).render ++ g₂, x ≠ 0)
    (h0' : ∀ x ∈ g₁' ++ (SCompound.mk tag' items').render ++ g₂', x ≠ 0)
    (htag : TagVariant c (tag.map STagN.value) (tag'.map STagN.value))
    (hitems : List.Forall₂ (SimpleVariant c) (simplesOf items) (simplesOf items'))
    (hfold : FoldNeeded c (simplesOf items) → c.env.fold = lowerCp) :
    ∃ b, matchText c (g₁ ++ (SCompound.mk tag items).render ++ g₂) l = .ok b ∧
      matchText c (g₁' ++ (SCompound.mk tag' items').render ++ g₂') l = .ok b := by
  have h := C05Parse.ListText.of_compound hg₁ hg₂ hok hne (C10Parse.tbl_of_simple tag items hall) h0
  have h' := C05Parse.ListText.of_compound hg₁' hg₂' hok' hne' (C10Parse.tbl_of_simple tag' items' hall') h0'
  refine ⟨_, h.compound_verdict c l e kids hf, ?_⟩
  -- both verdicts in the CSS reading, item by item; then the tag and the items are variants of each other
  rw [h'.compound_verdict c l e kids hf,
    C10Parse.all_holds_simples _ c l e g₂ items hok.2 hall (fun ns name t hm hci => hfold ⟨ns, name, t, hm, hci⟩),
    C10Parse.all_holds_simples _ c l e g₂' items' hok'.2 hall'
      (fun ns name t hm hci => hfold (foldNeeded_variant c _ _ hitems ⟨ns, name, t, hm, hci⟩)),
    matchTag_variant c e false _ _ htag, all_satSimple_variant c l e _ _ hitems]

theorem testVariant_refl (c : Ctx) (a : Str) (t : Option AttrTest) : TestVariant c a t t := by
  cases t with
  | none => trivial
  | some t => refine ⟨rfl, rfl, ?_⟩; split <;> rfl

theorem simpleOf_attrItem (ns : Option Refine.Compile.SNs) (a : SAttr) :
    simpleOf (attrItem ns a) = some (.attr (pfxValue ns) (valueOf a.name) (testOf a.value)) := by
  cases ns <;> rfl

/-- **Type selectors, any prefix form, any spelling, under the document's name rule**: two type selector
    texts with the same prefix VALUE whose name VALUES are equal under `NameEq c` give the same verdict on
    every element. -/
theorem type_variant_text (c : Ctx) (l : Loc) (e : Elem) (kids : List Node) (hf : l.focus = .elem e kids)
    (x x' : STagN) (g₁ g₂ g₁' g₂' : Str) (hg₁ : isGap g₁) (hg₂ : isGap g₂) (hg₁' : isGap g₁') (hg₂' : isGap g₂')
    (hok : x.ok g₂) (hok' : x'.ok g₂')
    (h0 : ∀ y ∈ g₁ ++ x.render ++ g₂, y ≠ 0) (h0' : ∀ y ∈ g₁' ++ x'.render ++ g₂', y ≠ 0)
    (hp : x.ns.map Refine.Compile.SNs.value = x'.ns.map Refine.Compile.SNs.value)
    (hn : NameEq c x.t.value x'.t.value) :
    ∃ b, matchText c (g₁ ++ x.render ++ g₂) l = .ok b ∧ matchText c (g₁' ++ x'.render ++ g₂') l = .ok b := by
  have h := compound_case_text c l e kids hf (some x) (some x') [] [] g₁ g₂ g₁' g₂' hg₁ hg₂ hg₁' hg₂'
    ((SCompound.ok_tagOnly x g₂).2 hok) ((SCompound.ok_tagOnly x' g₂').2 hok')
    (SCompound.isEmpty_some x []) (SCompound.isEmpty_some x' []) (by simp) (by simp)
    (by rw [SCompound.render_tagOnly]; exact h0) (by rw [SCompound.render_tagOnly]; exact h0') ⟨hp, hn⟩
    (by simp [simplesOf]) (by rintro ⟨_, _, _, hm, _⟩; simp [simplesOf] at hm)
  rw [SCompound.render_tagOnly, SCompound.render_tagOnly] at h
  exact h

/-- **C11, tag names, HTML** (`type_case_text`).  In a document that is not XML (HTML by any HTML parser; XHTML
    markup parsed by an HTML parser) two type selector texts — `E`, `ns|E`, `*|E`, `|E`, in any spelling — with the
    same prefix value and `lower (value of E) = lower (value of E')` give the same verdict on every element. -/
theorem type_case_text (c : Ctx) (l : Loc) (e : Elem) (kids : List Node) (hf : l.focus = .elem e kids)
    (x x' : STagN) (g₁ g₂ g₁' g₂' : Str) (hg₁ : isGap g₁) (hg₂ : isGap g₂) (hg₁' : isGap g₁') (hg₂' : isGap g₂')
    (hok : x.ok g₂) (hok' : x'.ok g₂')
    (h0 : ∀ y ∈ g₁ ++ x.render ++ g₂, y ≠ 0) (h0' : ∀ y ∈ g₁' ++ x'.render ++ g₂', y ≠ 0)
    (hx : c.isXml = false)
    (hp : x.ns.map Refine.Compile.SNs.value = x'.ns.map Refine.Compile.SNs.value)
    (hn : lower x.t.value = lower x'.t.value) :
    ∃ b, matchText c (g₁ ++ x.render ++ g₂) l = .ok b ∧ matchText c (g₁' ++ x'.render ++ g₂') l = .ok b :=
  type_variant_text c l e kids hf x x' g₁ g₂ g₁' g₂' hg₁ hg₂ hg₁' hg₂' hok hok' h0 h0' hp
    ((NameEq_html c hx _ _).2 hn)

/-- The plain form: two identifiers `E`, `E'` (no prefix), each in any spelling. -/
theorem name_case_text (c : Ctx) (l : Loc) (e : Elem) (kids : List Node) (hf : l.focus = .elem e kids)
    (f f' : Forms) (g₁ g₂ g₁' g₂' : Str) (hg₁ : isGap g₁) (hg₂ : isGap g₂) (hg₁' : isGap g₁') (hg₂' : isGap g₂')
    (hok : identOK f g₂) (hok' : identOK f' g₂')
    (h0 : ∀ y ∈ g₁ ++ renderIdentWith f ++ g₂, y ≠ 0) (h0' : ∀ y ∈ g₁' ++ renderIdentWith f' ++ g₂', y ≠ 0)
    (hx : c.isXml = false) (hn : lower (valueOf f) = lower (valueOf f')) :
    ∃ b, matchText c (g₁ ++ renderIdentWith f ++ g₂) l = .ok b ∧
      matchText c (g₁' ++ renderIdentWith f' ++ g₂') l = .ok b :=
  type_case_text c l e kids hf ⟨none, .name f⟩ ⟨none, .name f'⟩ g₁ g₂ g₁' g₂' hg₁ hg₂ hg₁' hg₂'
    ⟨hok, trivial⟩ ⟨hok', trivial⟩ h0 h0' hx rfl hn

/-- **The verdict itself, non-XML document**: not the document object, the namespace condition of the prefix,
    and the name VALUE is `*` or equals the element's name after ASCII folding of both. -/
theorem html_type_text (c : Ctx) (l : Loc) (e : Elem) (kids : List Node) (hf : l.focus = .elem e kids)
    (x : STagN) (g₁ g₂ : Str) (hg₁ : isGap g₁) (hg₂ : isGap g₂) (hok : x.ok g₂)
    (h0 : ∀ y ∈ g₁ ++ x.render ++ g₂, y ≠ 0) (hx : c.isXml = false) :
    ∃ b, matchText c (g₁ ++ x.render ++ g₂) l = .ok b ∧
      (b = true ↔ e.isDoc = false ∧ NsCond c e (x.ns.map Refine.Compile.SNs.value) ∧
        (x.t.value = "*".toStr ∨ lower x.t.value = lower e.name)) := by
  obtain ⟨b, h1, h2⟩ := C12Parse.type_text c l e kids hf x g₁ g₂ hg₁ hg₂ hok h0
  refine ⟨b, h1, h2.trans ?_⟩
  simp only [NameCond, NameEq_html c hx, STagN.value]

/-- **Attribute selectors under the document's name rule and the case rule of the comparison** (general form of
    `attr_name_case_text` / `attr_value_case_text`): behind type selectors that are variants of each other,
    `[p|a …]` and `[p'|a' …]` with the same prefix value, names equal under `NameEq c`, the same operator and
    flag, and values equal — up to ASCII case where the comparison is case-insensitive — give the same
    verdict. -/
theorem attr_variant_text (c : Ctx) (l : Loc) (e : Elem) (kids : List Node) (hf : l.focus = .elem e kids)
    (tag tag' : Option STagN) (ns ns' : Option Refine.Compile.SNs) (a a' : SAttr) (g₁ g₂ g₁' g₂' : Str)
    (hg₁ : isGap g₁) (hg₂ : isGap g₂) (hg₁' : isGap g₁') (hg₂' : isGap g₂')
    (hok : (SCompound.mk tag [attrItem ns a]).ok g₂) (hok' : (SCompound.mk tag' [attrItem ns' a']).ok g₂')
    (h0 : ∀ y ∈ g₁ ++ (SCompound.mk tag [attrItem ns a]).render ++ g₂, y ≠ 0)
    (h0' : ∀ y ∈ g₁' ++ (SCompound.mk tag' [attrItem ns' a']).render ++ g₂', y ≠ 0)
    (htag : TagVariant c (tag.map STagN.value) (tag'.map STagN.value))
    (hns : pfxValue ns = pfxValue ns')
    (hname : NameEq c (valueOf a.name) (valueOf a'.name))
    (htest : TestVariant c (valueOf a.name) (testOf a.value) (testOf a'.value))
    (hfold : ∀ t, testOf a.value = some t → caseInsensitive c (valueOf a.name) t.flag = true →
      c.env.fold = lowerCp) :
    ∃ b, matchText c (g₁ ++ (SCompound.mk tag [attrItem ns a]).render ++ g₂) l = .ok b ∧
      matchText c (g₁' ++ (SCompound.mk tag' [attrItem ns' a']).render ++ g₂') l = .ok b := by
  have hs : ∀ (n : Option Refine.Compile.SNs) (b : SAttr), simplesOf [attrItem n b] =
      [.attr (pfxValue n) (valueOf b.name) (testOf b.value)] := by
    intro n b; simp [simplesOf, simpleOf_attrItem]
  refine compound_case_text c l e kids hf tag tag' _ _ g₁ g₂ g₁' g₂' hg₁ hg₂ hg₁' hg₂' hok hok'
    (SCompound.isEmpty_cons tag _ []) (SCompound.isEmpty_cons tag' _ [])
    (List.forall_mem_singleton.2 (by rw [simpleOf_attrItem]; rfl))
    (List.forall_mem_singleton.2 (by rw [simpleOf_attrItem]; rfl))
    h0 h0' htag ?_ ?_
  · rw [hs, hs]
    exact .cons ⟨hns, hname, htest⟩ .nil
  · rw [hs]
    rintro ⟨p, name, t, hm, hci⟩
    simp only [List.mem_singleton, Simple.attr.injEq] at hm
    obtain ⟨_, rfl, ht⟩ := hm
    exact hfold t ht.symm hci

/-- **C11, attribute names, HTML** (`attr_name_case_text`).  In a document that is not XML, `[a]` / `[a op v flag]`
    (any prefix form, any spelling, behind any type selector) and the same selector with the attribute name in
    another letter case (`lower (value of a) = lower (value of a')`; same prefix value, same test) give the
    same verdict on every element. -/
theorem attr_name_case_text (c : Ctx) (l : Loc) (e : Elem) (kids : List Node) (hf : l.focus = .elem e kids)
    (tag : Option STagN) (ns ns' : Option Refine.Compile.SNs) (a a' : SAttr) (g₁ g₂ g₁' g₂' : Str)
    (hg₁ : isGap g₁) (hg₂ : isGap g₂) (hg₁' : isGap g₁') (hg₂' : isGap g₂')
    (hok : (SCompound.mk tag [attrItem ns a]).ok g₂) (hok' : (SCompound.mk tag [attrItem ns' a']).ok g₂')
    (h0 : ∀ y ∈ g₁ ++ (SCompound.mk tag [attrItem ns a]).render ++ g₂, y ≠ 0)
    (h0' : ∀ y ∈ g₁' ++ (SCompound.mk tag [attrItem ns' a']).render ++ g₂', y ≠ 0)
    (hx : c.isXml = false)
    (hns : pfxValue ns = pfxValue ns')
    (hname : lower (valueOf a.name) = lower (valueOf a'.name))
    (htest : testOf a.value = testOf a'.value)
    (hfold : ∀ t, testOf a.value = some t → caseInsensitive c (valueOf a.name) t.flag = true →
      c.env.fold = lowerCp) :
    ∃ b, matchText c (g₁ ++ (SCompound.mk tag [attrItem ns a]).render ++ g₂) l = .ok b ∧
      matchText c (g₁' ++ (SCompound.mk tag [attrItem ns' a']).render ++ g₂') l = .ok b :=
  attr_variant_text c l e kids hf tag tag ns ns' a a' g₁ g₂ g₁' g₂' hg₁ hg₂ hg₁' hg₂' hok hok' h0 h0'
    (by cases tag with
      | none => trivial
      | some t => exact ⟨rfl, nameEq_refl c _⟩)
    hns ((NameEq_html c hx _ _).2 hname) (htest ▸ testVariant_refl c _ _) hfold

/-- **C11, attribute values where the comparison is case-insensitive** (`attr_value_case_text`): the same
    attribute selector with the value in another letter case (`lower v = lower v'`), where the comparison is
    case-insensitive (flag `i`; the `type` attribute of a non-XML document without flag), gives the same
    verdict on every element. -/
theorem attr_value_case_text (c : Ctx) (l : Loc) (e : Elem) (kids : List Node) (hf : l.focus = .elem e kids)
    (tag : Option STagN) (ns ns' : Option Refine.Compile.SNs) (a a' : SAttr) (t t' : AttrTest)
    (g₁ g₂ g₁' g₂' : Str)
    (hg₁ : isGap g₁) (hg₂ : isGap g₂) (hg₁' : isGap g₁') (hg₂' : isGap g₂')
    (hok : (SCompound.mk tag [attrItem ns a]).ok g₂) (hok' : (SCompound.mk tag [attrItem ns' a']).ok g₂')
    (h0 : ∀ y ∈ g₁ ++ (SCompound.mk tag [attrItem ns a]).render ++ g₂, y ≠ 0)
    (h0' : ∀ y ∈ g₁' ++ (SCompound.mk tag [attrItem ns' a']).render ++ g₂', y ≠ 0)
    (hns : pfxValue ns = pfxValue ns')
    (hname : valueOf a.name = valueOf a'.name)
    (ht : testOf a.value = some t) (ht' : testOf a'.value = some t')
    (hop : t.op = t'.op) (hfl : t.flag = t'.flag) (hv : lower t.value = lower t'.value)
    (hci : caseInsensitive c (valueOf a.name) t.flag = true)
    (hfold : c.env.fold = lowerCp) :
    ∃ b, matchText c (g₁ ++ (SCompound.mk tag [attrItem ns a]).render ++ g₂) l = .ok b ∧
      matchText c (g₁' ++ (SCompound.mk tag [attrItem ns' a']).render ++ g₂') l = .ok b :=
  attr_variant_text c l e kids hf tag tag ns ns' a a' g₁ g₂ g₁' g₂' hg₁ hg₂ hg₁' hg₂' hok hok' h0 h0'
    (by cases tag with
      | none => trivial
      | some t => exact ⟨rfl, nameEq_refl c _⟩)
    hns (hname ▸ nameEq_refl c _)
    (by rw [ht, ht']; exact ⟨hop, hfl, by rw [if_pos hci]; exact hv⟩) (fun _ _ _ => hfold)

/-- What an attribute selector with a value test says, the case rule `ic` made explicit: SOME attribute among
    the designated ones (`D`) whose string passes the test for `v` — both taken as they are (`ic = false`) or
    both ASCII-folded (`ic = true`); for `!=`: NO designated attribute equals `v` in that sense. -/
def ValueCond (e : Elem) (D : Attr → Prop) (op : AttrOp) (v : Str) (ic : Bool) : Prop :=
  if op = AttrOp.ne then ¬ ∃ x ∈ e.attrs, D x ∧ foldCase ic (attrStr x) = foldCase ic v
  else ∃ x ∈ e.attrs, D x ∧ valTest op (foldCase ic v) false (foldCase ic (attrStr x)) = true

theorem attrHolds_ic (c : Ctx) (e : Elem) (a : Str) (t : AttrTest) (D : Attr → Prop) (ic : Bool)
    (hic : caseInsensitive c a t.flag = ic) :
    AttrHolds c e a (some t) D ↔ ValueCond e D t.op t.value ic := by
  unfold AttrHolds ValueCond Passes
  simp only [hic, attrStr]
  by_cases hop : t.op = AttrOp.ne
  · simp [hop, valTest]
  · simp only [hop, if_false, ← valTest_foldCase]

theorem valueCond_eq (e : Elem) (D : Attr → Prop) (v : Str) (ic : Bool) :
    ValueCond e D .eq v ic ↔ ∃ x ∈ e.attrs, D x ∧ foldCase ic (attrStr x) = foldCase ic v := by
  simp [ValueCond, valTest, foldCase]

theorem valueCond_eq_sensitive (e : Elem) (D : Attr → Prop) (v : Str) :
    ValueCond e D .eq v false ↔ ∃ x ∈ e.attrs, D x ∧ attrStr x = v := by
  simp [valueCond_eq, foldCase]

theorem valueCond_eq_insensitive (e : Elem) (D : Attr → Prop) (v : Str) :
    ValueCond e D .eq v true ↔ ∃ x ∈ e.attrs, D x ∧ lower (attrStr x) = lower v := by
  simp [valueCond_eq, foldCase]

theorem testOf_body (a : SAttr) (bd : SAttrOp) (h : a.body = some bd) :
    testOf a.value = some ⟨opOf (opText bd.op), bd.value.value, flagOf (bd.flag.map fun x => lowerCp x.2)⟩ := by
  simp [testOf, SAttr.value, h]

theorem flagOf_none : flagOf ((none : Option (Str × Nat)).map fun x => lowerCp x.2) = .none := rfl

theorem flagOf_i (g3 : Str) (f : Nat) (h : lowerCp f = 105) :
    flagOf ((some (g3, f)).map fun x => lowerCp x.2) = .i := by
  simp [flagOf, h]

theorem flagOf_s (g3 : Str) (f : Nat) (h : lowerCp f = 115) :
    flagOf ((some (g3, f)).map fun x => lowerCp x.2) = .s := by
  simp [flagOf, h]

theorem opOf_eq : opOf (opText none) = .eq := by decide

section Values
variable (c : Ctx) (l : Loc) (e : Elem) (kids : List Node) (hf : l.focus = .elem e kids)
  (tag : Option STagN) (ns : Option Refine.Compile.SNs) (a : SAttr) (bd : SAttrOp) (hbd : a.body = some bd)
  (g₁ g₂ : Str) (hg₁ : isGap g₁) (hg₂ : isGap g₂)
  (hok : (SCompound.mk tag [attrItem ns a]).ok g₂)
  (h0 : ∀ y ∈ g₁ ++ (SCompound.mk tag [attrItem ns a]).render ++ g₂, y ≠ 0)
  (D : Attr → Prop) (hD : ∀ x, designates c (pfxValue ns) (valueOf a.name) x = true ↔ D x)
include hf hbd hg₁ hg₂ hok h0 hD

/-- **An attribute selector with a value test, any prefix form, any operator, any spelling, the case rule made
    explicit**: `ic` is what `Css.caseInsensitive` says for the attribute name VALUE and the flag; the verdict is
    a comparison of the strings of the designated attributes with the value VALUE, as they are or both
    ASCII-folded. -/
theorem attr_value_text (ic : Bool)
    (hic : caseInsensitive c (valueOf a.name) (flagOf (bd.flag.map fun x => lowerCp x.2)) = ic)
    (hfold : ic = true → c.env.fold = lowerCp) :
    ∃ b, matchText c (g₁ ++ (SCompound.mk tag [attrItem ns a]).render ++ g₂) l = .ok b ∧
      (b = true ↔ e.isDoc = false ∧ TagCond c e (tag.map STagN.value) ∧
        ValueCond e D (opOf (opText bd.op)) bd.value.value ic) := by
  have ht := testOf_body a bd hbd
  obtain ⟨b, h1, h2⟩ := C12Parse.attr_text c l e kids hf tag ns a g₁ g₂ hg₁ hg₂ hok h0
    (by
      intro t ht' hci
      rw [ht] at ht'; cases ht'
      exact hfold (hic ▸ hci))
    D hD
  refine ⟨b, h1, h2.trans ?_⟩
  rw [ht, attrHolds_ic c e _ _ D ic hic]

/-- **No flag, an attribute other than `type`** (any document kind): CASE-SENSITIVE. -/
theorem plain_value_text (hfl : bd.flag = none) (hname : lower (valueOf a.name) ≠ typeName) :
    ∃ b, matchText c (g₁ ++ (SCompound.mk tag [attrItem ns a]).render ++ g₂) l = .ok b ∧
      (b = true ↔ e.isDoc = false ∧ TagCond c e (tag.map STagN.value) ∧
        ValueCond e D (opOf (opText bd.op)) bd.value.value false) :=
  attr_value_text c l e kids hf tag ns a bd hbd g₁ g₂ hg₁ hg₂ hok h0 D hD false
    (by rw [hfl, flagOf_none]; exact ci_html_plain c _ hname) (by simp)

/-- **No flag, the `type` attribute (in any letter case), non-XML document**: ASCII case-INSENSITIVE. -/
theorem html_type_value_text (hx : c.isXml = false) (hfl : bd.flag = none)
    (hname : lower (valueOf a.name) = typeName) (hfold : c.env.fold = lowerCp) :
    ∃ b, matchText c (g₁ ++ (SCompound.mk tag [attrItem ns a]).render ++ g₂) l = .ok b ∧
      (b = true ↔ e.isDoc = false ∧ TagCond c e (tag.map STagN.value) ∧
        ValueCond e D (opOf (opText bd.op)) bd.value.value true) :=
  attr_value_text c l e kids hf tag ns a bd hbd g₁ g₂ hg₁ hg₂ hok h0 D hD true
    (by rw [hfl, flagOf_none]; exact ci_html_type c _ hx hname) (fun _ => hfold)

/-- **No flag, XML document** (XHTML parsed as XML included): CASE-SENSITIVE, the `type` attribute too. -/
theorem xml_value_text (hx : c.isXml = true) (hfl : bd.flag = none) :
    ∃ b, matchText c (g₁ ++ (SCompound.mk tag [attrItem ns a]).render ++ g₂) l = .ok b ∧
      (b = true ↔ e.isDoc = false ∧ TagCond c e (tag.map STagN.value) ∧
        ValueCond e D (opOf (opText bd.op)) bd.value.value false) :=
  attr_value_text c l e kids hf tag ns a bd hbd g₁ g₂ hg₁ hg₂ hok h0 D hD false
    (by rw [hfl, flagOf_none]; exact ci_xml c _ hx) (by simp)

/-- **Flag `i` / `I`** (any document kind, any attribute): ASCII case-INSENSITIVE. -/
theorem flag_i_value_text (g3 : Str) (f : Nat) (hfl : bd.flag = some (g3, f)) (hfi : lowerCp f = 105)
    (hfold : c.env.fold = lowerCp) :
    ∃ b, matchText c (g₁ ++ (SCompound.mk tag [attrItem ns a]).render ++ g₂) l = .ok b ∧
      (b = true ↔ e.isDoc = false ∧ TagCond c e (tag.map STagN.value) ∧
        ValueCond e D (opOf (opText bd.op)) bd.value.value true) :=
  attr_value_text c l e kids hf tag ns a bd hbd g₁ g₂ hg₁ hg₂ hok h0 D hD true
    (by rw [hfl, flagOf_i g3 f hfi]; rfl) (fun _ => hfold)

/-- **Flag `s` / `S`** (any document kind, any attribute — the `type` attribute of an HTML document too):
    CASE-SENSITIVE. -/
theorem flag_s_value_text (g3 : Str) (f : Nat) (hfl : bd.flag = some (g3, f)) (hfs : lowerCp f = 115) :
    ∃ b, matchText c (g₁ ++ (SCompound.mk tag [attrItem ns a]).render ++ g₂) l = .ok b ∧
      (b = true ↔ e.isDoc = false ∧ TagCond c e (tag.map STagN.value) ∧
        ValueCond e D (opOf (opText bd.op)) bd.value.value false) :=
  attr_value_text c l e kids hf tag ns a bd hbd g₁ g₂ hg₁ hg₂ hok h0 D hD false
    (by rw [hfl, flagOf_s g3 f hfs]; rfl) (by simp)

/-- **`[a=v]`**, no flag, not the `type` attribute: some designated attribute's string IS `v`. -/
theorem plain_eq_text (hop : bd.op = none) (hfl : bd.flag = none) (hname : lower (valueOf a.name) ≠ typeName) :
    ∃ b, matchText c (g₁ ++ (SCompound.mk tag [attrItem ns a]).render ++ g₂) l = .ok b ∧
      (b = true ↔ e.isDoc = false ∧ TagCond c e (tag.map STagN.value) ∧
        ∃ x ∈ e.attrs, D x ∧ attrStr x = bd.value.value) := by
  have h := plain_value_text c l e kids hf tag ns a bd hbd g₁ g₂ hg₁ hg₂ hok h0 D hD hfl hname
  rwa [hop, opOf_eq, valueCond_eq_sensitive] at h

/-- **`[type=v]`** (the name in any letter case), no flag, non-XML document: equal after ASCII folding of both. -/
theorem html_type_eq_text (hop : bd.op = none) (hx : c.isXml = false) (hfl : bd.flag = none)
    (hname : lower (valueOf a.name) = typeName) (hfold : c.env.fold = lowerCp) :
    ∃ b, matchText c (g₁ ++ (SCompound.mk tag [attrItem ns a]).render ++ g₂) l = .ok b ∧
      (b = true ↔ e.isDoc = false ∧ TagCond c e (tag.map STagN.value) ∧
        ∃ x ∈ e.attrs, D x ∧ lower (attrStr x) = lower bd.value.value) := by
  have h := html_type_value_text c l e kids hf tag ns a bd hbd g₁ g₂ hg₁ hg₂ hok h0 D hD hx hfl hname hfold
  rwa [hop, opOf_eq, valueCond_eq_insensitive] at h

/-- **`[a=v]`**, no flag, XML document: exact, the `type` attribute too. -/
theorem xml_eq_text (hop : bd.op = none) (hx : c.isXml = true) (hfl : bd.flag = none) :
    ∃ b, matchText c (g₁ ++ (SCompound.mk tag [attrItem ns a]).render ++ g₂) l = .ok b ∧
      (b = true ↔ e.isDoc = false ∧ TagCond c e (tag.map STagN.value) ∧
        ∃ x ∈ e.attrs, D x ∧ attrStr x = bd.value.value) := by
  have h := xml_value_text c l e kids hf tag ns a bd hbd g₁ g₂ hg₁ hg₂ hok h0 D hD hx hfl
  rwa [hop, opOf_eq, valueCond_eq_sensitive] at h

/-- **`[a=v i]`**: equal after ASCII folding of both, in every document kind. -/
theorem eq_i_text (hop : bd.op = none) (g3 : Str) (f : Nat) (hfl : bd.flag = some (g3, f))
    (hfi : lowerCp f = 105) (hfold : c.env.fold = lowerCp) :
    ∃ b, matchText c (g₁ ++ (SCompound.mk tag [attrItem ns a]).render ++ g₂) l = .ok b ∧
      (b = true ↔ e.isDoc = false ∧ TagCond c e (tag.map STagN.value) ∧
        ∃ x ∈ e.attrs, D x ∧ lower (attrStr x) = lower bd.value.value) := by
  have h := flag_i_value_text c l e kids hf tag ns a bd hbd g₁ g₂ hg₁ hg₂ hok h0 D hD g3 f hfl hfi hfold
  rwa [hop, opOf_eq, valueCond_eq_insensitive] at h

/-- **`[a=v s]`**: exact in every document kind — for `type` in an HTML document too. -/
theorem eq_s_text (hop : bd.op = none) (g3 : Str) (f : Nat) (hfl : bd.flag = some (g3, f))
    (hfs : lowerCp f = 115) :
    ∃ b, matchText c (g₁ ++ (SCompound.mk tag [attrItem ns a]).render ++ g₂) l = .ok b ∧
      (b = true ↔ e.isDoc = false ∧ TagCond c e (tag.map STagN.value) ∧
        ∃ x ∈ e.attrs, D x ∧ attrStr x = bd.value.value) := by
  have h := flag_s_value_text c l e kids hf tag ns a bd hbd g₁ g₂ hg₁ hg₂ hok h0 D hD g3 f hfl hfs
  rwa [hop, opOf_eq, valueCond_eq_sensitive] at h

end Values

/-! ### Which attributes a name designates (suppliers of `D` / `hD` for the `*_value_text` theorems) -/

/-- Non-XML document, `[a …]` / `[|a …]` (prefix value empty), with or without namespace support
    (html.parser, lxml: without; html5lib: with): the attributes whose WHOLE key equals `a` after ASCII folding
    of both. -/
theorem designates_html_bare (c : Ctx) (a : Str) (x : Attr) (hx : c.isXml = false) :
    designates c [] a x = true ↔ lower a = lower x.key := by
  cases h : c.supportsNamespaces
  · exact C12Parse.designates_no_ns c [] a x h
  · rw [C12Parse.designates_bare c a x h, NameEq_html c hx]

/-- XML document, `[a …]` / `[|a …]`: the attributes whose whole key IS `a`. -/
theorem designates_xml_bare (c : Ctx) (a : Str) (x : Attr) (hx : c.isXml = true) :
    designates c [] a x = true ↔ a = x.key := by
  rw [C12Parse.designates_bare c a x (supportsNamespaces_of_xml hx), NameEq_xml c hx]

/-- XML document, `[ns|a …]`, `ns ↦ u ≠ ''`: namespace URI `u` and local name exactly `a`. -/
theorem designates_xml_ns (c : Ctx) (p a u : Str) (x : Attr) (hx : c.isXml = true) (hp : p ≠ [])
    (hs : p ≠ "*".toStr) (hm : c.nsGet p = some u) (hu : u ≠ []) :
    designates c p a x = true ↔ x.kns = some u ∧ x.kname = some a := by
  rw [C12Parse.designates_ns c p a x u (supportsNamespaces_of_xml hx) hp hs hm hu]
  simp only [NameEq_xml c hx]
  constructor
  · rintro ⟨h1, nm, h2, rfl⟩; exact ⟨h1, h2⟩
  · rintro ⟨h1, h2⟩; exact ⟨h1, a, h2, rfl⟩

/-- XML document, `[*|a …]`. -/
theorem designates_xml_any (c : Ctx) (a : Str) (x : Attr) (hx : c.isXml = true) :
    designates c "*".toStr a x = true ↔
      (x.kns = none ∧ a = x.key) ∨ (x.kns.isSome = true ∧ x.kname = some a) := by
  rw [C12Parse.designates_any c a x (supportsNamespaces_of_xml hx)]
  simp only [NameEq_xml c hx]
  constructor
  · rintro (h | ⟨h1, nm, h2, rfl⟩)
    · exact Or.inl h
    · exact Or.inr ⟨h1, h2⟩
  · rintro (h | ⟨h1, h2⟩)
    · exact Or.inl h
    · exact Or.inr ⟨h1, a, h2, rfl⟩

/-! ### The case laws per document kind: type selectors, attribute names -/

/-- **Type selector, XML document** (XHTML parsed as XML included): the name VALUE is `*` or IS the element's
    name. -/
theorem xml_type_text (c : Ctx) (l : Loc) (e : Elem) (kids : List Node) (hf : l.focus = .elem e kids)
    (x : STagN) (g₁ g₂ : Str) (hg₁ : isGap g₁) (hg₂ : isGap g₂) (hok : x.ok g₂)
    (h0 : ∀ y ∈ g₁ ++ x.render ++ g₂, y ≠ 0) (hx : c.isXml = true) :
    ∃ b, matchText c (g₁ ++ x.render ++ g₂) l = .ok b ∧
      (b = true ↔ e.isDoc = false ∧ NsCond c e (x.ns.map Refine.Compile.SNs.value) ∧
        (x.t.value = "*".toStr ∨ x.t.value = e.name)) := by
  obtain ⟨b, h1, h2⟩ := C12Parse.type_text c l e kids hf x g₁ g₂ hg₁ hg₂ hok h0
  refine ⟨b, h1, h2.trans ?_⟩
  simp only [NameCond, NameEq_xml c hx, STagN.value]

/-- **`[a]`, `[a op v flag]` / `[|a …]`, non-XML document**: the attribute NAME is compared after ASCII folding
    of both sides (the value test: the `*_value_text` theorems). -/
theorem html_attr_name_text (c : Ctx) (l : Loc) (e : Elem) (kids : List Node) (hf : l.focus = .elem e kids)
    (tag : Option STagN) (ns : Option Refine.Compile.SNs) (a : SAttr) (g₁ g₂ : Str) (hg₁ : isGap g₁)
    (hg₂ : isGap g₂) (hok : (SCompound.mk tag [attrItem ns a]).ok g₂)
    (h0 : ∀ y ∈ g₁ ++ (SCompound.mk tag [attrItem ns a]).render ++ g₂, y ≠ 0)
    (hfold : ∀ t, testOf a.value = some t → caseInsensitive c (valueOf a.name) t.flag = true →
      c.env.fold = lowerCp)
    (hx : c.isXml = false) (hns : pfxValue ns = []) :
    ∃ b, matchText c (g₁ ++ (SCompound.mk tag [attrItem ns a]).render ++ g₂) l = .ok b ∧
      (b = true ↔ e.isDoc = false ∧ TagCond c e (tag.map STagN.value) ∧
        AttrHolds c e (valueOf a.name) (testOf a.value) (fun x => lower (valueOf a.name) = lower x.key)) :=
  C12Parse.attr_text c l e kids hf tag ns a g₁ g₂ hg₁ hg₂ hok h0 hfold _
    (fun x => by rw [hns]; exact designates_html_bare c _ x hx)

/-- **`[a]`, `[a op v flag]` / `[|a …]`, XML document**: the attribute NAME is compared exactly — whatever the
    flag: `i` folds the VALUE comparison only (`xml_eq_i_text`). -/
theorem xml_attr_name_text (c : Ctx) (l : Loc) (e : Elem) (kids : List Node) (hf : l.focus = .elem e kids)
    (tag : Option STagN) (ns : Option Refine.Compile.SNs) (a : SAttr) (g₁ g₂ : Str) (hg₁ : isGap g₁)
    (hg₂ : isGap g₂) (hok : (SCompound.mk tag [attrItem ns a]).ok g₂)
    (h0 : ∀ y ∈ g₁ ++ (SCompound.mk tag [attrItem ns a]).render ++ g₂, y ≠ 0)
    (hfold : ∀ t, testOf a.value = some t → caseInsensitive c (valueOf a.name) t.flag = true →
      c.env.fold = lowerCp)
    (hx : c.isXml = true) (hns : pfxValue ns = []) :
    ∃ b, matchText c (g₁ ++ (SCompound.mk tag [attrItem ns a]).render ++ g₂) l = .ok b ∧
      (b = true ↔ e.isDoc = false ∧ TagCond c e (tag.map STagN.value) ∧
        AttrHolds c e (valueOf a.name) (testOf a.value) (fun x => valueOf a.name = x.key)) :=
  C12Parse.attr_text c l e kids hf tag ns a g₁ g₂ hg₁ hg₂ hok h0 hfold _
    (fun x => by rw [hns]; exact designates_xml_bare c _ x hx)

/-- **`[a=v i]`, XML document**: the name exactly, the value after ASCII folding of both. -/
theorem xml_eq_i_text (c : Ctx) (l : Loc) (e : Elem) (kids : List Node) (hf : l.focus = .elem e kids)
    (tag : Option STagN) (ns : Option Refine.Compile.SNs) (a : SAttr) (bd : SAttrOp) (hbd : a.body = some bd)
    (g₁ g₂ : Str) (hg₁ : isGap g₁) (hg₂ : isGap g₂) (hok : (SCompound.mk tag [attrItem ns a]).ok g₂)
    (h0 : ∀ y ∈ g₁ ++ (SCompound.mk tag [attrItem ns a]).render ++ g₂, y ≠ 0)
    (hx : c.isXml = true) (hns : pfxValue ns = [])
    (hop : bd.op = none) (g3 : Str) (f : Nat) (hfl : bd.flag = some (g3, f)) (hfi : lowerCp f = 105)
    (hfold : c.env.fold = lowerCp) :
    ∃ b, matchText c (g₁ ++ (SCompound.mk tag [attrItem ns a]).render ++ g₂) l = .ok b ∧
      (b = true ↔ e.isDoc = false ∧ TagCond c e (tag.map STagN.value) ∧
        ∃ x ∈ e.attrs, valueOf a.name = x.key ∧ lower (attrStr x) = lower bd.value.value) :=
  eq_i_text c l e kids hf tag ns a bd hbd g₁ g₂ hg₁ hg₂ hok h0 _
    (fun x => by rw [hns]; exact designates_xml_bare c _ x hx) hop g3 f hfl hfi hfold

/-! ## `#id`, `.class`: exact in every document kind (the model, like the library, has no quirks mode) -/

theorem simple_text (c : Ctx) (l : Loc) (e : Elem) (kids : List Node) (hf : l.focus = .elem e kids)
    (tag : Option STagN) (it : SItem) (s : Simple) (hs : simpleOf it = some s)
    (hna : ∀ ns name t, s ≠ .attr ns name t) (g₁ g₂ : Str) (hg₁ : isGap g₁) (hg₂ : isGap g₂)
    (hok : (SCompound.mk tag [it]).ok g₂)
    (h0 : ∀ y ∈ g₁ ++ (SCompound.mk tag [it]).render ++ g₂, y ≠ 0) :
    ∃ b, matchText c (g₁ ++ (SCompound.mk tag [it]).render ++ g₂) l = .ok b ∧
      (b = true ↔ e.isDoc = false ∧ TagCond c e (tag.map STagN.value) ∧ satSimple c l e s = true) := by
  have hss : simplesOf [it] = [s] := by simp [simplesOf, hs]
  obtain ⟨b, h1, h2⟩ := C10Parse.compound_simple_text c l e kids hf tag [it] g₁ g₂ hg₁ hg₂ hok
    (SCompound.isEmpty_cons tag it [])
    (List.forall_mem_singleton.2 (by rw [hs]; rfl)) h0
    (by intro ns name t hm; rw [hss, List.mem_singleton] at hm; exact absurd hm.symm (hna ns name _))
  refine ⟨b, h1, h2.trans ?_⟩
  rw [hss]
  simp only [List.mem_singleton, forall_eq]

/-- **`E#v`** (`E` an optional type selector): the FIRST attribute whose key is `id` — up to ASCII case in a
    non-XML document, exactly in an XML document (`keyIs`) — carries the single string `v`, compared EXACTLY. -/
theorem id_text (c : Ctx) (l : Loc) (e : Elem) (kids : List Node) (hf : l.focus = .elem e kids)
    (tag : Option STagN) (f : Forms) (g₁ g₂ : Str) (hg₁ : isGap g₁) (hg₂ : isGap g₂)
    (hok : (SCompound.mk tag [.id f]).ok g₂)
    (h0 : ∀ y ∈ g₁ ++ (SCompound.mk tag [.id f]).render ++ g₂, y ≠ 0) :
    ∃ b, matchText c (g₁ ++ (SCompound.mk tag [.id f]).render ++ g₂) l = .ok b ∧
      (b = true ↔ e.isDoc = false ∧ TagCond c e (tag.map STagN.value) ∧
        ∃ x, e.attrs.find? (keyIs c idName) = some x ∧ normalizeValue x.val = .str (valueOf f)) := by
  obtain ⟨b, h1, h2⟩ := simple_text c l e kids hf tag (.id f) _ rfl nofun g₁ g₂ hg₁ hg₂ hok h0
  refine ⟨b, h1, h2.trans ?_⟩
  simp only [satSimple, beq_iff_eq, idOf_iff]

/-- **`E.v`**: the first attribute whose key is `class` (same name rule) has `v` among its white-space
    separated words (among its items when the tree builder has split it), compared EXACTLY. -/
theorem class_text (c : Ctx) (l : Loc) (e : Elem) (kids : List Node) (hf : l.focus = .elem e kids)
    (tag : Option STagN) (f : Forms) (g₁ g₂ : Str) (hg₁ : isGap g₁) (hg₂ : isGap g₂)
    (hok : (SCompound.mk tag [.cls f]).ok g₂)
    (h0 : ∀ y ∈ g₁ ++ (SCompound.mk tag [.cls f]).render ++ g₂, y ≠ 0) :
    ∃ b, matchText c (g₁ ++ (SCompound.mk tag [.cls f]).render ++ g₂) l = .ok b ∧
      (b = true ↔ e.isDoc = false ∧ TagCond c e (tag.map STagN.value) ∧
        ∃ x, e.attrs.find? (keyIs c className) = some x ∧ CarriesClass (valueOf f) x) := by
  obtain ⟨b, h1, h2⟩ := simple_text c l e kids hf tag (.cls f) _ rfl nofun g₁ g₂ hg₁ hg₂ hok h0
  refine ⟨b, h1, h2.trans ?_⟩
  simp only [satSimple, hasClass_iff]

/-! ## Non-vacuity: concrete texts on concrete trees, the model evaluated (`#guard`), the library asked -/

namespace Examples
open C11 (chtml cxml)
open C12Parse (ok_true_of ok_false_of on_text)
open C12Parse.Examples (lits isOk identOK_lit)

def sattr (k v : String) : Attr := { key := k.toStr, kns := none, kname := none, val := .str v.toStr }

/-- `<DiV ID="Ab" Class="Foo" TYPE="TeXt" data-X="Val">` as html.parser / lxml materialise it: names folded, the
    class attribute split. -/
def hClass : Attr :=
  { key := "class".toStr, kns := none, kname := none, val := .seq [.str "Foo".toStr] "['Foo']".toStr }
def hEl : Elem :=
  { isDoc := false, name := "div".toStr, pfx := none, ns := none,
    attrs := [sattr "id" "Ab", hClass, sattr "type" "TeXt", sattr "data-x" "Val"] }
def hLoc : Loc := ⟨.elem hEl [], []⟩

/-- `<DiV ID="Ab" class="Foo" TYPE="TeXt" dAta="Val"/>` as lxml-xml materialises it: as written. -/
def xEl : Elem :=
  { isDoc := false, name := "DiV".toStr, pfx := none, ns := none,
    attrs := [sattr "ID" "Ab", sattr "class" "Foo", sattr "TYPE" "TeXt", sattr "dAta" "Val"] }
def xLoc : Loc := ⟨.elem xEl [], []⟩

/-- a non-XML tree that kept upper case on the document side (no HTML parser of bs4 produces one, but
    `soup.new_tag('DiV', attrs={'ID': 'Ab', 'TyPe': 'TeXt'})` in an html.parser soup does; the matcher folds the
    document side all the same, and the library agrees on the three lines below) -/
def hElUpper : Elem :=
  { isDoc := false, name := "DiV".toStr, pfx := none, ns := none, attrs := [sattr "ID" "Ab", sattr "TyPe" "TeXt"] }
def hLocUpper : Loc := ⟨.elem hElUpper [], []⟩

/-- `\44 iv`: `D` as a hex escape -/
def dEsc : Forms := [(68, .hex 2 [] (some .space)), (105, .lit), (118, .lit)]

/-- Tag names, HTML: `dIv` and `\44 iv` (value `Div`) give the same verdict (`name_case_text`) … -/
example : ∃ b, matchText chtml "dIv".toStr hLoc = .ok b ∧ matchText chtml " \\44 iv/**/".toStr hLoc = .ok b :=
  have ⟨b, h, h'⟩ := name_case_text chtml hLoc hEl [] rfl (lits "dIv") dEsc [] [] [32] "/**/".toStr (by decide)
    (by decide) (by decide) (by decide) (identOK_lit _ (by decide) _) (by decide) (by decide) (by decide) rfl
    (by decide)
  ⟨b, on_text (by decide_lit) h, on_text (by decide_lit) h'⟩

/-- … namely `true` (`html_type_text`). -/
example : matchText chtml "dIv".toStr hLoc = .ok true :=
  on_text (by decide_lit) <| ok_true_of (html_type_text chtml hLoc hEl [] rfl ⟨none, .name (lits "dIv")⟩ [] [] (by decide) (by decide)
    ⟨identOK_lit _ (by decide) _, trivial⟩ (by decide) rfl)
    ⟨rfl, Or.inl (by decide), Or.inr (by decide)⟩

/-- XML: `DiV` and `div` are NOT equivalent — the witness tree is the single element `<DiV/>`
    (`xml_type_text`). -/
example : matchText cxml "DiV".toStr xLoc = .ok true ∧ matchText cxml "div".toStr xLoc = .ok false :=
  ⟨on_text (by decide_lit) <| ok_true_of (xml_type_text cxml xLoc xEl [] rfl ⟨none, .name (lits "DiV")⟩ [] [] (by decide) (by decide)
      ⟨identOK_lit _ (by decide) _, trivial⟩ (by decide) rfl)
      ⟨rfl, Or.inl (by decide), Or.inr (by decide)⟩,
   on_text (by decide_lit) <| ok_false_of (xml_type_text cxml xLoc xEl [] rfl ⟨none, .name (lits "div")⟩ [] [] (by decide) (by decide)
      ⟨identOK_lit _ (by decide) _, trivial⟩ (by decide) rfl)
      (by rintro ⟨_, _, h⟩; revert h; decide)⟩

/-- `[ name = value flag ]` with single spaces around the parts, the value a bare identifier -/
def eqAttr (name value : String) (flag : Option Nat) : SAttr :=
  ⟨[], lits name, some ⟨[], none, [], .ident (lits value), flag.map fun f => ([32], f)⟩, []⟩

theorem eqAttr_ok (name value : String) (flag : Option Nat)
    (h : (name, value, flag) ∈ [("TyPe", "text", none), ("type", "text", some 115), ("id", "ab", none),
      ("id", "ab", some 73), ("iD", "Ab", none), ("id", "Ab", none), ("dAta", "val", some 105),
      ("DATA", "val", some 105), ("TYPE", "text", none)]) :
    (SCompound.mk none [attrItem none (eqAttr name value flag)]).ok [] := by
  -- name and value are written in literal characters: admissible whatever follows (`identOK_lit`)
  have key : identOK (lits name) [] ∧ identOK (lits value) [] ∧ ∀ f, flag = some f → Refine.Compile.isFlag f = true := by
    simp only [List.mem_cons, Prod.mk.injEq, List.not_mem_nil, or_false] at h
    rcases h with ⟨rfl, rfl, rfl⟩ | ⟨rfl, rfl, rfl⟩ | ⟨rfl, rfl, rfl⟩ | ⟨rfl, rfl, rfl⟩ | ⟨rfl, rfl, rfl⟩ |
        ⟨rfl, rfl, rfl⟩ | ⟨rfl, rfl, rfl⟩ | ⟨rfl, rfl, rfl⟩ | ⟨rfl, rfl, rfl⟩ <;>
      exact ⟨by decide, by decide, by simp +decide⟩
  obtain ⟨hn, hv, hf⟩ := key
  have hg : isGap [] := by decide
  refine ⟨trivial, ⟨hg, hg, identOK_lit _ hn _, hg, hg, nofun, ⟨identOK_lit _ hv _, ?_⟩, ?_⟩, trivial⟩
  · cases flag <;> exact Bool.false_ne_true
  · intro g3 f hm
    cases flag with
    | none => cases hm
    | some f0 => cases hm; exact ⟨by decide, hf _ rfl⟩

/-- Attribute names, HTML: `[iD=Ab]` and `[id=Ab]` give the same verdict (`attr_name_case_text`). -/
example : ∃ b, matchText chtml "[iD=Ab]".toStr hLoc = .ok b ∧ matchText chtml "[id=Ab]".toStr hLoc = .ok b :=
  have ⟨b, h, h'⟩ := attr_name_case_text chtml hLoc hEl [] rfl none none none (eqAttr "iD" "Ab" none)
    (eqAttr "id" "Ab" none) [] [] [] [] (by decide) (by decide) (by decide) (by decide) (eqAttr_ok _ _ _ (by simp))
    (eqAttr_ok _ _ _ (by simp)) (by decide) (by decide) rfl rfl (by decide) rfl (fun _ _ _ => rfl)
  ⟨b, on_text (by decide_lit) h, on_text (by decide_lit) h'⟩

/-- `[TyPe=text]` on `type="TeXt"`, HTML: insensitive (`html_type_eq_text`) … -/
example : matchText chtml "[TyPe=text]".toStr hLoc = .ok true :=
  on_text (by decide_lit) <| ok_true_of (html_type_eq_text chtml hLoc hEl [] rfl none none (eqAttr "TyPe" "text" none) _ rfl [] []
    (by decide) (by decide) (eqAttr_ok _ _ _ (by simp)) (by decide +kernel) _
    (fun x => designates_html_bare chtml _ x rfl) rfl rfl rfl (by decide) rfl)
    ⟨rfl, Or.inl (by decide), sattr "type" "TeXt", by simp [hEl], by decide, by decide⟩

/-- … `[type=text s]`: sensitive even for `type` (`eq_s_text`) … -/
example : matchText chtml "[type=text s]".toStr hLoc = .ok false :=
  on_text (by decide_lit) <| ok_false_of (eq_s_text chtml hLoc hEl [] rfl none none (eqAttr "type" "text" (some 115)) _ rfl [] []
    (by decide) (by decide) (eqAttr_ok _ _ _ (by simp)) (by decide +kernel) _
    (fun x => designates_html_bare chtml _ x rfl) rfl [32] 115 rfl (by decide))
    (by rintro ⟨_, _, h⟩; revert h; decide)

/-- … `[id=ab]` on `id="Ab"`: sensitive (`plain_eq_text`) … -/
example : matchText chtml "[id=ab]".toStr hLoc = .ok false :=
  on_text (by decide_lit) <| ok_false_of (plain_eq_text chtml hLoc hEl [] rfl none none (eqAttr "id" "ab" none) _ rfl [] []
    (by decide) (by decide) (eqAttr_ok _ _ _ (by simp)) (by decide +kernel) _
    (fun x => designates_html_bare chtml _ x rfl) rfl rfl (by decide))
    (by rintro ⟨_, _, h⟩; revert h; decide)

/-- … `[id=ab I]`: insensitive (`eq_i_text`). -/
example : matchText chtml "[id=ab I]".toStr hLoc = .ok true :=
  on_text (by decide_lit) <| ok_true_of (eq_i_text chtml hLoc hEl [] rfl none none (eqAttr "id" "ab" (some 73)) _ rfl [] []
    (by decide) (by decide) (eqAttr_ok _ _ _ (by simp)) (by decide +kernel) _
    (fun x => designates_html_bare chtml _ x rfl) rfl [32] 73 rfl (by decide) rfl)
    ⟨rfl, Or.inl (by decide), sattr "id" "Ab", by simp [hEl], by decide, by decide⟩

/-- XML: `[TYPE=text]` on `TYPE="TeXt"`: sensitive, `type` is not special (`xml_eq_text`); `i` folds the value,
    not the name: `[dAta=val i]` holds, `[DATA=val i]` does not (`xml_eq_i_text`). -/
example : matchText cxml "[TYPE=text]".toStr xLoc = .ok false :=
  on_text (by decide_lit) <| ok_false_of (xml_eq_text cxml xLoc xEl [] rfl none none (eqAttr "TYPE" "text" none) _ rfl [] []
    (by decide) (by decide) (eqAttr_ok _ _ _ (by simp)) (by decide +kernel) _
    (fun x => designates_xml_bare cxml _ x rfl) rfl rfl rfl)
    (by rintro ⟨_, _, h⟩; revert h; decide)

example : matchText cxml "[dAta=val i]".toStr xLoc = .ok true ∧ matchText cxml "[DATA=val i]".toStr xLoc = .ok false :=
  ⟨on_text (by decide_lit) <| ok_true_of (xml_eq_i_text cxml xLoc xEl [] rfl none none (eqAttr "dAta" "val" (some 105)) _ rfl [] []
      (by decide) (by decide) (eqAttr_ok _ _ _ (by simp)) (by decide +kernel) rfl rfl rfl [32] 105 rfl (by decide) rfl)
      ⟨rfl, Or.inl (by decide), sattr "dAta" "Val", by simp [xEl], by decide, by decide⟩,
   on_text (by decide_lit) <| ok_false_of (xml_eq_i_text cxml xLoc xEl [] rfl none none (eqAttr "DATA" "val" (some 105)) _ rfl [] []
      (by decide) (by decide) (eqAttr_ok _ _ _ (by simp)) (by decide +kernel) rfl rfl rfl [32] 105 rfl (by decide) rfl)
      (by rintro ⟨_, _, h⟩; revert h; decide)⟩

/-- `#Ab` / `#ab`, `.Foo` / `.foo`: exact, HTML included (`id_text`, `class_text`). -/
example : matchText chtml "#Ab".toStr hLoc = .ok true ∧ matchText chtml "#ab".toStr hLoc = .ok false :=
  ⟨on_text (by decide_lit) <| ok_true_of (id_text chtml hLoc hEl [] rfl none (lits "Ab") [] [] (by decide) (by decide)
      (by simp +decide [SCompound.ok, itemsOK, SItem.ok, C09Compile.identOK]) (by decide))
      ⟨rfl, Or.inl (by decide), sattr "id" "Ab", by rfl, by decide⟩,
   on_text (by decide_lit) <| ok_false_of (id_text chtml hLoc hEl [] rfl none (lits "ab") [] [] (by decide) (by decide)
      (by simp +decide [SCompound.ok, itemsOK, SItem.ok, C09Compile.identOK]) (by decide))
      (by
        rintro ⟨_, _, x, hx, hv⟩
        have : x = sattr "id" "Ab" := by
          have h' : hEl.attrs.find? (keyIs chtml idName) = some (sattr "id" "Ab") := by rfl
          rw [h'] at hx; exact (Option.some.inj hx).symm
        subst this; revert hv; decide)⟩

example : matchText chtml ".Foo".toStr hLoc = .ok true :=
  on_text (by decide_lit) <| ok_true_of (class_text chtml hLoc hEl [] rfl none (lits "Foo") [] [] (by decide) (by decide)
      (by simp +decide [SCompound.ok, itemsOK, SItem.ok, C09Compile.identOK]) (by decide))
      ⟨rfl, Or.inl (by decide), hClass, by rfl, by show ("Foo".toStr ∈ ["Foo".toStr]); decide⟩

/-! The model evaluated directly on the same texts and more.  Every line was also put to the library
    (soupsieve at /repo, bs4): the HTML lines on
    `BeautifulSoup('<DiV ID="Ab" Class="Foo" TYPE="TeXt" data-X="Val">x</DiV>', 'html.parser')`,
    the XML lines on `BeautifulSoup('<DiV ID="Ab" class="Foo" TYPE="TeXt" dAta="Val">x</DiV>', 'lxml-xml')`,
    with `bool(sv.match(sel, soup.find(True)))` — the HTML lines also with the parsers `lxml` and `html5lib`
    (`ch5` lines: html5lib only), the `cxhtml` lines on the same element inside
    `<html xmlns="http://www.w3.org/1999/xhtml">…</html>` parsed by `lxml-xml`; the verdicts agree. -/

-- names, HTML
#guard isOk (matchText chtml "div".toStr hLoc) true
#guard isOk (matchText chtml "DIV".toStr hLoc) true
#guard isOk (matchText chtml "dIv".toStr hLoc) true
#guard isOk (matchText chtml " \\44 iv/**/".toStr hLoc) true
#guard isOk (matchText chtml "[id]".toStr hLoc) true
#guard isOk (matchText chtml "[ID]".toStr hLoc) true
#guard isOk (matchText chtml "[iD=Ab]".toStr hLoc) true
#guard isOk (matchText chtml "[DATA-X=Val]".toStr hLoc) true
-- values, HTML
#guard isOk (matchText chtml "[id=ab]".toStr hLoc) false
#guard isOk (matchText chtml "[id=ab i]".toStr hLoc) true
#guard isOk (matchText chtml "[id=AB I]".toStr hLoc) true
#guard isOk (matchText chtml "[DATA-X=val]".toStr hLoc) false
#guard isOk (matchText chtml "[type=text]".toStr hLoc) true
#guard isOk (matchText chtml "[TyPe=text]".toStr hLoc) true
#guard isOk (matchText chtml "[type=text s]".toStr hLoc) false
#guard isOk (matchText chtml "[type=TeXt S]".toStr hLoc) true
#guard isOk (matchText chtml "[type^=te]".toStr hLoc) true
#guard isOk (matchText chtml "[type^=te s]".toStr hLoc) false
#guard isOk (matchText chtml "[type$=XT]".toStr hLoc) true
#guard isOk (matchText chtml "[type*=EX]".toStr hLoc) true
#guard isOk (matchText chtml "[type~=TEXT]".toStr hLoc) true
#guard isOk (matchText chtml "[type|=TEXT]".toStr hLoc) true
#guard isOk (matchText chtml "[type!=TEXT]".toStr hLoc) false
#guard isOk (matchText chtml "[type!=TEXT s]".toStr hLoc) true
#guard isOk (matchText chtml "[id^=a]".toStr hLoc) false
#guard isOk (matchText chtml "[id^=a i]".toStr hLoc) true
#guard isOk (matchText chtml "[class~=foo]".toStr hLoc) false
#guard isOk (matchText chtml "[class~=foo i]".toStr hLoc) true
-- XML
#guard isOk (matchText cxml "DiV".toStr xLoc) true
#guard isOk (matchText cxml "div".toStr xLoc) false
#guard isOk (matchText cxml "DIV".toStr xLoc) false
#guard isOk (matchText cxml "[dAta]".toStr xLoc) true
#guard isOk (matchText cxml "[data]".toStr xLoc) false
#guard isOk (matchText cxml "[dAta=Val]".toStr xLoc) true
#guard isOk (matchText cxml "[dAta=val]".toStr xLoc) false
#guard isOk (matchText cxml "[dAta=val i]".toStr xLoc) true
#guard isOk (matchText cxml "[DATA=val i]".toStr xLoc) false
#guard isOk (matchText cxml "[TYPE=text]".toStr xLoc) false
#guard isOk (matchText cxml "[TYPE=TeXt]".toStr xLoc) true
#guard isOk (matchText cxml "[TYPE=text i]".toStr xLoc) true
#guard isOk (matchText cxml "[type=TeXt]".toStr xLoc) false
-- ids and classes
#guard isOk (matchText chtml "#Ab".toStr hLoc) true
#guard isOk (matchText chtml "#ab".toStr hLoc) false
#guard isOk (matchText chtml ".Foo".toStr hLoc) true
#guard isOk (matchText chtml ".foo".toStr hLoc) false
#guard isOk (matchText chtml "div#Ab.Foo".toStr hLoc) true
#guard isOk (matchText cxml "#Ab".toStr xLoc) false        -- the key is `ID`, XML looks for `id`
#guard isOk (matchText cxml ".Foo".toStr xLoc) true
#guard isOk (matchText cxml ".foo".toStr xLoc) false
-- a non-XML tree with upper case on the document side (`hElUpper`)
#guard isOk (matchText chtml "div".toStr hLocUpper) true
#guard isOk (matchText chtml "#Ab".toStr hLocUpper) true
#guard isOk (matchText chtml "[TYPE=text]".toStr hLocUpper) true

-- html5lib: a non-XML document WITH namespace support (elements in the XHTML namespace)
def ch5 : Ctx := { chtml with hasHtmlNs := true }
def h5Loc : Loc := ⟨.elem { hEl with ns := some NS_XHTML } [], []⟩
#guard isOk (matchText ch5 "dIv".toStr h5Loc) true
#guard isOk (matchText ch5 "[iD=Ab]".toStr h5Loc) true
#guard isOk (matchText ch5 "[id=ab]".toStr h5Loc) false
#guard isOk (matchText ch5 "[TyPe=text]".toStr h5Loc) true
#guard isOk (matchText ch5 "[type=text s]".toStr h5Loc) false
#guard isOk (matchText ch5 "#ab".toStr h5Loc) false
-- XHTML parsed as XML (lxml-xml): `isXml` and `isHtml` both hold; the XML rules apply
def cxhtml : Ctx := { cxml with hasHtmlNs := true, isHtml := true }
def xhLoc : Loc := ⟨.elem { xEl with ns := some NS_XHTML } [], []⟩
#guard isOk (matchText cxhtml "DiV".toStr xhLoc) true
#guard isOk (matchText cxhtml "div".toStr xhLoc) false
#guard isOk (matchText cxhtml "[TYPE=text]".toStr xhLoc) false
#guard isOk (matchText cxhtml "[TYPE=text i]".toStr xhLoc) true
#guard isOk (matchText cxhtml "[dAta=Val]".toStr xhLoc) true
#guard isOk (matchText cxhtml "[data=Val]".toStr xhLoc) false

end Examples

#print axioms compound_case_text
#print axioms type_variant_text
#print axioms type_case_text
#print axioms name_case_text
#print axioms html_type_text
#print axioms attr_variant_text
#print axioms attr_name_case_text
#print axioms attr_value_case_text
#print axioms attr_value_text
#print axioms plain_value_text
#print axioms html_type_value_text
#print axioms xml_value_text
#print axioms flag_i_value_text
#print axioms flag_s_value_text
#print axioms plain_eq_text
#print axioms html_type_eq_text
#print axioms xml_eq_text
#print axioms eq_i_text
#print axioms eq_s_text
#print axioms xml_type_text
#print axioms html_attr_name_text
#print axioms xml_attr_name_text
#print axioms xml_eq_i_text
#print axioms id_text
#print axioms class_text

end C11Parse
end SoupVerif
