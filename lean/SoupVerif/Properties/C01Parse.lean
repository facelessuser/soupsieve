/-
  C01 on selector TEXT.  `Properties/C01Sat.lean` is about the matcher on the IR `Css.compileList L` (`Spec/CssCompile.lean`);
  `Properties/C09Compile.lean` proves what the parser builds from a text of its grammar, in every spelling.
  Here the two are composed.  `toSyntax L` is the canonical spelling of the AST `L` in that grammar
  (identifiers as `css_parser.escape` writes them, one space for the descendant combinator, ` > `, ` ~ `,
  ` + `, `, `; attribute values double-quoted as `Spelling.renderString 34` writes them; flags ` i` / ` s`),
  on the domain `Spellable L` (`Refine/C01ParseSem.lean`): the list and every nested `:not` / `:is` list non-empty, no namespace prefix,
  no `:has`, no empty compound, identifiers non-empty and NUL-free, attribute values NUL-free.  Its values
  denote `compileList L` (`denote_toSyntax`), so the parser returns `compileList L` on EVERY text with these
  values (`parse_spelling_eq_compileList`), and text → parser → matcher returns exactly the elements
  `Css.sat` designates (`select_text_exact`).  Where `escape` leaves every identifier alone the canonical
  text is the text `Css.renderList L` the differential harness feeds to the real parser
  (`toSyntax_render_plain`).

  On the domain `denote` and `compileList` agree (`denote_listV`, same file) in: the implied `*` on every top-level compound and
  on none inside pseudo-class arguments, `is_html = False`, `[a!=v]` as `:not([a=v])`, the `type` attribute's second
  pattern, the order of all lists.
-/
import SoupVerif.Refine.C01ParseBase
import SoupVerif.Refine.C01ParseSem
import SoupVerif.Properties.C01Sat
import SoupVerif.Refine.MatchText
namespace SoupVerif
namespace C01Parse
open Css Escape Spelling Refine.Compile
open C09Compile (Forms identOK SItem SCompound SSelList SComb STag SAttr SAttrOp SValue itemsValue restValue
  renderItems renderRest itemsOK restOK plainName fnName opText flagText denote restValue_append renderRest_append)

def combS : Comb → SComb
  | .desc => .desc [32]
  | .child => .sym [32] 62 [32]
  | .sib => .sym [32] 126 [32]
  | .adj => .sym [32] 43 [32]

/-- `, ` -/
def commaS : SComb := .sym [] 44 [32]

/-- The character in front of `=`. -/
def opChar : AttrOp → Option Nat
  | .eq => none | .ne => some 33 | .pre => some 94 | .suf => some 36 | .sub => some 42
  | .word => some 126 | .dash => some 124

def flagS : CaseFlag → Option (Str × Nat)
  | .none => none | .i => some ([32], 105) | .s => some ([32], 115)

/-- `[name]`, `[nameOP"value"]`, `[nameOP"value" i]`. -/
def attrS (name : Str) (test : Option AttrTest) : SAttr :=
  ⟨[], identForms name,
    test.map (fun t => ⟨[], opChar t.op, [], .str 34 (strPieces t.value), flagS t.flag⟩), []⟩

def kw (s : String) : Forms := identForms s.toStr

def tagS (t : TypeSel) : STag :=
  match t.name with
  | none => .star
  | some n => .name (identForms n)

mutual
def simpleS : Simple → SItem
  | .id v => .id (identForms v)
  | .cls v => .cls (identForms v)
  | .attr _ name test => .attr (attrS name test)
  | .neg L => .fn (kw "not") [] (listS L) []
  | .is L => .fn (kw "is") [] (listS L) []
  | .has _ => .pseudo []                            -- outside the domain
  | .root => .pseudo (kw "root")
  | .empty => .pseudo (kw "empty")
  | .firstChild => .pseudo (kw "first-child")
  | .lastChild => .pseudo (kw "last-child")
  | .onlyChild => .pseudo (kw "only-child")
  | .firstOfType => .pseudo (kw "first-of-type")
  | .lastOfType => .pseudo (kw "last-of-type")
  | .onlyOfType => .pseudo (kw "only-of-type")
def partsS : List Simple → List SItem
  | [] => []
  | s :: rest => simpleS s :: partsS rest
def compoundS : Css.Compound → SCompound
  | .mk tag parts => .mk (tag.map tagS) (partsS parts)
def complexFirstS : Complex → SCompound
  | .one cp => compoundS cp
  | .comb L _ _ => complexFirstS L
def complexRestS : Complex → List (SComb × SCompound)
  | .one _ => []
  | .comb L k R => complexRestS L ++ [(combS k, compoundS R)]
def selsS : List Complex → List (SComb × SCompound)
  | [] => []
  | x :: rest => (commaS, complexFirstS x) :: (complexRestS x ++ selsS rest)
def listS : List Complex → SSelList
  | [] => .mk (.mk none []) []                      -- outside the domain
  | x :: rest => .mk (complexFirstS x) (complexRestS x ++ selsS rest)
end

/-- **The canonical spelling** of a selector list of C01's grammar, as a syntax tree of `C09Compile`'s
    grammar; its text is `(toSyntax L).render`. -/
def toSyntax (L : List Complex) : SSelList := listS L

/-- `s` spells `L`: a syntax tree of `C09Compile`'s grammar (with all its spelling choices) whose token
    values are those of `L`. -/
def Spells (L : List Complex) (s : SSelList) : Prop := s.value = listV L

theorem kw_value (s : String) : valueOf (kw s) = s.toStr := identForms_value _

theorem opText_opChar (op : AttrOp) : opText (opChar op) = op.text := by
  cases op <;> rfl

theorem flagS_value (fl : CaseFlag) : ((flagS fl).map fun x => lowerCp x.2) = flagV fl := by
  cases fl <;> rfl

theorem attrS_value (name : Str) (test : Option AttrTest) :
    (attrS name test).value = ⟨name, test.map fun t => (t.op.text, t.value, flagV t.flag)⟩ := by
  cases test <;>
    simp only [attrS, SAttr.value, identForms_value, Option.map_none, Option.map_some, SValue.value,
      strPieces_value, opText_opChar, flagS_value]

theorem simpleS_kw {s : Simple} {n : String} (h : kwName s = some n) : simpleS s = .pseudo (kw n) := by
  cases s <;> cases h <;> rfl

/-- Their names as text: what `renderSimple` writes after the colon, in lower case, identifiers. -/
theorem kw_text {s : Simple} {n : String} (h : kwName s = some n) :
    renderSimple s = 58 :: n.toStr ∧ lower n.toStr = n.toStr ∧ identOkB n.toStr = true := by
  cases s <;> cases h <;> (rw [renderSimple]; decide_lit)

theorem kw_value_eq {s : Simple} {n : String} (h : kwName s = some n) : (simpleS s).value = simpleV s := by
  rw [simpleS_kw h, simpleV_kw h, SItem.value, kw_value, (kw_text h).2.1, (kw_text h).1]

mutual
theorem simpleS_value : ∀ (s : Simple), (simpleS s).value = simpleV s
  | .id v => by simp only [simpleS, SItem.value, simpleV, identForms_value]
  | .cls v => by simp only [simpleS, SItem.value, simpleV, identForms_value]
  | .attr ns name test => by simp only [simpleS, SItem.value, simpleV, attrS_value]
  | .neg L | .is L => by
    simp only [simpleS, SItem.value, simpleV, kw_value, listS_value L]
    rfl
  | .has _ => rfl
  | .root | .empty | .firstChild | .lastChild | .onlyChild | .firstOfType | .lastOfType | .onlyOfType =>
    kw_value_eq rfl
theorem partsS_value : ∀ (ps : List Simple), itemsValue (partsS ps) = partsV ps
  | [] => by simp only [partsS, itemsValue, partsV]
  | s :: rest => by simp only [partsS, itemsValue, partsV, simpleS_value s, partsS_value rest]
theorem compoundS_value : ∀ (cp : Css.Compound), (compoundS cp).value = compoundV cp
  | .mk tag parts => by
    simp only [compoundS, SCompound.value, compoundV, partsS_value parts, Option.map_map]
    congr 1
    cases tag with
    | none => rfl
    | some t =>
      obtain ⟨ns, nm⟩ := t
      cases nm <;> simp [tagS, STag.value, identForms_value]
theorem complexFirstS_value : ∀ (x : Complex), (complexFirstS x).value = complexFirst x
  | .one cp => by simp only [complexFirstS, complexFirst, compoundS_value cp]
  | .comb L _ _ => by simp only [complexFirstS, complexFirst, complexFirstS_value L]
theorem complexRestS_value : ∀ (x : Complex), restValue (complexRestS x) = complexRest x
  | .one _ => by simp only [complexRestS, restValue, complexRest]
  | .comb L k R => by
    simp only [complexRestS, restValue_append, restValue, complexRest, complexRestS_value L,
      compoundS_value R]
    cases k <;> rfl
theorem selsS_value : ∀ (xs : List Complex), restValue (selsS xs) = selsV xs
  | [] => by simp only [selsS, restValue, selsV]
  | x :: rest => by
    simp only [selsS, restValue, restValue_append, selsV, complexFirstS_value x, complexRestS_value x,
      selsS_value rest]
    rfl
theorem listS_value : ∀ (L : List Complex), (listS L).value = listV L
  | [] => rfl
  | x :: rest => by
    simp only [listS, SSelList.value, restValue_append, listV, complexFirstS_value x, complexRestS_value x,
      selsS_value rest]
end

theorem toSyntax_value (L : List Complex) : (toSyntax L).value = listV L := listS_value L

theorem identOkB_iff (v : Str) : identOkB v = true ↔ v ≠ [] ∧ ∀ c ∈ v, c ≠ 0 := by
  cases v <;> simp [identOkB]

theorem ident_ok {v : Str} (h : identOkB v = true) (r : Str) : identOK (identForms v) r :=
  identForms_ok v ((identOkB_iff v).1 h).1 ((identOkB_iff v).1 h).2 r

theorem kw_ok (s : String) (h : identOkB s.toStr = true) (r : Str) : identOK (kw s) r := ident_ok h r

theorem itemsOK_of : ∀ (items : List SItem), (∀ it ∈ items, ∀ r, it.ok r) → ∀ r, itemsOK items r
  | [], _, _ => by simp only [itemsOK]
  | it :: rest, h, r => by
    rw [itemsOK]
    exact ⟨h it (by simp) _, itemsOK_of rest (fun i hi => h i (by simp [hi])) r⟩

theorem restOK_of : ∀ (l : List (SComb × SCompound)), (∀ p ∈ l, p.1.ok ∧ ∀ r, p.2.ok r) → ∀ r, restOK l r
  | [], _, _ => by simp only [restOK]
  | x :: rest, h, r => by
    rw [restOK]
    exact ⟨(h x (by simp)).1, (h x (by simp)).2 _, restOK_of rest (fun p hp => h p (by simp [hp])) r⟩

theorem combS_ok (k : Comb) : (combS k).ok := by
  cases k
  · exact DescGap.ws 32 [] rfl (by decide)
  · exact ⟨by decide, by decide, by decide⟩
  · exact ⟨by decide, by decide, by decide⟩
  · exact ⟨by decide, by decide, by decide⟩

theorem commaS_ok : commaS.ok := ⟨by decide, by decide, by decide⟩

theorem attrS_ok (name : Str) (test : Option AttrTest) (h : identOkB name = true) (r : Str) :
    (attrS name test).ok r := by
  cases test with
  | none => exact ⟨C09.gap_nil, C09.gap_nil, ident_ok h _, trivial⟩
  | some t =>
    obtain ⟨op, v, fl⟩ := t
    refine ⟨C09.gap_nil, C09.gap_nil, ident_ok h _, C09.gap_nil, C09.gap_nil, ?_, ?_, ?_⟩
    · intro x hx
      cases op <;> simp [opChar] at hx <;> subst hx <;> decide
    · exact ⟨Or.inl rfl, strPieces_valid [] v, strPieces_range v⟩
    · intro g3 f hf
      cases fl <;> simp [flagS] at hf <;> obtain ⟨rfl, rfl⟩ := hf <;> exact ⟨by decide, by decide⟩

theorem partsS_ne_nil {ps : List Simple} (h : ps ≠ []) : partsS ps ≠ [] := by
  cases ps with
  | nil => exact absurd rfl h
  | cons s rest => simp [partsS]

theorem kw_item_ok {s : Simple} {n : String} (h : kwName s = some n) (r : Str) : (simpleS s).ok r := by
  rw [simpleS_kw h, SItem.ok, kw_value, (kw_text h).2.1, ← (kw_text h).1]
  exact ⟨kw_ok n (kw_text h).2.2 r, Or.inl (kw_lookup h).1⟩

mutual
theorem simpleS_ok : ∀ (s : Simple), spSimple s = true → ∀ r, (simpleS s).ok r
  | .id v, h, r => by
    simp only [spSimple] at h
    simpa only [simpleS, SItem.ok] using ident_ok h r
  | .cls v, h, r => by
    simp only [spSimple] at h
    simpa only [simpleS, SItem.ok] using ident_ok h r
  | .attr ns name test, h, r => by
    simp only [spSimple, Bool.and_eq_true] at h
    simpa only [simpleS, SItem.ok] using attrS_ok name test h.1.2 r
  | .neg L, h, r => by
    simp only [spSimple, Bool.and_eq_true, Bool.not_eq_true', List.isEmpty_eq_false_iff] at h
    simp only [simpleS, SItem.ok, kw_value]
    exact ⟨kw_ok _ (by decide) _, Or.inl (by decide), by decide, by decide, listS_ok L h.2 h.1 _⟩
  | .is L, h, r => by
    simp only [spSimple, Bool.and_eq_true, Bool.not_eq_true', List.isEmpty_eq_false_iff] at h
    simp only [simpleS, SItem.ok, kw_value]
    exact ⟨kw_ok _ (by decide) _, Or.inr (Or.inl (by decide)), by decide, by decide, listS_ok L h.2 h.1 _⟩
  | .has _, h, _ => by simp [spSimple] at h
  | .root, _, r | .empty, _, r | .firstChild, _, r | .lastChild, _, r | .onlyChild, _, r | .firstOfType, _, r
  | .lastOfType, _, r | .onlyOfType, _, r => kw_item_ok rfl r
theorem partsS_ok : ∀ (ps : List Simple), spParts ps = true → ∀ it ∈ partsS ps, ∀ r, it.ok r
  | [], _, it, hit, _ => by simp [partsS] at hit
  | s :: rest, h, it, hit, r => by
    simp only [spParts, Bool.and_eq_true] at h
    rw [partsS, List.mem_cons] at hit
    rcases hit with rfl | hit
    · exact simpleS_ok s h.1 r
    · exact partsS_ok rest h.2 it hit r
theorem compoundS_ok : ∀ (cp : Css.Compound), spCompound cp = true → ∀ r, (compoundS cp).ok r
  | .mk tag parts, h, r => by
    simp only [spCompound, Bool.and_eq_true] at h
    have hitems := itemsOK_of (partsS parts) (partsS_ok parts h.2) r
    simp only [compoundS, SCompound.ok]
    cases tag with
    | none =>
      have hne : parts ≠ [] := by simpa using h.1
      exact ⟨trivial, hitems, Or.inr (partsS_ne_nil hne)⟩
    | some t =>
      obtain ⟨ns, nm⟩ := t
      refine ⟨?_, hitems, Or.inl rfl⟩
      cases nm with
      | none => trivial
      | some n =>
        have hn : identOkB n = true := by
          have := h.1
          simp only [Bool.and_eq_true] at this
          exact this.2
        exact ident_ok hn _
theorem complexS_ok : ∀ (x : Complex), spComplex x = true →
    (∀ r, (complexFirstS x).ok r) ∧ ∀ p ∈ complexRestS x, p.1.ok ∧ ∀ r, p.2.ok r
  | .one cp, h => by
    simp only [spComplex] at h
    exact ⟨compoundS_ok cp h, by simp [complexRestS]⟩
  | .comb L k R, h => by
    simp only [spComplex, Bool.and_eq_true] at h
    obtain ⟨h1, h2⟩ := complexS_ok L h.1
    refine ⟨h1, ?_⟩
    intro p hp
    rw [complexRestS, List.mem_append] at hp
    rcases hp with hp | hp
    · exact h2 p hp
    · simp only [List.mem_singleton] at hp
      subst hp
      exact ⟨combS_ok k, compoundS_ok R h.2⟩
theorem selsS_ok : ∀ (xs : List Complex), spList xs = true → ∀ p ∈ selsS xs, p.1.ok ∧ ∀ r, p.2.ok r
  | [], _, p, hp => by simp [selsS] at hp
  | x :: rest, h, p, hp => by
    simp only [spList, Bool.and_eq_true] at h
    obtain ⟨h1, h2⟩ := complexS_ok x h.1
    rw [selsS, List.mem_cons, List.mem_append] at hp
    rcases hp with rfl | hp | hp
    · exact ⟨commaS_ok, h1⟩
    · exact h2 p hp
    · exact selsS_ok rest h.2 p hp
theorem listS_ok : ∀ (L : List Complex), spList L = true → L ≠ [] → ∀ r, (listS L).ok r
  | [], _, h, _ => absurd rfl h
  | x :: rest, h, _, r => by
    simp only [spList, Bool.and_eq_true] at h
    obtain ⟨h1, h2⟩ := complexS_ok x h.1
    rw [listS, SSelList.ok]
    refine ⟨h1 _, restOK_of _ ?_ r⟩
    intro p hp
    rw [List.mem_append] at hp
    rcases hp with hp | hp
    · exact h2 p hp
    · exact selsS_ok rest h.2 p hp
end

/-- The canonical spelling satisfies the side conditions of `C09Compile`'s grammar, whatever follows. -/
theorem toSyntax_ok (L : List Complex) (h : Spellable L) (r : Str) : (toSyntax L).ok r :=
  listS_ok L h.2 h.1 r

def NoNul (t : Str) : Prop := ∀ x ∈ t, x ≠ 0

theorem noNul_nil : NoNul [] := fun _ hx => nomatch hx

theorem noNul_append (a b : Str) : NoNul (a ++ b) ↔ NoNul a ∧ NoNul b := List.forall_mem_append

theorem noNul_cons (c : Nat) (a : Str) : NoNul (c :: a) ↔ c ≠ 0 ∧ NoNul a := List.forall_mem_cons

theorem ident_noNul {v : Str} (h : identOkB v = true) : NoNul (renderIdentWith (identForms v)) :=
  identForms_noNul v ((identOkB_iff v).1 h).2

theorem kw_noNul (s : String) (h : identOkB s.toStr = true) : NoNul (renderIdentWith (kw s)) := ident_noNul h

theorem combS_noNul (k : Comb) : NoNul (combS k).render := by
  cases k <;> (intro x hx; simp [combS, SComb.render] at hx; omega)

theorem commaS_noNul : NoNul commaS.render := by
  intro x hx; simp [commaS, SComb.render] at hx; omega

theorem attrS_noNul (name : Str) (test : Option AttrTest) (h : identOkB name = true)
    (hv : ∀ t, test = some t → ∀ c ∈ t.value, c ≠ 0) : NoNul (attrS name test).render := by
  have hn := ident_noNul h
  cases test with
  | none =>
    simp only [attrS, SAttr.render, SAttr.afterName, Option.map_none, List.nil_append, noNul_cons,
      noNul_append, noNul_nil, and_true]
    exact ⟨by omega, hn, by omega⟩
  | some t =>
    obtain ⟨op, v, fl⟩ := t
    have hs : NoNul (renderStrWith (strPieces v)) := by
      rw [strPieces_render]
      exact renderStringBody_noNul v (hv _ rfl)
    have hop : NoNul (opText (opChar op)) := by
      cases op <;> (intro x hx; simp [opChar, opText] at hx; omega)
    have hfl : NoNul (flagText (flagS fl)) := by
      cases fl <;> (intro x hx; simp [flagS, flagText] at hx; try omega)
    simp only [attrS, SAttr.render, SAttr.afterName, Option.map_some, List.nil_append, SValue.render,
      noNul_cons, noNul_append, noNul_nil, and_true]
    exact ⟨by omega, hn, hop, ⟨by omega, hs, by omega⟩, hfl, by omega⟩

theorem kw_item_noNul {s : Simple} {n : String} (h : kwName s = some n) : NoNul (simpleS s).render := by
  rw [simpleS_kw h, SItem.render, noNul_cons]
  exact ⟨by omega, kw_noNul n (kw_text h).2.2⟩

mutual
theorem simpleS_noNul : ∀ (s : Simple), spSimple s = true → NoNul (simpleS s).render
  | .id v, h => by
    simp only [spSimple] at h
    simp only [simpleS, SItem.render, noNul_cons]
    exact ⟨by omega, ident_noNul h⟩
  | .cls v, h => by
    simp only [spSimple] at h
    simp only [simpleS, SItem.render, noNul_cons]
    exact ⟨by omega, ident_noNul h⟩
  | .attr ns name test, h => by
    simp only [spSimple, Bool.and_eq_true] at h
    simp only [simpleS, SItem.render]
    apply attrS_noNul name test h.1.2
    intro t ht c hc
    subst ht
    have := h.2
    simp only [List.all_eq_true, bne_iff_ne, ne_eq] at this
    exact this c hc
  | .neg L, h | .is L, h => by
    simp only [spSimple, Bool.and_eq_true, Bool.not_eq_true', List.isEmpty_eq_false_iff] at h
    simp only [simpleS, SItem.render, List.nil_append, noNul_cons, noNul_append, noNul_nil, and_true]
    exact ⟨by omega, kw_noNul _ (by decide), by omega, listS_noNul L h.2 h.1, by omega⟩
  | .has _, h => by simp [spSimple] at h
  | .root, _ | .empty, _ | .firstChild, _ | .lastChild, _ | .onlyChild, _ | .firstOfType, _ | .lastOfType, _
  | .onlyOfType, _ => kw_item_noNul rfl
theorem partsS_noNul : ∀ (ps : List Simple), spParts ps = true → NoNul (renderItems (partsS ps))
  | [], _ => by simp only [partsS, renderItems]; exact noNul_nil
  | s :: rest, h => by
    simp only [spParts, Bool.and_eq_true] at h
    simp only [partsS, renderItems, noNul_append]
    exact ⟨simpleS_noNul s h.1, partsS_noNul rest h.2⟩
theorem compoundS_noNul : ∀ (cp : Css.Compound), spCompound cp = true → NoNul (compoundS cp).render
  | .mk tag parts, h => by
    simp only [spCompound, Bool.and_eq_true] at h
    simp only [compoundS, SCompound.render, noNul_append]
    refine ⟨?_, partsS_noNul parts h.2⟩
    cases tag with
    | none => exact noNul_nil
    | some t =>
      obtain ⟨ns, nm⟩ := t
      cases nm with
      | none =>
        simp only [Option.map_some, tagS, STag.render, noNul_cons]
        exact ⟨by omega, noNul_nil⟩
      | some n =>
        have hn : identOkB n = true := by
          have := h.1
          simp only [Bool.and_eq_true] at this
          exact this.2
        simpa only [Option.map_some, tagS, STag.render] using ident_noNul hn
theorem complexS_noNul : ∀ (x : Complex), spComplex x = true →
    NoNul (complexFirstS x).render ∧ NoNul (renderRest (complexRestS x))
  | .one cp, h => by
    simp only [spComplex] at h
    simp only [complexFirstS, complexRestS, renderRest]
    exact ⟨compoundS_noNul cp h, noNul_nil⟩
  | .comb L k R, h => by
    simp only [spComplex, Bool.and_eq_true] at h
    obtain ⟨h1, h2⟩ := complexS_noNul L h.1
    simp only [complexFirstS, complexRestS, renderRest_append, renderRest, noNul_append, List.append_nil]
    exact ⟨h1, h2, combS_noNul k, compoundS_noNul R h.2⟩
theorem selsS_noNul : ∀ (xs : List Complex), spList xs = true → NoNul (renderRest (selsS xs))
  | [], _ => by simp only [selsS, renderRest]; exact noNul_nil
  | x :: rest, h => by
    simp only [spList, Bool.and_eq_true] at h
    obtain ⟨h1, h2⟩ := complexS_noNul x h.1
    simp only [selsS, renderRest, renderRest_append, noNul_append]
    exact ⟨commaS_noNul, h1, h2, selsS_noNul rest h.2⟩
theorem listS_noNul : ∀ (L : List Complex), spList L = true → L ≠ [] → NoNul (listS L).render
  | [], _, h => absurd rfl h
  | x :: rest, h, _ => by
    simp only [spList, Bool.and_eq_true] at h
    obtain ⟨h1, h2⟩ := complexS_noNul x h.1
    simp only [listS, SSelList.render, renderRest_append, noNul_append]
    exact ⟨h1, h2, selsS_noNul rest h.2⟩
end

theorem toSyntax_noNul (L : List Complex) (h : Spellable L) : ∀ x ∈ (toSyntax L).render, x ≠ 0 :=
  listS_noNul L h.2 h.1

/-! ## Spellable selectors are grammatical (`Complex.wf`, the hypothesis of C01) -/

mutual
theorem simple_wf : ∀ (s : Simple), spSimple s = true → s.wfLeaf = true ∧ s.all Simple.wfLeaf = true
  | .id v, h => by
    simp only [spSimple, identOkB, Bool.and_eq_true] at h
    exact ⟨by simpa [Simple.wfLeaf] using h.1, by simp [Simple.all]⟩
  | .neg L, h => by
    simp only [spSimple, Bool.and_eq_true] at h
    exact ⟨by simpa [Simple.wfLeaf] using h.1, by simpa only [Simple.all] using list_wf L h.2⟩
  | .is L, h => by
    simp only [spSimple, Bool.and_eq_true] at h
    exact ⟨rfl, by simpa only [Simple.all] using list_wf L h.2⟩
  | .has _, h => by simp [spSimple] at h
  | .cls _, _ | .attr _ _ _, _ | .root, _ | .empty, _ | .firstChild, _ | .lastChild, _ | .onlyChild, _
  | .firstOfType, _ | .lastOfType, _ | .onlyOfType, _ => ⟨rfl, rfl⟩
theorem parts_wf : ∀ (ps : List Simple), spParts ps = true → allParts Simple.wfLeaf ps = true
  | [], _ => by simp only [allParts]
  | s :: rest, h => by
    simp only [spParts, Bool.and_eq_true] at h
    simp only [allParts, Bool.and_eq_true]
    exact ⟨simple_wf s h.1, parts_wf rest h.2⟩
theorem compound_wf : ∀ (cp : Css.Compound), spCompound cp = true → cp.all Simple.wfLeaf = true
  | .mk tag parts, h => by
    simp only [spCompound, Bool.and_eq_true] at h
    simpa only [Css.Compound.all] using parts_wf parts h.2
theorem complex_wf : ∀ (x : Complex), spComplex x = true → x.all Simple.wfLeaf = true
  | .one cp, h => by
    simp only [spComplex] at h
    simpa only [Complex.all] using compound_wf cp h
  | .comb L _ R, h => by
    simp only [spComplex, Bool.and_eq_true] at h
    simp only [Complex.all, Bool.and_eq_true]
    exact ⟨complex_wf L h.1, compound_wf R h.2⟩
theorem list_wf : ∀ (L : List Complex), spList L = true → allList Simple.wfLeaf L = true
  | [], _ => by simp only [allList]
  | x :: rest, h => by
    simp only [spList, Bool.and_eq_true] at h
    simp only [allList, Bool.and_eq_true]
    exact ⟨complex_wf x h.1, list_wf rest h.2⟩
end

theorem spList_mem : ∀ (L : List Complex), spList L = true → ∀ x ∈ L, spComplex x = true
  | [], _, x, hx => by simp at hx
  | y :: rest, h, x, hx => by
    simp only [spList, Bool.and_eq_true] at h
    rw [List.mem_cons] at hx
    rcases hx with rfl | hx
    · exact h.1
    · exact spList_mem rest h.2 x hx

theorem spellable_wf (L : List Complex) (h : Spellable L) : ∀ x ∈ L, x.wf = true :=
  fun x hx => complex_wf x (spList_mem L h.2 x hx)

/-! ## The parser on every spelling, and C01 on selector TEXT -/

/-- **`denote` of the canonical spelling is the C01 compiler's IR.** -/
theorem denote_toSyntax (B : Parser.Builtins) (L : List Complex) (h : Spellable L) :
    denote B (toSyntax L).value = compileList L := by
  rw [toSyntax_value, denote_listV B L h]

/-- **The parser model returns `compileList L` on EVERY spelling with the values of `L`**: `s` any syntax
    tree of `C09Compile`'s grammar (arbitrary gaps and comments, escapes in identifiers and strings, either
    kind of quotes or a bare identifier for attribute values, any letter case of pseudo-class names and
    flags) with `s.value = listV L`, admissible (`hok`), between arbitrary gaps `g₁`, `g₂`, the text NUL-free (`h0`); for an
    arbitrary table of built-in selector lists (none of them is used on this grammar). -/
theorem parse_spelling_eq_compileList_gen (B : Parser.Builtins) (L : List Complex) (h : Spellable L)
    (g₁ g₂ : Str) (s : SSelList) (hs : Spells L s)
    (hg₁ : isGap g₁) (hg₂ : isGap g₂) (hok : s.ok g₂) (h0 : ∀ x ∈ g₁ ++ s.render ++ g₂, x ≠ 0) :
    Parser.compile pyFoldEnv Gen.lexicon B (g₁ ++ s.render ++ g₂) [] 0 = .ok (compileList L) := by
  rw [C09Compile.compile_eq_denote B g₁ g₂ s hg₁ hg₂ hok h0, hs, denote_listV B L h]

/-- With the regenerated built-in lists, as the driver runs it. -/
theorem parse_spelling_eq_compileList (L : List Complex) (h : Spellable L)
    (g₁ g₂ : Str) (s : SSelList) (hs : Spells L s)
    (hg₁ : isGap g₁) (hg₂ : isGap g₂) (hok : s.ok g₂) (h0 : ∀ x ∈ g₁ ++ s.render ++ g₂, x ≠ 0) :
    Parser.compile pyFoldEnv Gen.lexicon Gen.builtinsRec (g₁ ++ s.render ++ g₂) [] 0 =
      .ok (compileList L) :=
  parse_spelling_eq_compileList_gen Gen.builtinsRec L h g₁ g₂ s hs hg₁ hg₂ hok h0

theorem parse_eq_compileList (L : List Complex) (h : Spellable L) :
    Parser.compile pyFoldEnv Gen.lexicon Gen.builtinsRec (toSyntax L).render [] 0 = .ok (compileList L) := by
  simpa using parse_spelling_eq_compileList L h [] [] (toSyntax L) (toSyntax_value L) C09.gap_nil C09.gap_nil
    (toSyntax_ok L h []) (by simpa using toSyntax_noNul L h)

/-- **C01 on selector TEXT.**  For every tree, every `Spellable` selector list `L` and every spelling
    `g₁ ++ s.render ++ g₂` of it: parsing the text and selecting below `tag` (no limit) succeeds and returns
    exactly the descendant elements of `tag` that the CSS reading `Css.sat` designates for `L`
    (`Css.selectSpec`), in document order — the text NUL-free (`h0`; the parser replaces NUL before tokenizing).  The
    hypotheses `hfold`, `hroot` are those of
    `C01Sat.api_select_exact` (case-insensitive attribute comparisons need an ASCII-folding matcher
    environment; `:root` needs `RootAgrees`). -/
theorem select_text_exact (E : Env) (isXml : Bool) (ns : List (Str × Str)) (L : List Complex)
    (h : Spellable L) (tag : Loc)
    (hfold : (∀ x ∈ L, x.caseSensitiveIn (mkCtx E isXml ns tag) = true) ∨ E.env.fold = lowerCp)
    (hroot : (∀ x ∈ L, x.noRoot = true) ∨ SatRoot.RootAgrees (mkCtx E isXml ns tag) tag.top)
    (limit : Int) (hlim : limit < 1)
    (g₁ g₂ : Str) (s : SSelList) (hs : Spells L s)
    (hg₁ : isGap g₁) (hg₂ : isGap g₂) (hok : s.ok g₂) (h0 : ∀ x ∈ g₁ ++ s.render ++ g₂, x ≠ 0) :
    selectText E isXml ns (g₁ ++ s.render ++ g₂) tag limit =
      .ok (selectSpec (mkCtx E isXml ns tag) L tag) := by
  rw [selectText_ok (parse_spelling_eq_compileList L h g₁ g₂ s hs hg₁ hg₂ hok h0),
    C01Sat.api_select_exact E isXml ns L (spellable_wf L h) tag hfold hroot limit hlim]

theorem select_canonical_text_exact (E : Env) (isXml : Bool) (ns : List (Str × Str)) (L : List Complex)
    (h : Spellable L) (tag : Loc)
    (hfold : (∀ x ∈ L, x.caseSensitiveIn (mkCtx E isXml ns tag) = true) ∨ E.env.fold = lowerCp)
    (hroot : (∀ x ∈ L, x.noRoot = true) ∨ SatRoot.RootAgrees (mkCtx E isXml ns tag) tag.top)
    (limit : Int) (hlim : limit < 1) :
    selectText E isXml ns (toSyntax L).render tag limit = .ok (selectSpec (mkCtx E isXml ns tag) L tag) := by
  have := select_text_exact E isXml ns L h tag hfold hroot limit hlim [] [] (toSyntax L)
    (toSyntax_value L) C09.gap_nil C09.gap_nil (toSyntax_ok L h []) (by simpa using toSyntax_noNul L h)
  simpa using this

/-- With the `:root` hypothesis spelled out as conditions on the tree, as in `C01Sat.api_select_exact'`. -/
theorem select_text_exact' (E : Env) (isXml : Bool) (ns : List (Str × Str)) (L : List Complex)
    (h : Spellable L) (hfold : E.env.fold = lowerCp) (tag : Loc)
    (hdoc : ∀ n : Loc, n.top = tag.top → n.isDoc = true → n.up = [])
    (hifr : ∀ l p : Loc, l.top = tag.top → l.parent? = some p →
      ((mkCtx E isXml ns tag).isHtml && (mkCtx E isXml ns tag).locIsIframe p) = false)
    (hone : tag.top.isDoc = true →
      (tag.top.children.filter (fun s => blocksRoot s.focus)).length ≤ 1)
    (limit : Int) (hlim : limit < 1)
    (g₁ g₂ : Str) (s : SSelList) (hs : Spells L s)
    (hg₁ : isGap g₁) (hg₂ : isGap g₂) (hok : s.ok g₂) (h0 : ∀ x ∈ g₁ ++ s.render ++ g₂, x ≠ 0) :
    selectText E isXml ns (g₁ ++ s.render ++ g₂) tag limit =
      .ok (selectSpec (mkCtx E isXml ns tag) L tag) :=
  select_text_exact E isXml ns L h tag (Or.inr hfold)
    (Or.inr (SatRootCond.rootAgrees_of_conditions E isXml ns tag hdoc hifr hone)) limit hlim
    g₁ g₂ s hs hg₁ hg₂ hok h0

/-! ## The canonical text of plain selectors is the text of `Css.renderList`

  `Css.renderList` (the renderer the differential harness feeds to the real parser) writes identifiers
  without escaping; where `escape` leaves every identifier alone the canonical spelling is that very text, so
  the theorems above are about the texts the harness tests. -/

/-- `escape` leaves the identifier alone. -/
def plainIdent (v : Str) : Bool := escape v == v

mutual
def plSimple : Simple → Bool
  | .id v => plainIdent v
  | .cls v => plainIdent v
  | .attr _ name _ => plainIdent name
  | .neg L => plList L
  | .is L => plList L
  | _ => true
def plParts : List Simple → Bool
  | [] => true
  | s :: rest => plSimple s && plParts rest
def plCompound : Css.Compound → Bool
  | .mk tag parts =>
    (match tag with
     | some ⟨_, some n⟩ => plainIdent n
     | _ => true) && plParts parts
def plComplex : Complex → Bool
  | .one cp => plCompound cp
  | .comb L _ R => plComplex L && plCompound R
def plList : List Complex → Bool
  | [] => true
  | x :: rest => plComplex x && plList rest
end

theorem ident_render_plain {v : Str} (h : identOkB v = true) (hp : plainIdent v = true) :
    renderIdentWith (identForms v) = v := by
  rw [identForms_render v ((identOkB_iff v).1 h).2]
  simpa [plainIdent] using hp

theorem renderString_eq (v : Str) : Css.renderString v = 34 :: (renderStringBody 34 v ++ [34]) := by
  have h : ∀ v : Str, v.flatMap (fun ch =>
      if ch == 34 || ch == 92 then [92, ch]
      else if ch == 10 || ch == 12 || ch == 13 then [92, Css.hexDigit ch, 32]
      else [ch]) = renderStringBody 34 v := by
    intro v
    induction v with
    | nil => rfl
    | cons c cs ih =>
      rw [List.flatMap_cons, ih, renderStringBody]
      congr 1
      rcases strPiece_cases c with ⟨hc, _, e⟩ | ⟨hc, _, e⟩ | ⟨hc, _, e⟩ <;> rw [e]
      · rcases hc with rfl | rfl | rfl <;> decide
      · rcases hc with rfl | rfl <;> decide
      · have h1 : (c == 34 || c == 92) = false := by simp; omega
        have h2 : (c == 10 || c == 12 || c == 13) = false := by simp; omega
        simp [h1, h2]
  unfold Css.renderString
  rw [h v]
  rfl

theorem attrS_render (name : Str) (test : Option AttrTest) (h : identOkB name = true)
    (hp : plainIdent name = true) : (attrS name test).render = renderAttr [] name test := by
  cases test with
  | none => simp [attrS, SAttr.render, SAttr.afterName, renderAttr, ident_render_plain h hp]
  | some t =>
    obtain ⟨op, v, fl⟩ := t
    cases fl <;>
      simp [attrS, SAttr.render, SAttr.afterName, renderAttr, ident_render_plain h hp, opText_opChar, flagS,
        flagText, SValue.render, strPieces_render, renderString_eq]

theorem combS_render (k : Comb) : (combS k).render = renderComb k := by
  cases k <;> rfl

theorem renderSels_cons : ∀ (xs : List Complex) (x : Complex),
    renderSels (x :: xs) = renderComplex x ++ xs.flatMap (fun y => [44, 32] ++ renderComplex y)
  | [], x => by simp [renderSels]
  | y :: ys, x => by
    rw [renderSels, renderSels_cons ys y]
    simp

theorem kw_item_render {s : Simple} {n : String} (h : kwName s = some n) :
    (simpleS s).render = renderSimple s := by
  have hp : plainIdent n.toStr = true := by cases s <;> cases h <;> decide_lit
  rw [simpleS_kw h, SItem.render, kw, ident_render_plain (kw_text h).2.2 hp, (kw_text h).1]

mutual
theorem simpleS_render : ∀ (s : Simple), spSimple s = true → plSimple s = true →
    (simpleS s).render = renderSimple s
  | .id v, h, hp => by
    simp only [spSimple] at h; simp only [plSimple] at hp
    simp [simpleS, SItem.render, renderSimple, ident_render_plain h hp]
  | .cls v, h, hp => by
    simp only [spSimple] at h; simp only [plSimple] at hp
    simp [simpleS, SItem.render, renderSimple, ident_render_plain h hp]
  | .attr ns name test, h, hp => by
    simp only [spSimple, Bool.and_eq_true, List.isEmpty_iff] at h; simp only [plSimple] at hp
    obtain ⟨⟨rfl, hn⟩, _⟩ := h
    simp only [simpleS, SItem.render, renderSimple, attrS_render name test hn hp]
  | .neg L, h, hp => by
    simp only [spSimple, Bool.and_eq_true, Bool.not_eq_true', List.isEmpty_eq_false_iff] at h
    simp only [plSimple] at hp
    have e : renderIdentWith (kw "not") = "not".toStr := by decide
    simp only [simpleS, SItem.render, renderSimple, listS_render L h.2 h.1 hp, e, List.nil_append]
    simp
    rfl
  | .is L, h, hp => by
    simp only [spSimple, Bool.and_eq_true, Bool.not_eq_true', List.isEmpty_eq_false_iff] at h
    simp only [plSimple] at hp
    have e : renderIdentWith (kw "is") = "is".toStr := by decide
    simp only [simpleS, SItem.render, renderSimple, listS_render L h.2 h.1 hp, e, List.nil_append]
    simp
    rfl
  | .has _, h, _ => by simp [spSimple] at h
  | .root, _, _ | .empty, _, _ | .firstChild, _, _ | .lastChild, _, _ | .onlyChild, _, _ | .firstOfType, _, _
  | .lastOfType, _, _ | .onlyOfType, _, _ => kw_item_render rfl
theorem partsS_render : ∀ (ps : List Simple), spParts ps = true → plParts ps = true →
    renderItems (partsS ps) = renderParts ps
  | [], _, _ => by simp only [partsS, renderItems, renderParts]
  | s :: rest, h, hp => by
    simp only [spParts, Bool.and_eq_true] at h
    simp only [plParts, Bool.and_eq_true] at hp
    simp only [partsS, renderItems, renderParts, simpleS_render s h.1 hp.1, partsS_render rest h.2 hp.2]
theorem compoundS_render : ∀ (cp : Css.Compound), spCompound cp = true → plCompound cp = true →
    (compoundS cp).render = renderCompound cp
  | .mk tag parts, h, hp => by
    simp only [spCompound, Bool.and_eq_true] at h
    simp only [plCompound, Bool.and_eq_true] at hp
    simp only [compoundS, SCompound.render, renderCompound, partsS_render parts h.2 hp.2]
    congr 1
    cases tag with
    | none => rfl
    | some t =>
      obtain ⟨ns, nm⟩ := t
      have h1 := h.1
      simp only [Bool.and_eq_true, beq_iff_eq] at h1
      obtain ⟨rfl, hn⟩ := h1
      cases nm with
      | none => rfl
      | some n =>
        have := ident_render_plain hn hp.1
        simpa [tagS, STag.render, renderType, renderNs] using this
theorem complexS_render : ∀ (x : Complex), spComplex x = true → plComplex x = true →
    (complexFirstS x).render ++ renderRest (complexRestS x) = renderComplex x
  | .one cp, h, hp => by
    simp only [spComplex] at h; simp only [plComplex] at hp
    simp only [complexFirstS, complexRestS, renderRest, List.append_nil, renderComplex,
      compoundS_render cp h hp]
  | .comb L k R, h, hp => by
    simp only [spComplex, Bool.and_eq_true] at h
    simp only [plComplex, Bool.and_eq_true] at hp
    have := complexS_render L h.1 hp.1
    simp only [complexFirstS, complexRestS, renderRest_append, renderRest, List.append_nil, renderComplex,
      ← this, combS_render, compoundS_render R h.2 hp.2, List.append_assoc]
theorem selsS_render : ∀ (xs : List Complex), spList xs = true → plList xs = true →
    renderRest (selsS xs) = xs.flatMap (fun y => [44, 32] ++ renderComplex y)
  | [], _, _ => by simp only [selsS, renderRest, List.flatMap_nil]
  | x :: rest, h, hp => by
    simp only [spList, Bool.and_eq_true] at h
    simp only [plList, Bool.and_eq_true] at hp
    simp only [selsS, renderRest, renderRest_append, List.flatMap_cons, selsS_render rest h.2 hp.2,
      ← complexS_render x h.1 hp.1, List.append_assoc]
    rfl
theorem listS_render : ∀ (L : List Complex), spList L = true → L ≠ [] → plList L = true →
    (listS L).render = renderSels L
  | [], _, h, _ => absurd rfl h
  | x :: rest, h, _, hp => by
    simp only [spList, Bool.and_eq_true] at h
    simp only [plList, Bool.and_eq_true] at hp
    rw [renderSels_cons, listS, SSelList.render, renderRest_append, selsS_render rest h.2 hp.2,
      ← complexS_render x h.1 hp.1, List.append_assoc]
end

/-- **For plain identifiers the canonical text is `renderList L`.** -/
theorem toSyntax_render_plain (L : List Complex) (h : Spellable L) (hp : plList L = true) :
    (toSyntax L).render = renderList L := listS_render L h.2 h.1 hp

/-- `parse_eq_compileList` on the text the harness renders. -/
theorem parse_renderList_eq_compileList (L : List Complex) (h : Spellable L) (hp : plList L = true) :
    Parser.compile pyFoldEnv Gen.lexicon Gen.builtinsRec (renderList L) [] 0 = .ok (compileList L) := by
  rw [← toSyntax_render_plain L h hp]
  exact parse_eq_compileList L h

/-! ## Non-vacuity: concrete selectors, texts and a tree -/

namespace Examples
open C01Sat.Examples

/-- `.1a b` (class), id `-`, nested `:not(:is(…) > […], *:empty)`, `!=` on the `type` attribute. -/
def y1 : List Complex :=
  [.one (.mk none [.cls "1a b".toStr, .id "-".toStr,
     .neg [.comb (.one (.mk none [.is [.one (.mk (ty "p") []), .one (.mk none [.id "e".toStr])]])) .child
             (.mk none [.attr [] "title".toStr (some ⟨.eq, "q\"\n".toStr, .s⟩)]),
           .one (.mk (some ⟨.default, none⟩) [.empty])]]),
   .comb (.one (.mk (ty "div") [.attr [] "type".toStr (some ⟨.ne, "A".toStr, .none⟩)])) .adj
     (.mk (ty "p") [.onlyChild])]

example : Spellable [x2] ∧ Spellable x3 ∧ Spellable y1 := by decide +kernel
example : ¬ Spellable [x1] := by decide +kernel                       -- `:has`
example : ¬ Spellable [.one (.mk none [.is []])] := by decide +kernel  -- `:is()`
example : ¬ Spellable [.one (.mk (some ⟨.any, none⟩) [])] := by decide +kernel  -- `*|*`

example : plList [x2] = true ∧ plList x3 = true ∧ plList y1 = false := by decide +kernel

-- the canonical texts (for plain identifiers: the text `Css.renderList` writes)
theorem x2_text :
    (toSyntax [x2]).render = "html:root > [class~=\"x\" i]:first-of-type b:last-child".toStr := by
  rw [toStr_ofList]; decide +kernel
example : (toSyntax [x2]).render = "html:root > [class~=\"x\" i]:first-of-type b:last-child".toStr := x2_text
example : (toSyntax x3).render = "p ~ div > a:only-of-type, [id^=\"\"]".toStr := by
  rw [toStr_ofList]; decide +kernel
example : (toSyntax y1).render =
    ".\\31 a\\ b#\\-:not(:is(p, #e) > [title=\"q\\\"\\a \" s], *:empty), div[type!=\"A\"] + p:only-child".toStr := by
  rw [toStr_ofList]; decide +kernel

/-- The parser on the text, instance of `parse_eq_compileList`. -/
example : Parser.compile pyFoldEnv Gen.lexicon Gen.builtinsRec
    "html:root > [class~=\"x\" i]:first-of-type b:last-child".toStr [] 0 = .ok (compileList [x2]) := by
  rw [← x2_text]
  exact parse_eq_compileList [x2] (by decide +kernel)

def lits (s : String) : Forms := s.toStr.map fun c => (c, EscForm.lit)

/-- Another spelling of `x2`: `html:ROOT>[ class ~= 'x' I ]:first-of-type⇥b:l\61 st-child`. -/
def altX2 : SSelList :=
  .mk (.mk (some (.name (lits "html"))) [.pseudo (lits "ROOT")])
    [(.sym [] 62 [],
      .mk none [.attr ⟨[32], lits "class", some ⟨[32], some 126, [32], .str 39 [.ch 120 .lit], some ([32], 73)⟩, [32]⟩,
                .pseudo (lits "first-of-type")]),
     (.desc [9],
      .mk (some (.name (lits "b")))
        [.pseudo ((108, .lit) :: (97, .hex 2 [] (some .space)) :: lits "st-child")])]

theorem altX2_text : ("/**/".toStr ++ altX2.render ++ " ".toStr) =
    "/**/html:ROOT>[ class ~= 'x' I ]:first-of-type\tb:l\\61 st-child ".toStr := by
  rw [toStr_ofList, toStr_ofList, toStr_ofList]; decide +kernel

example : ("/**/".toStr ++ altX2.render ++ " ".toStr) =
    "/**/html:ROOT>[ class ~= 'x' I ]:first-of-type\tb:l\\61 st-child ".toStr := altX2_text

theorem altX2_spells : Spells [x2] altX2 := by unfold Spells; rfl

theorem altX2_ok : altX2.ok " ".toStr := by
  have hd : DescGap [9] := DescGap.ws 9 [] rfl (by decide)
  simp +decide [altX2, SSelList.ok, SCompound.ok, restOK, itemsOK, SItem.ok, STag.ok, SComb.ok, SAttr.ok,
    SValue.ok, identOK, plainName, hd]

/-- End to end on the tree of `C01Sat.Examples`, for the alternative spelling between a comment and a
    space: instance of `select_text_exact` … -/
example : selectText E0 false [] "/**/html:ROOT>[ class ~= 'x' I ]:first-of-type\tb:l\\61 st-child ".toStr top 0 =
    .ok (selectSpec ctx [x2] top) := by
  rw [← altX2_text]
  exact select_text_exact E0 false [] [x2] (by decide +kernel) top (Or.inr rfl) (Or.inr rootAgrees_example) 0
    (by decide) "/**/".toStr " ".toStr altX2 altX2_spells (by decide +kernel) (by decide +kernel) altX2_ok
    (by decide +kernel)

example : (selectSpec ctx [x2] top).map Loc.pos = [[1, 1, 3]] := by decide +kernel

end Examples

#print axioms denote_toSyntax
#print axioms parse_eq_compileList
#print axioms parse_spelling_eq_compileList
#print axioms parse_spelling_eq_compileList_gen
#print axioms select_text_exact
#print axioms select_canonical_text_exact
#print axioms select_text_exact'
#print axioms toSyntax_render_plain
#print axioms parse_renderList_eq_compileList

end C01Parse
end SoupVerif
