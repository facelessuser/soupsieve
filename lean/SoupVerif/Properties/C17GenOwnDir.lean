/-
  C17 — `CSSMatch.match_own_dir(el, directionality, inherit)` (the per-element decision of `:dir()`: `True` / `False` /
  `None` = "the parent decides"), TRANSLATED FROM THE SOURCE on every run (`gen/gen_py_smallfn.py` →
  `Gen.PySmallFn.match_own_dir`, a decision chain over the dynamic values of `Model/SmallFnDyn.lean`), is one step of
  the hand model `matchDirWalk` (Model/Match.lean) that the `:dir()` theorems of `Properties/C17.lean` are about: `matchDirWalk_cons_eq_gen` (one element), `matchDirWalk_eq_gen` (the whole walk = the loop of `match_dir`
  run on the translated function), `matchDir_eq_gen`, `matchDir_eq_genDirWalk` (every `directionality`).

  Hypothesis `StrAttr`: the attributes `dir`, `type`, `value` of the elements visited are absent or strings (bs4
  builds lists for `class`, `rel`, … only; on a list `util.lower` / the loop over `value` behave differently from the
  hand model, which treats a list like an absent attribute).
  The model's `Ctx.bidi` does not distinguish the bidi classes `R` and `AL` (`pyBidi`): dropping ONE of them from
  the tuple `('AL', 'R', 'L')` is not visible to this proof.
-/
import SoupVerif.Generated.PySmallFn
import SoupVerif.Lemmas.SmallFnDyn
import SoupVerif.Properties.C17
namespace SoupVerif
namespace C17GenOwnDir
open PySmallFn

/-- What `match_dir`'s loop does with the answer of `match_own_dir`: `True` / `False` is returned, `None` passes the
    question to the parent (`rest`); any other value does not occur and is read as `False`. -/
def decideWith (r : V) (rest : Bool) : Bool :=
  match r with
  | .bool b => b
  | .none => rest
  | _ => false

/-- The attribute `n` of `e` is absent or a string (bs4 makes lists of `class`, `rel`, … only). -/
def StrAttr (c : Ctx) (e : Elem) (n : Str) : Prop := ∀ v, c.attrByName e n ≠ some (.list v)

theorem lit_ltr : "ltr".toStr = [108, 116, 114] := by decide_lit
theorem lit_rtl : "rtl".toStr = [114, 116, 108] := by decide_lit
theorem lit_auto : "auto".toStr = [97, 117, 116, 111] := by decide_lit
theorem lit_dir : "dir".toStr = [100, 105, 114] := by decide_lit
theorem lit_value : "value".toStr = [118, 97, 108, 117, 101] := by decide_lit
theorem lit_input : "input".toStr = [105, 110, 112, 117, 116] := by decide_lit
theorem lit_textarea : "textarea".toStr = [116, 101, 120, 116, 97, 114, 101, 97] := by decide_lit
theorem lit_bdi : "bdi".toStr = [98, 100, 105] := by decide_lit
theorem lit_tel : "tel".toStr = [116, 101, 108] := by decide_lit
theorem lit_texts : ["text", "search", "tel", "url", "email"].map String.toStr =
    [[116, 101, 120, 116], [115, 101, 97, 114, 99, 104], [116, 101, 108], [117, 114, 108],
      [101, 109, 97, 105, 108]] := by simp only [List.map]; decide_lit

/-- The translator emits the flag values as literals: `32` is `SEL_DIR_LTR`, `64` is `SEL_DIR_RTL`; the code-point
    lists are the names in the `lit_*` lemmas above. -/
theorem eq_ltr (d : Nat) : pyEq (.int 32) (.int d) = .bool (SEL_DIR_LTR == d) := eq_nat 32 d

theorem eq_rtl (d : Nat) : pyEq (.int 64) (.int d) = .bool (SEL_DIR_RTL == d) := eq_nat 64 d

/-- `itype in ('text', 'search', 'tel', 'url', 'email')` -/
theorem inTuple_text (x : Str) :
    pyInTuple (V.str x) [V.str [116, 101, 120, 116], V.str [115, 101, 97, 114, 99, 104], V.str [116, 101, 108],
      V.str [117, 114, 108], V.str [101, 109, 97, 105, 108]] =
      .bool (["text", "search", "tel", "url", "email"].any (fun t => t.toStr == x)) := by
  have h := inTuple_strs x (["text", "search", "tel", "url", "email"].map String.toStr)
  rw [List.any_map] at h
  rw [lit_texts] at h
  exact h

theorem decideWith_ite (p : Prop) [Decidable p] (x y : V) (up : Bool) :
    decideWith (if p then x else y) up = if p then decideWith x up else decideWith y up := by
  split <;> rfl

theorem decideWith_bool (b up : Bool) : decideWith (.bool b) up = b := rfl

theorem decideWith_none (up : Bool) : decideWith .none up = up := rfl

/-- `self.get_attribute_by_name(el, n, dflt)` -/
theorem attr_getD (c : Ctx) (e : Elem) (n dflt : Str) :
    pyAttrByName c e (.str n) (.str dflt) = V.ofNVal ((c.attrByName e n).getD (.str dflt)) := by
  show (match c.attrByName e n with
    | some v => V.ofNVal v
    | none => V.str dflt) = _
  cases c.attrByName e n <;> rfl

theorem StrAttr.getD {c : Ctx} {e : Elem} {n : Str} (h : StrAttr c e n) (dflt : Str) :
    ∃ s, (c.attrByName e n).getD (.str dflt) = .str s := by
  cases h2 : c.attrByName e n with
  | none => exact ⟨dflt, rfl⟩
  | some w =>
    cases w with
    | str s => exact ⟨s, rfl⟩
    | list v => exact absurd h2 (h v)

/-- `DIR_MAP.get(t, None)` -/
theorem dirGet (t : Str) :
    pyDictGet [([108, 116, 114], V.int 32), ([114, 116, 108], V.int 64), ([97, 117, 116, 111], V.int 0)]
      (V.str t) V.none = V.ofOptNat (dirOfAttr t) := by
  unfold dirOfAttr pyDictGet
  rw [lit_ltr, lit_rtl, lit_auto]
  simp only [List.find?, BEq.comm (b := t)]
  cases t == [108, 116, 114]
  · cases t == [114, 116, 108]
    · cases t == [97, 117, 116, 111] <;> rfl
    · rfl
  · rfl

/-- The loop `for c in value: bidi = unicodedata.bidirectional(c); if bidi in ('AL', 'R', 'L'): …; return …`
    finds the first strong character. -/
theorem forChars_firstStrong (c : Ctx) (d : Nat) (after : V) (cs : Str) :
    pyForChars (fun x k => (pyInTuple (pyBidi c x) [V.str [65, 76], V.str [82], V.str [76]]).ite
        (pyEq ((pyEq (pyBidi c x) (V.str [76])).ite (V.int 32) (V.int 64)) (V.int ↑d)) k) after cs =
      match firstStrong c cs with
      | some d' => .bool (d' == d)
      | none => after := by
  induction cs with
  | nil => rfl
  | cons ch rest ih =>
    unfold pyForChars firstStrong
    rw [ih]
    by_cases h1 : (c.bidi ch == 1) = true
    · simp [pyBidi, h1, pyInTuple, pyInList, V.isErr, V.truthy, eq_str, ite_bool, eq_ltr]
    · by_cases h2 : (c.bidi ch == 2) = true
      · simp [pyBidi, h1, h2, pyInTuple, pyInList, V.isErr, V.truthy, eq_str, ite_bool, eq_rtl]
      · simp [pyBidi, h1, h2, pyInTuple, pyInList, V.isErr, V.truthy, eq_str, ite_bool]

/-- `if directionality & LTR and directionality & RTL:` -/
theorem flags_ite (d : Nat) (a b : V) :
    V.ite (pyAnd (pyBitAnd (V.int ↑d) (V.int 32)) (pyBitAnd (V.int ↑d) (V.int 64))) a b =
      if hasFlag d SEL_DIR_LTR && hasFlag d SEL_DIR_RTL then a else b := by
  have h32 : pyBitAnd (V.int ↑d) (V.int 32) = V.int ↑(d &&& 32) := by
    simp [pyBitAnd]
  have h64 : pyBitAnd (V.int ↑d) (V.int 64) = V.int ↑(d &&& 64) := by
    simp [pyBitAnd]
  rw [h32, h64]
  simp only [hasFlag, SEL_DIR_LTR, SEL_DIR_RTL]
  by_cases x : d &&& 32 = 0
  · simp [pyAnd, V.ite, V.truthy, x]
  · by_cases y : d &&& 64 = 0 <;> simp [pyAnd, V.ite, V.truthy, x, y]

/-- One element of the walk.  Once the three attributes are strings, every operation of the translated chain is
    applied to a value of known kind and the chain is a chain of Boolean tests; it is compared with the hand model
    by the three cases of `dir` (absent or invalid, `auto`, `ltr` / `rtl`). -/
theorem matchDirWalk_cons_eq_gen (c : Ctx) (d : Nat) (inherit : Bool) (l : Loc) (parents : List Loc) (e : Elem)
    (he : l.elem? = some e)
    (hflags : (hasFlag d SEL_DIR_LTR && hasFlag d SEL_DIR_RTL) = false)
    (hdir : StrAttr c e "dir".toStr) (htype : StrAttr c e "type".toStr) (hvalue : StrAttr c e "value".toStr) :
    matchDirWalk c d inherit (l :: parents) =
      decideWith (Gen.PySmallFn.match_own_dir c l e (.int d) (.bool inherit)) (matchDirWalk c d true parents) := by
  obtain ⟨ds, hds⟩ := hdir.getD []
  obtain ⟨ty, hty⟩ := htype.getD []
  obtain ⟨vl, hvl⟩ := hvalue.getD []
  unfold Gen.PySmallFn.match_own_dir
  rw [matchDirWalk, flags_ite, hflags]
  simp only [he, lit_dir, SatLeaf.type_toStr, lit_value, lit_input, lit_textarea, lit_bdi, lit_tel, attr_getD] at hds hty hvl ⊢
  simp only [hds, hty, hvl, V.ofNVal, pyCast, pyLower, pyGetTag, pyJoinContentStrings, pyForStr, dirGet,
    pyIsRoot, pyIsHtmlTag, pyFindBidi, pyEl]
  generalize dirOfAttr (lower ds) = dir
  generalize lower ty = lty
  generalize c.tagName e = name
  generalize c.isRoot l = rt
  generalize c.isHtmlTag e = ht
  generalize findBidi c l = fb
  generalize List.flatMap (fun d => d.focus.strVal) (List.filter (fun d => d.focus.isContentString) (c.contents l true)) = tx
  generalize matchDirWalk c d true parents = up
  simp only [eq_str, ite_bool_str]
  simp only [inTuple_text, eq_ltr, eq_optNat, eq_optNat_zero, isNone_node, isNone_optNat, isNotNone_optNat,
    notIn_none_zero, forChars_firstStrong, and_bool, or_bool, not_bool, ite_bool, ite_str, decideWith_ite,
    decideWith_bool, decideWith_none]
  generalize (if (name == [105, 110, 112, 117, 116]) = true then lty else []) = itype
  generalize (name == [116, 101, 120, 116, 97, 114, 101, 97]) = bt
  cases ht
  · cases inherit <;> rfl
  simp only [Bool.not_true, Bool.false_eq_true, if_false]
  cases dir with
  | none =>
    simp only [Option.any_none, Option.isNone_none, Bool.and_true, Bool.false_eq_true, if_false,
      show ((none : Option Nat) == some 0) = false from rfl, Bool.and_false, Bool.or_false]
    cases rt
    · cases fb <;> rfl
    · rfl
  | some n =>
    cases n with
    | zero =>
      simp only [Option.any_some, bne_self_eq_false, Option.isNone_some, Bool.and_false, Bool.false_eq_true, if_false,
        show ((some 0 : Option Nat) == some 0) = true from rfl, Bool.and_true, Bool.or_true, if_true]
      cases bt <;> simp only [Bool.false_eq_true, if_false, if_true]
      · cases firstStrong c vl <;> cases fb <;> rfl
      · cases firstStrong c tx <;> cases fb <;> rfl
    | succ n => 
      have h : (n + 1 != 0) = true := by simp
      simp only [Option.any_some, h, if_true, Option.some_beq_some]

def StrAttrs (c : Ctx) (l : Loc) : Prop :=
  ∀ e, l.elem? = some e → StrAttr c e "dir".toStr ∧ StrAttr c e "type".toStr ∧ StrAttr c e "value".toStr

/-- The loop of `match_dir` (`while True: match = self.match_own_dir(el, directionality, inherit); if match is not
    None: return match; el = self.get_parent(el, no_iframe=True); inherit = True`) run on the TRANSLATED
    `match_own_dir`, over the element and its ancestors. -/
def genDirWalk (c : Ctx) (d : Nat) : Bool → List Loc → Bool
  | _, [] => false
  | inherit, l :: parents =>
    match l.elem? with
    | none => false
    | some e => decideWith (Gen.PySmallFn.match_own_dir c l e (.int d) (.bool inherit)) (genDirWalk c d true parents)

theorem matchDirWalk_eq_gen (c : Ctx) (d : Nat)
    (hflags : (hasFlag d SEL_DIR_LTR && hasFlag d SEL_DIR_RTL) = false) (ls : List Loc) :
    ∀ (inherit : Bool), (∀ l ∈ ls, StrAttrs c l) →
      matchDirWalk c d inherit ls = genDirWalk c d inherit ls := by
  induction ls with
  | nil => intro inherit _; rfl
  | cons l parents ih =>
    intro inherit h
    cases he : l.elem? with
    | none =>
      rw [matchDirWalk]
      simp only [genDirWalk, he]
    | some e =>
      obtain ⟨h1, h2, h3⟩ := h l (by simp) e he
      rw [matchDirWalk_cons_eq_gen c d inherit l parents e he hflags h1 h2 h3,
        ih true (fun x hx => h x (by simp [hx]))]
      simp only [genDirWalk, he]

/-- `:dir()` asked for both directions at once: the translated function answers `False` at once. -/
theorem own_dir_both_flags (c : Ctx) (l : Loc) (e : Elem) (d : Nat) (inherit : V)
    (h : (hasFlag d SEL_DIR_LTR && hasFlag d SEL_DIR_RTL) = true) :
    Gen.PySmallFn.match_own_dir c l e (.int d) inherit = .bool false := by
  unfold Gen.PySmallFn.match_own_dir
  rw [flags_ite, h, if_pos rfl]

/-- `match_dir(el, directionality)` of the hand model (what `dir_partition`, `matchDir_ltr`, … of C17 are about) is
    the loop over the translated `match_own_dir`, for every `directionality`: asked for both directions at once, the
    translated function answers `False` at the first element, as the hand model does before the walk. -/
theorem matchDir_eq_genDirWalk (c : Ctx) (l : Loc) (d : Nat)
    (h : ∀ x ∈ l :: c.ancestors l true, StrAttrs c x) :
    matchDir c l d = genDirWalk c d false (l :: c.ancestors l true) := by
  cases hf : (hasFlag d SEL_DIR_LTR && hasFlag d SEL_DIR_RTL)
  · rw [matchDir, hf]
    exact matchDirWalk_eq_gen c d hf _ false h
  · rw [matchDir, hf, if_pos rfl, genDirWalk]
    cases l.elem? with
    | none => rfl
    | some e => simp only [own_dir_both_flags c l e d _ hf]; rfl

/-- = `matchDir_eq_genDirWalk`; the hypothesis on the flags is not used. -/
theorem matchDir_eq_gen (c : Ctx) (l : Loc) (d : Nat)
    (hflags : (hasFlag d SEL_DIR_LTR && hasFlag d SEL_DIR_RTL) = false)
    (h : ∀ x ∈ l :: c.ancestors l true, StrAttrs c x) :
    matchDir c l d = genDirWalk c d false (l :: c.ancestors l true) :=
  matchDir_eq_genDirWalk c l d h

end C17GenOwnDir
end SoupVerif
