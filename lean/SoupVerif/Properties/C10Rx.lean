/-
  C10 at the level of the regular expressions of the SOURCE.

  `Properties/C10.lean` proves the round trip for the hand-written scanner `Escape.scanIdent` and the
  hand-written decoder `Escape.cssUnescape`.  `Refine/Ident.lean` and `Refine/Unescape.lean` prove, for all
  strings, that these compute exactly what the regex-engine model computes on the token regexes
  `#IDENTIFIER` / `.IDENTIFIER` and on `RE_CSS_ESC` as REGENERATED from `css_parser.py`
  (`Gen.tok_id`, `Gen.tok_class`, `Gen.cp_RE_CSS_ESC`).  Composed here: the C10 statements about the
  regexes the code actually compiles — so an edit of `IDENTIFIER`, `CSS_ESCAPES`, `WS`, `NEWLINE` or
  `RE_CSS_ESC` in the source breaks a proof obligation of this file (first of all the `rfl` shape lemmas of
  the refinement files).
-/
import SoupVerif.Properties.C10
import SoupVerif.Lemmas.StrLit
import SoupVerif.Refine.Ident
import SoupVerif.Refine.Unescape
namespace SoupVerif
namespace C10Rx
open Escape Rx

/-- `'#' + escape(s)` followed by any text that cannot continue an identifier is consumed by the generated
    `id` token regex as exactly one token (Python's IGNORECASE folding). -/
theorem id_token_on_escape (s r : Str) (hs : s ≠ []) (hr : ¬ continuesIdent r) :
    matchAt pyFoldEnv Gen.tok_id (35 :: escape s ++ r) 0 = some (1 + (escape s).length, []) := by
  have h := Refine.Ident.tok_id_matchAt Refine.Ident.identFold_py (35 :: escape s ++ r) 0
  rw [List.drop_zero, C10.escape_scan_id s r hs hr] at h
  rw [h]
  simp [Nat.add_comm]

/-- The same for `'.' + escape(s)` and the generated `class` token regex. -/
theorem class_token_on_escape (s r : Str) (hs : s ≠ []) (hr : ¬ continuesIdent r) :
    matchAt pyFoldEnv Gen.tok_class (46 :: escape s ++ r) 0 = some (1 + (escape s).length, []) := by
  have h := Refine.Ident.tok_class_matchAt Refine.Ident.identFold_py (46 :: escape s ++ r) 0
  rw [List.drop_zero, C10.escape_scan_class s r hs hr] at h
  rw [h]
  simp [Nat.add_comm]

/-- Bare `IDENTIFIER` (as inside `[a=IDENT]`): `escape s` is one identifier for the regex. -/
theorem ident_on_escape (s r : Str) (hs : s ≠ []) (hr : ¬ continuesIdent r) :
    matchAt pyFoldEnv (.seq [Refine.Ident.rxHead, Refine.Ident.rxStar]) (escape s ++ r) 0 =
      some ((escape s).length, []) := by
  have h := Refine.Ident.matchAt_ident Refine.Ident.identFold_py (escape s ++ r) 0
  rw [List.drop_zero, C10.escape_scan s r hs hr] at h
  rw [h]
  simp

/-- `css_unescape` as the parser model runs it — `RE_CSS_ESC.sub(replace, …)` with the engine on the
    regenerated `RE_CSS_ESC` — decodes `escape s` to `s` with NUL replaced by U+FFFD. -/
theorem unescape_escape_rx (s : Str) :
    Parser.cssUnescape pyFoldEnv Gen.lexicon (escape s) false = nulToFFFD s := by
  rw [Refine.cssUnescape_pyFold (escape s) (C10.unescape_never_raises s), C10.unescape_escape]

/-- The round trip in one statement about the generated regexes: the `id` token exists on
    `'#' + escape(s) + r`, ends where `r` begins, and the value the parser computes from the token text
    is `s` with NUL replaced by U+FFFD. -/
theorem id_roundtrip_rx (s r : Str) (hs : s ≠ []) (hr : ¬ continuesIdent r) :
    ∃ e, matchAt pyFoldEnv Gen.tok_id (35 :: escape s ++ r) 0 = some (e, []) ∧
      (35 :: escape s ++ r).drop e = r ∧
      Parser.cssUnescape pyFoldEnv Gen.lexicon (((35 :: escape s ++ r).take e).drop 1) false = nulToFFFD s := by
  refine ⟨1 + (escape s).length, id_token_on_escape s r hs hr, ?_, ?_⟩
  · rw [Nat.add_comm]; simp
  · have : ((35 :: escape s ++ r).take (1 + (escape s).length)).drop 1 = escape s := by
      rw [Nat.add_comm]; simp
    rw [this, unescape_escape_rx]

-- non-vacuity: a concrete instance evaluated in the kernel through the engine
example : matchAt pyFoldEnv Gen.tok_id ("#\\31 a\\.b]".toStr) 0 = some (9, []) := by decide_lit

end C10Rx
end SoupVerif
