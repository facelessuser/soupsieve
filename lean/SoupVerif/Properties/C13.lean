/-
  C13  `:lang(r1, r2, ...)`: RFC 4647 extended filtering.

  Model  : `Lang.filterLoop`, `Lang.filterCore`, `Lang.extendedFilter` (Model/Lang.lean)
  Spec   : `Spec.extFilterAlg` (RFC 4647 §3.3.2 step by step), `Spec.extFilterDecl`
           (declarative, non-greedy), `Spec.extFilterPos` (explicit positions),
           `Spec.c13Match` (RFC + the property's two edge rules)   (Spec/Rfc4647.lean)

  Where the model is NOT the bare RFC algorithm, the theorem statement says so:
    * `filterCore_eq_rfc`: (a) the model answers `false` for range `*` against the empty tag
      text, the RFC algorithm answers `true`; (b) the lone empty range matches only the empty
      tag text, whereas the bare algorithm accepts every tag whose FIRST subtag is empty
      (`rfc_empty_range`).  Both are edge rules of the property, not of the RFC;
    * `filterLoop_empty_subtag` / `rfcLoop_empty_subtag`: an empty range subtag after the
      first never matches in the model; the bare algorithm would match it against an empty tag
      subtag (RFC 4647 has no empty subtags, so this is outside the RFC's domain).
-/
import SoupVerif.Lemmas.Lang
namespace SoupVerif
namespace C13
open Spec LangLemmas

/-- On remaining ranges without `*` and without empty subtags, the model's `while` loop is the
    RFC 4647 §3.3.2 step-3 loop, for every remaining tag. -/
theorem filterLoop_eq_rfc (rs ss : List Str)
    (hstar : ∀ r ∈ rs, r ≠ "*".toStr) (hne : ∀ r ∈ rs, r ≠ []) :
    Lang.filterLoop rs ss = Spec.rfcLoop rs ss := by
  rw [star_toStr] at hstar
  induction rs generalizing ss with
  | nil => rw [filterLoop_nil, rfcLoop_nil]
  | cons r rs ihr =>
    have hs : (r == star) = false := by simpa using hstar r (by simp)
    have he : r.isEmpty = false := by simpa using hne r (by simp)
    induction ss with
    | nil => rw [filterLoop_cons_nil, rfcLoop_cons_nil, hs]; rfl
    | cons s ss ih =>
      rw [filterLoop_cons_cons, rfcLoop_cons_cons, hs, he, ih,
        ihr ss (fun x hx => hstar x (by simp [hx])) (fun x hx => hne x (by simp [hx]))]
      simp [isSingleton]

/-- An empty range subtag reached by the loop makes the model fail, whatever the tag. -/
theorem filterLoop_empty_subtag (rs ss : List Str) : Lang.filterLoop ([] :: rs) ss = false := by
  cases ss with
  | nil => exact filterLoop_cons_nil _ _
  | cons s ss => rw [filterLoop_cons_cons]; rfl

/-- ... whereas the bare RFC loop would match it against an empty tag subtag. -/
theorem rfcLoop_empty_subtag (rs ss : List Str) :
    Spec.rfcLoop ([] :: rs) ([] :: ss) = Spec.rfcLoop rs ss := by
  rw [rfcLoop_cons_cons]; rfl

/-- The model's loop has no `*` case: a `*` range subtag is compared literally. -/
theorem filterLoop_star_literal (rs ss : List Str) :
    Lang.filterLoop ("*".toStr :: rs) ("*".toStr :: ss) = Lang.filterLoop rs ss ∧
    Lang.filterLoop ["*".toStr] ["de".toStr] = false ∧
    Spec.rfcLoop ["*".toStr] ["de".toStr] = true := by
  refine ⟨?_, ?_, by decide⟩
  · rw [filterLoop_cons_cons]; simp [star_toStr, star]
  · rw [filterLoop_cons_cons, filterLoop_cons_nil]; decide

theorem rfc_stripWild (range t : List Str) :
    Spec.extFilterAlg (Spec.stripWild range) t = Spec.extFilterAlg range t := by
  cases range with
  | nil => rfl
  | cons r rs =>
    cases t with
    | nil => rfl
    | cons t ts => simp only [stripWild, extFilterAlg]; rw [← rfcLoop_filter_star]

/-- The RFC algorithm is invariant under deleting the non-initial `*` subtags of the range. -/
theorem rfc_star_skip (r : Str) (rs t : List Str) :
    Spec.extFilterAlg (r :: rs) t =
      Spec.extFilterAlg (r :: rs.filter (· ≠ "*".toStr)) t := by
  have h : rs.filter (· ≠ "*".toStr) = rs.filter (· != star) :=
    List.filter_congr fun x _ => by by_cases hx : x = star <;> simp [star_toStr, bne, hx]
  rw [h]
  exact (rfc_stripWild (r :: rs) t).symm

theorem trailing_wildcard_redundant (rs t : List Str) (hne : rs ≠ []) :
    Spec.extFilterAlg (rs ++ ["*".toStr]) t = Spec.extFilterAlg rs t := by
  cases rs with
  | nil => exact absurd rfl hne
  | cons r rs =>
    cases t with
    | nil => rfl
    | cons t ts =>
      simp only [List.cons_append, extFilterAlg, star_toStr, rfcLoop_append_star]

/-- `extended_language_filter` around its loop, for ALL subtag lists: the lone empty range, the primary subtag, the
    loop, and `*` against the empty tag text. -/
theorem filterCore_eq_loop (r : Str) (rs : List Str) (s : Str) (ss : List Str) :
    Lang.filterCore (r :: rs) (s :: ss) =
      if r :: rs == emptyText then s :: ss == emptyText
      else ((r == star || r == s) && Lang.filterLoop rs ss &&
        !(r :: rs == [star] && s :: ss == emptyText)) := by
  unfold Lang.filterCore
  simp only []
  rw [star_toStr]
  by_cases hstar : r = star
  · subst hstar
    cases rs with
    | nil => cases ss <;> cases s <;> simp [emptyText, star]
    | cons x xs => cases ss <;> simp [emptyText, filterLoop_cons_nil, star]
  · have hstar' : (r == star) = false := by simpa using hstar
    by_cases hre : r = []
    · subst hre
      cases rs with
      | nil => simp [emptyText, Bool.and_comm]
      | cons x xs => cases s <;> simp [emptyText, star]
    · have hre' : r.isEmpty = false := by simpa using hre
      by_cases hrs : r = s
      · subst hrs; simp [hstar', hre', emptyText]
      · simp [hstar, hrs, hre', emptyText]

/-- For a range with no empty subtag and no `*` after its first subtag, the model is the RFC
    algorithm EXCEPT for the property's two edge rules, both visible here:
    the lone empty range matches exactly the empty tag text (the bare algorithm accepts every
    tag whose first subtag is empty, see `rfc_empty_range`), and the range `*` does not match
    the empty tag text (the bare algorithm accepts it, see `rfc_star_matches_empty_text`). -/
theorem filterCore_eq_rfc (r : Str) (rs : List Str) (s : Str) (ss : List Str)
    (hwf : Spec.WellFormedRange (r :: rs)) :
    Lang.filterCore (r :: rs) (s :: ss) =
      if r :: rs == Spec.emptyText then s :: ss == Spec.emptyText
      else (Spec.extFilterAlg (r :: rs) (s :: ss) &&
        !(r :: rs == ["*".toStr] && s :: ss == Spec.emptyText)) := by
  rw [filterCore_eq_loop, star_toStr, extFilterAlg,
    filterLoop_eq_rfc rs ss (fun x hx => star_toStr ▸ (hwf x hx).2) (fun x hx => (hwf x hx).1)]

/-- Deviation (a) is real: the bare algorithm accepts `*` against the empty tag text. -/
theorem rfc_star_matches_empty_text :
    Spec.extFilterAlg ["*".toStr] Spec.emptyText = true ∧
    Lang.filterCore ["*".toStr] Spec.emptyText = false := by
  refine ⟨by decide, ?_⟩
  rw [emptyText, filterCore_eq_rfc _ _ _ _ (by decide)]; decide

/-- Deviation (b) is real: the bare algorithm lets the empty range match every tag whose first
    subtag is empty (for instance the tag text `-foo`). -/
theorem rfc_empty_range (s : Str) (ss : List Str) :
    Spec.extFilterAlg Spec.emptyText (s :: ss) = (s == []) := by
  cases s <;> simp [extFilterAlg, emptyText, rfcLoop_nil, star]

theorem filterCore_nil_right (range : List Str) : Lang.filterCore range [] = false := by
  unfold Lang.filterCore; split <;> simp_all

/-- Model = RFC algorithm + the two edge rules of C13, for well-formed ranges and ALL tags. -/
theorem filterCore_eq_c13 (range tag : List Str) (hr : Spec.WellFormedRange range) :
    Lang.filterCore range tag = Spec.c13Match range tag := by
  cases range with
  | nil => exact absurd hr (by simp [WellFormedRange])
  | cons r rs =>
    unfold c13Match
    rw [stripWild_of_wellFormed _ hr]
    cases tag with
    | nil =>
      rw [filterCore_nil_right]
      simp [extFilterAlg, emptyText]
    | cons s ss =>
      rw [filterCore_eq_rfc r rs s ss hr, star_toStr]
      by_cases he : (r :: rs == emptyText) = true
      · simp [he]
      · simp only [he, Bool.false_eq_true, if_false]
        by_cases hst : (r :: rs == [star]) = true
        · have h := eq_of_beq hst
          simp only [List.cons.injEq] at h
          obtain ⟨rfl, rfl⟩ := h
          simp [extFilterAlg, emptyText, rfcLoop_nil, bne]
        · simp [hst]

/-- Edge rule 1: the empty range matches the empty tag text and nothing else — for EVERY tag
    subtag list, well-formed or not. -/
theorem empty_range_only_empty_tag (t : List Str) :
    Lang.filterCore [[]] t = true ↔ t = [[]] := by
  rw [filterCore_eq_c13 [[]] t (by decide)]
  simp [c13Match, stripWild, emptyText]

/-- Edge rule 2: `*` alone matches exactly the tags whose text is non-empty. -/
theorem star_range_nonempty_tag (s : Str) (ss : List Str) :
    Lang.filterCore [[42]] (s :: ss) = true ↔ ¬ (ss = [] ∧ s = []) := by
  rw [filterCore_eq_c13 [[42]] (s :: ss) (by decide)]
  simp [c13Match, stripWild, emptyText, star, and_comm]

/-- Model ∘ stripWild = RFC algorithm on ARBITRARY ranges (interior `*` allowed; subtags after
    the first non-empty), up to the two edge rules. -/
theorem filterCore_stripWild_eq_rfc (r : Str) (rs : List Str) (s : Str) (ss : List Str)
    (hne : ∀ x ∈ rs, x ≠ []) :
    Lang.filterCore (Spec.stripWild (r :: rs)) (s :: ss) =
      if Spec.stripWild (r :: rs) == Spec.emptyText then s :: ss == Spec.emptyText
      else (Spec.extFilterAlg (r :: rs) (s :: ss) &&
        !(Spec.stripWild (r :: rs) == ["*".toStr] && s :: ss == Spec.emptyText)) := by
  rw [← rfc_stripWild (r :: rs)]
  exact filterCore_eq_rfc r _ s ss (stripWild_wellFormed r rs hne)

theorem c13Match_stripWild (range tag : List Str) :
    c13Match (stripWild range) tag = c13Match range tag := by
  unfold c13Match
  rw [stripWild_idem, rfc_stripWild]

theorem filterCore_stripWild_eq_c13 (range tag : List Str)
    (hne : range ≠ []) (htl : ∀ x ∈ range.tail, x ≠ []) :
    Lang.filterCore (Spec.stripWild range) tag = Spec.c13Match range tag := by
  cases range with
  | nil => exact absurd rfl hne
  | cons r rs =>
    rw [← c13Match_stripWild]
    exact filterCore_eq_c13 _ _ (stripWild_wellFormed r rs htl)

/-- End to end, for any `wildStrip` whose effect on this range text is `stripWild` on its
    subtags: `extended_language_filter` is C13 matching on the lower-cased subtag lists. -/
theorem extendedFilter_eq_c13 (w : Str → Str) (range tag : Str)
    (hw : splitOn 45 (w range) = Spec.stripWild (splitOn 45 range))
    (hne : ∀ x ∈ (splitOn 45 range).tail, x ≠ []) :
    Lang.extendedFilter w range tag =
      Spec.c13Match ((splitOn 45 range).map lower) ((splitOn 45 tag).map lower) := by
  unfold Lang.extendedFilter
  rw [splitOn_lower, splitOn_lower, hw, ← stripWild_map_lower]
  apply filterCore_stripWild_eq_c13
  · simpa using splitOn_ne_nil 45 range
  · intro x hx
    rw [← List.map_tail, List.mem_map] at hx
    obtain ⟨y, hy, rfl⟩ := hx
    exact fun h => hne y hy ((lower_eq_nil y).1 h)

/-- The greedy RFC algorithm succeeds iff SOME admissible assignment of range subtags to tag
    positions exists (soundness and completeness), for all ranges and tags. -/
theorem rfc_alg_eq_decl (rs ts : List Str) :
    Spec.extFilterAlg rs ts = true ↔ Spec.extFilterDecl rs ts := by
  rw [← rfc_stripWild]
  unfold extFilterDecl
  cases h : stripWild rs with
  | nil => simp [extFilterAlg]
  | cons r rs' =>
    cases ts with
    | nil => simp [extFilterAlg]
    | cons t ts => simp [extFilterAlg, rfcLoop_iff_embeds rs' ts (stripWild_tail_no_star h)]

theorem embeds_eq_positions (rs ts : List Str) :
    Spec.Embeds rs ts ↔ ∃ ps, Spec.EmbedsAt rs ts ps :=
  ⟨embedsAt_of_embeds, fun ⟨ps, h⟩ => embeds_of_embedsAt rs ts ps h⟩

/-- The inductive characterisation is the one with explicit skip counts / positions. -/
theorem rfc_decl_eq_pos (rs ts : List Str) :
    Spec.extFilterDecl rs ts ↔ Spec.extFilterPos rs ts := by
  unfold extFilterDecl extFilterPos
  split
  · rw [embeds_eq_positions]
  · exact Iff.rfl

/-- `Embeds.cons_same` with its converse `Embeds.here`: `r :: rs` embeds into `r :: ts` iff `rs` embeds
    into `ts`. -/
theorem greedy_exchange (r : Str) (rs ts : List Str) :
    Spec.Embeds (r :: rs) (r :: ts) ↔ Spec.Embeds rs ts :=
  ⟨Embeds.cons_same, Embeds.here r rs ts⟩

/-- `extended_language_filter` compares after lower-casing both sides. -/
theorem extendedFilter_lowered (w : Str → Str) (range tag : Str) :
    Lang.extendedFilter w range tag =
      Lang.filterCore ((splitOn 45 (w range)).map lower) ((splitOn 45 tag).map lower) := by
  unfold Lang.extendedFilter; rw [splitOn_lower, splitOn_lower]

/-- Changing the ASCII case of range or tag does not change the result, provided the wildcard
    strip is itself case-blind up to `lower` (hypothesis `hw`). -/
theorem filter_case_insensitive (w : Str → Str)
    (hw : ∀ s, lower (w s) = lower (w (lower s)))
    (r r' t t' : Str) (hr : lower r = lower r') (ht : lower t = lower t') :
    Lang.extendedFilter w r t = Lang.extendedFilter w r' t' := by
  unfold Lang.extendedFilter
  rw [hw r, hr, ← hw r', ht]

theorem filter_lower_invariant (w : Str → Str)
    (hw : ∀ s, lower (w s) = lower (w (lower s))) (r t : Str) :
    Lang.extendedFilter w (lower r) (lower t) = Lang.extendedFilter w r t :=
  filter_case_insensitive w hw _ _ _ _ (lower_idem r) (lower_idem t)

/-- `hw` holds for every strip that commutes with `lower` (as one that only looks at `-` and
    `*` does). -/
theorem hw_of_commutes (w : Str → Str) (h : ∀ s, w (lower s) = lower (w s)) :
    ∀ s, lower (w s) = lower (w (lower s)) := by
  intro s; rw [h, lower_idem]

/-- Case-insensitivity from the subtag-level behaviour of the strip alone: any `w` that acts as
    `stripWild` on subtags gives a case-insensitive filter. -/
theorem filter_case_insensitive_of_strip (w : Str → Str)
    (hw : ∀ s, splitOn 45 (w s) = Spec.stripWild (splitOn 45 s))
    (r r' t t' : Str) (hr : lower r = lower r') (ht : lower t = lower t') :
    Lang.extendedFilter w r t = Lang.extendedFilter w r' t' := by
  have key : ∀ a b, Lang.extendedFilter w a b =
      Lang.filterCore (Spec.stripWild (splitOn 45 (lower a))) (splitOn 45 (lower b)) := by
    intro a b
    rw [extendedFilter_lowered, hw, ← stripWild_map_lower, ← splitOn_lower, ← splitOn_lower]
  rw [key, key, hr, ht]

/-- The hand-written text-level reading of `RE_WILD_STRIP.sub('-', RE_WILD_TAIL.sub('', s))`
    (`\Z` = end of text) is `stripWild` on the subtags, for every text `s`. -/
theorem wildStripText_subtags (s : Str) :
    splitOn 45 (wildStripText s) = Spec.stripWild (splitOn 45 s) := by
  obtain ⟨p, ps, hp⟩ := splitOn_exists s
  have h2 := collapse_spec false (tailStrip s)
  simp only [splitOn_tailStrip hp, cond_false, List.tail_cons, stripWild] at h2
  rw [wildStripText, h2 (getLast_dropTrailingStars ps), hp, stripWild, filter_dropTrailingStars]

/-- End to end with the text-level strip: every range text whose subtags after the first are
    non-empty, every tag text. -/
theorem extendedFilter_wildStripText_eq_c13 (range tag : Str)
    (hne : ∀ x ∈ (splitOn 45 range).tail, x ≠ []) :
    Lang.extendedFilter wildStripText range tag =
      Spec.c13Match ((splitOn 45 range).map lower) ((splitOn 45 tag).map lower) :=
  extendedFilter_eq_c13 wildStripText range tag (wildStripText_subtags range) hne

theorem wildStripText_case_insensitive (r r' t t' : Str)
    (hr : lower r = lower r') (ht : lower t = lower t') :
    Lang.extendedFilter wildStripText r t = Lang.extendedFilter wildStripText r' t' :=
  filter_case_insensitive_of_strip wildStripText wildStripText_subtags r r' t t' hr ht

section Examples
private def S (l : List String) : List Str := l.map String.toStr

example : extFilterAlg (S ["de", "*", "de"]) (S ["de", "latn", "de"]) = true := by decide +kernel
example : extFilterAlg (S ["de", "*", "de"]) (S ["de", "x", "de"]) = false := by decide +kernel
-- an implicit wildcard skips the non-singleton `deva` ...
example : extFilterAlg (S ["de", "de"]) (S ["de", "deva", "de"]) = true := by decide +kernel
-- ... but not the singleton `x`
example : extFilterAlg (S ["de", "de"]) (S ["de", "x", "de"]) = false := by decide +kernel
example : extFilterAlg (S ["*", "de"]) (S ["fr", "de"]) = true := by decide +kernel
example : extFilterAlg (S ["*", "de"]) (S ["x", "a", "de"]) = false := by decide +kernel
example : extFilterAlg (S ["*", "de"]) (S ["de"]) = false := by decide +kernel
example : extFilterAlg (S ["de", "*"]) (S ["de"]) = true := by decide +kernel
example : extFilterAlg (S ["de", "de", "ch"]) (S ["de", "de", "latn", "de", "ch"]) = true := by
  decide +kernel
-- bare RFC vs the property's edge rules
example : extFilterAlg (S ["*"]) (S [""]) = true := by decide +kernel
example : c13Match (S ["*"]) (S [""]) = false := by decide +kernel
example : c13Match (S ["*"]) (S ["de"]) = true := by decide +kernel
example : c13Match (S [""]) (S [""]) = true := by decide +kernel
example : c13Match (S [""]) (S ["de"]) = false := by decide +kernel
example : c13Match (S ["de", "*", "de"]) (S ["de", "latn", "de"]) = true := by decide +kernel
-- declarative and positional forms are inhabited / refuted on the same inputs
example : extFilterDecl (S ["de", "*", "de"]) (S ["de", "latn", "de"]) := by decide +kernel
example : ¬ extFilterDecl (S ["de", "*", "de"]) (S ["de", "x", "de"]) := by decide +kernel
example : extFilterPos (S ["de", "*", "de"]) (S ["de", "latn", "de"]) :=
  ⟨Or.inr rfl, [1], by decide⟩
-- a non-greedy embedding exists where greedy takes another one
example : Embeds (S ["de", "ch"]) (S ["de", "latn", "de", "ch"]) := by decide +kernel
-- hypotheses are satisfiable
example : WellFormedRange (S ["de", "latn", "de"]) := by decide +kernel
example : WellFormedRange (S ["*", "de"]) := by decide +kernel
example : ¬ WellFormedRange (S ["de", "*", "de"]) := by decide +kernel
-- the model (through the theorems; `filterLoop` is by well-founded recursion)
example : Lang.filterCore (stripWild (S ["de", "*", "de"])) (S ["de", "latn", "de"]) = true := by
  simp only [S, List.map_cons, List.map_nil]
  rw [filterCore_stripWild_eq_rfc _ _ _ _ (by decide)]; decide +kernel
example : Lang.filterCore (stripWild (S ["de", "*", "de"])) (S ["de", "x", "de"]) = false := by
  simp only [S, List.map_cons, List.map_nil]
  rw [filterCore_stripWild_eq_rfc _ _ _ _ (by decide)]; decide +kernel
example : Lang.filterCore (S ["*"]) (S [""]) = false := by
  simp only [S, List.map_cons, List.map_nil]
  rw [filterCore_eq_rfc _ _ _ _ (by decide)]; decide +kernel
example : Lang.filterCore (S [""]) (S [""]) = true := (empty_range_only_empty_tag _).2 rfl
-- the empty range does not match the (ill-formed) tag text `-foo`; the bare algorithm does
example : Lang.filterCore (S [""]) (S ["", "foo"]) = false := by
  rw [← Bool.not_eq_true]
  exact fun h => absurd ((empty_range_only_empty_tag _).1 h) (by decide)
example : extFilterAlg (S [""]) (S ["", "foo"]) = true := by decide +kernel
-- an empty interior range subtag: model `false`, bare algorithm `true`
example : extFilterAlg (S ["a", "", "b"]) (S ["a", "", "b"]) = true := by decide +kernel
example : Lang.filterCore (S ["a", "", "b"]) (S ["a", "", "b"]) = false := by
  simp [S, Lang.filterCore, String.toStr, filterLoop_cons_cons]
-- case-insensitivity hypothesis is satisfiable
example : ∀ s, lower (id s) = lower (id (lower s)) := fun s => (lower_idem s).symm
-- the text-level strip against the regex model (same expression as the driver's `wildStripImpl`)
example : wildStripRx "de-*-*-DE-*-*".toStr = "de-DE".toStr := by decide_lit
example : wildStripText "de-*-*-DE-*-*".toStr = "de-DE".toStr := by decide_lit
example : wildStripRx "*-*-de".toStr = "*-de".toStr := by decide_lit
example : wildStripRx "*-*".toStr = "*".toStr := by decide_lit
-- the regexes anchor with `\Z`, not `$` (which also matches before a final newline: on `de-*\n` the
-- substitutions would not act as `stripWild`; fix 0989ccc)
example : wildStripRx ("de-*".toStr ++ [10]) = "de-*".toStr ++ [10] := by decide_lit
example : splitOn 45 (wildStripRx ("de-*".toStr ++ [10])) =
    stripWild (splitOn 45 ("de-*".toStr ++ [10])) := by decide_lit
example : wildStripText ("de-*".toStr ++ [10]) = "de-*".toStr ++ [10] := by decide_lit
example : Lang.extendedFilter wildStripText "de-*-DE".toStr "de-Latn-DE".toStr = true := by
  rw [extendedFilter_wildStripText_eq_c13 _ _ (by decide_lit)]; decide_lit
example : Lang.extendedFilter wildStripText "DE-*-de".toStr "de-x-DE".toStr = false := by
  rw [extendedFilter_wildStripText_eq_c13 _ _ (by decide_lit)]; decide_lit
example : Lang.extendedFilter wildStripText "de-DE".toStr "de-Deva-DE".toStr = true := by
  rw [extendedFilter_wildStripText_eq_c13 _ _ (by decide_lit)]; decide_lit
example : Lang.extendedFilter wildStripText "*".toStr "".toStr = false := by
  rw [extendedFilter_wildStripText_eq_c13 _ _ (by decide_lit)]; decide_lit
example : Lang.extendedFilter wildStripText "*-*".toStr "fr".toStr = true := by
  rw [extendedFilter_wildStripText_eq_c13 _ _ (by decide_lit)]; decide_lit
example : Lang.extendedFilter wildStripText "".toStr "".toStr = true := by
  rw [extendedFilter_wildStripText_eq_c13 _ _ (by decide_lit)]; decide_lit
example : Lang.extendedFilter wildStripText "".toStr "-foo".toStr = false := by
  rw [extendedFilter_wildStripText_eq_c13 _ _ (by decide_lit)]; decide_lit
end Examples

end C13
end SoupVerif
