/-
  C03 — the query entry points TRANSLATED FROM THE SOURCE (`Generated/PyApi.lean`, rebuilt by gen/gen_py_api.py
  from the text of `CSSMatch.select / match / closest / filter` and `SoupSieve.select_one / select / iselect /
  filter` on every run) are the hand model of `Model/Api.lean`, for all arguments.

  The generated functions are polymorphic in the node type and take the callees (`self.match`, `self.get_parent`,
  the values of `self.get_tag_descendants(self.tag)` …) as parameters; the theorems first characterise them for
  ALL lists / predicates / parent functions, then instantiate the parameters with the model's tree.
-/
import SoupVerif.Generated.PyApi
import SoupVerif.Properties.C03
import SoupVerif.Properties.C01GenMatch
import SoupVerif.Lemmas.PyLoops
namespace SoupVerif.C03Gen
open SoupVerif SoupVerif.PyApiLoop

/-! ### `CSSMatch.select(limit)` -/
section select
variable {α : Type} (m : α → Bool)

/-- Counter `None`: the loop yields every matching item. -/
theorem forYield_none (ds : List α) :
    forYield (Gen.PyApi.selectStep m) none ds = ds.filter m := by
  induction ds with
  | nil => rfl
  | cons x xs ih =>
    cases h : m x <;> simp [forYield, Gen.PyApi.selectStep, h, ih]

/-- Counter `v ≥ 1`: the loop yields the first `v` matching items and stops. -/
theorem forYield_some (ds : List α) : ∀ (v : Int), 1 ≤ v →
    forYield (Gen.PyApi.selectStep m) (some v) ds = (ds.filter m).take v.toNat := by
  induction ds with
  | nil => intro v _; simp [forYield]
  | cons x xs ih =>
    intro v hv
    cases h : m x
    · simp [forYield, Gen.PyApi.selectStep, h, ih v hv]
    · by_cases h1 : v - 1 < 1
      · have : v = 1 := by omega
        subst this
        simp [forYield, Gen.PyApi.selectStep, h]
      · have h2 : v.toNat = (v - 1).toNat + 1 := by omega
        rw [h2]
        simp [forYield, Gen.PyApi.selectStep, h, h1, ih (v - 1) (by omega)]

/-- **The regenerated `select`, for every list of descendants, every match predicate and every `limit`.** -/
theorem gen_select_eq (limit : Int) (ds : List α) :
    Gen.PyApi.select limit ds m = if limit < 1 then ds.filter m else (ds.filter m).take limit.toNat := by
  unfold Gen.PyApi.select Gen.PyApi.selectInit
  by_cases h : limit < 1
  · simp [h, forYield_none]
  · simp [h, forYield_some m ds limit (by omega)]

/-- `limit <= 0` yields all matching descendants, in order. -/
theorem gen_select_all (limit : Int) (h : limit < 1) (ds : List α) :
    Gen.PyApi.select limit ds m = ds.filter m := by simp [gen_select_eq, h]

/-- `limit = k > 0` yields the first `k` of them. -/
theorem gen_select_limit (k : Int) (h : 0 < k) (ds : List α) :
    Gen.PyApi.select k ds m = (ds.filter m).take k.toNat := by
  have : ¬ k < 1 := by omega
  simp [gen_select_eq, this]

end select

/-- The regenerated `select` on the model's tree is the hand model's `selectIn`. -/
theorem gen_select_eq_selectIn (c : Ctx) (sel : SelList) (tag : Loc) (limit : Int) :
    Gen.PyApi.select limit (c.tagDescendants tag false) (matchEl c sel) = selectIn c sel tag limit := by
  rw [gen_select_eq]; rfl

/-- The loop iterates `self.get_tag_descendants(self.tag)` (the frame the translator checks, as a fact about the
    generated term). -/
theorem gen_select_iter : Gen.PyApi.selectIter = "self.get_tag_descendants(self.tag)" := rfl

/-! ### `CSSMatch.match(el)` -/

/-- `self.match_selectors(el, self.selectors)` in the model: only elements carry a selector verdict. -/
def matchSelectorsAt (c : Ctx) (sel : SelList) (l : Loc) : Bool :=
  match l.focus with
  | .elem e _ => matchList c l e sel
  | _ => false

/-- The regenerated guard `not is_doc(el) and is_tag(el) and match_selectors(el, self.selectors)` is `matchEl`. -/
theorem gen_matchEl_eq (c : Ctx) (sel : SelList) (l : Loc) :
    Gen.PyApi.matchEl Loc.isDoc Loc.isTag (matchSelectorsAt c sel) l = matchEl c sel l := by
  unfold Gen.PyApi.matchEl matchEl matchSelectorsAt Loc.isDoc Loc.isTag
  cases l.focus <;> simp [Node.isTag]

/-- The guards, in source order. -/
theorem gen_match_conjuncts :
    Gen.PyApi.matchConjuncts =
      [(false, "self.is_doc", ["el"]), (true, "self.is_tag", ["el"]),
       (true, "self.match_selectors", ["el", "self.selectors"])] := rfl

/-- Both layers regenerated: the guard of `match` from `Generated/PyApi.lean` around the `match_selectors` of
    `Generated/PyMatchSel.lean` (`C01GenMatch.genMatchList`). -/
def genMatch (c : Ctx) (sel : SelList) (x : Loc) : Option Bool :=
  match x.focus with
  | .elem e _ => (C01GenMatch.genMatchList c x e sel).map fun r => Gen.PyApi.matchEl Loc.isDoc Loc.isTag (fun _ => r) x
  | _ => some (Gen.PyApi.matchEl Loc.isDoc Loc.isTag (fun _ => false) x)

theorem genMatch_eq (c : Ctx) (sel : SelList) (x : Loc) : genMatch c sel x = some (matchEl c sel x) := by
  unfold genMatch matchEl Gen.PyApi.matchEl Loc.isDoc Loc.isTag
  cases h : x.focus with
  | elem e kids => simp [C01GenMatch.genMatchList_eq, Node.isTag]
  | str k s => simp [Node.isTag]

/-- The regenerated `match` refuses the document object. -/
theorem gen_match_refuses_doc (c : Ctx) (sel : SelList) (x : Loc) (h : x.isDoc = true) :
    Gen.PyApi.matchEl Loc.isDoc Loc.isTag (matchSelectorsAt c sel) x = false := by
  rw [gen_matchEl_eq, C01.match_refuses_doc c sel x h]

/-! ### `CSSMatch.closest()` -/
section closest
variable {α : Type}

/-- `anc` is the chain of `x`'s ancestors under `parent`, nearest first, ending where `parent` is `None`. -/
inductive IsChain (parent : α → Option α) : α → List α → Prop
  | last (x : α) : parent x = none → IsChain parent x []
  | step (x p : α) (rest : List α) : parent x = some p → IsChain parent p rest → IsChain parent x (p :: rest)

theorem closest_loop (parent : α → Option α) (m : α → Bool) {x : α} {anc : List α} (h : IsChain parent x anc) :
    ∀ fuel, anc.length + 1 ≤ fuel →
      (whileOpt Gen.PyApi.closestCond (Gen.PyApi.closestBody parent m) fuel ⟨some x, none⟩).map Gen.PyApi.closestRet
        = some ((x :: anc).find? m) := by
  induction h with
  | last x hp =>
    intro fuel hf
    obtain ⟨f, rfl⟩ : ∃ f, fuel = f + 1 := ⟨fuel - 1, by omega⟩
    cases hm : m x <;>
      simp [whileOpt, Gen.PyApi.closestCond, Gen.PyApi.closestBody, hm, hp, whileOpt_done, Gen.PyApi.closestRet]
  | step x p rest hp _ ih =>
    intro fuel hf
    obtain ⟨f, rfl⟩ : ∃ f, fuel = f + 1 := ⟨fuel - 1, by omega⟩
    cases hm : m x
    · have := ih f (by simp at hf ⊢; omega)
      simp [whileOpt, Gen.PyApi.closestCond, Gen.PyApi.closestBody, hm, hp, this]
    · simp [whileOpt, Gen.PyApi.closestCond, Gen.PyApi.closestBody, hm, whileOpt_done, Gen.PyApi.closestRet]

/-- **The regenerated `closest`, for every parent function with a finite chain and every match predicate**: the
    first matching item of `tag :: ancestors`, with a verdict (`some`) as soon as the fuel covers the chain. -/
theorem gen_closest_eq (parent : α → Option α) (m : α → Bool) (tag : α) (anc : List α)
    (h : IsChain parent tag anc) (fuel : Nat) (hf : anc.length + 1 ≤ fuel) :
    Gen.PyApi.closest parent m tag fuel = some ((tag :: anc).find? m) := by
  unfold Gen.PyApi.closest Gen.PyApi.closestInit
  exact closest_loop parent m h fuel hf

end closest

theorem isChain_aux (n : Node) (up : List Frame) : IsChain Loc.parent? ⟨n, up⟩ (Loc.ancestorsAux n up) := by
  induction up generalizing n with
  | nil => exact .last _ rfl
  | cons f rest ih => exact .step _ _ _ rfl (ih _)

theorem isChain_ancestors (l : Loc) : IsChain Loc.parent? l l.ancestors := isChain_aux l.focus l.up

/-- The regenerated `closest` on the model's tree is the hand model's `closest`. -/
theorem gen_closest_eq_model (E : Env) (x : Bool) (ns : List (Str × Str)) (sel : SelList) (tag : Loc)
    (fuel : Nat) (hf : tag.ancestors.length + 1 ≤ fuel) :
    Gen.PyApi.closest Loc.parent? (matchEl (mkCtx E x ns tag) sel) tag fuel = some (closest E x ns sel tag) := by
  rw [gen_closest_eq _ _ _ _ (isChain_ancestors tag) fuel hf]; rfl

/-- `C03.closest_spec` about the regenerated function, at the fuel the chain needs. -/
theorem gen_closest_spec (E : Env) (x : Bool) (ns : List (Str × Str)) (sel : SelList) (tag : Loc) :
    Gen.PyApi.closest Loc.parent? (matchEl (mkCtx E x ns tag) sel) tag (tag.ancestors.length + 1)
      = some ((tag :: tag.ancestors).find? (matchEl (mkCtx E x ns tag) sel)) :=
  gen_closest_eq _ _ _ _ (isChain_ancestors tag) _ (Nat.le_refl _)

/-! ### `CSSMatch.filter()` -/

theorem gen_filter_eq {α : Type} (isTag m : α → Bool) (contents : List α) :
    Gen.PyApi.filter isTag m contents = (contents.filter isTag).filter m := by
  simp [Gen.PyApi.filter, List.filter_filter, Bool.and_comm]

/-- The regenerated `filter` on the model's tree is the hand model's `filterTag`. -/
theorem gen_filter_eq_filterTag (E : Env) (x : Bool) (ns : List (Str × Str)) (sel : SelList) (tag : Loc) :
    Gen.PyApi.filter Loc.isTag (matchEl (mkCtx E x ns tag) sel) tag.children = filterTag E x ns sel tag := by
  rw [gen_filter_eq]; rfl

/-! ### the `SoupSieve` methods -/
section sieve
variable {α : Type}

/-- `select_one` = `tags[0] if tags else None` never raises and is the head of `select(tag, limit=1)`. -/
theorem gen_selectOne_eq (select : Int → List α) : Gen.PyApi.selectOne select = some (select 1).head? := by
  unfold Gen.PyApi.selectOne
  cases h : select 1 <;> simp [truthy, getItem]

/-- `select` is `iselect` as lists. -/
theorem gen_sieveSelect_eq (iselect : Int → List α) (limit : Int) :
    Gen.PyApi.sieveSelect iselect limit = iselect limit := rfl

/-- `iselect(tag, limit)` is `CSSMatch(…).select(limit)`. -/
theorem gen_sieveIselect_eq (cssSelect : Int → List α) (limit : Int) :
    Gen.PyApi.sieveIselect cssSelect limit = cssSelect limit := rfl

/-- The three layers composed (`SoupSieve.select` → `iselect` → `CSSMatch.select`). -/
def genSieveSelect (ds : List α) (m : α → Bool) (limit : Int) : List α :=
  Gen.PyApi.sieveSelect (Gen.PyApi.sieveIselect fun k => Gen.PyApi.select k ds m) limit

/-- **`select_one` is the head of the UNLIMITED `select`, or `None`** — for all lists and predicates. -/
theorem gen_selectOne_head (ds : List α) (m : α → Bool) :
    Gen.PyApi.selectOne (genSieveSelect ds m) = some (genSieveSelect ds m 0).head? := by
  rw [gen_selectOne_eq]
  simp only [genSieveSelect, gen_sieveSelect_eq, gen_sieveIselect_eq, gen_select_eq]
  cases ds.filter m <;> simp

theorem gen_sieveFilter_tag (cf : List α) (nav m : α → Bool) (items : List α) :
    Gen.PyApi.sieveFilter true cf nav m items = cf := rfl

theorem gen_sieveFilter_iter (cf : List α) (nav m : α → Bool) (items : List α) :
    Gen.PyApi.sieveFilter false cf nav m items = items.filter fun n => !nav n && m n := by
  simp [Gen.PyApi.sieveFilter]

end sieve

/-- The composed regenerated `select` on the model's tree is the hand model's `select`. -/
theorem gen_sieveSelect_eq_model (E : Env) (x : Bool) (ns : List (Str × Str)) (sel : SelList) (tag : Loc) (limit : Int) :
    genSieveSelect ((mkCtx E x ns tag).tagDescendants tag false) (matchEl (mkCtx E x ns tag) sel) limit
      = select E x ns sel tag limit := by
  unfold genSieveSelect
  rw [gen_sieveSelect_eq, gen_sieveIselect_eq, gen_select_eq_selectIn]; rfl

/-- The regenerated `select_one` on the model's tree is the hand model's `selectOne`. -/
theorem gen_selectOne_eq_model (E : Env) (x : Bool) (ns : List (Str × Str)) (sel : SelList) (tag : Loc) :
    Gen.PyApi.selectOne (genSieveSelect ((mkCtx E x ns tag).tagDescendants tag false) (matchEl (mkCtx E x ns tag) sel))
      = some (selectOne E x ns sel tag) := by
  rw [gen_selectOne_eq, gen_sieveSelect_eq_model]; rfl

/-- The regenerated `SoupSieve.filter` is the hand model's `filterTag` / `filterIter`. -/
theorem gen_sieveFilter_eq_model (E : Env) (x : Bool) (ns : List (Str × Str)) (sel : SelList) (tag : Loc) (items : List Loc) :
    Gen.PyApi.sieveFilter true (Gen.PyApi.filter Loc.isTag (matchEl (mkCtx E x ns tag) sel) tag.children)
        (fun n => !n.isTag) (matchTagApi E x ns sel) items = filterTag E x ns sel tag ∧
    Gen.PyApi.sieveFilter false (Gen.PyApi.filter Loc.isTag (matchEl (mkCtx E x ns tag) sel) tag.children)
        (fun n => !n.isTag) (matchTagApi E x ns sel) items = filterIter E x ns sel items := by
  refine ⟨by rw [gen_sieveFilter_tag, gen_filter_eq_filterTag], ?_⟩
  rw [gen_sieveFilter_iter]; simp [filterIter]

end SoupVerif.C03Gen
