/-
  C17, tied to the PARSER by proof: the HTML state pseudo-classes from the selector TEXT.

  `Properties/C17.lean` proves the partition and definition laws of C17 about the matcher model run on the
  built-in selector lists `Gen.CSS_ENABLED`, `Gen.CSS_DISABLED`, … regenerated from `css_parser.py` — at IR
  level: `matchList c l e Gen.CSS_X`.  `Properties/C09Compile.lean` proves `compile_eq_denote`: the parser model on
  the text of any spelling of a selector list returns `denote B` of its token values.  Composed, the two say that
  the pattern text `:enabled` (in whatever spelling) makes the parser hand exactly that list to the matcher.

  Per keyword `K` and any spelling `t` of `:K` (`SpellsPseudo`): the parser returns one compound `*` whose only
  nested list is the regenerated `Gen.CSS_X` (`compile_state_text`), the matcher on it is the subject guard and
  `matchList c l e Gen.CSS_X` (`state_text`), and each law or definition of `Properties/C17.lean` holds of the
  verdicts on the text (`pair_text`, `state_text_eq` and their instances); in a document that is XML but not XHTML
  all fourteen answer `false` (`state_text_xml`).  `SpellsDir`, `dir_text`, `dir_partition_text` do the same for
  `:dir(ltr)` / `:dir(rtl)`.

  Hypotheses, all explicit: `SpellsPseudo` (above); `l.focus = .elem e kids` (the location holds an element);
  for the laws `c.isHtml = true`, as in `Properties/C17.lean`.

  WHAT THE TEXT LEVEL ADDS TO THE IR-LEVEL STATEMENTS (confirmed on the real library):
  the parser gives the top-level compound the type selector `*` WITHOUT a namespace prefix, which the matcher
  subjects to the caller's DEFAULT namespace (`namespaces={'': uri}`): `inDefaultNs c e`.  So
  "`:enabled` ∪ `:disabled` = the form controls" holds on the text only among the elements in the default
  namespace (all elements when the map has no `''` entry: `inDefaultNs_of_no_default`).  With
  `namespaces={'': 'urn:other'}` both `:enabled` and `:disabled` select nothing in an HTML document.
  `CSSMatch.match` also refuses the `BeautifulSoup` object itself (`e.isDoc`).
-/
import SoupVerif.Refine.C17ParseBase
import SoupVerif.Properties.C17
import SoupVerif.Properties.C11
import SoupVerif.Refine.MatchText
import SoupVerif.Lemmas.StrLit
namespace SoupVerif
namespace C17Parse
open SoupVerif.Parser Spelling Escape Refine.Compile StateLaws
open C09Compile (Forms identOK)
open C12Parse (matchText matchTextApi matchText_ok)
open Refine.C17Parse

/-- `t` spells the pattern `:name` (`name` lower case, without the colon): a colon and an identifier in any
    admissible spelling whose value lower-cases to `name`, between two gaps; no NUL. -/
def SpellsPseudo (name : Str) (t : Str) : Prop :=
  ∃ (f : Forms) (g₁ g₂ : Str),
    t = g₁ ++ 58 :: renderIdentWith f ++ g₂ ∧ isGap g₁ ∧ isGap g₂ ∧ identOK f g₂ ∧
      lower (valueOf f) = name ∧ ∀ x ∈ t, x ≠ 0

/-- The identifier written with literal characters only. -/
def lits (s : Str) : Forms := s.map fun c => (c, EscForm.lit)

theorem lits_value (s : Str) : valueOf (lits s) = s := by
  induction s with
  | nil => rfl
  | cons c cs ih => simp [lits, valueOf] at ih ⊢; exact ih

local instance (f : Forms) (r : Str) : Decidable (identOK f r) := by unfold identOK; infer_instance

/-- The keyword written plainly, `:enabled`, is a spelling. -/
theorem spells_literal (K : StateKw) : SpellsPseudo K.name (58 :: K.name) := by
  refine ⟨lits K.name, [], [], ?_⟩
  cases K <;> simp only [StateKw.name] <;> decide_lit

/-- … also when the text is given as one literal, `":enabled".toStr`. -/
theorem spells_text (K : StateKw) (s : String) (h : s.toStr = 58 :: K.name := by decide_lit) :
    SpellsPseudo K.name s.toStr :=
  h ▸ spells_literal K

/-- The parser on any spelling of a state keyword, for an arbitrary table of built-in lists. -/
theorem compile_state_text_gen (B : Builtins) (K : StateKw) (t : Str) (h : SpellsPseudo K.name t) :
    Parser.compile pyFoldEnv Gen.lexicon B t [] 0 = .ok (oneSub (K.pick B)) := by
  obtain ⟨f, g₁, g₂, rfl, hg₁, hg₂, hf, hK, h0⟩ := h
  exact compile_state B K f g₁ g₂ hg₁ hg₂ hf hK h0

/-- For each of the fourteen state keywords `K` of C17, in ANY spelling: the parser
    model (regenerated lexicon, the built-in lists the driver uses) returns the one-compound selector list
    whose only content is the regenerated list `Gen.CSS_X`. -/
theorem compile_state_text (K : StateKw) (t : Str) (h : SpellsPseudo K.name t) :
    Parser.compile pyFoldEnv Gen.lexicon Gen.builtinsRec t [] 0 = .ok (oneSub K.list) := by
  rw [compile_state_text_gen Gen.builtinsRec K t h, K.pick_builtinsRec]

theorem compile_enabled_text (t : Str) (h : SpellsPseudo "enabled".toStr t) :
    Parser.compile pyFoldEnv Gen.lexicon Gen.builtinsRec t [] 0 = .ok (oneSub Gen.CSS_ENABLED) :=
  compile_state_text .enabled t h
theorem compile_disabled_text (t : Str) (h : SpellsPseudo "disabled".toStr t) :
    Parser.compile pyFoldEnv Gen.lexicon Gen.builtinsRec t [] 0 = .ok (oneSub Gen.CSS_DISABLED) :=
  compile_state_text .disabled t h
theorem compile_required_text (t : Str) (h : SpellsPseudo "required".toStr t) :
    Parser.compile pyFoldEnv Gen.lexicon Gen.builtinsRec t [] 0 = .ok (oneSub Gen.CSS_REQUIRED) :=
  compile_state_text .required t h
theorem compile_optional_text (t : Str) (h : SpellsPseudo "optional".toStr t) :
    Parser.compile pyFoldEnv Gen.lexicon Gen.builtinsRec t [] 0 = .ok (oneSub Gen.CSS_OPTIONAL) :=
  compile_state_text .optional t h
theorem compile_read_write_text (t : Str) (h : SpellsPseudo "read-write".toStr t) :
    Parser.compile pyFoldEnv Gen.lexicon Gen.builtinsRec t [] 0 = .ok (oneSub Gen.CSS_READ_WRITE) :=
  compile_state_text .readWrite t h
theorem compile_read_only_text (t : Str) (h : SpellsPseudo "read-only".toStr t) :
    Parser.compile pyFoldEnv Gen.lexicon Gen.builtinsRec t [] 0 = .ok (oneSub Gen.CSS_READ_ONLY) :=
  compile_state_text .readOnly t h
theorem compile_in_range_text (t : Str) (h : SpellsPseudo "in-range".toStr t) :
    Parser.compile pyFoldEnv Gen.lexicon Gen.builtinsRec t [] 0 = .ok (oneSub Gen.CSS_IN_RANGE) :=
  compile_state_text .inRange t h
theorem compile_out_of_range_text (t : Str) (h : SpellsPseudo "out-of-range".toStr t) :
    Parser.compile pyFoldEnv Gen.lexicon Gen.builtinsRec t [] 0 = .ok (oneSub Gen.CSS_OUT_OF_RANGE) :=
  compile_state_text .outOfRange t h
theorem compile_link_text (t : Str) (h : SpellsPseudo "link".toStr t) :
    Parser.compile pyFoldEnv Gen.lexicon Gen.builtinsRec t [] 0 = .ok (oneSub Gen.CSS_LINK) :=
  compile_state_text .link t h
theorem compile_any_link_text (t : Str) (h : SpellsPseudo "any-link".toStr t) :
    Parser.compile pyFoldEnv Gen.lexicon Gen.builtinsRec t [] 0 = .ok (oneSub Gen.CSS_LINK) :=
  compile_state_text .anyLink t h
theorem compile_checked_text (t : Str) (h : SpellsPseudo "checked".toStr t) :
    Parser.compile pyFoldEnv Gen.lexicon Gen.builtinsRec t [] 0 = .ok (oneSub Gen.CSS_CHECKED) :=
  compile_state_text .checked t h
theorem compile_default_text (t : Str) (h : SpellsPseudo "default".toStr t) :
    Parser.compile pyFoldEnv Gen.lexicon Gen.builtinsRec t [] 0 = .ok (oneSub Gen.CSS_DEFAULT) :=
  compile_state_text .dflt t h
theorem compile_indeterminate_text (t : Str) (h : SpellsPseudo "indeterminate".toStr t) :
    Parser.compile pyFoldEnv Gen.lexicon Gen.builtinsRec t [] 0 = .ok (oneSub Gen.CSS_INDETERMINATE) :=
  compile_state_text .indeterminate t h
theorem compile_placeholder_shown_text (t : Str) (h : SpellsPseudo "placeholder-shown".toStr t) :
    Parser.compile pyFoldEnv Gen.lexicon Gen.builtinsRec t [] 0 = .ok (oneSub Gen.CSS_PLACEHOLDER_SHOWN) :=
  compile_state_text .placeholderShown t h

/-- `:root` (any spelling, any table of built-in lists): the flag `SEL_ROOT` on the compound `*`. -/
theorem compile_root_text (B : Builtins) (t : Str) (h : SpellsPseudo "root".toStr t) :
    Parser.compile pyFoldEnv Gen.lexicon B t [] 0 = .ok (oneFlag SEL_ROOT) := by
  obtain ⟨f, g₁, g₂, rfl, hg₁, hg₂, hf, hK, h0⟩ := h
  exact compile_root B f g₁ g₂ hg₁ hg₂ hf hK h0

/-- `:empty`: the flag `SEL_EMPTY`. -/
theorem compile_empty_text (B : Builtins) (t : Str) (h : SpellsPseudo "empty".toStr t) :
    Parser.compile pyFoldEnv Gen.lexicon B t [] 0 = .ok (oneFlag SEL_EMPTY) := by
  obtain ⟨f, g₁, g₂, rfl, hg₁, hg₂, hf, hK, h0⟩ := h
  exact compile_empty B f g₁ g₂ hg₁ hg₂ hf hK h0

/-- What the implied `*` of a top-level compound demands of the element: to be in the caller's default
    namespace, when the namespace map has one. -/
def inDefaultNs (c : Ctx) (e : Elem) : Bool := matchTag c e (some ⟨[42], none⟩)

/-- … which is `TagCond c e none` (`Refine/MatchText.lean`): `c.nsGet [] = none ∨ c.nsGet [] = some (C12.uri c e)`. -/
theorem inDefaultNs_iff (c : Ctx) (e : Elem) : inDefaultNs c e = true ↔ C12Parse.TagCond c e none :=
  C12Parse.matchTag_star_iff c e

theorem inDefaultNs_of_no_default (c : Ctx) (e : Elem) (h : c.nsGet [] = none) : inDefaultNs c e = true :=
  (inDefaultNs_iff c e).2 (Or.inl h)

/-- No namespace map at all (`namespaces=None`). -/
theorem inDefaultNs_of_no_map (c : Ctx) (e : Elem) (h : c.namespaces = []) : inDefaultNs c e = true :=
  inDefaultNs_of_no_default c e (by simp [Ctx.nsGet, h])

/-- **A compound whose only part is the nested list `L` (no flags) matches iff `L` matches** — and the
    element passes the implied `*`. -/
theorem matchList_oneSub (c : Ctx) (l : Loc) (e : Elem) (L : SelList) :
    matchList c l e (oneSub L) = (inDefaultNs c e && matchList c l e L) := by
  unfold oneSub
  rw [matchList_pos, matchAny_cons, matchAny_nil]
  have := matchSel_cmpG c l e (some ⟨[42], none⟩) [] [] [L] E .none 0
  simp only [Bool.not_false, Bool.true_or, Bool.true_and, Bool.false_eq_true, if_false, Bool.or_false]
  rw [this, C11.matchAttributes_nil, matchNths_nil, matchSubs_cons, matchSubs_nil, relPart_E, flagPart_zero]
  simp only [Bool.and_true, inDefaultNs]

theorem matchEl_oneSub (c : Ctx) (l : Loc) (e : Elem) (kids : List Node) (hf : l.focus = .elem e kids)
    (L : SelList) :
    matchEl c (oneSub L) l = (!e.isDoc && inDefaultNs c e && matchList c l e L) := by
  unfold matchEl
  rw [hf]
  simp only [matchList_oneSub, Bool.and_assoc]

theorem matchEl_oneFlag (c : Ctx) (l : Loc) (e : Elem) (kids : List Node) (hf : l.focus = .elem e kids)
    (v : Nat) :
    matchEl c (oneFlag v) l = (!e.isDoc && inDefaultNs c e && flagPart c l e v) := by
  unfold matchEl oneFlag
  rw [hf]
  simp only
  rw [matchList_pos, matchAny_cons, matchAny_nil]
  have := matchSel_cmpG c l e (some ⟨[42], none⟩) [] [] [] E .none v
  simp only [Bool.not_false, Bool.true_or, Bool.true_and, Bool.false_eq_true, if_false, Bool.or_false]
  rw [this, C11.matchAttributes_nil, matchNths_nil, matchSubs_nil, relPart_E]
  simp only [Bool.and_true, inDefaultNs, Bool.and_assoc]

/-- What `CSSMatch.match` and the implied `*` demand of the subject whatever the pseudo-class: not the
    `BeautifulSoup` object, and in the caller's default namespace when the map has one. -/
def subjectOk (c : Ctx) (e : Elem) : Bool := !e.isDoc && inDefaultNs c e

/-- The guard of `C05Parse.ListText.compound_iff` for a compound without type selector. -/
theorem subjectOk_iff (c : Ctx) (e : Elem) : subjectOk c e = true ↔ e.isDoc = false ∧ C12Parse.TagCond c e none := by
  unfold subjectOk
  rw [Bool.and_eq_true, inDefaultNs_iff]
  simp

/-- An element proper, no default namespace in the caller's map. -/
theorem subjectOk_plain (c : Ctx) (e : Elem) (hd : e.isDoc = false) (hns : c.nsGet [] = none) :
    subjectOk c e = true :=
  (subjectOk_iff c e).2 ⟨hd, Or.inl hns⟩

/-- **A state pseudo-class on the TEXT**: parser, then matcher, on any spelling of `:K` = the regenerated
    list `Gen.CSS_X` on the element (and the subject guard). -/
theorem state_text (K : StateKw) (c : Ctx) (l : Loc) (e : Elem) (kids : List Node)
    (hf : l.focus = .elem e kids) (t : Str) (h : SpellsPseudo K.name t) :
    matchText c t l = .ok (subjectOk c e && matchList c l e K.list) := by
  rw [matchText_ok (compile_state_text K t h), matchEl_oneSub c l e kids hf, subjectOk]

/-- `SoupSieve.match(tag)` on the pattern text (`matchTextApi`, `mkCtx`). -/
theorem state_text_api (K : StateKw) (E : Env) (isXml : Bool) (ns : List (Str × Str)) (tag : Loc) (e : Elem)
    (kids : List Node) (hf : tag.focus = .elem e kids) (t : Str) (h : SpellsPseudo K.name t) :
    matchTextApi E isXml ns t tag =
      .ok (subjectOk (mkCtx E isXml ns tag) e && matchList (mkCtx E isXml ns tag) tag e K.list) :=
  state_text K (mkCtx E isXml ns tag) tag e kids hf t h

theorem root_text (c : Ctx) (l : Loc) (e : Elem) (kids : List Node) (hf : l.focus = .elem e kids) (t : Str)
    (h : SpellsPseudo "root".toStr t) :
    matchText c t l = .ok (subjectOk c e && matchRoot c l) := by
  rw [matchText_ok (compile_root_text Gen.builtinsRec t h), matchEl_oneFlag c l e kids hf, flagPart_root, subjectOk]

theorem empty_text (c : Ctx) (l : Loc) (e : Elem) (kids : List Node) (hf : l.focus = .elem e kids) (t : Str)
    (h : SpellsPseudo "empty".toStr t) :
    matchText c t l = .ok (subjectOk c e && matchEmpty l) := by
  rw [matchText_ok (compile_empty_text Gen.builtinsRec t h), matchEl_oneFlag c l e kids hf, flagPart_empty, subjectOk]

/-! ## The laws, on the text

  Each theorem takes two (or one) pattern texts, ANY spellings of the keywords, and speaks about the two
  verdicts `b₁`, `b₂` of the text → parser → matcher composition on the element `e` at `l`.  `c` is an
  arbitrary matcher context of an HTML document (`c.isHtml = true`), as in `Properties/C17.lean`. -/

theorem pair_laws (g A B : Bool) (P : Prop) (hd : ¬ (A = true ∧ B = true)) (hi : (A = true ∨ B = true) ↔ P) :
    ¬ ((g && A) = true ∧ (g && B) = true) ∧ (((g && A) = true ∨ (g && B) = true) ↔ (g = true ∧ P)) := by
  cases g <;> simp_all

section Laws
variable (c : Ctx) (l : Loc) (e : Elem) (kids : List Node)

/-- A definition or law of `Properties/C17.lean` about the list of `K`, moved to the text. -/
theorem state_text_eq (K : StateKw) (hf : l.focus = .elem e kids) (t : Str) (h : SpellsPseudo K.name t)
    {b : Bool} (hb : matchList c l e K.list = b) : matchText c t l = .ok (subjectOk c e && b) := by
  rw [state_text K c l e kids hf t h, hb]

/-- **Two keywords whose lists are disjoint and cover exactly `P`, on the text**: never both; one of them iff `P`
    and the subject guard; under both, exactly one. -/
theorem pair_text (K₁ K₂ : StateKw) (P : Prop)
    (hd : ¬ (matchList c l e K₁.list = true ∧ matchList c l e K₂.list = true))
    (hi : (matchList c l e K₁.list = true ∨ matchList c l e K₂.list = true) ↔ P)
    (hf : l.focus = .elem e kids) (t₁ t₂ : Str) (h₁ : SpellsPseudo K₁.name t₁) (h₂ : SpellsPseudo K₂.name t₂) :
    ∃ b₁ b₂, matchText c t₁ l = .ok b₁ ∧ matchText c t₂ l = .ok b₂ ∧
      ¬ (b₁ = true ∧ b₂ = true) ∧
      ((b₁ = true ∨ b₂ = true) ↔ (subjectOk c e = true ∧ P)) ∧
      (subjectOk c e = true → P → b₁ = !b₂) := by
  refine ⟨_, _, state_text K₁ c l e kids hf t₁ h₁, state_text K₂ c l e kids hf t₂ h₂, ?_⟩
  have hp := pair_laws (subjectOk c e) _ _ P hd hi
  refine ⟨hp.1, hp.2, fun hs hk => ?_⟩
  rw [hs]
  have h := hi.mpr hk
  revert hd h
  cases matchList c l e K₁.list <;> cases matchList c l e K₂.list <;> simp

/-- … for an element proper under a namespace map without a default entry the subject guard holds. -/
theorem pair_text_plain {t₁ t₂ : Str} {P : Prop} (hd : e.isDoc = false) (hns : c.nsGet [] = none)
    (h : ∃ b₁ b₂, matchText c t₁ l = .ok b₁ ∧ matchText c t₂ l = .ok b₂ ∧
      ¬ (b₁ = true ∧ b₂ = true) ∧
      ((b₁ = true ∨ b₂ = true) ↔ (subjectOk c e = true ∧ P)) ∧
      (subjectOk c e = true → P → b₁ = !b₂)) :
    ∃ b₁ b₂, matchText c t₁ l = .ok b₁ ∧ matchText c t₂ l = .ok b₂ ∧
      ¬ (b₁ = true ∧ b₂ = true) ∧ ((b₁ = true ∨ b₂ = true) ↔ P) ∧ (P → b₁ = !b₂) := by
  obtain ⟨b₁, b₂, e₁, e₂, hdis, hcov, hx⟩ := h
  have hs := subjectOk_plain c e hd hns
  exact ⟨b₁, b₂, e₁, e₂, hdis, hcov.trans (by simp [hs]), hx hs⟩

/-- **`:enabled` / `:disabled` on the text.**  Never both; one of them iff the element is a form control
    (`C17.isFormControl`: HTML `button`, `select`, `textarea`, `fieldset`, `optgroup`, `option`, or `input`
    not of type `hidden`) — and passes the subject guard; on such an element exactly one. -/
theorem enabled_disabled_text (hc : c.isHtml = true) (hf : l.focus = .elem e kids) (t₁ t₂ : Str)
    (h₁ : SpellsPseudo "enabled".toStr t₁) (h₂ : SpellsPseudo "disabled".toStr t₂) :
    ∃ b₁ b₂, matchText c t₁ l = .ok b₁ ∧ matchText c t₂ l = .ok b₂ ∧
      ¬ (b₁ = true ∧ b₂ = true) ∧
      ((b₁ = true ∨ b₂ = true) ↔ (subjectOk c e = true ∧ C17.isFormControl c e = true)) ∧
      (subjectOk c e = true → C17.isFormControl c e = true → b₁ = !b₂) :=
  pair_text c l e kids .enabled .disabled _ (C17.enabled_disabled_disjoint c l e hc)
    (C17.enabled_or_disabled_iff_control c l e hc) hf t₁ t₂ h₁ h₂

/-- … for an element proper under a namespace map without a default entry: the IR-level law verbatim. -/
theorem enabled_disabled_text_plain (hc : c.isHtml = true) (hf : l.focus = .elem e kids)
    (hd : e.isDoc = false) (hns : c.nsGet [] = none) (t₁ t₂ : Str)
    (h₁ : SpellsPseudo "enabled".toStr t₁) (h₂ : SpellsPseudo "disabled".toStr t₂) :
    ∃ b₁ b₂, matchText c t₁ l = .ok b₁ ∧ matchText c t₂ l = .ok b₂ ∧
      ¬ (b₁ = true ∧ b₂ = true) ∧
      ((b₁ = true ∨ b₂ = true) ↔ C17.isFormControl c e = true) ∧
      (C17.isFormControl c e = true → b₁ = !b₂) :=
  pair_text_plain c l e hd hns (enabled_disabled_text c l e kids hc hf t₁ t₂ h₁ h₂)

/-- **`:required` / `:optional` on the text**: never both; one of them iff the element is an HTML `input`,
    `textarea` or `select` (and passes the subject guard); on such an element exactly one. -/
theorem required_optional_text (hc : c.isHtml = true) (hf : l.focus = .elem e kids) (t₁ t₂ : Str)
    (h₁ : SpellsPseudo "required".toStr t₁) (h₂ : SpellsPseudo "optional".toStr t₂) :
    ∃ b₁ b₂, matchText c t₁ l = .ok b₁ ∧ matchText c t₂ l = .ok b₂ ∧
      ¬ (b₁ = true ∧ b₂ = true) ∧
      ((b₁ = true ∨ b₂ = true) ↔
        (subjectOk c e = true ∧ C17.htmlNamed c e ["input", "textarea", "select"] = true)) ∧
      (subjectOk c e = true → C17.htmlNamed c e ["input", "textarea", "select"] = true → b₁ = !b₂) :=
  pair_text c l e kids .required .optional _ (C17.required_optional_disjoint c l e hc)
    (C17.required_optional_partition c l e hc) hf t₁ t₂ h₁ h₂

theorem required_optional_text_plain (hc : c.isHtml = true) (hf : l.focus = .elem e kids)
    (hd : e.isDoc = false) (hns : c.nsGet [] = none) (t₁ t₂ : Str)
    (h₁ : SpellsPseudo "required".toStr t₁) (h₂ : SpellsPseudo "optional".toStr t₂) :
    ∃ b₁ b₂, matchText c t₁ l = .ok b₁ ∧ matchText c t₂ l = .ok b₂ ∧
      ¬ (b₁ = true ∧ b₂ = true) ∧
      ((b₁ = true ∨ b₂ = true) ↔ C17.htmlNamed c e ["input", "textarea", "select"] = true) ∧
      (C17.htmlNamed c e ["input", "textarea", "select"] = true → b₁ = !b₂) :=
  pair_text_plain c l e hd hns (required_optional_text c l e kids hc hf t₁ t₂ h₁ h₂)

/-- **`:read-write` / `:read-only` on the text**: never both; one of them iff the element is in the XHTML
    namespace (`c.isHtmlTag e`: every element, when the tree builder keeps no namespaces) and passes the
    subject guard; on such an element exactly one. -/
theorem readwrite_readonly_text (hc : c.isHtml = true) (hf : l.focus = .elem e kids) (t₁ t₂ : Str)
    (h₁ : SpellsPseudo "read-write".toStr t₁) (h₂ : SpellsPseudo "read-only".toStr t₂) :
    ∃ b₁ b₂, matchText c t₁ l = .ok b₁ ∧ matchText c t₂ l = .ok b₂ ∧
      ¬ (b₁ = true ∧ b₂ = true) ∧
      ((b₁ = true ∨ b₂ = true) ↔ (subjectOk c e = true ∧ c.isHtmlTag e = true)) ∧
      (subjectOk c e = true → c.isHtmlTag e = true → b₁ = !b₂) :=
  pair_text c l e kids .readWrite .readOnly _
    (C17.partition_laws (C17.readwrite_split c l e hc) (C17.readwrite_readonly_partition c l e hc)).1
    (C17.readwrite_or_readonly_iff c l e hc) hf t₁ t₂ h₁ h₂

theorem readwrite_readonly_text_plain (hc : c.isHtml = true) (hf : l.focus = .elem e kids)
    (hd : e.isDoc = false) (hns : c.nsGet [] = none) (t₁ t₂ : Str)
    (h₁ : SpellsPseudo "read-write".toStr t₁) (h₂ : SpellsPseudo "read-only".toStr t₂) :
    ∃ b₁ b₂, matchText c t₁ l = .ok b₁ ∧ matchText c t₂ l = .ok b₂ ∧
      ¬ (b₁ = true ∧ b₂ = true) ∧
      ((b₁ = true ∨ b₂ = true) ↔ c.isHtmlTag e = true) ∧
      (c.isHtmlTag e = true → b₁ = !b₂) :=
  pair_text_plain c l e hd hns (readwrite_readonly_text c l e kids hc hf t₁ t₂ h₁ h₂)

/-- **`:in-range` / `:out-of-range` on the text**: never both; one of them iff the element is an HTML `input`
    of a range type carrying `min` or `max` (`C17.rangeCompoundHolds`) for which `match_range` finds a valid
    bound without raising (`C17.rangeState … isSome`, spelled out by `C17.rangeState_isSome_iff`) — and passes
    the subject guard; on such an element exactly one. -/
theorem inrange_outofrange_text (hc : c.isHtml = true) (hf : l.focus = .elem e kids) (t₁ t₂ : Str)
    (h₁ : SpellsPseudo "in-range".toStr t₁) (h₂ : SpellsPseudo "out-of-range".toStr t₂) :
    ∃ b₁ b₂, matchText c t₁ l = .ok b₁ ∧ matchText c t₂ l = .ok b₂ ∧
      ¬ (b₁ = true ∧ b₂ = true) ∧
      ((b₁ = true ∨ b₂ = true) ↔
        (subjectOk c e = true ∧ (C17.rangeCompoundHolds c e = true ∧ (C17.rangeState c e).isSome = true))) ∧
      (subjectOk c e = true → C17.rangeCompoundHolds c e = true → (C17.rangeState c e).isSome = true →
        b₁ = !b₂) := by
  obtain ⟨b₁, b₂, e₁, e₂, hdis, hcov, hx⟩ := pair_text c l e kids .inRange .outOfRange _
    (C17.inrange_outofrange_disjoint c l e hc) (C17.inrange_or_outofrange_iff c l e hc) hf t₁ t₂ h₁ h₂
  exact ⟨b₁, b₂, e₁, e₂, hdis, hcov, fun hs hk hr => hx hs ⟨hk, hr⟩⟩

theorem inrange_outofrange_text_plain (hc : c.isHtml = true) (hf : l.focus = .elem e kids)
    (hd : e.isDoc = false) (hns : c.nsGet [] = none) (t₁ t₂ : Str)
    (h₁ : SpellsPseudo "in-range".toStr t₁) (h₂ : SpellsPseudo "out-of-range".toStr t₂) :
    ∃ b₁ b₂, matchText c t₁ l = .ok b₁ ∧ matchText c t₂ l = .ok b₂ ∧
      ¬ (b₁ = true ∧ b₂ = true) ∧
      ((b₁ = true ∨ b₂ = true) ↔
        (C17.rangeCompoundHolds c e = true ∧ (C17.rangeState c e).isSome = true)) := by
  obtain ⟨b₁, b₂, e₁, e₂, hdis, hcov, _⟩ := inrange_outofrange_text c l e kids hc hf t₁ t₂ h₁ h₂
  have hs := subjectOk_plain c e hd hns
  exact ⟨b₁, b₂, e₁, e₂, hdis, hcov.trans (by simp [hs])⟩

/-- **`:link` = `:any-link` on the text**: any spelling of the one and any spelling of the other compile to
    the same structure … -/
theorem link_anylink_compile (t₁ t₂ : Str) (h₁ : SpellsPseudo "link".toStr t₁)
    (h₂ : SpellsPseudo "any-link".toStr t₂) :
    Parser.compile pyFoldEnv Gen.lexicon Gen.builtinsRec t₁ [] 0 =
      Parser.compile pyFoldEnv Gen.lexicon Gen.builtinsRec t₂ [] 0 := by
  rw [compile_link_text t₁ h₁, compile_any_link_text t₂ h₂]

/-- … hence give the same verdict on every location of every document (HTML or not). -/
theorem link_anylink_text (t₁ t₂ : Str) (h₁ : SpellsPseudo "link".toStr t₁)
    (h₂ : SpellsPseudo "any-link".toStr t₂) :
    matchText c t₁ l = matchText c t₂ l := by
  rw [matchText_ok (compile_link_text t₁ h₁), matchText_ok (compile_any_link_text t₂ h₂)]

/-- `:link` / `:any-link`: an HTML `a` or `area` carrying `href`. -/
theorem link_text_def (hc : c.isHtml = true) (hf : l.focus = .elem e kids) (t : Str)
    (h : SpellsPseudo "link".toStr t ∨ SpellsPseudo "any-link".toStr t) :
    matchText c t l = .ok (subjectOk c e && (C17.htmlNamed c e ["a", "area"] && hasAttr c e "href")) :=
  h.elim (state_text_eq c l e kids .link hf t · (C17.link_eq c l e hc))
    (state_text_eq c l e kids .anyLink hf t · (C17.link_eq c l e hc))

/-- **Every `:checked` element is `:default`, on the text.** -/
theorem checked_sub_default_text (hc : c.isHtml = true) (hf : l.focus = .elem e kids) (t₁ t₂ : Str)
    (h₁ : SpellsPseudo "checked".toStr t₁) (h₂ : SpellsPseudo "default".toStr t₂) :
    ∃ b₁ b₂, matchText c t₁ l = .ok b₁ ∧ matchText c t₂ l = .ok b₂ ∧ (b₁ = true → b₂ = true) := by
  refine ⟨_, _, state_text .checked c l e kids hf t₁ h₁, state_text .dflt c l e kids hf t₂ h₂, ?_⟩
  intro h
  rw [Bool.and_eq_true] at h ⊢
  exact ⟨h.1, C17.checked_sub_default c l e hc h.2⟩

/-- `:enabled`: a form control that `:disabled` does not select. -/
theorem enabled_text_def (hc : c.isHtml = true) (hf : l.focus = .elem e kids) (t : Str)
    (h : SpellsPseudo "enabled".toStr t) :
    matchText c t l =
      .ok (subjectOk c e && (C17.isFormControl c e && !matchList c l e Gen.CSS_DISABLED)) :=
  state_text_eq c l e kids .enabled hf t h (C17.enabled_eq c l e hc)

/-- `:disabled` (`C17.disabled_def`). -/
theorem disabled_text_def (hc : c.isHtml = true) (hf : l.focus = .elem e kids) (t : Str)
    (h : SpellsPseudo "disabled".toStr t) :
    matchText c t l =
      .ok (subjectOk c e &&
        (c.isHtmlTag e &&
          ((hasAttr c e "disabled" &&
              (["button", "select", "textarea", "fieldset", "optgroup", "option"].any (tagIs c e) ||
                (tagIs c e "input" && !typeIs c e "hidden"))) ||
           (tagIs c e "option" && parentIs c l (C17.isDisabledHtml c "optgroup")) ||
           ((["button", "select", "textarea", "fieldset"].any (tagIs c e) ||
                (tagIs c e "input" && !typeIs c e "hidden")) &&
              (parentIs c l (C17.isDisabledHtml c "fieldset") ||
               ancestorIs c l (C17.isNonLegendChildOfDisabledFieldset c)))))) :=
  state_text_eq c l e kids .disabled hf t h (C17.disabled_def c l e hc)

theorem required_text_def (hc : c.isHtml = true) (hf : l.focus = .elem e kids) (t : Str)
    (h : SpellsPseudo "required".toStr t) :
    matchText c t l =
      .ok (subjectOk c e &&
        (C17.htmlNamed c e ["input", "textarea", "select"] && hasAttr c e "required")) :=
  state_text_eq c l e kids .required hf t h (C17.required_eq c l e hc)

theorem optional_text_def (hc : c.isHtml = true) (hf : l.focus = .elem e kids) (t : Str)
    (h : SpellsPseudo "optional".toStr t) :
    matchText c t l =
      .ok (subjectOk c e &&
        (C17.htmlNamed c e ["input", "textarea", "select"] && !hasAttr c e "required")) :=
  state_text_eq c l e kids .optional hf t h (C17.optional_eq c l e hc)

/-- `:checked`: a checkbox or radio `input` with `checked`, or an `option` with `selected`. -/
theorem checked_text_def (hc : c.isHtml = true) (hf : l.focus = .elem e kids) (t : Str)
    (h : SpellsPseudo "checked".toStr t) :
    matchText c t l =
      .ok (subjectOk c e &&
        (c.isHtmlTag e &&
          ((tagIs c e "input" && (typeIs c e "checkbox" || typeIs c e "radio") && hasAttr c e "checked") ||
           (tagIs c e "option" && hasAttr c e "selected")))) :=
  state_text_eq c l e kids .checked hf t h (C17.checked_eq c l e hc)

/-- `:default` (`C17.default_def`): `:checked`, or a `button`/`input` of type `submit` below an HTML `form`
    that is the first submit button of its nearest form (`matchDefault`, the model of `match_default`,
    spelled out by `C17.iframe_local_default`). -/
theorem default_text_def (hc : c.isHtml = true) (hf : l.focus = .elem e kids) (t : Str)
    (h : SpellsPseudo "default".toStr t) :
    matchText c t l =
      .ok (subjectOk c e &&
        (matchList c l e Gen.CSS_CHECKED ||
          (c.isHtmlTag e && (tagIs c e "button" || tagIs c e "input") && typeIs c e "submit" &&
            ancestorIs c l (C17.isHtmlForm c) && matchDefault c l))) :=
  state_text_eq c l e kids .dflt hf t h (C17.default_def c l e hc)

/-- `:indeterminate` (`C17.indeterminate_def`). -/
theorem indeterminate_text_def (hc : c.isHtml = true) (hf : l.focus = .elem e kids) (t : Str)
    (h : SpellsPseudo "indeterminate".toStr t) :
    matchText c t l =
      .ok (subjectOk c e &&
        (c.isHtmlTag e &&
          ((tagIs c e "input" && typeIs c e "checkbox" && hasAttr c e "indeterminate") ||
           (tagIs c e "input" && typeIs c e "radio" && !hasAttr c e "checked" &&
              (!hasAttr c e "name" || attrEmpty c e "name" || matchIndeterminate c l)) ||
           (tagIs c e "progress" && !hasAttr c e "value")))) :=
  state_text_eq c l e kids .indeterminate hf t h (C17.indeterminate_def c l e hc)

/-- `:placeholder-shown` (`C17.placeholder_def`). -/
theorem placeholder_shown_text_def (hc : c.isHtml = true) (hf : l.focus = .elem e kids) (t : Str)
    (h : SpellsPseudo "placeholder-shown".toStr t) :
    matchText c t l =
      .ok (subjectOk c e &&
        (c.isHtmlTag e && C17.placeholderNonEmpty c e &&
          ((tagIs c e "input" && C17.placeholderInputType c e &&
              (!hasAttr c e "value" || attrEmpty c e "value")) ||
           (tagIs c e "textarea" && C17.textBlank c l)))) :=
  state_text_eq c l e kids .placeholderShown hf t h (C17.placeholder_def c l e hc)

/-! ## Outside HTML (`c.isHtml = false`) -/

/-- Each of the fourteen lists is HTML-only: it matches nothing when the document is not HTML. -/
theorem state_list_xml (K : StateKw) (hx : c.isHtml = false) : matchList c l e K.list = false := by
  have h := K.list_isHtml
  cases hL : K.list with
  | mk A n hh =>
    rw [hL] at h
    have : hh = true := h
    subst this
    exact C11.html_only_never_in_plain_xml c l e A n hx

/-- **In a document that is XML but not XHTML none of the HTML-only pseudo-classes matches anything** —
    whatever the spelling of the keyword, the element, the namespace map. -/
theorem state_text_xml (K : StateKw) (hx : c.isHtml = false) (hf : l.focus = .elem e kids) (t : Str)
    (h : SpellsPseudo K.name t) :
    matchText c t l = .ok false := by
  rw [state_text K c l e kids hf t h, state_list_xml c l e K hx, Bool.and_false]

/-! ## `:dir(ltr)` / `:dir(rtl)` on the text (in an HTML document; `dir_text_xml`: outside) -/

/-- `t` spells `:dir(ltr)` (`ltr = true`) or `:dir(rtl)`: the name `dir` in any admissible spelling of an
    identifier, `(`, a gap, the keyword in any letter case (`mixCase m`), a gap, `)`, between two gaps;
    no NUL. -/
def SpellsDir (ltr : Bool) (t : Str) : Prop :=
  ∃ (f : Forms) (g₀ g₁ g₂ g₃ : Str) (m : List Bool),
    t = g₀ ++ 58 :: (renderIdentWith f ++ (40 :: (g₁ ++ (mixCase m (dirWord ltr) ++ (g₂ ++ [41]))))) ++ g₃ ∧
      isGap g₀ ∧ isGap g₁ ∧ isGap g₂ ∧ isGap g₃ ∧
      identOK f (40 :: (g₁ ++ (mixCase m (dirWord ltr) ++ (g₂ ++ 41 :: g₃)))) ∧
      lower (valueOf f) = "dir".toStr ∧ ∀ x ∈ t, x ≠ 0

/-- The flag `parse_pseudo_dir` sets. -/
def dirFlag (ltr : Bool) : Nat := if ltr then SEL_DIR_LTR else SEL_DIR_RTL

/-- **The parser on `:dir(…)`**: the compound `*` whose only content is the HTML-only list `C17.dirList`
    holding the direction flag. -/
theorem compile_dir_text (B : Builtins) (ltr : Bool) (t : Str) (h : SpellsDir ltr t) :
    Parser.compile pyFoldEnv Gen.lexicon B t [] 0 = .ok (oneSub (C17.dirList (dirFlag ltr))) := by
  obtain ⟨f, g₀, g₁, g₂, g₃, m, rfl, hg₀, hg₁, hg₂, hg₃, hf, hn, h0⟩ := h
  exact compile_dir B f g₁ ltr m g₂ g₀ g₃ hg₀ hg₃ hf hn hg₁ hg₂ h0

/-- `:dir(…)` on the text is `match_dir` (and the subject guard), in an HTML document. -/
theorem dir_text (hc : c.isHtml = true) (hf : l.focus = .elem e kids) (ltr : Bool) (t : Str)
    (h : SpellsDir ltr t) :
    matchText c t l = .ok (subjectOk c e && matchDir c l (dirFlag ltr)) := by
  rw [matchText_ok (compile_dir_text Gen.builtinsRec ltr t h), matchEl_oneSub c l e kids hf, subjectOk, dirFlag,
    C17.dirList_eq c l e ltr hc]

/-- **`:dir(ltr)` / `:dir(rtl)` on the text** (hypotheses of `C17.dir_partition`): an element in the XHTML
    namespace whose chain `l :: ancestors` (with the iframe cut) contains an XHTML-namespace root `r` is never
    both, and — when it passes the subject guard — exactly one. -/
theorem dir_partition_text (hc : c.isHtml = true) (hf : l.focus = .elem e kids) (hh : c.isHtmlTag e = true)
    (r : Loc) (hmem : r ∈ l :: c.ancestors l true) (re : Elem) (hre : r.elem? = some re)
    (hrh : c.isHtmlTag re = true) (hroot : c.isRoot r = true) (t₁ t₂ : Str)
    (h₁ : SpellsDir true t₁) (h₂ : SpellsDir false t₂) :
    ∃ b₁ b₂, matchText c t₁ l = .ok b₁ ∧ matchText c t₂ l = .ok b₂ ∧
      ¬ (b₁ = true ∧ b₂ = true) ∧ (subjectOk c e = true → b₁ = !b₂) := by
  refine ⟨_, _, dir_text c l e kids hc hf true t₁ h₁, dir_text c l e kids hc hf false t₂ h₂, ?_⟩
  have hne := C17.dir_partition c l e kids hf hh r hmem re hre hrh hroot
  show ¬ ((subjectOk c e && matchDir c l SEL_DIR_LTR) = true ∧ (subjectOk c e && matchDir c l SEL_DIR_RTL) = true) ∧
    (subjectOk c e = true → (subjectOk c e && matchDir c l SEL_DIR_LTR) = !(subjectOk c e && matchDir c l SEL_DIR_RTL))
  revert hne
  cases subjectOk c e <;> cases matchDir c l SEL_DIR_LTR <;> cases matchDir c l SEL_DIR_RTL <;> simp

/-- In a document that is XML but not XHTML `:dir(…)` matches nothing. -/
theorem dir_text_xml (hx : c.isHtml = false) (hf : l.focus = .elem e kids) (ltr : Bool) (t : Str)
    (h : SpellsDir ltr t) :
    matchText c t l = .ok false := by
  rw [matchText_ok (compile_dir_text Gen.builtinsRec ltr t h), matchEl_oneSub c l e kids hf, C17.dirList,
    C11.html_only_never_in_plain_xml c l e _ _ hx, Bool.and_false]

end Laws

/-! ## Non-vacuity: concrete texts on a small tree -/

namespace Examples

def E0 : Env := { env := asciiEnv, bidi := fun _ => 0, wildStrip := id }
def mkAttr (kv : String × String) : Attr := { key := kv.1.toStr, kns := none, kname := none, val := .str kv.2.toStr }
def elemOf (n : String) (attrs : List (String × String)) : Elem :=
  { isDoc := false, name := n.toStr, pfx := none, ns := none, attrs := attrs.map mkAttr }
def el (n : String) (attrs : List (String × String)) (kids : List Node) : Node := .elem (elemOf n attrs) kids
def docN (kids : List Node) : Node :=
  .elem { isDoc := true, name := "[document]".toStr, pfx := none, ns := none, attrs := [] } kids

def controls : List (String × List (String × String)) :=
  [("input", []),                                                                   -- 0
   ("input", [("disabled", "")]),                                                   -- 1
   ("input", [("type", "hidden")]),                                                 -- 2
   ("input", [("required", "")]),                                                   -- 3
   ("input", [("type", "number"), ("min", "1"), ("max", "5"), ("value", "7")]),     -- 4
   ("input", [("type", "number"), ("min", "1"), ("value", "3")]),                   -- 5
   ("a", [("href", "x")]),                                                          -- 6
   ("input", [("type", "checkbox"), ("checked", "")]),                              -- 7
   ("p", [])]                                                                       -- 8

/-- `<html><body><form>` + the nine elements above `</form></body></html>` -/
def tree : Node := docN [el "html" [] [el "body" [] [el "form" [] (controls.map fun x => el x.1 x.2 [])]]]
def top : Loc := ⟨tree, []⟩
def child (l : Loc) (i : Nat) : Loc := (l.children[i]?).getD l
def form : Loc := child (child (child top 0) 0) 0
def at_ (i : Nat) : Loc := child form i
def elemAt (i : Nat) : Elem := match controls[i]? with | some x => elemOf x.1 x.2 | none => default

/-- An HTML document (html.parser), no namespace map. -/
def ctx : Ctx := mkCtx E0 false [] top
/-- The same tree as a document that is XML but not XHTML. -/
def ctxXml : Ctx := mkCtx E0 true [] top
/-- An HTML document queried with `namespaces={'': 'urn:other'}`. -/
def ctxNs : Ctx := mkCtx E0 false [([], "urn:other".toStr)] top

example : ctx.isHtml = true ∧ ctxXml.isHtml = false ∧ ctxNs.isHtml = true := by decide
example : ctx.nsGet [] = none ∧ ctxNs.nsGet [] = some "urn:other".toStr := by decide

theorem focus_at (i : Nat) (h : i < 9) : (at_ i).focus = .elem (elemAt i) [] := by
  have : i = 0 ∨ i = 1 ∨ i = 2 ∨ i = 3 ∨ i = 4 ∨ i = 5 ∨ i = 6 ∨ i = 7 ∨ i = 8 := by omega
  rcases this with rfl | rfl | rfl | rfl | rfl | rfl | rfl | rfl | rfl <;> rfl

/-- ` :DIS\41 bled/**/` — a space, upper case, a hex escape with its terminator, a comment. -/
def disabledAlt : Forms :=
  [(68, .lit), (73, .lit), (83, .lit), (65, .hex 2 [] (some .space)), (98, .lit), (108, .lit), (101, .lit),
   (100, .lit)]

example : ([32] ++ 58 :: renderIdentWith disabledAlt ++ "/**/".toStr) = " :DIS\\41 bled/**/".toStr := by decide_lit

theorem spells_disabledAlt : SpellsPseudo "disabled".toStr " :DIS\\41 bled/**/".toStr :=
  ⟨disabledAlt, [32], "/**/".toStr, by decide_lit⟩

/-- `:\72 EAD-only` -/
def readOnlyAlt : Forms :=
  [(114, .hex 2 [] (some .space)), (69, .lit), (65, .lit), (68, .lit), (45, .lit), (111, .lit), (110, .lit),
   (108, .lit), (121, .lit)]

theorem spells_readOnlyAlt : SpellsPseudo "read-only".toStr ":\\72 EAD-only".toStr :=
  ⟨readOnlyAlt, [], [], by decide_lit⟩

/-- `/* c */:Any-Link` followed by a TAB -/
theorem spells_anyLinkAlt : SpellsPseudo "any-link".toStr "/* c */:Any-Link\t".toStr :=
  ⟨lits "Any-Link".toStr, "/* c */".toStr, [9], by decide_lit⟩

-- the parser on the texts (instances of `compile_state_text`)
example : Parser.compile pyFoldEnv Gen.lexicon Gen.builtinsRec " :DIS\\41 bled/**/".toStr [] 0 =
    .ok (oneSub Gen.CSS_DISABLED) := compile_disabled_text _ spells_disabledAlt
example : Parser.compile pyFoldEnv Gen.lexicon Gen.builtinsRec ":enabled".toStr [] 0 =
    .ok (oneSub Gen.CSS_ENABLED) := compile_enabled_text _ (spells_text .enabled ":enabled")
example : Parser.compile pyFoldEnv Gen.lexicon Gen.builtinsRec "/* c */:Any-Link\t".toStr [] 0 =
    Parser.compile pyFoldEnv Gen.lexicon Gen.builtinsRec ":link".toStr [] 0 :=
  (link_anylink_compile _ _ (spells_text .link ":link") spells_anyLinkAlt).symm

theorem verdict (K : StateKw) (c : Ctx) (i : Nat) (hi : i < 9) (t : Str) (h : SpellsPseudo K.name t) (b : Bool)
    (hb : (subjectOk c (elemAt i) && matchList c (at_ i) (elemAt i) K.list) = b) :
    matchText c t (at_ i) = .ok b := by
  rw [state_text K c (at_ i) (elemAt i) [] (focus_at i hi) t h, hb]

/-- What `verdict` asks for: the subject guard and the regenerated list of `K`, on the `i`-th element. -/
abbrev holds (c : Ctx) (i : Nat) (K : StateKw) : Bool :=
  subjectOk c (elemAt i) && matchList c (at_ i) (elemAt i) K.list

/-- The verdicts quoted below (element, keyword, answer). -/
def quoted : List (Nat × StateKw × Bool) :=
  [(0, .enabled, true), (0, .disabled, false), (1, .enabled, false), (1, .disabled, true), (2, .enabled, false),
   (2, .disabled, false), (3, .required, true), (3, .optional, false), (0, .optional, true), (8, .optional, false),
   (0, .readWrite, true), (0, .readOnly, false), (8, .readWrite, false), (8, .readOnly, true),
   (4, .inRange, false), (4, .outOfRange, true), (5, .inRange, true), (5, .outOfRange, false),
   (0, .inRange, false), (0, .outOfRange, false), (6, .anyLink, true), (0, .link, false), (7, .checked, true),
   (7, .dflt, true)]

/-- They are evaluated together: one by one, each evaluation would decode the namespace URI and the attribute names
    of the model anew, which is slow to check. -/
theorem quoted_holds : ∀ x ∈ quoted, holds ctx x.1 x.2.1 = x.2.2 := by decide +kernel

/-- A quoted verdict, on any spelling of the keyword. -/
theorem on_form (K : StateKw) (i : Nat) (b : Bool) {t : Str} (h : SpellsPseudo K.name t)
    (hx : (i, K, b) ∈ quoted := by decide) (hi : i < 9 := by decide) : matchText ctx t (at_ i) = .ok b :=
  verdict K ctx i hi t h b (quoted_holds _ hx)

-- `:enabled` / `:disabled`: the law at the plain `input` (0), the disabled one (1), the hidden one (2)
example : ∃ b₁ b₂, matchText ctx ":enabled".toStr (at_ 0) = .ok b₁ ∧ matchText ctx " :DIS\\41 bled/**/".toStr (at_ 0) = .ok b₂ ∧
    ¬ (b₁ = true ∧ b₂ = true) ∧ ((b₁ = true ∨ b₂ = true) ↔ C17.isFormControl ctx (elemAt 0) = true) ∧
    (C17.isFormControl ctx (elemAt 0) = true → b₁ = !b₂) :=
  enabled_disabled_text_plain ctx (at_ 0) (elemAt 0) [] (by decide) (focus_at 0 (by decide)) rfl (by decide) _ _
    (spells_text .enabled ":enabled") spells_disabledAlt
example : C17.isFormControl ctx (elemAt 0) = true ∧ C17.isFormControl ctx (elemAt 1) = true ∧
    C17.isFormControl ctx (elemAt 2) = false ∧ C17.isFormControl ctx (elemAt 8) = false := by decide +kernel
example : matchText ctx ":enabled".toStr (at_ 0) = .ok true :=
  on_form .enabled 0 true (spells_text .enabled ":enabled")
example : matchText ctx " :DIS\\41 bled/**/".toStr (at_ 0) = .ok false :=
  on_form .disabled 0 false spells_disabledAlt
example : matchText ctx ":enabled".toStr (at_ 1) = .ok false :=
  on_form .enabled 1 false (spells_text .enabled ":enabled")
example : matchText ctx " :DIS\\41 bled/**/".toStr (at_ 1) = .ok true :=
  on_form .disabled 1 true spells_disabledAlt
example : matchText ctx ":enabled".toStr (at_ 2) = .ok false ∧ matchText ctx ":disabled".toStr (at_ 2) = .ok false :=
  ⟨on_form .enabled 2 false (spells_text .enabled ":enabled"),
    on_form .disabled 2 false (spells_text .disabled ":disabled")⟩

-- `:required` / `:optional` at the `input required` (3)
example : ∃ b₁ b₂, matchText ctx ":required".toStr (at_ 3) = .ok b₁ ∧ matchText ctx ":optional".toStr (at_ 3) = .ok b₂ ∧
    ¬ (b₁ = true ∧ b₂ = true) ∧
    ((b₁ = true ∨ b₂ = true) ↔ C17.htmlNamed ctx (elemAt 3) ["input", "textarea", "select"] = true) ∧
    (C17.htmlNamed ctx (elemAt 3) ["input", "textarea", "select"] = true → b₁ = !b₂) :=
  required_optional_text_plain ctx (at_ 3) (elemAt 3) [] (by decide) (focus_at 3 (by decide)) rfl (by decide) _ _
    (spells_text .required ":required") (spells_text .optional ":optional")
example : matchText ctx ":required".toStr (at_ 3) = .ok true ∧ matchText ctx ":optional".toStr (at_ 3) = .ok false ∧
    matchText ctx ":optional".toStr (at_ 0) = .ok true ∧ matchText ctx ":optional".toStr (at_ 8) = .ok false :=
  ⟨on_form .required 3 true (spells_text .required ":required"),
    on_form .optional 3 false (spells_text .optional ":optional"),
    on_form .optional 0 true (spells_text .optional ":optional"),
    on_form .optional 8 false (spells_text .optional ":optional")⟩

-- `:read-write` / `:read-only` at the plain `input` (0) and at the `p` (8)
example : ∃ b₁ b₂, matchText ctx ":read-write".toStr (at_ 8) = .ok b₁ ∧ matchText ctx ":\\72 EAD-only".toStr (at_ 8) = .ok b₂ ∧
    ¬ (b₁ = true ∧ b₂ = true) ∧ ((b₁ = true ∨ b₂ = true) ↔ ctx.isHtmlTag (elemAt 8) = true) ∧
    (ctx.isHtmlTag (elemAt 8) = true → b₁ = !b₂) :=
  readwrite_readonly_text_plain ctx (at_ 8) (elemAt 8) [] (by decide) (focus_at 8 (by decide)) rfl (by decide) _ _
    (spells_text .readWrite ":read-write") spells_readOnlyAlt
example : matchText ctx ":read-write".toStr (at_ 0) = .ok true ∧ matchText ctx ":\\72 EAD-only".toStr (at_ 0) = .ok false ∧
    matchText ctx ":read-write".toStr (at_ 8) = .ok false ∧ matchText ctx ":\\72 EAD-only".toStr (at_ 8) = .ok true :=
  ⟨on_form .readWrite 0 true (spells_text .readWrite ":read-write"),
    on_form .readOnly 0 false spells_readOnlyAlt,
    on_form .readWrite 8 false (spells_text .readWrite ":read-write"),
    on_form .readOnly 8 true spells_readOnlyAlt⟩

-- `:in-range` / `:out-of-range` at `value=7` in `1..5` (4), `value=3` above `1` (5), no bound (0)
example : ∃ b₁ b₂, matchText ctx ":in-range".toStr (at_ 4) = .ok b₁ ∧ matchText ctx ":out-of-range".toStr (at_ 4) = .ok b₂ ∧
    ¬ (b₁ = true ∧ b₂ = true) ∧
    ((b₁ = true ∨ b₂ = true) ↔
      (C17.rangeCompoundHolds ctx (elemAt 4) = true ∧ (C17.rangeState ctx (elemAt 4)).isSome = true)) :=
  inrange_outofrange_text_plain ctx (at_ 4) (elemAt 4) [] (by decide) (focus_at 4 (by decide)) rfl (by decide) _ _
    (spells_text .inRange ":in-range") (spells_text .outOfRange ":out-of-range")
example : C17.rangeCompoundHolds ctx (elemAt 4) = true ∧ (C17.rangeState ctx (elemAt 4)).isSome = true ∧
    C17.rangeCompoundHolds ctx (elemAt 0) = false := by decide +kernel
example : matchText ctx ":in-range".toStr (at_ 4) = .ok false ∧ matchText ctx ":out-of-range".toStr (at_ 4) = .ok true ∧
    matchText ctx ":in-range".toStr (at_ 5) = .ok true ∧ matchText ctx ":out-of-range".toStr (at_ 5) = .ok false ∧
    matchText ctx ":in-range".toStr (at_ 0) = .ok false ∧ matchText ctx ":out-of-range".toStr (at_ 0) = .ok false :=
  ⟨on_form .inRange 4 false (spells_text .inRange ":in-range"),
    on_form .outOfRange 4 true (spells_text .outOfRange ":out-of-range"),
    on_form .inRange 5 true (spells_text .inRange ":in-range"),
    on_form .outOfRange 5 false (spells_text .outOfRange ":out-of-range"),
    on_form .inRange 0 false (spells_text .inRange ":in-range"),
    on_form .outOfRange 0 false (spells_text .outOfRange ":out-of-range")⟩

-- `:link` = `:any-link` at the `a[href]` (6)
example : matchText ctx ":link".toStr (at_ 6) = matchText ctx "/* c */:Any-Link\t".toStr (at_ 6) :=
  link_anylink_text ctx (at_ 6) _ _ (spells_text .link ":link") spells_anyLinkAlt
example : matchText ctx "/* c */:Any-Link\t".toStr (at_ 6) = .ok true ∧ matchText ctx ":link".toStr (at_ 0) = .ok false :=
  ⟨on_form .anyLink 6 true spells_anyLinkAlt,
    on_form .link 0 false (spells_text .link ":link")⟩

-- `:checked` ⊆ `:default` at the checked checkbox (7)
example : ∃ b₁ b₂, matchText ctx ":checked".toStr (at_ 7) = .ok b₁ ∧ matchText ctx ":default".toStr (at_ 7) = .ok b₂ ∧
    (b₁ = true → b₂ = true) :=
  checked_sub_default_text ctx (at_ 7) (elemAt 7) [] (by decide) (focus_at 7 (by decide)) _ _
    (spells_text .checked ":checked") (spells_text .dflt ":default")
example : matchText ctx ":checked".toStr (at_ 7) = .ok true ∧ matchText ctx ":default".toStr (at_ 7) = .ok true :=
  ⟨on_form .checked 7 true (spells_text .checked ":checked"),
    on_form .dflt 7 true (spells_text .dflt ":default")⟩

-- the same tree as plain XML: nothing matches (instance of `state_text_xml`)
example : matchText ctxXml ":enabled".toStr (at_ 0) = .ok false ∧
    matchText ctxXml " :DIS\\41 bled/**/".toStr (at_ 1) = .ok false ∧
    matchText ctxXml ":\\72 EAD-only".toStr (at_ 8) = .ok false :=
  ⟨state_text_xml ctxXml (at_ 0) (elemAt 0) [] .enabled (by decide) (focus_at 0 (by decide)) _ (spells_text .enabled ":enabled"),
   state_text_xml ctxXml (at_ 1) (elemAt 1) [] .disabled (by decide) (focus_at 1 (by decide)) _ spells_disabledAlt,
   state_text_xml ctxXml (at_ 8) (elemAt 8) [] .readOnly (by decide) (focus_at 8 (by decide)) _ spells_readOnlyAlt⟩

-- The subject guard is not idle: under `namespaces={'': 'urn:other'}` the form control (0) is neither
-- `:enabled` nor `:disabled` on the text, although one of the two lists matches it
-- (real soupsieve: `select(':enabled', soup, namespaces={'': 'urn:other'}) == []`).
example : subjectOk ctxNs (elemAt 0) = false ∧ matchList ctxNs (at_ 0) (elemAt 0) Gen.CSS_ENABLED = true := by
  decide +kernel
example : matchText ctxNs ":enabled".toStr (at_ 0) = .ok false ∧ matchText ctxNs ":disabled".toStr (at_ 0) = .ok false := by
  have h : holds ctxNs 0 .enabled = false ∧ holds ctxNs 0 .disabled = false := by decide +kernel
  exact ⟨verdict .enabled ctxNs 0 (by decide) _ (spells_text .enabled ":enabled") false h.1,
    verdict .disabled ctxNs 0 (by decide) _ (spells_text .disabled ":disabled") false h.2⟩

-- `:root`, `:empty`
theorem spells_rootAlt : SpellsPseudo "root".toStr ":ROOT".toStr :=
  ⟨lits "ROOT".toStr, [], [], by decide_lit⟩
theorem spells_emptyLit : SpellsPseudo "empty".toStr ":empty".toStr :=
  ⟨lits "empty".toStr, [], [], by decide_lit⟩

example : matchText ctx ":ROOT".toStr (child top 0) = .ok true := by
  rw [root_text ctx (child top 0) (elemOf "html" []) _ rfl _ spells_rootAlt]
  exact congrArg _ (by decide +kernel)
example : matchText ctx ":ROOT".toStr (at_ 0) = .ok false := by
  rw [root_text ctx (at_ 0) (elemAt 0) [] (focus_at 0 (by decide)) _ spells_rootAlt]
  exact congrArg _ (by decide +kernel)
example : matchText ctx ":empty".toStr (at_ 0) = .ok true ∧ matchText ctx ":empty".toStr form = .ok false := by
  rw [empty_text ctx (at_ 0) (elemAt 0) [] (focus_at 0 (by decide)) _ spells_emptyLit,
    empty_text ctx form (elemOf "form" []) _ rfl _ spells_emptyLit]
  exact ⟨congrArg _ (by decide +kernel), congrArg _ (by decide +kernel)⟩

-- `:dir()`: `:DIR( LtR )` and `:dir(rtl)` at the plain `input` (0), below the root `html`
theorem spells_dirLtrAlt : SpellsDir true ":DIR( LtR )".toStr :=
  ⟨lits "DIR".toStr, [], [32], [32], [], [true, false, true], by decide_lit⟩
theorem spells_dirRtl : SpellsDir false ":dir(rtl)".toStr :=
  ⟨lits "dir".toStr, [], [], [], [], [], by decide_lit⟩

example : ∃ b₁ b₂, matchText ctx ":DIR( LtR )".toStr (at_ 0) = .ok b₁ ∧ matchText ctx ":dir(rtl)".toStr (at_ 0) = .ok b₂ ∧
    ¬ (b₁ = true ∧ b₂ = true) ∧ (subjectOk ctx (elemAt 0) = true → b₁ = !b₂) := by
  -- the chain of `at_ 0` is input, form, body, html: the root is its entry 3
  have h : ctx.isHtmlTag (elemAt 0) = true ∧ ctx.isHtmlTag (elemOf "html" []) = true ∧
      ctx.isRoot (((at_ 0) :: ctx.ancestors (at_ 0) true)[3]'(by decide +kernel)) = true := by decide +kernel
  exact dir_partition_text ctx (at_ 0) (elemAt 0) [] (by decide) (focus_at 0 (by decide)) h.1 _
    (List.getElem_mem _) (elemOf "html" []) rfl h.2.1 h.2.2 _ _ spells_dirLtrAlt spells_dirRtl
example : matchText ctx ":DIR( LtR )".toStr (at_ 0) = .ok true ∧ matchText ctx ":dir(rtl)".toStr (at_ 0) = .ok false := by
  rw [dir_text ctx (at_ 0) (elemAt 0) [] (by decide) (focus_at 0 (by decide)) true _ spells_dirLtrAlt,
    dir_text ctx (at_ 0) (elemAt 0) [] (by decide) (focus_at 0 (by decide)) false _ spells_dirRtl]
  have h : (subjectOk ctx (elemAt 0) && matchDir ctx (at_ 0) (dirFlag true)) = true ∧
      (subjectOk ctx (elemAt 0) && matchDir ctx (at_ 0) (dirFlag false)) = false := by decide +kernel
  exact ⟨congrArg _ h.1, congrArg _ h.2⟩
example : matchText ctxXml ":DIR( LtR )".toStr (at_ 0) = .ok false :=
  dir_text_xml ctxXml (at_ 0) (elemAt 0) [] (by decide) (focus_at 0 (by decide)) true _ spells_dirLtrAlt

def isOk (x : Except Parser.Err Bool) (b : Bool) : Bool :=
  match x with
  | .ok b' => b == b'
  | .error _ => false

-- the model evaluated directly on the same texts, as a cross-check of the statements
#guard isOk (matchText ctx ":enabled".toStr (at_ 0)) true
#guard isOk (matchText ctx " :DIS\\41 bled/**/".toStr (at_ 1)) true
#guard isOk (matchText ctx " :DIS\\41 bled/**/".toStr (at_ 0)) false
#guard isOk (matchText ctx ":\\72 EAD-only".toStr (at_ 8)) true
#guard isOk (matchText ctx "/* c */:Any-Link\t".toStr (at_ 6)) true
#guard isOk (matchText ctx ":out-of-range".toStr (at_ 4)) true
#guard isOk (matchText ctxXml ":enabled".toStr (at_ 0)) false
#guard isOk (matchText ctxNs ":enabled".toStr (at_ 0)) false
#guard isOk (matchText ctx ":ROOT".toStr (child top 0)) true
#guard isOk (matchText ctx ":empty".toStr form) false
#guard isOk (matchText ctx ":DIR( LtR )".toStr (at_ 0)) true
#guard isOk (matchText ctx ":dir(rtl)".toStr (at_ 0)) false

end Examples

#print axioms compile_state_text_gen
#print axioms compile_state_text
#print axioms compile_root_text
#print axioms compile_empty_text
#print axioms matchEl_oneSub
#print axioms state_text
#print axioms root_text
#print axioms empty_text
#print axioms enabled_disabled_text
#print axioms required_optional_text
#print axioms readwrite_readonly_text
#print axioms inrange_outofrange_text
#print axioms link_anylink_text
#print axioms checked_sub_default_text
#print axioms state_text_xml
#print axioms compile_dir_text
#print axioms dir_text
#print axioms dir_partition_text
#print axioms dir_text_xml

end C17Parse
end SoupVerif
