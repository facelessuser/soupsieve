/-
  C20  Error positions and the debug pretty-printer.

  Part A  `util.get_pattern_context` (line / col / context of every `SelectorSyntaxError`)
    Model : `Context.splitLines`, `Context.step`, `Context.getPatternContext`  (Model/Context.lean)
    Spec  : `Spec.Ctx.breakEnds`, `breaksBefore` (and the direct recursion `breaksBeforeRec`),
            `lineStart`, `lines`, `numLines`, `inCrLf`, `render`, `expectedContext`
                                                                              (Spec/Context.lean)
    All theorems hold for EVERY pattern `p : Str` and EVERY offset `i ≤ p.length`, the offset at
    the very end included (`ctx_end_offset`).

    The one place where the code is NOT "caret under column `col`" is stated in the theorems,
    not hidden: when `i` points at the `\n` of a `\r\n` pair, the offset still belongs to the
    line which that pair ends (`ctx_crlf`: same line as the `\r`, column one more), and the
    caret stands ONE COLUMN TO THE LEFT of column `col` (`ctx_text`, `ctx_caret`: the
    `- (if inCrLf p i then 1 else 0)` term).

  Part B  `pretty.pretty`
    Model : `Pretty.PrettyEnv`, the fifteen scanners, `Pretty.tokens`, `Pretty.firstMatch`,
            `Pretty.tokenOutput`, `Pretty.prettyLoop`, `Pretty.pretty`        (Model/Pretty.lean)
    Spec  : `Spec.stripWs`                                                    (Spec/Pretty.lean)
    `prettyLoop` is defined by well-founded recursion on `len(sel) - index` without fuel; that
    the definition is accepted IS the termination proof, its content is `pretty_tokens_advance`
    / `pretty_measure_decreases`; `pretty_terminates` states the loop equations that the total
    function satisfies.  `pretty_roundtrip` holds for every environment in which the two
    characters the printer inserts (space, newline) are `\s`.

  Nothing in this file is partial.
-/
import SoupVerif.Lemmas.Context
import SoupVerif.Lemmas.Pretty
namespace SoupVerif
namespace C20
open Context Pretty Spec Spec.Ctx CtxLemmas PrettyLemmas

/-! ## Part A: line, column -/

/-- Context, line and column at once: the block the property describes (`Spec.Ctx.expectedContext`), one more than the
    number of line-break units that end at or before the offset, and the offset within the line plus one. -/
theorem ctx_eq (p : Str) (i : Nat) (hi : i ≤ p.length) :
    getPatternContext p i = (expectedContext p i, 1 + breaksBefore p i, i - lineStart p i + 1) := by
  unfold expectedContext
  by_cases hb : breakEnds p = []
  · have h1 : numLines p = 1 := by rw [numLines_eq, hb]; rfl
    rw [gpc_single p i hb]
    simp [h1, lineStart, breaksBefore, hb]
  · have h1 : numLines p ≠ 1 := by
      rw [numLines_eq]
      cases h : breakEnds p with
      | nil => exact absurd h hb
      | cons a b => simp
    rw [gpc_multi p i hi hb]
    simp only [h1, if_false]

/-- The reported line is one more than the number of line-break units (`\r\n` as one unit, lone
    `\n`, lone `\r`) that end at or before the offset. -/
theorem ctx_line (p : Str) (i : Nat) (hi : i ≤ p.length) :
    (getPatternContext p i).2.1 = 1 + breaksBefore p i := by
  rw [ctx_eq p i hi]

/-- `breaksBefore` (a count over the list of break-unit end offsets) is the direct left-to-right
    recursive count. -/
theorem breaksBefore_rec (p : Str) (i : Nat) : breaksBefore p i = breaksBeforeRec p i :=
  breaksBefore_eq_rec p i

/-- `ctx_line` with the direct recursive count. -/
theorem ctx_line_rec (p : Str) (i : Nat) (hi : i ≤ p.length) :
    (getPatternContext p i).2.1 = 1 + breaksBeforeRec p i := by
  rw [ctx_line p i hi, breaksBefore_eq_rec]

/-- The reported column is the offset within the line, plus one. -/
theorem ctx_col (p : Str) (i : Nat) (hi : i ≤ p.length) :
    (getPatternContext p i).2.2 = i - lineStart p i + 1 := by
  rw [ctx_eq p i hi]

/-- The subtraction in `ctx_col` does not truncate: the line starts at or before the offset. -/
theorem ctx_lineStart_le (p : Str) (i : Nat) : lineStart p i ≤ i := lineStart_le p i

/-- Line start plus (column - 1) is the offset: line/column identify a position in the pattern. -/
theorem ctx_position (p : Str) (i : Nat) (hi : i ≤ p.length) :
    lineStart p i + ((getPatternContext p i).2.2 - 1) = i ∧ i ≤ p.length := by
  have := lineStart_le p i
  rw [ctx_col p i hi]; omega

theorem ctx_col_pos (p : Str) (i : Nat) (hi : i ≤ p.length) :
    1 ≤ (getPatternContext p i).2.2 := by
  rw [ctx_col p i hi]; omega

theorem ctx_line_pos (p : Str) (i : Nat) (hi : i ≤ p.length) :
    1 ≤ (getPatternContext p i).2.1 := by
  rw [ctx_line p i hi]; omega

/-- The reported line is one of the pattern's lines. -/
theorem ctx_line_le (p : Str) (i : Nat) (hi : i ≤ p.length) :
    (getPatternContext p i).2.1 ≤ numLines p := by
  rw [ctx_line p i hi, numLines_eq, breaksBefore]
  have := List.length_filter_le (· ≤ i) (breakEnds p)
  omega

/-- What happens when the offset points at the `\n` of a `\r\n` pair: that pair ends at `i + 1`,
    no break unit ends at `i`, so the offset is on the SAME line as the `\r` before it, one
    column further. -/
theorem ctx_crlf (p : Str) (i : Nat) (hi : i ≤ p.length) (hc : inCrLf p i = true) :
    i ∉ breakEnds p ∧ i + 1 ∈ breakEnds p ∧
    (getPatternContext p i).2.1 = (getPatternContext p (i - 1)).2.1 ∧
    (getPatternContext p i).2.2 = (getPatternContext p (i - 1)).2.2 + 1 := by
  rw [← inner_splitLines] at hc
  have hpos := (splitLines_chain p).inner_pos hc
  obtain ⟨h1, h2⟩ := (splitLines_chain p).inner_ends hc
  have hf := filter_le_pred h1
  have hls : lineStart p i = lineStart p (i - 1) := by unfold lineStart; rw [hf]
  have hle := lineStart_le p (i - 1)
  refine ⟨h1, h2, ?_, ?_⟩
  · rw [ctx_line p i hi, ctx_line p (i - 1) (by omega)]
    unfold breaksBefore; rw [hf]
  · rw [ctx_col p i hi, ctx_col p (i - 1) (by omega), hls]; omega

/-! ## Part A: the context block -/

/-- The context is the block the property describes (`Spec.Ctx.expectedContext`): the pattern's
    lines without their line-break units, joined by `\n`; the line of the offset prefixed by
    `--> ` and every other line by four spaces (no prefix at all when the pattern has a single
    line); after the marked line one extra line of spaces and `^`.  The caret stands after
    `4 + col - 1` spaces (`col - 1` in the single-line case), i.e. under column `col` of the
    marked line -- EXCEPT when the offset points at the `\n` of a `\r\n` pair, where it stands
    one column to the left (`4 + col - 1 - 1` spaces). -/
theorem ctx_text (p : Str) (i : Nat) (hi : i ≤ p.length) :
    (getPatternContext p i).1 = expectedContext p i := by
  rw [ctx_eq p i hi]

/-- `ctx_text` spelled out, single-line pattern (no line break at all): the pattern, a newline,
    `col - 1` spaces, `^`; line 1. -/
theorem ctx_single (p : Str) (i : Nat) (hb : breakEnds p = []) :
    getPatternContext p i = (p ++ [10] ++ caretLine i, 1, i + 1) :=
  gpc_single p i hb

/-- `ctx_text` spelled out, pattern with a line break: the marked line is line number
    `breaksBefore p i` (0-based) of `lines p`, and the caret line has `4 + col - 1` spaces, one
    less at the `\n` of a `\r\n` pair. -/
theorem ctx_caret (p : Str) (i : Nat) (hi : i ≤ p.length) (hb : breakEnds p ≠ []) :
    getPatternContext p i =
      (joinWith [10] (render
          (caretLine (4 + (i - lineStart p i + 1) - 1 - (if inCrLf p i then 1 else 0)))
          (breaksBefore p i) (lines p)),
        1 + breaksBefore p i, i - lineStart p i + 1) :=
  gpc_multi p i hi hb

/-- The marked line exists: `render` marks line `breaksBefore p i`, which is `< numLines p`. -/
theorem ctx_marked_exists (p : Str) (i : Nat) : breaksBefore p i < (lines p).length := by
  have := numLines_eq p
  unfold numLines at this
  rw [this, breaksBefore]
  have := List.length_filter_le (· ≤ i) (breakEnds p)
  omega

/-- The offset at the very end of the pattern (where the library once reported line 1, column 1
    and no caret).  It is on the LAST line, its column is the length of the last line plus one, it is
    never inside a `\r\n` pair, and the context is the regular block with the caret under that
    column. -/
theorem ctx_end_offset (p : Str) :
    getPatternContext p p.length =
      (expectedContext p p.length, numLines p, p.length - lineStart p p.length + 1) ∧
    inCrLf p p.length = false := by
  have hbb : breaksBefore p p.length = (breakEnds p).length := by
    rw [breaksBefore, breakEnds_filter_self]
  refine ⟨?_, by simp [inCrLf]⟩
  rw [ctx_eq p p.length (Nat.le_refl _), hbb, Nat.add_comm, ← numLines_eq]

/-! ### Part A: concrete instances (non-vacuity) -/

/-- `get_pattern_context('ab\ncd', 5)`: end of a two-line pattern -> line 2, column 3,
    caret under column 3 of `--> cd`. -/
example : getPatternContext [97, 98, 10, 99, 100] 5 =
    ([32, 32, 32, 32, 97, 98, 10, 45, 45, 62, 32, 99, 100, 10, 32, 32, 32, 32, 32, 32, 94],
      2, 3) := by decide +kernel
example : breaksBefore [97, 98, 10, 99, 100] 5 = 1 ∧ lineStart [97, 98, 10, 99, 100] 5 = 3 ∧
    numLines [97, 98, 10, 99, 100] = 2 ∧
    expectedContext [97, 98, 10, 99, 100] 5 =
      [32, 32, 32, 32, 97, 98, 10, 45, 45, 62, 32, 99, 100, 10, 32, 32, 32, 32, 32, 32, 94] := by
  decide
/-- End offset right after a trailing line break: the (empty) last line is marked. -/
example : getPatternContext [97, 10] 2 =
    ([32, 32, 32, 32, 97, 10, 45, 45, 62, 32, 10, 32, 32, 32, 32, 94], 2, 1) := by decide +kernel
/-- `ab\r\ncd`, offset 3 = the `\n` of the pair: still line 1, column 4, caret one to the left
    (under column 3, i.e. after `4 + 4 - 1 - 1 = 6` spaces); offset 2 = the `\r`: column 3. -/
example : inCrLf [97, 98, 13, 10, 99, 100] 3 = true ∧
    getPatternContext [97, 98, 13, 10, 99, 100] 3 =
      ([45, 45, 62, 32, 97, 98, 10, 32, 32, 32, 32, 32, 32, 94, 10, 32, 32, 32, 32, 99, 100],
        1, 4) ∧
    getPatternContext [97, 98, 13, 10, 99, 100] 2 =
      ([45, 45, 62, 32, 97, 98, 10, 32, 32, 32, 32, 32, 32, 94, 10, 32, 32, 32, 32, 99, 100],
        1, 3) := by decide +kernel
/-- Lone `\r` is a line break of its own; single-line pattern and empty pattern. -/
example : getPatternContext [97, 13, 98] 2 =
    ([32, 32, 32, 32, 97, 10, 45, 45, 62, 32, 98, 10, 32, 32, 32, 32, 94], 2, 1) := by decide +kernel
example : getPatternContext [97, 98, 99] 3 = ([97, 98, 99, 10, 32, 32, 32, 94], 1, 4) := by decide +kernel
example : getPatternContext [] 0 = ([10, 94], 1, 1) := by decide +kernel
example : breakEnds [97, 13, 10, 13, 10, 10, 13] = [3, 5, 6, 7] ∧
    lines [97, 13, 10, 13, 10, 10, 13] = [[97], [], [], [], []] ∧
    splitLines [97, 13, 10, 13] = [(0, 1, 3), (3, 3, 4), (4, 4, 4)] := by decide +kernel

/-! ## Part B: termination -/

/-- Every one of the fifteen token regexes consumes at least one character. -/
theorem pretty_tokens_advance (env : PrettyEnv) :
    ∀ tok ∈ tokens, ∀ (s : Str) (i j : Nat), tok.scan env s i = some j → i < j :=
  tokens_advance env

/-- The measure `len(sel) - index` of the `while` loop strictly decreases in every iteration:
    by a token match (first part) and by the pass-through branch (second part). -/
theorem pretty_measure_decreases (env : PrettyEnv) (s : Str) (i : Nat) (h : i < s.length) :
    (∀ name j, firstMatch env s i = some (name, j) → s.length - j < s.length - i) ∧
    s.length - (i + 1) < s.length - i := by
  refine ⟨fun name j hm => ?_, by omega⟩
  have := firstMatch_advance hm
  omega

/-- `prettyLoop` is a total function (accepted by well-founded recursion on
    `len(sel) - index`, no fuel) that satisfies the equations of the Python loop: stop when
    `index > end`; on a token match append the token's piece and continue at `m.end(0)` with the
    new indent; otherwise copy one character and continue at `index + 1`. -/
theorem pretty_terminates (env : PrettyEnv) (s : Str) (i : Nat) (indent : Int) :
    (¬ i < s.length → prettyLoop env s i indent = []) ∧
    (∀ name j, i < s.length → firstMatch env s i = some (name, j) →
      prettyLoop env s i indent =
        (tokenOutput name (Pretty.slice s i j) indent).1 ++
          prettyLoop env s j (tokenOutput name (Pretty.slice s i j) indent).2) ∧
    (∀ h : i < s.length, firstMatch env s i = none →
      prettyLoop env s i indent = s[i] :: prettyLoop env s (i + 1) indent) :=
  ⟨prettyLoop_done env s i indent,
   fun name j h hm => prettyLoop_tok env s i indent name j h hm,
   fun h hm => prettyLoop_fallback env s i indent h hm⟩

/-! ## Part B: the output is the input up to whitespace -/

/-- Per token: the piece appended to `output` and the consumed text `sel[index:m.end(0)]` are
    equal once whitespace is deleted. -/
theorem pretty_piece_ws (env : PrettyEnv)
    (hws : env.isSpace 32 = true ∧ env.isSpace 10 = true)
    (s : Str) (i : Nat) (name : TokKind) (j : Nat) (indent : Int)
    (hm : firstMatch env s i = some (name, j)) :
    stripWs env (tokenOutput name (Pretty.slice s i j) indent).1
      = stripWs env (Pretty.slice s i j) :=
  firstMatch_ws hws.1 hws.2 indent hm

/-- Deleting whitespace from `pretty(sel)` gives `sel` with its whitespace deleted, for every
    string `sel` (in particular for the `repr` of every compiled selector) and every environment
    whose `\s` contains the two characters the printer inserts. -/
theorem pretty_roundtrip (env : PrettyEnv) (s : Str)
    (hws : env.isSpace 32 = true ∧ env.isSpace 10 = true) :
    stripWs env (pretty env s) = stripWs env s := by
  have := prettyLoop_ws hws.1 hws.2 s 0 0
  simpa [pretty] using this

/-! ### Part B: concrete instances (non-vacuity) -/

/-- The hypothesis of `pretty_roundtrip` holds for both shipped environments. -/
example : (asciiEnv.isSpace 32 = true ∧ asciiEnv.isSpace 10 = true) ∧
    (pyEnv.isSpace 32 = true ∧ pyEnv.isSpace 10 = true) := by decide +kernel

/-- Some token matches (`pretty_tokens_advance` is not vacuous), in dictionary order. -/
example : firstMatch asciiEnv [97, 98, 40, 49, 44, 32, 120, 41] 0 = some (.cls, 3) ∧
    firstMatch asciiEnv [97, 98, 40, 49, 44, 32, 120, 41] 3 = some (.int, 4) ∧
    firstMatch asciiEnv [97, 98, 40, 49, 44, 32, 120, 41] 4 = some (.sep, 6) ∧
    firstMatch asciiEnv [97, 98, 40, 49, 44, 32, 120, 41] 6 = none ∧
    firstMatch asciiEnv [97, 98, 40, 49, 44, 32, 120, 41] 7 = some (.tend, 8) := by decide +kernel

/-- `pretty('ab(1, x)') == 'ab(\n    1,\n    x)'`: a class token, an int, a separator, the
    pass-through branch (`x` alone is no token) and a closing token. -/
theorem pretty_example :
    pretty asciiEnv [97, 98, 40, 49, 44, 32, 120, 41] =
      [97, 98, 40, 10, 32, 32, 32, 32, 49, 44, 10, 32, 32, 32, 32, 120, 41] := by
  unfold pretty
  rw [prettyLoop_tok _ _ 0 _ .cls 3 (by decide) (by decide)]
  rw [prettyLoop_tok _ _ 3 _ .int 4 (by decide) (by decide)]
  rw [prettyLoop_tok _ _ 4 _ .sep 6 (by decide) (by decide)]
  rw [prettyLoop_fallback _ _ 6 _ (by decide) (by decide)]
  rw [prettyLoop_tok _ _ 7 _ .tend 8 (by decide) (by decide)]
  rw [prettyLoop_done _ _ 8 _ (by decide)]
  decide

example : stripWs asciiEnv [97, 98, 40, 10, 32, 32, 32, 32, 49, 44, 10, 32, 32, 32, 32, 120, 41]
    = stripWs asciiEnv [97, 98, 40, 49, 44, 32, 120, 41] := by decide +kernel

end C20
end SoupVerif
