/-
  C18 — `:in-range` / `:out-of-range`: a min, max or value string counts as valid exactly when
  it is a valid HTML date, month, week, time, local date-time or number string
  (proleptic-Gregorian days per month including leap years, ISO-8601 week counts (52 or 53) for
  every year of four or more digits, hours 0-23, minutes 0-59); valid values are compared in
  calendar/numeric order.

  Model: `SoupVerif.Model.Inputs` (transcription of `css_match.Inputs`).
  Spec : `SoupVerif.Spec.Calendar` (first-principles calendar; no formula shared with the model).

  All statements quantify over unbounded `Nat` years (below 1000 and above 9999 included).

  KNOWN FINDING (pinned by the repository's own tests): `Inputs.maxWeek y` is 53 also when
  31 December of `y` is a Monday, Tuesday or Wednesday, i.e. lies in ISO week 1 of `y+1`
  (e.g. 2019).  The full-strength week statement is therefore FALSE on this tree; see
  `week_valid` (comment), `week_valid_false`, `maxWeek_char`, `week_valid_partial`.
-/
import SoupVerif.Lemmas.Calendar
import SoupVerif.Lemmas.C18Inputs
import SoupVerif.Lemmas.C18Num

namespace SoupVerif
namespace C18
open Inputs

/-- Days: for a real month, a day number is accepted exactly when it exists in that month of
    that year (proleptic Gregorian, leap years included). -/
theorem day_valid (y m d : Nat) (h1 : 1 ≤ m) (h12 : m ≤ 12) :
    Inputs.validateDay y m d = true ↔ 1 ≤ d ∧ d ≤ Spec.daysInMonth y m := by
  have hm : m = 1 ∨ m = 2 ∨ m = 3 ∨ m = 4 ∨ m = 5 ∨ m = 6 ∨ m = 7 ∨ m = 8 ∨ m = 9 ∨ m = 10 ∨
      m = 11 ∨ m = 12 := by omega
  -- the month-length table of the code is the calendar's
  have e : (if m == 2 then (if Inputs.isLeap y then 29 else 28)
      else if m == 4 || m == 6 || m == 9 || m == 11 then 30 else 31) = Spec.daysInMonth y m := by
    rw [Inputs.isLeap_eq]
    rcases hm with rfl | rfl | rfl | rfl | rfl | rfl | rfl | rfl | rfl | rfl | rfl | rfl <;> rfl
  unfold Inputs.isLeap at e
  show (decide (1 ≤ d) && decide (d ≤ _)) = true ↔ _
  rw [e, Bool.and_eq_true, decide_eq_true_eq, decide_eq_true_eq]

/-- Outside `1..12` the code treats the month as a 31-day month (never reached by `parseValue`,
    which checks `validateMonth` first). -/
theorem day_valid_bad_month (y m d : Nat) (h : m = 0 ∨ 13 ≤ m) :
    Inputs.validateDay y m d = true ↔ 1 ≤ d ∧ d ≤ 31 := by
  have h2 : ¬ (m == 2) = true := by simp; omega
  have h30 : ¬ (m == 4 || m == 6 || m == 9 || m == 11) = true := by simp; omega
  simp [Inputs.validateDay, h2, h30]

theorem month_valid (m : Nat) : Inputs.validateMonth m = true ↔ 1 ≤ m ∧ m ≤ 12 := by
  simp [Inputs.validateMonth]

theorem year_valid (y : Nat) : Inputs.validateYear y = true ↔ 1 ≤ y := by
  simp [Inputs.validateYear]

theorem hour_valid (h : Nat) : Inputs.validateHour h = true ↔ h ≤ 23 := by
  simp [Inputs.validateHour]

theorem minutes_valid (m : Nat) : Inputs.validateMinutes m = true ↔ m ≤ 59 := by
  simp [Inputs.validateMinutes]

/-- Every year ≥ 1 has 52 or 53 ISO weeks. -/
theorem isoWeeks_52_or_53 (y : Nat) (h : 1 ≤ y) :
    Spec.isoWeeksInYear y = 52 ∨ Spec.isoWeeksInYear y = 53 :=
  Spec.isoWeeksInYear_52_or_53 y h

/-- The ISO week count is 400-year periodic, so "every year of four or more digits" reduces
    to one Gregorian cycle. -/
theorem isoWeeks_period (y : Nat) (h : 1 ≤ y) :
    Spec.isoWeeksInYear (y + 400) = Spec.isoWeeksInYear y := Spec.isoWeeksInYear_period y h

/-- Long years: 1 January is a Thursday, or a leap year starting on a Wednesday. -/
theorem isoWeeks_53_iff (y : Nat) (h : 1 ≤ y) :
    Spec.isoWeeksInYear y = 53 ↔
      Spec.weekday (Spec.dayNumber y 1 1) = 4 ∨
        (Spec.leap y = true ∧ Spec.weekday (Spec.dayNumber y 1 1) = 3) :=
  Spec.isoWeeksInYear_53_iff_jan1 y h

/-- The model's `dec31` really is the weekday of 31 December. -/
theorem dec31_is_weekday (y : Nat) (h : 1 ≤ y) :
    Inputs.dec31 y = Spec.weekday (Spec.dayNumber y 12 31) := Inputs.dec31_eq y h

/-- "31 December lies in ISO week 1 of the next year" is "31 December is Mon, Tue or Wed". -/
theorem dec31InNextWeek1_iff (y : Nat) (h : 1 ≤ y) :
    Spec.dec31InNextWeek1 y ↔ Spec.weekday (Spec.dayNumber y 12 31) ≤ 3 :=
  Spec.dec31InNextWeek1_iff y h

/-- Exact behaviour of the code: the maximum accepted week is the true ISO week count, except
    that 53 is also accepted when 31 December lies in ISO week 1 of the following year. -/
theorem maxWeek_char (y : Nat) (h : 1 ≤ y) :
    Inputs.maxWeek y = if Spec.dec31InNextWeek1 y then 53 else Spec.isoWeeksInYear y := by
  have h53 := Spec.isoWeeksInYear_53_iff_dec31 y h
  have h52 := Spec.isoWeeksInYear_52_or_53 y h
  have hn := Spec.dec31InNextWeek1_iff y h
  have hw : 1 ≤ Spec.weekday (Spec.dayNumber y 12 31) ∧ Spec.weekday (Spec.dayNumber y 12 31) ≤ 7 := by
    simp only [Spec.weekday]; omega
  unfold Inputs.maxWeek
  rw [Inputs.dec31_eq y h, Inputs.isLeap_eq]
  generalize Spec.weekday (Spec.dayNumber y 12 31) = w at *
  by_cases hx : Spec.dec31InNextWeek1 y
  · have : w ≤ 3 := hn.1 hx
    have h4 : w ≤ 4 := by omega
    simp [hx, h4]
  · have h3 : ¬ w ≤ 3 := fun h' => hx (hn.2 h')
    simp only [hx, if_false]
    cases hl : Spec.leap y
    · simp only [hl, Bool.false_eq_true, false_and, or_false] at h53
      simp only [Bool.and_false, Bool.or_false, decide_eq_true_eq]
      split <;> omega
    · simp only [hl, true_and] at h53
      simp only [Bool.and_true, Bool.or_eq_true, decide_eq_true_eq, beq_iff_eq]
      split <;> omega

/-- The same, phrased with the weekday of 31 December. -/
theorem maxWeek_char_weekday (y : Nat) (h : 1 ≤ y) :
    Inputs.maxWeek y =
      if Spec.weekday (Spec.dayNumber y 12 31) ≤ 3 then 53 else Spec.isoWeeksInYear y := by
  simp only [maxWeek_char y h, Spec.dec31InNextWeek1_iff y h]

/-
  FULL-STRENGTH STATEMENT — FALSE ON THIS TREE (known finding, pinned by the repository's tests):

  theorem week_valid (y w : Nat) (h : 1 ≤ y) :
      Inputs.validateWeek y w = true ↔ 1 ≤ w ∧ w ≤ Spec.isoWeeksInYear y

  Witness: year 2019 has 52 ISO weeks (31 December 2019 is a Tuesday, in week 1 of 2020) but the
  code accepts week 53.
-/
example : Inputs.validateWeek 2019 53 = true ∧ Spec.isoWeeksInYear 2019 = 52 :=
  ⟨by decide, Spec.isoWeeksInYear_of_fast (by decide) (by decide)⟩
example : Inputs.validateWeek 2019 53 = true ∧ Spec.isoWeeksInYear 2019 = 52 :=
  ⟨by decide, Spec.isoWeeksInYear_of_fast (by decide) (by decide)⟩

/-- The negation of the full-strength statement, from the witness (2019, 53). -/
theorem week_valid_false :
    ¬ ∀ y w : Nat, 1 ≤ y →
      (Inputs.validateWeek y w = true ↔ 1 ≤ w ∧ w ≤ Spec.isoWeeksInYear y) := by
  intro h
  have h1 : Inputs.validateWeek 2019 53 = true := by decide
  have h2 : Spec.isoWeeksInYear 2019 = 52 := Spec.isoWeeksInYear_of_fast (by decide) (by decide)
  have := (h 2019 53 (by omega)).1 h1
  omega

/-- What the code accepts as a week of year `y`: the ISO weeks of `y`, and 53 when 31 December lies in week 1 of the
    next year (such a year has 52 weeks). -/
theorem validateWeek_iff (y w : Nat) (h : 1 ≤ y) :
    Inputs.validateWeek y w = true ↔
      1 ≤ w ∧ (w ≤ Spec.isoWeeksInYear y ∨ (Spec.dec31InNextWeek1 y ∧ w = 53)) := by
  have h52 := Spec.isoWeeksInYear_52_or_53 y h
  unfold Inputs.validateWeek
  rw [maxWeek_char y h]
  by_cases hx : Spec.dec31InNextWeek1 y
  · have := Spec.isoWeeksInYear_of_dec31InNextWeek1 y h hx
    simp only [hx, if_true, Bool.and_eq_true, decide_eq_true_eq, true_and]; omega
  · simp only [hx, if_false, Bool.and_eq_true, decide_eq_true_eq, false_and, or_false]

/-- Weeks, outside the known finding: whenever it is not the case that 31 December lies in
    week 1 of the next year *and* the week asked about is 53, the code accepts exactly the ISO
    weeks of the year. -/
theorem week_valid_partial (y w : Nat) (h : 1 ≤ y)
    (hg : ¬ (Spec.dec31InNextWeek1 y ∧ w = 53)) :
    Inputs.validateWeek y w = true ↔ 1 ≤ w ∧ w ≤ Spec.isoWeeksInYear y := by
  rw [validateWeek_iff y w h, or_iff_left hg]

/-- The guard of `week_valid_partial` is exact: the code agrees with ISO 8601 on *all* weeks of
    year `y` iff 31 December of `y` does not lie in week 1 of the next year. -/
theorem week_finding_exact (y : Nat) (h : 1 ≤ y) :
    (∀ w, Inputs.validateWeek y w = true ↔ 1 ≤ w ∧ w ≤ Spec.isoWeeksInYear y) ↔
      ¬ Spec.dec31InNextWeek1 y := by
  constructor
  · intro hall hx
    have h52 := Spec.isoWeeksInYear_of_dec31InNextWeek1 y h hx
    have := (hall 53).1 ((validateWeek_iff y 53 h).2 ⟨by omega, Or.inr ⟨hx, rfl⟩⟩)
    omega
  · intro hx w
    exact week_valid_partial y w h (fun hh => hx hh.1)

/-- The code never rejects a genuine ISO week. -/
theorem week_valid_never_rejects_valid (y w : Nat) (h : 1 ≤ y) (h1 : 1 ≤ w)
    (h2 : w ≤ Spec.isoWeeksInYear y) : Inputs.validateWeek y w = true :=
  (validateWeek_iff y w h).2 ⟨h1, Or.inl h2⟩

/-- The code never accepts a week number above 53 (nor 0), for any year whatsoever. -/
theorem week_valid_max53 (y w : Nat) (h : Inputs.validateWeek y w = true) : 1 ≤ w ∧ w ≤ 53 := by
  unfold Inputs.validateWeek Inputs.maxWeek at h
  simp only [Bool.and_eq_true, decide_eq_true_eq] at h
  split at h <;> omega

/-- The only week the code can wrongly accept is 53, and only in a 52-week year. -/
theorem week_valid_overaccepts_only_53 (y w : Nat) (h : 1 ≤ y)
    (hv : Inputs.validateWeek y w = true) (hw : ¬ (1 ≤ w ∧ w ≤ Spec.isoWeeksInYear y)) :
    w = 53 ∧ Spec.isoWeeksInYear y = 52 ∧ Spec.dec31InNextWeek1 y := by
  obtain ⟨h1, h2 | ⟨hx, rfl⟩⟩ := (validateWeek_iff y w h).1 hv
  · exact absurd ⟨h1, h2⟩ hw
  · exact ⟨rfl, Spec.isoWeeksInYear_of_dec31InNextWeek1 y h hx, hx⟩

/-- `type=date`: accepted exactly for `YYYY…-MM-DD` shapes denoting a real calendar day. -/
theorem parse_date_valid (s : Str) (v : PVal) :
    Inputs.parseValue "date".toStr s = some v ↔
      ∃ y m d, Inputs.shapeDate s = some (y, m, d) ∧ 1 ≤ y ∧ 1 ≤ m ∧ m ≤ 12 ∧
        1 ≤ d ∧ d ≤ Spec.daysInMonth y m ∧ v = .ints [y, m, d] := by
  unfold Inputs.parseValue
  simp only [beq_self_eq_true, if_true]
  cases hs : Inputs.shapeDate s with
  | none => simp
  | some p =>
    obtain ⟨y, m, d⟩ := p
    simp only [ite_some_eq_some, Bool.and_eq_true, year_valid, month_valid, Option.some.injEq, Prod.mk.injEq]
    constructor
    · rintro ⟨⟨⟨hy, hm⟩, hd⟩, hv⟩
      rw [day_valid y m d hm.1 hm.2] at hd
      exact ⟨y, m, d, ⟨rfl, rfl, rfl⟩, hy, hm.1, hm.2, hd.1, hd.2, hv⟩
    · rintro ⟨_, _, _, ⟨rfl, rfl, rfl⟩, hy, hm1, hm2, hd1, hd2, hv⟩
      exact ⟨⟨⟨hy, hm1, hm2⟩, (day_valid y m d hm1 hm2).2 ⟨hd1, hd2⟩⟩, hv⟩

/-- `type=date` against the declarative grammar: valid HTML date strings, and only those. -/
theorem parse_date_spec (s : Str) (v : PVal) :
    Inputs.parseValue "date".toStr s = some v ↔
      ∃ y m d, Spec.validDateStr s y m d ∧ v = .ints [y, m, d] := by
  simp only [parse_date_valid, Inputs.shapeDate_iff, Spec.validDateStr, Spec.validDate, and_assoc]

theorem parse_month_valid (s : Str) (v : PVal) :
    Inputs.parseValue "month".toStr s = some v ↔
      ∃ y m, Inputs.shapeMonth s = some (y, m) ∧ 1 ≤ y ∧ 1 ≤ m ∧ m ≤ 12 ∧ v = .ints [y, m] := by
  unfold Inputs.parseValue
  simp only [keyword_ne, beq_self_eq_true, if_true, Bool.false_eq_true, if_false]
  cases hs : Inputs.shapeMonth s with
  | none => simp
  | some p =>
    obtain ⟨y, m⟩ := p
    simp only [ite_some_eq_some, Bool.and_eq_true, year_valid, month_valid, Option.some.injEq, Prod.mk.injEq]
    constructor
    · rintro ⟨⟨hy, hm⟩, hv⟩; exact ⟨y, m, ⟨rfl, rfl⟩, hy, hm.1, hm.2, hv⟩
    · rintro ⟨_, _, ⟨rfl, rfl⟩, hy, hm1, hm2, hv⟩; exact ⟨⟨hy, hm1, hm2⟩, hv⟩

theorem parse_month_spec (s : Str) (v : PVal) :
    Inputs.parseValue "month".toStr s = some v ↔
      ∃ y m, Spec.validMonthStr s y m ∧ v = .ints [y, m] := by
  simp only [parse_month_valid, Inputs.shapeMonth_iff, Spec.validMonthStr, and_assoc]

/-- `type=week`: exact behaviour of the code, in terms of `maxWeek` (see `maxWeek_char`). -/
theorem parse_week_char (s : Str) (v : PVal) :
    Inputs.parseValue "week".toStr s = some v ↔
      ∃ y w, Inputs.shapeWeek s = some (y, w) ∧ 1 ≤ y ∧ 1 ≤ w ∧ w ≤ Inputs.maxWeek y ∧
        v = .ints [y, w] := by
  unfold Inputs.parseValue
  simp only [keyword_ne, beq_self_eq_true, if_true, Bool.false_eq_true, if_false]
  cases hs : Inputs.shapeWeek s with
  | none => simp
  | some p =>
    obtain ⟨y, w⟩ := p
    simp only [ite_some_eq_some, Bool.and_eq_true, year_valid, Inputs.validateWeek, decide_eq_true_eq,
      Option.some.injEq, Prod.mk.injEq]
    constructor
    · rintro ⟨⟨hy, hw⟩, hv⟩; exact ⟨y, w, ⟨rfl, rfl⟩, hy, hw.1, hw.2, hv⟩
    · rintro ⟨_, _, ⟨rfl, rfl⟩, hy, hw1, hw2, hv⟩; exact ⟨⟨hy, hw1, hw2⟩, hv⟩

/-
  FULL-STRENGTH STATEMENT — FALSE ON THIS TREE (same known finding as `week_valid`):

  theorem parse_week_spec (s : Str) (v : PVal) :
      Inputs.parseValue "week".toStr s = some v ↔ ∃ y w, Spec.validWeekStr s y w ∧ v = .ints [y, w]

  Witness below: "2019-W53" is accepted although 2019 has 52 ISO weeks.
-/
example : Inputs.parseValue "week".toStr "2019-W53".toStr = some (.ints [2019, 53]) ∧
    Spec.isoWeeksInYear 2019 = 52 :=
  ⟨by decide_lit, Spec.isoWeeksInYear_of_fast (by decide) (by decide)⟩

/-- `type=week`, outside the known finding: if the string does not ask for week 53 of a year
    whose 31 December lies in week 1 of the next year, it is accepted exactly when it is a valid
    HTML week string (ISO 8601 week count of that year). -/
theorem parse_week_valid_partial (s : Str) (v : PVal)
    (hg : ∀ y, Inputs.shapeWeek s = some (y, 53) → ¬ Spec.dec31InNextWeek1 y) :
    Inputs.parseValue "week".toStr s = some v ↔
      ∃ y w, Spec.validWeekStr s y w ∧ v = .ints [y, w] := by
  rw [parse_week_char]
  simp only [Spec.validWeekStr, ← Inputs.shapeWeek_iff]
  constructor
  · rintro ⟨y, w, hs, hy, hw1, hw2, rfl⟩
    have hv : Inputs.validateWeek y w = true := by simp [Inputs.validateWeek, hw1, hw2]
    have hgd : ¬ (Spec.dec31InNextWeek1 y ∧ w = 53) := by
      rintro ⟨hx, rfl⟩; exact hg y hs hx
    have := (week_valid_partial y w hy hgd).1 hv
    exact ⟨y, w, ⟨hs, hy, this.1, this.2⟩, rfl⟩
  · rintro ⟨y, w, ⟨hs, hy, hw1, hw2⟩, rfl⟩
    have hv := week_valid_never_rejects_valid y w hy hw1 hw2
    simp only [Inputs.validateWeek, Bool.and_eq_true, decide_eq_true_eq] at hv
    exact ⟨y, w, hs, hy, hv.1, hv.2, rfl⟩

/-- Valid HTML week strings are never rejected (no guard needed). -/
theorem parse_week_never_rejects_valid (s : Str) (y w : Nat) (h : Spec.validWeekStr s y w) :
    Inputs.parseValue "week".toStr s = some (.ints [y, w]) := by
  rw [parse_week_char]
  obtain ⟨hs, hy, hw1, hw2⟩ := h
  have hv := week_valid_never_rejects_valid y w hy hw1 hw2
  simp only [Inputs.validateWeek, Bool.and_eq_true, decide_eq_true_eq] at hv
  exact ⟨y, w, (Inputs.shapeWeek_iff _ _ _).2 hs, hy, hv.1, hv.2, rfl⟩

/-- `type=time`: hours 0-23, minutes 0-59. -/
theorem parse_time_valid (s : Str) (v : PVal) :
    Inputs.parseValue "time".toStr s = some v ↔
      ∃ h mi, Inputs.shapeTime s = some (h, mi) ∧ h ≤ 23 ∧ mi ≤ 59 ∧ v = .ints [h, mi] := by
  unfold Inputs.parseValue
  simp only [keyword_ne, beq_self_eq_true, if_true,
    Bool.false_eq_true, if_false]
  cases hs : Inputs.shapeTime s with
  | none => simp
  | some p =>
    obtain ⟨h, mi⟩ := p
    simp only [ite_some_eq_some, Bool.and_eq_true, hour_valid, minutes_valid, Option.some.injEq, Prod.mk.injEq]
    constructor
    · rintro ⟨⟨hh, hm⟩, hv⟩; exact ⟨h, mi, ⟨rfl, rfl⟩, hh, hm, hv⟩
    · rintro ⟨_, _, ⟨rfl, rfl⟩, hh, hm, hv⟩; exact ⟨⟨hh, hm⟩, hv⟩

theorem parse_time_spec (s : Str) (v : PVal) :
    Inputs.parseValue "time".toStr s = some v ↔
      ∃ h mi, Spec.validTimeStr s h mi ∧ v = .ints [h, mi] := by
  simp only [parse_time_valid, Inputs.shapeTime_iff, Spec.validTimeStr, and_assoc]

theorem parse_datetime_valid (s : Str) (v : PVal) :
    Inputs.parseValue "datetime-local".toStr s = some v ↔
      ∃ y m d h mi, Inputs.shapeDateTime s = some (y, m, d, h, mi) ∧ 1 ≤ y ∧ 1 ≤ m ∧ m ≤ 12 ∧
        1 ≤ d ∧ d ≤ Spec.daysInMonth y m ∧ h ≤ 23 ∧ mi ≤ 59 ∧ v = .ints [y, m, d, h, mi] := by
  unfold Inputs.parseValue
  simp only [keyword_ne, beq_self_eq_true, if_true,
    Bool.false_eq_true, if_false]
  cases hs : Inputs.shapeDateTime s with
  | none => simp
  | some p =>
    obtain ⟨y, m, d, h, mi⟩ := p
    simp only [ite_some_eq_some, Bool.and_eq_true, year_valid, month_valid, hour_valid, minutes_valid,
      Option.some.injEq, Prod.mk.injEq]
    constructor
    · rintro ⟨⟨⟨⟨⟨hy, hm⟩, hd⟩, hh⟩, hmi⟩, hv⟩
      rw [day_valid y m d hm.1 hm.2] at hd
      exact ⟨y, m, d, h, mi, ⟨rfl, rfl, rfl, rfl, rfl⟩, hy, hm.1, hm.2, hd.1, hd.2, hh, hmi, hv⟩
    · rintro ⟨_, _, _, _, _, ⟨rfl, rfl, rfl, rfl, rfl⟩, hy, hm1, hm2, hd1, hd2, hh, hmi, hv⟩
      exact ⟨⟨⟨⟨⟨hy, hm1, hm2⟩, (day_valid y m d hm1 hm2).2 ⟨hd1, hd2⟩⟩, hh⟩, hmi⟩, hv⟩

theorem parse_datetime_spec (s : Str) (v : PVal) :
    Inputs.parseValue "datetime-local".toStr s = some v ↔
      ∃ y m d h mi, Spec.validDateTimeStr s y m d h mi ∧ v = .ints [y, m, d, h, mi] := by
  simp only [parse_datetime_valid, Inputs.shapeDateTime_iff, Spec.validDateTimeStr, Spec.validDate, and_assoc]

/-- `type=number` and `type=range` are exactly the `RE_NUM` scanner. -/
theorem parse_number (s : Str) :
    Inputs.parseValue "number".toStr s = Inputs.shapeNum s ∧
    Inputs.parseValue "range".toStr s = Inputs.shapeNum s := by
  unfold Inputs.parseValue
  simp only [keyword_ne, beq_self_eq_true, if_true, Bool.false_eq_true, if_false, Bool.or_true, Bool.true_or,
    and_self]

/-- `type=number` / `type=range` against the declarative grammar: accepted exactly for valid
    HTML floating-point number strings (`-?(digits(.digits)?|.digits)([eE][-+]?digits)?`), and
    the value is the exact decimal `(-1)^neg · mant · 10^exp` the string denotes. -/
theorem parse_number_spec (s : Str) (v : PVal) :
    (Inputs.parseValue "number".toStr s = some v ↔
      ∃ neg mant exp, Spec.numShape s neg mant exp ∧ v = .num neg mant exp) ∧
    (Inputs.parseValue "range".toStr s = some v ↔
      ∃ neg mant exp, Spec.numShape s neg mant exp ∧ v = .num neg mant exp) := by
  have key : Inputs.shapeNum s = some v ↔
      ∃ neg mant exp, Spec.numShape s neg mant exp ∧ v = .num neg mant exp := by
    constructor
    · intro h
      obtain ⟨neg, mant, exp, rfl⟩ := Inputs.shapeNum_some_num s v h
      exact ⟨neg, mant, exp, (Inputs.shapeNum_iff _ _ _ _).1 h, rfl⟩
    · rintro ⟨neg, mant, exp, h, rfl⟩
      exact (Inputs.shapeNum_iff _ _ _ _).2 h
  rw [(parse_number s).1, (parse_number s).2]
  exact ⟨key, key⟩

/-- Any other `type` never yields a value (so such inputs are never in or out of range). -/
theorem parse_other_type (t s : Str)
    (h : ∀ k ∈ ["date", "month", "week", "time", "datetime-local", "number", "range"],
      t ≠ k.toStr) :
    Inputs.parseValue t s = none := by
  simp only [List.mem_cons, List.not_mem_nil, or_false, forall_eq_or_imp, forall_eq, ← beq_eq_false_iff_ne] at h
  unfold Inputs.parseValue
  simp only [h, Bool.false_eq_true, if_false, Bool.or_false]

theorem ltInts_irrefl (l : List Nat) : Inputs.ltInts l l = false := Inputs.ltInts_irrefl l

theorem ltInts_trans (a b c : List Nat) (h1 : Inputs.ltInts a b = true)
    (h2 : Inputs.ltInts b c = true) : Inputs.ltInts a c = true := Inputs.ltInts_trans h1 h2

theorem ltInts_asymm (a b : List Nat) (h : Inputs.ltInts a b = true) :
    Inputs.ltInts b a = false := Inputs.ltInts_asymm h

/-- Totality (in particular on equal-length tuples, the only ones `match_range` compares). -/
theorem ltInts_total (a b : List Nat) (_h : a.length = b.length) :
    Inputs.ltInts a b = true ∨ a = b ∨ Inputs.ltInts b a = true := Inputs.ltInts_total a b

/-- Dates are compared in calendar order: tuple `<` is `<` on day numbers. -/
theorem order_date_mono (y1 m1 d1 y2 m2 d2 : Nat)
    (v1 : Spec.validDate y1 m1 d1) (v2 : Spec.validDate y2 m2 d2) :
    Inputs.ltInts [y1, m1, d1] [y2, m2, d2] = true ↔
      Spec.dayNumber y1 m1 d1 < Spec.dayNumber y2 m2 d2 := by
  rw [Inputs.ltInts3, Spec.dayNumber_lt_iff_lex v1 v2]

/-- Equal day numbers only for equal dates: the comparison loses nothing. -/
theorem order_date_inj (y1 m1 d1 y2 m2 d2 : Nat)
    (v1 : Spec.validDate y1 m1 d1) (v2 : Spec.validDate y2 m2 d2)
    (h : Spec.dayNumber y1 m1 d1 = Spec.dayNumber y2 m2 d2) : [y1, m1, d1] = [y2, m2, d2] := by
  obtain ⟨rfl, rfl, rfl⟩ := Spec.dayNumber_inj v1 v2 h; rfl

/-- Months are compared in calendar order. -/
theorem order_month_mono (y1 m1 y2 m2 : Nat) (a1 : 1 ≤ m1) (b1 : m1 ≤ 12) (a2 : 1 ≤ m2)
    (b2 : m2 ≤ 12) :
    Inputs.ltInts [y1, m1] [y2, m2] = true ↔ y1 * 12 + m1 < y2 * 12 + m2 := by
  rw [Inputs.ltInts2]; omega

/-- Times of day are compared in order of minutes since midnight. -/
theorem order_time_mono (h1 i1 h2 i2 : Nat) (b1 : i1 ≤ 59) (b2 : i2 ≤ 59) :
    Inputs.ltInts [h1, i1] [h2, i2] = true ↔ h1 * 60 + i1 < h2 * 60 + i2 := by
  rw [Inputs.ltInts2]; omega

/-- Local date-times are compared in order of absolute minutes. -/
theorem order_datetime_mono (y1 m1 d1 h1 i1 y2 m2 d2 h2 i2 : Nat)
    (v1 : Spec.validDate y1 m1 d1) (v2 : Spec.validDate y2 m2 d2)
    (hh1 : h1 ≤ 23) (hi1 : i1 ≤ 59) (hh2 : h2 ≤ 23) (hi2 : i2 ≤ 59) :
    Inputs.ltInts [y1, m1, d1, h1, i1] [y2, m2, d2, h2, i2] = true ↔
      Spec.dayNumber y1 m1 d1 * 1440 + h1 * 60 + i1 <
        Spec.dayNumber y2 m2 d2 * 1440 + h2 * 60 + i2 := by
  -- a date-time is a date followed by a time of day of less than 1440 minutes
  have hd : [y1, m1, d1] = [y2, m2, d2] ↔ Spec.dayNumber y1 m1 d1 = Spec.dayNumber y2 m2 d2 :=
    ⟨fun h => by injection h with a h; injection h with b h; injection h with c; rw [a, b, c],
      order_date_inj _ _ _ _ _ _ v1 v2⟩
  show Inputs.ltInts ([y1, m1, d1] ++ [h1, i1]) ([y2, m2, d2] ++ [h2, i2]) = true ↔ _
  rw [Inputs.ltInts_append (a := [y1, m1, d1]) (b := [y2, m2, d2]) [h1, i1] [h2, i2] rfl,
    order_date_mono _ _ _ _ _ _ v1 v2, order_time_mono _ _ _ _ hi1 hi2, hd]
  omega

/-- Genuine ISO weeks are compared in calendar order: by the day number of their Monday. -/
theorem order_week_mono (y1 w1 y2 w2 : Nat) (hy1 : 1 ≤ y1) (hy2 : 1 ≤ y2)
    (a1 : 1 ≤ w1) (b1 : w1 ≤ Spec.isoWeeksInYear y1)
    (a2 : 1 ≤ w2) (b2 : w2 ≤ Spec.isoWeeksInYear y2) :
    Inputs.ltInts [y1, w1] [y2, w2] = true ↔
      Spec.week1Monday y1 + 7 * (w1 - 1) < Spec.week1Monday y2 + 7 * (w2 - 1) := by
  rw [Inputs.ltInts2]
  rcases Nat.lt_trichotomy y1 y2 with h | rfl | h
  · have := Spec.week1Monday_next hy1 h; omega
  · omega
  · have := Spec.week1Monday_next hy2 h; omega

/-- Numbers are compared by value, whatever common scale is used: for every exponent `k` below
    both exponents, comparing the integers `±mant·10^(exp-k)` agrees with `ltP`.
    (`numVal n m e k` is the exact decimal `±m·10^e` scaled by `10^(-k)`.) -/
theorem ltP_num_spec (n1 : Bool) (m1 : Nat) (e1 : Int) (n2 : Bool) (m2 : Nat) (e2 : Int)
    (k : Int) (hk1 : k ≤ e1) (hk2 : k ≤ e2) :
    Inputs.numVal n1 m1 e1 k < Inputs.numVal n2 m2 e2 k ↔
      Inputs.ltP (.num n1 m1 e1) (.num n2 m2 e2) = true := by
  have hb : k ≤ min e1 e2 := by omega
  have hb1 : min e1 e2 ≤ e1 := by omega
  have hb2 : min e1 e2 ≤ e2 := by omega
  have hpos : (0 : Int) < 10 ^ (min e1 e2 - k).toNat := Int.pow_pos (by decide)
  simp only [Inputs.ltP, decide_eq_true_eq]
  rw [Inputs.numVal_rescale n1 m1 e1 (min e1 e2) k hb hb1,
    Inputs.numVal_rescale n2 m2 e2 (min e1 e2) k hb hb2]
  exact Int.mul_lt_mul_right hpos

/-- For integers written without exponent, `ltP` is the usual order on integers. -/
theorem ltP_num_int (n1 : Bool) (m1 : Nat) (n2 : Bool) (m2 : Nat) :
    Inputs.ltP (.num n1 m1 0) (.num n2 m2 0) = true ↔
      (if n1 then -(m1 : Int) else m1) < (if n2 then -(m2 : Int) else m2) := by
  simp [Inputs.ltP, Inputs.numVal]

theorem ltP_ints (a b : List Nat) : Inputs.ltP (.ints a) (.ints b) = Inputs.ltInts a b := rfl

example : Inputs.parseValue "date".toStr "2024-02-29".toStr = some (.ints [2024, 2, 29]) := by decide_lit
example : Inputs.parseValue "date".toStr "2023-02-29".toStr = none := by decide_lit
example : Inputs.parseValue "date".toStr "1900-02-29".toStr = none := by decide_lit
example : Inputs.parseValue "date".toStr "2000-02-29".toStr = some (.ints [2000, 2, 29]) := by decide_lit
example : Inputs.parseValue "date".toStr "0000-01-01".toStr = none := by decide_lit
example : Inputs.parseValue "date".toStr "0999-04-30".toStr = some (.ints [999, 4, 30]) := by decide_lit
example : Inputs.parseValue "date".toStr "0999-04-31".toStr = none := by decide_lit
example : Inputs.parseValue "date".toStr "10000-12-31".toStr = some (.ints [10000, 12, 31]) := by decide_lit
example : Inputs.parseValue "date".toStr "999-04-30".toStr = none := by decide_lit
example : Inputs.parseValue "month".toStr "2024-13".toStr = none := by decide_lit
example : Inputs.parseValue "month".toStr "2024-12".toStr = some (.ints [2024, 12]) := by decide_lit
example : Inputs.parseValue "time".toStr "23:59".toStr = some (.ints [23, 59]) := by decide_lit
example : Inputs.parseValue "time".toStr "24:00".toStr = none := by decide_lit
example : Inputs.parseValue "time".toStr "12:60".toStr = none := by decide_lit
example : Inputs.parseValue "datetime-local".toStr "2024-02-29T23:59".toStr =
    some (.ints [2024, 2, 29, 23, 59]) := by decide +kernel
example : Inputs.parseValue "datetime-local".toStr "2023-02-29T23:59".toStr = none := by decide_lit
-- weeks: long years 2015, 2020 (leap, starts on Wednesday); short year 2021; years 0999, 10000
example : Inputs.parseValue "week".toStr "2020-W53".toStr = some (.ints [2020, 53]) := by decide_lit
example : Spec.isoWeeksInYear 2020 = 53 ∧ Spec.isoWeeksInYear 2015 = 53 :=
  ⟨Spec.isoWeeksInYear_of_fast (by decide) (by decide),
   Spec.isoWeeksInYear_of_fast (by decide) (by decide)⟩
example : Inputs.parseValue "week".toStr "2021-W53".toStr = none := by decide_lit
example : Spec.isoWeeksInYear 2021 = 52 := Spec.isoWeeksInYear_of_fast (by decide) (by decide)
example : Inputs.parseValue "week".toStr "0997-W52".toStr = some (.ints [997, 52]) := by decide_lit
example : Inputs.parseValue "week".toStr "0997-W53".toStr = none := by decide_lit
example : Spec.isoWeeksInYear 997 = 52 ∧ ¬ Spec.dec31InNextWeek1 997 :=
  ⟨Spec.isoWeeksInYear_of_fast (by decide) (by decide),
   Spec.not_dec31InNextWeek1_of_fast (by decide) (by decide)⟩
example : Inputs.parseValue "week".toStr "0995-W53".toStr = some (.ints [995, 53]) := by decide_lit
example : Spec.isoWeeksInYear 995 = 53 := Spec.isoWeeksInYear_of_fast (by decide) (by decide)
-- the known finding again, below year 1000: 31 December 999 is a Tuesday
example : Inputs.parseValue "week".toStr "0999-W53".toStr = some (.ints [999, 53]) ∧
    Spec.isoWeeksInYear 999 = 52 ∧ Spec.dec31InNextWeek1 999 :=
  ⟨by decide +kernel, Spec.isoWeeksInYear_of_fast (by decide) (by decide),
   Spec.dec31InNextWeek1_of_fast (by decide) (by decide)⟩
-- years of more than four digits: 10000 is a 52-week year, 10004 a 53-week year
example : Spec.isoWeeksInYear 10000 = 52 ∧ ¬ Spec.dec31InNextWeek1 10000 ∧
    Spec.isoWeeksInYear 10004 = 53 :=
  ⟨Spec.isoWeeksInYear_of_fast (by decide) (by decide),
   Spec.not_dec31InNextWeek1_of_fast (by decide) (by decide),
   Spec.isoWeeksInYear_of_fast (by decide) (by decide)⟩
example : Inputs.parseValue "week".toStr "10000-W52".toStr = some (.ints [10000, 52]) := by decide_lit
example : Inputs.parseValue "week".toStr "10000-W53".toStr = none := by decide_lit
example : Inputs.parseValue "week".toStr "10004-W53".toStr = some (.ints [10004, 53]) := by decide_lit
example : Inputs.parseValue "week".toStr "2024-W00".toStr = none := by decide_lit
example : Inputs.parseValue "week".toStr "2024-W54".toStr = none := by decide_lit
example : Inputs.parseValue "number".toStr "-1.5e3".toStr = some (.num true 15 2) := by decide_lit
example : Inputs.parseValue "number".toStr ".5".toStr = some (.num false 5 (-1)) := by decide_lit
example : Inputs.parseValue "number".toStr "1.".toStr = none := by decide_lit
example : Inputs.parseValue "range".toStr "1e".toStr = none := by decide_lit
example : Inputs.parseValue "text".toStr "5".toStr = none := by decide_lit
example : Spec.numShape "-1.5e3".toStr true 15 2 :=
  (Inputs.shapeNum_iff _ _ _ _).1 (by decide +kernel)
example : ¬ ∃ neg mant exp, Spec.numShape "1.".toStr neg mant exp := by
  rintro ⟨neg, mant, exp, h⟩
  have h1 := (Inputs.shapeNum_iff _ _ _ _).2 h
  have h2 : Inputs.shapeNum "1.".toStr = none := by decide_lit
  rw [h2] at h1; cases h1
-- hypotheses of the conditional theorems are satisfiable
example : Spec.validDate 2024 2 29 ∧ Spec.validDate 1 1 1 ∧ ¬ Spec.validDate 2023 2 29 := by
  decide_lit
example : Spec.dec31InNextWeek1 2019 ∧ ¬ Spec.dec31InNextWeek1 2020 :=
  ⟨Spec.dec31InNextWeek1_of_fast (by decide) (by decide),
   Spec.not_dec31InNextWeek1_of_fast (by decide) (by decide)⟩
example : ¬ (Spec.dec31InNextWeek1 2020 ∧ 53 = 53) ∧ ¬ (Spec.dec31InNextWeek1 2019 ∧ 52 = 53) :=
  ⟨fun h => Spec.not_dec31InNextWeek1_of_fast (y := 2020) (by decide) (by decide) h.1,
   fun h => absurd h.2 (by decide)⟩
example : Spec.validWeekStr "2020-W53".toStr 2020 53 :=
  ⟨(Inputs.shapeWeek_iff _ _ _).1 (by decide +kernel), by decide, by decide,
    Nat.le_of_eq (Spec.isoWeeksInYear_of_fast (by decide) (by decide)).symm⟩
example : Spec.validDateStr "2024-02-29".toStr 2024 2 29 :=
  ⟨(Inputs.shapeDate_iff _ _ _ _).1 (by decide +kernel), by decide⟩
example : Inputs.ltP (.ints [2024, 2, 29]) (.ints [2024, 3, 1]) = true := by decide +kernel
example : Spec.dayNumber 2024 2 29 + 1 = Spec.dayNumber 2024 3 1 := by
  rw [Spec.dayNumber_closed _ _ _ (by decide), Spec.dayNumber_closed _ _ _ (by decide)]; decide
example : Inputs.ltP (.num true 15 2) (.num false 5 (-1)) = true := by decide +kernel
example : Inputs.ltP (.num false 1 1) (.num false 99 (-1)) = false := by decide +kernel
example : Inputs.ltP (.num false 99 (-1)) (.num false 1 1) = true := by decide +kernel
-- the Monday anchor: 2026-09-29 is a Tuesday, 0001-01-01 a Monday
example : Spec.weekday (Spec.dayNumber 2026 9 29) = 2 ∧ Spec.weekday (Spec.dayNumber 1 1 1) = 1 :=
  ⟨Spec.weekday_dayNumber_of_fast (by decide) (by decide), by decide⟩

/-! ### Recorded finding: seconds and the space separator

`Spec.validTimeStr` / `Spec.validDateTimeStr` are the `HH:MM` and `…T HH:MM` forms, which is what the property's wording lists
("hours 0-23, minutes 0-59") and what the code accepts.  HTML's valid time string also allows `:SS` and `:SS.sss`, and its valid
local date and time string one space instead of `T`.  The code treats those strings as INVALID (never as another value); the
witnesses below are the known finding `time-with-seconds-or-space-separator` of `known_findings.json`. -/
theorem time_with_seconds_rejected :
    Inputs.parseValue "time".toStr "10:00:00".toStr = none ∧
    Inputs.parseValue "time".toStr "10:00:00.5".toStr = none ∧
    Inputs.parseValue "datetime-local".toStr "2020-01-01 10:00".toStr = none := by decide_lit

end C18
end SoupVerif
