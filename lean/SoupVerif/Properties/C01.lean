/-
  C01 — select() returns exactly the elements CSS designates.
  (first group of theorems: what may be an element, a parent, an ancestor)
-/
import SoupVerif.Model.Api
import SoupVerif.Lemmas.TreeWalk
import SoupVerif.Lemmas.List
namespace SoupVerif.C01
open SoupVerif

/-- `select` only ever returns element descendants of the call target, in document order:
    the result is a sublist of the pre-order list of descendants. -/
theorem select_sublist (c : Ctx) (sel : SelList) (tag : Loc) (limit : Int) :
    (selectIn c sel tag limit).Sublist (c.tagDescendants tag false) := by
  unfold selectIn
  split
  · exact List.filter_sublist
  · exact (List.take_sublist _ _).trans List.filter_sublist

/-- Everything `select` returns matches, is an element and is not the document object. -/
theorem select_sound (c : Ctx) (sel : SelList) (tag : Loc) (limit : Int) (l : Loc)
    (h : l ∈ selectIn c sel tag limit) : matchEl c sel l = true ∧ l.isTag = true ∧ l.isDoc = false := by
  have hm : matchEl c sel l = true := by
    unfold selectIn at h
    split at h
    · exact (List.mem_filter.mp h).2
    · exact (List.mem_filter.mp ((List.take_sublist _ _).subset h)).2
  exact ⟨hm, matchEl_true c sel l hm⟩

/-- With no limit, `select` is complete: every matching element descendant is returned. -/
theorem select_complete (c : Ctx) (sel : SelList) (tag : Loc) (limit : Int) (hl : limit < 1) (l : Loc)
    (hd : l ∈ c.tagDescendants tag false) (hm : matchEl c sel l = true) : l ∈ selectIn c sel tag limit := by
  unfold selectIn; simp [hl, List.mem_filter, hd, hm]

/-- The document object is never an element for the child combinator. -/
theorem doc_never_parent (c : Ctx) (l p : Loc) (on : Loc → Bool)
    (hp : c.parent l c.iframeRestrict = some p) (hdoc : p.isDoc = true) :
    relationWalk c l .child on = false := by
  simp [relationWalk, hp, hdoc]

/-- ... nor for the descendant combinator: the ancestor walk stops below the document object. -/
theorem doc_never_ancestor (c : Ctx) (l : Loc) (on : Loc → Bool) :
    relationWalk c l .desc on = true →
      ∃ p ∈ c.ancestors l c.iframeRestrict, p.isDoc = false ∧ on p = true := by
  intro h
  simp only [relationWalk, List.any_eq_true] at h
  obtain ⟨p, hp, hon⟩ := h
  refine ⟨p, (List.takeWhile_sublist _).subset hp, ?_, hon⟩
  have := mem_takeWhile_p _ _ _ hp
  simpa using this

/-- `match` refuses the document object and every non-element. -/
theorem match_refuses_doc (c : Ctx) (sel : SelList) (l : Loc) (h : l.isDoc = true) : matchEl c sel l = false :=
  Bool.eq_false_iff.mpr fun hm => Bool.noConfusion (h.symm.trans (matchEl_true c sel l hm).2)

theorem match_refuses_strings (c : Ctx) (sel : SelList) (l : Loc) (h : l.isTag = false) : matchEl c sel l = false :=
  Bool.eq_false_iff.mpr fun hm => Bool.noConfusion (h.symm.trans (matchEl_true c sel l hm).1)

end SoupVerif.C01
