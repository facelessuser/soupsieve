/-
  C17 — the text scan of `dir=auto` (`find_bidi`) is local to the element's own document.

  `find_bidi(el)` iterates `self.get_children(el, no_iframe=True)` (fix 3d120b6); the model is
  `findBidi c l = if c.locIsIframe l then none else findBidiKids c l.focus.kids` (Model/Match.lean).
  An iframe element has no scanned text (`findBidi_iframe`), a child named `iframe` is skipped without being entered
  (`findBidiKids_skip_iframe`), and the scan of a child list depends only on what lies OUTSIDE iframe contents
  (`findBidiKids_outside`: child lists that are `EqOutL`, equal except below elements named `iframe` at any depth,
  give the same result; `findBidi_replace_iframe_content` for one replaced iframe content).

  The name test is the model's (`c.tagName e = "iframe"`, the `name in (…, 'iframe')` of the source);
  `isIframe_tagName` relates it to `is_iframe`.
-/
import SoupVerif.Model.Match
import SoupVerif.Lemmas.StrLit
namespace SoupVerif.C17Dir
open SoupVerif

variable (c : Ctx)

/-- `find_bidi(el)` of an iframe element is `None`: `get_children(el, no_iframe=True)` is empty. -/
theorem findBidi_iframe (l : Loc) (h : c.locIsIframe l = true) : findBidi c l = none := by
  unfold findBidi; rw [if_pos h]

/-- The same, on the element: whatever the children `kids` (the embedded document) are. -/
theorem findBidi_iframe_elem (e : Elem) (kids : List Node) (up : List Frame) (h : c.isIframe e = true) :
    findBidi c ⟨.elem e kids, up⟩ = none :=
  findBidi_iframe c _ (by simpa [Ctx.locIsIframe, Loc.elem?, Node.elem?] using h)

/-- Otherwise it is the scan of the children. -/
theorem findBidi_not_iframe (l : Loc) (h : c.locIsIframe l = false) :
    findBidi c l = findBidiKids c l.focus.kids := by
  unfold findBidi; rw [h]; rfl

/-- `is_iframe(el)` implies the name test of `find_bidi`. -/
theorem isIframe_tagName (e : Elem) (h : c.isIframe e = true) : c.tagName e = "iframe".toStr := by
  unfold Ctx.isIframe at h
  unfold Ctx.tagName
  cases hx : c.isXml <;> simp [hx] at h ⊢ <;> exact h.1

/-- `iframe` is one of the names whose element `find_bidi` does not enter. -/
theorem skips_iframe (e : Elem) (b₁ b₂ : Bool) (h : c.tagName e = "iframe".toStr) :
    (["bdi", "script", "style", "textarea", "iframe"].any (fun t => t.toStr == c.tagName e) || b₁ || b₂) = true := by
  rw [h, show (["bdi", "script", "style", "textarea", "iframe"].any fun t => t.toStr == "iframe".toStr) = true by
    decide_lit]
  rfl

/-- A child named `iframe` is skipped; its subtree `sub` is not looked at. -/
theorem findBidiKids_skip_iframe (e : Elem) (sub ks : List Node) (h : c.tagName e = "iframe".toStr) :
    findBidiKids c (.elem e sub :: ks) = findBidiKids c ks := by
  rw [findBidiKids]
  exact if_pos (skips_iframe c e _ _ h)

theorem findBidiKids_skip_isIframe (e : Elem) (sub ks : List Node) (h : c.isIframe e = true) :
    findBidiKids c (.elem e sub :: ks) = findBidiKids c ks :=
  findBidiKids_skip_iframe c e sub ks (isIframe_tagName c e h)

mutual
/-- Two nodes are equal outside iframe contents: the same string node; or the same element with
    children equal outside iframe contents; or the same element named `iframe` with ANY children. -/
inductive EqOut (c : Ctx) : Node → Node → Prop
  | str (k : StrKind) (s : Str) : EqOut c (.str k s) (.str k s)
  | iframe (e : Elem) (sub sub' : List Node) : c.tagName e = "iframe".toStr →
      EqOut c (.elem e sub) (.elem e sub')
  | elem (e : Elem) (sub sub' : List Node) : EqOutL c sub sub' → EqOut c (.elem e sub) (.elem e sub')
/-- Pointwise `EqOut` on child lists. -/
inductive EqOutL (c : Ctx) : List Node → List Node → Prop
  | nil : EqOutL c [] []
  | cons (k k' : Node) (ks ks' : List Node) : EqOut c k k' → EqOutL c ks ks' →
      EqOutL c (k :: ks) (k' :: ks')
end

/-- The scan depends only on what lies outside iframe contents. -/
theorem findBidiKids_outside (ks : List Node) :
    ∀ ks', EqOutL c ks ks' → findBidiKids c ks = findBidiKids c ks' := by
  fun_induction findBidiKids c ks with
  | case1 => intro ks' h; cases h; rw [findBidiKids]
  | case2 ks e sub direction name hcond ih =>
    intro ks' h
    cases h with
    | cons _ k' _ ks'' hk hks =>
      have key : ∀ sub', findBidiKids c (.elem e sub' :: ks'') = findBidiKids c ks'' := by
        intro sub'; rw [findBidiKids]; exact if_pos hcond
      cases hk with
      | iframe _ _ sub' _ => rw [key]; exact ih _ hks
      | elem _ _ sub' _ => rw [key]; exact ih _ hks
  | case3 ks e sub direction name hcond v hv ih1 =>
    intro ks' h
    cases h with
    | cons _ k' _ ks'' hk hks =>
      cases hk with
      | iframe _ _ sub' hn => exact absurd (skips_iframe c e _ _ hn) hcond
      | elem _ _ sub' hsub =>
        rw [findBidiKids]
        refine ((if_neg hcond).trans ?_).symm
        rw [← ih1 _ hsub, hv]
  | case4 ks e sub direction name hcond hn ih1 ih2 =>
    intro ks' h
    cases h with
    | cons _ k' _ ks'' hk hks =>
      cases hk with
      | iframe _ _ sub' hnm => exact absurd (skips_iframe c e _ _ hnm) hcond
      | elem _ _ sub' hsub =>
        rw [findBidiKids]
        refine ((if_neg hcond).trans ?_).symm
        rw [← ih1 _ hsub, hn]
        exact (ih2 _ hks).symm
  | case5 ks kind s hk ih =>
    intro ks' h
    cases h with
    | cons _ k' _ ks'' hk' hks =>
      cases hk'
      rw [findBidiKids]
      simp only [hk, if_true]
      exact ih _ hks
  | case6 ks kind s hk v hv =>
    intro ks' h
    cases h with
    | cons _ k' _ ks'' hk' hks =>
      cases hk'
      rw [findBidiKids]
      simp only [hk, hv, Bool.false_eq_true, if_false]
  | case7 ks kind s hk hn ih =>
    intro ks' h
    cases h with
    | cons _ k' _ ks'' hk' hks =>
      cases hk'
      rw [findBidiKids]
      simp only [hk, hn, Bool.false_eq_true, if_false]
      exact ih _ hks

/-- `find_bidi(el)` at an element: the result does not depend on the content of iframes, neither on
    the content of `el` when `el` is itself an iframe (first alternative) nor on the content of
    iframes among its descendants (second alternative). The position of the element plays no role. -/
theorem findBidi_outside (e : Elem) (kids kids' : List Node) (up up' : List Frame)
    (h : c.isIframe e = true ∨ EqOutL c kids kids') :
    findBidi c ⟨.elem e kids, up⟩ = findBidi c ⟨.elem e kids', up'⟩ := by
  rcases h with h | h
  · rw [findBidi_iframe_elem c e kids up h, findBidi_iframe_elem c e kids' up' h]
  · unfold findBidi
    have : ∀ ks u, c.locIsIframe ⟨.elem e ks, u⟩ = c.isIframe e := fun _ _ => rfl
    rw [this, this]
    cases c.isIframe e with
    | true => rfl
    | false => exact findBidiKids_outside c kids kids' h

mutual
theorem EqOut.refl : ∀ n : Node, EqOut c n n
  | .str k s => .str k s
  | .elem e sub => .elem e sub sub (EqOutL.refl sub)
theorem EqOutL.refl : ∀ ks : List Node, EqOutL c ks ks
  | [] => .nil
  | k :: ks => .cons k k ks ks (EqOut.refl k) (EqOutL.refl ks)
end

/-- An element for which `is_iframe` holds, with any two contents. -/
theorem EqOut.of_isIframe (e : Elem) (sub sub' : List Node) (h : c.isIframe e = true) :
    EqOut c (.elem e sub) (.elem e sub') :=
  .iframe e sub sub' (isIframe_tagName c e h)

theorem EqOutL.replace (pre post : List Node) (k k' : Node) (h : EqOut c k k') :
    EqOutL c (pre ++ k :: post) (pre ++ k' :: post) := by
  induction pre with
  | nil => exact .cons k k' post post h (EqOutL.refl c post)
  | cons p pre ih => exact .cons p p _ _ (EqOut.refl c p) ih

/-- A path of element children from a child list down to one node: at each level the siblings to the
    left, the element entered, the siblings to the right. -/
abbrev Path := List (List Node × Elem × List Node)

/-- The child list obtained by putting node `n` at the end of the path. -/
def plugKids : Path → List Node → List Node → Node → List Node
  | [], pre, post, n => pre ++ n :: post
  | (pre', e, post') :: rest, pre, post, n => pre' ++ .elem e (plugKids rest pre post n) :: post'

theorem EqOutL.plug (path : Path) (pre post : List Node) (k k' : Node) (h : EqOut c k k') :
    EqOutL c (plugKids path pre post k) (plugKids path pre post k') := by
  induction path with
  | nil => exact EqOutL.replace c pre post k k' h
  | cons f rest ih =>
    obtain ⟨pre', e, post'⟩ := f
    exact EqOutL.replace c pre' post' _ _ (.elem e _ _ ih)

/-- Replacing the content `sub` of an iframe that sits anywhere below `el`
    (at the end of any path of element children) by any other content `sub'` does not change
    `find_bidi(el)`: the direction of `dir=auto` is computed from the element's own document. -/
theorem findBidi_replace_iframe_content (el : Elem) (up : List Frame) (path : Path)
    (pre post : List Node) (fr : Elem) (sub sub' : List Node) (h : c.isIframe fr = true) :
    findBidi c ⟨.elem el (plugKids path pre post (.elem fr sub)), up⟩ =
    findBidi c ⟨.elem el (plugKids path pre post (.elem fr sub')), up⟩ :=
  findBidi_outside c el _ _ up up
    (.inr (EqOutL.plug c path pre post _ _ (EqOut.of_isIframe c fr sub sub' h)))

end SoupVerif.C17Dir
