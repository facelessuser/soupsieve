/-
  C01 — "select() returns exactly the elements CSS semantics designate"
  (second group of theorems: the matcher on the parser's IR against the meaning of selectors).

  Specification : `Spec/Css.lean` (`sat`, `satTop`, `selectSpec`; the sets `parentElem`,
                  `ancestorElems`, `precedingElemSiblings`, `followingElemSiblings`, `childElems`,
                  `descendantElems`), `Spec/CssValue.lean` (`valTest`: the string predicates).
  Compiler      : `Spec/CssCompile.lean` (`compileComplex`, `compileTop`, `compileList` — the IR the
                  parser builds; `renderComplex`, `renderList` — canonical text for the
                  differential check against the real parser).
  Model         : `matchSel`, `matchEl`, `selectIn` (Model/Match.lean, Model/Api.lean).

  Covered: the whole C01 grammar — type / universal / id / class / attribute selectors
  (all seven operators, flags `i`/`s`), the four combinators, lists, `:not` / `:is` (`:where`,
  `:matches`) / `:has` (nested, complex, relative), `:root`, `:empty`, `:first/last/only-child`,
  `:first/last/only-of-type`.

  The hypotheses of `match_eq_sat` are exactly the places where the Python code can differ from the
  CSS reading:
    * `c.iframeRestrict = false`     (it is set only inside the HTML-only built-in lists)
    * `x.wf`                         (`#` + empty id, `:not()` cannot be written in CSS)
    * case-insensitive attribute comparisons need `c.env.fold = lowerCp`: `re.IGNORECASE` folds
      more than ASCII (`[a="k" i]` matches the value `"K"`, KELVIN SIGN)
    * `:root` needs `RootAgrees c T`: the matcher's root is "the element `CSSMatch.__init__`
      found (or a child of an `iframe` in HTML) with no element / non-blank text / CDATA sibling",
      the specification's is "an element with no parent element".
-/
import SoupVerif.Lemmas.SatMain
import SoupVerif.Lemmas.SatAll
import SoupVerif.Lemmas.SatRoot
import SoupVerif.Properties.C01Attr
import SoupVerif.Properties.C01
import SoupVerif.Spec.CssHas
import SoupVerif.Lemmas.StrLit
namespace SoupVerif
namespace C01Sat
open Css SatTree SatCore SatLeaf SatMain SatRoot

/-- The regular-expression templates mean the string predicates (Properties/C01Attr). -/
theorem templatesOk (env : CharEnv) : TemplatesOk env :=
  fun op v s ic h => C01Attr.attrPattern_sem env op v s ic h

/-- For any set of locations `P` closed under parent and children steps: if every simple selector
    occurring in `x` satisfies its side condition `Good c P` (see `SatMain.Good`), the matcher on
    the compiled selector decides the meaning of `x`, at every element of `P`. -/
theorem match_eq_sat_gen (c : Ctx) (P : Loc → Prop) (hP : Closed P)
    (hifr : c.iframeRestrict = false) (x : Complex) (hx : x.All (Good c P))
    (l : Loc) (e : Elem) (kids : List Node) (hf : l.focus = .elem e kids) (hl : P l) :
    matchSel c l e (compileComplex x) = sat c l x :=
  complex_ok hP hifr (templatesOk c.env) x hx l e kids hf hl .none

/-- The side conditions from checkable ones. -/
theorem good_of (c : Ctx) (T : Loc) (x : Complex) (hwf : x.wf = true)
    (hfold : x.caseSensitiveIn c = true ∨ c.env.fold = lowerCp)
    (hroot : x.noRoot = true ∨ RootAgrees c T) :
    x.All (Good c (fun l => l.top = T)) := by
  have h1 := Complex.All.of_all x hwf
  have h2 := Complex.All.of_all_or x hfold
  have h3 := Complex.All.of_all_or x hroot
  refine Complex.All.imp ?_ x (Complex.All.and x h1 (Complex.All.and x h2 h3))
  intro s ⟨hw, hf, hr⟩
  cases s with
  | id v => simpa [Good, Simple.wfLeaf] using hw
  | neg L =>
    simp only [Good]
    intro h; subst h
    simp [Simple.wfLeaf] at hw
  | attr ns name test =>
    cases test with
    | none => trivial
    | some t =>
      simp only [Good]
      intro hci
      rcases hf with hf | hf
      · simp [Simple.caseSensitiveIn, hci] at hf
      · exact hf
  | root =>
    simp only [Good]
    rcases hr with hr | hr
    · simp [Simple.isRoot] at hr
    · exact hr
  | cls _ | is _ | has _ | empty | firstChild | lastChild | onlyChild | firstOfType | lastOfType
  | onlyOfType => trivial

/-- **C01, main theorem.**  On every element `l` of the tree with top `T`, the matcher applied to
    the IR of `x` (as compiled inside a pseudo-class: no implied `*`) returns exactly the meaning of
    `x`.  (`e.isDoc = false` is not needed: `matchSel` itself never looks at it — `matchEl` does.) -/
theorem match_eq_sat (c : Ctx) (hifr : c.iframeRestrict = false)
    (x : Complex) (hwf : x.wf = true)
    (hfold : x.caseSensitiveIn c = true ∨ c.env.fold = lowerCp)
    (T : Loc) (hroot : x.noRoot = true ∨ RootAgrees c T)
    (l : Loc) (e : Elem) (kids : List Node) (hf : l.focus = .elem e kids) (hT : l.top = T) :
    matchSel c l e (compileComplex x) = sat c l x :=
  match_eq_sat_gen c _ (closed_top T) hifr x (good_of c T x hwf hfold hroot) l e kids hf hT

/-- Without `:root` no hypothesis about the tree is left. -/
theorem match_eq_sat_noroot (c : Ctx) (hifr : c.iframeRestrict = false)
    (x : Complex) (hwf : x.wf = true)
    (hfold : x.caseSensitiveIn c = true ∨ c.env.fold = lowerCp) (hnr : x.noRoot = true)
    (l : Loc) (e : Elem) (kids : List Node) (hf : l.focus = .elem e kids) :
    matchSel c l e (compileComplex x) = sat c l x :=
  match_eq_sat c hifr x hwf hfold l.top (Or.inl hnr) l e kids hf rfl

/-- Top-level form: with the implied `*`. -/
theorem match_eq_satTop (c : Ctx) (hifr : c.iframeRestrict = false)
    (x : Complex) (hwf : x.wf = true)
    (hfold : x.caseSensitiveIn c = true ∨ c.env.fold = lowerCp)
    (T : Loc) (hroot : x.noRoot = true ∨ RootAgrees c T)
    (l : Loc) (e : Elem) (kids : List Node) (hf : l.focus = .elem e kids) (hT : l.top = T) :
    matchSel c l e (compileTop x) = satTop c l x := by
  unfold compileTop satTop
  apply match_eq_sat c hifr x.withImplied _ _ T _ l e kids hf hT
  · unfold Complex.wf; rw [Complex.withImplied_all]; exact hwf
  · unfold Complex.caseSensitiveIn; rw [Complex.withImplied_all]; exact hfold
  · unfold Complex.noRoot; rw [Complex.withImplied_all]; exact hroot

/-- `match(el)` for a compiled top-level list. -/
theorem matchEl_eq (c : Ctx) (hifr : c.iframeRestrict = false) (L : List Complex)
    (hwf : ∀ x ∈ L, x.wf = true)
    (hfold : (∀ x ∈ L, x.caseSensitiveIn c = true) ∨ c.env.fold = lowerCp)
    (T : Loc) (hroot : (∀ x ∈ L, x.noRoot = true) ∨ RootAgrees c T)
    (l : Loc) (hel : isElem l = true) (hT : l.top = T) :
    matchEl c (compileList L) l = (!l.isDoc && L.any (satTop c l)) := by
  obtain ⟨e, kids, hf⟩ := isElem_focus hel
  unfold matchEl compileList Loc.isDoc
  simp only [hf]
  rw [matchList_pos]
  simp only [Bool.not_false, Bool.true_or, Bool.true_and, Bool.false_eq_true, if_false]
  rw [matchAny_eq_any, List.any_map]
  congr 1
  apply any_congr_mem
  intro x hx
  exact match_eq_satTop c hifr x (hwf x hx)
    (hfold.elim (fun h => Or.inl (h x hx)) Or.inr) T
    (hroot.elim (fun h => Or.inl (h x hx)) Or.inr) l e kids hf hT

/-- **`select` is exact.**  Without a limit, `select` returns — in document order — exactly the
    descendant elements of `tag` that the selector list designates: no more and no fewer. -/
theorem select_exact (c : Ctx) (hifr : c.iframeRestrict = false) (L : List Complex)
    (hwf : ∀ x ∈ L, x.wf = true)
    (hfold : (∀ x ∈ L, x.caseSensitiveIn c = true) ∨ c.env.fold = lowerCp)
    (tag : Loc) (hroot : (∀ x ∈ L, x.noRoot = true) ∨ RootAgrees c tag.top)
    (limit : Int) (hlim : limit < 1) :
    selectIn c (compileList L) tag limit = selectSpec c L tag := by
  unfold selectIn selectSpec
  simp only [hlim, if_true]
  rw [ctx_tagDescendants_false]
  apply List.filter_congr
  intro d hd
  have hel : isElem d = true := rightOf_isElem .desc tag d hd
  have hT : d.top = tag.top := (closed_top tag.top).rightOf .desc tag d rfl hd
  exact matchEl_eq c hifr L hwf hfold tag.top hroot d hel hT

/-- **The API entry point** `SoupSieve.select(tag, limit)` (`Model/Api.lean`), which builds its own
    matcher context with `CSSMatch.__init__` (`mkCtx`): exactly the designated elements. -/
theorem api_select_exact (E : Env) (isXml : Bool) (ns : List (Str × Str)) (L : List Complex)
    (hwf : ∀ x ∈ L, x.wf = true) (tag : Loc)
    (hfold : (∀ x ∈ L, x.caseSensitiveIn (mkCtx E isXml ns tag) = true) ∨ E.env.fold = lowerCp)
    (hroot : (∀ x ∈ L, x.noRoot = true) ∨ RootAgrees (mkCtx E isXml ns tag) tag.top)
    (limit : Int) (hlim : limit < 1) :
    select E isXml ns (compileList L) tag limit = selectSpec (mkCtx E isXml ns tag) L tag :=
  select_exact (mkCtx E isXml ns tag) rfl L hwf hfold tag hroot limit hlim

/-- The same with the `:root` hypothesis spelled out as conditions on the tree
    (`SatRootCond.rootAgrees_of_conditions`). -/
theorem api_select_exact' (E : Env) (isXml : Bool) (ns : List (Str × Str)) (L : List Complex)
    (hwf : ∀ x ∈ L, x.wf = true) (hfold : E.env.fold = lowerCp) (tag : Loc)
    (hdoc : ∀ n : Loc, n.top = tag.top → n.isDoc = true → n.up = [])
    (hifr : ∀ l p : Loc, l.top = tag.top → l.parent? = some p →
      ((mkCtx E isXml ns tag).isHtml && (mkCtx E isXml ns tag).locIsIframe p) = false)
    (hone : tag.top.isDoc = true →
      (tag.top.children.filter (fun s => blocksRoot s.focus)).length ≤ 1)
    (limit : Int) (hlim : limit < 1) :
    select E isXml ns (compileList L) tag limit = selectSpec (mkCtx E isXml ns tag) L tag :=
  api_select_exact E isXml ns L hwf tag (Or.inr hfold)
    (Or.inr (SatRootCond.rootAgrees_of_conditions E isXml ns tag hdoc hifr hone)) limit hlim

/-- Membership form: "no more and no fewer". -/
theorem mem_select_iff (c : Ctx) (hifr : c.iframeRestrict = false) (L : List Complex)
    (hwf : ∀ x ∈ L, x.wf = true)
    (hfold : (∀ x ∈ L, x.caseSensitiveIn c = true) ∨ c.env.fold = lowerCp)
    (tag : Loc) (hroot : (∀ x ∈ L, x.noRoot = true) ∨ RootAgrees c tag.top)
    (limit : Int) (hlim : limit < 1) (l : Loc) :
    l ∈ selectIn c (compileList L) tag limit ↔
      l ∈ descendantElems tag ∧ l.isDoc = false ∧ ∃ x ∈ L, satTop c l x = true := by
  rw [select_exact c hifr L hwf hfold tag hroot limit hlim]
  simp [selectSpec, List.mem_filter]

/-! ### "The document object itself is never an element" -/

/-- Specification side: whatever stands to the left of `>` or of the descendant combinator is not
    the document object. -/
theorem doc_object_never_related (k : Comb) (hk : k = .child ∨ k = .desc) (l t : Loc)
    (h : t ∈ leftOf k l) : t.isDoc = false := by
  rcases hk with rfl | rfl
  · simp only [leftOf, Option.mem_toList] at h
    rw [parentElem_eq] at h
    cases hp : l.parent? with
    | none => simp [hp] at h
    | some p =>
      simp only [hp] at h
      cases hd : p.isDoc with
      | true => simp [hd] at h
      | false => simp [hd] at h; subst h; exact hd
  · simp only [leftOf] at h
    rw [← ancestors_takeWhile] at h
    have := mem_takeWhile_p _ _ _ h
    simpa using this

/-- Specification side: a child of the document object has no parent element, hence matches no
    `L > R` and no `L R`. -/
theorem sat_child_of_doc (c : Ctx) (l p : Loc) (hp : l.parent? = some p) (hd : p.isDoc = true)
    (L : Complex) (R : Compound) :
    sat c l (.comb L .child R) = false ∧ sat c l (.comb L .desc R) = false := by
  have h1 : parentElem l = none := by rw [parentElem_eq, hp]; simp [hd]
  have h2 : ancestorElems l = [] := by
    rw [← ancestors_takeWhile]
    unfold Loc.ancestors
    unfold Loc.parent? at hp
    cases hu : l.up with
    | nil => rfl
    | cons f rest =>
      rw [hu] at hp
      simp only [Option.some.injEq] at hp
      subst hp
      simp only [Loc.ancestorsAux, List.takeWhile]
      simp [hd]
  constructor
  · simp [sat, leftOf, h1]
  · simp [sat, leftOf, h2]

/-- Model side, through `match_eq_sat`. -/
theorem match_child_of_doc (c : Ctx) (hifr : c.iframeRestrict = false)
    (L : Complex) (R : Compound) (k : Comb) (hk : k = .child ∨ k = .desc)
    (hwf : (Complex.comb L k R).wf = true)
    (hfold : (Complex.comb L k R).caseSensitiveIn c = true ∨ c.env.fold = lowerCp)
    (l p : Loc) (hroot : (Complex.comb L k R).noRoot = true ∨ RootAgrees c l.top)
    (e : Elem) (kids : List Node) (hf : l.focus = .elem e kids)
    (hp : l.parent? = some p) (hd : p.isDoc = true) :
    matchSel c l e (compileComplex (.comb L k R)) = false := by
  rw [match_eq_sat c hifr _ hwf hfold l.top hroot l e kids hf rfl]
  rcases hk with rfl | rfl
  · exact (sat_child_of_doc c l p hp hd L R).1
  · exact (sat_child_of_doc c l p hp hd L R).2

/-! ### "An empty value given to `^=`, `$=` or `*=` designates nothing" -/

/-- Specification side. -/
theorem empty_prefix_suffix_substr_match_nothing (c : Ctx) (e : Elem) (ns name : Str) (op : AttrOp)
    (hop : op = .pre ∨ op = .suf ∨ op = .sub) (f : CaseFlag) :
    satAttr c e ns name (some ⟨op, [], f⟩) = false := by
  unfold satAttr
  rcases hop with rfl | rfl | rfl <;> simp [valTest]

/-- Model side, through `match_eq_sat`: the compound `tag? [name op "" f]` (an optional type selector and this one
    attribute selector) matches no element. -/
theorem match_empty_value_nothing (c : Ctx) (hifr : c.iframeRestrict = false)
    (ns name : Str) (op : AttrOp) (hop : op = .pre ∨ op = .suf ∨ op = .sub) (f : CaseFlag)
    (tag : Option TypeSel)
    (hfold : caseInsensitive c name f = false ∨ c.env.fold = lowerCp)
    (l : Loc) (e : Elem) (kids : List Node) (hf : l.focus = .elem e kids) :
    matchSel c l e (compileComplex (.one (.mk tag [.attr ns name (some ⟨op, [], f⟩)]))) = false := by
  rw [match_eq_sat_noroot c hifr _ (by rfl) _ (by rfl) l e kids hf]
  · simp only [sat, satCompound, hf, satParts, satSimple,
      empty_prefix_suffix_substr_match_nothing c e ns name op hop f]
    simp
  · rcases hfold with h | h
    · left
      simp [Complex.caseSensitiveIn, Complex.all, Compound.all, allParts, Simple.all,
        Simple.caseSensitiveIn, h]
    · exact Or.inr h

/-! ### Non-vacuity: a concrete three-level tree with interleaved text / comment nodes -/

namespace Examples

def mkE (n : String) (attrs : List Attr := []) : Elem := ⟨false, n.toStr, none, none, attrs⟩
def docE : Elem := ⟨true, "[document]".toStr, none, none, []⟩
def sattr (k v : String) : Attr := ⟨k.toStr, none, none, .str v.toStr⟩

/-- `<!DOCTYPE html><html> <div class="X y" id="d"><!--c--><a></a>t<b></b></div><p></p>
    <div><b></b><a></a></div></html>` below the `BeautifulSoup` object. -/
def tree : Node :=
  .elem docE [
    .str .doctype "html".toStr,
    .elem (mkE "html") [
      .str .text " ".toStr,
      .elem (mkE "div" [sattr "class" "X y", sattr "id" "d"]) [
        .str .comment "c".toStr, .elem (mkE "a") [], .str .text "t".toStr, .elem (mkE "b") []],
      .elem (mkE "p") [],
      .str .text "\n".toStr,
      .elem (mkE "div") [.elem (mkE "b") [], .elem (mkE "a") []]]]

def top : Loc := ⟨tree, []⟩
def E0 : Env := ⟨asciiEnv, fun _ => 0, id⟩
def ctx : Ctx := mkCtx E0 false [] top

def ty (n : String) : Option TypeSel := some ⟨.default, some n.toStr⟩

/-- `div:has(> a + b):not(:is(p, #e))` -/
def x1 : Complex :=
  .one (.mk (ty "div")
    [.has [.mk .child (.comb (.one (.mk (ty "a") [])) .adj (.mk (ty "b") []))],
     .neg [.one (.mk none [.is [.one (.mk (ty "p") []), .one (.mk none [.id "e".toStr])]])]])

/-- `html:root > [class~="x" i]:first-of-type b:last-child` -/
def x2 : Complex :=
  .comb (.comb (.one (.mk (ty "html") [.root])) .child
      (.mk none [.attr [] "class".toStr (some ⟨.word, "x".toStr, .i⟩), .firstOfType]))
    .desc (.mk (ty "b") [.lastChild])

/-- `p ~ div > a:only-of-type, [id^=""]` -/
def x3 : List Complex :=
  [.comb (.comb (.one (.mk (ty "p") [])) .sib (.mk (ty "div") [])) .child (.mk (ty "a") [.onlyOfType]),
   .one (.mk none [.attr [] "id".toStr (some ⟨.pre, [], .none⟩)])]

example : renderComplex x1 = "div:has(> a + b):not(:is(p, #e))".toStr := by
  rw [toStr_ofList]; decide +kernel
example : renderComplex x2 = "html:root > [class~=\"x\" i]:first-of-type b:last-child".toStr := by
  rw [toStr_ofList]; decide +kernel
example : renderList x3 = "p ~ div > a:only-of-type, [id^=\"\"]".toStr := by
  rw [toStr_ofList]; decide +kernel

-- the hypotheses of the theorems hold here
example : ctx.iframeRestrict = false := rfl
example : x1.wf = true ∧ x1.noRoot = true ∧ x1.caseSensitiveIn ctx = true := by decide +kernel
example : x2.wf = true ∧ x2.noRoot = false ∧ x2.caseSensitiveIn ctx = false := by decide +kernel
example : ctx.env.fold = lowerCp := rfl
theorem rootAgrees_example : RootAgrees ctx top.top := rootAgrees_of_check ctx top.top (by decide)

-- both sides computed independently …
example : (selectSpec ctx [x1] top).map Loc.pos = [[1, 1]] := by decide +kernel
example : (selectIn ctx (compileList [x1]) top 0).map Loc.pos = [[1, 1]] := by decide +kernel
example : (selectSpec ctx [x2] top).map Loc.pos = [[1, 1, 3]] := by decide +kernel
example : (selectIn ctx (compileList [x2]) top 0).map Loc.pos = [[1, 1, 3]] := by decide +kernel
example : (selectSpec ctx x3 top).map Loc.pos = [[1, 4, 1]] := by decide +kernel
example : (selectIn ctx (compileList x3) top 0).map Loc.pos = [[1, 4, 1]] := by decide +kernel

-- … and through the theorem
example : selectIn ctx (compileList [x1]) top 0 = selectSpec ctx [x1] top :=
  select_exact ctx rfl [x1] (by decide) (Or.inr rfl) top (Or.inl (by decide)) 0 (by decide)
example : selectIn ctx (compileList [x2]) top 0 = selectSpec ctx [x2] top :=
  select_exact ctx rfl [x2] (by decide) (Or.inr rfl) top (Or.inr rootAgrees_example) 0 (by decide)
example : selectIn ctx (compileList x3) top 0 = selectSpec ctx x3 top :=
  select_exact ctx rfl x3 (by decide) (Or.inr rfl) top (Or.inl (by decide)) 0 (by decide)

/-- The forward form of `:has` used by the specification against its declarative reading
    (`Spec/CssHas.lean`), at every element of the tree, for several relative selectors. -/
def rels : List RelSel :=
  [.mk .child (.comb (.one (.mk (ty "a") [])) .adj (.mk (ty "b") [])),
   .mk .desc (.one (.mk (ty "b") [.lastChild])),
   .mk .desc (.comb (.one (.mk (ty "div") [])) .child (.mk (ty "a") [])),
   .mk .sib (.comb (.one (.mk (ty "div") [])) .desc (.mk none [.firstChild])),
   .mk .adj (.one (.mk (ty "p") [])),
   .mk .adj (.comb (.comb (.one (.mk (ty "p") [])) .sib (.mk (ty "div") [])) .child (.mk (ty "b") [.firstOfType])),
   .mk .child (.one (.mk none [.has [.mk .child (.one (.mk (ty "b") []))]]))]

example : ((treeNodes top).filter (fun l => isElem l && !l.isDoc)).all (fun l =>
    rels.all (fun r => satRel ctx l r == satRelDeclarative ctx l r)) = true := by decide +kernel
example : (rels.map fun r =>
      ((treeNodes top).filter (fun l => isElem l && !l.isDoc && satRel ctx l r)).map Loc.pos) =
    [[[1, 1]], [[1], [1, 1]], [[1]], [[1, 1], [1, 2]], [[1, 1]], [[1, 1]], [[1]]] := by
  decide +kernel

/-- Where the `:root` hypothesis bites: two elements below the document object (a fragment parsed
    by `html.parser`).  CSS: both have no parent element; the matcher: neither is `:root`. -/
def tree2 : Node := .elem docE [.elem (mkE "p") [], .elem (mkE "q") []]
def top2 : Loc := ⟨tree2, []⟩
def ctx2 : Ctx := mkCtx E0 false [] top2
example : rootCheck ctx2 top2 = false := by decide +kernel
example : (selectSpec ctx2 [.one (.mk none [.root])] top2).map Loc.pos = [[0], [1]] := by decide +kernel
example : (selectIn ctx2 (compileList [.one (.mk none [.root])]) top2 0).map Loc.pos = [] := by decide +kernel

/-- … and text next to the root element (`<html></html>x`). -/
def tree3 : Node := .elem docE [.elem (mkE "html") [], .str .text "x".toStr]
def top3 : Loc := ⟨tree3, []⟩
def ctx3 : Ctx := mkCtx E0 false [] top3
example : rootCheck ctx3 top3 = false := by decide +kernel
example : (selectSpec ctx3 [.one (.mk none [.root])] top3).map Loc.pos = [[0]] := by decide +kernel
example : (selectIn ctx3 (compileList [.one (.mk none [.root])]) top3 0).map Loc.pos = [] := by decide +kernel

end Examples

end C01Sat
end SoupVerif
