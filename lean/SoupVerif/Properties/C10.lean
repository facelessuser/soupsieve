/-
  C10  `escape(s)` round-trips through the selector grammar.

  "For every string s, escape(s) is consumed by the selector parser as one identifier whose value
   is s with NUL replaced by U+FFFD ... Escaping never raises and never produces text that alters
   the surrounding selector."

  Model  : `Escape.escape`, `Escape.scanIdent` (the token regex `IDENTIFIER`),
           `Escape.scanPrefixed` (`\#IDENTIFIER`, `\.IDENTIFIER`), `Escape.cssUnescape`,
           `Escape.cssUnescapeRaises`, `Escape.nulToFFFD`               (Model/Escape.lean)
  Lemmas : Lemmas/Escape.lean (the scanners), Lemmas/Spelling.lean (the C09 theory of admissible spellings),
           Lemmas/EscapeForms.lean (`escForms s`, the spelling `escape` writes: `escForms_render`, `escForms_valid`, …;
           each round-trip theorem below is the C09 theory at that spelling)

  Quantifier.  Strings are `List Nat`; every theorem below holds for EVERY list of naturals, so in
  particular for every Python `str` (controls, C1 controls, lone surrogates, astral characters,
  in every position).  No `c < 0x110000` hypothesis is needed anywhere: `escape` hex-escapes only
  code points below 0x80, everything from U+0080 up is copied and is an identifier character.
  `escape_scan_codepoints` / `unescape_escape_codepoints` restate the two main theorems with that
  hypothesis for readers who want the Python domain spelled out.

  The empty string is the one excluded point: `escape "" = ""` and the grammar has no empty
  identifier (`escape_empty`, `scan_empty`); it is recorded separately as a known finding.

  "Never raises": `escape` is a total function of the model (every clause of the Python is a
  comparison, an `append` or an f-string on an `int`), and `unescape_never_raises` shows the one
  way `css_unescape` can raise (`ValueError` from `int(..., 16)` when a hex escape is directly
  followed by a comment) does not occur on `escape` output.
-/
import SoupVerif.Lemmas.EscapeForms
namespace SoupVerif
namespace C10
open Escape EscapeLemmas SpellingLemmas
open C10Parse (escForms escForms_render escForms_value escForms_valid escForms_range escForms_bare escForms_ok)

/-! ### `escape s` is one identifier -/

/-- `IDENTIFIER` matches `escape s ++ r` at position 0, consumes exactly `escape s`, and leaves `r`,
    whenever `r` does not itself begin with an identifier character or a backslash. -/
theorem escape_scan (s r : Str) (hs : s ≠ []) (hr : ¬ continuesIdent r) :
    scanIdent (escape s ++ r) = some (escape s, r) := by
  rw [← escForms_render]
  exact scanIdent_forms _ r (escForms_ok s hs r).2.1 (escForms_valid s r) (by simpa using hr)

/-- The same with the Python domain of `escape` spelled out. -/
theorem escape_scan_codepoints (s r : Str) (hs : s ≠ []) (_hcp : ∀ c ∈ s, c < 0x110000)
    (hr : ¬ continuesIdent r) : scanIdent (escape s ++ r) = some (escape s, r) :=
  escape_scan s r hs hr

/-- `escape s` alone is one whole identifier. -/
theorem escape_scan_whole (s : Str) (hs : s ≠ []) : scanIdent (escape s) = some (escape s, []) := by
  simpa using escape_scan s [] hs (by decide)

/-- Unconditional form: whatever text `r` follows, the match is `escape s` followed by what the
    identifier loop consumes from `r` ALONE.  So no piece of `escape s` (in particular a final
    hex escape, whose terminating space `escape` always emits) reaches into the following text,
    and the following text cannot change how `escape s` is read. -/
theorem escape_inert (s r : Str) (hs : s ≠ []) :
    scanIdent (escape s ++ r) = some (escape s ++ (scanCont 0 r).1, (scanCont 0 r).2) := by
  rw [← escForms_render]
  exact scanIdent_forms_append _ r (escForms_ok s hs r).2.1 (escForms_valid s r)

/-- What lies beyond the identifier boundary does not influence the identifier that is read. -/
theorem escape_inert_prefix (s r₁ r₂ : Str) (hs : s ≠ []) (h₁ : ¬ continuesIdent r₁)
    (h₂ : ¬ continuesIdent r₂) :
    (scanIdent (escape s ++ r₁)).map Prod.fst = (scanIdent (escape s ++ r₂)).map Prod.fst := by
  rw [escape_scan s r₁ hs h₁, escape_scan s r₂ hs h₂]; rfl

/-- Every character that can follow an identifier in a selector stops the scan: the closing
    bracket / parenthesis, whitespace, `,`, `.`, `#`, `:`, `[`, the combinators, the attribute
    operators, quotes, `(`, `/` (a comment), `|`, `*`, `&`, `%`, `;`, `{`, `}`, `@`. -/
theorem delimiters_stop :
    ∀ d ∈ [93, 41, 32, 9, 10, 12, 13, 44, 46, 35, 58, 91, 62, 43, 126, 61, 33, 94, 36, 42, 124,
           34, 39, 40, 47, 38, 37, 59, 123, 125, 64],
      ∀ t : Str, continuesIdent (d :: t) = false := by
  intro d hd t
  simp only [List.mem_cons, List.not_mem_nil, or_false] at hd
  rcases hd with h | h | h | h | h | h | h | h | h | h | h | h | h | h | h | h | h | h | h | h | h |
    h | h | h | h | h | h | h | h | h | h <;> subst h <;> rfl

/-- The id token `#IDENTIFIER` on `'#' + escape(s)` consumes exactly that. -/
theorem escape_scan_id (s r : Str) (hs : s ≠ []) (hr : ¬ continuesIdent r) :
    scanPrefixed 35 (35 :: escape s ++ r) = some (35 :: escape s, r) := by
  simp [scanPrefixed, escape_scan s r hs hr]

/-- The class token `.IDENTIFIER` on `'.' + escape(s)` consumes exactly that. -/
theorem escape_scan_class (s r : Str) (hs : s ≠ []) (hr : ¬ continuesIdent r) :
    scanPrefixed 46 (46 :: escape s ++ r) = some (46 :: escape s, r) := by
  simp [scanPrefixed, escape_scan s r hs hr]

/-! ### Its value is `s` -/

/-- `css_unescape` decodes `escape s` independently of what follows it. -/
theorem unescape_escape_append (s t : Str) :
    cssUnescape (escape s ++ t) = nulToFFFD s ++ cssUnescape t := by
  rw [← escForms_render, ← escForms_value]
  exact cssUnescapeAux_forms _ t (escForms_valid s t) (escForms_range s)

/-- `css_unescape(escape(s))` is `s` with NUL replaced by U+FFFD. -/
theorem unescape_escape (s : Str) : cssUnescape (escape s) = nulToFFFD s := by
  simpa [cssUnescape, cssUnescapeAux] using unescape_escape_append s []

/-- The same with the Python domain of `escape` spelled out. -/
theorem unescape_escape_codepoints (s : Str) (_hcp : ∀ c ∈ s, c < 0x110000) :
    cssUnescape (escape s) = nulToFFFD s :=
  unescape_escape s

theorem unescape_raises_append (s t : Str) :
    cssUnescapeRaises (escape s ++ t) = cssUnescapeRaises t := by
  rw [← escForms_render]
  exact cssUnescapeRaisesAux_forms _ t (escForms_valid s t) (escForms_bare s)

/-- `css_unescape` does not raise on `escape s` (followed by a text: `unescape_raises_append`, it raises iff it does on
    that text by itself). -/
theorem unescape_never_raises (s : Str) : cssUnescapeRaises (escape s) = false := by
  simpa [cssUnescapeRaises, cssUnescapeRaisesAux] using unescape_raises_append s []

/-- The round trip in one statement: the parser's identifier token on `escape s ++ r` exists,
    leaves `r`, and the value the parser computes from the token text (`css_unescape`) is `s`
    with NUL replaced by U+FFFD. -/
theorem ident_value (s r : Str) (hs : s ≠ []) (hr : ¬ continuesIdent r) :
    ∃ m, scanIdent (escape s ++ r) = some (m, r) ∧ cssUnescape m = nulToFFFD s ∧
      cssUnescapeRaises m = false :=
  ⟨escape s, escape_scan s r hs hr, unescape_escape s, unescape_never_raises s⟩

/-- Distinct strings get distinct escapes, except that NUL and U+FFFD are identified. -/
theorem escape_injective_mod_nul (s t : Str) (h : escape s = escape t) :
    nulToFFFD s = nulToFFFD t := by
  rw [← unescape_escape s, ← unescape_escape t, h]

/-! ### What `escape` emits -/

theorem escape_chars_ok (s : Str) : ∀ c ∈ escape s, c ≠ 0 :=
  fun c hc => (escape_safe s c hc).1

/-- `escape s` never contains a raw newline, form feed or carriage return (the characters that
    would end a backslash escape or a quoted string in the surrounding selector). -/
theorem escape_no_newline (s : Str) : ∀ c ∈ escape s, c ≠ 10 ∧ c ≠ 12 ∧ c ≠ 13 :=
  fun c hc => (escape_safe s c hc).2

/-- The NUL replacement `CSSParser.__init__` applies to the whole pattern leaves `escape s` as is. -/
theorem escape_nul_stable (s : Str) : nulToFFFD (escape s) = escape s :=
  C10Parse.nulToFFFD_id (escape_chars_ok s)

theorem escape_nonempty (s : Str) (hs : s ≠ []) : escape s ≠ [] := by
  cases s with
  | nil => exact absurd rfl hs
  | cons c cs =>
    unfold escape
    split
    · simp
    · exact escapeGo_ne_nil _ c cs 0

/-! ### The excluded point -/

/-- `escape('') == ''` ... -/
theorem escape_empty : escape [] = [] := by decide

/-- ... which is not an identifier, and neither is `''` followed by a delimiter. -/
theorem scan_empty : scanIdent [] = none ∧ scanIdent [93] = none ∧ scanIdent [32, 97] = none := by
  decide

/-! ### Hex digits: `f'{codepoint:x}'` and `int(…, 16)` -/

theorem hex_roundtrip (n : Nat) : hexVal (hexDigits n) = n := hexVal_hexDigits n

theorem hex_codepoint_length (n : Nat) (h : n < 0x110000) :
    0 < (hexDigits n).length ∧ (hexDigits n).length ≤ 6 :=
  ⟨hexDigits_length_pos n, hexDigits_length_le_six n (by omega)⟩

/-! ### Non-vacuity: concrete values, checked by evaluation in the kernel -/

-- escape('-') == '\\-'
example : escape [45] = [92, 45] := by decide +kernel
-- escape('-1') == '-\\31 '
example : escape [45, 49] = [45, 92, 51, 49, 32] := by decide +kernel
-- escape('--') == '--'
example : escape [45, 45] = [45, 45] := by decide +kernel
-- escape('1a') == '\\31 a'
example : escape [49, 97] = [92, 51, 49, 32, 97] := by decide +kernel
-- escape('a1') == 'a1'
example : escape [97, 49] = [97, 49] := by decide +kernel
-- escape('a b') == 'a\\ b'
example : escape [97, 32, 98] = [97, 92, 32, 98] := by decide +kernel
-- escape('\x00') == '\ufffd'
example : escape [0] = [0xFFFD] := by decide +kernel
-- escape('\x01') == '\\1 ',  escape('\x1f') == '\\1f ',  escape('\x7f') == '\\7f '
example : escape [1] = [92, 49, 32] := by decide +kernel
example : escape [0x1F] = [92, 49, 102, 32] := by decide +kernel
example : escape [0x7F] = [92, 55, 102, 32] := by decide +kernel
-- newline, form feed, carriage return are hex-escaped: '\\a ', '\\c ', '\\d '
example : escape [10, 12, 13] = [92, 97, 32, 92, 99, 32, 92, 100, 32] := by decide +kernel
-- C1 controls, lone surrogates and astral characters are copied
example : escape [0x80] = [0x80] := by decide +kernel
example : escape [0x9F] = [0x9F] := by decide +kernel
example : escape [0xD800] = [0xD800] := by decide +kernel
example : escape [0xDFFF, 0xD800] = [0xDFFF, 0xD800] := by decide +kernel
example : escape [0x10FFFF] = [0x10FFFF] := by decide +kernel
-- escape('a\\b') == 'a\\\\b'
example : escape [97, 92, 98] = [97, 92, 92, 98] := by decide +kernel
-- escape('a]b') == 'a\\]b';  escape('#.:') == '\\#\\.\\:'
example : escape [97, 93, 98] = [97, 92, 93, 98] := by decide +kernel
example : escape [35, 46, 58] = [92, 35, 92, 46, 92, 58] := by decide +kernel
-- the scanner on these, followed by `]`
example : scanIdent ([92, 45] ++ [93]) = some ([92, 45], [93]) := by decide +kernel
example : scanIdent ([45, 92, 51, 49, 32] ++ [93]) = some ([45, 92, 51, 49, 32], [93]) := by decide +kernel
example : scanIdent ([92, 51, 49, 32, 97] ++ [93]) = some ([92, 51, 49, 32, 97], [93]) := by decide +kernel
example : scanIdent ([97, 92, 32, 98] ++ [32, 99]) = some ([97, 92, 32, 98], [32, 99]) := by decide +kernel
example : scanIdent [0xFFFD] = some ([0xFFFD], []) := by decide +kernel
example : scanIdent [0xD800, 41] = some ([0xD800], [41]) := by decide +kernel
example : scanIdent [0x10FFFF, 0x80, 44] = some ([0x10FFFF, 0x80], [44]) := by decide +kernel
-- the scanner is not trivially accepting: raw controls, a leading digit, `-` alone, `-1` fail
example : scanIdent [1] = none := by decide +kernel
example : scanIdent [49, 97] = none := by decide +kernel
example : scanIdent [45] = none := by decide +kernel
example : scanIdent [45, 49] = none := by decide +kernel
example : scanIdent [92, 10, 97] = none := by decide +kernel
-- ... and it stops at unescaped delimiters: 'a b' is the identifier 'a' and the rest ' b'
example : scanIdent [97, 32, 98] = some ([97], [32, 98]) := by decide +kernel
-- the trailing space of a hex escape belongs to it; without it the next hex digit would be eaten:
-- '\\31 a' is "1a" but '\\31a' is U+031A
example : cssUnescape [92, 51, 49, 32, 97] = [49, 97] := by decide +kernel
example : cssUnescape [92, 51, 49, 97] = [0x31A] := by decide +kernel
-- faithfulness corners of the grammar that `escape` never produces
example : scanIdent [92] = some ([92], []) := by decide                       -- `\` `\Z`
example : scanIdent [92, 10] = none := by decide                               -- `\Z` is not before a final "\n"
example : scanIdent [92, 49, 13, 10, 97] = some ([92, 49, 13, 10, 97], []) := by decide  -- CRLF one unit
example : scanIdent [92, 49, 13, 13, 97] = some ([92, 49, 13], [13, 97]) := by decide +kernel
example : scanIdent [92, 49, 50, 51, 52, 53, 54, 55] = some ([92, 49, 50, 51, 52, 53, 54, 55], []) := by
  decide                                                                      -- six digits, then `7`
example : scanIdent [45, 45] = some ([45, 45], []) := by decide +kernel
example : cssUnescape [92, 45] = [45] := by decide +kernel
example : cssUnescape [45, 92, 51, 49, 32] = [45, 49] := by decide +kernel
example : cssUnescape [97, 92, 32, 98] = [97, 32, 98] := by decide +kernel
example : cssUnescape [97, 92, 92, 98] = [97, 92, 98] := by decide +kernel
example : cssUnescape (escape [0]) = [0xFFFD] := by decide +kernel
example : cssUnescape (escape [0x7F, 0x80, 0xD800, 0x10FFFF]) = [0x7F, 0x80, 0xD800, 0x10FFFF] := by
  decide +kernel
example : cssUnescape [92, 48, 32] = [0xFFFD] := by decide                    -- `\0 ` → U+FFFD
example : cssUnescape [92, 49, 49, 48, 48, 48, 48] = [0xFFFD] := by decide    -- `\110000` → U+FFFD
example : cssUnescape [92] = [0xFFFD] := by decide +kernel
example : cssUnescape [92, 10] = [92, 10] := by decide +kernel
example : cssUnescape [92, 10, 97] = [92, 10, 97] := by decide +kernel
-- the ValueError corner: '\\31/**/' raises in Python, '\\31 /**/' does not
example : cssUnescapeRaises [92, 51, 49, 47, 42, 42, 47] = true := by decide +kernel
example : cssUnescapeRaises [92, 51, 49, 32, 47, 42, 42, 47] = false := by decide +kernel
-- the delimiter list really satisfies the side condition of `escape_scan`, and identifier
-- characters / backslash really do not
example : continuesIdent [] = false := by decide +kernel
example : continuesIdent [93] = false := by decide +kernel
example : continuesIdent [97] = true := by decide +kernel
example : continuesIdent [92, 93] = true := by decide +kernel
end C10
end SoupVerif
