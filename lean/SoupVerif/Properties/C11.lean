/-
  C11  Name and value case rules follow the document type.

  Model : `Ctx.tagName` (`get_tag`), `matchTagname`, `matchAttributeValues` (and its head
          `matchAttributeName`), `Ctx.attrByName`
          (`get_attribute_by_name`), `matchAttributes`, `matchList` (Model/Match.lean);
          `Rx.runs`/`Rx.isMatch` (Model/Regex.lean); `mkCtx` (Model/Api.lean).

  * names   : in a non-XML document every comparison of a selector-side name with a
              document-side name goes through `lower` on both sides (`html_tag_fold`,
              `html_tag_fold_elem`, `html_attr_name_fold`, `attrByName_html`); in an XML document
              (XHTML parsed as XML included) they are `=` (`xml_tag_exact`, `xml_attr_name_exact`,
              `xml_attr_bare_exact`, `attrByName_xml`).
  * values  : the matcher itself has no value case rule; it picks one of the two compiled
              patterns (`xml_type_pattern_choice`, `Lemmas/MatchAlgebra.lean`) and the IGNORECASE flag of the pattern's
              literals decides (`lit_ic_fold`, `lit_exact`, `lits_ic`, `lits_exact`,
              `value_eq_template`; the engine on literal templates, `litsEq` … `lits_match`, is in
              `Lemmas/Lits.lean`, same namespace).
  * HTML-only selector lists never match in a document that is XML but not XHTML
              (`html_only_never_in_plain_xml`, `isHtml_def`, `plain_xml_iff`).
-/
import SoupVerif.Lemmas.Names
import SoupVerif.Lemmas.MatchAlgebra
import SoupVerif.Lemmas.Lits
import SoupVerif.Lemmas.StrLit
namespace SoupVerif
namespace C11
open Names

theorem lower_idem (s : Str) : lower (lower s) = lower s := SoupVerif.lower_idem s

abbrev caseEq (a b : Str) : Prop := Names.caseEq a b

theorem caseEq_equivalence : Equivalence caseEq := Names.caseEq_equivalence

theorem caseEq_lower (s : Str) : caseEq (lower s) s := Names.caseEq_lower s

/-- HTML: the selector's tag name matches regardless of ASCII case. -/
theorem html_tag_fold (c : Ctx) (e : Elem) (n n' : Str) (p : Option Str)
    (hx : c.isXml = false) (h : caseEq n n') :
    matchTagname c e ⟨n, p⟩ = matchTagname c e ⟨n', p⟩ := by
  have h' : lower n = lower n' := h
  simp [matchTagname, hx, h']

/-- HTML: so does the element's name. -/
theorem html_tag_fold_elem (c : Ctx) (e : Elem) (m m' : Str) (t : SelTag)
    (hx : c.isXml = false) (h : caseEq m m') :
    matchTagname c { e with name := m } t = matchTagname c { e with name := m' } t := by
  have h' : lower m = lower m' := h
  simp [matchTagname, Ctx.tagName, hx, h']

/-- HTML, as a characterisation: equal up to ASCII case, or the universal selector. -/
theorem html_tag_iff (c : Ctx) (e : Elem) (n : Str) (p : Option Str) (hx : c.isXml = false) :
    matchTagname c e ⟨n, p⟩ = true ↔ caseEq n e.name ∨ n = "*".toStr := by
  simp [matchTagname, Ctx.tagName, hx, Names.caseEq, lower_eq_star]

/-- XML / XHTML-as-XML: exact comparison. -/
theorem xml_tag_exact (c : Ctx) (e : Elem) (n : Str) (p : Option Str) (hx : c.isXml = true) :
    matchTagname c e ⟨n, p⟩ = true ↔ n = e.name ∨ n = "*".toStr := by
  simp [matchTagname, Ctx.tagName, hx]

/-- The whole type-selector test inherits the HTML folding. -/
theorem html_matchTag_fold (c : Ctx) (e : Elem) (n n' : Str) (p : Option Str)
    (hx : c.isXml = false) (h : caseEq n n') :
    matchTag c e (some ⟨n, p⟩) = matchTag c e (some ⟨n', p⟩) := by
  show (matchNamespace c e ⟨n, p⟩ && matchTagname c e ⟨n, p⟩) =
    (matchNamespace c e ⟨n', p⟩ && matchTagname c e ⟨n', p⟩)
  rw [html_tag_fold c e n n' p hx h]
  rfl

/-- XML is really case-sensitive: a witness. -/
theorem xml_tag_case_sensitive_witness :
    ∃ (c : Ctx) (e : Elem), c.isXml = true ∧
      matchTagname c e ⟨"A".toStr, none⟩ = false ∧ matchTagname c e ⟨"a".toStr, none⟩ = true :=
  ⟨{ env := asciiEnv, bidi := fun _ => 0, wildStrip := id, isXml := true, hasHtmlNs := false,
      isHtml := false, root := none, scope := none, namespaces := [], iframeRestrict := false },
   { isDoc := false, name := "a".toStr, pfx := none, ns := none, attrs := [] },
   rfl, by decide_lit, by decide_lit⟩

/-- HTML: `match_attribute_name` sees the selector's attribute name only through `lower`
    (every yielded value). -/
theorem html_attr_values_lower (c : Ctx) (e : Elem) (a p : Str) (hx : c.isXml = false) :
    matchAttributeValues c e a p = matchAttributeValues c e (lower a) p := by
  rw [mav_eq, mav_eq, desig_lower hx]

/-- The first yielded value. -/
theorem html_attr_name_lower (c : Ctx) (e : Elem) (a p : Str) (hx : c.isXml = false) :
    matchAttributeName c e a p = matchAttributeName c e (lower a) p := by
  rw [matchAttributeName_eq_head?, matchAttributeName_eq_head?, html_attr_values_lower c e a p hx]

/-- HTML: attribute names in a selector match regardless of ASCII case — in all four branches
    (no namespace support; empty prefix; `*`; mapped prefix) at once. -/
theorem html_attr_values_fold (c : Ctx) (e : Elem) (a a' p : Str)
    (hx : c.isXml = false) (h : caseEq a a') :
    matchAttributeValues c e a p = matchAttributeValues c e a' p := by
  have h' : lower a = lower a' := h
  rw [html_attr_values_lower c e a p hx, html_attr_values_lower c e a' p hx, h']

theorem html_attr_name_fold (c : Ctx) (e : Elem) (a a' p : Str)
    (hx : c.isXml = false) (h : caseEq a a') :
    matchAttributeName c e a p = matchAttributeName c e a' p := by
  rw [matchAttributeName_eq_head?, matchAttributeName_eq_head?, html_attr_values_fold c e a a' p hx h]

/-- HTML: the document side is folded too — the key text and the local name of each attribute
    can change ASCII case without changing the result. -/
theorem html_attr_values_fold_doc (c : Ctx) (e : Elem) (as bs : List Attr) (a p : Str)
    (hx : c.isXml = false)
    (hrel : Pairwise₂ (fun x y => caseEq x.key y.key ∧ x.kns = y.kns ∧
      x.kname.map lower = y.kname.map lower ∧ x.val = y.val) as bs) :
    matchAttributeValues c { e with attrs := as } a p =
      matchAttributeValues c { e with attrs := bs } a p := by
  -- related attributes pass every test of `match_attribute_name` alike: whole key, namespace, local name
  rw [mav_eq, mav_eq]
  refine filter_map_pairwise₂ ?_ (fun x y h => by simp [valOf, h.2.2.2]) hrel
  rintro x y ⟨h1, h2, h3, _⟩
  have h1' : lower x.key = lower y.key := h1
  have hk : nameEq c a x.key = nameEq c a y.key := by simp [nameEq, hx, h1']
  have hl : localNameEq c a x = localNameEq c a y := by
    unfold localNameEq
    cases hx' : x.kname <;> cases hy' : y.kname <;> simp [hx', hy'] at h3 ⊢
    simp [nameEq, hx, h3]
  exact desig_congr h2 hl hk h1'

theorem html_attr_name_fold_doc (c : Ctx) (e : Elem) (as bs : List Attr) (a p : Str)
    (hx : c.isXml = false)
    (hrel : Pairwise₂ (fun x y => caseEq x.key y.key ∧ x.kns = y.kns ∧
      x.kname.map lower = y.kname.map lower ∧ x.val = y.val) as bs) :
    matchAttributeName c { e with attrs := as } a p = matchAttributeName c { e with attrs := bs } a p := by
  rw [matchAttributeName_eq_head?, matchAttributeName_eq_head?,
    html_attr_values_fold_doc c e as bs a p hx hrel]

/-- XML: the name tests of `match_attribute_name` are `==` on the document's side. -/
theorem nameEq_xml_comm {c : Ctx} (hx : c.isXml = true) (a k : Str) : nameEq c a k = (k == a) := by
  rw [nameEq_xml hx, str_beq_comm]

theorem localNameEq_xml {c : Ctx} (hx : c.isXml = true) (a : Str) (x : Attr) :
    localNameEq c a x = (x.kname == some a) := by
  unfold localNameEq
  cases x.kname with
  | none => rfl
  | some nm => simp [nameEq_xml_comm hx]

/-- XML, namespace branch (`[ns|a]`, `ns ↦ u`, `u ≠ ''`): URI and local name are compared with `=`.
    (`u ≠ []` since fix 3a64a82; the empty URI is `xml_attr_values_empty_exact`.) -/
theorem xml_attr_values_exact (c : Ctx) (e : Elem) (a p u : Str) (hx : c.isXml = true)
    (hp : p ≠ []) (hs : p ≠ "*".toStr) (hm : c.nsGet p = some u) (hu : u ≠ []) :
    matchAttributeValues c e a p =
      (e.attrs.filter (fun x => x.kns == some u && x.kname == some a)).map
        (fun x => normalizeValue x.val) := by
  simp only [mav_ns (supportsNamespaces_of_xml hx) e a p u hp hs hm hu, localNameEq_xml hx, valOf]

theorem xml_attr_name_exact (c : Ctx) (e : Elem) (a p u : Str) (hx : c.isXml = true)
    (hp : p ≠ []) (hs : p ≠ "*".toStr) (hm : c.nsGet p = some u) (hu : u ≠ []) :
    matchAttributeName c e a p =
      (e.attrs.find? (fun x => x.kns == some u && x.kname == some a)).map
        (fun x => normalizeValue x.val) :=
  man_of_mav (xml_attr_values_exact c e a p u hx hp hs hm hu)

/-- XML (fix 3a64a82), `[ns|a]` with `ns ↦ ''`: the whole key is compared with `=`, as for `[a]`. -/
theorem xml_attr_values_empty_exact (c : Ctx) (e : Elem) (a p : Str) (hx : c.isXml = true)
    (hp : p ≠ []) (hs : p ≠ "*".toStr) (hm : c.nsGet p = some []) :
    matchAttributeValues c e a p =
      (e.attrs.filter (fun x => x.key == a)).map (fun x => normalizeValue x.val) := by
  simp only [mav_ns_empty (supportsNamespaces_of_xml hx) e a p hp hs hm, nameEq_xml_comm hx, valOf]

theorem xml_attr_name_empty_exact (c : Ctx) (e : Elem) (a p : Str) (hx : c.isXml = true)
    (hp : p ≠ []) (hs : p ≠ "*".toStr) (hm : c.nsGet p = some []) :
    matchAttributeName c e a p =
      (e.attrs.find? (fun x => x.key == a)).map (fun x => normalizeValue x.val) :=
  man_of_mav (xml_attr_values_empty_exact c e a p hx hp hs hm)

/-- XML, `[a]`: the whole key is compared with `=`. -/
theorem xml_attr_values_bare_exact (c : Ctx) (e : Elem) (a : Str) (hx : c.isXml = true) :
    matchAttributeValues c e a [] =
      (e.attrs.filter (fun x => x.key == a)).map (fun x => normalizeValue x.val) := by
  simp only [mav_bare (supportsNamespaces_of_xml hx) e a, nameEq_xml_comm hx, valOf]

theorem xml_attr_bare_exact (c : Ctx) (e : Elem) (a : Str) (hx : c.isXml = true) :
    matchAttributeName c e a [] =
      (e.attrs.find? (fun x => x.key == a)).map (fun x => normalizeValue x.val) :=
  man_of_mav (xml_attr_values_bare_exact c e a hx)

/-- XML, `[*|a]`: `=` on the key (no namespace) or on the local name (any namespace). -/
theorem xml_attr_values_any_exact (c : Ctx) (e : Elem) (a : Str) (hx : c.isXml = true) :
    matchAttributeValues c e a "*".toStr =
      (e.attrs.filter (fun x => (x.kns.isNone && x.key == a) ||
        (x.kns.isSome && x.kname == some a))).map (fun x => normalizeValue x.val) := by
  simp only [mav_star (supportsNamespaces_of_xml hx) e a, nameEq_xml_comm hx, localNameEq_xml hx, valOf]

theorem xml_attr_any_exact (c : Ctx) (e : Elem) (a : Str) (hx : c.isXml = true) :
    matchAttributeName c e a "*".toStr =
      (e.attrs.find? (fun x => (x.kns.isNone && x.key == a) ||
        (x.kns.isSome && x.kname == some a))).map (fun x => normalizeValue x.val) :=
  man_of_mav (xml_attr_values_any_exact c e a hx)

/-! ### `get_attribute_by_name` (used for `id`, `class`, `type`, `dir`, `name`, ...) -/

theorem attrByName_html (c : Ctx) (e : Elem) (name : Str) (hx : c.isXml = false) :
    c.attrByName e name =
      (e.attrs.find? (fun x => lower x.key == name)).map (fun x => normalizeValue x.val) := by
  simp [Ctx.attrByName, hx]

theorem attrByName_xml (c : Ctx) (e : Elem) (name : Str) (hx : c.isXml = true) :
    c.attrByName e name =
      (e.attrs.find? (fun x => x.key == name)).map (fun x => normalizeValue x.val) := by
  simp [Ctx.attrByName, hx]

/-- HTML: `#id` / `.class` find their attribute whatever the case of its name in the document;
    note the looked-up `name` itself is NOT folded (callers pass lower-case constants). -/
theorem attrByName_html_fold_doc (c : Ctx) (e : Elem) (as bs : List Attr) (name : Str)
    (hx : c.isXml = false)
    (hrel : Pairwise₂ (fun x y => caseEq x.key y.key ∧ x.val = y.val) as bs) :
    c.attrByName { e with attrs := as } name = c.attrByName { e with attrs := bs } name := by
  rw [attrByName_html _ _ _ hx, attrByName_html _ _ _ hx]
  refine find?_map_pairwise₂ ?_ ?_ hrel
  · rintro x y ⟨h1, _⟩
    have h1' : lower x.key = lower y.key := h1
    simp [h1']
  · rintro x y ⟨_, h2⟩; simp [h2]

/-- `#id` compares the value exactly in every document type. -/
theorem matchId_value_exact (c : Ctx) (e : Elem) (i : Str) :
    matchId c e [i] = ((c.attrByName e "id".toStr).getD (.str []) == .str i) := by
  simp [matchId]

/-- HTML documents never use the XML type pattern. -/
theorem html_uses_pattern (c : Ctx) (e : Elem) (a : AttrSel) (hx : c.isXml = false) :
    matchAttributes c e [a] = matchAttributes c e [{ a with xmlTypePattern := none }] := by
  simp [xml_type_pattern_choice, hx]

/-- XML documents use it when present. -/
theorem xml_uses_type_pattern (c : Ctx) (e : Elem) (a : AttrSel) (r : Rx) (hx : c.isXml = true)
    (hr : a.xmlTypePattern = some r) :
    matchAttributes c e [a] = matchAttributes c e [{ a with pattern := some r, xmlTypePattern := none }] := by
  simp [xml_type_pattern_choice, hx, hr]

open Rx

/-- A literal with IGNORECASE, ASCII folding: matches up to ASCII case. -/
theorem lit_ic_fold (s : Str) (ch i : Nat) (caps : Caps) :
    runs asciiEnv s (.lit ch true) i caps ≠ [] ↔ ∃ x, s[i]? = some x ∧ lowerCp x = lowerCp ch := by
  simp [runs_lit_ne_nil, chEq, asciiEnv]

/-- A literal without IGNORECASE matches exactly itself, in every character environment. -/
theorem lit_exact (env : CharEnv) (s : Str) (ch i : Nat) (caps : Caps) :
    runs env s (.lit ch false) i caps ≠ [] ↔ s[i]? = some ch := by
  simp [runs_lit_ne_nil, chEq]

/-- Literals without IGNORECASE: exact equality (every environment). -/
theorem lits_exact (env : CharEnv) (v : List Nat) (s : Str) :
    Rx.isMatch env (.seq (v.map (Rx.lit · false) ++ [.eos])) s = (s == v) := by
  rw [lits_match, litsEq_exact]

/-- Literals with IGNORECASE and ASCII folding: equality up to ASCII case. -/
theorem lits_ic (v : List Nat) (s : Str) :
    Rx.isMatch asciiEnv (.seq (v.map (Rx.lit · true) ++ [.eos])) s = (lower s == lower v) := by
  rw [lits_match, litsEq_ic]

/-- Both at once. -/
theorem lits_case_rule (ic : Bool) (v : List Nat) (s : Str) :
    Rx.isMatch asciiEnv (.seq (v.map (Rx.lit · ic) ++ [.eos])) s =
      (if ic then lower s == lower v else s == v) := by
  cases ic
  · simpa using lits_exact asciiEnv v s
  · simpa using lits_ic v s

/-- The `[a=v]` template `^v\Z` of `parse_attribute_selector`. -/
theorem value_eq_template (ic : Bool) (v : List Nat) (s : Str) :
    Rx.isMatch asciiEnv (.seq (.bos :: (v.map (Rx.lit · ic) ++ [.eos]))) s =
      (if ic then lower s == lower v else s == v) := by
  rw [bos_noop, lits_case_rule]

/-- Consequence: with `i` the match is invariant under ASCII case change of the subject, ... -/
theorem value_ic_invariant (v : List Nat) (s s' : Str) (h : caseEq s s') :
    Rx.isMatch asciiEnv (.seq (.bos :: (v.map (Rx.lit · true) ++ [.eos]))) s =
    Rx.isMatch asciiEnv (.seq (.bos :: (v.map (Rx.lit · true) ++ [.eos]))) s' := by
  have h' : lower s = lower s' := h
  simp [value_eq_template, h']

/-- ... and without it only the value itself matches. -/
theorem value_exact_only (v : List Nat) (s : Str) :
    Rx.isMatch asciiEnv (.seq (.bos :: (v.map (Rx.lit · false) ++ [.eos]))) s = true ↔ s = v := by
  simp [value_eq_template]

/-- A selector list flagged HTML-only never matches in a document that is not HTML (XML but not
    XHTML) — for either polarity (`:not(...)`-style lists included). -/
theorem html_only_never_in_plain_xml (c : Ctx) (l : Loc) (e : Elem) (A : List Sel) (n : Bool)
    (h : c.isHtml = false) : matchList c l e (.mk A n true) = false := by
  rw [matchList_mk_true, h]; rfl

/-- For a list that is not HTML-only the document type plays no role at this level.
    (`!A.isEmpty`: Python's `match = False` is only overwritten inside the loop, so an empty list
    returns `False` even when negated.) -/
theorem not_html_only (c : Ctx) (l : Loc) (e : Elem) (A : List Sel) (n : Bool) :
    matchList c l e (.mk A n false) = (!A.isEmpty && (matchAny c l e A != n)) :=
  matchList_mk_false c l e A n

/-- In an HTML document the HTML-only list is evaluated, with the prefix map `{html: XHTML}` and
    iframe restriction. -/
theorem html_only_in_html (c : Ctx) (l : Loc) (e : Elem) (A : List Sel) (n : Bool)
    (h : c.isHtml = true) :
    matchList c l e (.mk A n true) =
      (!A.isEmpty &&
        (matchAny { c with namespaces := [("html".toStr, NS_XHTML)], iframeRestrict := true } l e A != n)) :=
  (matchList_mk_true c l e A n).trans ((congrArg (· && _) h).trans (Bool.true_and _))

/-- `is_html = not is_xml or has_html_namespace`, decided once from the root. -/
theorem isHtml_def (E : Env) (x : Bool) (ns : List (Str × Str)) (tag : Loc) :
    (mkCtx E x ns tag).isHtml = (!x || hasHtmlNs (mkCtx E x ns tag).root) := rfl

theorem isXml_def (E : Env) (x : Bool) (ns : List (Str × Str)) (tag : Loc) :
    (mkCtx E x ns tag).isXml = x := rfl

theorem hasHtmlNs_def (E : Env) (x : Bool) (ns : List (Str × Str)) (tag : Loc) :
    (mkCtx E x ns tag).hasHtmlNs = hasHtmlNs (mkCtx E x ns tag).root := rfl

/-- "XML but not XHTML". -/
theorem plain_xml_iff (E : Env) (x : Bool) (ns : List (Str × Str)) (tag : Loc) :
    (mkCtx E x ns tag).isHtml = false ↔ x = true ∧ hasHtmlNs (mkCtx E x ns tag).root = false := by
  rw [isHtml_def]; cases x <;> simp

/-- The root has the XHTML namespace: non-empty and equal to the XHTML URI. -/
theorem hasHtmlNs_iff (r : Option Loc) :
    hasHtmlNs r = true ↔ ∃ l e, r = some l ∧ l.elem? = some e ∧ e.ns = some NS_XHTML := by
  constructor
  · intro h
    unfold hasHtmlNs at h
    cases r with
    | none => simp at h
    | some l =>
      cases hl : l.elem? with
      | none => simp [hl] at h
      | some e =>
        cases hn : e.ns with
        | none => simp [hl, hn] at h
        | some n =>
          simp [hl, hn] at h
          exact ⟨l, e, rfl, hl, by rw [hn, h.2]⟩
  · rintro ⟨l, e, rfl, hl, hn⟩
    have hne : NS_XHTML.isEmpty = false := by unfold NS_XHTML; decide_lit
    simp only [hasHtmlNs, hl, hn, hne, beq_self_eq_true, Bool.not_false, Bool.and_true]

def chtml : Ctx :=
  { env := asciiEnv, bidi := fun _ => 0, wildStrip := id, isXml := false, hasHtmlNs := false,
    isHtml := true, root := none, scope := none, namespaces := [], iframeRestrict := false }
def cxml : Ctx := { chtml with isXml := true, isHtml := false }

def div (attrs : List Attr) : Elem :=
  { isDoc := false, name := "DiV".toStr, pfx := none, ns := none, attrs := attrs }
def attrId : Attr := { key := "ID".toStr, kns := none, kname := none, val := .str "Ab".toStr }

example : matchTagname chtml (div []) ⟨"dIv".toStr, none⟩ = true := by decide_lit
example : matchTagname cxml (div []) ⟨"dIv".toStr, none⟩ = false := by decide_lit
example : matchTagname cxml (div []) ⟨"DiV".toStr, none⟩ = true := by decide_lit
example : matchAttributeName chtml (div [attrId]) "iD".toStr [] = some (.str "Ab".toStr) := by decide_lit
example : matchAttributeName cxml (div [attrId]) "iD".toStr [] = none := by decide_lit
example : matchAttributeName cxml (div [attrId]) "ID".toStr [] = some (.str "Ab".toStr) := by decide_lit
example : chtml.attrByName (div [attrId]) "id".toStr = some (.str "Ab".toStr) := by decide_lit
example : cxml.attrByName (div [attrId]) "id".toStr = none := by decide_lit
-- values: case-sensitive unless the pattern carries IGNORECASE
example : matchAttributes chtml (div [attrId])
    [⟨"id".toStr, [], some (.seq (.bos :: ("ab".toStr.map (Rx.lit · false) ++ [.eos]))), none⟩] = false := by decide_lit
example : matchAttributes chtml (div [attrId])
    [⟨"id".toStr, [], some (.seq (.bos :: ("ab".toStr.map (Rx.lit · true) ++ [.eos]))), none⟩] = true := by decide_lit
-- the `type` pair of patterns: HTML takes the insensitive one, XML the sensitive one
example : matchAttributes chtml (div [attrId])
    [⟨"id".toStr, [], some (.seq (.bos :: ("ab".toStr.map (Rx.lit · true) ++ [.eos]))),
      some (.seq (.bos :: ("ab".toStr.map (Rx.lit · false) ++ [.eos])))⟩] = true := by decide_lit
example : matchAttributes cxml (div [attrId])
    [⟨"ID".toStr, [], some (.seq (.bos :: ("ab".toStr.map (Rx.lit · true) ++ [.eos]))),
      some (.seq (.bos :: ("ab".toStr.map (Rx.lit · false) ++ [.eos])))⟩] = false := by decide_lit

end C11
end SoupVerif
