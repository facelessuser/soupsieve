/-
  C01 — `CSSMatch.match_selectors` TRANSLATED from the source and PROVED equal to the
  hand-written model.

  `Generated/PyMatchSel.lean` (regenerated by `gen/gen_py_matchsel.py` from the source text of
  `match_selectors` on every run) holds the chain of checks, the loop shape and the frame of the
  function as data; `Model/MatchChecks.lean` says what such data means (`runChecks`, `runLoop`,
  `runFrame`: each test name is the hand-written model function of `Model/Match.lean`).

  Proved here, for all contexts, positions, elements, selectors and selector lists: the generated chain run on
  the fields of a `ct.Selector` is `matchSel`, the generated loop is `matchAny`, and the generated function
  returns `matchList` together with the context it was called with (`self.namespaces` /
  `self.iframe_restrict` restored on every path).  The proof does not use the ORDER of the chain: the tests
  are total pure functions of the model, so the chain is the conjunction of its checks, compared up to
  associativity / commutativity.  Swapping two checks in the source changes nothing; deleting one, changing a
  mask, a guard, an argument or dropping a `not` breaks the proof.

  Scope.  One level of recursion is unrolled: the nested calls (`match_subselectors`, `match_nth`,
  `match_relations` → `match_selectors`) are the hand model's, so the statement is "the hand model
  satisfies the recursion equation the source spells".  The memo tables (C04) are not part of `matchSel`
  and not of the interpreter: this is the pure projection, as in `Model/Match.lean`.
-/
import SoupVerif.Generated.PyMatchSel
import SoupVerif.Lemmas.MatchAlgebra
import SoupVerif.Properties.C01Sat
namespace SoupVerif.C01GenMatch
open SoupVerif SoupVerif.PyMatchSel
open Css SatTree SatCore SatLeaf SatMain SatRoot

variable (c : Ctx) (l : Loc) (e : Elem)

/-! ### The chain is the conjunction of its checks -/

/-- What a second argument of a `self.match_x(el, arg)` call can be: one kind per type of `ct.Selector` field
    (`fieldKind`), `nat` for `selector.flags & MASK` (`argKind`).  `wellTyped` compares it with what the test takes. -/
inductive Kind where
  | tag | strs | attrs | nths | lists | list | rel | contains | langs | nat
  deriving DecidableEq

def fieldKind : Field → Kind
  | .tag => .tag | .ids => .strs | .classes => .strs | .attributes => .attrs | .nth => .nths
  | .selectors => .lists | .relation => .list | .rel_type => .rel | .contains => .contains
  | .lang => .langs | .flags => .nat

def argKind : Arg → Option Kind
  | .none => none
  | .field f => some (fieldKind f)
  | .flagsAnd _ => some .nat

/-- The kind of second argument each test takes (`none`: the test takes `el` only). -/
def testKind : Test → Option Kind
  | .match_tag => some .tag
  | .match_nth => some .nths
  | .match_id => some .strs
  | .match_classes => some .strs
  | .match_attributes => some .attrs
  | .match_range => some .nat
  | .match_lang => some .langs
  | .match_subselectors => some .lists
  | .match_relations => some .list
  | .match_dir => some .nat
  | .match_contains => some .contains
  | .match_defined | .match_root | .match_scope | .match_placeholder_shown | .match_empty
  | .match_default | .match_indeterminate => none

/-- The call `self.<test>(el[, arg])` is well-formed: right arity, right kind of argument. -/
def wellTyped (k : Check) : Bool := testKind k.test == argKind k.arg

/-- The verdict of a well-formed test as a `Bool`. -/
def testD (s : SelFields) (k : Check) : Bool := (applyTest c l e k.test (evalArg s k.arg)).getD false

/-- One check as a `Bool`: the `if` is NOT taken. -/
def holds (s : SelFields) (k : Check) : Bool :=
  !evalGuard s k.guard || !(if k.negated then !testD c l e s k else testD c l e s k)

theorem applyTest_isSome (s : SelFields) (t : Test) (a : Arg) (h : (testKind t == argKind a) = true) :
    (applyTest c l e t (evalArg s a)).isSome = true := by
  -- most pairs of test and argument are ill-typed, which contradicts `h`; the others compute
  cases a with
  | field f => cases t <;> cases f <;> first | contradiction | rfl
  | _ => cases t <;> first | contradiction | rfl

theorem runCheck_eq_holds (s : SelFields) (k : Check) (h : wellTyped k = true) :
    runCheck c l e s k = some (holds c l e s k) := by
  have hs := applyTest_isSome c l e s k.test k.arg h
  obtain ⟨r, hr⟩ := Option.isSome_iff_exists.mp hs
  unfold runCheck holds testD
  rw [hr]
  cases evalGuard s k.guard <;> simp

/-- The chain of `if … continue` statements is the conjunction of its checks: the tests are total
    functions of the model, so stopping at the first `continue` is unobservable. -/
theorem runChecks_eq_all (s : SelFields) (ks : List Check) (h : ks.all wellTyped = true) :
    runChecks c l e s ks = some (ks.all (holds c l e s)) := by
  induction ks with
  | nil => rfl
  | cons k rest ih =>
    simp only [List.all_cons, Bool.and_eq_true] at h
    rw [runChecks, runCheck_eq_holds c l e s k h.1, List.all_cons]
    generalize holds c l e s k = b
    cases b
    · rfl
    · simpa using ih h.2

/-- … hence invariant under any reordering of the chain: swapping two checks in the source changes nothing. -/
theorem runChecks_perm (s : SelFields) {ks ks' : List Check} (hp : List.Perm ks ks')
    (h : ks.all wellTyped = true) : runChecks c l e s ks = runChecks c l e s ks' := by
  have h' : ks'.all wellTyped = true := by
    rw [List.all_eq_true] at h ⊢
    intro x hx; exact h x (hp.mem_iff.mpr hx)
  rw [runChecks_eq_all c l e s ks h, runChecks_eq_all c l e s ks' h']
  congr 1
  rw [Bool.eq_iff_iff, List.all_eq_true, List.all_eq_true]
  exact ⟨fun H x hx => H x (hp.mem_iff.mpr hx), fun H x hx => H x (hp.mem_iff.mp hx)⟩

/-- Every call in the regenerated chain has the arity and the kind of argument its test takes. -/
theorem gen_checks_wellTyped : Gen.PyMatchSel.checks.all wellTyped = true := by decide

/-- **The regenerated chain of `match_selectors` is `matchSel`.** -/
theorem gen_checks_eq_matchSel (s : SelFields) :
    runChecks c l e s Gen.PyMatchSel.checks = some (matchSel c l e s.toSel) := by
  rw [runChecks_eq_all c l e s _ gen_checks_wellTyped]
  congr 1
  conv => rhs; unfold SelFields.toSel matchSel
  simp only [Gen.PyMatchSel.checks, List.all_cons, List.all_nil, holds, testD, applyTest, evalArg,
    evalGuard, SelFields.get, Val.truthy, Option.getD_some, matchRelations, hasFlag,
    SEL_DEFINED, SEL_ROOT, SEL_SCOPE, SEL_PLACEHOLDER_SHOWN, SEL_EMPTY, RANGES, SEL_IN_RANGE, SEL_OUT_OF_RANGE,
    SEL_DEFAULT, SEL_INDETERMINATE, DIR_FLAGS, SEL_DIR_LTR, SEL_DIR_RTL, Nat.reduceOr, if_true, Bool.not_not, Bool.not_true, Bool.false_or, Bool.and_true]
  ac_rfl

/-- The same with the fields spelled out. -/
theorem gen_checks_eq_matchSel_mk (tag : Option SelTag) (ids classes : List Str) (attrs : List AttrSel)
    (nth : List NthSel) (subs : List SelList) (relation : SelList) (relType : Rel)
    (contains : List ContainsSel) (lang : List LangSel) (flags : Nat) :
    runChecks c l e ⟨tag, ids, classes, attrs, nth, subs, relation, relType, contains, lang, flags⟩
        Gen.PyMatchSel.checks =
      some (matchSel c l e (.mk tag ids classes attrs nth subs relation relType contains lang flags)) :=
  gen_checks_eq_matchSel c l e ⟨tag, ids, classes, attrs, nth, subs, relation, relType, contains, lang, flags⟩

/-- A loop body of the shape `match = is_not; if <SelectorNull>: continue; <chain>; match = not is_not;
    break` whose chain is `matchSel`: the loop is `matchAny`.  `m` is the value of `match` on entry: it
    survives only when there is nothing to iterate over. -/
theorem loop_eq (lp : LoopShape) (hinit : lp.init = .isNot) (hnull : lp.nullContinue = true)
    (hpass : lp.onPass = .notIsNot) (hbreak : lp.breaks = true)
    (hchain : ∀ (c : Ctx) (l : Loc) (e : Elem) (s : SelFields),
      runChecks c l e s lp.checks = some (matchSel c l e s.toSel))
    (isNot : Bool) (sels : List Sel) (m : Bool) :
    runLoop lp c l e isNot sels m =
      some (if sels.isEmpty then m else (matchAny c l e sels != isNot)) := by
  induction sels generalizing m with
  | nil => rfl
  | cons s rest ih =>
    cases s with
    | null =>
      rw [runLoop]
      simp only [hinit, hnull, if_true, MatchVal.eval]
      rw [ih, matchAny_cons, matchSel_null]
      cases rest with
      | nil => simp [matchAny_nil]
      | cons => simp
    | mk tag ids classes attrs nth subs relation relType contains lang flags =>
      rw [runLoop]
      simp only [hinit, hpass, hbreak, if_true, MatchVal.eval]
      rw [hchain c l e ⟨tag, ids, classes, attrs, nth, subs, relation, relType, contains, lang, flags⟩,
        matchAny_cons]
      simp only [SelFields.toSel]
      generalize matchSel c l e (.mk tag ids classes attrs nth subs relation relType contains lang flags) = r
      cases r
      · simp only
        rw [ih]
        cases rest with
        | nil => simp [matchAny_nil]
        | cons => simp
      · simp

/-- **The regenerated `for selector in selectors:` loop is `matchAny`.** -/
theorem gen_loop_eq (isNot : Bool) (sels : List Sel) (m : Bool) :
    runLoop Gen.PyMatchSel.loop c l e isNot sels m =
      some (if sels.isEmpty then m else (matchAny c l e sels != isNot)) :=
  loop_eq c l e Gen.PyMatchSel.loop rfl rfl rfl rfl gen_checks_eq_matchSel isNot sels m

/-! ### The generated function = `matchList`, and `self` is left as it was found -/

/-- **The regenerated `match_selectors`**: its verdict is the model's `matchList`, and the context
    (`self.namespaces`, `self.iframe_restrict`) it leaves behind is the one it was called with — on
    every path, in particular when an HTML-only list is met in a non-HTML document (the path on
    which a restore placed inside the `if not is_html or self.is_html:` block would be skipped). -/
theorem gen_frame_eq_matchList (sl : SelList) :
    runFrame Gen.PyMatchSel.frame Gen.PyMatchSel.loop c l e sl = some (matchList c l e sl, c) := by
  obtain ⟨sels, isNot, isHtml⟩ := sl
  obtain ⟨env, bidi, wildStrip, isXml, hasHtmlNs, docHtml, root, scope, namespaces, iframeRestrict⟩ := c
  rw [matchList_mk]
  -- `is_html` × the document being HTML × `sels = []`: closed computations once `c` is destructured
  cases isHtml
  · cases sels <;> simp [runFrame, Gen.PyMatchSel.frame, runIfs, BExpr.eval, gen_loop_eq]
  · cases docHtml <;> cases sels <;>
      simp [runFrame, Gen.PyMatchSel.frame, runIfs, runActs, runAct, BExpr.eval, getAttr, setAttr,
        gen_loop_eq, Ctx.htmlOnly, NS_XHTML, String.toStr]

def genMatchList (sl : SelList) : Option Bool :=
  (runFrame Gen.PyMatchSel.frame Gen.PyMatchSel.loop c l e sl).map (·.1)

def genCtxAfter (sl : SelList) : Option Ctx :=
  (runFrame Gen.PyMatchSel.frame Gen.PyMatchSel.loop c l e sl).map (·.2)

theorem genMatchList_eq (sl : SelList) : genMatchList c l e sl = some (matchList c l e sl) := by
  unfold genMatchList; rw [gen_frame_eq_matchList]; rfl

theorem genCtxAfter_eq (sl : SelList) : genCtxAfter c l e sl = some c := by
  unfold genCtxAfter; rw [gen_frame_eq_matchList]; rfl

/-- `CSSMatch.match(el)` through the regenerated function. -/
def genMatchEl (sel : SelList) (x : Loc) : Option Bool :=
  match x.focus with
  | .elem e _ => (genMatchList c x e sel).map fun r => !e.isDoc && r
  | _ => some false

theorem genMatchEl_eq (sel : SelList) (x : Loc) : genMatchEl c sel x = some (matchEl c sel x) := by
  unfold genMatchEl matchEl
  cases x.focus with
  | elem e kids => simp only [genMatchList_eq, Option.map_some]
  | str k s => rfl

/-- C01 main theorem (`match_eq_sat`) about the regenerated chain: on the IR the parser builds for `x`,
    the chain of `match_selectors` answers the CSS meaning of `x`. -/
theorem gen_checks_eq_sat (hifr : c.iframeRestrict = false)
    (x : Complex) (hwf : x.wf = true)
    (hfold : x.caseSensitiveIn c = true ∨ c.env.fold = lowerCp)
    (T : Loc) (hroot : x.noRoot = true ∨ RootAgrees c T)
    (kids : List Node) (hf : l.focus = .elem e kids) (hT : l.top = T)
    (s : SelFields) (hs : s.toSel = compileComplex x) :
    runChecks c l e s Gen.PyMatchSel.checks = some (sat c l x) := by
  rw [gen_checks_eq_matchSel, hs, C01Sat.match_eq_sat c hifr x hwf hfold T hroot l e kids hf hT]

/-- `match(el)` of the regenerated function on a compiled top-level list = the specification. -/
theorem gen_matchEl_eq_spec (hifr : c.iframeRestrict = false) (L : List Complex)
    (hwf : ∀ x ∈ L, x.wf = true)
    (hfold : (∀ x ∈ L, x.caseSensitiveIn c = true) ∨ c.env.fold = lowerCp)
    (T : Loc) (hroot : (∀ x ∈ L, x.noRoot = true) ∨ RootAgrees c T)
    (x : Loc) (hel : isElem x = true) (hT : x.top = T) :
    genMatchEl c (compileList L) x = some (!x.isDoc && L.any (satTop c x)) := by
  rw [genMatchEl_eq, C01Sat.matchEl_eq c hifr L hwf hfold T hroot x hel hT]

/-- The regenerated `match` refuses the document object. -/
theorem gen_match_refuses_doc (sel : SelList) (x : Loc) (h : x.isDoc = true) :
    genMatchEl c sel x = some false := by
  rw [genMatchEl_eq, C01.match_refuses_doc c sel x h]

end SoupVerif.C01GenMatch
