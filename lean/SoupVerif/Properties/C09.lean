/-
  C09  Compiled meaning depends only on the token sequence, not on its spelling.

  "Two patterns that differ only in CSS-insignificant ways compile to equal selector structures:
   any amount of whitespace or comments wherever CSS allows them, identifier or string characters
   written as CSS escapes, single versus double quotes or a bare identifier for the same value,
   and upper/lower case in pseudo-class names, An+B keywords, 'of', :dir() arguments and the i/s
   flags."

  Proved here, each for ALL inputs and one section each, are the component facts about the hand-written scanners on
  which the statement rests; the statement itself, for the selector grammar covered there, is
  `compile_spelling_invariant_partial2` in `Properties/C09Compile2.lean`.
    1. Escapes.  Every admissible way of writing the code points of an identifier (`EscForm`: literal, `\c`, `\` +
       1..6 hex digits with any zero padding, any letter case and any of the six terminators or none) is read by the
       identifier scanner as one token and decoded by `css_unescape` to the same value.  C10 is the instance "the
       spelling `escape` chooses".
    2. Gaps.  `skipWSC` skips every gap (`isGap`: whitespace and complete comments) entirely, so what follows a gap
       is read the same whatever the gap.
    3. Case.  `util.lower` maps every case variant of a lower-case keyword to the keyword; every consumer in the
       parser model sees the text only through `lower` (the `of` group is only tested for emptiness); all keyword
       tables are in lower case; a case-insensitive keyword literal of a token regex matches every case variant in
       the engine model.
    4. Quotes.  `css_unescape(…, string=True)` decodes every admissible spelling of a string body (line continuations
       included), with either quote, to the value spelled, which is also what the bare identifier `escape v` decodes
       to; the string scanner reads it as one token.

  The scanners and decoders (`Model/Escape.lean`, `Spec/Spelling.lean`) are hand-written readings of `IDENTIFIER`,
  `RE_CSS_ESC`, `WSC*`, `RE_CSS_STR_ESC` and `VALUE`.  That they compute what the engine model computes on the regular
  expressions regenerated from `css_parser.py` is proved in `Refine/{Ident,Wsc,StringTok,Unescape}.lean` and composed
  with the facts of this file in `Properties/C09Rx.lean`; agreement of the engine model with CPython's `re` is
  established by the differential harness (harness/props/c09.py, c10.py), not by a Lean proof.

  Restrictions, all explicit in the statements:
    * The identifier scanner needs the head rule `headOk` (first form a start character or an escape, or `-` followed
      by one, or `--`): all head shapes of `IDENTIFIER` are covered, dash cases included.  The one spelling of
      `IDENTIFIER` not covered by `EscForm` is a final `\` at the very end of the input (`\` `\Z`, decoded to U+FFFD).
    * A hex form denotes `c` only for `0 < c ≤ 0x10FFFF` (`rangeOk`).
    * `COMMENTS` after a hex escape in `RE_CSS_ESC` (`WSC?`) is not modelled by `Escape.cssUnescape` (see
      `Escape.cssUnescapeRaises`); in the identifier grammar a hex escape is terminated by `WS` only, so no spelling
      generated here contains that shape.
-/
import SoupVerif.Lemmas.Spelling
import SoupVerif.Lemmas.StrLit
import SoupVerif.Properties.C10
import SoupVerif.Model.Parser
import SoupVerif.Generated.Lexicon
import SoupVerif.Lemmas.ParserProgress.Dispatch
namespace SoupVerif
namespace C09
open Escape EscapeLemmas Spelling SpellingLemmas

/-! ## 1. Escapes: every spelling of an identifier -/

/-- `css_unescape` decodes EVERY admissible spelling of an identifier to the code points spelled.
    (`C10.unescape_escape` is the instance "the spelling chosen by `escape`".) -/
theorem unescape_any_spelling (forms : List (Nat × EscForm)) (hv : Valid forms)
    (hcp : ∀ p ∈ forms, 0 < p.1 ∧ p.1 ≤ 0x10FFFF) :
    cssUnescape (renderIdentWith forms) = forms.map (·.1) := by
  have := cssUnescapeAux_forms forms [] hv (fun p hp => rangeOk_of_range p.1 p.2 (hcp p hp))
  simpa [cssUnescape, cssUnescapeAux, valueOf] using this

/-- The same with the range hypothesis only where it matters: on the code points written in hex
    (`rangeOk c f` is `true` for every non-hex form). -/
theorem unescape_any_spelling_fine (forms : List (Nat × EscForm)) (hv : Valid forms)
    (hcp : ∀ p ∈ forms, rangeOk p.1 p.2 = true) :
    cssUnescape (renderIdentWith forms) = valueOf forms := by
  have := cssUnescapeAux_forms forms [] hv hcp
  simpa [cssUnescape, cssUnescapeAux] using this

/-- Decoding is local: the spelling is decoded independently of the text after it. -/
theorem unescape_any_spelling_append (forms : List (Nat × EscForm)) (r : Str)
    (hv : validForms forms r = true) (hcp : ∀ p ∈ forms, rangeOk p.1 p.2 = true) :
    cssUnescape (renderIdentWith forms ++ r) = valueOf forms ++ cssUnescape r :=
  cssUnescapeAux_forms forms r hv hcp

/-- Two spellings of the same code points have the same value. -/
theorem two_spellings_same_value (f₁ f₂ : List (Nat × EscForm)) (h₁ : Valid f₁) (h₂ : Valid f₂)
    (hcp : ∀ p ∈ f₁, 0 < p.1 ∧ p.1 ≤ 0x10FFFF) (hval : f₁.map (·.1) = f₂.map (·.1)) :
    cssUnescape (renderIdentWith f₁) = cssUnescape (renderIdentWith f₂) := by
  have hcp₂ : ∀ p ∈ f₂, 0 < p.1 ∧ p.1 ≤ 0x10FFFF := by
    intro p hp
    have : p.1 ∈ f₂.map (·.1) := List.mem_map.2 ⟨p, hp, rfl⟩
    rw [← hval] at this
    obtain ⟨p', hp', he⟩ := List.mem_map.1 this
    rw [← he]; exact hcp p' hp'
  rw [unescape_any_spelling f₁ h₁ hcp, unescape_any_spelling f₂ h₂ hcp₂, hval]

theorem headOk_ne_nil (forms : List (Nat × EscForm)) (h : headOk forms = true) : forms ≠ [] := by
  intro he; subst he; simp [headOk] at h

/-- General form.  `IDENTIFIER` matches `spelling ++ r` at position 0, consumes exactly the
    spelling and leaves `r`, for every spelling that is admissible in front of `r` and satisfies
    the head rule.  `r` may begin with whitespace unless the last form looks ahead (a hex escape
    without terminator, or terminated by a lone CR). -/
theorem scan_any_spelling_ctx (forms : List (Nat × EscForm)) (r : Str)
    (hv : validForms forms r = true) (hh : headOk forms = true) (hr : ¬ continuesIdent r) :
    scanIdent (renderIdentWith forms ++ r) = some (renderIdentWith forms, r) :=
  scanIdent_forms forms r hh hv (by simpa using hr)

/-- The identifier scanner reads EVERY admissible spelling as one identifier and stops at its end,
    when the following text begins with neither an identifier character, a backslash nor
    whitespace.  All head shapes of the grammar are covered (`headOk`): start character, escape,
    `-` + start character, `-` + escape, `--`. -/
theorem scan_any_spelling (forms : List (Nat × EscForm)) (r : Str) (hv : Valid forms)
    (hh : headOk forms = true) (hr : ¬ continuesIdent r) (hws : ∀ n ∈ r.head?, isCssWs n = false) :
    scanIdent (renderIdentWith forms ++ r) = some (renderIdentWith forms, r) := by
  have hr' : continuesIdent r = false := by simpa using hr
  have hx := not_hex_of_not_continues r hr'
  exact scanIdent_forms forms r hh
    (validForms_of_valid forms r hv (fun n hn => ⟨hws n hn, hx n hn⟩)) hr'

/-- A spelling alone is one whole identifier. -/
theorem scan_any_spelling_whole (forms : List (Nat × EscForm)) (hv : Valid forms)
    (hh : headOk forms = true) :
    scanIdent (renderIdentWith forms) = some (renderIdentWith forms, []) := by
  simpa using scan_any_spelling forms [] hv hh (by decide) (by simp)

/-- Unconditional form: whatever follows, the match is the spelling followed by what the
    identifier loop consumes from `r` ALONE. -/
theorem scan_any_spelling_inert (forms : List (Nat × EscForm)) (r : Str)
    (hv : validForms forms r = true) (hh : headOk forms = true) :
    scanIdent (renderIdentWith forms ++ r) =
      some (renderIdentWith forms ++ (scanCont 0 r).1, (scanCont 0 r).2) :=
  scanIdent_forms_append forms r hh hv

/-- `#ident` and `.ident` tokens in any spelling. -/
theorem scan_any_spelling_prefixed (p : Nat) (forms : List (Nat × EscForm)) (r : Str)
    (hv : validForms forms r = true) (hh : headOk forms = true) (hr : ¬ continuesIdent r) :
    scanPrefixed p (p :: renderIdentWith forms ++ r) = some (p :: renderIdentWith forms, r) := by
  simp [scanPrefixed, scan_any_spelling_ctx forms r hv hh hr]

/-- The round trip in one statement: two spellings of the same code points are both read as one
    identifier token each, and the parser computes the same value from the two token texts. -/
theorem ident_token_spelling_irrelevant (f₁ f₂ : List (Nat × EscForm)) (r : Str)
    (h₁ : validForms f₁ r = true) (h₂ : validForms f₂ r = true)
    (hh₁ : headOk f₁ = true) (hh₂ : headOk f₂ = true) (hr : ¬ continuesIdent r)
    (hcp₁ : ∀ p ∈ f₁, rangeOk p.1 p.2 = true) (hcp₂ : ∀ p ∈ f₂, rangeOk p.1 p.2 = true)
    (hval : valueOf f₁ = valueOf f₂) :
    ∃ m₁ m₂, scanIdent (renderIdentWith f₁ ++ r) = some (m₁, r) ∧
      scanIdent (renderIdentWith f₂ ++ r) = some (m₂, r) ∧ cssUnescape m₁ = cssUnescape m₂ := by
  refine ⟨renderIdentWith f₁, renderIdentWith f₂, scan_any_spelling_ctx f₁ r h₁ hh₁ hr,
    scan_any_spelling_ctx f₂ r h₂ hh₂ hr, ?_⟩
  rw [unescape_any_spelling_fine f₁ (validForms_nil_of f₁ r h₁) hcp₁,
    unescape_any_spelling_fine f₂ (validForms_nil_of f₂ r h₂) hcp₂, hval]

/-- C10 as an instance: the text `escape s` IS one of the spellings quantified over above (of the
    value `s` with NUL as U+FFFD), admissible in front of any text. -/
theorem escape_is_a_spelling (s : Str) :
    ∃ forms, escape s = renderIdentWith forms ∧ valueOf forms = nulToFFFD s ∧
      (∀ r, validForms forms r = true) ∧ ∀ p ∈ forms, rangeOk p.1 p.2 = true :=
  ⟨_, (C10Parse.escForms_render s).symm, C10Parse.escForms_value s, C10Parse.escForms_valid s, C10Parse.escForms_range s⟩

/-- `C10.unescape_escape`, restated beside the spellings it is an instance of. -/
theorem unescape_escape_of_any_spelling (s : Str) : cssUnescape (escape s) = nulToFFFD s :=
  C10.unescape_escape s

/-- Any admissible spelling of the code points of `s` has the same value as `escape s`. -/
theorem any_spelling_eq_escape (forms : List (Nat × EscForm)) (s : Str) (hv : Valid forms)
    (hcp : ∀ p ∈ forms, rangeOk p.1 p.2 = true) (hs : valueOf forms = nulToFFFD s) :
    cssUnescape (renderIdentWith forms) = cssUnescape (escape s) := by
  rw [unescape_any_spelling_fine forms hv hcp, hs, C10.unescape_escape]

/-! ## 2. Whitespace and comments -/

/-- A gap in front of any text is skipped entirely, and skipping then continues in that text. -/
theorem skipWSC_append_gen (g r : Str) (hg : isGap g) : skipWSC (g ++ r) = skipWSC r := by
  unfold isGap at hg
  revert g
  refine skipWSC_induction (fun _ => rfl) ?_ ?_ ?_
  · intro c cs hw he ih hg
    rw [List.cons_append, skipWSC_ws c _ hw]
    exact ih (by rw [← he]; exact hg)
  · intro cs t hd he ih hg
    rw [List.cons_append, List.cons_append, skipWSC_comment _ _ (dropComment_append cs t r hd)]
    exact ih (by rw [← he]; exact hg)
  · intro s hne he hg
    rw [he] at hg; exact absurd hg hne

/-- A gap followed by text that begins with neither whitespace nor `/*` is skipped exactly. -/
theorem skipWSC_append (g r : Str) (hg : isGap g) (hr : noGapStart r = true) :
    skipWSC (g ++ r) = r := by
  rw [skipWSC_append_gen g r hg, skipWSC_of_noGapStart r hr]

/-- Whatever the gap, the text after it is reached in the same state. -/
theorem two_gaps_same_rest (g₁ g₂ r : Str) (h₁ : isGap g₁) (h₂ : isGap g₂) :
    skipWSC (g₁ ++ r) = skipWSC (g₂ ++ r) := by
  rw [skipWSC_append_gen g₁ r h₁, skipWSC_append_gen g₂ r h₂]

/-- After skipping there is nothing left to skip. -/
theorem skipWSC_idem (s : Str) : skipWSC (skipWSC s) = skipWSC s := SpellingLemmas.skipWSC_idem s

theorem gap_concat (g₁ g₂ : Str) (h₁ : isGap g₁) (h₂ : isGap g₂) : isGap (g₁ ++ g₂) := by
  unfold isGap
  rw [skipWSC_append_gen g₁ g₂ h₁]; exact h₂

theorem gap_nil : isGap [] := rfl

theorem gap_ws (c : Nat) (g : Str) (hc : isCssWs c = true) (hg : isGap g) : isGap (c :: g) := by
  unfold isGap; rw [skipWSC_ws c g hc]; exact hg

/-- `/*` + text containing no `*/` except at its very end + gap. -/
theorem gap_comment (body g : Str) (hb : dropComment body = some []) (hg : isGap g) :
    isGap (47 :: 42 :: (body ++ g)) := by
  unfold isGap
  rw [skipWSC_comment (body ++ g) ([] ++ g) (dropComment_append body [] g hb), List.nil_append]
  exact hg

/-- What `skipWSC` removes is a gap, and what it leaves begins with no gap. -/
theorem skipWSC_removes_gap (s : Str) :
    ∃ g, isGap g ∧ s = g ++ skipWSC s ∧ skipWSC (skipWSC s) = skipWSC s := by
  obtain ⟨g, hg, hs⟩ := skipWSC_prefix s
  exact ⟨g, hg, hs, skipWSC_idem s⟩

/-- An unterminated comment is not skipped. -/
theorem skipWSC_unterminated (cs : Str) (h : dropComment cs = none) :
    skipWSC (47 :: 42 :: cs) = 47 :: 42 :: cs :=
  skipWSC_open cs h

example : isGap " /* x */\n".toStr := by decide_lit
example : ¬ isGap "/* x".toStr := by decide_lit
example : isGap "/**/".toStr ∧ ¬ isGap "/*/".toStr := by decide_lit
example : skipWSC ("/**/".toStr ++ "/".toStr) = "/".toStr := by decide_lit
example : noGapStart "> b".toStr = true ∧ noGapStart "/ b".toStr = true ∧
    noGapStart "/* b".toStr = false ∧ noGapStart " b".toStr = false := by decide_lit

/-! ## 3. Letter case -/

/-- `util.lower` maps every case variant of a keyword without capitals to the keyword. -/
theorem lower_kw (mask : List Bool) (kw : Str) (h : ∀ c ∈ kw, ¬ (65 ≤ c ∧ c ≤ 90)) :
    lower (mixCase mask kw) = kw :=
  lower_mixCase mask kw h

theorem lower_idem (s : Str) : lower (lower s) = lower s := SoupVerif.lower_idem s

/-- `mixCase` enumerates ALL strings that `lower` maps to `kw`. -/
theorem case_variants_exhaustive (s kw : Str) (h : lower s = kw) : ∃ mask, s = mixCase mask kw := by
  subst h
  induction s with
  | nil => exact ⟨[], rfl⟩
  | cons c cs ih =>
    obtain ⟨m, hm⟩ := ih
    by_cases hc : 65 ≤ c ∧ c ≤ 90
    · refine ⟨true :: m, ?_⟩
      simp only [lower, List.map_cons, mixCase_cons, if_true]
      have : upperCp (lowerCp c) = c := by unfold upperCp lowerCp; split <;> (try split) <;> omega
      rw [this]
      simp only [lower] at hm
      rw [← hm]
    · refine ⟨false :: m, ?_⟩
      simp only [lower, List.map_cons, mixCase_cons]
      rw [lowerCp_of_not_upper c hc]
      simp only [lower] at hm
      rw [← hm]
      simp

/-- The keywords the parser compares against, as code points. -/
def keywords : List Str :=
  ["even".toStr, "odd".toStr, "of".toStr, "ltr".toStr, "rtl".toStr, "i".toStr, "s".toStr,
   "n".toStr, "type".toStr, ":not".toStr, ":has".toStr, ":is".toStr, ":where".toStr,
   ":nth-child".toStr, ":nth-last-child".toStr, ":nth-of-type".toStr, ":nth-last-of-type".toStr,
   ":-soup-contains-own".toStr]

theorem keywords_lowercase : ∀ kw ∈ keywords, ∀ c ∈ kw, ¬ (65 ≤ c ∧ c ≤ 90) := by
  unfold keywords; decide_lit

/-- Every case variant of each of these keywords lower-cases to the keyword. -/
theorem lower_keyword (mask : List Bool) (kw : Str) (hk : kw ∈ keywords) :
    lower (mixCase mask kw) = kw :=
  lower_kw mask kw (keywords_lowercase kw hk)

/-- Every entry of every pseudo-class table of `css_parser.py` is in lower case … -/
theorem pseudo_tables_lowercase :
    ∀ n ∈ Gen.lexicon.pseudoSupported ++ Gen.lexicon.pseudoSimple ++ Gen.lexicon.pseudoSimpleNoMatch ++
        Gen.lexicon.pseudoComplex ++ Gen.lexicon.pseudoComplexNoMatch ++ Gen.lexicon.special.map (·.1),
      ∀ c ∈ n, ¬ (65 ≤ c ∧ c ≤ 90) := by decide

/-- … so every case variant of a supported name is found in the table it belongs to. -/
theorem pseudo_lookup_any_case (mask : List Bool) (n : Str) (tbl : List Str)
    (hn : ∀ c ∈ n, ¬ (65 ≤ c ∧ c ≤ 90)) :
    Parser.inList tbl (lower (mixCase mask n)) = Parser.inList tbl n := by
  rw [lower_kw mask n hn]

theorem pseudo_supported_any_case (mask : List Bool) (n : Str) (hn : n ∈ Gen.lexicon.pseudoSupported) :
    Parser.inList Gen.lexicon.pseudoSupported (lower (mixCase mask n)) = true := by
  rw [lower_kw mask n (pseudo_tables_lowercase n (by simp [hn]))]
  simp only [Parser.inList, List.any_eq_true, beq_iff_eq]
  exact ⟨n, hn, rfl⟩

/-- Names that agree after `lower` are the same name to `parse_pseudo_class`. -/
theorem pseudo_name_case_irrelevant (P : Parser.PEnv) (n₁ n₂ : Str) (sel : Parser.SelB)
    (h : lower n₁ = lower n₂) :
    Parser.applySimplePseudo P (lower n₁) sel = Parser.applySimplePseudo P (lower n₂) sel := by
  rw [h]

theorem pseudo_table_case_irrelevant (tbl : List Str) (n₁ n₂ : Str) (h : lower n₁ = lower n₂) :
    Parser.inList tbl (lower n₁) = Parser.inList tbl (lower n₂) := by
  rw [h]

/-- The non-trivial instance: any case variant of a lower-case name behaves as the name. -/
theorem pseudo_simple_any_case (P : Parser.PEnv) (mask : List Bool) (n : Str) (sel : Parser.SelB)
    (hn : ∀ c ∈ n, ¬ (65 ≤ c ∧ c ≤ 90)) :
    Parser.applySimplePseudo P (lower (mixCase mask n)) sel = Parser.applySimplePseudo P n sel := by
  rw [lower_kw mask n hn]

/-- Escapes and case together: a pseudo-class name `:` + identifier, written in any admissible
    spelling whose code points lower-case to `kw`, reaches the parser's comparisons as `:kw`. -/
theorem pseudo_name_any_spelling (forms : List (Nat × EscForm)) (kw : Str) (hv : Valid forms)
    (hcp : ∀ p ∈ forms, rangeOk p.1 p.2 = true) (hkw : lower (valueOf forms) = kw) :
    lower (cssUnescape (58 :: renderIdentWith forms)) = 58 :: kw := by
  have h58 : cssUnescape (58 :: renderIdentWith forms) = 58 :: cssUnescape (renderIdentWith forms) := by
    simp [cssUnescape, cssUnescapeAux]
  rw [h58, unescape_any_spelling_fine forms hv hcp, ← hkw]
  rfl

/-! ### The attribute case flag `i` / `s` -/

/-- The `case_` binding of `parse_attribute_selector`: `util.lower(m.group('case')) if
    m.group('case') else None`. -/
def attrCaseOf (c : Option Str) : Option Str :=
  match c with
  | some c => if c.isEmpty then none else some (lower c)
  | none => none

/-- The `value` binding of `parse_attribute_selector` (and of `parse_pseudo_lang` /
    `parse_pseudo_contains` for each value): strip the quotes and unescape in string mode, or
    unescape as an identifier.  `uI` / `uS` are `css_unescape(·)` / `css_unescape(·, True)`. -/
def valueOfRaw (uI uS : Str → Str) (raw : Str) : Str :=
  match raw.head? with
  | some q => if q == 34 || q == 39 then uS (Parser.slice raw 1 (raw.length - 1)) else uI raw
  | none => uI raw

/-- `parse_attribute_selector` after the `case_` and `value` bindings. -/
def parseAttributeCore (P : Parser.PEnv) (t : Parser.Token) (sel : Parser.SelB) (case_ : Option Str)
    (value : Str) : Parser.SelB :=
  let op := (t.group P "cmp").getD []
  let ns : Str := match t.group P "attr_ns" with
    | some n => if n.isEmpty then [] else Parser.cssUnescape P.env P.L (n.take (n.length - 1))
    | none => []
  let attr := Parser.cssUnescape P.env P.L ((t.group P "attr_name").getD [])
  let (ic, isType) : Bool × Bool :=
    match case_ with
    | some c => (c == "i".toStr, false)
    | none => if lower attr == "type".toStr then (true, true) else (false, false)
  let hasWs := (Rx.search P.env P.L.reWs value).isSome
  let pattern : Option Rx := if op.isEmpty then none else some (Parser.attrPattern op value ic hasWs)
  let pattern2 : Option Rx :=
    if isType then pattern.map (fun _ => Parser.attrPattern op value false hasWs) else none
  let selAttr : AttrSel := { attrName := attr, pfx := ns, pattern := pattern, xmlTypePattern := pattern2 }
  if op.head? == some 33 then
    let sub := (Parser.SelB.empty.addAttr selAttr).freeze
    sel.addSub (.mk [sub] true false)
  else sel.addAttr selAttr

/-- The model of `parse_attribute_selector` sees the flag only through `attrCaseOf` (that is,
    through `lower`) and the value only through `valueOfRaw` (quotes stripped, unescaped). -/
theorem parseAttribute_eq (P : Parser.PEnv) (t : Parser.Token) (sel : Parser.SelB) :
    Parser.parseAttribute P t sel =
      parseAttributeCore P t sel (attrCaseOf (t.group P "case"))
        (if ((t.group P "cmp").getD []).isEmpty then []
         else valueOfRaw (fun x => Parser.cssUnescape P.env P.L x)
                (fun x => Parser.cssUnescape P.env P.L x true) ((t.group P "value").getD [])) := rfl

theorem attrCaseOf_case_irrelevant (c₁ c₂ : Str) (h : lower c₁ = lower c₂) :
    attrCaseOf (some c₁) = attrCaseOf (some c₂) := by
  have hl : c₁.length = c₂.length := by rw [← lower_length c₁, ← lower_length c₂, h]
  have he : c₁.isEmpty = c₂.isEmpty := by
    cases c₁ <;> cases c₂ <;> simp at hl ⊢
  simp [attrCaseOf, h, he]

/-- `[a=b I]` ≡ `[a=b i]`, `[a=b S]` ≡ `[a=b s]`. -/
theorem attr_flag_i (m : List Bool) : attrCaseOf (some (mixCase m "i".toStr)) = attrCaseOf (some "i".toStr) :=
  attrCaseOf_case_irrelevant _ _ (by rw [lower_keyword m _ (by decide)]; decide)

theorem attr_flag_s (m : List Bool) : attrCaseOf (some (mixCase m "s".toStr)) = attrCaseOf (some "s".toStr) :=
  attrCaseOf_case_irrelevant _ _ (by rw [lower_keyword m _ (by decide)]; decide)

theorem parseAttribute_flag_case (P : Parser.PEnv) (t : Parser.Token) (sel : Parser.SelB) (value : Str)
    (c₁ c₂ : Str) (h : lower c₁ = lower c₂) :
    parseAttributeCore P t sel (attrCaseOf (some c₁)) value =
      parseAttributeCore P t sel (attrCaseOf (some c₂)) value := by
  rw [attrCaseOf_case_irrelevant c₁ c₂ h]

/-! ### `:dir()` -/

/-- The flag `parse_pseudo_dir` computes from the text of the `dir` group. -/
def dirValue (d : Str) : Nat := if lower d == "ltr".toStr then SEL_DIR_LTR else SEL_DIR_RTL

theorem dir_case_irrelevant (d₁ d₂ : Str) (h : lower d₁ = lower d₂) : dirValue d₁ = dirValue d₂ := by
  simp [dirValue, h]

theorem dir_ltr (m : List Bool) : dirValue (mixCase m "ltr".toStr) = SEL_DIR_LTR := by
  simp [dirValue, lower_keyword m "ltr".toStr (by decide)]

theorem dir_rtl (m : List Bool) : dirValue (mixCase m "rtl".toStr) = SEL_DIR_RTL := by
  have : ("rtl".toStr == "ltr".toStr) = false := by decide_lit
  simp [dirValue, lower_keyword m "rtl".toStr (by decide), this]

/-! ### An+B -/

theorem parseAnB_case (P : Parser.PEnv) (c₁ c₂ : Str) (h : lower c₁ = lower c₂) :
    Parser.parseAnB P (lower c₁) = Parser.parseAnB P (lower c₂) := by
  rw [h]

theorem parseAnB_even (P : Parser.PEnv) (m : List Bool) :
    Parser.parseAnB P (lower (mixCase m "even".toStr)) = (2, true, 0) := by
  rw [lower_keyword m _ (by decide)]; simp [Parser.parseAnB]

theorem parseAnB_odd (P : Parser.PEnv) (m : List Bool) :
    Parser.parseAnB P (lower (mixCase m "odd".toStr)) = (2, true, 1) := by
  have : ("odd".toStr == "even".toStr) = false := by decide_lit
  rw [lower_keyword m _ (by decide)]; simp [Parser.parseAnB, this]

/-! ### The parser model passes only lower-cased text to these consumers

  Unfolding lemmas for the relevant branches of `Parser.parseLoop` (the `while` loop of
  `parse_selectors`).  In each, the text of the group reaches the selector under construction
  only through `lower`. -/

section Loop
open Parser
variable (env : CharEnv) (L : Lexicon) (B : Builtins) (pattern : Str) (fuel flags : Nat)
  (s : LS) (t : Token)

/-- `:dir(…)`: only `dirValue` of the group text, i.e. only its `lower`, is used. -/
theorem parseLoop_dir (h : nextToken ⟨env, L, B, pattern⟩ s.pos = .ok (some t))
    (hk : t.name = "pseudo_dir") :
    parseLoop env L B pattern (fuel + 1) flags s =
      parseLoop env L B pattern fuel flags
        { s with pos := t.stop,
                 sel := s.sel.addSub (.mk [(SelB.empty.setFlags
                   (dirValue ((t.group ⟨env, L, B, pattern⟩ "dir").getD []))).freeze] false true),
                 hasSelector := true, index := t.stop } := by
  rw [ParseDisp.parseLoop_token _ _ _ _ _ _ _ t h, hk]
  simp only [ParseDisp.modelAction_keys, ParseDisp.runAction, ParseDisp.runCall_dir]
  rfl

/-- `[attr…]`: the token reaches the selector only through `parseAttribute` (see
    `parseAttribute_eq`). -/
theorem parseLoop_attribute (h : nextToken ⟨env, L, B, pattern⟩ s.pos = .ok (some t))
    (hk : t.name = "attribute") :
    parseLoop env L B pattern (fuel + 1) flags s =
      parseLoop env L B pattern fuel flags
        { s with pos := t.stop, sel := parseAttribute ⟨env, L, B, pattern⟩ t s.sel,
                 hasSelector := true, index := t.stop } := by
  rw [ParseDisp.parseLoop_token _ _ _ _ _ _ _ t h, hk]
  simp only [ParseDisp.modelAction_keys, ParseDisp.runAction, ParseDisp.runCall_attribute]
  rfl

/-- A simple pseudo-class (no parenthesis): the name is unescaped and lower-cased, looked up in
    the tables, and handed to `applySimplePseudo`. -/
theorem parseLoop_pseudo_simple (h : nextToken ⟨env, L, B, pattern⟩ s.pos = .ok (some t))
    (hk : t.name = "pseudo_class")
    (hopen : ∀ o, t.group ⟨env, L, B, pattern⟩ "open" = some o → o = [])
    (hin : inList L.pseudoSimple
      (lower (Parser.cssUnescape env L ((t.group ⟨env, L, B, pattern⟩ "name").getD []))) = true) :
    parseLoop env L B pattern (fuel + 1) flags s =
      parseLoop env L B pattern fuel flags
        { s with pos := t.stop,
                 sel := applySimplePseudo ⟨env, L, B, pattern⟩
                   (lower (Parser.cssUnescape env L ((t.group ⟨env, L, B, pattern⟩ "name").getD [])))
                   s.sel,
                 hasSelector := true, index := t.stop } := by
  rw [ParseDisp.parseLoop_token _ _ _ _ _ _ _ t h, hk]
  simp only [ParseDisp.modelAction_keys, ParseDisp.runAction, ParseDisp.runCall_pseudo_class]
  cases ho : Token.group ⟨env, L, B, pattern⟩ t "open" with
  | none => simp [hin, ParserProgress.runStep]
  | some o =>
    have := hopen o ho
    subst this
    simp [hin, ParserProgress.runStep]

/-- `:nth-of-type(An+B)` / `:nth-last-of-type(An+B)`: the name and the An+B text are lower-cased
    before any comparison (`even`, `odd`, `n`). -/
theorem parseLoop_nth_type (h : nextToken ⟨env, L, B, pattern⟩ s.pos = .ok (some t))
    (hk : t.name = "pseudo_nth_type")
    (hchild : ∀ g, t.group ⟨env, L, B, pattern⟩ "pseudo_nth_child" = some g → g = []) :
    parseLoop env L B pattern (fuel + 1) flags s =
      (let P : PEnv := ⟨env, L, B, pattern⟩
       let name := lower (Parser.cssUnescape env L ((t.group P "name").getD []))
       let anb := parseAnB P (lower ((t.group P "nth_type").getD []))
       let e := SelList.mk [] false false
       let sel :=
         if name == ":nth-of-type".toStr then s.sel.addNth [nthOf anb.1 anb.2.1 anb.2.2 true false e]
         else if name == ":nth-last-of-type".toStr then
           s.sel.addNth [nthOf anb.1 anb.2.1 anb.2.2 true true e]
         else s.sel
       parseLoop env L B pattern fuel flags
         { s with pos := t.stop, sel := sel, hasSelector := true, index := t.stop }) := by
  rw [ParseDisp.parseLoop_token _ _ _ _ _ _ _ t h, hk]
  simp only [ParseDisp.modelAction_keys, ParseDisp.runAction, ParseDisp.runCall_nth]
  cases hc : Token.group ⟨env, L, B, pattern⟩ t "pseudo_nth_child" with
  | none => rfl
  | some g =>
    have := hchild g hc
    subst this
    rfl

/-- The selector `:nth-child` / `:nth-last-child` adds, from the lower-cased name and An+B text. -/
def nthChildSel (P : PEnv) (t : Token) (sel : SelB) (nthSel : SelList) : SelB :=
  let name := lower (Parser.cssUnescape P.env P.L ((t.group P "name").getD []))
  let anb := parseAnB P (lower ((t.group P "nth_child").getD []))
  if name == ":nth-child".toStr then sel.addNth [nthOf anb.1 anb.2.1 anb.2.2 false false nthSel]
  else if name == ":nth-last-child".toStr then sel.addNth [nthOf anb.1 anb.2.1 anb.2.2 false true nthSel]
  else sel

/-- `:nth-child(An+B)` without `of S`. -/
theorem parseLoop_nth_child (h : nextToken ⟨env, L, B, pattern⟩ s.pos = .ok (some t))
    (hk : t.name = "pseudo_nth_child")
    (hchild : ∃ g, t.group ⟨env, L, B, pattern⟩ "pseudo_nth_child" = some g ∧ g ≠ [])
    (hof : ∀ g, t.group ⟨env, L, B, pattern⟩ "of" = some g → g = []) :
    parseLoop env L B pattern (fuel + 1) flags s =
      parseLoop env L B pattern fuel flags
        { s with pos := t.stop, sel := nthChildSel ⟨env, L, B, pattern⟩ t s.sel B.nthOfSDefault,
                 hasSelector := true, index := t.stop } := by
  obtain ⟨g, hg, hne⟩ := hchild
  have hge : g.isEmpty = false := by cases g <;> simp at hne ⊢
  rw [ParseDisp.parseLoop_token _ _ _ _ _ _ _ t h, hk]
  simp only [ParseDisp.modelAction_keys, ParseDisp.runAction, ParseDisp.runCall_nth, hg, hge]
  cases ho : Token.group ⟨env, L, B, pattern⟩ t "of" with
  | none => rfl
  | some o =>
    have := hof o ho
    subst this
    rfl

/-- `:nth-child(An+B of S)`: the text of the `of` group is only tested for emptiness — its letter
    case (and the whitespace and comments around it, which are part of the group) is never
    looked at. -/
theorem parseLoop_nth_child_of (h : nextToken ⟨env, L, B, pattern⟩ s.pos = .ok (some t))
    (hk : t.name = "pseudo_nth_child")
    (hchild : ∃ g, t.group ⟨env, L, B, pattern⟩ "pseudo_nth_child" = some g ∧ g ≠ [])
    (hof : ∃ g, t.group ⟨env, L, B, pattern⟩ "of" = some g ∧ g ≠ [])
    (nthSel : SelList) (pos' : Nat) (custom' : Custom)
    (hsub : parseSelectors env L B pattern fuel t.stop t.stop (FLG_PSEUDO ||| FLG_OPEN) s.custom =
      .ok (nthSel, pos', custom')) :
    parseLoop env L B pattern (fuel + 1) flags s =
      parseLoop env L B pattern fuel flags
        { s with pos := pos', sel := nthChildSel ⟨env, L, B, pattern⟩ t s.sel nthSel,
                 hasSelector := true, index := t.stop, custom := custom' } := by
  obtain ⟨g, hg, hne⟩ := hchild
  have hge : g.isEmpty = false := by cases g <;> simp at hne ⊢
  obtain ⟨o, ho, hone⟩ := hof
  have hoe : o.isEmpty = false := by cases o <;> simp at hone ⊢
  rw [ParseDisp.parseLoop_token _ _ _ _ _ _ _ t h, hk]
  simp only [ParseDisp.modelAction_keys, ParseDisp.runAction, ParseDisp.runCall_nth, hg, hge, ho, hoe,
    Bool.not_false, if_true, ParserProgress.runStep, hsub]
  rfl

end Loop

/-! ### Case-insensitive keyword literals in the engine model

  `of`, `even`, `odd`, `ltr`, `rtl`, `i`, `s` and `n` occur in the token regexes as sequences of
  case-insensitive literals (`Rx.lit c true`, from `re.I`).  In the engine model such a sequence
  matches every case variant of the keyword, at any position, with the same end and captures. -/

/-- The regex the translator produces for a keyword under `re.I`. -/
def kwRx (kw : Str) : List Rx := kw.map fun c => Rx.lit c true

theorem drop_cons_getElem (s : Str) (i x : Nat) (rest : Str) (h : s.drop i = x :: rest) :
    s[i]? = some x ∧ s.drop (i + 1) = rest := by
  induction s generalizing i with
  | nil => simp at h
  | cons a s ih =>
    cases i with
    | zero => simp at h; simp [h.1, h.2]
    | succ i => simpa using ih i (by simpa using h)

/-- A case-insensitive keyword matches whatever text lower-cases to the same thing. -/
theorem runs_kw_case (s kw : Str) (i : Nat) (caps : Caps)
    (h : lower ((s.drop i).take kw.length) = lower kw) :
    Rx.runsSeq asciiEnv s (kwRx kw) i caps = [(i + kw.length, caps)] := by
  induction kw generalizing i with
  | nil => simp [kwRx, Rx.runsSeq]
  | cons c cs ih =>
    cases hd : s.drop i with
    | nil => rw [hd] at h; simp [lower] at h
    | cons x rest =>
      rw [hd] at h
      obtain ⟨hx, hrest⟩ := drop_cons_getElem s i x rest hd
      simp only [List.length_cons, List.take_succ_cons, lower, List.map_cons, List.cons.injEq] at h
      have ih' := ih (i + 1) (by rw [hrest]; simpa [lower] using h.2)
      simp only [kwRx, List.map_cons, Rx.runsSeq, Rx.runs, hx]
      have hf : (asciiEnv.fold x == asciiEnv.fold c) = true := by simpa [asciiEnv] using h.1
      simp only [if_true, hf, List.flatMap_cons, List.flatMap_nil, List.append_nil]
      simp only [kwRx] at ih'
      rw [ih']
      simp [Nat.add_assoc, Nat.add_comm 1]

/-- Every case variant `mixCase m kw` of a lower-case keyword, embedded anywhere, is matched. -/
theorem runs_kw_mixCase (pre post kw : Str) (m : List Bool) (caps : Caps)
    (hk : ∀ c ∈ kw, ¬ (65 ≤ c ∧ c ≤ 90)) :
    Rx.runsSeq asciiEnv (pre ++ mixCase m kw ++ post) (kwRx kw) pre.length caps =
      [(pre.length + kw.length, caps)] := by
  apply runs_kw_case
  rw [List.append_assoc, List.drop_left' rfl,
    List.take_left' (by rw [mixCase_length]), lower_kw m kw hk, lower_kw_self kw hk]

/-! ## 4. Quotes -/

/-- `css_unescape(body, True)` of the canonical quoted rendering is the value, for every value and
    every quote character that is not a hex digit (in particular `"` and `'`).  No hypothesis on
    `v` is needed: only `\n`, `\r`, `\f` are written in hex. -/
theorem unescapeString_render (q : Nat) (v : Str) (hq : isHex q = false) :
    unescapeString (renderStringBody q v) = v := by
  have := unescapeStringAux_pieces q (v.map (canonPiece q)) [] (validStr_canon q v [] hq)
    (fun p hp => by
      obtain ⟨c, _, hc⟩ := List.mem_map.1 hp
      rw [← hc]; exact pieceRangeOk_canon q c)
  rw [← renderStringBody_eq, strValue_canon] at this
  simpa [unescapeString, unescapeStringAux] using this

/-- `"…"` and `'…'` around the same value decode to the same value. -/
theorem string_quote_irrelevant (v : Str) :
    unescapeString (renderStringBody 34 v) = unescapeString (renderStringBody 39 v) := by
  rw [unescapeString_render 34 v (by decide), unescapeString_render 39 v (by decide)]

/-- A bare identifier `escape v` and the quoted renderings of `v` decode to the same value
    (C10's `unescape_escape` for the identifier side). -/
theorem quote_or_bare_same_value (q : Nat) (v : Str) (hq : isHex q = false) (h0 : ∀ c ∈ v, c ≠ 0) :
    cssUnescape (escape v) = v ∧ unescapeString (renderStringBody q v) = v := by
  refine ⟨?_, unescapeString_render q v hq⟩
  rw [C10.unescape_escape]
  unfold nulToFFFD
  conv => rhs; rw [← List.map_id v]
  apply List.map_congr_left
  intro c hc
  simp [h0 c hc]

/-- Every admissible spelling of a string body (literal characters, `\c`, hex escapes in every
    shape, line continuations) decodes to the value spelled. -/
theorem string_any_spelling (q : Nat) (ps : List StrPiece) (hv : validStr q ps [] = true)
    (hr : ∀ p ∈ ps, pieceRangeOk p = true) :
    unescapeString (renderStrWith ps) = strValue ps := by
  have := unescapeStringAux_pieces q ps [] hv hr
  simpa [unescapeString, unescapeStringAux] using this

/-- Two spellings of the same value, possibly with different quotes. -/
theorem two_string_spellings_same_value (q₁ q₂ : Nat) (p₁ p₂ : List StrPiece)
    (h₁ : validStr q₁ p₁ [] = true) (h₂ : validStr q₂ p₂ [] = true)
    (r₁ : ∀ p ∈ p₁, pieceRangeOk p = true) (r₂ : ∀ p ∈ p₂, pieceRangeOk p = true)
    (hval : strValue p₁ = strValue p₂) :
    unescapeString (renderStrWith p₁) = unescapeString (renderStrWith p₂) := by
  rw [string_any_spelling q₁ p₁ h₁ r₁, string_any_spelling q₂ p₂ h₂ r₂, hval]

/-- The string scanner (hand model of the quoted alternatives of `VALUE`) reads every admissible
    body up to its closing quote. -/
theorem scanString_any_spelling (q : Nat) (ps : List StrPiece) (r : Str) (hq : q = 34 ∨ q = 39)
    (hv : validStr q ps [] = true) :
    scanString (q :: (renderStrWith ps ++ q :: r)) = some (q, renderStrWith ps, r) := by
  have hq92 : q ≠ 92 := by omega
  have hqq : (q == 34 || q == 39) = true := by simpa using hq
  have hv' : validStr q ps (q :: r) = true :=
    validStr_of_nil q ps (q :: r) hv (by
      intro n hn; simp at hn; subst hn
      rcases hq with h | h <;> subst h <;> decide)
  simp [scanString, hqq, scanStrBody_pieces q ps r hq92 hv']

/-- In particular the canonical rendering is one string token whose body is `renderStringBody`. -/
theorem scanString_render (q : Nat) (v r : Str) (hq : q = 34 ∨ q = 39) :
    scanString (renderString q v ++ r) = some (q, renderStringBody q v, r) := by
  have hh : isHex q = false := by rcases hq with h | h <;> subst h <;> decide
  have := scanString_any_spelling q (v.map (canonPiece q)) r hq (validStr_canon q v [] hh)
  rw [← renderStringBody_eq] at this
  simpa [renderString] using this

theorem slice_quoted (q : Nat) (body : Str) :
    Parser.slice (q :: (body ++ [q])) 1 ((q :: (body ++ [q])).length - 1) = body := by
  simp [Parser.slice]

/-- The value the parser's `value` binding computes, with the hand models of `css_unescape`. -/
def handValue (raw : Str) : Str := valueOfRaw cssUnescape unescapeString raw

/-- Single quotes, double quotes or a bare identifier for the same value: the `value` binding of
    `parse_attribute_selector` (with the hand models of `css_unescape`) computes the same value
    from all three raw token texts. -/
theorem value_spelling_irrelevant (v : Str) (h0 : ∀ c ∈ v, c ≠ 0) :
    handValue (renderString 34 v) = v ∧ handValue (renderString 39 v) = v ∧
      handValue (escape v) = v := by
  refine ⟨?_, ?_, ?_⟩
  · simp only [handValue, valueOfRaw, renderString, List.head?_cons]
    rw [slice_quoted]; simpa using unescapeString_render 34 v (by decide)
  · simp only [handValue, valueOfRaw, renderString, List.head?_cons]
    rw [slice_quoted]; simpa using unescapeString_render 39 v (by decide)
  · have hval := (quote_or_bare_same_value 34 v (by decide) h0).1
    simp only [handValue, valueOfRaw]
    cases hh : (escape v).head? with
    | none => exact hval
    | some q =>
      have := escape_head v q (by simp [hh])
      have hq : (q == 34 || q == 39) = false := by simp [this.1, this.2]
      simp only [hq]; exact hval

/-! ## Non-vacuity and sharpness: concrete values, checked by evaluation in the kernel -/

-- `a1` six ways, all read as one identifier in front of `]`, all with value "a1"
example : ∀ f ∈ [[(97, EscForm.lit), (49, .lit)],
                 [(97, .lit), (49, .hex 2 [] (some .space))],
                 [(97, .hex 2 [] (some .tab)), (49, .hex 6 [] none)],
                 [(97, .hex 6 [] (some .crlf)), (49, .hex 3 [] (some .lf))],
                 [(97, .hex 4 [] none), (49, .hex 2 [] (some .ff))],
                 [(97, .lit), (49, .hex 2 [] (some .cr))]],
    Valid f ∧ headOk f = true ∧ scanIdent (renderIdentWith f ++ [93]) = some (renderIdentWith f, [93]) ∧
      cssUnescape (renderIdentWith f) = "a1".toStr := by decide_lit
-- upper-case hex digits
example : renderIdentWith [(0xabc, .hex 3 [true, false, true] none)] = "\\AbC".toStr := by decide_lit
example : cssUnescape "\\AbC".toStr = [0xabc] := by decide_lit
-- the side conditions are needed: `\31` + `a` is U+031A, `\31` + ` ` + `a` is "1a"
example : ¬ Valid [(49, .hex 2 [] none), (97, .lit)] := by decide +kernel
example : cssUnescape (renderIdentWith [(49, .hex 2 [] none), (97, .lit)]) = [0x31A] := by decide +kernel
example : cssUnescape (renderIdentWith [(49, .hex 2 [] (some .space)), (97, .lit)]) = "1a".toStr := by
  decide_lit
-- … a lone CR terminator must not be followed by LF
example : validForms [(49, .hex 2 [] (some .cr))] [10, 93] = false ∧
    validForms [(49, .hex 2 [] (some .cr))] [93] = true ∧
    validForms [(49, .hex 2 [] (some .crlf))] [93] = true := by decide +kernel
-- … and the head rule: `-1` is not an identifier, `-\31 ` is
example : headOk [(45, .lit), (49, .lit)] = false ∧ scanIdent "-1".toStr = none := by decide_lit
example : headOk [(45, .lit), (49, .hex 2 [] (some .space))] = true ∧
    scanIdent "-\\31 ".toStr = some ("-\\31 ".toStr, []) := by decide_lit
-- strings: the same value four ways
example : unescapeString "a\\\nb".toStr = "ab".toStr ∧ unescapeString "\\61 b".toStr = "ab".toStr ∧
    unescapeString "\\000061b".toStr = "ab".toStr ∧ unescapeString "\\a b".toStr = "\nb".toStr := by
  decide_lit
example : handValue "\"a b\"".toStr = "a b".toStr ∧ handValue "'a b'".toStr = "a b".toStr ∧
    handValue "a\\ b".toStr = "a b".toStr := by decide_lit
example : attrCaseOf (some "I".toStr) = some "i".toStr := by decide_lit
example : dirValue "LtR".toStr = SEL_DIR_LTR ∧ dirValue "RTL".toStr = SEL_DIR_RTL := by decide_lit
example : Rx.runsSeq asciiEnv "x oF y".toStr (kwRx "of".toStr) 2 [] = [(4, [])] := by decide_lit

/-!
  ## 5. The statement of the property itself

  "Two spellings of one token sequence compile to equal selector structures" is proved as
  `C09Compile2.compile_spelling_invariant_partial2` (`Properties/C09Compile2.lean`, under `pyFoldEnv`) for the grammar
  described there, from the components above: the scanners as the engine on the regenerated token regexes
  (`Properties/C09Rx.lean`), the induction through the tokenizer and the state machine of `parse_selectors`, the
  look-ahead of `PAT_COMBINE` against `skipWSC`.  It is NOT proved for all of the selector language: what that grammar
  leaves out is listed in the header of `C09Compile2.lean`.  Error offsets (`Err.offset`) do depend on the spelling, so
  the statement is about successful compiles.  The differential harness (harness/props/c09.py) checks the property on
  CPython and on the Lean parser model for generated token sequences and random spellings.
-/

end C09
end SoupVerif
