/-
  C09 at the level of the regular expressions of the SOURCE.

  `Properties/C09.lean` proves spelling-independence for hand-written scanners (`scanIdent`, `skipWSC`,
  `scanString`, `unescapeString`, `cssUnescape`).  The files `Refine/{Ident,Wsc,StringTok,Unescape}.lean`
  prove, for ALL strings, that these scanners compute exactly what the regex-engine model computes on
  the regular expressions REGENERATED from `css_parser.py` (`Gen.tok_id`, `Gen.tok_class`,
  `Gen.cp_RE_WS_BEGIN`, `Gen.cp_RE_WS_END`, `Gen.tok_pseudo_close`, `Gen.cp_RE_VALUES`,
  `Gen.cp_RE_CSS_ESC`, `Gen.cp_RE_CSS_STR_ESC`).  Composed here: the component facts of C09 stated about
  the regexes the code compiles, so that an edit of `WSC`, `COMMENTS`, `NEWLINE`, `IDENTIFIER`,
  `CSS_ESCAPES`, `VALUE`, `RE_CSS_STR_ESC` in the source breaks a proof obligation here (of `RE_CSS_ESC`: in
  `Refine/Unescape.lean`, which states the tie; no statement of this file goes through it).

  The parser loop around the tokens (the order in which the token patterns are tried, what each handler does
  with the groups) is the subject of `Properties/C09Compile.lean` and `C09Compile2.lean`.
-/
import SoupVerif.Properties.C09
import SoupVerif.Refine.Ident
import SoupVerif.Refine.Wsc
import SoupVerif.Refine.StringTok
import SoupVerif.Refine.Unescape
namespace SoupVerif
namespace C09Rx
open Escape Spelling Rx

/-! ### Identifiers: every admissible spelling is one token of the generated regex -/

/-- `#ident` written in ANY admissible spelling (literal characters, `\c`, hex escapes of every shape) is
    consumed by the generated `id` token regex as exactly one token. -/
theorem id_token_any_spelling (forms : List (Nat × EscForm)) (r : Str)
    (hv : validForms forms r = true) (hh : headOk forms = true) (hr : ¬ continuesIdent r) :
    matchAt pyFoldEnv Gen.tok_id (35 :: renderIdentWith forms ++ r) 0 =
      some (1 + (renderIdentWith forms).length, []) := by
  have h := Refine.Ident.tok_id_matchAt Refine.Ident.identFold_py (35 :: renderIdentWith forms ++ r) 0
  rw [List.drop_zero, C09.scan_any_spelling_prefixed 35 forms r hv hh hr] at h
  rw [h]; simp [Nat.add_comm]

theorem class_token_any_spelling (forms : List (Nat × EscForm)) (r : Str)
    (hv : validForms forms r = true) (hh : headOk forms = true) (hr : ¬ continuesIdent r) :
    matchAt pyFoldEnv Gen.tok_class (46 :: renderIdentWith forms ++ r) 0 =
      some (1 + (renderIdentWith forms).length, []) := by
  have h := Refine.Ident.tok_class_matchAt Refine.Ident.identFold_py (46 :: renderIdentWith forms ++ r) 0
  rw [List.drop_zero, C09.scan_any_spelling_prefixed 46 forms r hv hh hr] at h
  rw [h]; simp [Nat.add_comm]

/-- Two spellings of the same code points: both are one `id` token for the generated regex, and the hand
    decoder gives the same value for the two token texts. -/
theorem id_token_two_spellings (f₁ f₂ : List (Nat × EscForm)) (r : Str)
    (h₁ : validForms f₁ r = true) (h₂ : validForms f₂ r = true)
    (hh₁ : headOk f₁ = true) (hh₂ : headOk f₂ = true) (hr : ¬ continuesIdent r)
    (hcp₁ : ∀ p ∈ f₁, rangeOk p.1 p.2 = true) (hcp₂ : ∀ p ∈ f₂, rangeOk p.1 p.2 = true)
    (hval : valueOf f₁ = valueOf f₂) :
    (matchAt pyFoldEnv Gen.tok_id (35 :: renderIdentWith f₁ ++ r) 0).isSome = true ∧
    (matchAt pyFoldEnv Gen.tok_id (35 :: renderIdentWith f₂ ++ r) 0).isSome = true ∧
    cssUnescape (renderIdentWith f₁) = cssUnescape (renderIdentWith f₂) := by
  refine ⟨by rw [id_token_any_spelling f₁ r h₁ hh₁ hr]; rfl,
          by rw [id_token_any_spelling f₂ r h₂ hh₂ hr]; rfl, ?_⟩
  obtain ⟨m₁, m₂, e₁, e₂, hm⟩ :=
    C09.ident_token_spelling_irrelevant f₁ f₂ r h₁ h₂ hh₁ hh₂ hr hcp₁ hcp₂ hval
  rw [C09.scan_any_spelling_ctx f₁ r h₁ hh₁ hr] at e₁
  rw [C09.scan_any_spelling_ctx f₂ r h₂ hh₂ hr] at e₂
  cases e₁; cases e₂; exact hm

/-! ### Gaps: whitespace and comments, as the generated regexes see them -/

/-- `RE_WS_BEGIN` (the leading trim of `selector_iter`) consumes exactly what `skipWSC` skips — for any
    gap `g` in front of text that starts with no gap, it ends right after `g`. -/
theorem ws_begin_skips_gap (env : CharEnv) (g r : Str) (hg : isGap g) (hr : noGapStart r = true) :
    ∃ j, matchAt env Gen.cp_RE_WS_BEGIN (g ++ r) 0 = some (j, []) ∧ (g ++ r).drop j = r := by
  obtain ⟨j, hj, hd⟩ := Refine.Wsc.ws_begin_drop env (g ++ r)
  exact ⟨j, hj, by rw [hd, C09.skipWSC_append g r hg hr]⟩

/-- Two different gaps in front of the same text are trimmed to the same rest. -/
theorem ws_begin_two_gaps (env : CharEnv) (g₁ g₂ r : Str) (h₁ : isGap g₁) (h₂ : isGap g₂)
    (hr : noGapStart r = true) :
    ∃ j₁ j₂, matchAt env Gen.cp_RE_WS_BEGIN (g₁ ++ r) 0 = some (j₁, []) ∧
      matchAt env Gen.cp_RE_WS_BEGIN (g₂ ++ r) 0 = some (j₂, []) ∧
      (g₁ ++ r).drop j₁ = (g₂ ++ r).drop j₂ := by
  obtain ⟨j₁, a₁, b₁⟩ := ws_begin_skips_gap env g₁ r h₁ hr
  obtain ⟨j₂, a₂, b₂⟩ := ws_begin_skips_gap env g₂ r h₂ hr
  exact ⟨j₁, j₂, a₁, a₂, by rw [b₁, b₂]⟩

/-- `RE_WS_END` (the end-of-pattern test of `selector_iter`): at position `i` it succeeds exactly when
    only a gap remains. -/
theorem ws_end_iff_gap (env : CharEnv) (s : Str) (i : Nat) (hi : i ≤ s.length) :
    (matchAt env Gen.cp_RE_WS_END s i).isSome = true ↔ isGap (s.drop i) := by
  rw [Refine.Wsc.ws_end_isSome env s i hi]
  unfold isGap
  simp

/-- The closing parenthesis token `WSC*\)`: any gap before `)` is skipped, whatever it is. -/
theorem pseudo_close_any_gap (g r : Str) (hg : isGap g) :
    (matchAt pyFoldEnv Gen.tok_pseudo_close (g ++ 41 :: r) 0).map (·.1) = some (g.length + 1) := by
  have h := Refine.Wsc.pseudo_close_at Refine.Wsc.caseFree_pyFold (g ++ 41 :: r) 0 (Nat.zero_le _)
  have hs : skipWSC (g ++ 41 :: r) = 41 :: r := C09.skipWSC_append g (41 :: r) hg (by simp [noGapStart, isCssWs])
  rw [List.drop_zero, hs] at h
  simp only [List.head?_cons, if_true] at h
  rw [h]
  have : Refine.Wsc.gapEnd (g ++ 41 :: r) 0 = g.length := by
    unfold Refine.Wsc.gapEnd
    rw [List.drop_zero, hs]; simp
  simp [this]

/-- A quoted value in ANY admissible spelling of its body (literal characters, escapes, line
    continuations), with either quote, is one `value` match of the generated `RE_VALUES`, spanning exactly
    the quoted text. -/
theorem value_any_spelling (q : Nat) (ps : List StrPiece) (r : Str) (hq : q = 34 ∨ q = 39)
    (hv : validStr q ps [] = true) :
    matchAt pyFoldEnv Gen.cp_RE_VALUES (q :: (renderStrWith ps ++ q :: r)) 0 =
      some ((renderStrWith ps).length + 2, [(1, 0, (renderStrWith ps).length + 2)]) := by
  have h := Refine.StringTok.value_quoted_matchAt Refine.StringTok.foldOK_py
    (q :: (renderStrWith ps ++ q :: r)) (by rcases hq with h | h <;> subst h <;> simp)
  rw [C09.scanString_any_spelling q ps r hq hv] at h
  exact h

/-- … and `css_unescape(…, string=True)` as the parser model runs it (the engine on the regenerated
    `RE_CSS_STR_ESC`) decodes that body to the value spelled — for every spelling. -/
theorem string_any_spelling_rx (q : Nat) (ps : List StrPiece) (hv : validStr q ps [] = true)
    (hr : ∀ p ∈ ps, pieceRangeOk p = true) :
    Parser.cssUnescape pyFoldEnv Gen.lexicon (renderStrWith ps) true = strValue ps := by
  rw [Refine.unescapeString_pyFold, C09.string_any_spelling q ps hv hr]

/-- Single or double quotes, any spelling of the body: same value, computed by the engine-based decoder. -/
theorem two_string_spellings_rx (q₁ q₂ : Nat) (p₁ p₂ : List StrPiece)
    (h₁ : validStr q₁ p₁ [] = true) (h₂ : validStr q₂ p₂ [] = true)
    (r₁ : ∀ p ∈ p₁, pieceRangeOk p = true) (r₂ : ∀ p ∈ p₂, pieceRangeOk p = true)
    (hval : strValue p₁ = strValue p₂) :
    Parser.cssUnescape pyFoldEnv Gen.lexicon (renderStrWith p₁) true =
      Parser.cssUnescape pyFoldEnv Gen.lexicon (renderStrWith p₂) true := by
  rw [string_any_spelling_rx q₁ p₁ h₁ r₁, string_any_spelling_rx q₂ p₂ h₂ r₂, hval]

end C09Rx
end SoupVerif
