/-
  C19 / C01 at the level of the regular expressions of the SOURCE (document-side regexes).

  `match_empty` tests text children with `RE_NOT_EMPTY.search(child)`, `get_classes` splits a string-valued
  `class` attribute with `RE_NOT_WS.findall(classes)`.  The matcher model writes these as
  `strVal.any (fun x => !isCssWs x)` and `splitWs`.  `Refine/Misc.lean` proves, for ALL strings, that the
  regex-engine model on the expressions REGENERATED from `css_match.py` computes exactly that.
-/
import SoupVerif.Properties.C19
import SoupVerif.Refine.Misc
namespace SoupVerif
namespace C19Rx

/-- `:empty` as the model computes it, with the text test done by `RE_NOT_EMPTY.search` in the engine. -/
def matchEmptyRx (env : CharEnv) (l : Loc) : Bool :=
  !(l.children.any fun ch => ch.isTag ||
      (ch.focus.isContentString && (Rx.search env Gen.cm_RE_NOT_EMPTY ch.focus.strVal).isSome))

theorem matchEmptyRx_eq (env : CharEnv) (l : Loc) : matchEmptyRx env l = matchEmpty l := by
  unfold matchEmptyRx matchEmpty
  simp only [Refine.Misc.not_empty_search]

/-- The whitespace notion of `:empty` is the class `[^ \t\r\n\f]` of the source's `RE_NOT_EMPTY`. -/
theorem text_test_rx (env : CharEnv) (s : Str) :
    (Rx.search env Gen.cm_RE_NOT_EMPTY s).isSome = s.any (fun x => !isCssWs x) :=
  Refine.Misc.not_empty_search env s

theorem class_split_rx (env : CharEnv) (s : Str) :
    Refine.Misc.findall env Gen.cm_RE_NOT_WS s = splitWs s :=
  Refine.Misc.not_ws_findall env s

end C19Rx
end SoupVerif
