/-
  C02 — `:nth-child(An+B [of S])`, `:nth-last-child`, `:nth-of-type`, `:nth-last-of-type`.

  `Nth.matchOne` is the loop-for-loop model of `CSSMatch.match_nth` for one nth record on the
  sibling walk of the subject element.  The theorems below say that, for EVERY integer `A`, `B`
  and every walk, it returns `true` exactly when some integer `n ≥ 0` has `A*n + B = pos`, where
  `pos` is the 1-based position of the element among the counted siblings in walk order.

  Well-formedness hypothesis (holds at every call site: `el` is a child of its parent, passes the
  `of S` pre-check and has its own type):
      `walk = pre ++ e :: post`, `isEl e`, `counted e`, no node of `pre` is `el`.
  Nothing is assumed about `post` (the model never looks past `el`), so these statements are
  slightly stronger than "exactly one node of `walk` is `el`"; the latter form is `matchOne_iff'`.

  The statements cover every sign of `A` and `B`, every walk length and every interleaving of uncounted
  nodes, with the fuel that `matchOne` itself supplies.
-/
import SoupVerif.Lemmas.Nth

namespace SoupVerif
namespace C02
open Nth NthSpec NthLemmas

variable {α : Type} (counted isEl : α → Bool) (a b : Int)

/-- The spec position of a well-formed walk. -/
theorem posOf_wellformed (walk pre : List α) (e : α) (post : List α)
    (hwalk : walk = pre ++ e :: post) (hpre : ∀ x ∈ pre, isEl x = false)
    (he : isEl e = true) (hc : counted e = true) :
    posOf counted isEl walk = some ((pre.filter counted).length + 1) := by
  subst hwalk; exact posOf_split counted isEl pre e post hpre he hc

/-- **C02, main theorem** (`An+B` form, all `a b : Int`). -/
theorem matchOne_iff (walk pre : List α) (e : α) (post : List α)
    (hwalk : walk = pre ++ e :: post) (hpre : ∀ x ∈ pre, isEl x = false)
    (he : isEl e = true) (hc : counted e = true) :
    Nth.matchOne counted isEl a b true walk = true ↔
      ∃ n : Nat, a * (n : Int) + b = (((pre.filter counted).length + 1 : Nat) : Int) := by
  subst hwalk; rw [matchOne_eq counted isEl a b pre e post true hpre he hc]; exact nthSatB_iff a b _

/-- The same with the literal "exactly one node of `walk` is `el`" hypothesis. -/
theorem matchOne_iff' (walk pre : List α) (e : α) (post : List α)
    (hwalk : walk = pre ++ e :: post) (hone : ∀ x ∈ pre ++ post, isEl x = false)
    (he : isEl e = true) (hc : counted e = true) :
    Nth.matchOne counted isEl a b true walk = true ↔
      ∃ n : Nat, a * (n : Int) + b = (((pre.filter counted).length + 1 : Nat) : Int) :=
  matchOne_iff counted isEl a b walk pre e post hwalk
    (fun x hx => hone x (List.mem_append_left _ hx)) he hc

/-- The model against the spec, phrased with `posOf` / `nthSat`: whenever the walk is well-formed,
    `posOf` is defined and `matchOne` decides `nthSat` at that position. -/
theorem matchOne_spec (walk pre : List α) (e : α) (post : List α)
    (hwalk : walk = pre ++ e :: post) (hpre : ∀ x ∈ pre, isEl x = false)
    (he : isEl e = true) (hc : counted e = true) :
    ∃ pos, posOf counted isEl walk = some pos ∧
      (Nth.matchOne counted isEl a b true walk = true ↔ nthSat a b pos) ∧
      Nth.matchOne counted isEl a b true walk = nthSatB a b pos ∧
      (Nth.matchOne counted isEl a b false walk = true ↔ a = (pos : Int)) := by
  refine ⟨(pre.filter counted).length + 1,
    posOf_wellformed counted isEl walk pre e post hwalk hpre he hc,
    matchOne_iff counted isEl a b walk pre e post hwalk hpre he hc, ?_,
    matchOne_const counted isEl a b walk pre e post hwalk hpre he hc⟩
  subst hwalk; exact matchOne_eq counted isEl a b pre e post true hpre he hc

/-- **Uncounted nodes are irrelevant.**  Two walks that agree after deleting every node that is
    neither counted nor `el` (text, comments, elements failing `of S`, elements of another type)
    give the same answer — although the model's `last_index = len(parent) - 1` counts all nodes. -/
theorem uncounted_irrelevant (var : Bool) (walk walk' pre : List α) (e : α) (post : List α)
    (hwalk : walk = pre ++ e :: post) (hpre : ∀ x ∈ pre, isEl x = false)
    (he : isEl e = true) (hc : counted e = true)
    (hsame : walk'.filter (fun x => counted x || isEl x)
           = walk.filter (fun x => counted x || isEl x)) :
    Nth.matchOne counted isEl a b var walk' = Nth.matchOne counted isEl a b var walk := by
  subst hwalk
  obtain ⟨pre', post', rfl, hpre', hlen⟩ :=
    split_of_filter_eq counted isEl walk' pre e post hpre he hsame
  rw [matchOne_eq counted isEl a b pre' e post' var hpre' he hc, matchOne_eq counted isEl a b pre e post var hpre he hc,
    hlen]

/-- Inserting (read right-to-left: deleting) one uncounted node anywhere in a well-formed walk. -/
theorem uncounted_insert (var : Bool) (l1 l2 : List α) (x : α) (pre : List α) (e : α)
    (post : List α) (hwalk : l1 ++ l2 = pre ++ e :: post) (hpre : ∀ y ∈ pre, isEl y = false)
    (he : isEl e = true) (hc : counted e = true)
    (hx : counted x = false) (hx' : isEl x = false) :
    Nth.matchOne counted isEl a b var (l1 ++ x :: l2)
      = Nth.matchOne counted isEl a b var (l1 ++ l2) := by
  apply uncounted_irrelevant counted isEl a b var (l1 ++ l2) (l1 ++ x :: l2) pre e post hwalk hpre
    he hc
  simp [List.filter_append, hx, hx']

/-- **Keyword forms.**  `:first-child` & co. are `a = 1, b = 0, var = false`; this is position 1,
    and agrees with `:nth-child(1)` written as `0n+1`. -/
theorem keyword_forms (walk pre : List α) (e : α) (post : List α)
    (hwalk : walk = pre ++ e :: post) (hpre : ∀ x ∈ pre, isEl x = false)
    (he : isEl e = true) (hc : counted e = true) :
    (Nth.matchOne counted isEl 1 0 false walk = true ↔ (pre.filter counted).length + 1 = 1) ∧
    Nth.matchOne counted isEl 1 0 false walk = Nth.matchOne counted isEl 0 1 true walk := by
  have h1 := matchOne_const counted isEl 1 0 walk pre e post hwalk hpre he hc
  have h2 := matchOne_iff counted isEl 0 1 walk pre e post hwalk hpre he hc
  refine ⟨?_, ?_⟩
  · rw [h1]; omega
  · rw [Bool.eq_iff_iff, h1, h2]
    constructor
    · intro h; exact ⟨0, by omega⟩
    · rintro ⟨n, h⟩; omega

/-! ### Non-vacuity: concrete walks (nodes are `(counted, isEl)` pairs) -/

section Examples

/-- Two counted elements; the subject is the second. -/
def w2 : List (Bool × Bool) := [(true, false), (true, true)]
/-- Text / comment / foreign-type nodes interleaved; the subject is the 3rd counted of 4. -/
def wMixed : List (Bool × Bool) :=
  [(false, false), (true, false), (false, false), (false, false), (true, false), (false, false),
   (true, true), (false, false), (true, false)]

-- the hypotheses of the theorems are satisfiable
example : ∃ pre e post, w2 = pre ++ e :: post ∧ (∀ x ∈ pre, Prod.snd x = false) ∧
    Prod.snd e = true ∧ Prod.fst e = true ∧ (pre.filter Prod.fst).length + 1 = 2 :=
  ⟨[(true, false)], (true, true), [], rfl, by decide, rfl, rfl, rfl⟩
example : posOf Prod.fst Prod.snd w2 = some 2 := by decide
example : posOf Prod.fst Prod.snd wMixed = some 3 := by decide

-- `n+2`, second element (n = 0)
example : Nth.matchOne Prod.fst Prod.snd 1 2 true w2 = true := by decide
-- `2n-2`, second element (n = 2)
example : Nth.matchOne Prod.fst Prod.snd 2 (-2) true w2 = true := by decide
-- `-n+3`, second element (n = 1)
example : Nth.matchOne Prod.fst Prod.snd (-1) 3 true w2 = true := by decide
-- `2n+1` does not select the second element
example : Nth.matchOne Prod.fst Prod.snd 2 1 true w2 = false := by decide
-- `n+3` does not select the second element
example : Nth.matchOne Prod.fst Prod.snd 1 3 true w2 = false := by decide
-- interleaved uncounted nodes: the subject is at position 3
example : Nth.matchOne Prod.fst Prod.snd 2 1 true wMixed = true := by decide
example : Nth.matchOne Prod.fst Prod.snd (-1) 3 true wMixed = true := by decide
example : Nth.matchOne Prod.fst Prod.snd (-2) 9 true wMixed = true := by decide
example : Nth.matchOne Prod.fst Prod.snd 1 3 true wMixed = true := by decide
example : Nth.matchOne Prod.fst Prod.snd 0 3 true wMixed = true := by decide
example : Nth.matchOne Prod.fst Prod.snd 2 0 true wMixed = false := by decide
example : Nth.matchOne Prod.fst Prod.snd (-1) 2 true wMixed = false := by decide
example : Nth.matchOne Prod.fst Prod.snd 3 0 false wMixed = true := by decide
example : Nth.matchOne Prod.fst Prod.snd 1 0 false wMixed = false := by decide
-- and the spec side agrees
example : nthSatB 1 2 2 = true ∧ nthSatB 2 (-2) 2 = true ∧ nthSatB (-1) 3 2 = true ∧
    nthSatB 2 1 2 = false ∧ nthSatB (-2) 9 3 = true ∧ nthSatB 2 0 3 = false := by decide

end Examples

end C02
end SoupVerif
