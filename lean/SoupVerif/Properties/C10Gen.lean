/-
  C10 about the Lean term TRANSLATED from the source text of `css_parser.escape`.

  `Properties/C10.lean` proves the round trip for the hand-written model `Escape.escape`.  `gen/gen_py_strings.py`
  translates the body of the Python function (its if/elif chain, its special case, its local assignments) into
  `Gen.PyStrings.escapeStep` / `Gen.PyStrings.escape` on every run.  Proved here, FOR EVERY string (every list of
  naturals): the translated function IS the hand model (`gen_escape_eq`).  So every C10 theorem holds of what the
  code says now, and an edit of a constant, a comparison, the order of the branches or of what a branch appends
  changes `Generated/PyStrings.lean` and breaks a proof obligation of this file (or, if it leaves the translated
  subset, makes the translator fail).

  The proofs unfold only the two generated definitions by their (fixed) names; they do not mention the names of
  their binders, which follow the names of the Python locals.
-/
import SoupVerif.Properties.C10
import SoupVerif.Generated.PyStrings
namespace SoupVerif
namespace C10Gen
open Escape PyStrings

/-- The translated chain appends, for every position, flag and code point, exactly what the hand model's
    `escapeChar` appends (`lead` is the Python sub-condition `index == 0 or (start_dash and index == 1)`). -/
theorem gen_escapeStep_emit (i : Nat) (sd : Bool) (c : Nat) :
    (Gen.PyStrings.escapeStep i sd c).emit c = escapeChar (i == 0 || (sd && i == 1)) c := by
  unfold Gen.PyStrings.escapeStep escapeChar
  -- the two chains test the same conditions in the same order; the source writes the digit range
  -- twice in the last one
  simp only [Bool.or_assoc, Bool.or_self_left]
  split
  · rfl
  split
  · rfl
  split
  · rfl
  split <;> rfl

theorem gen_escapeLoop_eq (sd : Bool) (s : Str) (i : Nat) :
    escapeLoopFrom (fun j c => Gen.PyStrings.escapeStep j sd c) i s = escapeGo sd i s := by
  induction s generalizing i with
  | nil => simp [escapeLoopFrom, escapeGo]
  | cons c cs ih => simp [escapeLoopFrom, escapeGo, gen_escapeStep_emit, ih]

/-- The function translated from the current source is the hand-written model, on every string. -/
theorem gen_escape_eq (s : Str) : Gen.PyStrings.escape s = Escape.escape s := by
  unfold Gen.PyStrings.escape Escape.escape
  have hsd : (decide (s.length > 0) && s[0]? == some 0x2D) = startDash s := by
    cases s <;> simp [startDash]
  simp only [hsd, escapeLoop, gen_escapeLoop_eq]
  by_cases h : (s.length == 1 && startDash s) = true <;> simp [h]

/-! ### The C10 theorems, about the translated function -/

/-- `css_unescape(escape(s))` is `s` with NUL replaced by U+FFFD. -/
theorem unescape_escape (s : Str) : cssUnescape (Gen.PyStrings.escape s) = nulToFFFD s := by
  rw [gen_escape_eq]; exact C10.unescape_escape s

/-- `IDENTIFIER` matches `escape s ++ r` at position 0, consumes exactly `escape s` and leaves `r`, whenever `r`
    does not itself begin with an identifier character or a backslash. -/
theorem escape_scan (s r : Str) (hs : s ≠ []) (hr : ¬ continuesIdent r) :
    scanIdent (Gen.PyStrings.escape s ++ r) = some (Gen.PyStrings.escape s, r) := by
  rw [gen_escape_eq]; exact C10.escape_scan s r hs hr

/-- Whatever follows, no piece of `escape s` reaches into the following text. -/
theorem escape_inert (s r : Str) (hs : s ≠ []) :
    scanIdent (Gen.PyStrings.escape s ++ r) =
      some (Gen.PyStrings.escape s ++ (scanCont 0 r).1, (scanCont 0 r).2) := by
  rw [gen_escape_eq]; exact C10.escape_inert s r hs

/-- `escape s` never contains a raw newline, form feed or carriage return. -/
theorem escape_no_newline (s : Str) : ∀ c ∈ Gen.PyStrings.escape s, c ≠ 10 ∧ c ≠ 12 ∧ c ≠ 13 := by
  rw [gen_escape_eq]; exact C10.escape_no_newline s

theorem escape_chars_ok (s : Str) : ∀ c ∈ Gen.PyStrings.escape s, c ≠ 0 := by
  rw [gen_escape_eq]; exact C10.escape_chars_ok s

/-- `css_unescape` does not raise on `escape s`. -/
theorem unescape_never_raises (s : Str) : cssUnescapeRaises (Gen.PyStrings.escape s) = false := by
  rw [gen_escape_eq]; exact C10.unescape_never_raises s

/-- The round trip in one statement, for the translated function. -/
theorem ident_value (s r : Str) (hs : s ≠ []) (hr : ¬ continuesIdent r) :
    ∃ m, scanIdent (Gen.PyStrings.escape s ++ r) = some (m, r) ∧ cssUnescape m = nulToFFFD s ∧
      cssUnescapeRaises m = false := by
  rw [gen_escape_eq]; exact C10.ident_value s r hs hr

/-! ### Non-vacuity: the translated term evaluates (kernel) to what Python returns -/

example : Gen.PyStrings.escape [45] = [92, 45] := by decide                           -- escape('-') == '\\-'
example : Gen.PyStrings.escape [45, 49] = [45, 92, 51, 49, 32] := by decide           -- escape('-1') == '-\\31 '
example : Gen.PyStrings.escape [49, 97] = [92, 51, 49, 32, 97] := by decide           -- escape('1a') == '\\31 a'
example : Gen.PyStrings.escape [97, 49] = [97, 49] := by decide                       -- escape('a1') == 'a1'
example : Gen.PyStrings.escape [0, 0x7F, 32] = [0xFFFD, 92, 55, 102, 32, 92, 32] := by decide +kernel
example : Gen.PyStrings.escape [0x80, 0xD800, 0x10FFFF] = [0x80, 0xD800, 0x10FFFF] := by decide +kernel
example : Gen.PyStrings.escape [] = [] := by decide +kernel

end C10Gen
end SoupVerif
