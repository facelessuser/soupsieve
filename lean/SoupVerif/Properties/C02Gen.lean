/-
  C02: the An+B block of `CSSParser.parse_pseudo_nth`, TRANSLATED from the source on every run
  (`gen/gen_py_anb.py` → `Generated/PyAnB.lean`: `Gen.PyAnB.anb content groups`, a statement-by-statement
  translation of the Python from `if content == 'even':` to the two `int(…, 10)` calls, over the named groups of a
  `RE_NTH` match; Python's string operations and exceptions are those of `Model/PyStr.lean`).

  `genAnB env content` runs that definition on the match the regex-engine model computes on the REGENERATED
  `RE_NTH` (`Gen.PyAnB.regex`), groups looked up by NAME in the regenerated group table.

  WHERE GENERATED AND HAND MODEL DIFFER (known, `Refine/C02ParseAnB.lean` header): Python's `int()` refuses more
  than 4300 digits and `parse_pseudo_nth` raises `SelectorSyntaxError`; `PyStr.int10` models the limit, the hand
  model's `parseInt` does not.  `gen_sound` holds regardless (an error is not a value); `gen_total` needs `digitsLe`.
  On a text `RE_NTH` does not match, Python raises `AttributeError` (`None.group`), `genAnB` returns
  `.error .attributeError`, the hand model returns the dummy `(0, false, 0)` — unreachable: the `nth` token's own
  pattern guarantees the match.
-/
import SoupVerif.Lemmas.StrLit
import SoupVerif.Lemmas.PyStr
import SoupVerif.Generated.PyAnB
import SoupVerif.Refine.C02ParseAnB
namespace SoupVerif
namespace C02Gen
open SoupVerif.Parser Refine.Compile Refine.C02Parse PyStr Spelling Escape

theorem endswith_some (s t : Str) : PyStr.endswith (some s) t = pure (t.isSuffixOf s) := rfl
theorem startswith_some (s t : Str) : PyStr.startswith (some s) t = pure (t.isPrefixOf s) := rfl
theorem concat_some (s t : Str) : PyStr.concat s (some t) = pure (s ++ t) := rfl

/-- the strings `_s1`, `_s2` handed to `int(…, 10)` and `var` -/
def coreStrs (s1 : Option Str) (a : Str) (s2 : Option Str) (b : Option Str) : Str × Str × Bool :=
  let s1' : Str := if s1 == some [45] then [45] else []
  let var := a.getLast? == some 110
  let s1'' := if a.head? == some 110 then s1' ++ [49]
    else if var then s1' ++ a.take (a.length - 1)
    else s1' ++ a
  let s2' : Str := if s2 == some [45] then [45] else []
  let s2'' := match b with
    | some b => if b.isEmpty then [48] else s2' ++ b
    | none => [48]
  (s1'', s2'', var)

theorem anbCore_eq (s1 : Option Str) (a : Str) (s2 b : Option Str) :
    anbCore s1 a s2 b = (parseInt (coreStrs s1 a s2 b).1, (coreStrs s1 a s2 b).2.2, parseInt (coreStrs s1 a s2 b).2.1) := rfl

theorem sign_eq (x : Option Str) :
    (if (PyStr.truthy x && (x == some "-".toStr)) = true then "-".toStr else "".toStr) = (if x == some [45] then [45] else []) := by
  have : "-".toStr = [45] := by decide
  have h2 : "".toStr = [] := by decide
  rw [this, h2]
  cases x with
  | none => rfl
  | some s =>
    by_cases h : s = [45]
    · subst h; rfl
    · simp [h]

theorem except_map {α β} (m : PyStr.M α) (e : PyStr.Err) (f : α → β) :
    (PyStr.exceptValueError m e >>= fun x => pure (f x)) = PyStr.exceptValueError (m >>= fun x => pure (f x)) e := by
  cases m with
  | ok v => rfl
  | error er => cases er <;> rfl

theorem lit_n : "n".toStr = [110] := by decide_lit
theorem lit_1 : "1".toStr = [49] := by decide_lit
theorem lit_0 : "0".toStr = [48] := by decide_lit

theorem anb_closed (content : Str) (g : String → Option Str)
    (h1 : (content == "even".toStr) = false) (h2 : (content == "odd".toStr) = false) (a : Str) (ha : g "a" = some a) :
    Gen.PyAnB.anb content g =
      PyStr.exceptValueError (do
        let x ← PyStr.int10 (coreStrs (g "s1") a (g "s2") (g "b")).1
        let y ← PyStr.int10 (coreStrs (g "s1") a (g "s2") (g "b")).2.1
        pure (x, y, (coreStrs (g "s1") a (g "s2") (g "b")).2.2)) .selectorSyntaxError := by
  unfold Gen.PyAnB.anb
  simp only [h1, h2, ha, sign_eq]
  simp only [Bool.false_eq_true, if_false, endswith_some, startswith_some, PyStr.slice_init, lit_n, lit_1, lit_0,
    isPrefixOf_single, isSuffixOf_single, pure_bind, bind_assoc, bind_pure]
  have hS1 : (if (a.head? == some 110) = true then (pure ((if (g "s1" == some [45]) = true then [45] else []) ++ [49]) : PyStr.M Str)
      else if (a.getLast? == some 110) = true then
        pure ((if (g "s1" == some [45]) = true then [45] else []) ++ List.take (a.length - 1) a)
      else PyStr.concat (if (g "s1" == some [45]) = true then [45] else []) (some a)) =
      pure (coreStrs (g "s1") a (g "s2") (g "b")).1 := by
    simp only [coreStrs, concat_some]
    split <;> [rfl; (split <;> rfl)]
  have hS2 : (if PyStr.truthy (g "b") = true then PyStr.concat (if (g "s2" == some [45]) = true then [45] else []) (g "b")
      else (pure [48] : PyStr.M Str)) = pure (coreStrs (g "s1") a (g "s2") (g "b")).2.1 := by
    simp only [coreStrs]
    cases g "b" with
    | none => rfl
    | some b => cases b <;> rfl
  rw [hS1, hS2]
  simp only [pure_bind]
  refine (except_map _ _ (fun (x : Int × Int) => (x.1, x.2, a.getLast? == some 110))).trans ?_
  simp only [bind_assoc, pure_bind]
  rfl

theorem isDigits_of (D : Str) (hD : ∀ x ∈ D, isDigit x = true) (hne : D ≠ []) : PyStr.isDigits D = true := by
  cases D with
  | nil => exact absurd rfl hne
  | cons d ds =>
    simp only [PyStr.isDigits, List.isEmpty_cons, Bool.not_false, Bool.true_and, List.all_eq_true]
    intro x hx
    have := hD x hx
    simpa [isDigit] using this

/-- `int(text, 10)` on an optional minus sign and a non-empty run of digits: the value, unless the run is
    longer than `sys.get_int_max_str_digits()`. -/
theorem int10_digits (pre D : Str) (hpre : pre = [] ∨ pre = [45]) (hD : ∀ x ∈ D, isDigit x = true) (hne : D ≠ []) :
    PyStr.int10 (pre ++ D) =
      if D.length ≤ PyStr.maxStrDigits then .ok (parseInt (pre ++ D)) else .error .valueError := by
  have hdig := isDigits_of D hD hne
  rcases hpre with rfl | rfl
  · cases D with
    | nil => exact absurd rfl hne
    | cons d ds =>
      have hd := hD d (by simp)
      simp only [isDigit, Bool.and_eq_true, decide_eq_true_eq] at hd
      have h45 : d ≠ 45 := by omega
      have h43 : d ≠ 43 := by omega
      have hp : parseInt (d :: ds) = Int.ofNat (PyStr.digitsVal (d :: ds)) := by
        unfold parseInt
        split
        · rename_i e; injection e with e; exact absurd e h45
        · rfl
      simp only [List.nil_append, hp]
      unfold PyStr.int10
      split
      · rename_i e; injection e with e; exact absurd e h45
      · rename_i e; injection e with e; exact absurd e h43
      · simp only [hdig, Bool.true_and, decide_eq_true_eq]
  · simp only [List.singleton_append, PyStr.int10, hdig, Bool.true_and, decide_eq_true_eq]
    rfl

theorem int10_complete (pre D : Str) (hpre : pre = [] ∨ pre = [45]) (hD : ∀ x ∈ D, isDigit x = true) (hne : D ≠ [])
    (hlen : D.length ≤ PyStr.maxStrDigits) : PyStr.int10 (pre ++ D) = .ok (parseInt (pre ++ D)) := by
  rw [int10_digits pre D hpre hD hne, if_pos hlen]

def reNth : TokenRx := ⟨"RE_NTH", Gen.PyAnB.regex, Gen.PyAnB.regexGroups⟩

/-- The generated block run on `RE_NTH.match(content)` as the regex-engine model computes it on the
    regenerated AST (`nth_parts.group(name)` = look-up by NAME in the regenerated group table; no match:
    every look-up fails, as `None.group` does). -/
def genAnB (env : CharEnv) (content : Str) : PyStr.M (Int × Int × Bool) :=
  Gen.PyAnB.anb content fun name =>
    match Rx.matchAt env Gen.PyAnB.regex content 0 with
    | some (_, caps) => Parser.group content reNth caps name
    | none => none

theorem anb_even (g : String → Option Str) : Gen.PyAnB.anb "even".toStr g = .ok (2, 0, true) := by
  simp [Gen.PyAnB.anb]; rfl

theorem anb_odd (g : String → Option Str) : Gen.PyAnB.anb "odd".toStr g = .ok (2, 1, true) := by
  have : ("odd".toStr == "even".toStr) = false := by decide
  simp [Gen.PyAnB.anb, this]; rfl

theorem anb_no_a (content : Str) (g : String → Option Str)
    (h1 : (content == "even".toStr) = false) (h2 : (content == "odd".toStr) = false) (ha : g "a" = none) :
    Gen.PyAnB.anb content g = .error .attributeError := by
  unfold Gen.PyAnB.anb
  simp only [h1, h2, ha, PyStr.endswith]
  rfl

theorem closed_ok {S1 S2 : Str} {v : Bool} {r : Int × Int × Bool}
    (h : PyStr.exceptValueError (do
        let x ← PyStr.int10 S1
        let y ← PyStr.int10 S2
        pure (x, y, v)) .selectorSyntaxError = .ok r) :
    PyStr.int10 S1 = .ok r.1 ∧ PyStr.int10 S2 = .ok r.2.1 ∧ v = r.2.2 := by
  cases e1 : PyStr.int10 S1 with
  | error er => rw [e1] at h; cases er <;> cases h
  | ok x =>
    cases e2 : PyStr.int10 S2 with
    | error er => rw [e1, e2] at h; cases er <;> cases h
    | ok y => rw [e1, e2] at h; cases h; exact ⟨rfl, rfl, rfl⟩

/-- **Soundness, for EVERY text.**  Whenever the generated block returns a triple, the hand-written model of
    `parse_pseudo_nth` returns the same one. -/
theorem gen_sound (P : PEnv) (hrx : P.L.reNth.rx = Gen.PyAnB.regex) (hgr : P.L.reNth.groups = Gen.PyAnB.regexGroups)
    (content : Str) (r : Int × Int × Bool) (h : genAnB P.env content = .ok r) :
    parseAnB P content = (r.1, r.2.2, r.2.1) := by
  by_cases h1 : content = "even".toStr
  · subst h1
    rw [genAnB, anb_even] at h; cases h
    exact (parseAnB_kw P).1
  by_cases h2 : content = "odd".toStr
  · subst h2
    rw [genAnB, anb_odd] at h; cases h
    exact (parseAnB_kw P).2
  have h1' : (content == "even".toStr) = false := by simpa using h1
  have h2' : (content == "odd".toStr) = false := by simpa using h2
  unfold genAnB at h
  cases hm : Rx.matchAt P.env Gen.PyAnB.regex content 0 with
  | none =>
    rw [hm, anb_no_a content _ h1' h2' rfl] at h
    cases h
  | some q =>
    obtain ⟨j, caps⟩ := q
    rw [hm] at h
    cases ha : Parser.group content reNth caps "a" with
    | none => rw [anb_no_a content _ h1' h2' ha] at h; cases h
    | some a =>
      rw [anb_closed content _ h1' h2' a ha] at h
      obtain ⟨e1, e2, e3⟩ := closed_ok h
      have hm' : Rx.matchAt P.env P.L.reNth.rx content 0 = some (j, caps) := by rw [hrx]; exact hm
      have hg : ∀ n, Parser.group content P.L.reNth caps n = Parser.group content reNth caps n := by
        intro n; simp only [Parser.group, hgr, reNth]
      rw [parseAnB_of_match P content j caps h1' h2' hm', hg, hg, hg, hg, ha, anbCore_eq]
      simp only [Option.getD_some, int10_sound _ _ e1, int10_sound _ _ e2, e3]

/-- = `Refine.Compile.lin_groups`, typed with the names the generated block reads (`Gen.PyAnB.regex`, `reNth`). -/
theorem lin_groups (sg : Option Nat) (D : Str) (n : Option Nat) (T : Option (Str × Nat × Str × Str))
    (hok : (SAnB.lin sg D n T).ok) :
    ((SAnB.lin sg D n T).render == "even".toStr) = false ∧ ((SAnB.lin sg D n T).render == "odd".toStr) = false ∧
    ∃ j caps, Rx.matchAt pyFoldEnv Gen.PyAnB.regex (SAnB.lin sg D n T).render 0 = some (j, caps) ∧
      Parser.group (SAnB.lin sg D n T).render reNth caps "s1" = sg.map (fun x => [x]) ∧
      Parser.group (SAnB.lin sg D n T).render reNth caps "a" = some (D ++ n.toList) ∧
      Parser.group (SAnB.lin sg D n T).render reNth caps "s2" = T.map (fun q => [q.2.1]) ∧
      Parser.group (SAnB.lin sg D n T).render reNth caps "b" = T.map (fun q => q.2.2.2) :=
  Refine.Compile.lin_groups sg D n T hok

/-- Every digit string of the spelling (the coefficient and the offset) has at most `k` digits: what `int(…, 10)`
    needs with `k = sys.get_int_max_str_digits()` (`PyStr.maxStrDigits`). -/
def digitsLe (k : Nat) : SAnB → Prop
  | .lin _ D _ T => D.length ≤ k ∧ ∀ q, T = some q → q.2.2.2.length ≤ k
  | _ => True

theorem sign_pre (x : Option Str) : (if x == some [45] then [45] else ([] : Str)) = [] ∨
    (if x == some [45] then [45] else ([] : Str)) = [45] := by
  split
  · exact Or.inr rfl
  · exact Or.inl rfl

theorem getLast_snoc (D : Str) : ((D ++ [110]).getLast? == some 110) = true := by simp
theorem take_snoc (D : Str) : (D ++ [110]).take ((D ++ [110]).length - 1) = D := by simp

/-- The string handed to the first `int(…, 10)`, on the groups of `[-+]? digits n?`: the sign prefix and the
    digits, or `1` when there are none. -/
theorem coreStrs_fst (s1 : Option Str) (D : Str) (n : Option Nat) (s2 b : Option Str)
    (hD : ∀ x ∈ D, isDigit x = true) (hn110 : ∀ x, n = some x → x = 110) (hne : D ≠ [] ∨ n.isSome = true) :
    (coreStrs s1 (D ++ n.toList) s2 b).1 =
      (if s1 == some [45] then [45] else []) ++ (if D = [] then [49] else D) := by
  have hh : (D.head? == some 110) = false := by
    rw [beq_eq_false_iff_ne]; exact digits_head_ne D hD 110 (by omega)
  cases n with
  | none =>
    have hD0 : D ≠ [] := by rcases hne with h | h; exact h; cases h
    have hl : (D.getLast? == some 110) = false := by
      rw [beq_eq_false_iff_ne]; exact digits_getLast_ne D hD 110 (by omega)
    simp only [coreStrs, Option.toList_none, List.append_nil, hl, hh, Bool.false_eq_true, if_false, if_neg hD0]
  | some y =>
    obtain rfl := hn110 y rfl
    cases D with
    | nil => rfl
    | cons d ds =>
      have hd : (((d :: ds) ++ [110]).head? == some 110) = false := by simpa using hh
      simp only [coreStrs, Option.toList_some, hd, getLast_snoc, take_snoc, Bool.false_eq_true, if_false, if_true,
        if_neg (List.cons_ne_nil d ds)]

/-- On the groups of a lower-case spelling with at most 4300 digits, both `int(…, 10)` calls succeed. -/
theorem core_lin_ok (sg : Option Nat) (D : Str) (n : Option Nat) (T : Option (Str × Nat × Str × Str))
    (hok : (SAnB.lin sg D n T).ok) (hn110 : ∀ x, n = some x → x = 110)
    (hlen : digitsLe PyStr.maxStrDigits (.lin sg D n T)) (S : Str × Str × Bool)
    (hS : S = coreStrs (sg.map fun x => [x]) (D ++ n.toList) (T.map fun q => [q.2.1]) (T.map fun q => q.2.2.2)) :
    PyStr.int10 S.1 = .ok (parseInt S.1) ∧ PyStr.int10 S.2.1 = .ok (parseInt S.2.1) := by
  subst hS
  obtain ⟨hsg, hD, hn, hne, hT⟩ := hok
  obtain ⟨hl1, hl2⟩ := hlen
  constructor
  · rw [coreStrs_fst _ D n _ _ hD hn110 hne]
    by_cases hD0 : D = []
    · rw [if_pos hD0]; exact int10_complete _ [49] (sign_pre _) (by decide) (by decide) (by decide)
    · rw [if_neg hD0]; exact int10_complete _ D (sign_pre _) hD hD0 hl1
  · cases T with
    | none => simp only [coreStrs, Option.map_none]; rfl
    | some q =>
      obtain ⟨g, s2, g', D2⟩ := q
      obtain ⟨_, _, _, _, hne2, hD2⟩ := hT
      have he : D2.isEmpty = false := by cases D2 with | nil => exact absurd rfl hne2 | cons _ _ => rfl
      simp only [coreStrs, Option.map_some, he, Bool.false_eq_true, if_false]
      exact int10_complete _ D2 (sign_pre _) hD2 hne2 (hl2 _ rfl)

theorem closed_of_ok {S1 S2 : Str} {v : Bool} {x y : Int} (h1 : PyStr.int10 S1 = .ok x) (h2 : PyStr.int10 S2 = .ok y) :
    PyStr.exceptValueError (do
        let x ← PyStr.int10 S1
        let y ← PyStr.int10 S2
        pure (x, y, v)) .selectorSyntaxError = .ok (x, y, v) := by
  rw [h1, h2]; rfl

theorem gen_lin_ok (sg : Option Nat) (D : Str) (n : Option Nat) (T : Option (Str × Nat × Str × Str))
    (hok : (SAnB.lin sg D n T).ok) (hn110 : ∀ x, n = some x → x = 110)
    (hlen : digitsLe PyStr.maxStrDigits (.lin sg D n T)) :
    ∃ r, genAnB pyFoldEnv (SAnB.lin sg D n T).render = .ok r := by
  obtain ⟨h1, h2, j, caps, hm, g1, g2, g3, g4⟩ := lin_groups sg D n T hok
  obtain ⟨i1, i2⟩ := core_lin_ok sg D n T hok hn110 hlen _ rfl
  unfold genAnB
  rw [hm, anb_closed _ _ h1 h2 _ g2, g1, g3, g4]
  exact ⟨_, closed_of_ok i1 i2⟩

/-- **Totality on the accepted language.**  For every spelling `x` of An+B the `nth` tokens accept (`x.ok`:
    `Refine/Syntax.lean`) whose digit strings have at most 4300 digits, the generated block, run on the
    lower-cased text as `parse_pseudo_nth` runs it, returns a value: the `ValueError` / `AttributeError` /
    `TypeError` branches are not taken. -/
theorem gen_total (x : SAnB) (hok : x.ok) (hlen : digitsLe PyStr.maxStrDigits x) :
    ∃ r, genAnB pyFoldEnv (lower x.render) = .ok r := by
  cases x with
  | even m =>
    have hl : lower (mixCase m "even".toStr) = "even".toStr := SpellingLemmas.lower_mixCase m _ (by decide)
    exact ⟨(2, 0, true), by simp only [SAnB.render, hl, genAnB, anb_even]⟩
  | odd m =>
    have hl : lower (mixCase m "odd".toStr) = "odd".toStr := SpellingLemmas.lower_mixCase m _ (by decide)
    exact ⟨(2, 1, true), by simp only [SAnB.render, hl, genAnB, anb_odd]⟩
  | lin sg D n T =>
    obtain ⟨e, hok'⟩ := lower_lin sg D n T hok
    rw [e]
    refine gen_lin_ok sg D _ _ hok' ?_ ⟨hlen.1, ?_⟩
    · intro x hx
      cases n with
      | none => cases hx
      | some y => simp at hx; exact hx.symm
    · intro q hq
      cases T with
      | none => cases hq
      | some t =>
        obtain ⟨g, s2, g', D2⟩ := t
        simp only [lowerTail, Option.some.injEq] at hq
        subst hq
        exact hlen.2 (g, s2, g', D2) rfl

/-- **The generated block computes the CSS value.**  For every accepted spelling `x` with at most 4300 digits
    per digit string: `(a, b, var)` is `(A, B, True)` when the `An` term is present and `(B, 0, False)` for a bare
    `<integer>`, with `(A, B) = anbValue x` the CSS value of `x` (`Refine/C02ParseAnB.lean`). -/
theorem gen_anb_value (x : SAnB) (hok : x.ok) (hlen : digitsLe PyStr.maxStrDigits x) :
    genAnB pyFoldEnv (lower x.render) =
      .ok (if hasN x then ((anbValue x).1, (anbValue x).2, true) else ((anbValue x).2, 0, false)) := by
  obtain ⟨r, hr⟩ := gen_total x hok hlen
  have hs := gen_sound (penv Gen.builtinsRec []) rfl rfl _ r hr
  rw [parseAnB_text_eq Gen.builtinsRec [] x hok] at hs
  rw [hr]
  obtain ⟨a, b, v⟩ := r
  cases h : hasN x <;> simp only [h, if_true, Bool.false_eq_true, if_false, Prod.mk.injEq] at hs ⊢ <;>
    obtain ⟨ha, hv, hb⟩ := hs <;> subst ha hv hb <;> rfl

/-- On every accepted spelling the generated block does not fail and agrees with the hand-written model. -/
theorem gen_eq_model (B : Builtins) (pat : Str) (x : SAnB) (hok : x.ok) (hlen : digitsLe PyStr.maxStrDigits x) :
    genAnB pyFoldEnv (lower x.render) =
      .ok ((parseAnB (penv B pat) (lower x.render)).1, (parseAnB (penv B pat) (lower x.render)).2.2,
        (parseAnB (penv B pat) (lower x.render)).2.1) := by
  obtain ⟨r, hr⟩ := gen_total x hok hlen
  rw [gen_sound (penv B pat) rfl rfl _ r hr, hr]

/-- **`parse_anb_value` for the generated block**: read the way `match_nth` reads the record
    (`idx = a * count + b if var else a`), the triple the generated block returns designates exactly the
    positions `{A·n + B | n ≥ 0}`. -/
theorem gen_designates (x : SAnB) (hok : x.ok) (hlen : digitsLe PyStr.maxStrDigits x) (pos : Nat) :
    ∃ a b var, genAnB pyFoldEnv (lower x.render) = .ok (a, b, var) ∧
      (Designates (a, var, b) pos ↔ ∃ n : Nat, (anbValue x).1 * (n : Int) + (anbValue x).2 = (pos : Int)) := by
  obtain ⟨r, hr⟩ := gen_total x hok hlen
  refine ⟨r.1, r.2.1, r.2.2, hr, ?_⟩
  have hs := gen_sound (penv Gen.builtinsRec []) rfl rfl _ r hr
  rw [← hs]
  exact parse_anb_value_text Gen.builtinsRec [] x hok pos

/-- **Where the two differ.**  A spelling whose FIRST digit string has more than 4300 digits: the generated block
    returns `SelectorSyntaxError` (as the library does: `int()` raises `ValueError`, which `parse_pseudo_nth`
    converts).  (The hand model `parseAnB` has no such limit and computes the value: `Refine.C02Parse.parse_anb_value`; not
    part of this statement.) -/
theorem gen_overflow (x : SAnB) (hok : x.ok) (sg : Option Nat) (D : Str) (n : Option Nat)
    (T : Option (Str × Nat × Str × Str)) (hx : x = .lin sg D n T) (hlen : PyStr.maxStrDigits < D.length) :
    genAnB pyFoldEnv (lower x.render) = .error .selectorSyntaxError := by
  subst hx
  obtain ⟨e, hok'⟩ := lower_lin sg D n T hok
  rw [e]
  obtain ⟨h1, h2, j, caps, hm, g1, g2, g3, g4⟩ := lin_groups sg D _ _ hok'
  obtain ⟨hsg, hD, hn, hne, hT⟩ := hok
  have hD0 : D ≠ [] := by intro h; subst h; simp [PyStr.maxStrDigits] at hlen
  unfold genAnB
  rw [hm, anb_closed _ _ h1 h2 _ g2, g1, g3, g4,
    coreStrs_fst _ D _ _ _ hD (by intro x hx; cases n <;> simp_all) (.inl hD0), if_neg hD0,
    int10_digits _ D (sign_pre _) hD hD0, if_neg (by omega)]
  rfl

example : Gen.PyAnB.regex = Gen.lexicon.reNth.rx ∧ Gen.PyAnB.regexGroups = Gen.lexicon.reNth.groups := ⟨rfl, rfl⟩
example : Gen.PyAnB.groupsRead = ["s1", "a", "s2", "b"] := rfl

/-- the groups of `-n+3`, `2n`, `+5`, a failed match -/
def gEx (s1 a s2 b : Option String) : String → Option Str := fun n =>
  if n == "s1" then s1.map String.toStr else if n == "a" then a.map String.toStr
  else if n == "s2" then s2.map String.toStr else if n == "b" then b.map String.toStr else none

example : Gen.PyAnB.anb "-n+3".toStr (gEx (some "-") (some "n") (some "+") (some "3")) = .ok (-1, 3, true) := by decide_lit
example : Gen.PyAnB.anb "2n".toStr (gEx none (some "2n") none none) = .ok (2, 0, true) := by decide_lit
example : Gen.PyAnB.anb "+5".toStr (gEx (some "+") (some "5") none none) = .ok (5, 0, false) := by decide_lit
example : Gen.PyAnB.anb "-007n-08".toStr (gEx (some "-") (some "007n") (some "-") (some "08")) = .ok (-7, -8, true) := by decide_lit
example : Gen.PyAnB.anb "x".toStr (gEx none none none none) = .error .attributeError := by decide_lit
/-- what the error branches are for: `int('-', 10)`, `int('', 10)` are `ValueError`s -/
example : PyStr.int10 "-".toStr = .error .valueError ∧ PyStr.int10 [] = .error .valueError ∧
    PyStr.int10 "n".toStr = .error .valueError ∧ PyStr.int10 "-12".toStr = .ok (-12) ∧ PyStr.int10 "+007".toStr = .ok 7 := by decide_lit
/-- a group `a` the block cannot digest (it never comes out of `RE_NTH`): `SelectorSyntaxError` -/
example : Gen.PyAnB.anb "nn".toStr (gEx none (some "xn") none none) = .error .selectorSyntaxError := by decide_lit

end C02Gen
end SoupVerif

#print axioms SoupVerif.C02Gen.anb_closed
#print axioms SoupVerif.C02Gen.gen_sound
#print axioms SoupVerif.C02Gen.gen_total
#print axioms SoupVerif.C02Gen.gen_anb_value
#print axioms SoupVerif.C02Gen.gen_eq_model
#print axioms SoupVerif.C02Gen.gen_designates
#print axioms SoupVerif.C02Gen.gen_overflow
