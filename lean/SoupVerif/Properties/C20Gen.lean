/-
  C20 about the function the SOURCE defines: `util.get_pattern_context` translated by gen/gen_py_context.py.

  `Generated/PyContext.lean` is generated from the `ast` of `soupsieve/util.py`: the six initialisations
  (`init`), the loop body (`step`, over `Int`s as in Python, with Python's slice and `str * int`), the `return`
  (`result`) and the name of the regular expression the loop runs `finditer` on (`loopRegex`).  Here:

    * `getPatternContextGen env pattern index` = the generated program run over the matches of CPython's `finditer`
      (the engine model of `Refine/Context.lean`, incl. `must_advance`) on the regenerated regular expression;
    * `getPatternContextGen_eq`: for ALL patterns and ALL offsets `index : Nat` it returns the hand model's
      `Context.getPatternContext pattern index` (line and column cast to `Int`) — so every `ctx_*` theorem of
      `Properties/C20.lean` and `C20Parse.diagnostic_of_error` speak about the regenerated function;
      `ctx_line_gen`, `ctx_col_gen`, `ctx_position_gen`, `ctx_text_gen` restate the main ones.

  No guard on `index` is needed: the hand model computes `index - last + 1` in `Nat` (truncated), the source in `Int`;
  they agree because in the two branches that assign `col` we have `last = 0` (first iteration: `text` is empty only then)
  resp. `last ≤ index` (or `index = m.end(0) ≥ last`), which needs `last ≤ m.start(0) ≤ m.end(0)` for every match —
  a property of `finditer` on this regular expression (`chain_ordered`).  For negative `index` (never passed by the
  parser) the hand model says nothing; the generated `step` is defined there too.

  The proofs address the generated state by POSITION (`g.1 … g.5`, anonymous constructors), never by the Python names of
  the locals, so renaming a local in the source keeps them green.
-/
import SoupVerif.Generated.PyContext
import SoupVerif.Properties.C20Rx
import SoupVerif.Lemmas.StrLit
namespace SoupVerif
namespace C20Gen
open Context

/-- The generated state (positions 1-5; the 6th, `offset`, is dead at loop entry: every path re-assigns it before it
    is read) agrees with the hand model's loop state. -/
def Rel (g : Gen.PyContext.State) (h : LoopState) : Prop :=
  g.1 = (h.last : Int) ∧ g.2 = (h.currentLine : Int) ∧ g.3 = (h.col : Int) ∧ g.4 = h.text ∧
    g.5 = (h.line : Int)

theorem pySlice_nat (p : Str) (a b : Nat) : PyCtx.pySlice p (a : Int) (b : Int) = slice p a b := by
  have ha : ¬ ((a : Int) < 0) := by omega
  have hb : ¬ ((b : Int) < 0) := by omega
  simp [PyCtx.pySlice, PyCtx.sliceBound, slice, ha, hb]

theorem strMul_space (n : Int) : PyCtx.strMul " ".toStr n = spaces n := by
  show (List.replicate n.toNat [32]).flatten = List.replicate n.toNat 32
  generalize n.toNat = k
  induction k with
  | zero => rfl
  | succ k ih => simp [List.replicate_succ, ih]

theorem step_rel (p : Str) (i : Nat) (g : Gen.PyContext.State) (h : LoopState) (l a b : Nat)
    (hr : Rel g h) (h0 : h.text = [] → h.last = 0) (h1 : h.last ≤ a) (h2 : a ≤ b) :
    Rel (Gen.PyContext.step p i g a b) (Context.step p i h (l, a, b)) := by
  obtain ⟨g1, g2, g3, g4, g5, g6⟩ := g
  obtain ⟨hl, hc, hcol, ht, hline⟩ := h
  simp only [Rel] at hr
  obtain ⟨r1, r2, r3, r4, r5⟩ := hr
  subst r1 r2 r3 r4 r5
  simp only [] at h0 h1
  unfold Gen.PyContext.step Context.step emit
  simp only [pySlice_nat, strMul_space]
  have e1 : (((b - a : Nat) : Int) = 0 ∧ ((g4.length : Nat) : Int) = 0) ↔ (b - a = 0 ∧ g4.length = 0) := by
    omega
  have e2 : ((((hl : Nat) : Int) ≤ (i : Int) ∧ (i : Int) < (b : Int)) ∨ (((b - a : Nat) : Int) = 0 ∧ (i : Int) = (b : Int))) ↔
      (hl ≤ i ∧ i < b ∨ b - a = 0 ∧ i = b) := by omega
  have e3 : ((i : Int) > (a : Int)) ↔ i > a := by omega
  have e4 : (((g4.length : Nat) : Int) ≠ 0) ↔ g4.length ≠ 0 := by omega
  simp only [e1, e2, e3, e4]
  have k1 : "".toStr = ([] : Str) := by decide
  have k2 : "--> ".toStr = arrow := by decide
  have k3 : "    ".toStr = pad := by decide
  have k4 : "^".toStr = caret := by decide
  by_cases c1 : b - a = 0 ∧ g4.length = 0
  · have hl0 : hl = 0 := h0 (List.length_eq_zero_iff.mp c1.2)
    subst hl0
    simp only [if_pos c1, Rel, k1, k4]
    have hcol : ((i : Int) - ((0 : Nat) : Int) + 1) = ((i - 0 + 1 : Nat) : Int) := by omega
    rw [hcol]
    exact ⟨trivial, by omega, rfl, List.append_assoc _ _ _, trivial⟩
  · simp only [if_neg c1]
    by_cases c2 : hl ≤ i ∧ i < b ∨ b - a = 0 ∧ i = b
    · simp only [if_pos c2, Rel, k2, k4]
      have hcol : ((i : Int) - (hl : Int) + 1) = ((i - hl + 1 : Nat) : Int) := by omega
      rw [hcol]
      exact ⟨trivial, by omega, rfl, List.append_assoc _ _ _, trivial⟩
    · simp only [if_neg c2, Rel, k3]
      exact ⟨trivial, by omega, trivial, trivial, trivial⟩

theorem emit_last (st : LoopState) (indent linetext : Str) (offset : Option Int) (col mend : Nat) :
    (emit st indent linetext offset col mend).last = mend := by
  cases offset <;> rfl

theorem emit_text_ne (st : LoopState) (indent linetext : Str) (offset : Option Int) (col mend : Nat) :
    (emit st indent linetext offset col mend).text ≠ [] := by
  cases offset <;> simp [emit]

theorem step_last (p : Str) (i : Nat) (h : LoopState) (m : Match) :
    (Context.step p i h m).last = m.2.2 := by
  simp only [Context.step, apply_ite LoopState.last, emit_last, ite_self]

theorem step_text_ne (p : Str) (i : Nat) (h : LoopState) (m : Match) :
    (Context.step p i h m).text ≠ [] := by
  simp only [Context.step, apply_ite LoopState.text]
  split
  · exact emit_text_ne _ _ _ _ _ _
  · split <;> exact emit_text_ne _ _ _ _ _ _

/-- Every match, as the loop sees it, satisfies `last ≤ m.start(0) ≤ m.end(0)`. -/
def Ordered (ms : List Match) : Prop := ∀ m ∈ ms, m.1 ≤ m.2.1 ∧ m.2.1 ≤ m.2.2

theorem chain_ordered {n l : Nat} {ms : List Match} {ends : List Nat} (h : CtxLemmas.Chain n l ms ends) :
    Ordered ms := by
  induction h with
  | last hl =>
    intro m hm
    simp at hm
    subst hm
    exact ⟨hl, Nat.le_refl _⟩
  | cons h1 h2 h3 h4 _ ih =>
    intro m hm
    rcases List.mem_cons.mp hm with rfl | hm
    · exact ⟨h1, Nat.le_of_lt h2⟩
    · exact ih m hm

theorem fold_rel (p : Str) (i : Nat) : ∀ (spans : List (Nat × Nat)) (last : Nat)
    (g : Gen.PyContext.State) (h : LoopState), Rel g h → h.last = last → (h.text = [] → last = 0) →
    Ordered (Refine.Context.withLast last spans) →
    Rel (spans.foldl (fun st m => Gen.PyContext.step p i st m.1 m.2) g)
      ((Refine.Context.withLast last spans).foldl (Context.step p i) h)
  | [], _, g, h, hr, _, _, _ => by simpa [Refine.Context.withLast] using hr
  | (a, b) :: ms, last, g, h, hr, hl, h0, ho => by
    have hm := ho (last, a, b) (by simp [Refine.Context.withLast])
    subst hl
    simp only [Refine.Context.withLast, List.foldl_cons]
    apply fold_rel p i ms b _ _ (step_rel p i g h h.last a b hr h0 hm.1 hm.2)
    · exact step_last ..
    · intro e; exact absurd e (step_text_ne _ _ _ _)
    · intro m hm'; exact ho m (by simp [Refine.Context.withLast, hm'])

/-- **The translated `get_pattern_context`**: the generated initial state, the generated loop body folded
    (fixed frame `PyCtx.forSpans`) over the matches CPython's `finditer` (the engine model with `must_advance`)
    finds for the regenerated regular expression the generated loop names, then the generated `return`. -/
def getPatternContextGen (env : CharEnv) (pattern : Str) (index : Int) : Str × Int × Int :=
  Gen.PyContext.run (Refine.Context.finditer env Gen.PyContext.loopRegex pattern) pattern index

/-- The frame check: the loop of the source iterates over the regular expression the `finditer` refinement
    (`Refine/Context.lean`) is about. -/
theorem loopRegex_eq : Gen.PyContext.loopRegex = Gen.util_RE_PATTERN_LINE_SPLIT := rfl

theorem init_rel : Rel Gen.PyContext.init LoopState.init := by
  simp [Rel, Gen.PyContext.init, LoopState.init]

/-- The generated `return`, by position: `(''.join(<4th local>), <5th local>, <3rd local>)`. -/
theorem result_eq (p : Str) (i : Int) (g : Gen.PyContext.State) :
    Gen.PyContext.result p i g = (g.4.flatten, g.5, g.3) := rfl

/-- For every pattern and every offset `index ≥ 0` (no other guard), the program translated from
    the source computes the hand model's context, line and column. -/
theorem getPatternContextGen_eq (env : CharEnv) (p : Str) (i : Nat) :
    getPatternContextGen env p (i : Int) =
      ((getPatternContext p i).1, ((getPatternContext p i).2.1 : Int), ((getPatternContext p i).2.2 : Int)) := by
  have hs := Refine.Context.splitLines_eq_withLast_finditer env p
  have ho : Ordered (Refine.Context.withLast 0
      (Refine.Context.finditer env Gen.util_RE_PATTERN_LINE_SPLIT p)) := by
    rw [← hs]; exact chain_ordered (CtxLemmas.splitLines_chain p)
  have hr := fold_rel p i _ 0 _ _ init_rel rfl (fun _ => rfl) ho
  rw [← hs] at hr
  obtain ⟨_, _, h3, h4, h5⟩ := hr
  unfold getPatternContextGen Gen.PyContext.run
  rw [result_eq, loopRegex_eq]
  unfold getPatternContext PyCtx.forSpans
  simp only [h3, h4, h5]

/-- The same with the model's `finditer`-based context of `Properties/C20Rx.lean`. -/
theorem getPatternContextGen_eq_rx (env : CharEnv) (p : Str) (i : Nat) :
    getPatternContextGen env p (i : Int) =
      ((C20Rx.getPatternContextRx env p i).1, ((C20Rx.getPatternContextRx env p i).2.1 : Int),
        ((C20Rx.getPatternContextRx env p i).2.2 : Int)) := by
  rw [C20Rx.getPatternContextRx_eq]; exact getPatternContextGen_eq env p i

/-- Context, line and column of the translated function at once (`C20.ctx_eq`), line and column as the `Int`s it
    returns. -/
theorem ctx_eq_gen (env : CharEnv) (p : Str) (i : Nat) (hi : i ≤ p.length) :
    getPatternContextGen env p i =
      (Spec.Ctx.expectedContext p i, ((1 + Spec.Ctx.breaksBefore p i : Nat) : Int),
        ((i - Spec.Ctx.lineStart p i + 1 : Nat) : Int)) := by
  rw [getPatternContextGen_eq, C20.ctx_eq p i hi]

theorem ctx_line_gen (env : CharEnv) (p : Str) (i : Nat) (hi : i ≤ p.length) :
    (getPatternContextGen env p i).2.1 = ((1 + Spec.Ctx.breaksBefore p i : Nat) : Int) := by
  rw [ctx_eq_gen env p i hi]

theorem ctx_col_gen (env : CharEnv) (p : Str) (i : Nat) (hi : i ≤ p.length) :
    (getPatternContextGen env p i).2.2 = ((i - Spec.Ctx.lineStart p i + 1 : Nat) : Int) := by
  rw [ctx_eq_gen env p i hi]

/-- line start + (column - 1) is the offset (in `Int`, as the program computes it). -/
theorem ctx_position_gen (env : CharEnv) (p : Str) (i : Nat) (hi : i ≤ p.length) :
    (Spec.Ctx.lineStart p i : Int) + ((getPatternContextGen env p i).2.2 - 1) = i ∧ i ≤ p.length := by
  have h := C20.ctx_lineStart_le p i
  rw [ctx_eq_gen env p i hi]
  refine ⟨?_, hi⟩
  show (Spec.Ctx.lineStart p i : Int) + (((i - Spec.Ctx.lineStart p i + 1 : Nat) : Int) - 1) = i
  omega

theorem ctx_text_gen (env : CharEnv) (p : Str) (i : Nat) (hi : i ≤ p.length) :
    (getPatternContextGen env p i).1 = Spec.Ctx.expectedContext p i := by
  rw [ctx_eq_gen env p i hi]

example : getPatternContextGen asciiEnv "a,\r\n,b".toStr 4 =
    ("    a,\n--> ,b\n    ^".toStr, 2, 1) := by decide_lit

end C20Gen
end SoupVerif
