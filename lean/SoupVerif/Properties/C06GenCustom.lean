/-
  C06 / C09 — `css_parser.process_custom`, TRANSLATED FROM THE SOURCE on every run
  (`gen/gen_py_smallfn.py` → `Generated/PySmallFn.lean`, `Gen.PySmallFn.customStep` = the body of
  `for key, value in custom.items():`; the frame `D = {}` / `if custom is not None:` / `return D` is
  checked by the translator), is the hand model `Parser.processCustom` (Model/Parser.lean) that
  `Properties/C06.lean` (`compile_custom_errors_only_from_map`, `custom_case_collision`, `custom_bad_name`)
  and `Properties/C09Compile2.lean` (`processCustom_table`) are about.

  `RE_CUSTOM.match(name) is None` is the regex-engine model `Rx.isMatch` on the REGENERATED `Gen.cp_RE_CUSTOM`;
  `raise SelectorSyntaxError(...)` ↦ `badCustomName`, `raise KeyError(...)` ↦ `customCollision` (`excErr`).
-/
import SoupVerif.Generated.PySmallFn
import SoupVerif.Properties.C06
namespace SoupVerif
namespace C06GenCustom
open _root_.SoupVerif.Parser

/-- The model's error value for each exception type of the translated loop body. -/
def excErr : PySmallFn.Exc → Err
  | .SelectorSyntaxError => { kind := .badCustomName, pattern := [], offset := 0 }
  | .KeyError => { kind := .customCollision, pattern := [], offset := 0 }

/-- `process_custom` as the translator reads it: the generated loop body folded over the items of the
    dictionary, starting from `{}`. -/
def genProcessCustom (env : CharEnv) (custom : List (Str × Str)) : M Custom :=
  custom.foldlM (fun acc kv => (Gen.PySmallFn.customStep env acc kv.1 kv.2).mapError excErr) []

/-- One iteration: the generated step is the step of the hand model (`ParserProgress.customStep`, the body of the
    fold in `Parser.processCustom`). -/
theorem customStep_eq (env : CharEnv) (acc : Custom) (k v : Str) :
    (Gen.PySmallFn.customStep env acc k v).mapError excErr =
      ParserProgress.customStep env Gen.lexicon acc (k, v) := by
  unfold Gen.PySmallFn.customStep ParserProgress.customStep
  simp only [PySmallFn.reMatchIsNone, PySmallFn.dictHas, PySmallFn.dictSet]
  have hre : Gen.lexicon.reCustom = Gen.cp_RE_CUSTOM := rfl
  rw [hre]
  generalize lower (cssUnescape env Gen.lexicon (lower k) false) = key
  by_cases h1 : Rx.isMatch env Gen.cp_RE_CUSTOM (lower k) = true <;>
    by_cases h2 : acc.any (fun e => e.1 == key) = true <;>
    simp [h1, h2, Except.mapError, excErr]

/-- **The tie.** For every dictionary: the hand model of `process_custom` is the fold of the loop body
    translated from the source. -/
theorem processCustom_eq_gen (env : CharEnv) (custom : List (Str × Str)) :
    processCustom env Gen.lexicon custom = genProcessCustom env custom := by
  rw [ParserProgress.processCustom_eq]
  unfold genProcessCustom
  congr 1
  funext acc kv
  exact (customStep_eq env acc kv.1 kv.2).symm

/-- An error of the generated `process_custom` is one of its two `raise`s. -/
theorem gen_error_kinds (env : CharEnv) (custom : List (Str × Str)) {e : Err}
    (h : genProcessCustom env custom = .error e) :
    e.kind = .badCustomName ∨ e.kind = .customCollision := by
  rw [← processCustom_eq_gen] at h
  exact (ParserProgress.processCustom_error h).1

/-- `compile_custom_errors_only_from_map` (C06) with the generated `process_custom`: the KeyError and the
    bad-name SelectorSyntaxError of `compile` come from the translated loop only. -/
theorem compile_custom_errors_only_from_gen (env : CharEnv) (B : Builtins) (pattern : Str)
    (custom : List (Str × Str)) (flags : Nat) {e : Err}
    (h : compile env Gen.lexicon B pattern custom flags = .error e) :
    (genProcessCustom env custom = .error e ∧
      (e.kind = .badCustomName ∨ e.kind = .customCollision)) ∨
    (e.kind ≠ .badCustomName ∧ e.kind ≠ .customCollision) := by
  rw [← processCustom_eq_gen]
  exact C06.compile_custom_errors_only_from_map env B pattern custom flags h

/-- The exception kind of a run of the generated `process_custom`. -/
def kindOf (r : M Custom) : Option ErrKind :=
  match r with
  | .error e => some e.kind
  | .ok _ => none

/-- `custom_case_collision` (C06) at the generated loop: two names differing only in case (`:--a`, `:--A`):
    `KeyError` at the second. -/
theorem gen_case_collision :
    kindOf (genProcessCustom asciiEnv [([58, 45, 45, 97], [58, 45, 45, 98]), ([58, 45, 45, 65], [58, 45, 45, 98])]) =
      some .customCollision := by
  decide +kernel

/-- `custom_bad_name` (C06) at the generated loop: `a` is not a custom pseudo-class name. -/
theorem gen_bad_name :
    kindOf (genProcessCustom asciiEnv [([97], [58, 45, 45, 98])]) = some .badCustomName := by
  decide +kernel

/-- The name is checked BEFORE the collision test, on the lower-cased key, and the store key is the
    lower-cased UNESCAPED name: `:--\41` after `:--a` collides (`\41` = `A`). -/
theorem gen_escaped_collision :
    kindOf (genProcessCustom asciiEnv [([58, 45, 45, 97], []), ([58, 45, 45, 92, 52, 49], [])]) =
      some .customCollision := by
  decide +kernel

end C06GenCustom
end SoupVerif
