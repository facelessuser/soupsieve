/-
  C05 — Selector lists and the logical pseudo-classes form a Boolean algebra.

  IR reading: a comma list `A, B` is `SelList.mk (A ++ B) isNot isHtml`; `:is(L)` / `:where(L)` /
  `:matches(L)` all put the *same* entry `SelList.mk L false h` into the `subs` field of the
  enclosing compound (so "`:where` and `:matches` behave as `:is`" is an identity of IRs: `C05Parse.subList_eq`; nothing is
  left to prove on the matcher side); `:not(L)` puts
  `SelList.mk L true h`.
-/
import SoupVerif.Model.Api
import SoupVerif.Lemmas.MatchAlgebra
namespace SoupVerif.C05
open SoupVerif

variable (c : Ctx) (l : Loc) (e : Elem)

theorem any_append (A B : List Sel) :
    matchAny c l e (A ++ B) = (matchAny c l e A || matchAny c l e B) :=
  matchAny_append c l e A B

/-- `A, B` matches exactly where `A` or `B` does; `:is(A, B)` = `:is(A)` ∪ `:is(B)`. -/
theorem list_union (A B : List Sel) (h : Bool) :
    matchList c l e (.mk (A ++ B) false h) =
      (matchList c l e (.mk A false h) || matchList c l e (.mk B false h)) := by
  simp only [matchList_pos, matchAny_append, Bool.and_or_distrib_left]

/-- The matcher never accepts `SelectorNull`. -/
theorem null_never : matchSel c l e .null = false := matchSel_null c l e

/-- "First matching alternative wins" is unobservable: the order of the alternatives is
    irrelevant. -/
theorem any_perm {A B : List Sel} (hp : List.Perm A B) : matchAny c l e A = matchAny c l e B :=
  matchAny_perm c l e hp

/-- … and so is it for a whole list (negated or not, HTML-only or not). -/
theorem list_perm {A B : List Sel} (hp : List.Perm A B) (n h : Bool) :
    matchList c l e (.mk A n h) = matchList c l e (.mk B n h) := by
  have he : A.isEmpty = B.isEmpty := by
    have := hp.length_eq
    cases A <;> cases B <;> simp_all
  simp only [matchList_mk, matchAny_perm _ l e hp, he]

/-- A `SelectorNull` alternative can be dropped from a list that is not negated, or that has
    another alternative. -/
theorem null_alternative (A : List Sel) (n h : Bool) (hA : A ≠ [] ∨ n = false) :
    matchList c l e (.mk (.null :: A) n h) = matchList c l e (.mk A n h) := by
  simp only [matchList_mk, matchAny_cons]
  cases A with
  | nil =>
    rcases hA with hA | hA
    · exact absurd rfl hA
    · subst hA; split <;> simp [matchSel_null, matchAny_nil]
  | cons s rest => split <;> simp [matchSel_null]

/-- `:not(<SelectorNull>)` (what a forgiving empty `:not()` would compile to) matches every
    element of an admissible document; `:is(<SelectorNull>)` (what `:is()` compiles to) nothing. -/
theorem null_only (n h : Bool) :
    matchList c l e (.mk [.null] n h) = ((!h || c.isHtml) && n) := by
  simp only [matchList_mk, matchAny_cons, matchAny_nil]
  split <;> simp_all [matchSel_null]

/-- The empty list of alternatives matches nothing — *also when negated*: Python's
    `match = False` is only overwritten inside the loop. -/
theorem empty_list (n h : Bool) : matchList c l e (.mk [] n h) = false := by
  simp [matchList_mk]

/-- `:not(A)` is the complement of `:is(A)` — for a non-empty list that is admissible in this
    document (not HTML-only, or the document is HTML). -/
theorem not_compl_html (A : List Sel) (h : Bool) (hA : A ≠ []) (hg : (!h || c.isHtml) = true) :
    matchList c l e (.mk A true h) = !matchList c l e (.mk A false h) := by
  rw [matchList_neg, matchList_pos, hg]
  cases A with
  | nil => exact absurd rfl hA
  | cons s rest => simp

/-- … and the exact statement of what happens otherwise: an HTML-only list never matches in a
    non-HTML document, negated or not.  (So there `:not(A)` is *not* the complement of `:is(A)`:
    both are empty.) -/
theorem html_only_never_in_xml (A : List Sel) (n h : Bool) (hh : h = true) (hx : c.isHtml = false) :
    matchList c l e (.mk A n h) = false := by
  rw [hh, matchList_mk_true, hx]; rfl

/-- All cases in one equation. -/
theorem not_compl_general (A : List Sel) (h : Bool) :
    matchList c l e (.mk A true h) =
      ((!h || c.isHtml) && !A.isEmpty && !matchList c l e (.mk A false h)) := by
  rw [matchList_neg, matchList_pos]
  cases (!h || c.isHtml) <;> simp

/-- `:not(A, B)` is the complement of `:is(A) ∪ :is(B)` (De Morgan). -/
theorem not_list_compl (A B : List Sel) (h : Bool) (hAB : A ++ B ≠ []) (hg : (!h || c.isHtml) = true) :
    matchList c l e (.mk (A ++ B) true h) =
      !(matchList c l e (.mk A false h) || matchList c l e (.mk B false h)) := by
  rw [not_compl_html c l e (A ++ B) h hAB hg, list_union]

/-- De Morgan, second form: `:not(A, B)` = `:not(A)` ∩ `:not(B)` (both parts non-empty). -/
theorem not_list_inter (A B : List Sel) (h : Bool) (hA : A ≠ []) (hB : B ≠ [])
    (hg : (!h || c.isHtml) = true) :
    matchList c l e (.mk (A ++ B) true h) =
      (matchList c l e (.mk A true h) && matchList c l e (.mk B true h)) := by
  rw [not_list_compl c l e A B h (by simp [hA]) hg, not_compl_html c l e A h hA hg,
    not_compl_html c l e B h hB hg, Bool.not_or]

/-- Double negation: `:not(:not(A))` is `:is(A)` (for a non-empty admissible inner list; the outer
    wrapper list is not HTML-only). -/
theorem not_not (rel : SelList) (rt : Rel) (A : List Sel) (h : Bool) (hA : A ≠ [])
    (hg : (!h || c.isHtml) = true) (hrel : rel.nonEmpty = false) :
    matchList c l e (.mk [.mk none [] [] [] [] [.mk A true h] rel rt [] [] 0] true false) =
      matchList c l e (.mk A false h) := by
  have hr : SatCore.relOk c l rel = true := by simp [SatCore.relOk, hrel]
  have hs : matchSel c l e (.mk none [] [] [] [] [.mk A true h] rel rt [] [] 0) =
      matchList c l e (.mk A true h) := by
    rw [matchSel_mk, hr, ← List.nil_append [SelList.mk A true h], simplePart_subs, simplePart_nil, matchSubs_cons,
      matchSubs_nil]
    simp [matchTag]
  rw [matchList_mk]
  simp [matchAny_cons, matchAny_nil, hs, not_compl_html c l e A h hA hg]

/-- Adding alternatives never removes a result. -/
theorem monotone (A B : List Sel) (h : Bool) (hm : matchList c l e (.mk A false h) = true) :
    matchList c l e (.mk (A ++ B) false h) = true := by
  rw [list_union, hm, Bool.true_or]

theorem monotone_right (A B : List Sel) (h : Bool) (hm : matchList c l e (.mk B false h) = true) :
    matchList c l e (.mk (A ++ B) false h) = true := by
  rw [list_union, hm, Bool.or_true]

/-- Dually, adding alternatives to a non-empty `:not(…)` never adds a result. -/
theorem antitone_not (A B : List Sel) (h : Bool) (hA : A ≠ [])
    (hm : matchList c l e (.mk (A ++ B) true h) = true) :
    matchList c l e (.mk A true h) = true := by
  rw [not_compl_general] at hm ⊢
  rw [list_union] at hm
  have hne : A.isEmpty = false := by cases A <;> simp_all
  rw [hne]
  revert hm
  cases (!h || c.isHtml) <;> cases matchList c l e (.mk A false h) <;> simp

theorem subs_append (S T : List SelList) :
    matchSubs c l e (S ++ T) = (matchSubs c l e S && matchSubs c l e T) :=
  matchSubs_append c l e S T

/-- `X:is(L)` (resp. `X:not(L)`) is the intersection of `X` and `:is(L)` (resp. `:not(L)`):
    appending one more sub-list to a compound conjoins its verdict.  The `subs = []` case is the
    one where the `if selector.selectors and …` guard of `match_selectors` short-circuits. -/
theorem is_conj (tag : Option SelTag) (ids classes : List Str) (attrs : List AttrSel)
    (nth : List NthSel) (subs : List SelList) (relation : SelList) (relType : Rel)
    (contains : List ContainsSel) (lang : List LangSel) (flags : Nat) (L : SelList) :
    matchSel c l e (.mk tag ids classes attrs nth (subs ++ [L]) relation relType contains lang flags) =
      (matchSel c l e (.mk tag ids classes attrs nth subs relation relType contains lang flags) &&
        matchList c l e L) := by
  rw [matchSel_mk, matchSel_mk, simplePart_subs, matchSubs_cons, matchSubs_nil, Bool.and_true, ← Bool.and_assoc,
    Bool.and_right_comm]

/-- General form: sub-lists `S ++ T` on one compound = the compound with `S`, and all of `T`. -/
theorem subs_conj (tag : Option SelTag) (ids classes : List Str) (attrs : List AttrSel)
    (nth : List NthSel) (S T : List SelList) (relation : SelList) (relType : Rel)
    (contains : List ContainsSel) (lang : List LangSel) (flags : Nat) :
    matchSel c l e (.mk tag ids classes attrs nth (S ++ T) relation relType contains lang flags) =
      (matchSel c l e (.mk tag ids classes attrs nth S relation relType contains lang flags) &&
        matchSubs c l e T) := by
  rw [matchSel_mk, matchSel_mk, simplePart_subs, ← Bool.and_assoc, Bool.and_right_comm]

/-- The order of the sub-lists of a compound is irrelevant (`:is(A):not(B)` = `:not(B):is(A)`). -/
theorem subs_perm {S T : List SelList} (hp : List.Perm S T) :
    matchSubs c l e S = matchSubs c l e T := by
  rw [matchSubs_eq_all, matchSubs_eq_all]
  induction hp with
  | nil => rfl
  | cons x _ ih => simp [ih]
  | swap x y t =>
    simp only [List.all_cons]
    cases matchList c l e x <;> cases matchList c l e y <;> rfl
  | trans _ _ ih1 ih2 => exact ih1.trans ih2

/-! ### The context swap of an HTML-only list is local to that list -/

/-- A list that is not HTML-only is evaluated under the caller's context, unchanged. -/
theorem matchList_plain_ctx (A : List Sel) (n : Bool) :
    matchList c l e (.mk A n false) = (!A.isEmpty && (matchAny c l e A != n)) :=
  matchList_mk_false c l e A n

/-- An HTML-only list is evaluated under `{'html': NS_XHTML}` / `iframe_restrict = True`, and only
    it: the function result does not carry a context, so nothing outside the list sees the swap
    (Python: the `namespaces` / `iframe_restrict` attributes are restored before `return`). -/
theorem matchList_html_ctx (A : List Sel) (n : Bool) :
    matchList c l e (.mk A n true) =
      (if c.isHtml then
        (!A.isEmpty &&
          (matchAny { c with namespaces := [("html".toStr, NS_XHTML)], iframeRestrict := true } l e A != n))
       else false) := by
  rw [matchList_mk]
  simp only [Bool.not_true, Bool.false_or, if_true]
  rfl

/-- `matchSubs` on a non-empty list (`matchSubs_cons`): every sub-list is judged under the caller's context,
    whatever the HTML flag of the one before it (the function result carries no context; for the Python frame
    see `C05GenFrame.gen_frame_restores`). -/
theorem ctx_restored (L : SelList) (rest : List SelList) :
    matchSubs c l e (L :: rest) = (matchList c l e L && matchSubs c l e rest) :=
  matchSubs_cons c l e L rest

/-- An HTML-only list nested in an HTML-only list sees the same context. -/
theorem htmlOnly_idem : c.htmlOnly.htmlOnly = c.htmlOnly := c.htmlOnly_idem

/-- `CSSMatch.match` on a union. -/
theorem matchEl_union (A B : List Sel) (h : Bool) (x : Loc) :
    matchEl c (.mk (A ++ B) false h) x = (matchEl c (.mk A false h) x || matchEl c (.mk B false h) x) := by
  simp only [matchEl_eq]
  split
  · rw [list_union, Bool.and_or_distrib_left]
  · rfl

/-- `select('A, B')` is the document-order merge of `select('A')` and `select('B')`. -/
theorem select_union_merge (A B : List Sel) (h : Bool) (tag : Loc) :
    selectIn c (.mk (A ++ B) false h) tag 0 =
      (c.tagDescendants tag false).filter
        (fun x => matchEl c (.mk A false h) x || matchEl c (.mk B false h) x) := by
  unfold selectIn
  simp only [show (0 : Int) < 1 by decide, if_true]
  congr 1
  funext x
  exact matchEl_union c A B h x

/-- Without a limit, `select('A, B')` returns exactly the union of the results. -/
theorem select_union (A B : List Sel) (h : Bool) (tag : Loc) (limit : Int) (hl : limit < 1) (x : Loc) :
    x ∈ selectIn c (.mk (A ++ B) false h) tag limit ↔
      x ∈ selectIn c (.mk A false h) tag limit ∨ x ∈ selectIn c (.mk B false h) tag limit := by
  unfold selectIn
  simp only [hl, if_true, List.mem_filter, matchEl_union, Bool.or_eq_true]
  exact and_or_left

/-- Adding an alternative never removes a result of `select` (no limit). -/
theorem select_monotone (A B : List Sel) (h : Bool) (tag : Loc) (limit : Int) (hl : limit < 1) (x : Loc)
    (hx : x ∈ selectIn c (.mk A false h) tag limit) :
    x ∈ selectIn c (.mk (A ++ B) false h) tag limit :=
  (select_union c A B h tag limit hl x).mpr (Or.inl hx)

/-- `select(':not(A)')` and `select(':is(A)')` partition the non-document element descendants
    (non-empty admissible list). -/
theorem select_not_compl (A : List Sel) (h : Bool) (hA : A ≠ []) (hg : (!h || c.isHtml) = true) (tag : Loc)
    (limit : Int) (hl : limit < 1) (x : Loc)
    (hd : x ∈ c.tagDescendants tag false) (hdoc : x.isDoc = false) :
    x ∈ selectIn c (.mk A true h) tag limit ↔ x ∉ selectIn c (.mk A false h) tag limit := by
  unfold selectIn
  simp only [hl, if_true, List.mem_filter, hd, true_and, matchEl_eq]
  unfold Loc.isDoc at hdoc
  split
  · rename_i e' ks hf
    rw [hf] at hdoc
    simp only at hdoc
    rw [not_compl_html c x e' A h hA hg, hdoc]
    cases matchList c x e' (.mk A false h) <;> simp
  · rename_i hne
    have : x.isTag = true := (List.mem_filter.mp hd).2
    unfold Loc.isTag Node.isTag at this
    split at this
    · rename_i e' ks hf; exact absurd hf (hne e' ks)
    · simp at this

end SoupVerif.C05
