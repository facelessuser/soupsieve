/-
  C07, parser level — a cost measure for a whole `Parser.compile` run.

  What is counted: the work of the regular-expression engine that the parser model triggers.
  One call `pattern.match(s, i)` costs `matchCost env r s i = 1 + Rx.work env s r i`, where
  `Rx.work` (Spec/RegexCost.lean) is the number of sub-match attempts of an EXHAUSTIVE
  backtracking search — an upper bound of what the engine does when the match succeeds early, and
  exactly what it does when the match fails.

  * `matchTokenCost`, `nextTokenCost`: the calls `selector_iter` makes at one position — they follow
    the control flow of `Parser.matchToken` / `Parser.nextToken` exactly (`RE_WS_END`, then the token
    expressions in lexicon order up to and including the first that matches; in the
    `SpecialPseudoPattern` slot: the name expression, `css_unescape` of the name, and the ONE
    sub-pattern selected by the name).
  * `subCost`, `searchCost`, `parseValuesCost`, `parseAnBCost`, `parseAttributeCost`, `handlerCost`:
    the auxiliary expressions the handlers run on token text (`css_unescape` = `RE_CSS_ESC.sub` /
    `RE_CSS_STR_ESC.sub`, `RE_WS.search`, `RE_VALUES.finditer`, `RE_NTH.match`, and
    `RE_WS_BEGIN.search` on the definition of a custom selector that is about to be compiled).
    They mirror the recursion of the model functions (`subWith.go`, `Rx.searchFrom`,
    `parseValues.go`), one `matchCost` per `Rx.matchAt` the model function evaluates.
  * `iterCost`: one iteration of the `while True` loop = 1 + `nextTokenCost` + `handlerCost`.
  * `selRun`, `loopRun`: twins of `Parser.parseSelectors` / `Parser.parseLoop` — same recursion,
    same fuel — that return the accumulated weight alongside the result, for an arbitrary
    per-iteration weight `w pattern state`.  `w = 1` counts loop iterations (`compileSteps`),
    `w = iterCost` gives `compileCost`.  Nested lists (`:is(`, `:not(`, `:has(`, `:nth-child(… of S)`)
    and the definitions of custom selectors are included; a custom definition is parsed when it is
    first referenced, with the table threaded exactly as in the model, so it is charged once.
    `Lemmas/ParserProgress/Rules.lean` proves `(selRun …).1 = parseSelectors …` etc.
  * `compileCost` = `process_custom` (`RE_CUSTOM.match` and `css_unescape` per entry — all entries
    are charged, also when an earlier one raises) + `RE_WS_BEGIN.search(pattern)` + the loop.

  NOT counted: anything that is not regular-expression work (dictionary look-ups, list appends,
  `lower`, `freeze`, building the `re` objects of attribute selectors — `re.compile` of the
  escaped value is not a match).  The early exit of a successful match is not modelled (see above).

  No Mathlib.
-/
import SoupVerif.Model.ParserStep
import SoupVerif.Spec.RegexCost
set_option autoImplicit false
namespace SoupVerif
namespace ParseCost
open Rx SoupVerif.Parser ParserProgress

/-! ## Single engine calls -/

/-- Cost of one `r.match(s, i)`: the call itself plus the sub-match attempts of an exhaustive
    backtracking search. -/
def matchCost (env : CharEnv) (r : Rx) (s : Str) (i : Nat) : Nat := 1 + Rx.work env s r i

/-- Cost of `r.sub(f, s)`: one `matchCost` per `Rx.matchAt` that `Parser.subWith.go` evaluates
    (same recursion; the replacement function plays no role). -/
def subCost (env : CharEnv) (r : Rx) (s : Str) : Nat :=
  go (s.length + 1) 0
where
  go : Nat → Nat → Nat
    | 0, _ => 0
    | fuel + 1, i =>
      if i > s.length then 0 else
      matchCost env r s i +
      match Rx.matchAt env r s i with
      | some (j, _) =>
        if j > i then go fuel j
        else (match s[i]? with | some _ => go fuel (i + 1) | none => 0)
      | none => match s[i]? with
        | some _ => go fuel (i + 1)
        | none => 0

/-- Cost of `css_unescape(content, string)`. -/
def unescCost (env : CharEnv) (L : Lexicon) (content : Str) (string : Bool := false) : Nat :=
  subCost env (if string then L.reCssStrEsc else L.reCssEsc) content

/-- Cost of `Rx.searchFrom` (same recursion). -/
def searchFromCost (env : CharEnv) (r : Rx) (s : Str) : Nat → Nat → Nat
  | 0, _ => 0
  | fuel + 1, i =>
    matchCost env r s i +
    match Rx.matchAt env r s i with
    | some _ => 0
    | none => if i < s.length then searchFromCost env r s fuel (i + 1) else 0

/-- Cost of `r.search(s, i)`. -/
def searchCost (env : CharEnv) (r : Rx) (s : Str) (i : Nat := 0) : Nat :=
  searchFromCost env r s (s.length + 2 - i) i

/-! ## The tokenizer at one position -/

/-- Cost of `Parser.matchToken P i toks` (same recursion): every expression tried, up to and
    including the first that matches. -/
def matchTokenCost (P : PEnv) (i : Nat) : List (TokenRx × Bool) → Nat
  | [] => 0
  | (t, isSpecial) :: rest =>
    if isSpecial then
      matchCost P.env P.L.specialName.rx P.pattern i +
      match Rx.matchAt P.env P.L.specialName.rx P.pattern i with
      | some (_, caps) =>
        let raw := (Parser.group P.pattern P.L.specialName caps "name").getD []
        let nm := lower (cssUnescape P.env P.L raw)
        unescCost P.env P.L raw +
        match P.L.special.find? (fun e => e.1 == nm) with
        | some (_, sub) =>
          matchCost P.env sub.rx P.pattern i +
          (match Rx.matchAt P.env sub.rx P.pattern i with
           | some _ => 0
           | none => matchTokenCost P i rest)
        | none => matchTokenCost P i rest
      | none => matchTokenCost P i rest
    else
      matchCost P.env t.rx P.pattern i +
      match Rx.matchAt P.env t.rx P.pattern i with
      | some _ => 0
      | none => matchTokenCost P i rest

/-- Cost of `Parser.nextToken P i` (one step of `selector_iter`). -/
def nextTokenCost (P : PEnv) (i : Nat) : Nat :=
  if i + 1 > P.pattern.length then 0
  else
    matchCost P.env P.L.reWsEnd P.pattern i +
    (if (Rx.matchAt P.env P.L.reWsEnd P.pattern i).isSome then 0 else matchTokenCost P i P.L.tokens)

/-- Cost of `Parser.startIndex P` (`RE_WS_BEGIN.search(pattern)`: the expression is anchored, the
    model evaluates it at 0). -/
def startCost (P : PEnv) : Nat := matchCost P.env P.L.reWsBegin P.pattern 0

/-! ## The handlers -/

/-- Cost of unescaping one value of a `values` group (quoted or not), as `parseValues.valueOf` and
    `parseAttribute` do. -/
def valueUnescCost (env : CharEnv) (L : Lexicon) (v : Str) : Nat :=
  match v.head? with
  | some q => if q == 34 || q == 39 then unescCost env L (slice v 1 (v.length - 1)) true
              else unescCost env L v
  | none => unescCost env L v

/-- Cost of handling one match of `RE_VALUES` with captures `caps`: nothing for a separator
    (`split` group not empty), `css_unescape` of the `value` group otherwise. -/
def valueCostOf (P : PEnv) (values : Str) (caps : Caps) : Nat :=
  let isSplit := match Parser.group values P.L.reValues caps "split" with
    | some sp => !sp.isEmpty
    | none => false
  if isSplit then 0
  else match Parser.group values P.L.reValues caps "value" with
    | some v => valueUnescCost P.env P.L v
    | none => 0

/-- Cost of `Parser.parseValues P values` (same recursion as `parseValues.go`). -/
def parseValuesCost (P : PEnv) (values : Str) : Nat :=
  go (values.length + 1) 0
where
  go : Nat → Nat → Nat
    | 0, _ => 0
    | fuel + 1, i =>
      if i > values.length then 0 else
      searchCost P.env P.L.reValues.rx values i +
      match Rx.search P.env P.L.reValues.rx values i with
      | none => 0
      | some (_, j, caps) => valueCostOf P values caps + go fuel (if j > i then j else i + 1)

/-- Cost of `Parser.parseAnB P content`. -/
def parseAnBCost (P : PEnv) (content : Str) : Nat :=
  if content == "even".toStr then 0
  else if content == "odd".toStr then 0
  else matchCost P.env P.L.reNth.rx content 0

/-- The unescaped value of an attribute token, exactly as `Parser.parseAttribute` computes it. -/
def attrValue (P : PEnv) (t : Token) : Str :=
  let op := (t.group P "cmp").getD []
  if op.isEmpty then []
  else
    let raw := (t.group P "value").getD []
    match raw.head? with
    | some q => if q == 34 || q == 39 then cssUnescape P.env P.L (slice raw 1 (raw.length - 1)) true
                else cssUnescape P.env P.L raw
    | none => cssUnescape P.env P.L raw

/-- Cost of unescaping a namespace prefix group (`ns|`: the text without the final `|`), when
    the group is present and not empty. -/
def nsCost (P : PEnv) (g : Option Str) : Nat :=
  match g with
  | some n => if n.isEmpty then 0 else unescCost P.env P.L (n.take (n.length - 1))
  | none => 0

/-- Cost of `Parser.parseAttribute P t sel`: `css_unescape` of the namespace, the name and the
    value, and `RE_WS.search(value)`. -/
def parseAttributeCost (P : PEnv) (t : Token) : Nat :=
  let op := (t.group P "cmp").getD []
  let attrC := unescCost P.env P.L ((t.group P "attr_name").getD [])
  let valC : Nat := if op.isEmpty then 0 else valueUnescCost P.env P.L ((t.group P "value").getD [])
  nsCost P (t.group P "attr_ns") + attrC + valC + searchCost P.env P.L.reWs (attrValue P t)

/-- The `An+B` text of an `:nth-*` token, as the handler extracts it. -/
def nthContent (P : PEnv) (t : Token) : Str :=
  let isChild := match t.group P "pseudo_nth_child" with
    | some g => !g.isEmpty
    | none => false
  lower ((t.group P (if isChild then "nth_child" else "nth_type")).getD [])

/-- `CSSParser(text, custom=…).process_selectors()` for a custom selector that is still source
    text: `RE_WS_BEGIN.search` on the definition (the loop over the definition is counted by the
    twin).  Nothing for a compiled or an undefined one. -/
def defStartCost (P : PEnv) (v : Option CustomVal) : Nat :=
  match v with
  | some (.src text) => startCost ⟨P.env, P.L, P.B, text.map (fun c => if c == 0 then 0xFFFD else c)⟩
  | _ => 0

/-- Cost of the auxiliary expressions the handler of token `t` runs (the branches of
    `Parser.parseLoop` / `stepOf`, in the same order). -/
def handlerCost (P : PEnv) (t : Token) (s : LS) : Nat :=
  let key := t.name
  let nameC := unescCost P.env P.L ((t.group P "name").getD [])
  if key == "at_rule" then 0
  else if key == "amp" then 0
  else if key == "pseudo_class_custom" then
    let pseudo := lower (cssUnescape P.env P.L ((t.group P "name").getD []))
    nameC + defStartCost P (s.custom.get? pseudo)
  else if key == "pseudo_class" then nameC
  else if key == "pseudo_element" then 0
  else if key == "pseudo_contains" then nameC + parseValuesCost P ((t.group P "values").getD [])
  else if key == "pseudo_nth_type" || key == "pseudo_nth_child" then nameC + parseAnBCost P (nthContent P t)
  else if key == "pseudo_lang" then parseValuesCost P ((t.group P "values").getD [])
  else if key == "pseudo_dir" then 0
  else if key == "pseudo_close" then 0
  else if key == "combine" then 0
  else if key == "attribute" then parseAttributeCost P t
  else if key == "tag" then
    nsCost P (t.group P "tag_ns") + unescCost P.env P.L ((t.group P "tag_name").getD [])
  else if key == "class" || key == "id" then
    unescCost P.env P.L ((slice P.pattern t.start t.stop).drop 1)
  else 0

/-- The handler cost for the outcome of `nextToken`: nothing when the iterator is exhausted or
    raised. -/
def outcomeCost (P : PEnv) (s : LS) (r : M (Option Token)) : Nat :=
  match r with
  | .ok (some t) => handlerCost P t s
  | _ => 0

/-- Cost of one iteration of the `while True` loop of `parse_selectors` in state `s`: the
    iteration itself, the tokenizer at `s.pos`, and the handler of the token found there. -/
def iterCost (P : PEnv) (s : LS) : Nat :=
  1 + nextTokenCost P s.pos + outcomeCost P s (nextToken P s.pos)

/-! ## The twins of `parseSelectors` / `parseLoop` -/

/-- A per-iteration weight: the pattern being parsed and the loop state. -/
abbrev Weight := Str → LS → Nat

/-- Weight 1: counts loop iterations (= calls of `next(iselector)`). -/
def unitWeight : Weight := fun _ _ => 1

/-- The regular-expression work of one iteration. -/
def rxWeight (env : CharEnv) (L : Lexicon) (B : Builtins) : Weight :=
  fun pattern s => iterCost ⟨env, L, B, pattern⟩ s

mutual
/-- Twin of `Parser.parseSelectors`: the result, and the total weight of the loop iterations
    executed (including nested lists and custom-selector definitions). -/
def selRun (w : Weight) (env : CharEnv) (L : Lexicon) (B : Builtins) (pattern : Str) :
    Nat → Nat → Nat → Nat → Custom → M SelRes × Nat
  | 0, _, _, _, _ => (.error { kind := .pyBug "RecursionError", pattern := pattern, offset := 0 }, 0)
  | fuel + 1, pos, index, flags, custom =>
    let r := loopRun w env L B pattern fuel flags (initLS pos index flags custom)
    match r.1 with
    | .error e => (.error e, r.2)
    | .ok s => (finishSel env L B pattern flags s, r.2)
/-- Twin of `Parser.parseLoop`. -/
def loopRun (w : Weight) (env : CharEnv) (L : Lexicon) (B : Builtins) (pattern : Str) :
    Nat → Nat → LS → M LS × Nat
  | 0, _, s => (.ok s, 0)
  | fuel + 1, flags, s =>
    match stepOf env L B pattern flags s with
    | .done r => (r, w pattern s)
    | .cont s' =>
      let r := loopRun w env L B pattern fuel flags s'
      (r.1, w pattern s + r.2)
    | .nest pat pos idx fl c k =>
      let r1 := selRun w env L B pat fuel pos idx fl c
      match r1.1 with
      | .error e => (.error e, w pattern s + r1.2)
      | .ok x =>
        let r2 := loopRun w env L B pattern fuel flags (k x)
        (r2.1, w pattern s + r1.2 + r2.2)
end

/-! ## `compile` -/

/-- Cost of `process_custom`: `RE_CUSTOM.match(name)` and `css_unescape(name)` for every entry. -/
def customCost (env : CharEnv) (L : Lexicon) (custom : List (Str × Str)) : Nat :=
  (custom.map fun e => matchCost env L.reCustom (lower e.1) 0 + unescCost env L (lower e.1)).sum

/-- Twin of `Parser.compile` (same fuel): result and total weight of the loop iterations. -/
def compileRun (w : Weight) (env : CharEnv) (L : Lexicon) (B : Builtins) (pattern : Str)
    (custom : List (Str × Str)) (parseFlags : Nat := 0) : M SelList × Nat :=
  match processCustom env L custom with
  | .error e => (.error e, 0)
  | .ok c =>
    let pat := pattern.map (fun ch => if ch == 0 then 0xFFFD else ch)
    let P : PEnv := ⟨env, L, B, pat⟩
    let r := selRun w env L B pat (2 * pat.length + 4 * (custom.foldl (fun n e => n + e.2.length + 2) 0) + 8)
      (startIndex P) 0 parseFlags c
    match r.1 with
    | .error e => (.error e, r.2)
    | .ok x => (.ok x.1, r.2)

/-- Number of iterations of the `while True` loop of `parse_selectors` (= calls of
    `next(iselector)`, the final `StopIteration` included) in a whole `compile`, nested lists and
    custom-selector definitions included. -/
def compileSteps (env : CharEnv) (L : Lexicon) (B : Builtins) (pattern : Str)
    (custom : List (Str × Str)) (parseFlags : Nat := 0) : Nat :=
  (compileRun unitWeight env L B pattern custom parseFlags).2

/-- Regular-expression work of a whole `compile`. -/
def compileCost (env : CharEnv) (L : Lexicon) (B : Builtins) (pattern : Str)
    (custom : List (Str × Str)) (parseFlags : Nat := 0) : Nat :=
  customCost env L custom +
  startCost ⟨env, L, B, pattern.map (fun ch => if ch == 0 then 0xFFFD else ch)⟩ +
  (compileRun (rxWeight env L B) env L B pattern custom parseFlags).2

/-! ## What the bound is stated in -/

/-- All regular expressions of a lexicon (the ones the parser can hand to the engine). -/
def lexRegexes (L : Lexicon) : List Rx :=
  (L.tokens.filter (fun t => !t.2)).map (·.1.rx) ++ [L.specialName.rx] ++ L.special.map (·.2.rx) ++
    [L.reCssEsc, L.reCssStrEsc, L.reNth.rx, L.reValues.rx, L.reWs, L.reWsBegin, L.reWsEnd, L.reCustom]

/-- Size of the input of `compile`: the pattern, and names and definitions of the custom
    selectors (one extra unit per entry). -/
def inputSize (pattern : Str) (custom : List (Str × Str)) : Nat :=
  pattern.length + (custom.map fun e => e.1.length + e.2.length + 1).sum

end ParseCost
end SoupVerif
