/-
  Specification of `:nth-child(An+B [of S])` and its relatives (C02), independent of the loops of
  `CSSMatch.match_nth`.

  `posOf`    : the 1-based position of the subject element among the counted siblings.
  `nthSat`   : `∃ n ≥ 0, A*n + B = pos`   (the CSS definition).
  `nthSatB`  : an executable decision procedure for `nthSat`, proved equivalent below.

  No Mathlib; everything here is executable (apart from the `Prop`).
-/
namespace SoupVerif
namespace NthSpec

/-- 1-based index of the first node satisfying `isEl` among the nodes of `walk` that satisfy
    `counted`; `none` when there is no such node. -/
def posOf {α} (counted isEl : α → Bool) (walk : List α) : Option Nat :=
  ((walk.filter counted).findIdx? isEl).map (· + 1)

/-- CSS: `An+B` selects position `pos` iff some integer `n ≥ 0` has `A*n+B = pos`. -/
def nthSat (a b : Int) (pos : Nat) : Prop := ∃ n : Nat, a * (n : Int) + b = (pos : Int)

/-- Executable twin of `nthSat`. -/
def nthSatB (a b : Int) (pos : Nat) : Bool :=
  if a = 0 then decide (b = (pos : Int))
  else if 0 < a then decide (b ≤ (pos : Int) ∧ ((pos : Int) - b) % a = 0)
  else decide ((pos : Int) ≤ b ∧ (b - (pos : Int)) % (-a) = 0)

theorem exists_nat_mul_iff (a d : Int) (ha : 0 < a) :
    (0 ≤ d ∧ d % a = 0) ↔ ∃ n : Nat, a * (n : Int) = d := by
  constructor
  · rintro ⟨hd, hm⟩
    obtain ⟨k, rfl⟩ := Int.dvd_of_emod_eq_zero hm
    obtain ⟨n, rfl⟩ := Int.eq_ofNat_of_zero_le (Int.nonneg_of_mul_nonneg_right hd ha)
    exact ⟨n, rfl⟩
  · rintro ⟨n, rfl⟩
    exact ⟨Int.mul_nonneg (Int.le_of_lt ha) (Int.natCast_nonneg n), Int.mul_emod_right a n⟩

theorem nthSatB_iff (a b : Int) (pos : Nat) : nthSatB a b pos = true ↔ nthSat a b pos := by
  unfold nthSatB nthSat
  by_cases h0 : a = 0
  · subst h0
    simp only [if_true, decide_eq_true_eq, Int.zero_mul, Int.zero_add]
    constructor
    · intro h; exact ⟨0, h⟩
    · rintro ⟨_, h⟩; exact h
  · rw [if_neg h0]
    by_cases hpos : 0 < a
    · rw [if_pos hpos, decide_eq_true_eq]
      have key := exists_nat_mul_iff a ((pos : Int) - b) hpos
      constructor
      · rintro ⟨h1, h2⟩
        obtain ⟨n, hn⟩ := key.mp ⟨by omega, h2⟩
        exact ⟨n, by omega⟩
      · rintro ⟨n, hn⟩
        obtain ⟨h1, h2⟩ := key.mpr ⟨n, by omega⟩
        exact ⟨by omega, h2⟩
    · rw [if_neg hpos, decide_eq_true_eq]
      have hneg : 0 < -a := by omega
      have key := exists_nat_mul_iff (-a) (b - (pos : Int)) hneg
      constructor
      · rintro ⟨h1, h2⟩
        obtain ⟨n, hn⟩ := key.mp ⟨by omega, h2⟩
        rw [Int.neg_mul] at hn
        exact ⟨n, by omega⟩
      · rintro ⟨n, hn⟩
        obtain ⟨h1, h2⟩ := key.mpr ⟨n, by rw [Int.neg_mul]; omega⟩
        exact ⟨by omega, h2⟩

instance (a b : Int) (pos : Nat) : Decidable (nthSat a b pos) :=
  decidable_of_iff _ (nthSatB_iff a b pos)

end NthSpec
end SoupVerif
