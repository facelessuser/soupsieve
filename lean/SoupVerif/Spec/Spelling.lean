/-
  Spelling choices of CSS selector text (property C09): the ways one token sequence may be written.
  Executable, Mathlib-free definitions only; the theorems are in `Lemmas/Spelling.lean`,
  `Lemmas/Gaps.lean`, `Lemmas/EscapeForms.lean` and `Properties/C09.lean`.

    * `mixCase`            ASCII case variants of a keyword
    * `EscForm`, `renderIdentWith`, `validForms`, `headOk`
                           every way to write the code points of an identifier: literally, as
                           `\c`, or as `\` + 1..6 hex digits (any padding, any letter case) with an
                           optional terminating whitespace unit (space, tab, LF, FF, CR, CRLF)
    * `skipWSC`, `isGap`   hand scanner for `WSC*` (whitespace and complete `/* ... */` comments)
    * `unescapeString`     hand model of `css_unescape(content, string=True)`, i.e. of
                           `RE_CSS_STR_ESC.sub(replace, content)`
    * `StrPiece`, `renderStrWith`, `validStr`
                           every way to write the code points of a quoted string (the forms above
                           plus line continuations `\` NEWLINE, which contribute nothing)
    * `renderStringBody`, `renderString`
                           a canonical quoted rendering of a value
    * `scanStrBody`        hand scanner for the quoted alternative of `VALUE` after the opening quote

  TIE TO THE SOURCE.  `skipWSC`, `unescapeString` and `scanStrBody` are hand-written readings of
  the regular expressions `WSC*`, `RE_CSS_STR_ESC` and `VALUE` of css_parser.py.  Like the hand
  scanners of `Model/Escape.lean` (`scanIdent`, `cssUnescape`), they are proved equal to the engine
  model `Model/Regex.lean` run on the generated regexes (`Generated/Regexes.lean`) in `Refine/Wsc.lean`,
  `Refine/Unescape.lean` and `Refine/StringTok.lean`; the engine model is tied to CPython by the
  differential harness (harness/props/c09.py, harness/spell.py).

  Python text modelled (css_parser.py):

    NEWLINE            = (?:\r\n|(?!\r\n)[\n\f\r])
    WS                 = (?:[ \t]|NEWLINE)
    COMMENTS           = (?:/\*[^*]*\*+(?:[^/*][^*]*\*+)*/)          -- `/*` up to the FIRST `*/`
    WSC                = (?:WS|COMMENTS)
    CSS_STRING_ESCAPES = (?:\\(?:(?:[a-f0-9]{1,5}(?![a-f0-9])|[a-f0-9]{6})(?:WS|(?![ \t\r\n\f]))
                              |[^\r\n\fa-f0-9]|NEWLINE))
    VALUE              = (?:"(?:CSS_STRING_ESCAPES|[^\\"\r\n\f])*?"|'(?:CSS_STRING_ESCAPES|[^\\'\r\n\f])*?'|IDENTIFIER)
    RE_CSS_STR_ESC     = (?:(\\[a-f0-9]{1,6}WS?)|(\\[^\r\n\f])|(\\\Z)|(\\NEWLINE))     flags re.I
-/
import SoupVerif.Model.Escape
namespace SoupVerif
namespace Spelling
open Escape

/-! ### Letter case -/

/-- ASCII upper-casing of one code point. -/
def upperCp (c : Nat) : Nat := if 97 ≤ c ∧ c ≤ 122 then c - 32 else c

/-- `mixCase mask kw`: upper-case the ASCII letters of `kw` at the positions where `mask` is
    `true` (positions beyond the end of `mask` are left alone).  With `kw` in lower case and `mask`
    ranging over all lists this enumerates every case variant of `kw`. -/
def mixCase : List Bool → Str → Str
  | _, [] => []
  | [], c :: cs => c :: cs
  | b :: m, c :: cs => (if b then upperCp c else c) :: mixCase m cs

/-! ### Ways to write one code point of an identifier -/

/-- The whitespace unit `WS` that may terminate a hex escape. -/
inductive WsUnit where
  | space | tab | lf | ff | cr | crlf
  deriving DecidableEq, Repr

def WsUnit.text : WsUnit → Str
  | .space => [32]
  | .tab => [9]
  | .lf => [10]
  | .ff => [12]
  | .cr => [13]
  | .crlf => [13, 10]

def wsText : Option WsUnit → Str
  | none => []
  | some u => u.text

/-- How one code point `c` is written.
    * `lit`  : `c` itself;
    * `bs`   : `\c`;
    * `hex digits mask ws` : `\`, then the hexadecimal numeral of `c` left-padded with `0` to
      `digits` digits, letters upper-cased where `mask` says so, then the whitespace unit `ws`
      if any. -/
inductive EscForm where
  | lit
  | bs
  | hex (digits : Nat) (mask : List Bool) (ws : Option WsUnit)
  deriving DecidableEq, Repr

/-- The digits of a hex escape. -/
def hexText (c digits : Nat) (mask : List Bool) : Str :=
  mixCase mask (List.replicate (digits - (hexDigits c).length) 48 ++ hexDigits c)

def renderForm (c : Nat) : EscForm → Str
  | .lit => [c]
  | .bs => [92, c]
  | .hex digits mask ws => 92 :: (hexText c digits mask ++ wsText ws)

/-- The text of an identifier whose code points are written in the given forms. -/
def renderIdentWith : List (Nat × EscForm) → Str
  | [] => []
  | (c, f) :: rest => renderForm c f ++ renderIdentWith rest

/-- The value spelled. -/
def valueOf (forms : List (Nat × EscForm)) : Str := forms.map (·.1)

/-- May a hex escape of `digits` digits with terminator `ws` be followed by `next`
    (`none` = end of input)?
    * with a terminator, anything may follow, except that a lone CR must not be followed by LF
      (CRLF would be read as one unit);
    * without one, what follows must not be whitespace (it would be swallowed) and, unless all
      six digits are present, must not be a hex digit (it would be read as part of the number). -/
def termOk (digits : Nat) (ws : Option WsUnit) (next : Option Nat) : Bool :=
  match ws with
  | some .cr => next != some 10
  | some _ => true
  | none =>
    match next with
    | none => true
    | some n => !isCssWs n && (digits == 6 || !isHex n)

/-- The side conditions of the hex form that do not depend on the context. -/
def hexOk (c digits : Nat) : Bool := (hexDigits c).length ≤ digits && digits ≤ 6

/-- Is `f` a correct way to write `c` inside an identifier (not at its head), when the next
    character of the text is `next`? -/
def formOk (c : Nat) (f : EscForm) (next : Option Nat) : Bool :=
  match f with
  | .lit => identContChar c
  | .bs => !isHex c && c != 10 && c != 13 && c != 12
  | .hex digits _ ws => hexOk c digits && termOk digits ws next

/-- `validForms forms r`: every form is admissible in its context, the text after the identifier
    being `r`. -/
def validForms : List (Nat × EscForm) → Str → Bool
  | [], _ => true
  | (c, f) :: rest, r => formOk c f (renderIdentWith rest ++ r).head? && validForms rest r

/-- The identifier is the whole content (nothing follows). -/
def Valid (forms : List (Nat × EscForm)) : Prop := validForms forms [] = true

instance (forms : List (Nat × EscForm)) : Decidable (Valid forms) := by unfold Valid; infer_instance

def isLit : EscForm → Bool
  | .lit => true
  | _ => false

def isHexForm : EscForm → Bool
  | .hex _ _ _ => true
  | _ => false

/-- A hex escape denotes `c` only for `0 < c ≤ 0x10FFFF` (`\0` and numbers above U+10FFFF decode
    to U+FFFD); the other forms have no such restriction. -/
def rangeOk (c : Nat) (f : EscForm) : Bool := !isHexForm f || (0 < c && c ≤ 0x10FFFF)

/-- May `(c, f)` stand where the grammar wants an identifier-start character or an escape? -/
def startOk (c : Nat) (f : EscForm) : Bool :=
  match f with
  | .lit => identStartChar c
  | _ => true

/-- The head rule of `IDENTIFIER`, `(?:-?(?:[^...]|CSS_ESCAPES)|--)`: the first form is a start
    character or an escape, or a literal `-` followed by one of these, or `--`. -/
def headOk : List (Nat × EscForm) → Bool
  | [] => false
  | (c, f) :: rest =>
    if c == 45 && isLit f then
      match rest with
      | [] => false
      | (c2, f2) :: _ => startOk c2 f2 || (c2 == 45 && isLit f2)
    else startOk c f

/-! ### Whitespace and comments: `WSC*` -/

/-- The text after the first `*/`, if there is one. -/
def dropComment : Str → Option Str
  | [] => none
  | a :: rest => if a == 42 && rest.head? == some 47 then some rest.tail else dropComment rest

/-- Fuelled worker of `skipWSC`; every step removes at least one character. -/
def skipWSCF : Nat → Str → Str
  | 0, s => s
  | f + 1, s =>
    match s with
    | [] => []
    | c :: cs =>
      if isCssWs c then skipWSCF f cs
      else if c == 47 && cs.head? == some 42 then
        match dropComment cs.tail with
        | some t => skipWSCF f t
        | none => c :: cs
      else c :: cs

/-- `WSC*` at the head of `s`, greedy: drop a maximal run of whitespace characters and complete
    comments.  An unterminated `/*` is not skipped. -/
def skipWSC (s : Str) : Str := skipWSCF s.length s

/-- `g` consists of whitespace and complete comments only (`WSC*` matches all of `g`). -/
def isGap (g : Str) : Prop := skipWSC g = []

instance (g : Str) : Decidable (isGap g) := by unfold isGap; infer_instance

/-- `r` does not begin with a whitespace character nor with `/*`. -/
def noGapStart (r : Str) : Bool :=
  match r with
  | [] => true
  | c :: cs => !isCssWs c && !(c == 47 && cs.head? == some 42)

/-! ### `css_unescape(content, string=True)` -/

/-- `RE_CSS_STR_ESC.sub(replace, content)`, scanning left to right; `unescapeStringAux k s` first
    drops `k` characters (the remainder of a match already replaced).
      group 1  `\` hex{1,6} WS?   ↦ the code point (U+FFFD for 0 and above U+10FFFF)
      group 2  `\` [^\r\n\f]      ↦ that character
      group 3  `\` at the end     ↦ U+FFFD
      group 4  `\` NEWLINE        ↦ nothing (line continuation; CRLF is one unit) -/
def unescapeStringAux : Nat → Str → Str
  | _, [] => []
  | k + 1, _ :: cs => unescapeStringAux k cs
  | 0, c :: cs =>
    if c != 92 then c :: unescapeStringAux 0 cs
    else match cs with
      | [] => [0xFFFD]
      | d :: ds =>
        if isHex d then
          let k := hexRun 6 cs
          fixCp (hexVal (cs.take k)) :: unescapeStringAux (k + wsLen (cs.drop k)) cs
        else if d == 13 && ds.head? == some 10 then unescapeStringAux 2 cs
        else if d == 10 || d == 13 || d == 12 then unescapeStringAux 1 cs
        else d :: unescapeStringAux 1 cs

/-- `css_unescape(content, True)`. -/
def unescapeString (s : Str) : Str := unescapeStringAux 0 s

/-! ### Ways to write a quoted string -/

/-- One piece of the body of a quoted string: a code point in one of the forms above, or a line
    continuation (`\` followed by a newline unit), which contributes nothing to the value. -/
inductive StrPiece where
  | ch (c : Nat) (f : EscForm)
  | cont (nl : WsUnit)
  deriving DecidableEq, Repr

def renderPiece : StrPiece → Str
  | .ch c f => renderForm c f
  | .cont nl => 92 :: nl.text

def renderStrWith : List StrPiece → Str
  | [] => []
  | p :: rest => renderPiece p ++ renderStrWith rest

def pieceValue : StrPiece → Str
  | .ch c _ => [c]
  | .cont _ => []

/-- The value spelled by the body. -/
def strValue : List StrPiece → Str
  | [] => []
  | p :: rest => pieceValue p ++ strValue rest

def pieceRangeOk : StrPiece → Bool
  | .ch c f => rangeOk c f
  | .cont _ => true

def isNewlineUnit : WsUnit → Bool
  | .lf | .ff | .cr | .crlf => true
  | _ => false

/-- Is the piece admissible inside a string quoted with `q`, the next character being `next`?
    A literal character must not be the backslash, the quote, or a newline character. -/
def pieceOk (q : Nat) (p : StrPiece) (next : Option Nat) : Bool :=
  match p with
  | .ch c .lit => c != 92 && c != q && c != 10 && c != 13 && c != 12
  | .ch c f => formOk c f next
  | .cont nl => isNewlineUnit nl && (nl != .cr || next != some 10)

def validStr (q : Nat) : List StrPiece → Str → Bool
  | [], _ => true
  | p :: rest, r => pieceOk q p (renderStrWith rest ++ r).head? && validStr q rest r

/-! ### A canonical quoted rendering -/

/-- One character of a quoted string: newline characters as hex escape plus space, the backslash
    and the quote character with a backslash, everything else literally. -/
def strEscChar (q c : Nat) : Str :=
  if c == 10 || c == 13 || c == 12 then 92 :: (hexDigits c ++ [32])
  else if c == 92 || c == q then [92, c]
  else [c]

def renderStringBody (q : Nat) : Str → Str
  | [] => []
  | c :: cs => strEscChar q c ++ renderStringBody q cs

/-- `q` + body + `q`. -/
def renderString (q : Nat) (v : Str) : Str := q :: (renderStringBody q v ++ [q])

/-! ### The quoted alternative of `VALUE` -/

/-- Length of the match of `CSS_STRING_ESCAPES` at the head of `s` (which begins with `\`). -/
def strEscLen (s : Str) : Option Nat :=
  match s with
  | [] => none
  | b :: cs =>
    if b != 92 then none
    else match cs with
      | [] => none
      | d :: _ =>
        if isHex d then
          let k := hexRun 6 cs
          some (1 + k + wsLen (cs.drop k))
        else if d == 10 || d == 13 || d == 12 then some (1 + wsLen cs)
        else some 2

/-- After the opening quote `q`: `(?:CSS_STRING_ESCAPES|[^\\q\r\n\f])*?q`.  Returns the body and the
    text after the closing quote; `scanStrBody q k s` first copies `k` characters. -/
def scanStrBody (q : Nat) : Nat → Str → Option (Str × Str)
  | _, [] => none
  | k + 1, c :: cs => (scanStrBody q k cs).map fun r => (c :: r.1, r.2)
  | 0, c :: cs =>
    if c == q then some ([], cs)
    else if c == 92 then
      match strEscLen (c :: cs) with
      | some n => (scanStrBody q (n - 1) cs).map fun r => (c :: r.1, r.2)
      | none => none
    else if c == 10 || c == 13 || c == 12 then none
    else (scanStrBody q 0 cs).map fun r => (c :: r.1, r.2)

/-- The quoted alternatives of `VALUE` at the head of `s`: `(quote, body, rest)`. -/
def scanString (s : Str) : Option (Nat × Str × Str) :=
  match s with
  | [] => none
  | q :: cs => if q == 34 || q == 39 then (scanStrBody q 0 cs).map fun r => (q, r.1, r.2) else none

/-! ### Examples (evaluated by `decide`) -/

-- " /* x */\n" is a gap; "/* x" and "/*/" are not; "/**/" is
example : isGap " /* x */\n".toStr := by decide
example : ¬ isGap "/* x".toStr := by decide
example : ¬ isGap "/*/".toStr := by decide
example : isGap "/**/".toStr := by decide
example : isGap "/***/".toStr := by decide
example : isGap "/* * / **/\r\n\t\x0c".toStr := by decide
example : skipWSC " /* a */ /* b".toStr = "/* b".toStr := by decide
example : skipWSC "/**/*/".toStr = "*/".toStr := by decide
example : skipWSC "  > b".toStr = "> b".toStr := by decide
-- case variants
example : mixCase [true, false, true] "even".toStr = "EvEn".toStr := by decide
example : mixCase [true, true, true, true, true] ":nth-child".toStr = ":NTH-child".toStr := by decide
-- `1` written six ways
example : renderIdentWith [(97, .lit), (49, .lit)] = "a1".toStr := by decide
example : renderIdentWith [(97, .lit), (49, .hex 2 [] (some .space))] = "a\\31 ".toStr := by decide
example : renderIdentWith [(97, .lit), (49, .hex 6 [] none)] = "a\\000031".toStr := by decide
example : renderIdentWith [(0x2fa, .hex 3 [false, false, true] (some .crlf))] = "\\2fA\r\n".toStr := by
  decide
example : Valid [(97, .lit), (49, .hex 2 [] none), (43, .bs)] := by decide
-- `\31` directly followed by the hex digit `a`, or by a literal space, is not a spelling of `1` …
example : ¬ Valid [(49, .hex 2 [] none), (97, .lit)] := by decide
-- … unless all six digits are written
example : Valid [(49, .hex 6 [] none), (97, .lit)] := by decide
example : headOk [(45, .lit), (49, .hex 2 [] (some .space))] = true := by decide
example : headOk [(45, .lit), (49, .lit)] = false := by decide
example : headOk [(45, .lit)] = false := by decide
example : headOk [(45, .lit), (45, .lit)] = true := by decide
-- strings
example : unescapeString "a\\\nb".toStr = "ab".toStr := by decide
example : unescapeString "a\\\r\nb".toStr = "ab".toStr := by decide
example : unescapeString "a\\\r\rb".toStr = "a\rb".toStr := by decide
example : unescapeString "\\41 B\\\"\\'".toStr = "AB\"'".toStr := by decide
example : unescapeString "\\".toStr = [0xFFFD] := by decide
example : unescapeString "\\0 ".toStr = [0xFFFD] := by decide
example : renderString 34 "a\"b'\\\n".toStr = "\"a\\\"b'\\\\\\a \"".toStr := by decide
example : renderString 39 "a\"b'\\\n".toStr = "'a\"b\\'\\\\\\a '".toStr := by decide
example : scanString "\"a\\\"b\" i]".toStr = some (34, "a\\\"b".toStr, " i]".toStr) := by decide
example : scanString "'a\"b\\\n'x".toStr = some (39, "a\"b\\\n".toStr, "x".toStr) := by decide
example : scanString "'a\nb'".toStr = none := by decide
example : scanString "'a\\".toStr = none := by decide

end Spelling
end SoupVerif
