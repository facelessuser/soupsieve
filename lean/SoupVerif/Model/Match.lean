/-
  `css_match.CSSMatch`: the matcher, function for function.

  One `CSSMatch` object is a `Ctx` (document facts computed in `__init__`, the caller's
  namespace map, the `iframe_restrict` flag).  The per-call memo tables are *not* part of this
  pure model: `Model/Memo.lean` models them as a state machine and `Properties/C04` proves they
  never change an answer.
-/
import SoupVerif.Model.Tree
import SoupVerif.Model.IR
import SoupVerif.Model.Nth
import SoupVerif.Model.Lang
import SoupVerif.Model.Inputs
namespace SoupVerif

def NS_XHTML : Str := "http://www.w3.org/1999/xhtml".toStr
def NS_XML : Str := "http://www.w3.org/XML/1998/namespace".toStr

/-- Exceptions CPython can raise inside the matcher's leaf functions. -/
inductive PyErr where
  | typeError | valueError | attributeError | indexError | keyError
  deriving Repr, DecidableEq, Inhabited

structure Ctx where
  env : CharEnv
  /-- `unicodedata.bidirectional(c)`: 1 = 'L', 2 = 'R' or 'AL', 0 = anything else. -/
  bidi : Nat → Nat
  /-- `RE_WILD_STRIP.sub('-', RE_WILD_TAIL.sub('', r))`. -/
  wildStrip : Str → Str
  isXml : Bool
  hasHtmlNs : Bool
  isHtml : Bool
  root : Option Loc
  scope : Option Loc
  namespaces : List (Str × Str)
  iframeRestrict : Bool

namespace Ctx

def supportsNamespaces (c : Ctx) : Bool := c.isXml || c.hasHtmlNs

def nsGet (c : Ctx) (k : Str) : Option Str := (c.namespaces.find? (fun p => p.1 == k)).map (·.2)

/-- `get_tag_ns`. -/
def tagNs (c : Ctx) (e : Elem) : Str :=
  if c.supportsNamespaces then
    match e.ns with
    | some n => n       -- `if ns:` — an empty string stays ''
    | none => []
  else NS_XHTML

def isHtmlTag (c : Ctx) (e : Elem) : Bool := c.tagNs e == NS_XHTML

/-- `get_tag`. -/
def tagName (c : Ctx) (e : Elem) : Str := if !c.isXml then lower e.name else e.name

/-- `get_prefix`. -/
def prefixName (c : Ctx) (e : Elem) : Option Str := if !c.isXml then e.pfx.map lower else e.pfx

/-- `is_iframe`. -/
def isIframe (c : Ctx) (e : Elem) : Bool :=
  ((if c.isXml then e.name else lower e.name) == "iframe".toStr) && c.isHtmlTag e

def locIsIframe (c : Ctx) (l : Loc) : Bool :=
  match l.elem? with
  | some e => c.isIframe e
  | none => false

/-- `get_parent(el, no_iframe)`. -/
def parent (c : Ctx) (l : Loc) (noIframe : Bool) : Option Loc :=
  match l.parent? with
  | some p => if noIframe && c.locIsIframe p then none else some p
  | none => none

/-- Ancestors following `get_parent(·, no_iframe)`: stops below an iframe when `noIframe`. -/
def ancestorsCut (c : Ctx) (noIframe : Bool) : List Loc → List Loc
  | [] => []
  | p :: ps => if noIframe && c.locIsIframe p then [] else p :: ancestorsCut c noIframe ps

def ancestors (c : Ctx) (l : Loc) (noIframe : Bool) : List Loc := c.ancestorsCut noIframe l.ancestors

/-- `get_contents(el, no_iframe)` / `get_children(el, no_iframe=…)` (all nodes). -/
def contents (c : Ctx) (l : Loc) (noIframe : Bool) : List Loc :=
  if noIframe && c.locIsIframe l then [] else l.children

def tagChildren (c : Ctx) (l : Loc) (noIframe : Bool) : List Loc :=
  (c.contents l noIframe).filter Loc.isTag

/-- `get_descendants(el, tags, no_iframe)`. -/
def descendants (c : Ctx) (l : Loc) (noIframe : Bool) : List Loc :=
  if noIframe && c.locIsIframe l then []
  else l.descendants (fun d => !(noIframe && c.locIsIframe d))

def tagDescendants (c : Ctx) (l : Loc) (noIframe : Bool) : List Loc :=
  (c.descendants l noIframe).filter Loc.isTag

/-- `get_attribute_by_name(el, name)`; `none` = the default was returned. -/
def attrByName (c : Ctx) (e : Elem) (name : Str) : Option NVal :=
  if c.isXml then
    (e.attrs.find? (fun a => a.key == name)).map (fun a => normalizeValue a.val)
  else
    (e.attrs.find? (fun a => lower a.key == name)).map (fun a => normalizeValue a.val)

/-- `get_text`: concatenated content strings among the descendants. -/
def text (c : Ctx) (l : Loc) (noIframe : Bool) : Str :=
  ((c.descendants l noIframe).filter (fun d => d.focus.isContentString)).flatMap (fun d => d.focus.strVal)

/-- `get_own_text`. -/
def ownText (c : Ctx) (l : Loc) (noIframe : Bool) : List Str :=
  ((c.contents l noIframe).filter (fun d => d.focus.isContentString)).map (fun d => d.focus.strVal)

/-- `is_root`. -/
def isRoot (c : Ctx) (l : Loc) : Bool :=
  (match c.root with
   | some r => r.same l
   | none => false) ||
  (match l.parent? with
   | some p => c.isHtml && c.locIsIframe p
   | none => false)

end Ctx

/-- `sibling.strip()` is non-empty. -/
def hasNonPySpace (s : Str) : Bool := s.any (fun ch => !isPySpace ch)

/-- A sibling that prevents `:root`. -/
def blocksRoot (n : Node) : Bool :=
  n.isTag || (n.isContentString && hasNonPySpace n.strVal) || n.isCData

/-- `match_root`. -/
def matchRoot (c : Ctx) (l : Loc) : Bool :=
  c.isRoot l && !(l.prevSiblings.any (fun s => blocksRoot s.focus)) &&
    !(l.nextSiblings.any (fun s => blocksRoot s.focus))

/-- `match_scope`. -/
def matchScope (c : Ctx) (l : Loc) : Bool :=
  match c.scope with
  | some s => s.same l
  | none => false

/-- `match_empty`. -/
def matchEmpty (l : Loc) : Bool :=
  !(l.children.any fun ch => ch.isTag || (ch.focus.isContentString && ch.focus.strVal.any (fun x => !isCssWs x)))

/-- `match_namespace`. -/
def matchNamespace (c : Ctx) (e : Elem) (tag : SelTag) : Bool :=
  let ns := c.tagNs e
  let dflt := c.nsGet []
  match tag.pfx with
  | none =>
    -- We must match the default namespace if one is not provided
    match dflt with
    | some d => ns == d
    | none => true
  | some p =>
    if p.isEmpty then ns.isEmpty          -- `|tag`: must not have a namespace
    else if p == "*".toStr then true
    else match c.nsGet p with
      | some u => ns == u
      | none => false

/-- `match_tagname`. -/
def matchTagname (c : Ctx) (e : Elem) (tag : SelTag) : Bool :=
  let name := if !c.isXml then lower tag.name else tag.name
  name == c.tagName e || name == "*".toStr

/-- `match_tag`. -/
def matchTag (c : Ctx) (e : Elem) : Option SelTag → Bool
  | none => true
  | some t => matchNamespace c e t && matchTagname c e t

/-- Python's `not ns` for `ns : str | None` (fix 3a64a82: a prefix mapped to the EMPTY string
    designates "no namespace", exactly as an unset `ns`). -/
def nsFalsy : Option Str → Bool
  | none => true
  | some u => u.isEmpty

@[simp] theorem nsFalsy_none : nsFalsy none = true := rfl
@[simp] theorem nsFalsy_some (u : Str) : nsFalsy (some u) = u.isEmpty := rfl

/-- `match_attribute_name`: the normalised value of the first attribute that matches. -/
def matchAttributeName (c : Ctx) (e : Elem) (attr : Str) (pfx : Str) : Option NVal :=
  if c.supportsNamespaces then
    let nsOpt : Option (Option Str) :=     -- `none` = early `return None`
      if !pfx.isEmpty then
        match c.nsGet pfx with
        | some u => some (some u)
        | none => if pfx != "*".toStr then none else some none
      else some none
    match nsOpt with
    | none => none
    | some ns =>
      let star := pfx == "*".toStr
      (e.attrs.find? fun a =>
        if (nsFalsy ns && !star) || (star && a.kns.isNone) then
          -- compare the whole attribute name
          if c.isXml then attr == a.key else lower attr == lower a.key
        else
          match a.kns with
          | none => false
          | some kn =>
            if ns != some kn && !star then false
            else
              match a.kname with
              | some nm => if c.isXml then attr == nm else lower attr == lower nm
              | none => false).map (fun a => normalizeValue a.val)
  else
    (e.attrs.find? fun a => lower attr == lower a.key).map (fun a => normalizeValue a.val)

def nvalJoin : NVal → Str
  | .str s => s
  | .list l => joinWith [32] l

/-- `match_attribute_name` (a generator: `[*|a op v]` may designate several attributes): the normalised value of
    EVERY attribute the name test designates, in document order of `e.attrs`.  The designation
    predicate is the one of `matchAttributeName`, with `List.filter` in place of `List.find?`. -/
def matchAttributeValues (c : Ctx) (e : Elem) (attr : Str) (pfx : Str) : List NVal :=
  if c.supportsNamespaces then
    let nsOpt : Option (Option Str) :=     -- `none` = early `return`
      if !pfx.isEmpty then
        match c.nsGet pfx with
        | some u => some (some u)
        | none => if pfx != "*".toStr then none else some none
      else some none
    match nsOpt with
    | none => []
    | some ns =>
      let star := pfx == "*".toStr
      (e.attrs.filter fun a =>
        if (nsFalsy ns && !star) || (star && a.kns.isNone) then
          -- compare the whole attribute name
          if c.isXml then attr == a.key else lower attr == lower a.key
        else
          match a.kns with
          | none => false
          | some kn =>
            if ns != some kn && !star then false
            else
              match a.kname with
              | some nm => if c.isXml then attr == nm else lower attr == lower nm
              | none => false).map (fun a => normalizeValue a.val)
  else
    (e.attrs.filter fun a => lower attr == lower a.key).map (fun a => normalizeValue a.val)

/-- `matchAttributeName` is the first value `matchAttributeValues` yields: it models no Python function of
    its own, and is kept as the form the guard lemmas of C04 / C11 / C12 are stated over. -/
theorem matchAttributeName_eq_head? (c : Ctx) (e : Elem) (a p : Str) :
    matchAttributeName c e a p = (matchAttributeValues c e a p).head? := by
  unfold matchAttributeName matchAttributeValues
  split
  · dsimp only
    split
    · rfl
    · rw [List.head?_map, List.head?_filter]
  · rw [List.head?_map, List.head?_filter]

/-- `match_attributes`: every attribute selector is satisfied by SOME designated attribute
    (`for temp in self.match_attribute_name(...)` … `break` / `else: match = False`). -/
def matchAttributes (c : Ctx) (e : Elem) (attrs : List AttrSel) : Bool :=
  attrs.all fun a =>
    let pat := if c.isXml && a.xmlTypePattern.isSome then a.xmlTypePattern else a.pattern
    (matchAttributeValues c e a.attrName a.pfx).any fun v =>
      match pat with
      | none => true
      | some r => Rx.isMatch c.env r (nvalJoin v)

/-- `match_id`. -/
def matchId (c : Ctx) (e : Elem) (ids : List Str) : Bool :=
  ids.all fun i => (c.attrByName e "id".toStr).getD (.str []) == .str i

/-- `get_classes`. -/
def getClasses (c : Ctx) (e : Elem) : List Str :=
  match c.attrByName e "class".toStr with
  | none => []
  | some (.str s) => splitWs s
  | some (.list l) => l

/-- `match_classes`. -/
def matchClasses (c : Ctx) (e : Elem) (classes : List Str) : Bool :=
  let cur := getClasses c e
  classes.all fun k => cur.contains k

/-- `match_contains`. -/
def matchContains (c : Ctx) (l : Loc) (contains : List ContainsSel) : Bool :=
  contains.all fun cl =>
    if cl.own then
      let own := c.ownText l c.isHtml
      cl.text.any fun t => own.any fun piece => isInfix t piece
    else
      let content := c.text l c.isHtml
      cl.text.any fun t => isInfix t content

/-- `match_defined`. -/
def matchDefined (c : Ctx) (e : Elem) : Bool :=
  let name := c.tagName e
  !name.contains 45 || name.contains 58 || (c.prefixName e).isSome

/-- `match_placeholder_shown`. -/
def matchPlaceholderShown (c : Ctx) (l : Loc) : Bool :=
  let content := c.text l false
  content == [] || content == [10]

/-- `util.lower(x)` on a normalised value: a list is unhashable for the `lru_cache`. -/
def lowerE : NVal → Except PyErr Str
  | .str s => .ok (lower s)
  | .list _ => .error .typeError

/-- The value handed to `Inputs.parse_value` must be a string (`RE.match(value)`). -/
def parseValueE (itype : Str) : Option NVal → Except PyErr (Option Inputs.PVal)
  | none => .ok none
  | some (.str s) => .ok (Inputs.parseValue itype s)
  | some (.list _) =>
    -- only the branches that call `RE_x.match(value)` raise
    if ["date", "month", "week", "time", "datetime-local", "number", "range"].any (fun t => t.toStr == itype)
    then .error .typeError else .ok none

/-- `match_range`. -/
def matchRangeE (c : Ctx) (e : Elem) (condition : Nat) : Except PyErr Bool := do
  let itype ← lowerE ((c.attrByName e "type".toStr).getD (.str []))
  let mn ← parseValueE itype (c.attrByName e "min".toStr)
  let mx ← parseValueE itype (c.attrByName e "max".toStr)
  if mn.isNone && mx.isNone then return false
  let value ← parseValueE itype (c.attrByName e "value".toStr)
  let outOfRange : Bool :=
    match value with
    | none => false
    | some v =>
      let lowBad := match mn with | some m => Inputs.ltP v m | none => false
      let highBad := match mx with | some m => Inputs.ltP m v | none => false
      if itype == "time".toStr then
        match mn, mx with
        | some m1, some m2 =>
          if Inputs.ltP m2 m1 then Inputs.ltP v m1 && Inputs.ltP m2 v   -- reversed range
          else lowBad || highBad
        | _, _ => lowBad || highBad
      else if ["date", "datetime-local", "month", "week", "number", "range"].any (fun t => t.toStr == itype) then
        lowBad || highBad
      else false
  return (if hasFlag condition SEL_IN_RANGE then !outOfRange else outOfRange)

def exceptBool : Except PyErr Bool → Bool
  | .ok b => b
  | .error _ => false

def matchRange (c : Ctx) (e : Elem) (condition : Nat) : Bool := exceptBool (matchRangeE c e condition)

/-- `DIR_MAP.get(util.lower(dir), None)`: `some 0` = auto. -/
def dirOfAttr (v : Str) : Option Nat :=
  if v == "ltr".toStr then some SEL_DIR_LTR
  else if v == "rtl".toStr then some SEL_DIR_RTL
  else if v == "auto".toStr then some 0
  else none

/-- First strong character of a string: `some LTR/RTL`. -/
def firstStrong (c : Ctx) : Str → Option Nat
  | [] => none
  | ch :: rest =>
    if c.bidi ch == 1 then some SEL_DIR_LTR
    else if c.bidi ch == 2 then some SEL_DIR_RTL
    else firstStrong c rest

mutual
/-- `find_bidi(el)` on the children list. -/
def findBidiKids (c : Ctx) : List Node → Option Nat
  | [] => none
  | k :: ks =>
    match k with
    | .elem e sub =>
      let direction : Option Nat :=
        match (c.attrByName e "dir".toStr).getD (.str []) with
        | .str s => dirOfAttr (lower s)
        | .list _ => none
      let name := c.tagName e
      if ["bdi", "script", "style", "textarea", "iframe"].any (fun t => t.toStr == name)
          || !c.isHtmlTag e || direction.isSome then
        findBidiKids c ks
      else
        match findBidiKids c sub with
        | some v => some v
        | none => findBidiKids c ks
    | .str kind s =>
      if kind != .text then findBidiKids c ks
      else match firstStrong c s with
        | some v => some v
        | none => findBidiKids c ks
end

/-- `find_bidi(el)`: `get_children(el, no_iframe=True)` yields nothing when `el` itself is an iframe. -/
def findBidi (c : Ctx) (l : Loc) : Option Nat :=
  if c.locIsIframe l then none else findBidiKids c l.focus.kids

/-- `match_dir(el, directionality)`; the recursion on the parent is a walk over
    `el :: ancestors` (with `no_iframe=True`). -/
def matchDirWalk (c : Ctx) (directionality : Nat) (inherit : Bool) : List Loc → Bool
  | [] => false                       -- `el is None`
  | l :: parents =>
    match l.elem? with
    | none => false
    | some e =>
      -- a foreign element never matches itself; as an ancestor it passes the question on upwards
      if !c.isHtmlTag e then inherit && matchDirWalk c directionality true parents
      else
        let direction : Option Nat :=
          match (c.attrByName e "dir".toStr).getD (.str []) with
          | .str s => dirOfAttr (lower s)
          | .list _ => none
        match direction with
        | some d =>
          if d != 0 then d == directionality
          else
            -- dir=auto
            let isRoot := c.isRoot l
            let name := c.tagName e
            let isInput := name == "input".toStr
            let isTextarea := name == "textarea".toStr
            let itype : Str :=
              if isInput then
                match (c.attrByName e "type".toStr).getD (.str []) with
                | .str s => lower s
                | .list _ => []
              else []
            if (isInput && ["text", "search", "tel", "url", "email"].any (fun t => t.toStr == itype)) || isTextarea then
              let value : Str :=
                if isTextarea then
                  ((c.contents l true).filter (fun d => d.focus.isContentString)).flatMap (fun d => d.focus.strVal)
                else match (c.attrByName e "value".toStr).getD (.str []) with
                  | .str s => s
                  | .list _ => []
              if !value.isEmpty then
                match firstStrong c value with
                | some d => d == directionality
                | none => SEL_DIR_LTR == directionality
              else if isRoot then SEL_DIR_LTR == directionality
              else matchDirWalk c directionality true parents
            else
              match findBidi c l with
              | some d => d == directionality
              | none =>
                if isRoot then SEL_DIR_LTR == directionality
                else matchDirWalk c directionality true parents
        | none =>
          let isRoot := c.isRoot l
          if isRoot then SEL_DIR_LTR == directionality
          else
            let name := c.tagName e
            let isInput := name == "input".toStr
            let itype : Str :=
              if isInput then
                match (c.attrByName e "type".toStr).getD (.str []) with
                | .str s => lower s
                | .list _ => []
              else []
            if isInput && itype == "tel".toStr then SEL_DIR_LTR == directionality
            else if name == "bdi".toStr then
              match findBidi c l with
              | some d => d == directionality
              | none => matchDirWalk c directionality true parents
            else matchDirWalk c directionality true parents

/-- `match_dir`. -/
def matchDir (c : Ctx) (l : Loc) (directionality : Nat) : Bool :=
  if hasFlag directionality SEL_DIR_LTR && hasFlag directionality SEL_DIR_RTL then false
  else matchDirWalk c directionality false (l :: c.ancestors l true)

/-- The `form` an element belongs to for `:default` (`match_default`'s parent walk). -/
def defaultForm (c : Ctx) (l : Loc) : Option Loc :=
  (c.ancestors l true).find? fun p =>
    match p.elem? with
    | some e => c.tagName e == "form".toStr && c.isHtmlTag e
    | none => false

/-- First submit button of a form: the scan of `match_default` (stops at a nested form). -/
def firstSubmit (c : Ctx) : List Loc → Option Loc
  | [] => none
  | ch :: rest =>
    match ch.elem? with
    | none => firstSubmit c rest
    | some e =>
      let name := c.tagName e
      if name == "form".toStr then none
      -- fix 8eff4e2: only HTML elements are form controls (`… and self.is_html_tag(child)`)
      else if (name == "input".toStr || name == "button".toStr) && c.isHtmlTag e then
        match (c.attrByName e "type".toStr).getD (.str []) with
        | .str v => if !v.isEmpty && (if !c.isXml then lower v else v) == "submit".toStr then some ch else firstSubmit c rest
        | .list _ => firstSubmit c rest
      else firstSubmit c rest

/-- `match_default` without its memo table. -/
def matchDefault (c : Ctx) (l : Loc) : Bool :=
  match defaultForm c l with
  | none => false
  | some form =>
    match firstSubmit c (c.tagDescendants form true) with
    | some b => b.same l
    | none => false

/-- `get_parent_form` of `match_indeterminate`: nearest HTML `form` ancestor, else the top-most
    ancestor reached (with `no_iframe=True`); `none` when the element has no parent. -/
def parentForm (c : Ctx) (l : Loc) : Option Loc :=
  let anc := c.ancestors l true
  match anc.find? (fun p => match p.elem? with
      | some e => c.tagName e == "form".toStr && c.isHtmlTag e
      | none => false) with
  | some f => some f
  | none => anc.getLast?

/-- Does `child` (an `input`) count as a checked radio of group `name` (attribute scan of
    `match_indeterminate`, in attribute order with its early exit). -/
def radioCheckedScan (isXml : Bool) (name : Option NVal) : List Attr → Bool → Bool → Bool → Bool
  | [], _, _, _ => false
  | a :: rest, isRadio, check, hasName =>
    let k := if !isXml then lower a.key else a.key
    let v := normalizeValue a.val
    let (isRadio, check, hasName) :=
      if k == "type".toStr && (match v with | .str s => (if isXml then s else lower s) == "radio".toStr | .list _ => false) then (true, check, hasName)
      else if k == "name".toStr && some v == name then (isRadio, check, true)
      else if k == "checked".toStr then (isRadio, true, hasName)
      else (isRadio, check, hasName)
    if isRadio && check && hasName then true else radioCheckedScan isXml name rest isRadio check hasName

/-- `match_indeterminate` without its memo table. -/
def matchIndeterminate (c : Ctx) (l : Loc) : Bool :=
  match l.elem? with
  | none => false
  | some e =>
    let name := c.attrByName e "name".toStr
    match parentForm c l with
    | none => false
    | some form =>
      let checked := (c.tagDescendants form true).any fun ch =>
        if ch.same l then false
        else match ch.elem? with
          | none => false
          | some ce =>
            c.tagName ce == "input".toStr && c.isHtmlTag ce &&      -- fix 8eff4e2: HTML elements only
              radioCheckedScan c.isXml name ce.attrs false false false &&
              (match parentForm c ch with
               | some f => f.same form
               | none => false)
      !checked

/-- The `lang` attribute scan of `match_lang` on one element. -/
def langAttr (c : Ctx) (e : Elem) : Option NVal :=
  let hasNs := c.supportsNamespaces
  let hasHtmlNs := (match e.ns with | some n => !n.isEmpty && n == NS_XHTML | none => false)
  (e.attrs.find? fun a =>
    ((!hasNs || hasHtmlNs) && (if !c.isXml then lower a.key else a.key) == "lang".toStr) ||
    (hasNs && !hasHtmlNs && a.kns == some NS_XML &&
      (match a.kname with
       | some nm => (if !c.isXml then lower nm else nm) == "lang".toStr
       | none => false))).map (fun a => normalizeValue a.val)

/-- Walk of `match_lang`: first explicit language on `el :: ancestors` (iframe cut when HTML),
    together with the last element visited (the `root` of the `<meta>` search). -/
def langWalk (c : Ctx) : List Loc → Loc → Option NVal × Loc
  | [], last => (none, last)
  | l :: rest, _ =>
    match l.elem? with
    | none => langWalk c rest l
    | some e =>
      match langAttr c e with
      | some v => (some v, l)
      | none => langWalk c rest l

/-- The `<meta http-equiv="content-language">` scan below `parent` (`html` > `head` > `meta`). -/
def metaLangScan (attrs : List Attr) : Bool → Option NVal → Option NVal
  | cLang, content =>
    match attrs with
    | [] => none
    | a :: rest =>
      let k := lower a.key
      let v := normalizeValue a.val
      let cLang := cLang || (k == "http-equiv".toStr && (match v with | .str s => lower s == "content-language".toStr | .list _ => false))
      let content := if k == "content".toStr then some v else content
      match content with
      | some cv =>
        if cLang && (match cv with | .str s => !s.isEmpty | .list l => !l.isEmpty) then some cv
        else metaLangScan rest cLang content
      | none => metaLangScan rest cLang content

def metaLang (c : Ctx) (start : Loc) : Option NVal :=
  let findChild (p : Loc) (tag : String) : Option Loc :=
    (c.tagChildren p c.isHtml).find? fun ch =>
      match ch.elem? with
      | some e => c.tagName e == tag.toStr && c.isHtmlTag e
      | none => false
  -- the walk ended on the document object (search its children) or on the root element of an `iframe` document
  let htmlLoc : Option Loc :=
    match start.elem? with
    | some e => if !start.isDoc && c.tagName e == "html".toStr && c.isHtmlTag e then some start else findChild start "html"
    | none => findChild start "html"
  match htmlLoc with
  | none => none
  | some html =>
    match findChild html "head" with
    | none => none
    | some head =>
      match head.elem? with
      | none => none
      | some he =>
        (head.children.findSome? fun ch =>
          match ch.elem? with
          | some me =>
            if c.tagName me == "meta".toStr && c.isHtmlTag me then metaLangScan me.attrs false none else none
          | none => none)

/-- The language of an element as `match_lang` determines it (no memo). -/
def langOf (c : Ctx) (l : Loc) : Option NVal :=
  let (found, last) := langWalk c (l :: c.ancestors l c.isHtml) l
  match found with
  | some v => some v
  | none =>
    -- the pragma is an HTML feature: consulted when the document is HTML (XHTML included)
    if c.isHtml then metaLang c last else none

/-- `match_lang`. -/
def matchLang (c : Ctx) (l : Loc) (langs : List LangSel) : Bool :=
  match langOf c l with
  | none => false
  | some v =>
    let tag := match v with | .str s => s | .list ls => joinWith [32] ls
    langs.all fun pats => pats.languages.any fun p => Lang.extendedFilter c.wildStrip p tag

/-- `match_nth_tag_type`. -/
def sameType (c : Ctx) (a b : Elem) : Bool := c.tagName a == c.tagName b && c.tagNs a == c.tagNs b

/-- `rel_type` of the first selector of a relation list (`relation[0].rel_type`). -/
def headRel (rel : SelList) : Rel :=
  match rel.sels.head? with
  | some s => s.relType
  | none => .none

/-- `match_relations` / `match_past_relations` / `match_future_relations`: which elements the
    relation list is tried on (`on`), by `rel_type`. -/
def relationWalk (c : Ctx) (l : Loc) (rt : Rel) (on : Loc → Bool) : Bool :=
  match rt with
  | .none => false
  | .desc => ((c.ancestors l c.iframeRestrict).takeWhile (fun p => !p.isDoc)).any on
  | .child =>
    (match c.parent l c.iframeRestrict with
     | some p => !p.isDoc && on p
     | none => false)
  | .sib => (l.prevSiblings.filter Loc.isTag).any on
  | .adj =>
    (match (l.prevSiblings.filter Loc.isTag).head? with
     | some s => on s
     | none => false)
  | .hasDesc => (c.tagDescendants l c.iframeRestrict).any on
  | .hasChild => (c.tagChildren l c.iframeRestrict).any on
  | .hasSib => (l.nextSiblings.filter Loc.isTag).any on
  | .hasAdj =>
    (match (l.nextSiblings.filter Loc.isTag).head? with
     | some s => on s
     | none => false)

mutual
/-- `match_selectors(el, selectors)`. -/
def matchList (c : Ctx) (l : Loc) (e : Elem) : SelList → Bool
  | .mk sels isNot isHtml =>
    let c' : Ctx := if isHtml then { c with namespaces := [("html".toStr, NS_XHTML)], iframeRestrict := true } else c
    if !isHtml || c.isHtml then
      -- `match` starts as False and is only assigned inside the `for selector in selectors` loop
      !sels.isEmpty && ((matchAny c' l e sels) != isNot)
    else false
/-- The `for selector in selectors` loop: does some alternative match. -/
def matchAny (c : Ctx) (l : Loc) (e : Elem) : List Sel → Bool
  | [] => false
  | s :: rest => matchSel c l e s || matchAny c l e rest
/-- One compound selector with its relation. -/
def matchSel (c : Ctx) (l : Loc) (e : Elem) : Sel → Bool
  | .null => false
  | .mk tag ids classes attrs nth subs relation _relType contains lang flags =>
    matchTag c e tag &&
    (!hasFlag flags SEL_DEFINED || matchDefined c e) &&
    (!hasFlag flags SEL_ROOT || matchRoot c l) &&
    (!hasFlag flags SEL_SCOPE || matchScope c l) &&
    (!hasFlag flags SEL_PLACEHOLDER_SHOWN || matchPlaceholderShown c l) &&
    matchNths c l e nth &&
    (!hasFlag flags SEL_EMPTY || matchEmpty l) &&
    (ids.isEmpty || matchId c e ids) &&
    (classes.isEmpty || matchClasses c e classes) &&
    matchAttributes c e attrs &&
    (!hasFlag flags RANGES || matchRange c e (flags &&& RANGES)) &&
    (lang.isEmpty || matchLang c l lang) &&
    (subs.isEmpty || matchSubs c l e subs) &&
    (!relation.nonEmpty || relationWalk c l (headRel relation) (fun t =>
        match t.elem? with
        | some te => matchList c t te relation
        | none => false)) &&
    (!hasFlag flags SEL_DEFAULT || matchDefault c l) &&
    (!hasFlag flags SEL_INDETERMINATE || matchIndeterminate c l) &&
    (!hasFlag flags DIR_FLAGS || matchDir c l (flags &&& DIR_FLAGS)) &&
    (contains.isEmpty || matchContains c l contains)
/-- `match_subselectors`. -/
def matchSubs (c : Ctx) (l : Loc) (e : Elem) : List SelList → Bool
  | [] => true
  | s :: rest => matchList c l e s && matchSubs c l e rest
/-- `match_nth`. -/
def matchNths (c : Ctx) (l : Loc) (e : Elem) : List NthSel → Bool
  | [] => true
  | n :: rest => matchNth c l e n && matchNths c l e rest
def matchNth (c : Ctx) (l : Loc) (e : Elem) : NthSel → Bool
  | .mk a var b ofType last sels =>
    if sels.nonEmpty && !matchList c l e sels then false
    else
      -- `parent = get_parent(el)`, or a fake parent holding just `el`
      let sibs : List Loc := match l.parent? with
        | some p => p.children
        | none => [l]
      let walk := if last then sibs.reverse else sibs
      let counted : Loc → Bool := fun ch =>
        match ch.elem? with
        | none => false
        | some ce =>
          (!sels.nonEmpty || matchList c ch ce sels) && (!ofType || sameType c e ce)
      Nth.matchOne counted (fun ch => ch.same l) a b var walk
end

/-- `CSSMatch.match(el)`. -/
def matchEl (c : Ctx) (sel : SelList) (l : Loc) : Bool :=
  match l.focus with
  | .elem e _ => !e.isDoc && matchList c l e sel
  | _ => false

end SoupVerif
