/-
  A backtracking regular-expression matcher in list-of-successes form, for the fragment of
  Python's `re` that soupsieve uses (measured by the translator `gen/gen_regexes.py`):
  literals, classes, `.`, sequences, branches, capturing groups, greedy/lazy bounded and
  unbounded repeats, `^`, `$`, `\Z`, look-ahead and fixed-width look-behind, IGNORECASE, DOTALL.

  `runs r s i caps` lists, in the engine's priority order, every `(end, captures)` with which
  `r` can match `s` starting at `i`.  `re.match` is the head of that list.
-/
import SoupVerif.Model.Py
namespace SoupVerif

inductive Cat where
  | space | notSpace | digit | notDigit | word | notWord
  deriving Repr, DecidableEq, Inhabited

inductive SetItem where
  | ch (c : Nat)
  | range (lo hi : Nat)
  | cat (c : Cat)
  deriving Repr, DecidableEq, Inhabited

inductive Rx where
  | lit (c : Nat) (ic : Bool)
  | notLit (c : Nat) (ic : Bool)
  | any (dotall : Bool)
  | set (neg : Bool) (items : List SetItem) (ic : Bool)
  | seq (rs : List Rx)
  | alt (rs : List Rx)
  | group (idx : Nat) (r : Rx)
  | rep (min : Nat) (max : Option Nat) (greedy : Bool) (r : Rx)
  | bos            -- `^` without MULTILINE, `\A`
  | eol            -- `$` without MULTILINE: at the end, or before a final `\n`
  | eos            -- `\Z`
  | look (ahead : Bool) (neg : Bool) (r : Rx)
  deriving Repr, Inhabited

abbrev Caps := List (Nat × Nat × Nat)

/-- Character-level parameters of the engine that the model does not fix: simple case folding
    and the Unicode categories. -/
structure CharEnv where
  fold : Nat → Nat
  isSpace : Nat → Bool
  isDigit : Nat → Bool
  isWord : Nat → Bool

/-- ASCII instance: folding is ASCII lower-casing, the categories are the ASCII ones plus "every
    non-ASCII code point is a word character".  (The driver runs under `pyFoldEnv`; the harness
    keeps non-ASCII cased letters and non-ASCII digits/word characters out of case-insensitive /
    category contexts.) -/
def asciiEnv : CharEnv where
  fold := lowerCp
  isSpace := isPySpace
  isDigit := fun c => 48 ≤ c && c ≤ 57
  isWord := fun c => (48 ≤ c && c ≤ 57) || (65 ≤ c && c ≤ 90) || (97 ≤ c && c ≤ 122) || c == 95 || c ≥ 128

/-- "Special" code points: non-ASCII code points that case-insensitive matching identifies with an
    ASCII letter, with that letter (`(code point, its fold)`). -/
abbrev Specials := List (Nat × Nat)

/-- ASCII environment in which, additionally, every special code point folds to its ASCII image. -/
def foldEnv (sp : Specials) : CharEnv :=
  { asciiEnv with fold := fun c => match sp.lookup c with | some a => a | none => lowerCp c }

/-- The four non-ASCII code points that Python's `re.IGNORECASE` identifies with ASCII letters:
    U+0130 `İ` ~ `i` (simple lower-casing), U+0131 `ı` ~ `i`, U+017F `ſ` ~ `s` (sre's
    `_ignorecase_fixes`), U+212A `K` ~ `k` (simple lower-casing). -/
def foldSpecials : Specials := [(304, 105), (305, 105), (383, 115), (8490, 107)]

/-- ASCII environment plus Python's four non-ASCII/ASCII case identifications: `foldEnv foldSpecials`
    written out (`pyFoldEnv_eq`). -/
def pyFoldEnv : CharEnv :=
  { asciiEnv with
    fold := fun c => match foldSpecials.lookup c with | some a => a | none => lowerCp c }

theorem pyFoldEnv_eq : pyFoldEnv = foldEnv foldSpecials := rfl
theorem asciiEnv_eq : asciiEnv = foldEnv [] := by
  simp only [foldEnv, asciiEnv, List.lookup]

namespace Rx

def catHas (env : CharEnv) : Cat → Nat → Bool
  | .space, c => env.isSpace c
  | .notSpace, c => !env.isSpace c
  | .digit, c => env.isDigit c
  | .notDigit, c => !env.isDigit c
  | .word, c => env.isWord c
  | .notWord, c => !env.isWord c

def itemHas (env : CharEnv) (ic : Bool) (c : Nat) : SetItem → Bool
  | .ch x => if ic then env.fold x == env.fold c else x == c
  -- Under IGNORECASE sre tests a range against both `lower(ch)` and `upper(ch)`.  `env.fold` is the
  -- lower-casing; upper-casing is modelled for ASCII letters only (third disjunct).  A `.ch` item
  -- needs no such disjunct: it compares the folds of both sides.
  | .range lo hi => (lo ≤ c && c ≤ hi) || (ic && ((lo ≤ env.fold c && env.fold c ≤ hi) ||
      (65 ≤ lo && hi ≤ 90 && 97 ≤ c && c ≤ 122 && lo ≤ c - 32 && c - 32 ≤ hi)))
  | .cat k => catHas env k c

def setHas (env : CharEnv) (neg : Bool) (items : List SetItem) (ic : Bool) (c : Nat) : Bool :=
  (items.any (itemHas env ic c)) != neg

/-- Width of a look-behind body (only fixed-width bodies occur). -/
def width : Rx → Option Nat
  | .lit _ _ | .notLit _ _ | .any _ | .set _ _ _ => some 1
  | .bos | .eol | .eos | .look _ _ _ => some 0
  | .group _ r => width r
  | .seq rs => widthSeq rs
  | .alt rs => widthAlt rs
  | .rep mn mx _ r => if mx == some mn then (width r).map (· * mn) else none
where
  widthSeq : List Rx → Option Nat
    | [] => some 0
    | r :: rs => do let a ← width r; let b ← widthSeq rs; pure (a + b)
  widthAlt : List Rx → Option Nat
    | [] => none
    | [r] => width r
    | r :: rs => do let a ← width r; let b ← widthAlt rs; if a == b then pure a else none

/-- Iterate a body matcher: the engine's `MAX_UNTIL` / `MIN_UNTIL`.  A further iteration is
    attempted only when the previous one advanced (or the minimum is not reached): sre does not
    repeat an iteration that ended where it began (`ptr == last_ptr`), it counts it and goes on
    with what follows the repeat.  (In that branch `count + 1 ≥ mn` holds already, so its `else []`
    is never taken.)  `fuel` bounds the number of iterations by the remaining input. -/
def iter (body : Nat → Caps → List (Nat × Caps)) (mn : Nat) (mx : Option Nat) (greedy : Bool) :
    Nat → Nat → Nat → Caps → List (Nat × Caps)
  | 0, _, _, _ => []
  | fuel + 1, count, pos, caps =>
    let canMore := match mx with
      | none => true
      | some m => count < m
    let more : List (Nat × Caps) :=
      if canMore then
        (body pos caps).flatMap fun (p', c') =>
          if p' > pos || count + 1 < mn then iter body mn mx greedy fuel (count + 1) p' c'
          else if count + 1 ≥ mn then [(p', c')] else []
      else []
    let stop : List (Nat × Caps) := if count ≥ mn then [(pos, caps)] else []
    if greedy then more ++ stop else stop ++ more

mutual
def runs (env : CharEnv) (s : Str) : Rx → Nat → Caps → List (Nat × Caps)
  | .lit c ic, i, caps =>
    match s[i]? with
    | some x => if (if ic then env.fold x == env.fold c else x == c) then [(i + 1, caps)] else []
    | none => []
  | .notLit c ic, i, caps =>
    match s[i]? with
    | some x => if (if ic then env.fold x == env.fold c else x == c) then [] else [(i + 1, caps)]
    | none => []
  | .any dotall, i, caps =>
    match s[i]? with
    | some x => if dotall || x != 10 then [(i + 1, caps)] else []
    | none => []
  | .set neg items ic, i, caps =>
    match s[i]? with
    | some x => if setHas env neg items ic x then [(i + 1, caps)] else []
    | none => []
  | .seq rs, i, caps => runsSeq env s rs i caps
  | .alt rs, i, caps => runsAlt env s rs i caps
  -- the last assignment to a group wins and the earlier span is dropped, so the captures hold at
  -- most one entry per group, which `capSpan` reads
  | .group idx r, i, caps =>
    (runs env s r i caps).map fun (j, c) => (j, (idx, i, j) :: c.filter (fun e => e.1 != idx))
  -- fuel: at most `mn` iterations that do not advance, at most `s.length - i` that do, the call
  -- that stops, and one to spare
  | .rep mn mx greedy r, i, caps =>
    iter (fun p c => runs env s r p c) mn mx greedy (s.length - i + mn + 2) 0 i caps
  | .bos, i, caps => if i == 0 then [(i, caps)] else []
  | .eol, i, caps =>
    if i == s.length || (i + 1 == s.length && s[i]? == some 10) then [(i, caps)] else []
  | .eos, i, caps => if i == s.length then [(i, caps)] else []
  -- a look-around hands on the captures it was given: groups inside it leave no trace (sre keeps
  -- those of a successful look-ahead; no generated expression has a group inside a look-around)
  | .look true neg r, i, caps =>
    let ok := !(runs env s r i caps).isEmpty
    if ok != neg then [(i, caps)] else []
  | .look false neg r, i, caps =>
    match width r with
    | some w =>
      let ok := w ≤ i && (runs env s r (i - w) caps).any (fun (j, _) => j == i)
      if ok != neg then [(i, caps)] else []
    | none => []
def runsSeq (env : CharEnv) (s : Str) : List Rx → Nat → Caps → List (Nat × Caps)
  | [], i, caps => [(i, caps)]
  | r :: rs, i, caps => (runs env s r i caps).flatMap fun (j, c) => runsSeq env s rs j c
def runsAlt (env : CharEnv) (s : Str) : List Rx → Nat → Caps → List (Nat × Caps)
  | [], _, _ => []
  | r :: rs, i, caps => runs env s r i caps ++ runsAlt env s rs i caps
end

/-- `pattern.match(s, i)`: end position and captures of the first success. -/
def matchAt (env : CharEnv) (r : Rx) (s : Str) (i : Nat) : Option (Nat × Caps) :=
  (runs env s r i []).head?

/-- `pattern.match(s) is not None`. -/
def isMatch (env : CharEnv) (r : Rx) (s : Str) : Bool := (matchAt env r s 0).isSome

/-- `m.group(idx)` as a span. -/
def capSpan (caps : Caps) (idx : Nat) : Option (Nat × Nat) :=
  (caps.find? (fun e => e.1 == idx)).map (·.2)

/-- `pattern.search(s, i)`: leftmost start at or after `i`.  (`search` gives the fuel
    `s.length + 2 - i`: one per start `i … s.length`, and one to spare.) -/
def searchFrom (env : CharEnv) (r : Rx) (s : Str) : Nat → Nat → Option (Nat × Nat × Caps)
  | 0, _ => none
  | fuel + 1, i =>
    match matchAt env r s i with
    | some (j, c) => some (i, j, c)
    | none => if i < s.length then searchFrom env r s fuel (i + 1) else none

def search (env : CharEnv) (r : Rx) (s : Str) (i : Nat := 0) : Option (Nat × Nat × Caps) :=
  searchFrom env r s (s.length + 2 - i) i

end Rx
end SoupVerif

namespace SoupVerif
namespace Rx
/-- `pattern.sub(repl, s)` for a constant replacement (no empty-match subtleties are needed by
    the regexes this is used with; an empty match emits `repl` and moves one character on). -/
def subAll (env : CharEnv) (r : Rx) (repl : Str) (s : Str) : Str :=
  go (s.length + 1) 0
where
  go : Nat → Nat → Str
    | 0, _ => []
    | fuel + 1, i =>
      if i > s.length then [] else
      match matchAt env r s i with
      | some (j, _) =>
        if j > i then repl ++ go fuel j
        else repl ++ (match s[i]? with | some ch => ch :: go fuel (i + 1) | none => [])
      | none => match s[i]? with
        | some ch => ch :: go fuel (i + 1)
        | none => []
end Rx
end SoupVerif
