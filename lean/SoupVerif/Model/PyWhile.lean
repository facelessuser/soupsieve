/-
  The one control primitive the source-translated pieces of `CSSMatch.match_nth` (`Generated/PyNth.lean`,
  gen/gen_py_nth.py) are built on: `while cond: body` with `break`, as a fuel-bounded iterator.

  `body st = (st', true)`  — the body executed `break` in state `st'`;
  `body st = (st', false)` — the body ran to its end (state `st'`), the test is evaluated again.
  `some st` = the loop ended in `st`; `none` = the fuel did not suffice.  The test is evaluated before the fuel
  is looked at, so a loop that has ended is reported as ended whatever the fuel.
  Mathlib-free, executable.
-/
namespace SoupVerif
namespace PyWhile

def whileBrk {σ : Type} (cond : σ → Bool) (body : σ → σ × Bool) : Nat → σ → Option σ
  | 0, st => if cond st then none else some st
  | fuel + 1, st =>
    if cond st then
      match body st with
      | (st', true) => some st'
      | (st', false) => whileBrk cond body fuel st'
    else some st

/-- More fuel does not change a result. -/
theorem whileBrk_mono {σ : Type} (cond : σ → Bool) (body : σ → σ × Bool) :
    ∀ (fuel : Nat) (st r : σ), whileBrk cond body fuel st = some r →
      ∀ k, whileBrk cond body (fuel + k) st = some r := by
  intro fuel st
  fun_induction whileBrk cond body fuel st with
  | case1 st hc => intro r h; cases h
  | case2 st hc =>
    intro r h k
    cases k <;> simpa [whileBrk, hc] using h
  | case3 fuel st hc st' hb =>
    intro r h k
    rw [Nat.succ_add, whileBrk, if_pos hc, hb]; exact h
  | case4 fuel st hc st' hb ih =>
    intro r h k
    rw [Nat.succ_add, whileBrk, if_pos hc, hb]; exact ih r h k
  | case5 fuel st hc =>
    intro r h k
    rw [Nat.succ_add, whileBrk, if_neg hc]; exact h

end PyWhile
end SoupVerif
