/-
  Model of `soupsieve.css_parser.escape`, `css_unescape(content, string=False)` and of the token
  grammar `IDENTIFIER` (with its sub-patterns `NEWLINE`, `WS`, `CSS_ESCAPES`), for property C10.

  Strings are lists of code points (`Str = List Nat`); any `Nat` is accepted as a code point, so
  lone surrogates and astral characters are ordinary elements.

  Python text modelled (css_parser.py):

    NEWLINE     = (?:\r\n|(?!\r\n)[\n\f\r])
    WS          = (?:[ \t]|NEWLINE)
    CSS_ESCAPES = (?:\\(?:(?:[a-f0-9]{1,5}(?![a-f0-9])|[a-f0-9]{6})(?:WS|(?![ \t\r\n\f]))
                        |[^\r\n\fa-f0-9]|\Z))
    IDENTIFIER  = (?:(?:-?(?:[^\x00-\x2f\x30-\x40\x5B-\x5E\x60\x7B-\x7f]|CSS_ESCAPES)|--)
                     (?:[^\x00-\x2c\x2e\x2f\x3A-\x40\x5B-\x5E\x60\x7B-\x7f]|CSS_ESCAPES)*)
    RE_CSS_ESC  = (?:(\\[a-f0-9]{1,6}WSC?)|(\\[^\r\n\f])|(\\\Z))        flags re.I

  The token patterns are compiled with `re.I | re.X | re.U`.  Measured on every code point
  0..0x10FFFF with CPython's `re`: under these flags `[a-f0-9]` is exactly `[0-9A-Fa-f]`,
  `[^\r\n\fa-f0-9]` is exactly the complement of `[\r\n\f0-9A-Fa-f]`, and the two negated
  classes of `IDENTIFIER` contain no cased character, so they are exact code-point classes.

  Why a deterministic scanner is a faithful reading of the backtracking engine:
    * a hex escape has exactly one way to match: the digit run is maximal up to 6 (`{1,5}` needs a
      non-hex look-ahead, so with a run of `k ≤ 5` digits only `k` is accepted, and with `k ≥ 6`
      only `{6}`), then one whitespace unit is taken if a whitespace character follows (`\r\n` only
      as one unit because of `(?!\r\n)`), and nothing otherwise;
    * the three alternatives after the backslash are mutually exclusive on the next character;
    * identifier characters and `\` are disjoint, so each iteration of the `*` loop is forced, the
      loop body never matches the empty string, and the loop (which cannot fail) is never
      backtracked into;
    * `\Z` holds at the end of the subject only; since the scanner works on a suffix of the subject
      this is "the suffix is `[]`".

  Everything here is structurally recursive (no fuel, no well-founded recursion) except
  `hexDigits`, whose fuel `n + 1` is never exhausted (`EscapeLemmas.hexDigits_eq`).
-/
import SoupVerif.Model.Py
namespace SoupVerif
namespace Escape

/-! ### Hexadecimal -/

/-- The lower-case hex digit for `d < 16` (`'0'..'9'`, `'a'..'f'`). -/
def hexDigit (d : Nat) : Nat := if d < 10 then 48 + d else 87 + d

/-- Fuelled worker for `hexDigits`. -/
def hexDigitsF : Nat → Nat → Str
  | 0, _ => []
  | f + 1, n => if n < 16 then [hexDigit n] else hexDigitsF f (n / 16) ++ [hexDigit (n % 16)]

/-- `f'{n:x}'`: lower-case hexadecimal, no padding, `"0"` for zero. -/
def hexDigits (n : Nat) : Str := hexDigitsF (n + 1) n

/-- `[a-f0-9]` under `re.I`: `[0-9A-Fa-f]`. -/
def isHex (c : Nat) : Bool := (48 ≤ c && c ≤ 57) || (65 ≤ c && c ≤ 70) || (97 ≤ c && c ≤ 102)

/-- Value of one hex digit (meaningful only when `isHex c`). -/
def hexDigitVal (c : Nat) : Nat := if c ≤ 57 then c - 48 else if c ≤ 70 then c - 55 else c - 87

/-- `int(text, 16)` for a string of hex digits. -/
def hexVal (s : Str) : Nat := s.foldl (fun a c => a * 16 + hexDigitVal c) 0

/-! ### `escape` -/

/-- The piece `escape` appends for one character.  `lead` is the Python condition
    `index == 0 or (start_dash and index == 1)`. -/
def escapeChar (lead : Bool) (c : Nat) : Str :=
  if c == 0 then [0xFFFD]
  else if (1 ≤ c && c ≤ 0x1F) || c == 0x7F then 92 :: hexDigits c ++ [32]
  else if lead && (0x30 ≤ c && c ≤ 0x39) then 92 :: hexDigits c ++ [32]
  else if c == 0x2D || c == 0x5F || c ≥ 0x80 || (0x30 ≤ c && c ≤ 0x39) ||
          (0x41 ≤ c && c ≤ 0x5A) || (0x61 ≤ c && c ≤ 0x7A) then [c]
  else [92, c]

/-- The `for index, c in enumerate(ident)` loop, from index `i`. -/
def escapeGo (startDash : Bool) : Nat → Str → Str
  | _, [] => []
  | i, c :: cs => escapeChar (i == 0 || (startDash && i == 1)) c ++ escapeGo startDash (i + 1) cs

/-- `ident[0] == '-'` (with `length > 0`). -/
def startDash (s : Str) : Bool := s.head? == some 45

/-- `css_parser.escape`. -/
def escape (s : Str) : Str :=
  if s.length == 1 && startDash s then 92 :: s
  else escapeGo (startDash s) 0 s

/-- What the parser does to NUL before tokenising, and what `escape` does to NUL. -/
def nulToFFFD (s : Str) : Str := s.map fun c => if c == 0 then 0xFFFD else c

/-! ### The grammar `IDENTIFIER` -/

/-- `[^\x00-\x2f\x30-\x40\x5B-\x5E\x60\x7B-\x7f]`: `A-Z`, `_`, `a-z`, and everything from U+0080. -/
def identStartChar (c : Nat) : Bool :=
  (65 ≤ c && c ≤ 90) || c == 95 || (97 ≤ c && c ≤ 122) || 128 ≤ c

/-- `[^\x00-\x2c\x2e\x2f\x3A-\x40\x5B-\x5E\x60\x7B-\x7f]`: the above plus `-` and `0-9`. -/
def identContChar (c : Nat) : Bool :=
  c == 45 || (48 ≤ c && c ≤ 57) || (65 ≤ c && c ≤ 90) || c == 95 || (97 ≤ c && c ≤ 122) || 128 ≤ c

/-- Number of leading hex digits, at most `k` (`[a-f0-9]{1,k}` taken greedily). -/
def hexRun : Nat → Str → Nat
  | 0, _ => 0
  | _, [] => 0
  | k + 1, c :: cs => if isHex c then hexRun k cs + 1 else 0

/-- Length of the `WS` unit at the head: 2 for `\r\n`, 1 for a single `[ \t\r\n\f]`, 0 if none. -/
def wsLen (s : Str) : Nat :=
  match s with
  | [] => 0
  | c :: cs =>
    if c == 13 && cs.head? == some 10 then 2
    else if isCssWs c then 1
    else 0

/-- Length of the match of `CSS_ESCAPES` at the head of `s`, where `s` is a suffix of the
    subject (so `\Z` holds exactly when the text after the backslash is `[]`). -/
def escLen (s : Str) : Option Nat :=
  match s with
  | [] => none
  | b :: cs =>
    if b != 92 then none
    else match cs with
      | [] => some 1                                     -- `\` `\Z`
      | d :: ds =>
        if isHex d then
          let k := hexRun 6 cs
          some (1 + k + wsLen (cs.drop k))               -- `\` hex{1,6} WS?
        else if d == 10 || d == 13 || d == 12 then none   -- `\Z` holds only at the very end
        else some 2                                      -- `\` `[^\r\n\fa-f0-9]`

/-- `CSS_ESCAPES` at the head of `s`: `(matched text, rest)`. -/
def scanEsc (s : Str) : Option (Str × Str) :=
  (escLen s).map fun n => (s.take n, s.drop n)

/-- The loop `(?:[^...]|CSS_ESCAPES)*`, greedy.  `scanCont k s` first copies `k` characters
    unconditionally (the remainder of an escape whose length has already been determined) and
    then scans.  Returns `(matched text, rest)`. -/
def scanCont : Nat → Str → Str × Str
  | _, [] => ([], [])
  | k + 1, c :: cs => let r := scanCont k cs; (c :: r.1, r.2)
  | 0, c :: cs =>
    if identContChar c then
      let r := scanCont 0 cs; (c :: r.1, r.2)
    else
      match escLen (c :: cs) with
      | some n => let r := scanCont (n - 1) cs; (c :: r.1, r.2)
      | none => ([], c :: cs)

/-- `(?:[^...]|CSS_ESCAPES)` at the head: length of the match. -/
def startLen (s : Str) : Option Nat :=
  match s with
  | [] => none
  | c :: _ => if identStartChar c then some 1 else escLen s

/-- `(?:-?(?:[^...]|CSS_ESCAPES)|--)` at the head: length of the match.  With a leading `-` the
    engine first tries `-` followed by a start character or escape; if that fails, `-?` matching
    empty fails too (`-` is neither), and the second branch `--` is tried. -/
def headLen (s : Str) : Option Nat :=
  match s with
  | [] => none
  | c :: cs =>
    if c == 45 then
      match startLen cs with
      | some n => some (n + 1)
      | none => if cs.head? == some 45 then some 2 else none
    else startLen s

/-- `re.compile(IDENTIFIER, re.I|re.X|re.U).match(s)`: `some (m.group(0), s[m.end():])`, or
    `none` when there is no match.  `s` must extend to the end of the subject. -/
def scanIdent (s : Str) : Option (Str × Str) :=
  (headLen s).map fun n => scanCont n s

/-- `r` begins with something the `*` loop of `IDENTIFIER` might consume: an identifier
    character, or a backslash (the start of a possible escape).  Text that does not satisfy this
    cannot extend an identifier placed in front of it. -/
def continuesIdent (r : Str) : Bool :=
  match r with
  | [] => false
  | c :: _ => identContChar c || c == 92

/-- The id / class tokens `\#IDENTIFIER`, `\.IDENTIFIER` (`p` = 35 or 46): `(matched, rest)`. -/
def scanPrefixed (p : Nat) (s : Str) : Option (Str × Str) :=
  match s with
  | [] => none
  | c :: cs => if c == p then (scanIdent cs).map fun r => (c :: r.1, r.2) else none

/-! ### `css_unescape(content, string=False)` -/

/-- `if codepoint == 0 or codepoint > 0x10FFFF: codepoint = 0xFFFD`. -/
def fixCp (n : Nat) : Nat := if n == 0 || n > 0x10FFFF then 0xFFFD else n

/-- `RE_CSS_ESC.sub(replace, content)`, scanning left to right; `cssUnescapeAux k s` first drops
    `k` characters (the remainder of a match already replaced).

    Simplification: the `COMMENTS` alternative of `WSC?` after a hex escape is not modelled
    (only the `WS` alternative is).  See `cssUnescapeRaises` for what Python does there. -/
def cssUnescapeAux : Nat → Str → Str
  | _, [] => []
  | k + 1, _ :: cs => cssUnescapeAux k cs
  | 0, c :: cs =>
    if c != 92 then c :: cssUnescapeAux 0 cs
    else match cs with
      | [] => [0xFFFD]                                                    -- group 3
      | d :: ds =>
        if isHex d then                                                   -- group 1
          let k := hexRun 6 cs
          fixCp (hexVal (cs.take k)) :: cssUnescapeAux (k + wsLen (cs.drop k)) cs
        else if d == 10 || d == 13 || d == 12 then c :: cssUnescapeAux 0 cs   -- no match here
        else d :: cssUnescapeAux 1 cs                                     -- group 2

/-- `css_unescape(content)` (`string=False`), `COMMENTS` after a hex escape not modelled. -/
def cssUnescape (s : Str) : Str := cssUnescapeAux 0 s

/-- `true` when `s` contains `*/`. -/
def hasCommentClose : Str → Bool
  | [] => false
  | c :: cs => (c == 42 && cs.head? == some 47) || hasCommentClose cs

/-- `COMMENTS` matches at the head of `s`: `/*` followed somewhere later by `*/`. -/
def commentAt (s : Str) : Bool :=
  match s with
  | a :: b :: t => a == 47 && b == 42 && hasCommentClose t
  | _ => false

/-- `true` exactly when Python's `css_unescape(s)` raises `ValueError`: some hex escape found by
    the left-to-right scan is followed directly (no whitespace) by a complete `/*...*/` comment;
    `WSC?` then swallows the comment into group 1 and `int(group1[1:], 16)` fails.
    Wherever this is `false`, `cssUnescape` is the full model. -/
def cssUnescapeRaisesAux : Nat → Str → Bool
  | _, [] => false
  | k + 1, _ :: cs => cssUnescapeRaisesAux k cs
  | 0, c :: cs =>
    if c != 92 then cssUnescapeRaisesAux 0 cs
    else match cs with
      | [] => false
      | d :: _ =>
        if isHex d then
          let k := hexRun 6 cs
          let w := wsLen (cs.drop k)
          (w == 0 && commentAt (cs.drop k)) || cssUnescapeRaisesAux (k + w) cs
        else if d == 10 || d == 13 || d == 12 then cssUnescapeRaisesAux 0 cs
        else cssUnescapeRaisesAux 1 cs

def cssUnescapeRaises (s : Str) : Bool := cssUnescapeRaisesAux 0 s

end Escape
end SoupVerif
