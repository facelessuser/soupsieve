/-
  The loop of `parse_selectors` as a one-step function (definitions only, no Mathlib):

  * `Step`, `stepOf`, `runStep`: one iteration of the `while True` loop of `parse_selectors`
    with the two recursive calls (`parse_selectors` for a nested list / a custom selector, and the
    next iteration) made explicit.  `Lemmas/ParserProgress/Loop.lean` proves that the model's
    `parseLoop (fuel+1)` IS `runStep … (stepOf …)` (`parseLoop_succ`).
  * `initLS`, `cleanupLS`, `finalSels`, `finishSel`: the parts of `parse_selectors` before and
    after the loop (`parseSelectors_succ`).

  These definitions used to live in `Lemmas/ParserProgress/Step.lean`; they are here so that
  executable code (the cost twin of `Spec/ParseCost.lean`, the driver) can use them.
-/
import SoupVerif.Model.Parser
namespace SoupVerif
namespace ParserProgress
open Rx SoupVerif.Parser

abbrev SelRes := SelList × Nat × Custom

/-- One iteration of the `parse_selectors` loop with the recursive calls made explicit. -/
inductive Step where
  | done (r : M LS)
  | cont (s : LS)
  | nest (pat : Str) (pos idx fl : Nat) (c : Custom) (k : SelRes → LS)

def runStep (recSel : Str → Nat → Nat → Nat → Custom → M SelRes) (recLoop : LS → M LS) : Step → M LS
  | .done r => r
  | .cont s => recLoop s
  | .nest pat pos idx fl c k =>
    match recSel pat pos idx fl c with
    | .error e => .error e
    | .ok r => recLoop (k r)

def stepOf (env : CharEnv) (L : Lexicon) (B : Builtins) (pattern : Str) (flags : Nat) (s : LS) : Step :=
    let P : PEnv := ⟨env, L, B, pattern⟩
    let has (f : Nat) : Bool := (flags &&& f) != 0
    match nextToken P s.pos with
    | .error e => .done (.error e)
    | .ok none => .done (.ok s)
    | .ok (some t) =>
      let s := { s with pos := t.stop }
      let continue_ (s : LS) : Step := .cont { s with index := t.stop }
      let key := t.name
      if key == "at_rule" then .done (.error (P.err .atRule t.start))
      else if key == "amp" then continue_ { s with sel := s.sel.orFlags SEL_SCOPE, hasSelector := true }
      else if key == "pseudo_class_custom" then
        let pseudo := lower (cssUnescape env L ((t.group P "name").getD []))
        match s.custom.get? pseudo with
        | none => .done (.error (P.err .undefinedCustom t.stop))
        | some (.compiled l) => continue_ { s with sel := s.sel.addSub l, hasSelector := true }
        | some (.src text) =>
          let custom' := s.custom.erase pseudo
          let pat2 := text.map (fun c => if c == 0 then 0xFFFD else c)
          let P2 : PEnv := ⟨env, L, B, pat2⟩
          .nest pat2 (startIndex P2) 0 FLG_PSEUDO custom' fun (l, _, custom'') =>
            { s with sel := s.sel.addSub l, hasSelector := true, custom := custom''.set pseudo (.compiled l), index := t.stop }
      else if key == "pseudo_class" then
        let pseudo := lower (cssUnescape env L ((t.group P "name").getD []))
        let complex := match t.group P "open" with
          | some o => !o.isEmpty
          | none => false
        if complex && inList L.pseudoComplex pseudo then
          let fl := FLG_PSEUDO ||| FLG_OPEN |||
            (if pseudo == ":not".toStr then FLG_NOT
             else if pseudo == ":has".toStr then FLG_RELATIVE
             else if pseudo == ":where".toStr || pseudo == ":is".toStr then FLG_FORGIVE else 0)
          .nest pattern t.stop t.stop fl s.custom fun (l, pos', custom') =>
            { s with sel := s.sel.addSub l, hasSelector := true, pos := pos', custom := custom', index := t.stop }
        else if !complex && inList L.pseudoSimple pseudo then
          continue_ { s with sel := applySimplePseudo P pseudo s.sel, hasSelector := true }
        else if complex && inList L.pseudoComplexNoMatch pseudo then
          .nest pattern t.stop t.stop (FLG_PSEUDO ||| FLG_OPEN) s.custom fun (_, pos', custom') =>
            { s with sel := s.sel.setNoMatch, hasSelector := true, pos := pos', custom := custom', index := t.stop }
        else if !complex && inList L.pseudoSimpleNoMatch pseudo then
          continue_ { s with sel := s.sel.setNoMatch, hasSelector := true }
        else if inList L.pseudoSupported pseudo then .done (.error (P.err .invalidPseudoSyntax t.start))
        else .done (.error (P.err .unknownPseudo t.start))
      else if key == "pseudo_element" then .done (.error (P.err .pseudoElement t.start))
      else if key == "pseudo_contains" then
        let pseudo := lower (cssUnescape env L ((t.group P "name").getD []))
        let own := pseudo == ":-soup-contains-own".toStr
        let vals := parseValues P ((t.group P "values").getD [])
        continue_ { s with sel := s.sel.addContains ⟨vals, own⟩, hasSelector := true }
      else if key == "pseudo_nth_type" || key == "pseudo_nth_child" then
        let isChild := match t.group P "pseudo_nth_child" with
          | some g => !g.isEmpty
          | none => false
        let name := lower (cssUnescape env L ((t.group P "name").getD []))
        let content := lower ((t.group P (if isChild then "nth_child" else "nth_type")).getD [])
        let (a, var, b) := parseAnB P content
        if isChild then
          let ofPresent := match t.group P "of" with
            | some g => !g.isEmpty
            | none => false
          let k : SelRes → LS := fun (nthSel, pos', custom') =>
            let sel :=
              if name == ":nth-child".toStr then s.sel.addNth [nthOf a var b false false nthSel]
              else if name == ":nth-last-child".toStr then s.sel.addNth [nthOf a var b false true nthSel]
              else s.sel
            { s with sel := sel, hasSelector := true, pos := pos', custom := custom', index := t.stop }
          if ofPresent then .nest pattern t.stop t.stop (FLG_PSEUDO ||| FLG_OPEN) s.custom k
          else .cont (k (B.nthOfSDefault, s.pos, s.custom))
        else
          let e := SelList.mk [] false false
          let sel :=
            if name == ":nth-of-type".toStr then s.sel.addNth [nthOf a var b true false e]
            else if name == ":nth-last-of-type".toStr then s.sel.addNth [nthOf a var b true true e]
            else s.sel
          continue_ { s with sel := sel, hasSelector := true }
      else if key == "pseudo_lang" then
        let vals := parseValues P ((t.group P "values").getD [])
        continue_ { s with sel := s.sel.addLang ⟨vals⟩, hasSelector := true }
      else if key == "pseudo_dir" then
        let v := if lower ((t.group P "dir").getD []) == "ltr".toStr then SEL_DIR_LTR else SEL_DIR_RTL
        continue_ { s with sel := s.sel.addSub (.mk [(SelB.empty.setFlags v).freeze] false true), hasSelector := true }
      else if key == "pseudo_close" then
        if !s.hasSelector && !has FLG_FORGIVE then .done (.error (P.err .expectedSelector t.start))
        else
          let s := if !s.hasSelector then { s with sel := s.sel.setNoMatch } else s
          if has FLG_OPEN then .done (.ok { s with closed := true })
          else .done (.error (P.err .unmatchedClose t.start))
      else if key == "combine" then
        let r := if has FLG_RELATIVE then parseHasCombinator P t s s.index
                 else parseCombinator P t s (has FLG_PSEUDO) (has FLG_FORGIVE) s.index
        match r with
        | .error e => .done (.error e)
        | .ok s' => continue_ s'
      else if key == "attribute" then
        continue_ { s with sel := parseAttribute P t s.sel, hasSelector := true }
      else if key == "tag" then
        if s.hasSelector then .done (.error (P.err .tagNotAtStart t.start))
        else
          let pfx : Option Str := match t.group P "tag_ns" with
            | some n => if n.isEmpty then none else some (cssUnescape env L (n.take (n.length - 1)))
            | none => none
          let name := cssUnescape env L ((t.group P "tag_name").getD [])
          continue_ { s with sel := s.sel.setTag ⟨name, pfx⟩, hasSelector := true }
      else if key == "class" || key == "id" then
        let text := slice pattern t.start t.stop
        let v := cssUnescape env L (text.drop 1)
        let sel := if text.head? == some 46 then s.sel.addClass v else s.sel.addId v
        continue_ { s with sel := sel, hasSelector := true }
      else continue_ s

/-- "Cleanup completed selector piece" at the end of `parse_selectors`. -/
def cleanupLS (flags : Nat) (s : LS) : LS :=
  let has (f : Nat) : Bool := (flags &&& f) != 0
  if s.hasSelector then
    let sel := if s.sel.tag.isNone && !has FLG_PSEUDO then s.sel.setTag ⟨[42], none⟩ else s.sel
    if has FLG_RELATIVE then
      { s with selectors := modifyLast s.selectors (·.addRelations [sel.setRelType s.relType]) }
    else
      { s with selectors := s.selectors ++ [sel.addRelations s.relations], relations := [] }
  else if has FLG_FORGIVE && (s.selectors.isEmpty || s.relations.isEmpty) then
    { s with selectors := s.selectors ++ [s.sel.setNoMatch], relations := [], hasSelector := true }
  else s

/-- The flag post-processing of the last selector. -/
def finalSels (flags : Nat) (sels : List SelB) : List SelB :=
  let has (f : Nat) : Bool := (flags &&& f) != 0
  let setLast (f : Nat) (sels : List SelB) : List SelB := modifyLast sels (·.setFlags f)
  let sels := if has FLG_DEFAULT then setLast SEL_DEFAULT sels else sels
  let sels := if has FLG_INDETERMINATE then setLast SEL_INDETERMINATE sels else sels
  let sels := if has FLG_IN_RANGE then setLast SEL_IN_RANGE sels else sels
  let sels := if has FLG_OUT_OF_RANGE then setLast SEL_OUT_OF_RANGE sels else sels
  let sels := if has FLG_PLACEHOLDER_SHOWN then setLast SEL_PLACEHOLDER_SHOWN sels else sels
  sels

/-- The part of `parse_selectors` after the loop. -/
def finishSel (env : CharEnv) (L : Lexicon) (B : Builtins) (pattern : Str) (flags : Nat) (s : LS) : M SelRes :=
  let has (f : Nat) : Bool := (flags &&& f) != 0
  let P : PEnv := ⟨env, L, B, pattern⟩
  if has FLG_OPEN && !s.closed then .error (P.err .unclosedPseudo s.index)
  else
    let s' := cleanupLS flags s
    if !s'.hasSelector then .error (P.err .expectedSelector s'.index)
    else .ok (.mk ((finalSels flags s'.selectors).map SelB.freeze) (has FLG_NOT) s'.isHtml, s'.pos, s'.custom)

def initLS (pos index flags : Nat) (custom : Custom) : LS :=
  { selectors := if (flags &&& FLG_RELATIVE) != 0 then [SelB.empty] else [], isHtml := (flags &&& FLG_HTML) != 0,
    index := index, pos := pos, custom := custom }


end ParserProgress
end SoupVerif
