/-
  Fixed (hand-written) frames for `Generated/PyStrings.lean`, the Lean translation of three small pure
  string functions of the source made by `gen/gen_py_strings.py`:

    css_parser.escape          per-character if/elif chain  →  `Gen.PyStrings.escapeStep`
    util.lower                 per-character expression     →  `Gen.PyStrings.lowerStep`
    css_parser.css_unescape's  replace(m)                   →  `Gen.PyStrings.replace`

  What is NOT translated but fixed here is only the loop skeleton
      acc = [];  for [index,] c in [enumerate](s): … acc.append(<piece>) …;  return ''.join(acc)
  (`escapeLoop`, `charLoop`) and the vocabulary the translated bodies speak (`EscKind`, `Groups`).
  The translator checks that the Python loop has exactly this skeleton before it uses these frames
  and raises otherwise.
-/
import SoupVerif.Model.Escape
import SoupVerif.Model.Parser
namespace SoupVerif
namespace PyStrings

/-! ### `escape` -/

/-- The four things a branch of `escape`'s per-character chain may append:
      `'\ufffd'`               `.replacement`
      `f'\\{codepoint:x} '`     `.hex`        backslash, lower-case hex of the code point, one space
      `c`                       `.self`
      `f'\\{c}'`                `.backslash`  backslash, the character -/
inductive EscKind where
  | replacement | hex | self | backslash
  deriving DecidableEq, Repr

/-- The text appended for a character with code point `cp` by a branch of kind `k`. -/
def EscKind.emit (k : EscKind) (cp : Nat) : Str :=
  match k with
  | .replacement => [0xFFFD]
  | .hex => 92 :: Escape.hexDigits cp ++ [32]
  | .self => [cp]
  | .backslash => [92, cp]

/-- `for index, c in enumerate(ident)[from i]: string.append(<piece chosen by step index ord(c)>)`
    followed by `''.join(string)`. -/
def escapeLoopFrom (step : Nat → Nat → EscKind) : Nat → Str → Str
  | _, [] => []
  | i, c :: cs => (step i c).emit c ++ escapeLoopFrom step (i + 1) cs

/-- The whole loop: `enumerate` starts at 0. -/
def escapeLoop (step : Nat → Nat → EscKind) (s : Str) : Str := escapeLoopFrom step 0 s

/-! ### `lower` -/

/-- `acc = []; for c in s: acc.append(<the one character f c>); return ''.join(acc)`. -/
def charLoop (f : Nat → Nat) : Str → Str
  | [] => []
  | c :: cs => f c :: charLoop f cs

/-! ### `replace(m)` -/

/-- What `replace(m)` can see of a match object: `m.group(k)` for each `k`; `none` is Python's `None`
    (the group did not take part in the match). -/
abbrev Groups := Nat → Option Str

/-- `if m.group(k):` — neither `None` nor the empty string. -/
def truthy : Option Str → Bool
  | some (_ :: _) => true
  | _ => false

/-- The text of a group that is known to be truthy (the translator only emits it under that test). -/
def text (g : Option Str) : Str := g.getD []

/-- `int(s, 16)`: the value of the leading hex digits of `s` (`Parser.hexPrefixVal`, the function the parser model
    uses).  Python also accepts surrounding white space and raises `ValueError` on any other text after the digits;
    for `css_unescape` that corner is `Escape.cssUnescapeRaises`. -/
def intHex (s : Str) : Nat := Parser.hexPrefixVal s

/-- The match object the regex-engine model hands to the replacement function: `m.group(k)` is the slice of the
    subject between the recorded span of group `k`. -/
def groupsOf (content : Str) (caps : Caps) : Groups :=
  fun k => (Rx.capSpan caps k).map fun ab => Parser.slice content ab.1 ab.2

end PyStrings
end SoupVerif
