/-
  The token dispatch of `CSSParser.parse_selectors` as DATA (definitions only, no Mathlib).

  * `Action`: what one branch of the `if key == … / elif …` chain of the `while True:` loop does.  The
    translator `gen/gen_py_parsedisp.py` reads the chain from the source text of css_parser.py on
    every run and emits it as `Gen.PyParseDisp.dispatch : List (List String × Action)`
    (`Generated/PyParseDisp.lean`).
  * `modelAction key`: the action the hand-written step function `ParserProgress.stepOf`
    (`Model/ParserStep.lean`, = one iteration of `Parser.parseLoop`) performs for the token `key`,
    read off its `if key == …` chain; `none` = no branch (the loop just moves `index` on).
  * `runAction`: the meaning of an action in the model: the loop-state transformer / raise / nested
    call the model performs.  A handler call is interpreted by NAME and SIGNATURE: the model
    counterpart of `self.parse_x(sel, m, has_selector, …)` is run only when the extra arguments
    and the assigned results are the ones the model counterpart assumes; anything else is `stuck`
    (an error kind no Python run can produce).
    `Lemmas/ParserProgress/Dispatch.lean` proves `stepOf … = runAction … (modelAction tok.name)`
    (`stepOf_eq_runAction`), `Properties/C06GenDispatch.lean` `actionOf Gen.PyParseDisp.dispatch key = modelAction key`
    for every string `key` (`dispatch_agrees`).
  * `switchOf`, `applyFinal`: the meaning of the generated prologue / epilogue flag tables.

  Names of locals (`has_selector`, `is_html`, `index` …) are the canonical ones of the translator
  (locals are alpha-normalised by binding order before translation, so a consistent renaming in the
  Python source does not change them).
-/
import SoupVerif.Model.ParserStep
namespace SoupVerif
namespace ParseDisp
open Rx SoupVerif.Parser SoupVerif.ParserProgress

/-- The position expressions the loop passes to a raise: `m.start(0)`, `m.end(0)`, `index`. -/
inductive Offset where
  | mStart | mEnd | index
  deriving DecidableEq, Repr, Inhabited

/-- `self.<name>(sel, m, has_selector, <extraArgs>…)` assigned to `<returns>…`. -/
abbrev Call := String × List String × List String

inductive Action where
  /-- `r… = self.name(sel, m, has_selector, a…)` -/
  | callHandler (name : String) (extraArgs : List String) (returns : List String)
  /-- `raise NotImplementedError(f"… {offset}")` -/
  | raiseNotImplemented (offset : Offset)
  /-- `sel.flags |= flag; has_selector = True` -/
  | setScope (flag : Nat)
  /-- `if not has_selector: (if not is_forgive: raise SelectorSyntaxError(…, expectedAt)); sel.no_match = True`
      `if is_open: closed = True; break  else: raise SelectorSyntaxError(…, unmatchedAt)` -/
  | pseudoClose (expectedAt unmatchedAt : Offset)
  /-- `if is_relative: <relative call> else: <ordinary call>` -/
  | combine (relative ordinary : Call)
  /-- `if has_selector: raise SelectorSyntaxError(…, guardAt)` then `<handler call>` -/
  | tagGuarded (guardAt : Offset) (handler : Call)
  deriving DecidableEq, Repr, Inhabited

/-- First branch of the chain whose key list contains `key` (Python's if / elif semantics). -/
def actionOf (table : List (List String × Action)) (key : String) : Option Action :=
  (table.find? (fun e => e.1.contains key)).map (·.2)

/-- All keys of a table, in order. -/
def keysOf (table : List (List String × Action)) : List String := table.flatMap (·.1)

/-- What `stepOf` does for token `key` (same order as its `if key == …` chain). -/
def modelAction (key : String) : Option Action :=
  if key == "at_rule" then some (.raiseNotImplemented .mStart)
  else if key == "amp" then some (.setScope SEL_SCOPE)
  else if key == "pseudo_class_custom" then some (.callHandler "parse_pseudo_class_custom" [] ["has_selector"])
  else if key == "pseudo_class" then
    some (.callHandler "parse_pseudo_class" ["iselector", "is_html"] ["has_selector", "is_html"])
  else if key == "pseudo_element" then some (.raiseNotImplemented .mStart)
  else if key == "pseudo_contains" then some (.callHandler "parse_pseudo_contains" [] ["has_selector"])
  else if key == "pseudo_nth_type" || key == "pseudo_nth_child" then
    some (.callHandler "parse_pseudo_nth" ["iselector"] ["has_selector"])
  else if key == "pseudo_lang" then some (.callHandler "parse_pseudo_lang" [] ["has_selector"])
  else if key == "pseudo_dir" then some (.callHandler "parse_pseudo_dir" [] ["has_selector"])
  else if key == "pseudo_close" then some (.pseudoClose .mStart .mStart)
  else if key == "combine" then
    some (.combine ("parse_has_combinator", ["selectors", "rel_type", "index"], ["has_selector", "sel", "rel_type"])
                   ("parse_combinator", ["selectors", "relations", "is_pseudo", "is_forgive", "index"], ["has_selector", "sel"]))
  else if key == "attribute" then some (.callHandler "parse_attribute_selector" [] ["has_selector"])
  else if key == "tag" then some (.tagGuarded .mStart ("parse_tag_pattern", [], ["has_selector"]))
  else if key == "class" || key == "id" then some (.callHandler "parse_class_id" [] ["has_selector"])
  else none

/-- The keys `modelAction` knows. -/
def modelKeys : List String :=
  ["at_rule", "amp", "pseudo_class_custom", "pseudo_class", "pseudo_element", "pseudo_contains", "pseudo_nth_type",
   "pseudo_nth_child", "pseudo_lang", "pseudo_dir", "pseudo_close", "combine", "attribute", "tag", "class", "id"]

def Offset.eval (o : Offset) (s : LS) (t : Token) : Nat :=
  match o with
  | .mStart => t.start
  | .mEnd => t.stop
  | .index => s.index

/-- A dispatch the model has no counterpart for. No Python run produces this kind. -/
def stuck (pattern : Str) : Step := .done (.error { kind := .pyBug "dispatch", pattern := pattern, offset := 0 })

/-- The model counterpart of `r… = self.name(sel, m, has_selector, a…)` followed by `index = m.end(0)`.
    `s` is the loop state after `key, m = next(iselector)` (`pos` already moved). -/
def runCall (env : CharEnv) (L : Lexicon) (B : Builtins) (pattern : Str) (s : LS) (t : Token) (c : Call) : Step :=
  let P : PEnv := ⟨env, L, B, pattern⟩
  let continue_ (s : LS) : Step := .cont { s with index := t.stop }
  if c == ("parse_pseudo_class_custom", [], ["has_selector"]) then
    let pseudo := lower (cssUnescape env L ((t.group P "name").getD []))
    match s.custom.get? pseudo with
    | none => .done (.error (P.err .undefinedCustom t.stop))
    | some (.compiled l) => continue_ { s with sel := s.sel.addSub l, hasSelector := true }
    | some (.src text) =>
      let custom' := s.custom.erase pseudo
      let pat2 := text.map (fun c => if c == 0 then 0xFFFD else c)
      let P2 : PEnv := ⟨env, L, B, pat2⟩
      .nest pat2 (startIndex P2) 0 FLG_PSEUDO custom' fun (l, _, custom'') =>
        { s with sel := s.sel.addSub l, hasSelector := true, custom := custom''.set pseudo (.compiled l), index := t.stop }
  else if c == ("parse_pseudo_class", ["iselector", "is_html"], ["has_selector", "is_html"]) then
    let pseudo := lower (cssUnescape env L ((t.group P "name").getD []))
    let complex := match t.group P "open" with
      | some o => !o.isEmpty
      | none => false
    if complex && inList L.pseudoComplex pseudo then
      let fl := FLG_PSEUDO ||| FLG_OPEN |||
        (if pseudo == ":not".toStr then FLG_NOT
         else if pseudo == ":has".toStr then FLG_RELATIVE
         else if pseudo == ":where".toStr || pseudo == ":is".toStr then FLG_FORGIVE else 0)
      .nest pattern t.stop t.stop fl s.custom fun (l, pos', custom') =>
        { s with sel := s.sel.addSub l, hasSelector := true, pos := pos', custom := custom', index := t.stop }
    else if !complex && inList L.pseudoSimple pseudo then
      continue_ { s with sel := applySimplePseudo P pseudo s.sel, hasSelector := true }
    else if complex && inList L.pseudoComplexNoMatch pseudo then
      .nest pattern t.stop t.stop (FLG_PSEUDO ||| FLG_OPEN) s.custom fun (_, pos', custom') =>
        { s with sel := s.sel.setNoMatch, hasSelector := true, pos := pos', custom := custom', index := t.stop }
    else if !complex && inList L.pseudoSimpleNoMatch pseudo then
      continue_ { s with sel := s.sel.setNoMatch, hasSelector := true }
    else if inList L.pseudoSupported pseudo then .done (.error (P.err .invalidPseudoSyntax t.start))
    else .done (.error (P.err .unknownPseudo t.start))
  else if c == ("parse_pseudo_contains", [], ["has_selector"]) then
    let pseudo := lower (cssUnescape env L ((t.group P "name").getD []))
    let own := pseudo == ":-soup-contains-own".toStr
    let vals := parseValues P ((t.group P "values").getD [])
    continue_ { s with sel := s.sel.addContains ⟨vals, own⟩, hasSelector := true }
  else if c == ("parse_pseudo_nth", ["iselector"], ["has_selector"]) then
    let isChild := match t.group P "pseudo_nth_child" with
      | some g => !g.isEmpty
      | none => false
    let name := lower (cssUnescape env L ((t.group P "name").getD []))
    let content := lower ((t.group P (if isChild then "nth_child" else "nth_type")).getD [])
    let (a, var, b) := parseAnB P content
    if isChild then
      let ofPresent := match t.group P "of" with
        | some g => !g.isEmpty
        | none => false
      let k : SelRes → LS := fun (nthSel, pos', custom') =>
        let sel :=
          if name == ":nth-child".toStr then s.sel.addNth [nthOf a var b false false nthSel]
          else if name == ":nth-last-child".toStr then s.sel.addNth [nthOf a var b false true nthSel]
          else s.sel
        { s with sel := sel, hasSelector := true, pos := pos', custom := custom', index := t.stop }
      if ofPresent then .nest pattern t.stop t.stop (FLG_PSEUDO ||| FLG_OPEN) s.custom k
      else .cont (k (B.nthOfSDefault, s.pos, s.custom))
    else
      let e := SelList.mk [] false false
      let sel :=
        if name == ":nth-of-type".toStr then s.sel.addNth [nthOf a var b true false e]
        else if name == ":nth-last-of-type".toStr then s.sel.addNth [nthOf a var b true true e]
        else s.sel
      continue_ { s with sel := sel, hasSelector := true }
  else if c == ("parse_pseudo_lang", [], ["has_selector"]) then
    let vals := parseValues P ((t.group P "values").getD [])
    continue_ { s with sel := s.sel.addLang ⟨vals⟩, hasSelector := true }
  else if c == ("parse_pseudo_dir", [], ["has_selector"]) then
    let v := if lower ((t.group P "dir").getD []) == "ltr".toStr then SEL_DIR_LTR else SEL_DIR_RTL
    continue_ { s with sel := s.sel.addSub (.mk [(SelB.empty.setFlags v).freeze] false true), hasSelector := true }
  else if c == ("parse_attribute_selector", [], ["has_selector"]) then
    continue_ { s with sel := parseAttribute P t s.sel, hasSelector := true }
  else if c == ("parse_tag_pattern", [], ["has_selector"]) then
    let pfx : Option Str := match t.group P "tag_ns" with
      | some n => if n.isEmpty then none else some (cssUnescape env L (n.take (n.length - 1)))
      | none => none
    let name := cssUnescape env L ((t.group P "tag_name").getD [])
    continue_ { s with sel := s.sel.setTag ⟨name, pfx⟩, hasSelector := true }
  else if c == ("parse_class_id", [], ["has_selector"]) then
    let text := slice pattern t.start t.stop
    let v := cssUnescape env L (text.drop 1)
    let sel := if text.head? == some 46 then s.sel.addClass v else s.sel.addId v
    continue_ { s with sel := sel, hasSelector := true }
  else stuck pattern

/-- The model counterparts of the two combinator handlers (they return the new loop state or raise). -/
def runCombinator (env : CharEnv) (L : Lexicon) (B : Builtins) (pattern : Str) (flags : Nat) (s : LS) (t : Token)
    (relative : Bool) (c : Call) : Option (M LS) :=
  let P : PEnv := ⟨env, L, B, pattern⟩
  let has (f : Nat) : Bool := (flags &&& f) != 0
  if relative && c == ("parse_has_combinator", ["selectors", "rel_type", "index"], ["has_selector", "sel", "rel_type"]) then
    some (parseHasCombinator P t s s.index)
  else if !relative && c == ("parse_combinator", ["selectors", "relations", "is_pseudo", "is_forgive", "index"], ["has_selector", "sel"]) then
    some (parseCombinator P t s (has FLG_PSEUDO) (has FLG_FORGIVE) s.index)
  else none

/-- `NotImplementedError` is raised for two token kinds; the kind records which. -/
def notImplementedKind (key : String) : ErrKind := if key == "at_rule" then .atRule else .pseudoElement

/-- The meaning of one branch of the chain, followed by `index = m.end(0)` unless the branch leaves the loop.
    `s` is the loop state after `key, m = next(iselector)`; `none` = no branch applies. -/
def runAction (env : CharEnv) (L : Lexicon) (B : Builtins) (pattern : Str) (flags : Nat) (s : LS) (t : Token) :
    Option Action → Step
  | none => .cont { s with index := t.stop }
  | some (.callHandler name extra rets) => runCall env L B pattern s t (name, extra, rets)
  | some (.raiseNotImplemented off) =>
    .done (.error ((⟨env, L, B, pattern⟩ : PEnv).err (notImplementedKind t.name) (off.eval s t)))
  | some (.setScope flag) => .cont { s with sel := s.sel.orFlags flag, hasSelector := true, index := t.stop }
  | some (.pseudoClose offExpected offUnmatched) =>
    let P : PEnv := ⟨env, L, B, pattern⟩
    let has (f : Nat) : Bool := (flags &&& f) != 0
    if !s.hasSelector && !has FLG_FORGIVE then .done (.error (P.err .expectedSelector (offExpected.eval s t)))
    else
      let s := if !s.hasSelector then { s with sel := s.sel.setNoMatch } else s
      if has FLG_OPEN then .done (.ok { s with closed := true })
      else .done (.error (P.err .unmatchedClose (offUnmatched.eval s t)))
  | some (.combine rel ord) =>
    let relative : Bool := (flags &&& FLG_RELATIVE) != 0
    match runCombinator env L B pattern flags s t relative (if relative then rel else ord) with
    | none => stuck pattern
    | some (.error e) => .done (.error e)
    | some (.ok s') => .cont { s' with index := t.stop }
  | some (.tagGuarded off call) =>
    if s.hasSelector then .done (.error ((⟨env, L, B, pattern⟩ : PEnv).err .tagNotAtStart (off.eval s t)))
    else runCall env L B pattern s t call

/-- `is_x = bool(flags & mask)` for the switch named `name` of a prologue table. -/
def switchOf (switches : List (String × Nat)) (flags : Nat) (name : String) : Bool :=
  match switches.lookup name with
  | some mask => (flags &&& mask) != 0
  | none => false

/-- `if is_x: selectors[-1].flags = v` for every row of an epilogue table, in order. -/
def applyFinal (final : List (String × Nat)) (sw : String → Bool) (sels : List SelB) : List SelB :=
  final.foldl (fun sels e => if sw e.1 then modifyLast sels (·.setFlags e.2) else sels) sels

/-! ## `parse_pseudo_class`: the dispatch on the pseudo-class NAME (the `PSEUDO_SIMPLE` branch) -/

/-- `ct.SelectorNth(a, var, b, of_type, last, ct.SelectorList())` -/
structure NthRec where
  a : Int
  var : Bool
  b : Int
  ofType : Bool
  last : Bool
  deriving DecidableEq, Repr, Inhabited

inductive PseudoAction where
  /-- `sel.flags |= ct.SEL_X` -/
  | orFlag (flag : Nat)
  /-- `sel.selectors.append(CSS_X)` — a module-level pre-compiled list, by name -/
  | appendBuiltin (name : String)
  /-- `sel.selectors.append(ct.SelectorList([_Selector(flags=ct.SEL_X).freeze()], isNot, isHtml))` -/
  | appendFlagList (flag : Nat) (isNot isHtml : Bool)
  /-- `sel.nth.append(r)` / `sel.nth.extend([r, …])` -/
  | appendNth (recs : List NthRec)
  deriving DecidableEq, Repr, Inhabited

/-- First branch of the name chain that applies to `name`. -/
def pseudoActionOf (table : List (List String × PseudoAction)) (name : Str) : Option PseudoAction :=
  (table.find? (fun e => e.1.any (fun k => name == k.toStr))).map (·.2)

def pseudoKeysOf (table : List (List String × PseudoAction)) : List String := table.flatMap (·.1)

/-- The module-level name of each pre-compiled list the model reads through `Builtins`
    (`Generated/Lexicon.lean` `builtinsRec` wires `link := CSS_LINK`, …). -/
def builtinOf (B : Builtins) (name : String) : Option SelList :=
  if name == "CSS_LINK" then some B.link
  else if name == "CSS_CHECKED" then some B.checked
  else if name == "CSS_DEFAULT" then some B.dflt
  else if name == "CSS_INDETERMINATE" then some B.indeterminate
  else if name == "CSS_DISABLED" then some B.disabled
  else if name == "CSS_ENABLED" then some B.enabled
  else if name == "CSS_REQUIRED" then some B.required
  else if name == "CSS_OPTIONAL" then some B.optional
  else if name == "CSS_READ_ONLY" then some B.readOnly
  else if name == "CSS_READ_WRITE" then some B.readWrite
  else if name == "CSS_IN_RANGE" then some B.inRange
  else if name == "CSS_OUT_OF_RANGE" then some B.outOfRange
  else if name == "CSS_PLACEHOLDER_SHOWN" then some B.placeholderShown
  else none

/-- The meaning of a branch of the name chain on the compound being built; `none` = no branch (nothing happens). -/
def runPseudo (B : Builtins) : Option PseudoAction → SelB → SelB
  | none, sel => sel
  | some (.orFlag f), sel => sel.orFlags f
  | some (.appendBuiltin n), sel =>
    match builtinOf B n with
    | some l => sel.addSub l
    | none => sel
  | some (.appendFlagList f isNot isHtml), sel => sel.addSub (.mk [(SelB.empty.setFlags f).freeze] isNot isHtml)
  | some (.appendNth recs), sel =>
    sel.addNth (recs.map (fun r => nthOf r.a r.var r.b r.ofType r.last (.mk [] false false)))

/-- What `Parser.applySimplePseudo` does for `pseudo` (same order as its `if is "…"` chain). -/
def modelPseudoAction (pseudo : Str) : Option PseudoAction :=
  let is (s : String) := pseudo == s.toStr
  if is ":root" then some (.orFlag SEL_ROOT)
  else if is ":defined" then some (.appendFlagList SEL_DEFINED false true)
  else if is ":scope" then some (.orFlag SEL_SCOPE)
  else if is ":empty" then some (.orFlag SEL_EMPTY)
  else if is ":link" || is ":any-link" then some (.appendBuiltin "CSS_LINK")
  else if is ":checked" then some (.appendBuiltin "CSS_CHECKED")
  else if is ":default" then some (.appendBuiltin "CSS_DEFAULT")
  else if is ":indeterminate" then some (.appendBuiltin "CSS_INDETERMINATE")
  else if is ":disabled" then some (.appendBuiltin "CSS_DISABLED")
  else if is ":enabled" then some (.appendBuiltin "CSS_ENABLED")
  else if is ":required" then some (.appendBuiltin "CSS_REQUIRED")
  else if is ":optional" then some (.appendBuiltin "CSS_OPTIONAL")
  else if is ":read-only" then some (.appendBuiltin "CSS_READ_ONLY")
  else if is ":read-write" then some (.appendBuiltin "CSS_READ_WRITE")
  else if is ":in-range" then some (.appendBuiltin "CSS_IN_RANGE")
  else if is ":out-of-range" then some (.appendBuiltin "CSS_OUT_OF_RANGE")
  else if is ":placeholder-shown" then some (.appendBuiltin "CSS_PLACEHOLDER_SHOWN")
  else if is ":first-child" then some (.appendNth [⟨1, false, 0, false, false⟩])
  else if is ":last-child" then some (.appendNth [⟨1, false, 0, false, true⟩])
  else if is ":first-of-type" then some (.appendNth [⟨1, false, 0, true, false⟩])
  else if is ":last-of-type" then some (.appendNth [⟨1, false, 0, true, true⟩])
  else if is ":only-child" then some (.appendNth [⟨1, false, 0, false, false⟩, ⟨1, false, 0, false, true⟩])
  else if is ":only-of-type" then some (.appendNth [⟨1, false, 0, true, false⟩, ⟨1, false, 0, true, true⟩])
  else none

/-- The names `modelPseudoAction` knows. -/
def modelPseudoKeys : List String :=
  [":root", ":defined", ":scope", ":empty", ":link", ":any-link", ":checked", ":default", ":indeterminate", ":disabled",
   ":enabled", ":required", ":optional", ":read-only", ":read-write", ":in-range", ":out-of-range", ":placeholder-shown",
   ":first-child", ":last-child", ":first-of-type", ":last-of-type", ":only-child", ":only-of-type"]

end ParseDisp
end SoupVerif
