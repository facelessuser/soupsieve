/-
  String literals in goals.  The kernel decodes a `String` literal character by character, so a goal that states a text
  as a literal is first rewritten to a `List Char` (`toStr_ofList`), then decided (`decide_lit`).
-/
import SoupVerif.Model.Py
namespace SoupVerif

/-- A string literal as the list of its code points.  The kernel evaluates `"…".toStr` by decoding the
    literal's UTF-8 bytes, character by character, which costs far more than the tests such literals occur
    in; `rw [toStr_ofList]` (which unifies a literal with `String.ofList _`) leaves a `List Char` literal
    for the kernel instead. -/
theorem toStr_ofList (l : List Char) : (String.ofList l).toStr = l.map Char.toNat := by
  simp [String.toStr]

/-- Kernel evaluation of a closed, decidable goal whose strings are written as literals. -/
macro "decide_lit" : tactic => `(tactic| ((repeat rw [toStr_ofList]); decide +kernel))

end SoupVerif
