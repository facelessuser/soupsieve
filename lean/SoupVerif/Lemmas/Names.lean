/-
  For properties C11 (case rules) and C12 (namespace selectors): the code points of `*`, the comparisons
  defined here (`caseEq`, `nameEq`, `localNameEq`: how the matcher compares names, following the document
  type), `List.find?` / `filter` congruence over `Pairwise₂`, the branch-by-branch normal forms of
  `matchAttributeName` (first designated attribute) and `matchAttributeValues` (every designated attribute), and the
  branches in one predicate: `C12Parse.designates` (over `C12.inNs`, `C12.inAnyNs`), with `mav_eq` and what `designates`
  reads of the selector's name and of an attribute (`desig_*`).
-/
import SoupVerif.Model.Api
import SoupVerif.Lemmas.Lower
import SoupVerif.Lemmas.List
namespace SoupVerif

theorem C11.str_beq_comm (a b : Str) : (a == b) = (b == a) := BEq.comm

namespace Names

@[simp] theorem star_toStr : ("*".toStr : Str) = [42] := by decide
theorem star_ne_nil : ("*".toStr : Str) ≠ [] := by decide

theorem lower_nil : lower [] = [] := rfl
theorem lower_cons (x : Nat) (s : Str) : lower (x :: s) = lowerCp x :: lower s := rfl

theorem lower_eq_nil (s : Str) : lower s = [] ↔ s = [] := SoupVerif.lower_eq_nil s

/-- ASCII-case-insensitive equality of two strings. -/
def caseEq (a b : Str) : Prop := lower a = lower b

instance (a b : Str) : Decidable (caseEq a b) := inferInstanceAs (Decidable (lower a = lower b))

theorem caseEq_equivalence : Equivalence caseEq :=
  ⟨fun _ => rfl, fun h => h.symm, fun h₁ h₂ => h₁.trans h₂⟩

theorem caseEq_lower (s : Str) : caseEq (lower s) s := lower_idem s

/-- How the matcher compares a selector-side name with a document-side name:
    exact in XML (incl. XHTML parsed as XML), ASCII-case-insensitive otherwise. -/
def nameEq (c : Ctx) (a b : Str) : Bool := if c.isXml then a == b else lower a == lower b

theorem nameEq_iff (c : Ctx) (a b : Str) :
    nameEq c a b = true ↔ (if c.isXml then a = b else lower a = lower b) := by
  unfold nameEq; split <;> simp

theorem nameEq_xml {c : Ctx} (h : c.isXml = true) (a b : Str) : nameEq c a b = (a == b) := by
  simp [nameEq, h]

theorem nameEq_html {c : Ctx} (h : c.isXml = false) (a b : Str) :
    nameEq c a b = (lower a == lower b) := by
  simp [nameEq, h]

/-- The local name of a `NamespacedAttribute` key equals `a` (false for a plain `str` key,
    whose `name` is `None`). -/
def localNameEq (c : Ctx) (a : Str) (x : Attr) : Bool :=
  match x.kname with
  | some nm => nameEq c a nm
  | none => false

theorem localNameEq_iff (c : Ctx) (a : Str) (x : Attr) :
    localNameEq c a x = true ↔ ∃ nm, x.kname = some nm ∧ nameEq c a nm = true := by
  unfold localNameEq; cases x.kname <;> simp

/-- Two lists of the same length whose elements are pairwise related (core Lean has no
    `List.Forall₂`). -/
inductive Pairwise₂ {α} (R : α → α → Prop) : List α → List α → Prop
  | nil : Pairwise₂ R [] []
  | cons {a b l₁ l₂} : R a b → Pairwise₂ R l₁ l₂ → Pairwise₂ R (a :: l₁) (b :: l₂)

theorem filter_map_pairwise₂ {α β} {R : α → α → Prop} {p q : α → Bool} {f : α → β}
    (hp : ∀ x y, R x y → p x = q y) (hf : ∀ x y, R x y → f x = f y) :
    ∀ {l₁ l₂ : List α}, Pairwise₂ R l₁ l₂ → (l₁.filter p).map f = (l₂.filter q).map f := by
  intro l₁ l₂ h
  induction h with
  | nil => rfl
  | @cons a b _ _ hab _ ih =>
    simp only [List.filter_cons, hp a b hab]
    cases q b
    · exact ih
    · simp [hf a b hab, ih]

theorem find?_map_pairwise₂ {α β} {R : α → α → Prop} {p q : α → Bool} {f : α → β}
    (hp : ∀ x y, R x y → p x = q y) (hf : ∀ x y, R x y → f x = f y)
    {l₁ l₂ : List α} (h : Pairwise₂ R l₁ l₂) : (l₁.find? p).map f = (l₂.find? q).map f := by
  rw [← List.head?_filter, ← List.head?_filter, ← List.head?_map, ← List.head?_map,
    filter_map_pairwise₂ hp hf h]

theorem supportsNamespaces_of_xml {c : Ctx} (h : c.isXml = true) : c.supportsNamespaces = true := by
  simp [Ctx.supportsNamespaces, h]

abbrev valOf (x : Attr) : NVal := normalizeValue x.val

theorem mav_no_ns {c : Ctx} (h : c.supportsNamespaces = false) (e : Elem) (a p : Str) :
    matchAttributeValues c e a p = (e.attrs.filter (fun x => lower a == lower x.key)).map valOf := by
  simp [matchAttributeValues, h]

theorem mav_bare {c : Ctx} (h : c.supportsNamespaces = true) (e : Elem) (a : Str) :
    matchAttributeValues c e a [] = (e.attrs.filter (fun x => nameEq c a x.key)).map valOf := by
  simp [matchAttributeValues, h, nameEq]

theorem mav_unmapped {c : Ctx} (h : c.supportsNamespaces = true) (e : Elem) (a p : Str)
    (hp : p ≠ []) (hs : p ≠ "*".toStr) (hm : c.nsGet p = none) :
    matchAttributeValues c e a p = [] := by
  rw [star_toStr] at hs
  simp [matchAttributeValues, h, hp, hs, hm]

theorem mav_ns {c : Ctx} (h : c.supportsNamespaces = true) (e : Elem) (a p u : Str)
    (hp : p ≠ []) (hs : p ≠ "*".toStr) (hm : c.nsGet p = some u) (hu0 : u ≠ []) :
    matchAttributeValues c e a p =
      (e.attrs.filter (fun x => x.kns == some u && localNameEq c a x)).map valOf := by
  rw [star_toStr] at hs
  simp only [matchAttributeValues, h, hm, if_true, star_toStr]
  have hpe : p.isEmpty = false := by cases p <;> simp_all
  have hst : (p == [42]) = false := by simpa using hs
  have hue : u.isEmpty = false := by cases u <;> simp_all
  simp only [hpe, hst, Bool.not_false, if_true, nsFalsy_some, hue]
  congr 1
  apply List.filter_congr
  intro x _
  cases hk : x.kns with
  | none => simp
  | some kn =>
    by_cases hu : u = kn
    · subst hu; simp [localNameEq, nameEq]; rfl
    · have : kn ≠ u := fun h => hu h.symm
      simp [hu, this]

/-- Non-empty, non-`*` prefix mapped to the EMPTY string (fix 3a64a82): the prefix designates
    "no namespace", the whole key is compared exactly as for `[a]` / `[|a]`. -/
theorem mav_ns_empty {c : Ctx} (h : c.supportsNamespaces = true) (e : Elem) (a p : Str)
    (hp : p ≠ []) (hs : p ≠ "*".toStr) (hm : c.nsGet p = some []) :
    matchAttributeValues c e a p = (e.attrs.filter (fun x => nameEq c a x.key)).map valOf := by
  rw [star_toStr] at hs
  have hpe : p.isEmpty = false := by cases p <;> simp_all
  have hst : (p == [42]) = false := by simpa using hs
  simp [matchAttributeValues, h, hm, hpe, hst, nameEq]

theorem mav_star {c : Ctx} (h : c.supportsNamespaces = true) (e : Elem) (a : Str) :
    matchAttributeValues c e a "*".toStr =
      (e.attrs.filter (fun x => (x.kns.isNone && nameEq c a x.key) ||
        (x.kns.isSome && localNameEq c a x))).map valOf := by
  simp only [matchAttributeValues, h, if_true, star_toStr]
  have hpe : ([42] : Str).isEmpty = false := rfl
  simp only [hpe, Bool.not_false, if_true, bne_self_eq_false, Bool.false_eq_true, if_false,
    beq_self_eq_true]
  cases c.nsGet [42] <;>
  · dsimp only
    congr 1
    apply List.filter_congr
    intro x _
    cases hk : x.kns
    · simp [nameEq]
    · simp [localNameEq, nameEq]; rfl

/-- The predicate selecting the attribute for `[ns|a]`, `ns ↦ u`. -/
def _root_.SoupVerif.C12.inNs (c : Ctx) (a u : Str) (x : Attr) : Bool := x.kns == some u && localNameEq c a x

/-- The predicate selecting the attribute for `[*|a]`. -/
def _root_.SoupVerif.C12.inAnyNs (c : Ctx) (a : Str) (x : Attr) : Bool :=
  (x.kns.isNone && nameEq c a x.key) || (x.kns.isSome && localNameEq c a x)

/-- **Which attributes `[p|a]` designates**, `p` the prefix VALUE (`[]` for `[a]` and `[|a]`), in terms of the
    attribute's namespace URI / local name / key and the URI the caller's map gives for `p`: the test
    `match_attribute_name` applies to each attribute, all branches in one predicate:
      * documents without namespace support: the whole key, ASCII case-insensitively, whatever `p`;
      * `p = ''`: the whole key (case rule of the document kind);
      * `p = '*'`: an attribute without namespace whose key is `a`, or one in any namespace whose local
        name is `a`;
      * `p ↦ u ≠ ''`: namespace URI `u` and local name `a`;  `p ↦ ''`: as `p = ''`;  `p` unmapped: none. -/
def _root_.SoupVerif.C12Parse.designates (c : Ctx) (p a : Str) (x : Attr) : Bool :=
  if c.supportsNamespaces = false then lower a == lower x.key
  else if p = [] then nameEq c a x.key
  else if p = "*".toStr then C12.inAnyNs c a x
  else match c.nsGet p with
    | none => false
    | some u => if u = [] then nameEq c a x.key else C12.inNs c a u x

open C12 (inNs inAnyNs)
open C12Parse (designates)

/-- `match_attribute_name` yields the values of the designated attributes, in document order. -/
theorem mav_eq (c : Ctx) (e : Elem) (a p : Str) :
    matchAttributeValues c e a p = (e.attrs.filter (designates c p a)).map valOf := by
  unfold designates
  cases h : c.supportsNamespaces
  · simp [mav_no_ns h]
  · by_cases hp : p = []
    · simp [hp, mav_bare h]
    · by_cases hs : p = [42]
      · subst hs; simp [← star_toStr, mav_star h, star_ne_nil]; rfl
      · cases hm : c.nsGet p with
        | none => simp [hp, hs, mav_unmapped h e a p hp (by simpa using hs) hm]
        | some u =>
          by_cases hu : u = []
          · subst hu; simp [hp, hs, mav_ns_empty h e a p hp (by simpa using hs) hm]
          · simp [hp, hs, hu, mav_ns h e a p u hp (by simpa using hs) hm hu]; rfl

/-- `[a]`: the whole key is compared by the document's name rule, with or without namespace support
    (`desig_*`: what `designates` reads). -/
theorem desig_bare (c : Ctx) (a : Str) : designates c [] a = fun x => nameEq c a x.key := by
  funext x
  unfold designates nameEq Ctx.supportsNamespaces
  cases c.isXml <;> cases c.hasHtmlNs <;> rfl

/-- `[a]` without hypotheses: every attribute, resp. the first, whose whole key is `a` by the document's name rule. -/
theorem mav_bare_all (c : Ctx) (e : Elem) (a : Str) :
    matchAttributeValues c e a [] = (e.attrs.filter (fun x => nameEq c a x.key)).map valOf := by
  rw [mav_eq, desig_bare]

theorem man_bare_all (c : Ctx) (e : Elem) (a : Str) :
    matchAttributeName c e a [] = (e.attrs.find? (fun x => nameEq c a x.key)).map valOf := by
  rw [matchAttributeName_eq_head?, mav_bare_all, List.head?_map, List.head?_filter]

/-- `get_attribute_by_name` reads what the bare attribute selector finds, for a lower-case name. -/
theorem attrByName_eq_selector (c : Ctx) (e : Elem) (a : Str) (hl : lower a = a) :
    c.attrByName e a = matchAttributeName c e a [] := by
  rw [man_bare_all]
  unfold Ctx.attrByName nameEq
  cases hx : c.isXml
  · simp only [Bool.false_eq_true, if_false, hl]
    congr 1; apply find?_congr; intro x _; exact C11.str_beq_comm _ _
  · simp only [if_true]
    congr 1; apply find?_congr; intro x _; exact C11.str_beq_comm _ _

theorem desig_lower {c : Ctx} (hx : c.isXml = false) (a p : Str) : designates c p (lower a) = designates c p a := by
  funext x
  simp only [designates, inNs, inAnyNs, nameEq, localNameEq, hx, lower_idem]
  rfl

/-- What `designates` reads of an attribute: its namespace, its local name (by the document's name rule) and its key
    text (by the name rule, or case-folded without namespace support). -/
theorem desig_congr {c : Ctx} {a p : Str} {x y : Attr} (hn : x.kns = y.kns)
    (hl : localNameEq c a x = localNameEq c a y) (hk : nameEq c a x.key = nameEq c a y.key)
    (hlow : lower x.key = lower y.key) : designates c p a x = designates c p a y := by
  simp only [designates, inNs, inAnyNs, hn, hl, hk, hlow]

/-- A prefixed name test (`ns|a` mapped to a non-empty URI or unmapped, `*|a`) with namespace support reads the key
    text only of an attribute that has no namespace. -/
theorem desig_congr_prefixed {c : Ctx} {a p : Str} {x y : Attr} (h : c.supportsNamespaces = true) (hp : p ≠ [])
    (hne : c.nsGet p ≠ some []) (hn : x.kns = y.kns) (hl : localNameEq c a x = localNameEq c a y)
    (hk : x.kns = none → nameEq c a x.key = nameEq c a y.key) : designates c p a x = designates c p a y := by
  unfold designates inNs inAnyNs
  simp only [h, Bool.true_eq_false, if_false, hp, ← hn, hl]
  split
  · cases hx : x.kns with
    | none => simp [hk hx]
    | some u => simp
  · cases hm : c.nsGet p with
    | none => rfl
    | some u => simp [show u ≠ [] from fun hu => hne (hu ▸ hm)]

theorem man_of_mav {c : Ctx} {e : Elem} {a p : Str} {q : Attr → Bool}
    (h : matchAttributeValues c e a p = (e.attrs.filter q).map valOf) :
    matchAttributeName c e a p = (e.attrs.find? q).map valOf := by
  rw [matchAttributeName_eq_head?, h, List.head?_map, List.head?_filter]

/-- No namespace support: the prefix is ignored, the whole key is compared case-insensitively. -/
theorem man_no_ns {c : Ctx} (h : c.supportsNamespaces = false) (e : Elem) (a p : Str) :
    matchAttributeName c e a p = (e.attrs.find? (fun x => lower a == lower x.key)).map valOf :=
  man_of_mav (mav_no_ns h e a p)

/-- Empty prefix (`[a]`, `[|a]`): whole-key comparison. -/
theorem man_bare {c : Ctx} (h : c.supportsNamespaces = true) (e : Elem) (a : Str) :
    matchAttributeName c e a [] = (e.attrs.find? (fun x => nameEq c a x.key)).map valOf :=
  man_of_mav (mav_bare h e a)

/-- Non-empty, non-`*`, unmapped prefix: early `return None`. -/
theorem man_unmapped {c : Ctx} (h : c.supportsNamespaces = true) (e : Elem) (a p : Str)
    (hp : p ≠ []) (hs : p ≠ "*".toStr) (hm : c.nsGet p = none) :
    matchAttributeName c e a p = none := by
  rw [matchAttributeName_eq_head?, mav_unmapped h e a p hp hs hm]; rfl

/-- Non-empty, non-`*`, mapped prefix: namespace URI and local name are compared. -/
theorem man_ns {c : Ctx} (h : c.supportsNamespaces = true) (e : Elem) (a p u : Str)
    (hp : p ≠ []) (hs : p ≠ "*".toStr) (hm : c.nsGet p = some u) (hu0 : u ≠ []) :
    matchAttributeName c e a p =
      (e.attrs.find? (fun x => x.kns == some u && localNameEq c a x)).map valOf :=
  man_of_mav (mav_ns h e a p u hp hs hm hu0)

/-- Non-empty, non-`*` prefix mapped to the EMPTY string (fix 3a64a82): the prefix designates
    "no namespace", the whole key is compared exactly as for `[a]` / `[|a]`. -/
theorem man_ns_empty {c : Ctx} (h : c.supportsNamespaces = true) (e : Elem) (a p : Str)
    (hp : p ≠ []) (hs : p ≠ "*".toStr) (hm : c.nsGet p = some []) :
    matchAttributeName c e a p = (e.attrs.find? (fun x => nameEq c a x.key)).map valOf :=
  man_of_mav (mav_ns_empty h e a p hp hs hm)

/-- `*` prefix: the mapping of `*` (if any) is irrelevant. -/
theorem man_star {c : Ctx} (h : c.supportsNamespaces = true) (e : Elem) (a : Str) :
    matchAttributeName c e a "*".toStr =
      (e.attrs.find? (fun x => (x.kns.isNone && nameEq c a x.key) ||
        (x.kns.isSome && localNameEq c a x))).map valOf :=
  man_of_mav (mav_star h e a)

end Names
end SoupVerif
