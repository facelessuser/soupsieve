/-
Generic facts about the import state machine of `Model/Imports.lean` (any graph, any state).
-/
import SoupVerif.Model.Imports

namespace SoupVerif.Imports

/-- What an event needs from `sys.modules` in order to be a no-op: the imported module is already present
(in whatever state of initialisation -- CPython returns it as it is), the fetched attribute is already
bound. Opaque modules need nothing. `define` and `unknown` events are never no-ops. -/
def Event.settled (g : Graph) (st : Interp) : Event → Bool
  | .importMod m => (g.node? m).isNone || st.has m
  | .fromImport m n | .useAttr m n _ => (g.node? m).isNone || (st.has m && st.hasName m n)
  | .define _ => false
  | .unknown _ => false

/-- Importing a module that is already in `sys.modules` changes nothing. -/
theorem importModule_present (g : Graph) (fuel : Nat) (st : Interp) (m : Name)
    (h : (g.node? m).isNone = true ∨ st.has m = true) :
    importModule g (fuel + 1) st m = .ok st := by
  unfold importModule
  cases hn : g.node? m with
  | none => rfl
  | some node =>
    rcases h with h | h
    · simp [hn] at h
    · simp [h]

theorem execEvent_settled (g : Graph) (fuel : Nat) (cur : Option Name) (st : Interp) (ev : Event)
    (h : ev.settled g st = true) :
    execEvent g (importModule g (fuel + 1)) cur st ev = .ok st := by
  cases ev with
  | importMod m =>
    simp only [Event.settled, Bool.or_eq_true] at h
    exact importModule_present g fuel st m h
  | fromImport m n | useAttr m n _ =>
    simp only [Event.settled, Bool.or_eq_true, Bool.and_eq_true] at h
    cases hn : g.node? m with
    | none => simp [execEvent, hn]
    | some node =>
      rcases h with h | h
      · simp [hn] at h
      · simp [execEvent, hn, h.1, h.2]
  | define n | unknown w => simp [Event.settled] at h

theorem execEvents_settled (g : Graph) (fuel : Nat) (cur : Option Name) (st : Interp) (evs : List Event)
    (h : evs.all (fun ev => ev.settled g st) = true) :
    execEvents g (importModule g (fuel + 1)) cur st evs = .ok st := by
  induction evs with
  | nil => rfl
  | cons ev rest ih =>
    simp only [List.all_cons, Bool.and_eq_true] at h
    unfold execEvents
    rw [execEvent_settled g fuel cur st ev h.1]
    exact ih h.2

/-- **Re-import is a no-op**, for an arbitrary interpreter state: when every module the statement names is
already in `sys.modules` and every name it fetches is already bound, the statement succeeds and leaves
`sys.modules` exactly as it was. -/
theorem execEntry_settled (g : Graph) (ids : EntryIds) (st : Interp) (e : EntryPoint)
    (h : (e.events ids).all (fun ev => ev.settled g st) = true) :
    execEntry g ids st e = .ok st := by
  unfold execEntry Graph.fuel
  exact execEvents_settled g (g.length + 1) none st _ h

theorem run_nil (g : Graph) (ids : EntryIds) (st : Interp) : run g ids st [] = .ok st := rfl

theorem run_cons_ok (g : Graph) (ids : EntryIds) (st st' : Interp) (e : EntryPoint) (es : List EntryPoint)
    (h : execEntry g ids st e = .ok st') : run g ids st (e :: es) = run g ids st' es := by
  simp [run, h]

theorem run_settled (g : Graph) (ids : EntryIds) (st : Interp)
    (h : ∀ e : EntryPoint, (e.events ids).all (fun ev => ev.settled g st) = true) (seq : List EntryPoint) :
    run g ids st seq = .ok st := by
  induction seq with
  | nil => rfl
  | cons e es ih => exact (run_cons_ok g ids st st e es (execEntry_settled g ids st e (h e))).trans ih

theorem run_append (g : Graph) (ids : EntryIds) (st st' : Interp) (xs ys : List EntryPoint)
    (h : run g ids st xs = .ok st') : run g ids st (xs ++ ys) = run g ids st' ys := by
  induction xs generalizing st with
  | nil => simp [run] at h; subst h; rfl
  | cons x xs ih =>
    simp only [run, List.cons_append] at h ⊢
    cases hx : execEntry g ids st x with
    | error e => simp [hx] at h
    | ok s1 => simp only [hx] at h ⊢; exact ih s1 h

end SoupVerif.Imports
