/-
  `util.lower` (`lower`, `lowerCp` of `Model/Py.lean`): ASCII lower-casing, code point by code point;
  it leaves CSS white space alone (`isCssWs_lowerCp`).
-/
import SoupVerif.Model.Py
namespace SoupVerif

theorem lowerCp_idem (c : Nat) : lowerCp (lowerCp c) = lowerCp c := by
  unfold lowerCp
  split
  · split
    · omega
    · rfl
  · rfl

theorem lowerCp_of_not_upper (c : Nat) (h : ¬ (65 ≤ c ∧ c ≤ 90)) : lowerCp c = c := by
  unfold lowerCp; split <;> omega

/-- `lowerCp` fixes every code point that is not a letter and maps nothing else there: `k` lies below `A`,
    between `Z` and `a`, or above `z`. -/
theorem lowerCp_eq_iff {k : Nat} (hk : k < 65 ∨ 90 < k ∧ k < 97 ∨ 122 < k) (c : Nat) :
    lowerCp c = k ↔ c = k := by
  unfold lowerCp
  split <;> omega

theorem lower_idem (s : Str) : lower (lower s) = lower s := by
  simp [lower, lowerCp_idem]

theorem lower_length (s : Str) : (lower s).length = s.length := by simp [lower]

theorem lower_eq_nil (s : Str) : lower s = [] ↔ s = [] := by simp [lower]

theorem lower_eq_star (s : Str) : lower s = [42] ↔ s = [42] := by
  match s with
  | [] => simp [lower]
  | [x] => simp [lower, lowerCp_eq_iff]
  | _ :: _ :: _ => simp [lower]

/-- `lowerCp` moves only the letters `A`–`Z`, to `a`–`z`: neither range holds CSS white space. -/
theorem isCssWs_lowerCp (c : Nat) : isCssWs (lowerCp c) = isCssWs c := by
  unfold lowerCp
  split
  · have h1 : isCssWs (c + 32) = false := by simp [isCssWs]; omega
    have h2 : isCssWs c = false := by simp [isCssWs]; omega
    rw [h1, h2]
  · rfl

theorem lowerCp_eq_small (a k : Nat) (hk : k < 65) : (lowerCp a == k) = (a == k) := by
  rw [Bool.eq_iff_iff]
  simp only [beq_iff_eq, lowerCp]
  split <;> omega

theorem head?_lower_eq_small (t : Str) (k : Nat) (hk : k < 65) :
    ((lower t).head? == some k) = (t.head? == some k) := by
  cases t with
  | nil => rfl
  | cons a t =>
    simp only [lower, List.map_cons, List.head?_cons]
    have := lowerCp_eq_small a k hk
    rw [Bool.eq_iff_iff] at this ⊢
    simpa using this

theorem lower_of_no_upper (D : Str) (h : ∀ x ∈ D, ¬ (65 ≤ x ∧ x ≤ 90)) : lower D = D := by
  induction D with
  | nil => rfl
  | cons d ds ih =>
    have : lowerCp d = d := by simp only [lowerCp]; rw [if_neg (h d (by simp))]
    show lowerCp d :: lower ds = d :: ds
    rw [this, ih (fun x hx => h x (by simp [hx]))]

end SoupVerif
