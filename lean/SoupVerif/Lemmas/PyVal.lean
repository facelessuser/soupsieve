/-
  The Python operators of `Model/MatchDyn.lean` on the values the translated leaf functions meet: on `bool`s
  and `str`s they are the Boolean / string operations, and nothing raises; `pyAnyList` with a deciding test is `List.any`.
-/
import SoupVerif.Model.MatchDyn
namespace SoupVerif
namespace PyMatchSel

theorem lower_str (a : Str) : pyLower (.str a) = .str (lower a) := rfl

theorem isXml_bool (c : Ctx) : pyIsXml c = .bool c.isXml := rfl

theorem not_bool (b : Bool) : pyNot (.bool b) = .bool (!b) := by cases b <;> rfl

theorem and_bool (a b : Bool) : pyAnd (.bool a) (.bool b) = .bool (a && b) := by
  cases a <;> simp [pyAnd, PV.truthy]

theorem or_bool (a b : Bool) : pyOr (.bool a) (.bool b) = .bool (a || b) := by
  cases a <;> simp [pyOr, PV.truthy]

theorem str_beq (a b : Str) : (PV.str a == PV.str b) = (a == b) := by
  rw [Bool.eq_iff_iff, beq_iff_eq, beq_iff_eq, PV.str.injEq]

theorem eq_str (a b : Str) : pyEq (.str a) (.str b) = .bool (a == b) := by
  simp [pyEq, PV.isErr, str_beq]

theorem ite_bool (b : Bool) (x y : PV) : PV.ite (.bool b) x y = if b then x else y := by
  cases b <;> simp [PV.ite, PV.truthy]

/-- `for x in seq: if <test x>: … break` with a test that decides `g` on every item (and does not raise). -/
theorem pyAnyList_bool (f : PV → PV) (g : Str → Bool) (h : ∀ x, f (.str x) = .bool (g x)) (l : List Str) :
    pyAnyList f l = .bool (l.any g) := by
  induction l with
  | nil => rfl
  | cons x rest ih =>
    rw [pyAnyList, h x]
    cases hg : g x <;> simp [PV.truthy, hg, ih]

end PyMatchSel
end SoupVerif
