/-
  C07, parser level (umbrella).  The theory lives in `Lemmas/ParseCost/`:
  * `Twin`    : the twins of `Spec/ParseCost.lean` compute the model's results (any weight) and are
                monotone in the weight;
  * `Steps`   : potential argument for the number of loop iterations, and accumulated weight ≤
                (bound of one iteration) · (number of iterations);
  * `Caps`    : capture spans lie inside the match; `css_unescape` does not lengthen;
  * `Iter`    : polynomial bound of the regular-expression work of one iteration;
  * `Compile` : a whole `compile`.
-/
import SoupVerif.Lemmas.ParseCost.Twin
import SoupVerif.Lemmas.ParseCost.Steps
import SoupVerif.Lemmas.ParseCost.Caps
import SoupVerif.Lemmas.ParseCost.Iter
import SoupVerif.Lemmas.ParseCost.Compile
