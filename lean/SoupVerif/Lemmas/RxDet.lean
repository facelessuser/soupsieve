/-
  Pieces of a regular expression with at most one run.  Most pieces of the token regexes (`WS`, `NEWLINE`,
  `CSS_ESCAPES`, the head of `IDENTIFIER`, one item of a string body) have, from every position, at most one way
  to match, look only at the text from that position on, and set no capture.  `Scans env r len` says so and
  names the length of the run, `len` of the rest of the text: the piece IS the scanner `len`.

  Section 1: `Scans` and what preserves it (one-character tests, sequences, alternatives that exclude each other, a
  greedy `?`, a negative look-ahead): a proof that a concrete piece is a hand-written scanner is a composition of these
  and an equation between two functions on texts, with no engine term in it.  Section 2: a greedy `X*` / `X+` over a
  scanner that advances (`unitEnds`: where its runs end, the longest first), followed by a continuation that tests the
  rest of the text, or by one that fails wherever a unit starts.  Section 3: a lazy `X*?`, whose continuation is tried at
  the successive unit boundaries (`lazyHead`).
-/
import SoupVerif.Lemmas.RxBasic
namespace SoupVerif
namespace RxBasic
open Rx

/-! ## 1. A piece that is a scanner -/

/-- A scanner of texts (the length of what it reads at the head of a text), asked at position `p` of `s`:
    where the run from `p` ends. -/
def atDrop (len : Str → Option Nat) (s : Str) (p : Nat) : Option Nat := (len (s.drop p)).map (p + ·)

/-- `r` is the scanner `len`: from every position of every subject it has at most one run, as long as `len`
    says for the text from there on, and it hands on the captures it was given.  The anchors are left out: beyond
    the end of the subject `\Z` fails where a scanner of the empty text would not, so neither `\Z` nor a piece that can
    be empty in front of it is one (`Scans.char_then` is for a piece that holds `\Z` behind a character). -/
structure Scans (env : CharEnv) (r : Rx) (len : Str → Option Nat) : Prop where
  le : ∀ t n, len t = some n → n ≤ t.length
  runs : ∀ (s : Str) (p : Nat) (c : Caps), runs env s r p c = one (atDrop len s p) c

def charLen (P : Nat → Bool) : Str → Option Nat
  | c :: _ => if P c then some 1 else none
  | [] => none

def andThen (f g : Str → Option Nat) (t : Str) : Option Nat :=
  (f t).bind fun n => (g (t.drop n)).map (n + ·)

theorem andThen_none {f g : Str → Option Nat} {t : Str} (h : f t = none) : andThen f g t = none := by
  unfold andThen; rw [h]; rfl

theorem andThen_some {f g : Str → Option Nat} {t : Str} {n : Nat} (h : f t = some n) :
    andThen f g t = (g (t.drop n)).map (n + ·) := by
  unfold andThen; rw [h]; rfl

theorem charLen_nil (P : Nat → Bool) : charLen P [] = none := rfl

theorem charLen_cons (P : Nat → Bool) (c : Nat) (cs : Str) :
    charLen P (c :: cs) = if P c then some 1 else none := rfl

theorem charLen_pos (P : Nat → Bool) (t : Str) : charLen P t ≠ some 0 := by
  cases t with
  | nil => simp [charLen_nil]
  | cons c cs => rw [charLen_cons]; split <;> simp

namespace Scans
variable {env : CharEnv}

theorem char {r : Rx} {P : Nat → Bool} (h : ∀ s, IsChar env s r P) : Scans env r (charLen P) := by
  refine ⟨?_, fun s p c => ?_⟩
  · rintro (_ | ⟨x, xs⟩) n hn
    · cases hn
    · rw [charLen_cons] at hn; split at hn <;> cases hn; exact Nat.succ_le_succ (Nat.zero_le _)
  · rw [h s p c]
    unfold charBody atDrop
    cases hd : s.drop p with
    | nil => rw [getElem?_of_drop_nil hd]; rfl
    | cons x xs => rw [getElem?_of_drop_cons hd, charLen_cons]; by_cases hx : P x = true <;> simp [hx, one]

theorem congr {r : Rx} {f g : Str → Option Nat} (h : Scans env r f) (hfg : ∀ t, f t = g t) : Scans env r g :=
  ⟨fun t n hn => h.le t n (by rw [hfg]; exact hn), fun s p c => by rw [h.runs s p c]; unfold atDrop; rw [hfg]⟩

theorem runs_text {r : Rx} {len : Str → Option Nat} (h : Scans env r len) {s : Str} {p : Nat} {w R : Str}
    (hd : s.drop p = w ++ R) (hl : len (w ++ R) = some w.length) (c : Caps) :
    Rx.runs env s r p c = [(p + w.length, c)] := by
  rw [h.runs s p c, atDrop, hd, hl]; rfl

/-- The first run on a known text (what a token handler reads): the head of `runs_text`. -/
theorem head {r : Rx} {len : Str → Option Nat} (h : Scans env r len) {s : Str} {p : Nat} {w R : Str}
    (hd : s.drop p = w ++ R) (hl : len (w ++ R) = some w.length) (c : Caps) :
    (Rx.runs env s r p c).head? = some (p + w.length, c) := by
  rw [h.runs_text hd hl c]; rfl

theorem runsSeq_cons {r : Rx} {f : Str → Option Nat} (h : Scans env r f) (s : Str) (rs : List Rx) (p : Nat)
    (c : Caps) :
    runsSeq env s (r :: rs) p c =
      match f (s.drop p) with
      | some n => runsSeq env s rs (p + n) c
      | none => [] := by
  rw [RxBasic.runsSeq_cons, h.runs s p c]; unfold atDrop
  cases f (s.drop p) <;> simp [one]

theorem seq_nil (env : CharEnv) : Scans env (.seq []) fun _ => some 0 :=
  ⟨fun _ _ hn => (by cases hn; exact Nat.zero_le _), fun s p c => by rw [runs_seq, runsSeq_nil]; rfl⟩

theorem seq_cons {r : Rx} {rs : List Rx} {f g : Str → Option Nat} (h : Scans env r f)
    (hs : Scans env (.seq rs) g) : Scans env (.seq (r :: rs)) (andThen f g) := by
  refine ⟨fun t n hn => ?_, fun s p c => ?_⟩
  · cases hf : f t with
    | none => rw [andThen_none hf] at hn; cases hn
    | some a =>
      rw [andThen_some hf] at hn
      cases hg : g (t.drop a) with
      | none => rw [hg] at hn; cases hn
      | some b =>
        have h1 := h.le _ _ hf
        have h2 := hs.le _ _ hg
        rw [List.length_drop] at h2
        rw [hg] at hn; cases hn
        show a + b ≤ t.length
        omega
  · rw [runs_seq, h.runsSeq_cons s rs p c]
    unfold atDrop
    cases hf : f (s.drop p) with
    | none => rw [andThen_none hf]; rfl
    | some n =>
      have hr := hs.runs s (p + n) c
      rw [runs_seq] at hr
      rw [andThen_some hf, List.drop_drop]
      dsimp only
      rw [hr]; unfold atDrop
      cases g (s.drop (p + n)) with
      | none => rfl
      | some m => simp [Nat.add_assoc]

theorem seq_single {r : Rx} {f : Str → Option Nat} (h : Scans env r f) : Scans env (.seq [r]) f :=
  (h.seq_cons (seq_nil env)).congr fun t => by unfold andThen; cases f t <;> rfl

theorem alt_nil (env : CharEnv) : Scans env (.alt []) fun _ => none :=
  ⟨fun _ _ hn => (by cases hn), fun s p c => by rw [runs_alt, runsAlt_nil]; rfl⟩

theorem alt_cons {a : Rx} {rs : List Rx} {f g : Str → Option Nat} (ha : Scans env a f)
    (hb : Scans env (.alt rs) g) (hd : ∀ t, (f t).isSome = true → g t = none) :
    Scans env (.alt (a :: rs)) fun t => (f t).orElse fun _ => g t := by
  refine ⟨fun t n hn => ?_, fun s p c => ?_⟩
  · cases hf : f t with
    | none => rw [hf] at hn; exact hb.le t n hn
    | some a => rw [hf] at hn; cases hn; exact ha.le t _ hf
  · have hb' := hb.runs s p c
    rw [runs_alt] at hb' ⊢
    rw [runsAlt_cons, ha.runs s p c, hb']
    unfold atDrop
    dsimp only
    cases hf : f (s.drop p) with
    | none => rfl
    | some n => rw [hd _ (by rw [hf]; rfl)]; rfl

/-- A greedy `r?` in front of `K`, where `K` alone cannot match what `r K` matches. -/
theorem opt_cons {r : Rx} {K : List Rx} {f g : Str → Option Nat} (h : Scans env r f)
    (hK : Scans env (.seq K) g) (hd : ∀ t, (andThen f g t).isSome = true → g t = none) :
    Scans env (.seq (.rep 0 (some 1) true r :: K)) fun t => (andThen f g t).orElse fun _ => g t := by
  have hfg := h.seq_cons hK
  refine ⟨fun t n hn => ?_, fun s p c => ?_⟩
  · cases hf : andThen f g t with
    | none => rw [hf] at hn; exact hK.le t n hn
    | some a => rw [hf] at hn; cases hn; exact hfg.le t _ hf
  · have h1 := hfg.runs s p c
    have h2 := hK.runs s p c
    rw [runs_seq] at h1 h2 ⊢
    rw [RefineInputs.runsSeq_opt, h1, h2]
    unfold atDrop
    dsimp only
    cases hf : andThen f g (s.drop p) with
    | none => rfl
    | some n => rw [hd _ (by rw [hf]; rfl)]; rfl

theorem notAhead {r : Rx} {f : Str → Option Nat} (h : Scans env r f) :
    Scans env (.look true true r) fun t => if (f t).isSome = true then none else some 0 := by
  refine ⟨fun t n hn => (by split at hn <;> cases hn; exact Nat.zero_le _), fun s p c => ?_⟩
  rw [Rx.runs, h.runs s p c]
  unfold atDrop
  dsimp only
  cases f (s.drop p) <;> rfl

end Scans

/-! ### A piece that holds `\Z`: an alternative put together by hand, behind a character -/

theorem one_append {a b : Option Nat} (h : a.isSome = true → b = none) (c : Caps) :
    one a c ++ one b c = one (a.orElse fun _ => b) c := by
  cases a with
  | none => rfl
  | some x => rw [h rfl]; rfl

theorem atDrop_orElse (f g : Str → Option Nat) (s : Str) (p : Nat) :
    (atDrop f s p).orElse (fun _ => atDrop g s p) = atDrop (fun t => (f t).orElse fun _ => g t) s p := by
  unfold atDrop; dsimp only; cases f (s.drop p) <;> rfl

/-- A one-character test followed by a piece `K` that is the scanner `g` at the positions inside the subject
    (as a piece with `\Z` in it is): behind a character the position is inside. -/
theorem Scans.char_then {env : CharEnv} {r K : Rx} {P : Nat → Bool} {g : Str → Option Nat} (h : ∀ s, IsChar env s r P)
    (hle : ∀ t n, g t = some n → n ≤ t.length)
    (hK : ∀ s p c, p ≤ s.length → Rx.runs env s K p c = one (atDrop g s p) c) :
    Scans env (.seq [r, K]) (andThen (charLen P) g) := by
  refine ⟨fun t n hn => ?_, fun s p c => ?_⟩
  · cases t with
    | nil => rw [andThen_none (charLen_nil P)] at hn; cases hn
    | cons x xs =>
      cases hx : P x with
      | false => rw [andThen_none (by rw [charLen_cons, hx]; rfl)] at hn; cases hn
      | true =>
        rw [andThen_some (n := 1) (by rw [charLen_cons, hx]; rfl), List.drop_succ_cons, List.drop_zero] at hn
        cases hg : g xs with
        | none => rw [hg] at hn; cases hn
        | some m => rw [hg] at hn; cases hn; have := hle _ _ hg; simp only [List.length_cons]; omega
  · rw [runs_seq, (Scans.char h).runsSeq_cons]
    unfold atDrop
    cases hd : s.drop p with
    | nil => rw [andThen_none (charLen_nil P)]; rfl
    | cons x xs =>
      cases hx : P x with
      | false => rw [charLen_cons, hx, andThen_none (by rw [charLen_cons, hx]; rfl)]; rfl
      | true =>
        rw [charLen_cons, hx, andThen_some (n := 1) (by rw [charLen_cons, hx]; rfl), List.drop_succ_cons,
          List.drop_zero, if_pos rfl]
        dsimp only
        rw [runsSeq_single, hK s (p + 1) c (lt_of_drop_cons hd), atDrop, drop_succ_of_drop_cons hd]
        cases g xs with
        | none => rfl
        | some m => simp [Nat.add_assoc]

theorem scans_lit (env : CharEnv) (ch : Nat) : Scans env (.lit ch false) (charLen (· == ch)) :=
  Scans.char fun s => isChar_lit_exact env s ch

/-- `pattern.match(s, i)` for a scanner: it ends where the scanner says on the rest of the text, no group set. -/
theorem Scans.matchAt {env : CharEnv} {r : Rx} {len : Str → Option Nat} (h : Scans env r len) (s : Str) (i : Nat) :
    Rx.matchAt env r s i = (len (s.drop i)).map fun n => (i + n, []) := by
  rw [Rx.matchAt, h.runs s i []]
  unfold atDrop
  cases len (s.drop i) <;> rfl

def pairLen (a b : Nat) : Str → Option Nat
  | x :: y :: _ => if x = a ∧ y = b then some 2 else none
  | _ => none

theorem pairLen_cons (a b : Nat) (d : Str) : pairLen a b (a :: b :: d) = some 2 := by simp [pairLen]

theorem pairLen_none {a b : Nat} {t : Str} (h : ∀ d, t ≠ a :: b :: d) : pairLen a b t = none := by
  unfold pairLen
  split
  · rename_i x y d
    rw [if_neg]; rintro ⟨rfl, rfl⟩; exact h d rfl
  · rfl

theorem pairLen_some {a b : Nat} {t : Str} {n : Nat} (h : pairLen a b t = some n) : n = 2 ∧ ∃ d, t = a :: b :: d := by
  unfold pairLen at h
  split at h
  · split at h <;> cases h
    rename_i x y d hxy
    exact ⟨rfl, d, by rw [hxy.1, hxy.2]⟩
  · cases h

theorem pairLen_pos (a b : Nat) (t : Str) : pairLen a b t ≠ some 0 := by
  intro h; have := (pairLen_some h).1; omega

theorem scans_pair (env : CharEnv) (a b : Nat) : Scans env (.seq [.lit a false, .lit b false]) (pairLen a b) := by
  refine ((scans_lit env a).seq_cons (scans_lit env b).seq_single).congr fun t => ?_
  rcases t with _ | ⟨x, t⟩
  · rfl
  by_cases hx : x = a
  case neg =>
    rw [andThen_none (by simp [charLen_cons, hx]), pairLen_none (by rintro d h; cases h; exact hx rfl)]
  subst hx
  rw [andThen_some (n := 1) (by simp [charLen_cons]), List.drop_succ_cons, List.drop_zero]
  rcases t with _ | ⟨y, d⟩
  · rfl
  by_cases hy : y = b
  · subst hy; rw [pairLen_cons]; simp [charLen_cons]
  · rw [pairLen_none (by rintro d h; cases h; exact hy rfl)]
    simp [charLen_cons, hy]

/-! ## 2. A greedy star over a scanner that advances -/

/-- Where the runs of units from the head of `t` can end, the longest run first, the empty run (`0`) last.
    (`u t` is the length of the unit `t` starts with; a unit that does not advance ends the chain.) -/
def unitEnds (u : Str → Option Nat) (t : Str) : List Nat :=
  (match u t with
   | some n => if 0 < n ∧ n ≤ t.length then (unitEnds u (t.drop n)).map (n + ·) else []
   | none => []) ++ [0]
termination_by t.length
decreasing_by simp only [List.length_drop]; omega

theorem unitEnds_dropLast (u : Str → Option Nat) (t : Str) : (unitEnds u t).dropLast ++ [0] = unitEnds u t := by
  rw [unitEnds, List.dropLast_concat]

theorem unitEnds_none {u : Str → Option Nat} {t : Str} (h : u t = none) : unitEnds u t = [0] := by
  rw [unitEnds, h]; rfl

theorem unitEnds_some {u : Str → Option Nat} {t : Str} {n : Nat} (h : u t = some n) (hn : 0 < n ∧ n ≤ t.length) :
    unitEnds u t = (unitEnds u (t.drop n)).map (n + ·) ++ [0] := by
  rw [unitEnds, h]; simp only [hn, and_self, if_true]

theorem unitEnds_le (u : Str → Option Nat) (t : Str) : ∀ m ∈ unitEnds u t, m ≤ t.length := by
  intro m hm
  rw [unitEnds] at hm
  cases hu : u t with
  | none => simp [hu] at hm; omega
  | some n =>
    by_cases hn : 0 < n ∧ n ≤ t.length
    · simp only [hu, hn, and_self, if_true, List.mem_append, List.mem_map, List.mem_singleton] at hm
      rcases hm with ⟨m', hm', rfl⟩ | rfl
      · have := unitEnds_le u (t.drop n) m' hm'
        simp only [List.length_drop] at this; omega
      · omega
    · simp [hu, hn] at hm; omega
termination_by t.length
decreasing_by simp only [List.length_drop]; omega

/-- `X*` (`mn = 0`) and `X+` (`mn = 1`), from inside the repetition: the induction over the engine's fuel for a greedy
    repetition of a scanner. -/
theorem iter_units (s : Str) (body : Nat → Caps → List (Nat × Caps)) (u : Str → Option Nat)
    (hu : ∀ t n, u t = some n → 0 < n ∧ n ≤ t.length)
    (hb : ∀ p c, body p c = one (atDrop u s p) c) (mn : Nat) (hmn : mn ≤ 1) :
    ∀ (fuel count pos : Nat) (c : Caps), s.length - pos + 1 ≤ fuel →
      iter body mn none true fuel count pos c =
        ((unitEnds u (s.drop pos)).dropLast ++ (if count ≥ mn then [0] else [])).map fun n => (pos + n, c)
  | 0, _, _, _, hf => by omega
  | fuel + 1, count, pos, c, hf => by
    rw [iter_succ, unitEnds, hb, atDrop]
    simp only [canMore, if_true, List.dropLast_concat, List.length_drop]
    cases hun : u (s.drop pos) with
    | none => by_cases hc : count ≥ mn <;> simp [one, hc]
    | some n =>
      by_cases hn : 0 < n ∧ n ≤ s.length - pos
      · have ih := iter_units s body u hu hb mn hmn fuel (count + 1) (pos + n) c (by omega)
        have hgt : (pos + n > pos) = True := by simp; omega
        have hcm : count + 1 ≥ mn := by omega
        simp only [Option.map_some, one, List.flatMap_cons, List.flatMap_nil, List.append_nil, hgt, decide_true,
          Bool.true_or, if_true, ih, hn, and_self, hcm, List.drop_drop]
        rw [unitEnds_dropLast, List.map_append, List.map_map]
        congr 1
        · apply List.map_congr_left; intro m _; simp [Nat.add_assoc]
        · by_cases hc : count ≥ mn <;> simp [hc]
      · exact absurd (by simpa using hu _ _ hun) hn

/-- A continuation that tests the rest of the text, after a star: the ends of the runs of units after which the
    rest satisfies `P`. -/
def endsSat (P : Str → Bool) (u : Str → Option Nat) (t : Str) : List Nat :=
  (unitEnds u t).filter fun m => P (t.drop m)

theorem endsSat_none {u : Str → Option Nat} {t : Str} (P : Str → Bool) (h : u t = none) :
    endsSat P u t = if P t then [0] else [] := by
  rw [endsSat, unitEnds_none h]; simp [List.filter_cons]

theorem endsSat_some {u : Str → Option Nat} {t : Str} {n : Nat} (P : Str → Bool) (h : u t = some n)
    (hn : 0 < n ∧ n ≤ t.length) :
    endsSat P u t = (endsSat P u (t.drop n)).map (n + ·) ++ if P t then [0] else [] := by
  rw [endsSat, unitEnds_some h hn, List.filter_append, List.filter_map, endsSat]
  simp [List.filter_cons, Function.comp_def, List.drop_drop]

/-- The end of the longest run of units from the head of `t`. -/
def unitsLen (u : Str → Option Nat) (t : Str) : Nat := (unitEnds u t).headD 0

theorem unitsLen_none {u : Str → Option Nat} {t : Str} (h : u t = none) : unitsLen u t = 0 := by
  rw [unitsLen, unitEnds_none h]; rfl

theorem unitsLen_some {u : Str → Option Nat} {t : Str} {n : Nat} (h : u t = some n) (hn : 0 < n ∧ n ≤ t.length) :
    unitsLen u t = n + unitsLen u (t.drop n) := by
  rw [unitsLen, unitEnds_some h hn, unitsLen, ← unitEnds_dropLast u (t.drop n)]
  cases (unitEnds u (t.drop n)).dropLast <;> rfl

/-- `unitsLen` is the only function that adds the unit at the head and is `0` where there is none: how a hand
    scanner that follows the units is compared with it. -/
theorem unitsLen_eq {u : Str → Option Nat} (hu : ∀ t n, u t = some n → 0 < n ∧ n ≤ t.length) (g : Str → Nat)
    (hg : ∀ t, g t = match u t with | some n => n + g (t.drop n) | none => 0) (t : Str) : unitsLen u t = g t := by
  rw [hg t]
  cases h : u t with
  | none => exact unitsLen_none h
  | some n =>
    have hn := hu t n h
    rw [unitsLen_some h hn, unitsLen_eq hu g hg (t.drop n)]
termination_by t.length
decreasing_by simp only [List.length_drop]; omega

/-- The runs of units: the longest first, behind which no unit starts; every other one is shorter and ends where a
    further unit starts. -/
theorem unitEnds_cut {u : Str → Option Nat} (hu : ∀ t n, u t = some n → 0 < n ∧ n ≤ t.length) (t : Str) :
    u (t.drop (unitsLen u t)) = none ∧
    ∃ rest, unitEnds u t = unitsLen u t :: rest ∧
      ∀ m ∈ rest, m < unitsLen u t ∧ (u (t.drop m)).isSome = true := by
  cases h : u t with
  | none =>
    rw [unitsLen_none h, unitEnds_none h]
    exact ⟨h, [], rfl, by simp⟩
  | some n =>
    have hn := hu t n h
    obtain ⟨h0, rest, h1, h2⟩ := unitEnds_cut hu (t.drop n)
    rw [unitsLen_some h hn, unitEnds_some h hn, ← List.drop_drop]
    refine ⟨h0, rest.map (n + ·) ++ [0], by rw [h1]; rfl, ?_⟩
    intro m hm
    rcases List.mem_append.1 hm with hm | hm
    · obtain ⟨m', hm', rfl⟩ := List.mem_map.1 hm
      rw [← List.drop_drop]
      exact ⟨Nat.add_lt_add_left (h2 m' hm').1 n, (h2 m' hm').2⟩
    · rw [List.mem_singleton] at hm; subst hm
      rw [List.drop_zero, h]; exact ⟨by omega, rfl⟩
termination_by t.length
decreasing_by simp only [List.length_drop]; have := hu t n h; omega

theorem unitsLen_le (u : Str → Option Nat) (t : Str) : unitsLen u t ≤ t.length := by
  have := unitEnds_le u t
  rw [← unitEnds_dropLast] at this
  unfold unitsLen
  rw [← unitEnds_dropLast]
  cases hl : (unitEnds u t).dropLast with
  | nil => exact Nat.zero_le _
  | cons a l => rw [hl] at this; exact this a (by simp)

theorem ends_le (u : Str → Option Nat) (s : Str) (i : Nat) (hi : i ≤ s.length) :
    ∀ m ∈ unitEnds u (s.drop i), i + m ≤ s.length := by
  intro m hm
  have := unitEnds_le u _ m hm
  simp only [List.length_drop] at this; omega

/-- A continuation of fixed width `k` that tests the rest of the text (and may set captures, `f`), after a list of
    ends. -/
theorem flatMap_then {env : CharEnv} {s : Str} (K : List Rx) (P : Str → Bool) (k : Nat) (f : Nat → Caps → Caps)
    (hK : ∀ p c, p ≤ s.length → runsSeq env s K p c = if P (s.drop p) then [(p + k, f p c)] else [])
    (i : Nat) (c : Caps) : ∀ l : List Nat, (∀ m ∈ l, i + m ≤ s.length) →
      (l.map fun n => (i + n, c)).flatMap (fun x => runsSeq env s K x.1 x.2) =
        (l.filter fun m => P ((s.drop i).drop m)).map fun n => (i + n + k, f (i + n) c)
  | [], _ => rfl
  | m :: l, hle => by
    rw [List.map_cons, List.flatMap_cons, flatMap_then K P k f hK i c l (fun x hx => hle x (List.mem_cons_of_mem _ hx)),
      hK _ _ (hle m List.mem_cons_self), List.filter_cons, List.drop_drop]
    split <;> rfl

namespace Scans
variable {env : CharEnv} {r : Rx} {u : Str → Option Nat}

theorem unit_bounds (h : Scans env r u) (hpos : ∀ t, u t ≠ some 0) (t : Str) (n : Nat) (hn : u t = some n) :
    0 < n ∧ n ≤ t.length :=
  ⟨Nat.pos_of_ne_zero fun e => hpos t (by rw [hn, e]), h.le t n hn⟩

theorem runs_star (h : Scans env r u) (hpos : ∀ t, u t ≠ some 0) (s : Str) (i : Nat) (c : Caps) :
    Rx.runs env s (.rep 0 none true r) i c = (unitEnds u (s.drop i)).map fun n => (i + n, c) := by
  rw [Rx.runs, iter_units s _ u (h.unit_bounds hpos) (fun p c => h.runs s p c) 0 (Nat.zero_le _) _ 0 i c (by omega)]
  simp only [Nat.zero_le, ge_iff_le, if_true, unitEnds_dropLast]

theorem runs_plus (h : Scans env r u) (hpos : ∀ t, u t ≠ some 0) (s : Str) (i : Nat) (c : Caps) :
    Rx.runs env s (.rep 1 none true r) i c = (unitEnds u (s.drop i)).dropLast.map fun n => (i + n, c) := by
  rw [Rx.runs, iter_units s _ u (h.unit_bounds hpos) (fun p c => h.runs s p c) 1 (Nat.le_refl _) _ 0 i c (by omega)]
  simp

/-- `X*K` for a continuation of fixed width `k` that tests the rest of the text and sets captures by `f`. -/
theorem runsSeq_star_then (h : Scans env r u) (hpos : ∀ t, u t ≠ some 0) {s : Str} (K : List Rx) (P : Str → Bool)
    (k : Nat) {f : Nat → Caps → Caps}
    (hK : ∀ p c, p ≤ s.length → runsSeq env s K p c = if P (s.drop p) then [(p + k, f p c)] else [])
    (i : Nat) (c : Caps) (hi : i ≤ s.length) :
    runsSeq env s (.rep 0 none true r :: K) i c =
      (endsSat P u (s.drop i)).map fun n => (i + n + k, f (i + n) c) := by
  rw [RxBasic.runsSeq_cons, h.runs_star hpos s i c, flatMap_then K P k f hK i c _ (ends_le u s i hi), endsSat]

theorem runsSeq_plus_then (h : Scans env r u) (hpos : ∀ t, u t ≠ some 0) {s : Str} (K : List Rx) (P : Str → Bool)
    (k : Nat) {f : Nat → Caps → Caps}
    (hK : ∀ p c, p ≤ s.length → runsSeq env s K p c = if P (s.drop p) then [(p + k, f p c)] else [])
    (i : Nat) (c : Caps) (hi : i ≤ s.length) :
    runsSeq env s (.rep 1 none true r :: K) i c =
      match u (s.drop i) with
      | some n => (endsSat P u ((s.drop i).drop n)).map fun m => (i + (n + m) + k, f (i + (n + m)) c)
      | none => [] := by
  rw [RxBasic.runsSeq_cons, h.runs_plus hpos s i c,
    flatMap_then K P k f hK i c _ (fun m hm => ends_le u s i hi m (List.dropLast_subset _ hm))]
  cases hu : u (s.drop i) with
  | none => rw [unitEnds_none hu]; rfl
  | some n =>
    rw [unitEnds_some hu (h.unit_bounds hpos _ _ hu), List.dropLast_concat, List.filter_map, List.map_map]
    simp only [endsSat, Function.comp_def, List.drop_drop, Nat.add_assoc]

/-- `X*` followed by a continuation that fails wherever a unit starts: the star gives nothing back, the
    continuation starts after the longest run of units. -/
theorem star_then (h : Scans env r u) (hpos : ∀ t, u t ≠ some 0) (s : Str) (rs : List Rx)
    (hk : ∀ j c, (u (s.drop j)).isSome = true → runsSeq env s rs j c = []) (i : Nat) (c : Caps) :
    runsSeq env s (.rep 0 none true r :: rs) i c = runsSeq env s rs (i + unitsLen u (s.drop i)) c := by
  obtain ⟨_, rest, h1, h2⟩ := unitEnds_cut (h.unit_bounds hpos) (s.drop i)
  rw [RxBasic.runsSeq_cons, h.runs_star hpos s i c, h1, List.map_cons, List.flatMap_cons]
  have : (rest.map fun n => (i + n, c)).flatMap (fun x => runsSeq env s rs x.1 x.2) = [] := by
    rw [List.flatMap_eq_nil_iff]
    intro x hx
    obtain ⟨m, hm, rfl⟩ := List.mem_map.1 hx
    exact hk _ _ (by rw [← List.drop_drop]; exact (h2 m hm).2)
  rw [this, List.append_nil]

theorem star_head (h : Scans env r u) (hpos : ∀ t, u t ≠ some 0) (s : Str) (i : Nat) (c : Caps) :
    (Rx.runs env s (.rep 0 none true r) i c).head? = some (i + unitsLen u (s.drop i), c) := by
  obtain ⟨_, rest, h1, _⟩ := unitEnds_cut (h.unit_bounds hpos) (s.drop i)
  rw [h.runs_star hpos s i c, h1]; rfl

end Scans

theorem Scans.plus_head {env : CharEnv} {r : Rx} {u : Str → Option Nat} (h : Scans env r u) (hpos : ∀ t, u t ≠ some 0)
    (s : Str) (i : Nat) (c : Caps) :
    (Rx.runs env s (.rep 1 none true r) i c).head? =
      if (u (s.drop i)).isSome = true then some (i + unitsLen u (s.drop i), c) else none := by
  rw [h.runs_plus hpos s i c]
  cases hu : u (s.drop i) with
  | none => rw [unitEnds_none hu]; rfl
  | some n =>
    obtain ⟨_, rest, h1, _⟩ := unitEnds_cut (h.unit_bounds hpos) ((s.drop i).drop n)
    rw [unitEnds_some hu (h.unit_bounds hpos _ _ hu), List.dropLast_concat, unitsLen_some hu (h.unit_bounds hpos _ _ hu), h1]
    rfl

theorem unitsLen_charLen (P : Nat → Bool) (t : Str) : unitsLen (charLen P) t = (t.takeWhile P).length := by
  induction t with
  | nil => exact unitsLen_none rfl
  | cons c cs ih =>
    by_cases hc : P c = true
    · rw [unitsLen_some (n := 1) (by rw [charLen_cons, if_pos hc]) (by simp), List.drop_succ_cons, List.drop_zero, ih,
        List.takeWhile_cons_of_pos hc, List.length_cons, Nat.add_comm]
    · rw [unitsLen_none (by rw [charLen_cons, if_neg hc]), List.takeWhile_cons_of_neg hc]; rfl

/-- `\Z` as a continuation that tests the rest of the text (the form `Scans.runsSeq_star_then` takes). -/
theorem runsSeq_eos_isEmpty (env : CharEnv) (s : Str) (p : Nat) (c : Caps) (hp : p ≤ s.length) :
    runsSeq env s [.eos] p c = if (s.drop p).isEmpty = true then [(p + 0, c)] else [] := by
  have e : ((s.drop p).isEmpty = true) = (p = s.length) := by
    rw [List.isEmpty_iff, List.drop_eq_nil_iff, eq_iff_iff]; omega
  simp only [runsSeq_eos, e, Nat.add_zero]

theorem endsSat_isEmpty_charLen (P : Nat → Bool) (t : Str) :
    endsSat List.isEmpty (charLen P) t = if t.all P = true then [t.length] else [] := by
  induction t with
  | nil => rw [endsSat_none _ rfl]; rfl
  | cons x t ih =>
    by_cases hx : P x = true
    · rw [endsSat_some (n := 1) _ (by rw [charLen_cons, if_pos hx]) (by simp), List.drop_succ_cons, List.drop_zero, ih]
      by_cases ha : t.all P = true <;> simp [hx, ha, Nat.add_comm]
    · rw [endsSat_none _ (by rw [charLen_cons, if_neg hx])]; simp [hx]

/-! ## 3. A lazy star over a piece with at most one run -/

theorem iter_lazy_succ (body : Nat → Caps → List (Nat × Caps)) (fuel count pos : Nat) (caps : Caps) :
    iter body 0 none false (fuel + 1) count pos caps =
      (pos, caps) :: (body pos caps).flatMap fun x =>
        if x.1 > pos then iter body 0 none false fuel (count + 1) x.1 x.2 else [x] := by
  rw [iter_succ]
  simp [canMore]

/-- First success of a continuation `K` tried at the successive unit boundaries from `p` on (`u p` is where the
    unit that starts at `p` ends). -/
def lazyHead {β : Type} (u : Nat → Option Nat) (K : Nat → Option β) : Nat → Nat → Option β
  | 0, _ => none
  | f + 1, p =>
    match K p with
    | some v => some v
    | none =>
      match u p with
      | some q => lazyHead u K f q
      | none => none

/-- A lazy `X*?` over a body with at most one run (to `u p`, beyond `p`), from inside the repetition and in front
    of any continuation `K`: the first success of `K` at the successive unit boundaries. -/
theorem iter_lazy {β : Type} (body : Nat → Caps → List (Nat × Caps)) (u : Nat → Option Nat)
    (hb : ∀ p c, body p c = one (u p) c) (hu : ∀ p q, u p = some q → p < q) (K : Nat × Caps → List β)
    (caps : Caps) : ∀ (fuel count pos : Nat),
      ((iter body 0 none false fuel count pos caps).flatMap K).head? =
        lazyHead u (fun p => (K (p, caps)).head?) fuel pos := by
  intro fuel
  induction fuel with
  | zero => intro _ _; rw [iter]; rfl
  | succ fuel ih =>
    intro count pos
    rw [iter_lazy_succ, List.flatMap_cons, lazyHead, hb pos caps]
    cases hk : (K (pos, caps)).head? with
    | some v => exact head?_append_of_some hk
    | none =>
      have : K (pos, caps) = [] := by
        cases hl : K (pos, caps) with
        | nil => rfl
        | cons a l => rw [hl] at hk; cases hk
      rw [this, List.nil_append]
      cases hq : u pos with
      | none => rfl
      | some q =>
        simp only [one, List.flatMap_cons, List.flatMap_nil, List.append_nil, hu pos q hq, if_true]
        exact ih (count + 1) q

/-- A lazy `X*?` over a piece with at most one run, followed by `rs`.  For a scanner `u` is `atDrop len s`. -/
theorem lazy_then {env : CharEnv} {s : Str} {r : Rx} {u : Nat → Option Nat}
    (hb : ∀ p c, runs env s r p c = one (u p) c) (hu : ∀ p q, u p = some q → p < q) (rs : List Rx) (i : Nat)
    (caps : Caps) :
    (runsSeq env s (.rep 0 none false r :: rs) i caps).head? =
      lazyHead u (fun p => (runsSeq env s rs p caps).head?) (s.length - i + 0 + 2) i := by
  rw [RxBasic.runsSeq_cons, runs]
  exact iter_lazy _ u hb hu (fun x => runsSeq env s rs x.1 x.2) caps _ 0 i

end RxBasic
end SoupVerif
