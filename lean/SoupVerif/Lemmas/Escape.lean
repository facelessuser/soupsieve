/-
  Lemmas about the model of `escape` / `IDENTIFIER` / `css_unescape` (Model/Escape.lean): the scanners
  one step at a time, `hexDigits` (`f'{n:x}'`) with its inverse `hexVal`, and the shapes of `escape s`.  No Mathlib.
-/
import SoupVerif.Model.Escape
namespace SoupVerif
namespace EscapeLemmas
open Escape

/-! ### Boolean predicates as arithmetic -/

theorem isHex_iff (c : Nat) :
    isHex c = true ↔ (48 ≤ c ∧ c ≤ 57) ∨ (65 ≤ c ∧ c ≤ 70) ∨ (97 ≤ c ∧ c ≤ 102) := by
  simp [isHex, or_assoc]

theorem isHex_false_iff (c : Nat) :
    isHex c = false ↔ ¬ ((48 ≤ c ∧ c ≤ 57) ∨ (65 ≤ c ∧ c ≤ 70) ∨ (97 ≤ c ∧ c ≤ 102)) := by
  rw [← isHex_iff]; simp

theorem identContChar_iff (c : Nat) :
    identContChar c = true ↔
      c = 45 ∨ (48 ≤ c ∧ c ≤ 57) ∨ (65 ≤ c ∧ c ≤ 90) ∨ c = 95 ∨ (97 ≤ c ∧ c ≤ 122) ∨ 128 ≤ c := by
  simp [identContChar, or_assoc]

theorem identContChar_false_iff (c : Nat) :
    identContChar c = false ↔
      ¬ (c = 45 ∨ (48 ≤ c ∧ c ≤ 57) ∨ (65 ≤ c ∧ c ≤ 90) ∨ c = 95 ∨ (97 ≤ c ∧ c ≤ 122) ∨ 128 ≤ c) := by
  rw [← identContChar_iff]; simp

theorem identStartChar_iff (c : Nat) :
    identStartChar c = true ↔ (65 ≤ c ∧ c ≤ 90) ∨ c = 95 ∨ (97 ≤ c ∧ c ≤ 122) ∨ 128 ≤ c := by
  simp [identStartChar, or_assoc]

theorem identStartChar_false_iff (c : Nat) :
    identStartChar c = false ↔ ¬ ((65 ≤ c ∧ c ≤ 90) ∨ c = 95 ∨ (97 ≤ c ∧ c ≤ 122) ∨ 128 ≤ c) := by
  rw [← identStartChar_iff]; simp

theorem isCssWs_iff (c : Nat) :
    isCssWs c = true ↔ c = 32 ∨ c = 9 ∨ c = 13 ∨ c = 10 ∨ c = 12 := by
  simp [isCssWs, or_assoc]

/-! ### `hexDigits`: `f'{n:x}'` and its inverse `int(…, 16)` -/

theorem hexDigitsF_indep : ∀ f g n, n < f → n < g → hexDigitsF f n = hexDigitsF g n := by
  intro f
  induction f with
  | zero => intro g n h; omega
  | succ f ih =>
    intro g n hf hg
    cases g with
    | zero => omega
    | succ g =>
      simp only [hexDigitsF]
      split
      · rfl
      · rw [ih g (n / 16) (by omega) (by omega)]

/-- The defining recursion of `f'{n:x}'`; the fuel of `hexDigits` is never exhausted. -/
theorem hexDigits_eq (n : Nat) :
    hexDigits n = if n < 16 then [hexDigit n] else hexDigits (n / 16) ++ [hexDigit (n % 16)] := by
  rw [hexDigits, hexDigitsF]
  split
  · rfl
  · rw [hexDigits, hexDigitsF_indep n (n / 16 + 1) (n / 16) (by omega) (by omega)]

theorem hexDigitVal_hexDigit (d : Nat) (h : d < 16) : hexDigitVal (hexDigit d) = d := by
  unfold hexDigitVal hexDigit
  split <;> split <;> (try split) <;> omega

theorem isHex_hexDigit (d : Nat) (h : d < 16) : isHex (hexDigit d) = true := by
  rw [isHex_iff]; unfold hexDigit; split <;> omega

theorem hexVal_snoc (s : Str) (c : Nat) : hexVal (s ++ [c]) = hexVal s * 16 + hexDigitVal c := by
  simp [hexVal, List.foldl_append]

/-- `int(f'{n:x}', 16) == n` for every `n`. -/
theorem hexVal_hexDigits (n : Nat) : hexVal (hexDigits n) = n := by
  induction n using Nat.strongRecOn with
  | _ n ih =>
    rw [hexDigits_eq]
    split
    · next h => simp [hexVal, hexDigitVal_hexDigit n h]
    · next h =>
      rw [hexVal_snoc, ih (n / 16) (by omega), hexDigitVal_hexDigit _ (Nat.mod_lt _ (by omega))]
      omega

theorem hexDigits_ne_nil (n : Nat) : hexDigits n ≠ [] := by
  rw [hexDigits_eq]; split <;> simp

theorem hexDigits_allHex (n : Nat) : ∀ d ∈ hexDigits n, isHex d = true := by
  induction n using Nat.strongRecOn with
  | _ n ih =>
    rw [hexDigits_eq]
    split
    · next h => intro d hd; simp at hd; subst hd; exact isHex_hexDigit n h
    · next h =>
      intro d hd
      rw [List.mem_append] at hd
      rcases hd with hd | hd
      · exact ih (n / 16) (by omega) d hd
      · simp at hd; subst hd; exact isHex_hexDigit _ (Nat.mod_lt _ (by omega))

/-- Every character of `f'{n:x}'` is a *lower-case* hex digit. -/
theorem hexDigits_lower (n : Nat) : ∀ d ∈ hexDigits n, (48 ≤ d ∧ d ≤ 57) ∨ (97 ≤ d ∧ d ≤ 102) := by
  have hd : ∀ k, k < 16 → (48 ≤ hexDigit k ∧ hexDigit k ≤ 57) ∨ (97 ≤ hexDigit k ∧ hexDigit k ≤ 102) := by
    intro k hk; unfold hexDigit; split <;> omega
  induction n using Nat.strongRecOn with
  | _ n ih =>
    rw [hexDigits_eq]
    split
    · next h => intro d hm; simp at hm; subst hm; exact hd n h
    · next h =>
      intro d hm
      rw [List.mem_append] at hm
      rcases hm with hm | hm
      · exact ih (n / 16) (by omega) d hm
      · simp at hm; subst hm; exact hd _ (Nat.mod_lt _ (by omega))

theorem hexDigits_length_le : ∀ k n, n < 16 ^ (k + 1) → (hexDigits n).length ≤ k + 1 := by
  intro k
  induction k with
  | zero => intro n h; rw [hexDigits_eq, if_pos (by omega)]; simp
  | succ k ih =>
    intro n h
    rw [hexDigits_eq]
    split
    · simp
    · have : n / 16 < 16 ^ (k + 1) := by
        rw [Nat.div_lt_iff_lt_mul (by omega)]; rw [Nat.pow_succ] at h; exact h
      have := ih (n / 16) this
      simp; omega

/-- Code points (`< 0x110000 < 16^6`) have at most six hex digits. -/
theorem hexDigits_length_le_six (n : Nat) (h : n < 0x1000000) : (hexDigits n).length ≤ 6 :=
  hexDigits_length_le 5 n (by omega)

theorem hexDigits_length_le_two (n : Nat) (h : n < 256) : (hexDigits n).length ≤ 2 :=
  hexDigits_length_le 1 n (by omega)

theorem hexDigits_length_pos (n : Nat) : 0 < (hexDigits n).length := by
  cases h : hexDigits n with
  | nil => exact absurd h (hexDigits_ne_nil n)
  | cons _ _ => simp

theorem hexRun_eq_min : ∀ (k : Nat) (t : Str), hexRun k t = min (t.takeWhile isHex).length k
  | 0, t => by cases t <;> simp [hexRun]
  | k + 1, [] => by simp [hexRun]
  | k + 1, c :: cs => by
    rw [hexRun, List.takeWhile_cons]
    by_cases hc : isHex c = true
    · simp only [hc, if_true, List.length_cons, hexRun_eq_min k cs]; omega
    · simp [hc]

theorem hexRun_le (k : Nat) (t : Str) : hexRun k t ≤ t.length := by
  rw [hexRun_eq_min]
  have := (List.takeWhile_sublist (l := t) isHex).length_le
  omega

theorem wsLen_le (t : Str) : wsLen t ≤ t.length := by
  cases t with
  | nil => simp [wsLen]
  | cons c cs =>
    simp only [wsLen]
    split
    · rename_i hc
      rw [Bool.and_eq_true] at hc
      cases cs with
      | nil => simp at hc
      | cons _ _ => simp
    · split <;> simp

theorem hexRun_append (ds t : Str) :
    ∀ k, (∀ d ∈ ds, isHex d = true) → ds.length ≤ k → (∀ c ∈ t.head?, isHex c = false) →
      hexRun k (ds ++ t) = ds.length := by
  induction ds with
  | nil =>
    intro k _ _ ht
    cases k with
    | zero => rfl
    | succ k =>
      cases t with
      | nil => rfl
      | cons c t => simp [hexRun, ht c (by simp)]
  | cons d ds ih =>
    intro k hd hk ht
    cases k with
    | zero => simp at hk
    | succ k =>
      have h1 : isHex d = true := hd d (by simp)
      have h2 := ih k (fun x hx => hd x (by simp [hx])) (by simpa using hk) ht
      simp [hexRun, h1, h2]

theorem scanCont_succ (k c : Nat) (cs : Str) :
    scanCont (k + 1) (c :: cs) = (c :: (scanCont k cs).1, (scanCont k cs).2) := by
  simp [scanCont]

theorem scanCont_zero_cons (c : Nat) (cs : Str) :
    scanCont 0 (c :: cs) =
      if identContChar c then (c :: (scanCont 0 cs).1, (scanCont 0 cs).2)
      else match escLen (c :: cs) with
        | some n => (c :: (scanCont (n - 1) cs).1, (scanCont (n - 1) cs).2)
        | none => ([], c :: cs) := by
  rw [scanCont]; rfl

theorem scanCont_copy (p t : Str) :
    ∀ k, p.length = k → scanCont k (p ++ t) = (p ++ (scanCont 0 t).1, (scanCont 0 t).2) := by
  induction p with
  | nil => intro k hk; simp at hk; subst hk; simp
  | cons c p ih =>
    intro k hk
    cases k with
    | zero => simp at hk
    | succ k =>
      have := ih k (by simpa using hk)
      simp [scanCont_succ, this]

theorem cssUnescapeAux_drop : ∀ (k : Nat) (l : Str), cssUnescapeAux k l = cssUnescapeAux 0 (l.drop k)
  | 0, l => by simp
  | k + 1, [] => by simp [cssUnescapeAux]
  | k + 1, c :: cs => by
    rw [cssUnescapeAux, List.drop_succ_cons]; exact cssUnescapeAux_drop k cs

theorem cssUnescapeRaisesAux_drop : ∀ (k : Nat) (l : Str),
    cssUnescapeRaisesAux k l = cssUnescapeRaisesAux 0 (l.drop k)
  | 0, l => by simp
  | k + 1, [] => by simp [cssUnescapeRaisesAux]
  | k + 1, c :: cs => by
    rw [cssUnescapeRaisesAux, List.drop_succ_cons]; exact cssUnescapeRaisesAux_drop k cs

theorem cssUnescapeRaisesAux_skip (p t : Str) :
    ∀ k, p.length = k → cssUnescapeRaisesAux k (p ++ t) = cssUnescapeRaisesAux 0 t := by
  intro k hk; rw [cssUnescapeRaisesAux_drop, ← hk, List.drop_left]

theorem scanCont_esc (p t : Str) (h : escLen (92 :: (p ++ t)) = some (p.length + 1)) :
    scanCont 0 (92 :: (p ++ t)) = (92 :: p ++ (scanCont 0 t).1, (scanCont 0 t).2) := by
  rw [scanCont_zero_cons, if_neg (by decide), h]
  simp [scanCont_copy p t p.length rfl]

theorem scanCont_stop (r : Str) (h : continuesIdent r = false) : scanCont 0 r = ([], r) := by
  cases r with
  | nil => rfl
  | cons c cs =>
    simp only [continuesIdent, Bool.or_eq_false_iff] at h
    rw [scanCont_zero_cons, if_neg (by simp [h.1])]
    have : escLen (c :: cs) = none := by
      have h2 : c ≠ 92 := by simpa using h.2
      simp [escLen, h2]
    rw [this]

/-! ### The three shapes of `escape s` for non-empty `s` -/

theorem escape_dash : escape [45] = [92, 45] := by decide

theorem escape_cons_ne_dash (c : Nat) (cs : Str) (h : c ≠ 45) :
    escape (c :: cs) = escapeChar true c ++ escapeGo false 1 cs := by
  have hsd : startDash (c :: cs) = false := by simp [startDash, h]
  simp [escape, hsd, escapeGo]

theorem escape_dash_cons (c : Nat) (cs : Str) :
    escape (45 :: c :: cs) = 45 :: (escapeChar true c ++ escapeGo true 2 cs) := by
  have hsd : startDash (45 :: c :: cs) = true := by simp [startDash]
  have h45 : escapeChar true 45 = [45] := by decide
  simp [escape, hsd, escapeGo, h45]

theorem escape_eq_dash_or_go (s : Str) :
    (s = [45] ∧ escape s = [92, 45]) ∨ escape s = escapeGo (startDash s) 0 s := by
  by_cases h : (s.length == 1 && startDash s) = true
  · have hs : s = [45] := by
      cases s with
      | nil => simp at h
      | cons c cs =>
        cases cs with
        | nil => simp [startDash] at h; simp [h]
        | cons _ _ => simp at h
    exact .inl ⟨hs, by rw [hs]; decide⟩
  · exact .inr (by simp only [escape, h, Bool.false_eq_true, if_false])

/-! ### `headLen`: the start of an identifier -/

theorem headLen_of_ne_dash (s : Str) (h : s.head? ≠ some 45) : headLen s = startLen s := by
  cases s with
  | nil => rfl
  | cons c cs =>
    have : c ≠ 45 := by simpa using h
    simp [headLen, this]

theorem headLen_dash_dash (t : Str) : headLen (45 :: 45 :: t) = some 2 := by
  simp [headLen, startLen, identStartChar, escLen]

theorem scanIdent_of_headLen (p g r : Str) (hh : headLen (p ++ (g ++ r)) = some p.length)
    (hg : scanCont 0 (g ++ r) = (g ++ (scanCont 0 r).1, (scanCont 0 r).2)) :
    scanIdent ((p ++ g) ++ r) = some ((p ++ g) ++ (scanCont 0 r).1, (scanCont 0 r).2) := by
  simp [scanIdent, List.append_assoc, hh, scanCont_copy p (g ++ r) p.length rfl, hg]

/-! ### What a scanner takes lies inside the text -/

theorem escLen_of_ne {c : Nat} (cs : Str) (hc : c ≠ 92) : escLen (c :: cs) = none := by
  simp [escLen, hc]

theorem escLen_bounds {t : Str} {n : Nat} (h : escLen t = some n) : 1 ≤ n ∧ n ≤ t.length := by
  cases t with
  | nil => simp [escLen] at h
  | cons b cs =>
    by_cases hb' : b ≠ 92
    · simp [escLen, hb'] at h
    have hb : b = 92 := by omega
    subst hb
    cases cs with
    | nil => simp [escLen] at h; subst h; simp
    | cons d ds =>
      by_cases hx : isHex d = true
      · simp only [escLen, bne_self_eq_false, Bool.false_eq_true, if_false, hx, if_true,
          Option.some.injEq] at h
        have h1 := hexRun_le 6 (d :: ds)
        have h2 := wsLen_le ((d :: ds).drop (hexRun 6 (d :: ds)))
        rw [List.length_drop] at h2
        simp only [List.length_cons] at *
        omega
      · simp only [escLen, bne_self_eq_false, Bool.false_eq_true, if_false, hx] at h
        split at h
        · cases h
        · cases h; simp

theorem startLen_bounds {t : Str} {n : Nat} (h : startLen t = some n) : 1 ≤ n ∧ n ≤ t.length := by
  cases t with
  | nil => simp [startLen] at h
  | cons c cs =>
    rw [startLen] at h
    split at h
    · cases h; simp
    · exact escLen_bounds h

theorem startLen_dash (cs : Str) : startLen (45 :: cs) = none := by
  rw [startLen, if_neg (by decide), escLen_of_ne cs (by decide)]

/-! ### `scanCont` from a later count; the two parts of a scan make the text -/

theorem scanCont_take (k : Nat) (t : Str) (hk : k ≤ t.length) :
    scanCont k t = (t.take k ++ (scanCont 0 (t.drop k)).1, (scanCont 0 (t.drop k)).2) := by
  have := scanCont_copy (t.take k) (t.drop k) k (by simp [hk])
  rwa [List.take_append_drop] at this

theorem scanCont_append : ∀ (k : Nat) (t : Str), (scanCont k t).1 ++ (scanCont k t).2 = t := by
  intro k t
  fun_induction scanCont k t
  · rfl
  · rename_i ih; simpa using ih
  · rename_i ih; simpa using ih
  · rename_i ih; simpa using ih
  · rfl

theorem scanIdent_split {t : Str} {r : Str × Str} (h : scanIdent t = some r) : r.1 ++ r.2 = t := by
  unfold scanIdent at h
  cases hh : headLen t with
  | none => rw [hh] at h; cases h
  | some n => rw [hh] at h; cases h; exact scanCont_append n t

theorem scanPrefixed_split {q : Nat} {t : Str} {r : Str × Str} (h : scanPrefixed q t = some r) :
    r.1 ++ r.2 = t := by
  cases t with
  | nil => cases h
  | cons c cs =>
    rw [scanPrefixed] at h
    split at h
    · cases hi : scanIdent cs with
      | none => rw [hi] at h; cases h
      | some r' => rw [hi] at h; cases h; simp [scanIdent_split hi]
    · cases h

end EscapeLemmas
end SoupVerif
