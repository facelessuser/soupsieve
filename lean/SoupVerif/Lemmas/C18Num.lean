/-
  Helper lemmas for C18 (numbers): the `RE_NUM` scanner `Inputs.shapeNum` accepts exactly the
  declarative HTML floating-point-number grammar `Spec.numShape`, with the same value.
-/
import SoupVerif.Lemmas.C18Inputs
namespace SoupVerif
namespace Inputs
open Spec

/-! `scanExp`, `scanMant` and `stripSign` are the body of `Inputs.shapeNum` cut in three, so that `shapeNum_eq`
  holds by unfolding and each part can be compared with its clause of `Spec.numShape`. -/

/-- Exponent part of `shapeNum`. -/
def scanExp : Str → Option Int
  | [] => some 0
  | e :: r' =>
    if e == 101 || e == 69 then
      let (eneg, r'') := match r' with
        | 45 :: t => (true, t)
        | 43 :: t => (false, t)
        | _ => (false, r')
      if allDigits r'' then
        some (if eneg then - (Int.ofNat (digitsVal r'')) else Int.ofNat (digitsVal r''))
      else none
    else none

/-- Mantissa part of `shapeNum`: fraction digits and the rest. -/
def scanMant (s : Str) : Option (Str × Str) :=
  let ip := s.takeWhile isDigit
  let r := s.dropWhile isDigit
  match r with
  | 46 :: r' =>
    let fp := r'.takeWhile isDigit
    if fp.isEmpty then none else some (fp, r'.dropWhile isDigit)
  | _ => if ip.isEmpty then none else some ([], r)

/-- Sign part of `shapeNum`: whether a `-` leads, and the rest. -/
def stripSign (s : Str) : Bool × Str :=
  match s with
  | 45 :: r => (true, r)
  | _ => (false, s)

theorem shapeNum_eq (s : Str) :
    shapeNum s =
      match scanMant (stripSign s).2 with
      | none => none
      | some (fp, r) =>
        match scanExp r with
        | none => none
        | some e =>
          some (.num (stripSign s).1 (digitsVal ((stripSign s).2.takeWhile isDigit ++ fp))
            (e - Int.ofNat fp.length)) := by
  unfold shapeNum
  split
  rename_i x neg t heq
  have hs : stripSign s = (neg, t) := by
    rw [← heq]; rfl
  rw [hs]
  rfl

theorem stripSign_neg (t : Str) : stripSign (45 :: t) = (true, t) := rfl

theorem stripSign_pos (s : Str) (h : ∀ c, s.head? = some c → c ≠ 45) :
    stripSign s = (false, s) := by
  unfold stripSign
  split
  · exact absurd rfl (h 45 rfl)
  · rfl

theorem takeWhile_digits (s : Str) : digits (s.takeWhile isDigit) := by
  intro c hc
  induction s with
  | nil => simp at hc
  | cons x xs ih =>
    by_cases hx : isDigit x = true
    · rw [List.takeWhile_cons_of_pos hx] at hc
      rcases List.mem_cons.1 hc with rfl | h
      · exact (isDigit_iff _).1 hx
      · exact ih h
    · rw [List.takeWhile_cons_of_neg hx] at hc; simp at hc

/-- A "stopper": the remaining input is empty or starts with a non-digit. -/
def stops (r : Str) : Prop := ∀ c, r.head? = some c → isDigit c = false

theorem span_digits {ds r : Str} (hd : digits ds) (hr : stops r) :
    (ds ++ r).takeWhile isDigit = ds ∧ (ds ++ r).dropWhile isDigit = r := by
  have hp : ∀ a ∈ ds, isDigit a = true := fun a ha => (isDigit_iff a).2 (hd a ha)
  rw [List.takeWhile_append_of_pos hp, List.dropWhile_append_of_pos hp]
  cases r with
  | nil => simp
  | cons x xs =>
    have hx : ¬ isDigit x = true := by simp [hr x rfl]
    rw [List.takeWhile_cons_of_neg hx, List.dropWhile_cons_of_neg hx]
    simp

theorem scanMant_dot {s r' : Str} (h : s.dropWhile isDigit = 46 :: r') :
    scanMant s = if (r'.takeWhile isDigit).isEmpty then none
      else some (r'.takeWhile isDigit, r'.dropWhile isDigit) := by
  unfold scanMant
  simp only [h]

theorem scanMant_nodot {s : Str} (h : ∀ r', s.dropWhile isDigit ≠ 46 :: r') :
    scanMant s = if (s.takeWhile isDigit).isEmpty then none
      else some ([], s.dropWhile isDigit) := by
  unfold scanMant
  simp only

theorem scanMant_some {s fp r : Str} (h : scanMant s = some (fp, r)) :
    ∃ m, s = m ++ r ∧ mantShape m (s.takeWhile isDigit) fp := by
  have hsplit : s.takeWhile isDigit ++ s.dropWhile isDigit = s := List.takeWhile_append_dropWhile
  have hip := takeWhile_digits s
  unfold scanMant at h
  simp only at h
  split at h
  · rename_i r' hr
    split at h
    · cases h
    · rename_i hne
      simp only [Option.some.injEq, Prod.mk.injEq] at h
      obtain ⟨rfl, rfl⟩ := h
      have hne' : r'.takeWhile isDigit ≠ [] := by simpa using hne
      refine ⟨s.takeWhile isDigit ++ 46 :: r'.takeWhile isDigit, ?_, hip, takeWhile_digits r', Or.inr ⟨hne', rfl⟩⟩
      rw [List.append_assoc, List.cons_append, List.takeWhile_append_dropWhile, ← hr, hsplit]
  · split at h
    · cases h
    · rename_i hne
      simp only [Option.some.injEq, Prod.mk.injEq] at h
      obtain ⟨rfl, rfl⟩ := h
      have hne' : s.takeWhile isDigit ≠ [] := by simpa using hne
      exact ⟨s.takeWhile isDigit, hsplit.symm, hip, by intro c hc; simp at hc, Or.inl ⟨rfl, hne', rfl⟩⟩

/-- `scanMant`, backward: a mantissa followed by a stopper that is not `.` scans as itself. -/
theorem scanMant_of_shape {m ip fp r : Str} (hm : mantShape m ip fp) (hr : stops r)
    (h46 : ∀ c, r.head? = some c → c ≠ 46) :
    scanMant (m ++ r) = some (fp, r) ∧ (m ++ r).takeWhile isDigit = ip := by
  obtain ⟨hip, hfp, h | h⟩ := hm
  · obtain ⟨rfl, hne, rfl⟩ := h
    obtain ⟨e1, e2⟩ := span_digits hip hr
    refine ⟨?_, e1⟩
    have hnd : ∀ r', (m ++ r).dropWhile isDigit ≠ 46 :: r' := by
      intro r' hr'
      rw [e2] at hr'
      exact h46 46 (by rw [hr']; rfl) rfl
    rw [scanMant_nodot hnd, e1, e2]
    have : m.isEmpty = false := by simpa using hne
    simp [this]
  · obtain ⟨hne, rfl⟩ := h
    have hs46 : stops (46 :: (fp ++ r)) := by
      intro c hc
      simp only [List.head?_cons, Option.some.injEq] at hc
      subst hc; decide
    have e := span_digits hip hs46
    have e' := span_digits hfp hr
    have ea : (ip ++ 46 :: fp) ++ r = ip ++ 46 :: (fp ++ r) := by simp
    rw [ea]
    refine ⟨?_, e.1⟩
    rw [scanMant_dot e.2, e'.1, e'.2]
    have : fp.isEmpty = false := by simpa using hne
    simp [this]

theorem allDigits_iff (s : Str) : allDigits s = true ↔ s ≠ [] ∧ digits s := by
  cases s with
  | nil => simp [allDigits]
  | cons x xs => simp [allDigits, digits, isDigit_iff]

theorem scanExp_iff (x : Str) (e : Int) : scanExp x = some e ↔ expShape x e := by
  unfold expShape
  cases x with
  | nil =>
    simp only [scanExp, Option.some.injEq, true_and]
    constructor
    · intro h; exact Or.inl h.symm
    · rintro (h | ⟨c, ed, -, -, -, h | h | h⟩)
      · exact h.symm
      all_goals exact absurd h.1 (by simp)
  | cons c r =>
    have hdig45 : ∀ {ed : Str}, digits ed → ∀ t, ed ≠ 45 :: t := by
      intro ed hd t h; subst h
      have := hd 45 (by simp); unfold digit at this; omega
    have hdig43 : ∀ {ed : Str}, digits ed → ∀ t, ed ≠ 43 :: t := by
      intro ed hd t h; subst h
      have := hd 43 (by simp); unfold digit at this; omega
    unfold scanExp
    by_cases hc : (c == 101 || c == 69) = true
    · have hc' : c = 101 ∨ c = 69 := by simpa using hc
      simp only [hc, if_true]
      constructor
      · intro h
        right
        split at h
        · rename_i t
          simp only at h
          split at h
          · rename_i hd
            rw [allDigits_iff] at hd
            simp only [if_true, Option.some.injEq] at h
            exact ⟨c, t, hc', hd.2, hd.1, Or.inr (Or.inr ⟨rfl, by rw [← h, digitsVal_eq]⟩)⟩
          · cases h
        · rename_i t
          simp only at h
          split at h
          · rename_i hd
            rw [allDigits_iff] at hd
            simp only [Bool.false_eq_true, if_false, Option.some.injEq] at h
            exact ⟨c, t, hc', hd.2, hd.1, Or.inr (Or.inl ⟨rfl, by rw [← h, digitsVal_eq]⟩)⟩
          · cases h
        · simp only at h
          split at h
          · rename_i hd
            rw [allDigits_iff] at hd
            simp only [Bool.false_eq_true, if_false, Option.some.injEq] at h
            exact ⟨c, r, hc', hd.2, hd.1, Or.inl ⟨rfl, by rw [← h, digitsVal_eq]⟩⟩
          · cases h
      · rintro (h | ⟨c', ed, hc'', hd, hne, h | h | h⟩)
        · exact absurd h.1 (by simp)
        · obtain ⟨h1, rfl⟩ := h
          simp only [List.cons.injEq] at h1
          obtain ⟨rfl, rfl⟩ := h1
          have had := (allDigits_iff r).2 ⟨hne, hd⟩
          have h45 := hdig45 hd
          have h43 := hdig43 hd
          simp [had, digitsVal_eq]
        · obtain ⟨h1, rfl⟩ := h
          simp only [List.cons.injEq] at h1
          obtain ⟨rfl, rfl⟩ := h1
          have had := (allDigits_iff ed).2 ⟨hne, hd⟩
          simp [had, digitsVal_eq]
        · obtain ⟨h1, rfl⟩ := h
          simp only [List.cons.injEq] at h1
          obtain ⟨rfl, rfl⟩ := h1
          have had := (allDigits_iff ed).2 ⟨hne, hd⟩
          simp [had, digitsVal_eq]
    · have hc' : ¬ (c = 101 ∨ c = 69) := by simpa using hc
      simp only [hc]
      constructor
      · intro h; cases h
      · rintro (h | ⟨c', ed, hc'', -, -, h | h | h⟩)
        · exact absurd h.1 (by simp)
        all_goals
          have := h.1
          simp only [List.cons.injEq] at this
          exact absurd (this.1 ▸ hc'') hc'

theorem expShape_stops {x : Str} {e : Int} (h : expShape x e) :
    stops x ∧ ∀ c, x.head? = some c → c ≠ 46 := by
  rcases h with ⟨rfl, -⟩ | ⟨c, ed, hc, -, -, h | h | h⟩
  · constructor <;> intro c hc <;> simp at hc
  all_goals
    obtain ⟨rfl, -⟩ := h
    constructor <;>
      (intro c' hc'
       simp only [List.head?_cons, Option.some.injEq] at hc'
       subst hc'
       rcases hc with rfl | rfl <;> decide)

theorem mantShape_head {m ip fp r : Str} (h : mantShape m ip fp) :
    ∀ c, (m ++ r).head? = some c → c ≠ 45 := by
  intro c hc hc45
  subst hc45
  obtain ⟨hip, hfp, h | h⟩ := h
  · obtain ⟨-, hne, rfl⟩ := h
    cases m with
    | nil => exact hne rfl
    | cons x xs =>
      simp only [List.cons_append, List.head?_cons, Option.some.injEq] at hc
      subst hc
      have := hip 45 (by simp); unfold digit at this; omega
  · obtain ⟨-, rfl⟩ := h
    cases ip with
    | nil => simp at hc
    | cons x xs =>
      simp only [List.cons_append, List.head?_cons, Option.some.injEq] at hc
      subst hc
      have := hip 45 (by simp); unfold digit at this; omega

/-- The `RE_NUM` scanner accepts exactly the declarative number grammar, with the same value. -/
theorem shapeNum_iff (s : Str) (neg : Bool) (mant : Nat) (exp : Int) :
    shapeNum s = some (.num neg mant exp) ↔ numShape s neg mant exp := by
  rw [shapeNum_eq]
  constructor
  · intro h
    have hsign : s = (if (stripSign s).1 then [45] else []) ++ (stripSign s).2 := by
      unfold stripSign; split <;> simp
    cases hm : scanMant (stripSign s).2 with
    | none => simp [hm] at h
    | some p =>
      obtain ⟨fp, r⟩ := p
      cases he : scanExp r with
      | none => simp [hm, he] at h
      | some e =>
        simp only [hm, he, Option.some.injEq, PVal.num.injEq] at h
        obtain ⟨h1, h2, h3⟩ := h
        obtain ⟨m, hs, hms⟩ := scanMant_some hm
        refine ⟨m, _, fp, r, e, ?_, hms, (scanExp_iff _ _).1 he, ?_, h3.symm⟩
        · rw [← h1, ← hs]; exact hsign
        · rw [← h2, digitsVal_eq]
  · rintro ⟨m, ip, fp, x, e, rfl, hm, hx, rfl, rfl⟩
    obtain ⟨hst, h46⟩ := expShape_stops hx
    obtain ⟨e1, e2⟩ := scanMant_of_shape hm hst h46
    have hss : stripSign ((if neg then [45] else []) ++ (m ++ x)) = (neg, m ++ x) := by
      cases neg
      · simp only [Bool.false_eq_true, if_false, List.nil_append]
        exact stripSign_pos _ (mantShape_head hm)
      · exact stripSign_neg _
    rw [hss]
    simp only [e1, e2, (scanExp_iff _ _).2 hx, digitsVal_eq]

theorem shapeNum_some_num (s : Str) (v : PVal) (h : shapeNum s = some v) :
    ∃ neg mant exp, v = .num neg mant exp := by
  rw [shapeNum_eq] at h
  split at h
  · cases h
  · split at h
    · cases h
    · injection h with h; exact ⟨_, _, _, h.symm⟩

end Inputs
end SoupVerif
