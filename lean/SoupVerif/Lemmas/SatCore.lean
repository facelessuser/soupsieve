/-
  The matcher on the IR produced by `Spec/CssCompile`, field by field, against the meaning of `Spec/Css`.
-/
import SoupVerif.Spec.CssCompile
import SoupVerif.Lemmas.SatTree
import SoupVerif.Lemmas.SatWords
import SoupVerif.Lemmas.MatchAlgebra
import SoupVerif.Lemmas.List
namespace SoupVerif
namespace SatCore
open Css SatTree

/-- The builder starts without flags; `4 = (SEL_EMPTY ||| SEL_ROOT) + 1`. -/
theorem flags_init : ({} : Parts).flags < 4 := by decide

theorem flags_cases (f : Nat) (h : f < 4) : f = 0 ∨ f = 1 ∨ f = 2 ∨ f = 3 := by omega

theorem flags_or_root (f : Nat) (h : f < 4) :
    (f ||| SEL_ROOT) < 4 ∧ hasFlag (f ||| SEL_ROOT) SEL_ROOT = true ∧
      hasFlag (f ||| SEL_ROOT) SEL_EMPTY = hasFlag f SEL_EMPTY := by
  rcases flags_cases f h with rfl | rfl | rfl | rfl <;> decide

theorem flags_or_empty (f : Nat) (h : f < 4) :
    (f ||| SEL_EMPTY) < 4 ∧ hasFlag (f ||| SEL_EMPTY) SEL_EMPTY = true ∧
      hasFlag (f ||| SEL_EMPTY) SEL_ROOT = hasFlag f SEL_ROOT := by
  rcases flags_cases f h with rfl | rfl | rfl | rfl <;> decide

theorem flagPart_lt4 (c : Ctx) (l : Loc) (e : Elem) (f : Nat) (h : f < 4) :
    StateLaws.flagPart c l e f =
      ((!hasFlag f SEL_ROOT || matchRoot c l) && (!hasFlag f SEL_EMPTY || matchEmpty l)) := by
  have hz : ∀ g ∈ [SEL_DEFINED, SEL_SCOPE, SEL_PLACEHOLDER_SHOWN, RANGES, SEL_DEFAULT, SEL_INDETERMINATE,
      DIR_FLAGS], hasFlag f g = false := by
    rcases flags_cases f h with rfl | rfl | rfl | rfl <;> decide
  simp only [List.forall_mem_cons, List.not_mem_nil, false_imp_iff, implies_true, and_true] at hz
  simp only [StateLaws.flagPart, hz, Bool.not_false, Bool.true_or, Bool.true_and, Bool.and_true]

/-- Everything `matchSel` checks for the fields of `Parts`. -/
def partsOk (c : Ctx) (l : Loc) (e : Elem) (p : Parts) : Bool :=
  (!hasFlag p.flags SEL_ROOT || matchRoot c l) && matchNths c l e p.nth &&
  (!hasFlag p.flags SEL_EMPTY || matchEmpty l) && matchId c e p.ids &&
  matchClasses c e p.classes && matchAttributes c e p.attrs && matchSubs c l e p.subs

theorem matchSel_toSel (c : Ctx) (l : Loc) (e : Elem) (p : Parts) (tag : Option SelTag)
    (relation : SelList) (rt : Rel) (hf : p.flags < 4) :
    matchSel c l e (p.toSel tag relation rt) =
      (matchTag c e tag && partsOk c l e p && relOk c l relation) := by
  unfold Parts.toSel
  rw [matchSel_mk]
  congr 2
  unfold simplePart partsOk
  rw [flagPart_lt4 c l e _ hf]
  simp only [List.isEmpty_nil, Bool.true_or, Bool.and_true, matchContains, List.all_nil]
  ac_rfl

theorem walk_left (c : Ctx) (l : Loc) (k : Comb) (on : Loc → Bool) (hifr : c.iframeRestrict = false) :
    relationWalk c l k.rel on = (leftOf k l).any on := by
  cases k with
  | desc =>
    simp only [Comb.rel, relationWalk, leftOf, hifr, ctx_ancestors_false, ancestors_takeWhile]
  | child =>
    simp only [Comb.rel, relationWalk, leftOf, hifr, ctx_parent_false, parentElem_eq, any_toList]
    cases l.parent? with
    | none => rfl
    | some p => cases hp : p.isDoc <;> simp [hp]
  | sib => rfl
  | adj =>
    have h : precedingElemSiblings l = l.prevSiblings.filter Loc.isTag := rfl
    simp only [Comb.rel, relationWalk, leftOf, any_toList, h]
    cases (List.filter Loc.isTag l.prevSiblings).head? <;> rfl

theorem walk_right (c : Ctx) (l : Loc) (k : Comb) (on : Loc → Bool) (hifr : c.iframeRestrict = false) :
    relationWalk c l k.hasRel on = (rightOf k l).any on := by
  cases k with
  | desc => simp only [Comb.hasRel, relationWalk, rightOf, hifr, ctx_tagDescendants_false]
  | child => simp only [Comb.hasRel, relationWalk, rightOf, hifr, ctx_tagChildren_false]
  | sib => rfl
  | adj =>
    have h : followingElemSiblings l = l.nextSiblings.filter Loc.isTag := rfl
    simp only [Comb.hasRel, relationWalk, rightOf, any_toList, h]
    cases (List.filter Loc.isTag l.nextSiblings).head? <;> rfl

theorem relOk_empty (c : Ctx) (l : Loc) : relOk c l emptyList = true := relOk_nil c l

theorem matchList_single (c : Ctx) (l : Loc) (e : Elem) (s : Sel) :
    matchList c l e (.mk [s] false false) = matchSel c l e s := by
  rw [matchList_pos]
  simp [matchAny_cons, matchAny_nil]

theorem isElem_iff {t : Loc} : isElem t = true ↔ ∃ te kids, t.focus = .elem te kids := by
  unfold isElem Node.isTag
  cases t.focus <;> simp

theorem isElem_focus {t : Loc} (h : isElem t = true) : ∃ te kids, t.focus = .elem te kids := isElem_iff.mp h

theorem onRel_single (c : Ctx) (s : Sel) (t : Loc) (te : Elem) (kids : List Node)
    (hf : t.focus = .elem te kids) :
    onRel c (.mk [s] false false) t = matchSel c t te s := by
  unfold onRel Loc.elem?
  rw [hf]
  simp only [Node.elem?]
  exact matchList_single c t te s

theorem relOk_single (c : Ctx) (l : Loc) (s : Sel) :
    relOk c l (.mk [s] false false) = relationWalk c l s.relType (onRel c (.mk [s] false false)) := by
  simp [relOk, SelList.nonEmpty, SelList.sels, headRel]

end SatCore
end SoupVerif
