/-
  `pattern.sub` of the model (`Parser.subWith`, and `Rx.subAll` = the same loop with a constant replacement): the loop
  computes any function of the rest of the input that copies a character where the pattern fails and jumps over a
  non-empty match, emitting its replacement.
-/
import SoupVerif.Model.Parser
import SoupVerif.Lemmas.RxBasic
namespace SoupVerif
namespace Refine
open Rx RxBasic

section
variable {env : CharEnv} {r : Rx} {f : Caps → Str} {s : Str}

theorem go_match {fuel i j : Nat} {caps : Caps} (hi : i ≤ s.length)
    (hm : matchAt env r s i = some (j, caps)) (hj : j > i) :
    Parser.subWith.go env r f s (fuel + 1) i = f caps ++ Parser.subWith.go env r f s fuel j := by
  rw [Parser.subWith.go]
  simp [hm, hj, Nat.not_lt.mpr hi]

theorem go_none_some {fuel i c : Nat} (hm : matchAt env r s i = none) (hx : s[i]? = some c) :
    Parser.subWith.go env r f s (fuel + 1) i = c :: Parser.subWith.go env r f s fuel (i + 1) := by
  have hi := lt_of_getElem?_some hx
  rw [Parser.subWith.go]
  simp [hm, hx, Nat.not_lt.mpr (Nat.le_of_lt hi)]

theorem go_none_none {fuel i : Nat} (hm : matchAt env r s i = none) (hx : s[i]? = none) :
    Parser.subWith.go env r f s (fuel + 1) i = [] := by
  rw [Parser.subWith.go]
  simp [hm, hx]

end


theorem go_follows {env : CharEnv} {r : Rx} {f : Caps → Str} {s : Str} (g : Str → Str) (Q : Str → Prop)
    (hnil : g [] = []) (hnone : ∀ i, i ≤ s.length → s[i]? = none → matchAt env r s i = none)
    (hstep : ∀ i c, s[i]? = some c → Q (s.drop i) →
      (matchAt env r s i = none ∧ g (s.drop i) = c :: g (s.drop (i + 1)) ∧ Q (s.drop (i + 1))) ∨
      ∃ j caps, matchAt env r s i = some (j, caps) ∧ i < j ∧ j ≤ s.length ∧
        g (s.drop i) = f caps ++ g (s.drop j) ∧ Q (s.drop j)) :
    ∀ (fuel i : Nat), i ≤ s.length → s.length + 1 - i ≤ fuel → Q (s.drop i) →
      Parser.subWith.go env r f s fuel i = g (s.drop i)
  | 0, i, hi, hf, _ => by omega
  | fuel + 1, i, hi, hf, hq => by
    cases h0 : s[i]? with
    | none => rw [go_none_none (hnone i hi h0) h0, List.drop_eq_nil_of_le (by simpa using h0), hnil]
    | some c =>
      have hlt := lt_of_getElem?_some h0
      rcases hstep i c h0 hq with ⟨hm, hg, hq'⟩ | ⟨j, caps, hm, hij, hj, hg, hq'⟩
      · rw [go_none_some hm h0, hg, go_follows g Q hnil hnone hstep fuel (i + 1) (by omega) (by omega) hq']
      · rw [go_match hi hm hij, hg, go_follows g Q hnil hnone hstep fuel j hj (by omega) hq']

theorem subAll_go_eq (env : CharEnv) (r : Rx) (repl s : Str) : ∀ fuel i,
    subAll.go env r repl s fuel i = Parser.subWith.go env r (fun _ => repl) s fuel i
  | 0, _ => rfl
  | fuel + 1, i => by
    rw [subAll.go, Parser.subWith.go]
    simp only [subAll_go_eq env r repl s fuel]
    rfl

/-- `subAll` for an expression whose match from every position is what the scanner `len` reads off the rest of the
    text, never nothing: it computes any `f` that jumps over what `len` reads, emitting `repl`, and copies the first
    character where `len` reads nothing. -/
theorem subAll_scan (env : CharEnv) (r : Rx) (repl s : Str) (len : Str → Option Nat) (f : Str → Str)
    (hm : ∀ i, i ≤ s.length → matchAt env r s i = (len (s.drop i)).map fun n => (i + n, []))
    (hlen : ∀ t n, len t = some n → 0 < n ∧ n ≤ t.length) (hnil : f [] = [])
    (hstep : ∀ a d, f (a :: d) = match len (a :: d) with
      | some n => repl ++ f ((a :: d).drop n)
      | none => a :: f d) :
    subAll env r repl s = f s := by
  have hn : len [] = none := by
    cases h : len [] with
    | none => rfl
    | some n => have := hlen _ _ h; simp at this; omega
  unfold subAll
  rw [subAll_go_eq, go_follows f (fun _ => True) hnil
    (fun i hi h0 => by rw [hm i hi, List.drop_eq_nil_of_le (by simpa using h0), hn]; rfl) ?_ _ 0 (Nat.zero_le _)
    (by omega) trivial]
  · rfl
  intro i c h0 _
  have hi := lt_of_getElem?_some h0
  have hd : s.drop i = c :: s.drop (i + 1) := by
    obtain ⟨_, rfl⟩ := List.getElem?_eq_some_iff.1 h0
    exact List.drop_eq_getElem_cons hi
  rw [hm i (Nat.le_of_lt hi), hd, hstep]
  cases hl : len (c :: s.drop (i + 1)) with
  | none => exact .inl ⟨rfl, rfl, trivial⟩
  | some n =>
    obtain ⟨h1, h2⟩ := hlen _ _ hl
    rw [← hd, List.length_drop] at h2
    exact .inr ⟨i + n, [], rfl, by omega, by omega, by rw [← hd]; simp only [List.drop_drop], trivial⟩

end Refine
end SoupVerif
