/-
  Helper lemmas about `SoupVerif.Model.Inputs`: the tuple order `ltInts`, rescaling of
  `numVal`, and the `shape*` scanners against the declarative grammars of
  `SoupVerif.Spec.Calendar`.
-/
import SoupVerif.Spec.Calendar
import SoupVerif.Model.Inputs
import SoupVerif.Lemmas.StrLit
namespace SoupVerif
namespace Inputs
open Spec

-- needed to evaluate test vectors `parseValue … = some …` in the kernel
deriving instance DecidableEq for PVal

theorem ltInts_cons (a b : Nat) (as bs : List Nat) :
    ltInts (a :: as) (b :: bs) = true ↔ a < b ∨ (a = b ∧ ltInts as bs = true) := by
  simp [ltInts]

theorem ltInts_irrefl (l : List Nat) : ltInts l l = false := by
  induction l with
  | nil => rfl
  | cons a as ih => simp [ltInts, ih]

theorem ltInts_trans {a b c : List Nat} (h1 : ltInts a b = true) (h2 : ltInts b c = true) :
    ltInts a c = true := by
  induction a generalizing b c with
  | nil =>
    cases b with
    | nil => simp [ltInts] at h1
    | cons y ys =>
      cases c with
      | nil => simp [ltInts] at h2
      | cons z zs => rfl
  | cons x xs ih =>
    cases b with
    | nil => simp [ltInts] at h1
    | cons y ys =>
      cases c with
      | nil => simp [ltInts] at h2
      | cons z zs =>
        rw [ltInts_cons] at h1 h2 ⊢
        rcases h1 with h1 | ⟨rfl, h1⟩
        · rcases h2 with h2 | ⟨rfl, h2⟩
          · left; omega
          · left; exact h1
        · rcases h2 with h2 | ⟨rfl, h2⟩
          · left; exact h2
          · right; exact ⟨rfl, ih h1 h2⟩

theorem ltInts_asymm {a b : List Nat} (h : ltInts a b = true) : ltInts b a = false := by
  cases h' : ltInts b a with
  | false => rfl
  | true => have := ltInts_trans h h'; rw [ltInts_irrefl] at this; cases this

theorem ltInts_total (a b : List Nat) : ltInts a b = true ∨ a = b ∨ ltInts b a = true := by
  induction a generalizing b with
  | nil => cases b with
    | nil => right; left; rfl
    | cons y ys => left; rfl
  | cons x xs ih =>
    cases b with
    | nil => right; right; rfl
    | cons y ys =>
      simp only [ltInts_cons, List.cons.injEq]
      rcases Nat.lt_trichotomy x y with h | rfl | h
      · left; left; exact h
      · rcases ih ys with h | rfl | h
        · left; right; exact ⟨rfl, h⟩
        · right; left; exact ⟨rfl, rfl⟩
        · right; right; right; exact ⟨rfl, h⟩
      · right; right; left; exact h

theorem ltInts_append : ∀ {a b : List Nat} (c d : List Nat), a.length = b.length →
    (ltInts (a ++ c) (b ++ d) = true ↔ ltInts a b = true ∨ (a = b ∧ ltInts c d = true))
  | [], [], c, d, _ => by simp [ltInts]
  | x :: a, y :: b, c, d, hl => by
    have ih := ltInts_append (a := a) (b := b) c d (by simpa using hl)
    simp only [List.cons_append, ltInts_cons, ih, List.cons.injEq]
    constructor
    · rintro (h | ⟨rfl, h | ⟨rfl, h⟩⟩)
      · exact .inl (.inl h)
      · exact .inl (.inr ⟨rfl, h⟩)
      · exact .inr ⟨⟨rfl, rfl⟩, h⟩
    · rintro ((h | ⟨rfl, h⟩) | ⟨⟨rfl, rfl⟩, h⟩)
      · exact .inl h
      · exact .inr ⟨rfl, .inl h⟩
      · exact .inr ⟨rfl, .inr ⟨rfl, h⟩⟩

theorem ltInts3 (y1 m1 d1 y2 m2 d2 : Nat) :
    ltInts [y1, m1, d1] [y2, m2, d2] = true ↔
      (y1 < y2 ∨ (y1 = y2 ∧ (m1 < m2 ∨ (m1 = m2 ∧ d1 < d2)))) := by
  simp [ltInts]

theorem ltInts2 (a1 b1 a2 b2 : Nat) :
    ltInts [a1, b1] [a2, b2] = true ↔ (a1 < a2 ∨ (a1 = a2 ∧ b1 < b2)) := by
  simp [ltInts]

theorem numVal_rescale (n : Bool) (m : Nat) (e b k : Int) (h1 : k ≤ b) (h2 : b ≤ e) :
    numVal n m e k = numVal n m e b * (10 : Int) ^ (b - k).toNat := by
  have he : (e - k).toNat = (e - b).toNat + (b - k).toNat := by omega
  unfold numVal
  simp only [he, Int.pow_add]
  cases n
  · simp only [Bool.false_eq_true, if_false, Int.mul_assoc]
  · simp only [if_true, Int.neg_mul, Int.mul_assoc]

theorem splitAt1_eq_some (c : Nat) (s a b : Str) :
    splitAt1 c s = some (a, b) ↔ s = a ++ c :: b ∧ c ∉ a := by
  induction s generalizing a with
  | nil => simp [splitAt1]
  | cons x xs ih =>
    unfold splitAt1
    by_cases hx : x = c
    · subst hx
      simp only [beq_self_eq_true, if_true, Option.some.injEq, Prod.mk.injEq]
      constructor
      · rintro ⟨rfl, rfl⟩; simp
      · rintro ⟨h1, h2⟩
        cases a with
        | nil => simp at h1; exact ⟨rfl, h1⟩
        | cons y ys => simp at h1 h2; omega
    · have hx' : (x == c) = false := by simp [hx]
      simp only [hx', Bool.false_eq_true, if_false, Option.map_eq_some_iff]
      constructor
      · rintro ⟨⟨a', b'⟩, h1, h2⟩
        simp only [Prod.mk.injEq] at h2
        obtain ⟨rfl, rfl⟩ := h2
        have := (ih a').1 h1
        refine ⟨by simp [this.1], ?_⟩
        simp only [List.mem_cons, not_or]
        exact ⟨fun h => hx h.symm, this.2⟩
      · rintro ⟨h1, h2⟩
        cases a with
        | nil => simp at h1; exact absurd h1.1 hx
        | cons y ys =>
          simp only [List.cons_append, List.cons.injEq] at h1
          obtain ⟨rfl, h1⟩ := h1
          simp only [List.mem_cons, not_or] at h2
          exact ⟨(ys, b), (ih ys).2 ⟨h1, h2.2⟩, rfl⟩

theorem isDigit_iff (c : Nat) : isDigit c = true ↔ digit c := by
  simp [isDigit, digit]

theorem all_isDigit_iff (s : Str) : s.all isDigit = true ↔ ∀ c ∈ s, digit c := by
  simp [List.all_eq_true, isDigit_iff]

theorem isYear_iff (s : Str) : isYear s = true ↔ 4 ≤ s.length ∧ ∀ c ∈ s, digit c := by
  simp [isYear, isDigit_iff]

theorem is2_iff (s : Str) : is2 s = true ↔ s.length = 2 ∧ ∀ c ∈ s, digit c := by
  simp [is2, isDigit_iff]

theorem foldl_digits (s : Str) (acc : Nat) :
    s.foldl (fun acc c => acc * 10 + (c - 48)) acc = acc * 10 ^ s.length + decimal s := by
  induction s generalizing acc with
  | nil => simp [decimal]
  | cons c cs ih =>
    simp only [List.foldl_cons, ih, List.length_cons, decimal, Nat.pow_succ]
    rw [Nat.add_mul, Nat.mul_assoc, Nat.mul_comm 10, Nat.add_assoc]

theorem digitsVal_eq (s : Str) : digitsVal s = decimal s := by
  simp [digitsVal, foldl_digits]

theorem not_mem_of_digits {s : Str} (h : ∀ c ∈ s, digit c) {x : Nat} (hx : x < 48 ∨ 57 < x) :
    x ∉ s := by
  intro hm
  have := h x hm
  unfold digit at this
  omega

theorem splitAt1_append {c : Nat} {a : Str} (b : Str) (h : c ∉ a) :
    splitAt1 c (a ++ c :: b) = some (a, b) := (splitAt1_eq_some c _ a b).2 ⟨rfl, h⟩

theorem shapeDate_iff (s : Str) (y m d : Nat) :
    shapeDate s = some (y, m, d) ↔ dateShape s y m d := by
  unfold shapeDate dateShape
  constructor
  · intro h
    cases h1 : splitAt1 45 s with
    | none => simp [h1] at h
    | some p =>
      obtain ⟨ys, r⟩ := p
      cases h2 : splitAt1 45 r with
      | none => simp [h1, h2] at h
      | some q =>
        obtain ⟨ms, ds⟩ := q
        simp [h1, h2] at h
        obtain ⟨⟨⟨hy, hm⟩, hd⟩, rfl, rfl, rfl⟩ := h
        rw [isYear_iff] at hy; rw [is2_iff] at hm hd
        have e1 := ((splitAt1_eq_some _ _ _ _).1 h1).1
        have e2 := ((splitAt1_eq_some _ _ _ _).1 h2).1
        exact ⟨ys, ms, ds, by rw [e1, e2], hy.2, hm.2, hd.2, hy.1, hm.1, hd.1,
          digitsVal_eq _, digitsVal_eq _, digitsVal_eq _⟩
  · rintro ⟨ys, ms, ds, rfl, hy, hm, hd, ly, lm, ld, rfl, rfl, rfl⟩
    have h1 := splitAt1_append (c := 45) (ms ++ 45 :: ds) (not_mem_of_digits hy (by omega))
    have h2 := splitAt1_append (c := 45) ds (not_mem_of_digits hm (by omega))
    have iy := (isYear_iff ys).2 ⟨ly, hy⟩
    have im := (is2_iff ms).2 ⟨lm, hm⟩
    have id := (is2_iff ds).2 ⟨ld, hd⟩
    simp [h1, h2, iy, im, id, digitsVal_eq]

theorem shapeMonth_iff (s : Str) (y m : Nat) :
    shapeMonth s = some (y, m) ↔ monthShape s y m := by
  unfold shapeMonth monthShape
  constructor
  · intro h
    cases h1 : splitAt1 45 s with
    | none => simp [h1] at h
    | some p =>
      obtain ⟨ys, ms⟩ := p
      simp [h1] at h
      obtain ⟨⟨hy, hm⟩, rfl, rfl⟩ := h
      rw [isYear_iff] at hy; rw [is2_iff] at hm
      have e1 := ((splitAt1_eq_some _ _ _ _).1 h1).1
      exact ⟨ys, ms, e1, hy.2, hm.2, hy.1, hm.1, digitsVal_eq _, digitsVal_eq _⟩
  · rintro ⟨ys, ms, rfl, hy, hm, ly, lm, rfl, rfl⟩
    have h1 := splitAt1_append (c := 45) ms (not_mem_of_digits hy (by omega))
    have iy := (isYear_iff ys).2 ⟨ly, hy⟩
    have im := (is2_iff ms).2 ⟨lm, hm⟩
    simp [h1, iy, im, digitsVal_eq]

theorem shapeWeek_iff (s : Str) (y w : Nat) :
    shapeWeek s = some (y, w) ↔ weekShape s y w := by
  unfold shapeWeek weekShape
  constructor
  · intro h
    cases h1 : splitAt1 45 s with
    | none => simp [h1] at h
    | some p =>
      obtain ⟨ys, r⟩ := p
      have e1 := ((splitAt1_eq_some _ _ _ _).1 h1).1
      simp only [h1, Option.bind_eq_bind, Option.bind_some] at h
      split at h
      · rename_i ws
        simp at h
        obtain ⟨⟨hy, hw⟩, rfl, rfl⟩ := h
        rw [isYear_iff] at hy; rw [is2_iff] at hw
        exact ⟨ys, ws, e1, hy.2, hw.2, hy.1, hw.1, digitsVal_eq _, digitsVal_eq _⟩
      · cases h
  · rintro ⟨ys, ws, rfl, hy, hw, ly, lw, rfl, rfl⟩
    have h1 := splitAt1_append (c := 45) (87 :: ws) (not_mem_of_digits hy (by omega))
    have iy := (isYear_iff ys).2 ⟨ly, hy⟩
    have iw := (is2_iff ws).2 ⟨lw, hw⟩
    simp [h1, iy, iw, digitsVal_eq]

theorem shapeTime_iff (s : Str) (h mi : Nat) :
    shapeTime s = some (h, mi) ↔ timeShape s h mi := by
  unfold shapeTime timeShape
  constructor
  · intro hh
    cases h1 : splitAt1 58 s with
    | none => simp [h1] at hh
    | some p =>
      obtain ⟨hs, ms⟩ := p
      simp [h1] at hh
      obtain ⟨⟨hy, hm⟩, rfl, rfl⟩ := hh
      rw [is2_iff] at hy hm
      have e1 := ((splitAt1_eq_some _ _ _ _).1 h1).1
      exact ⟨hs, ms, e1, hy.2, hm.2, hy.1, hm.1, digitsVal_eq _, digitsVal_eq _⟩
  · rintro ⟨hs, ms, rfl, hy, hm, ly, lm, rfl, rfl⟩
    have h1 := splitAt1_append (c := 58) ms (not_mem_of_digits hy (by omega))
    have iy := (is2_iff hs).2 ⟨ly, hy⟩
    have im := (is2_iff ms).2 ⟨lm, hm⟩
    simp [h1, iy, im, digitsVal_eq]

theorem dateShape_no_T {s : Str} {y m d : Nat} (h : dateShape s y m d) : 84 ∉ s := by
  obtain ⟨ys, ms, ds, rfl, hy, hm, hd, -⟩ := h
  have a := not_mem_of_digits hy (x := 84) (by omega)
  have b := not_mem_of_digits hm (x := 84) (by omega)
  have c := not_mem_of_digits hd (x := 84) (by omega)
  simp [a, b, c]

theorem shapeDateTime_iff (s : Str) (y m d h mi : Nat) :
    shapeDateTime s = some (y, m, d, h, mi) ↔ dateTimeShape s y m d h mi := by
  unfold shapeDateTime dateTimeShape
  constructor
  · intro hh
    cases h1 : splitAt1 84 s with
    | none => simp [h1] at hh
    | some p =>
      obtain ⟨ds, ts⟩ := p
      have e1 := ((splitAt1_eq_some _ _ _ _).1 h1).1
      cases h2 : shapeDate ds with
      | none => simp [h1, h2] at hh
      | some q =>
        obtain ⟨y', m', d'⟩ := q
        cases h3 : shapeTime ts with
        | none => simp [h1, h2, h3] at hh
        | some r =>
          obtain ⟨h', mi'⟩ := r
          simp [h1, h2, h3] at hh
          obtain ⟨rfl, rfl, rfl, rfl, rfl⟩ := hh
          exact ⟨ds, ts, e1, (shapeDate_iff _ _ _ _).1 h2, (shapeTime_iff _ _ _).1 h3⟩
  · rintro ⟨ds, ts, rfl, hd, ht⟩
    have h1 := splitAt1_append (c := 84) ts (dateShape_no_T hd)
    have h2 := (shapeDate_iff _ _ _ _).2 hd
    have h3 := (shapeTime_iff _ _ _).2 ht
    simp [h1, h2, h3]

/-- The seven `type` keywords are pairwise different (each against those tested before it in `parseValue`). -/
theorem keyword_ne :
    ("month".toStr == "date".toStr) = false ∧ ("week".toStr == "date".toStr) = false ∧
    ("week".toStr == "month".toStr) = false ∧ ("time".toStr == "date".toStr) = false ∧
    ("time".toStr == "month".toStr) = false ∧ ("time".toStr == "week".toStr) = false ∧
    ("datetime-local".toStr == "date".toStr) = false ∧ ("datetime-local".toStr == "month".toStr) = false ∧
    ("datetime-local".toStr == "week".toStr) = false ∧ ("datetime-local".toStr == "time".toStr) = false ∧
    ("number".toStr == "date".toStr) = false ∧ ("number".toStr == "month".toStr) = false ∧
    ("number".toStr == "week".toStr) = false ∧ ("number".toStr == "time".toStr) = false ∧
    ("number".toStr == "datetime-local".toStr) = false ∧ ("range".toStr == "date".toStr) = false ∧
    ("range".toStr == "month".toStr) = false ∧ ("range".toStr == "week".toStr) = false ∧
    ("range".toStr == "time".toStr) = false ∧ ("range".toStr == "datetime-local".toStr) = false := by decide_lit

theorem ite_some_eq_some {α : Type} {p : Prop} [Decidable p] {a v : α} :
    (if p then some a else none) = some v ↔ p ∧ v = a := by
  by_cases h : p <;> simp [h, eq_comm]

end Inputs
end SoupVerif
