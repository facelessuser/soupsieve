/-
  Base lemmas about the regular-expression engine model (`Model/Regex.lean`) for *refinement*
  proofs: statements of the form "the hand-written scanner `f` of the model computes exactly what
  the engine computes on the regular expression regenerated from the source".

  The building blocks of soupsieve's data regexes are one-character tests (`[0-9]`, `-`, `[^*]`, …)
  under bounded or unbounded greedy repetition, sequences, groups, anchors.  For a one-character
  test the list of runs of a repetition is known exactly (`runs_rep_char`): the end positions from
  the longest admissible run down to the shortest, so a sequence continues from the longest run
  whenever its continuation rejects the shorter ones (`flatMap_down_cut`).  Pieces with at most one run (`one`) and
  the stars over them are the subject of `Lemmas/RxDet.lean`.  At the end: looking a capture up in the list a run
  returns, `Rx.search` at a position where `matchAt` is known, and (namespace `RefineInputs`) a sequence, alternative,
  option or group standing at the head of a sequence, with the capture a group sets.
-/
import SoupVerif.Model.Regex
import SoupVerif.Lemmas.List
namespace SoupVerif
namespace RxBasic
open Rx

/-! ### Positions of a string read through `drop` -/

theorem getElem?_of_drop_nil {s : Str} {p : Nat} (h : s.drop p = []) : s[p]? = none := by
  have := List.getElem?_drop (xs := s) (i := p) (j := 0)
  rw [h] at this; simpa using this.symm

theorem getElem?_of_drop_cons {s : Str} {p c : Nat} {cs : Str} (h : s.drop p = c :: cs) :
    s[p]? = some c := by
  have := List.getElem?_drop (xs := s) (i := p) (j := 0)
  rw [h] at this; simpa using this.symm

theorem drop_succ_of_drop_cons {s : Str} {p c : Nat} {cs : Str} (h : s.drop p = c :: cs) :
    s.drop (p + 1) = cs := by
  have : s.drop (p + 1) = (s.drop p).drop 1 := by rw [List.drop_drop]
  rw [this, h]; rfl

theorem lt_of_drop_cons {s : Str} {p c : Nat} {cs : Str} (h : s.drop p = c :: cs) : p < s.length := by
  rcases Nat.lt_or_ge p s.length with h' | h'
  · exact h'
  · rw [List.drop_eq_nil_of_le h'] at h; cases h

theorem lt_of_drop_append_cons {s : Str} {p c : Nat} {a r : Str} (hd : s.drop p = a ++ c :: r) : p < s.length := by
  cases a with
  | nil => exact lt_of_drop_cons hd
  | cons _ _ => exact lt_of_drop_cons hd

theorem lt_of_getElem?_some {s : Str} {i x : Nat} (h : s[i]? = some x) : i < s.length :=
  (List.getElem?_eq_some_iff.mp h).1

/-- The runs of a one-character test `P` at position `p`. -/
def charBody (s : Str) (P : Nat → Bool) : Nat → Caps → List (Nat × Caps) :=
  fun p c => match s[p]? with
    | some x => if P x then [(p + 1, c)] else []
    | none => []

/-- `r` is the one-character test `P` on `s`. -/
def IsChar (env : CharEnv) (s : Str) (r : Rx) (P : Nat → Bool) : Prop :=
  ∀ p c, runs env s r p c = charBody s P p c

theorem isChar_lit (env : CharEnv) (s : Str) (ch : Nat) (ic : Bool) :
    IsChar env s (.lit ch ic) (fun x => if ic then env.fold x == env.fold ch else x == ch) := by
  intro p c; rw [runs]; rfl

theorem isChar_notLit (env : CharEnv) (s : Str) (ch : Nat) (ic : Bool) :
    IsChar env s (.notLit ch ic) (fun x => !(if ic then env.fold x == env.fold ch else x == ch)) := by
  intro p c; rw [runs]; unfold charBody
  cases s[p]? with
  | none => rfl
  | some x => by_cases h : (if ic then env.fold x == env.fold ch else x == ch) = true <;> simp [h]

theorem isChar_set (env : CharEnv) (s : Str) (neg : Bool) (items : List SetItem) (ic : Bool) :
    IsChar env s (.set neg items ic) (setHas env neg items ic) := by
  intro p c; rw [runs]; rfl

theorem isChar_any (env : CharEnv) (s : Str) (dotall : Bool) :
    IsChar env s (.any dotall) (fun x => dotall || x != 10) := by
  intro p c; rw [runs]; rfl

theorem isChar_congr {env : CharEnv} {s : Str} {r : Rx} {P Q : Nat → Bool}
    (h : IsChar env s r P) (hPQ : ∀ x, P x = Q x) : IsChar env s r Q := by
  intro p c; rw [h p c]; unfold charBody
  cases s[p]? with
  | none => rfl
  | some x => simp [hPQ x]

theorem isChar_body {env : CharEnv} {s : Str} {r : Rx} {P : Nat → Bool} (h : IsChar env s r P) :
    (fun p c => runs env s r p c) = charBody s P := by
  funext p c; exact h p c

/-- Number of consecutive characters from `pos` on that satisfy `P`. -/
def spanLen (s : Str) (P : Nat → Bool) (pos : Nat) : Nat := ((s.drop pos).takeWhile P).length

theorem spanLen_of_none {s : Str} {P : Nat → Bool} {pos : Nat} (h : s[pos]? = none) :
    spanLen s P pos = 0 := by
  unfold spanLen
  rw [List.drop_eq_nil_of_le (by simpa using h)]; rfl

theorem spanLen_of_not {s : Str} {P : Nat → Bool} {pos x : Nat} (h : s[pos]? = some x)
    (hx : P x = false) : spanLen s P pos = 0 := by
  unfold spanLen
  have hlt := lt_of_getElem?_some h
  rw [List.drop_eq_getElem_cons hlt]
  have : s[pos] = x := by rw [List.getElem?_eq_getElem hlt] at h; exact Option.some.inj h
  rw [this, List.takeWhile_cons]; simp [hx]

theorem spanLen_of_ok {s : Str} {P : Nat → Bool} {pos x : Nat} (h : s[pos]? = some x)
    (hx : P x = true) : spanLen s P pos = spanLen s P (pos + 1) + 1 := by
  unfold spanLen
  have hlt := lt_of_getElem?_some h
  rw [List.drop_eq_getElem_cons hlt]
  have : s[pos] = x := by rw [List.getElem?_eq_getElem hlt] at h; exact Option.some.inj h
  rw [this, List.takeWhile_cons]; simp [hx]

theorem spanLen_le (s : Str) (P : Nat → Bool) (pos : Nat) : pos + spanLen s P pos ≤ max pos s.length := by
  unfold spanLen
  have h1 := (List.takeWhile_sublist (l := s.drop pos) P).length_le
  rw [List.length_drop] at h1
  omega

theorem span_inside (s : Str) (P : Nat → Bool) : ∀ (n pos : Nat), n < spanLen s P pos →
    ∃ x, s[pos + n]? = some x ∧ P x = true
  | n, pos, hn => by
    cases hx : s[pos]? with
    | none => rw [spanLen_of_none hx] at hn; omega
    | some x =>
      cases hP : P x with
      | false => rw [spanLen_of_not hx hP] at hn; omega
      | true =>
        cases n with
        | zero => exact ⟨x, by simpa using hx, hP⟩
        | succ n =>
          rw [spanLen_of_ok hx hP] at hn
          obtain ⟨y, hy, hPy⟩ := span_inside s P n (pos + 1) (by omega)
          exact ⟨y, by rw [← hy]; congr 1; omega, hPy⟩

theorem span_end (s : Str) (P : Nat → Bool) : ∀ (k pos : Nat), spanLen s P pos = k →
    ∀ x, s[pos + k]? = some x → P x = false
  | k, pos, hk, x, hx => by
    cases hy : s[pos]? with
    | none =>
      rw [spanLen_of_none hy] at hk; subst hk
      rw [Nat.add_zero, hy] at hx; cases hx
    | some y =>
      cases hP : P y with
      | false =>
        rw [spanLen_of_not hy hP] at hk; subst hk
        rw [Nat.add_zero, hy] at hx; cases hx; exact hP
      | true =>
        rw [spanLen_of_ok hy hP] at hk
        cases k with
        | zero => omega
        | succ k =>
          exact span_end s P k (pos + 1) (by omega) x (by rw [← hx]; congr 1; omega)

theorem spanLen_pos {s : Str} {P : Nat → Bool} {p x : Nat} (h : s[p]? = some x) (hx : P x = true) :
    1 ≤ spanLen s P p := by rw [spanLen_of_ok h hx]; omega

theorem span_le_length {s : Str} {P : Nat → Bool} {p : Nat} (hp : p ≤ s.length) :
    p + spanLen s P p ≤ s.length := by
  have := spanLen_le s P p; omega

/-- `(hi, caps), (hi-1, caps), …, (lo, caps)`; empty when `hi < lo`. -/
def down (caps : Caps) (lo hi : Nat) : List (Nat × Caps) :=
  ((List.range' lo (hi + 1 - lo)).reverse).map fun j => (j, caps)

/-- `(lo, caps), (lo+1, caps), …, (hi, caps)`; empty when `hi < lo`. -/
def up (caps : Caps) (lo hi : Nat) : List (Nat × Caps) :=
  (List.range' lo (hi + 1 - lo)).map fun j => (j, caps)

theorem down_empty (caps : Caps) {lo hi : Nat} (h : hi < lo) : down caps lo hi = [] := by
  unfold down; rw [show hi + 1 - lo = 0 by omega]; rfl

theorem up_empty (caps : Caps) {lo hi : Nat} (h : hi < lo) : up caps lo hi = [] := by
  unfold up; rw [show hi + 1 - lo = 0 by omega]; rfl

theorem down_single (caps : Caps) (lo : Nat) : down caps lo lo = [(lo, caps)] := by
  unfold down; rw [show lo + 1 - lo = 1 by omega]; rfl

theorem up_single (caps : Caps) (lo : Nat) : up caps lo lo = [(lo, caps)] := by
  unfold up; rw [show lo + 1 - lo = 1 by omega]; rfl

theorem down_snoc (caps : Caps) {lo hi : Nat} (h : lo ≤ hi) :
    down caps lo hi = down caps (lo + 1) hi ++ [(lo, caps)] := by
  unfold down
  rw [show hi + 1 - lo = (hi + 1 - (lo + 1)) + 1 by omega, List.range'_succ]
  simp

theorem down_cons (caps : Caps) {lo hi : Nat} (h : lo ≤ hi + 1) :
    down caps lo (hi + 1) = (hi + 1, caps) :: down caps lo hi := by
  unfold down
  rw [show hi + 1 + 1 - lo = (hi + 1 - lo) + 1 by omega, List.range'_concat]
  simp
  omega

theorem up_cons (caps : Caps) {lo hi : Nat} (h : lo ≤ hi) :
    up caps lo hi = (lo, caps) :: up caps (lo + 1) hi := by
  unfold up
  rw [show hi + 1 - lo = (hi + 1 - (lo + 1)) + 1 by omega, List.range'_succ]
  simp

theorem mem_down {caps : Caps} {lo hi : Nat} {q : Nat × Caps} :
    q ∈ down caps lo hi ↔ q.2 = caps ∧ lo ≤ q.1 ∧ q.1 ≤ hi := by
  unfold down
  simp only [List.mem_map, List.mem_reverse, List.mem_range'_1]
  constructor
  · rintro ⟨j, ⟨h1, h2⟩, rfl⟩; exact ⟨rfl, h1, by omega⟩
  · rintro ⟨h1, h2, h3⟩; exact ⟨q.1, ⟨h2, by omega⟩, by rw [← h1]⟩

theorem mem_up {caps : Caps} {lo hi : Nat} {q : Nat × Caps} :
    q ∈ up caps lo hi ↔ q.2 = caps ∧ lo ≤ q.1 ∧ q.1 ≤ hi := by
  unfold up
  simp only [List.mem_map, List.mem_range'_1]
  constructor
  · rintro ⟨j, ⟨h1, h2⟩, rfl⟩; exact ⟨rfl, h1, by omega⟩
  · rintro ⟨h1, h2, h3⟩; exact ⟨q.1, ⟨h2, by omega⟩, by rw [← h1]⟩

theorem head_down (caps : Caps) {lo hi : Nat} (h : lo ≤ hi) :
    (down caps lo hi).head? = some (hi, caps) := by
  cases hi with
  | zero => have : lo = 0 := by omega
            subst this; rw [down_single]; rfl
  | succ hi =>
    rcases Nat.lt_or_ge hi lo with h' | h'
    · have : lo = hi + 1 := by omega
      subst this; rw [down_single]; rfl
    · rw [down_cons caps (by omega)]; rfl

/-- If the continuation fails everywhere below the top, only the top run continues. -/
theorem flatMap_down_cut {β : Type} (caps : Caps) (k : Nat × Caps → List β) :
    ∀ (n lo : Nat), (∀ j, lo ≤ j → j < lo + n → k (j, caps) = []) →
      (down caps lo (lo + n)).flatMap k = k (lo + n, caps)
  | 0, lo, _ => by rw [Nat.add_zero, down_single]; simp
  | n + 1, lo, h => by
    rw [show lo + (n + 1) = (lo + n) + 1 by omega, down_cons caps (by omega), List.flatMap_cons]
    have : (down caps lo (lo + n)).flatMap k = [] := by
      rw [List.flatMap_eq_nil_iff]
      rintro ⟨j, c⟩ hm
      rw [mem_down] at hm
      obtain ⟨rfl, h1, h2⟩ := hm
      exact h j h1 (by omega)
    rw [this, List.append_nil]

theorem flatMap_down_nil {β : Type} (caps : Caps) (k : Nat × Caps → List β) (lo hi : Nat)
    (h : ∀ j, lo ≤ j → j ≤ hi → k (j, caps) = []) : (down caps lo hi).flatMap k = [] := by
  rw [List.flatMap_eq_nil_iff]
  rintro ⟨j, c⟩ hm
  rw [mem_down] at hm
  obtain ⟨rfl, h1, h2⟩ := hm
  exact h j h1 h2

/-- How many further characters a repetition at count `count` may still take. -/
def room (s : Str) (P : Nat → Bool) (mx : Option Nat) (count pos : Nat) : Nat :=
  match mx with
  | none => spanLen s P pos
  | some m => min (spanLen s P pos) (m - count)

/-- Whether the upper bound allows a further iteration. -/
def canMore (mx : Option Nat) (count : Nat) : Bool :=
  match mx with
  | none => true
  | some m => decide (count < m)

theorem iter_succ (body : Nat → Caps → List (Nat × Caps)) (mn : Nat) (mx : Option Nat) (greedy : Bool)
    (fuel count pos : Nat) (caps : Caps) :
    iter body mn mx greedy (fuel + 1) count pos caps =
      (if greedy = true then
        (if canMore mx count = true then
          (body pos caps).flatMap fun x =>
            if (decide (x.1 > pos) || decide (count + 1 < mn)) = true then
              iter body mn mx greedy fuel (count + 1) x.1 x.2
            else if count + 1 ≥ mn then [(x.1, x.2)] else []
         else []) ++ (if count ≥ mn then [(pos, caps)] else [])
       else
        (if count ≥ mn then [(pos, caps)] else []) ++
        (if canMore mx count = true then
          (body pos caps).flatMap fun x =>
            if (decide (x.1 > pos) || decide (count + 1 < mn)) = true then
              iter body mn mx greedy fuel (count + 1) x.1 x.2
            else if count + 1 ≥ mn then [(x.1, x.2)] else []
         else [])) := by
  cases mx <;> rw [iter] <;> rfl

/-- Repetition of a one-character test: the admissible end positions, from the longest run down to
    the shortest when greedy, from the shortest up to the longest when lazy. -/
theorem iter_char (s : Str) (P : Nat → Bool) (mn : Nat) (mx : Option Nat) (g : Bool) :
    ∀ (fuel count pos : Nat) (caps : Caps), s.length - pos + 1 ≤ fuel →
      iter (charBody s P) mn mx g fuel count pos caps =
        if g = true then down caps (pos + (mn - count)) (pos + room s P mx count pos)
        else up caps (pos + (mn - count)) (pos + room s P mx count pos)
  | 0, _, _, _, hf => by omega
  | fuel + 1, count, pos, caps, hf => by
    rw [iter_succ]
    by_cases hgo : canMore mx count = true ∧ ∃ x, s[pos]? = some x ∧ P x = true
    · -- one more character: the runs of the rest, then (or before) the stop at `pos`
      obtain ⟨hcm, x, hx, hPx⟩ := hgo
      have hlt := lt_of_getElem?_some hx
      have ih := iter_char s P mn mx g fuel (count + 1) (pos + 1) caps (by omega)
      have hroom : room s P mx count pos = room s P mx (count + 1) (pos + 1) + 1 := by
        unfold room
        cases mx with
        | none => exact spanLen_of_ok hx hPx
        | some m =>
          have : count < m := by simpa [canMore] using hcm
          simp only [spanLen_of_ok hx hPx]; omega
      have hbody : charBody s P pos caps = [(pos + 1, caps)] := by
        unfold charBody; rw [hx]; simp [hPx]
      simp only [hcm, if_true, hbody, List.flatMap_cons, List.flatMap_nil, List.append_nil,
        show (pos + 1 > pos) = True by simp, decide_true, Bool.true_or, ih]
      rw [hroom]
      by_cases hc : count ≥ mn
      · simp only [hc, if_true]
        rw [show mn - count = 0 by omega, show mn - (count + 1) = 0 by omega]
        simp only [Nat.add_zero]
        cases g
        · simp only [Bool.false_eq_true, if_false]
          rw [up_cons caps (lo := pos) (hi := pos + (room s P mx (count + 1) (pos + 1) + 1)) (by omega)]
          simp only [List.singleton_append, List.cons.injEq, true_and]
          congr 1; omega
        · simp only [if_true]
          rw [down_snoc caps (lo := pos) (hi := pos + (room s P mx (count + 1) (pos + 1) + 1)) (by omega)]
          congr 2; omega
      · simp only [hc, if_false, List.append_nil, List.nil_append]
        cases g
        · simp only [Bool.false_eq_true, if_false]; congr 1 <;> omega
        · simp only [if_true]; congr 1 <;> omega
    · -- no further character: only the stop at `pos`, if the minimum is reached
      have hroom : room s P mx count pos = 0 := by
        unfold room
        rcases Classical.not_and_iff_not_or_not.mp hgo with h | h
        · cases mx with
          | none => simp [canMore] at h
          | some m => have : ¬ count < m := by simpa [canMore] using h
                      simp only; omega
        · have hs : spanLen s P pos = 0 := by
            cases hx : s[pos]? with
            | none => exact spanLen_of_none hx
            | some x =>
              cases hP : P x with
              | false => exact spanLen_of_not hx hP
              | true => exact absurd ⟨x, hx, hP⟩ h
          cases mx with
          | none => exact hs
          | some m => simp only [hs]; omega
      have hmore : (if canMore mx count = true then
          (charBody s P pos caps).flatMap fun x =>
            if (decide (x.1 > pos) || decide (count + 1 < mn)) = true then
              iter (charBody s P) mn mx g fuel (count + 1) x.1 x.2
            else if count + 1 ≥ mn then [(x.1, x.2)] else []
          else []) = [] := by
        by_cases hcm : canMore mx count = true
        · have hb : charBody s P pos caps = [] := by
            unfold charBody
            cases hx : s[pos]? with
            | none => rfl
            | some x =>
              cases hP : P x with
              | false => simp [hP]
              | true => exact absurd ⟨hcm, x, hx, hP⟩ hgo
          simp [hcm, hb]
        · simp [hcm]
      rw [hmore, hroom, Nat.add_zero, List.nil_append, List.append_nil]
      by_cases hc : count ≥ mn
      · simp only [hc, if_true]
        rw [show mn - count = 0 by omega, Nat.add_zero, down_single, up_single, ite_self]
      · simp only [hc, if_false]
        rw [down_empty caps (by omega), up_empty caps (by omega), ite_self]

/-- `P{mn,mx}` greedy from `i`: ends from `i + min(span, mx)` down to `i + mn`. -/
theorem runs_rep_char {env : CharEnv} {s : Str} {r : Rx} {P : Nat → Bool} (h : IsChar env s r P)
    (mn : Nat) (mx : Option Nat) (i : Nat) (caps : Caps) :
    runs env s (.rep mn mx true r) i caps = down caps (i + mn) (i + room s P mx 0 i) := by
  rw [runs, isChar_body h, iter_char s P mn mx true _ 0 i caps (by omega)]
  rfl

/-- `P{mn,mx}?` lazy from `i`: ends from `i + mn` up to `i + min(span, mx)`. -/
theorem runs_rep_char_lazy {env : CharEnv} {s : Str} {r : Rx} {P : Nat → Bool} (h : IsChar env s r P)
    (mn : Nat) (mx : Option Nat) (i : Nat) (caps : Caps) :
    runs env s (.rep mn mx false r) i caps = up caps (i + mn) (i + room s P mx 0 i) := by
  rw [runs, isChar_body h, iter_char s P mn mx false _ 0 i caps (by omega)]
  rfl

/-- `P{n}` (exactly `n`): one run if the span is long enough, none otherwise. -/
theorem runs_rep_char_exact {env : CharEnv} {s : Str} {r : Rx} {P : Nat → Bool} (h : IsChar env s r P)
    (n : Nat) (g : Bool) (i : Nat) (caps : Caps) :
    runs env s (.rep n (some n) g r) i caps = if n ≤ spanLen s P i then [(i + n, caps)] else [] := by
  cases g
  · rw [runs_rep_char_lazy h]
    simp only [room]
    by_cases hn : n ≤ spanLen s P i
    · rw [if_pos hn, show min (spanLen s P i) (n - 0) = n by omega, up_single]
    · rw [if_neg hn, up_empty caps (by omega)]
  · rw [runs_rep_char h]
    simp only [room]
    by_cases hn : n ≤ spanLen s P i
    · rw [if_pos hn, show min (spanLen s P i) (n - 0) = n by omega, down_single]
    · rw [if_neg hn, down_empty caps (by omega)]

theorem runs_seq (env : CharEnv) (s : Str) (rs : List Rx) (i : Nat) (caps : Caps) :
    runs env s (.seq rs) i caps = runsSeq env s rs i caps := by rw [runs]

theorem runs_alt (env : CharEnv) (s : Str) (rs : List Rx) (i : Nat) (caps : Caps) :
    runs env s (.alt rs) i caps = runsAlt env s rs i caps := by rw [runs]

theorem runsSeq_nil (env : CharEnv) (s : Str) (i : Nat) (caps : Caps) :
    runsSeq env s [] i caps = [(i, caps)] := by rw [runsSeq]

theorem runsSeq_cons (env : CharEnv) (s : Str) (r : Rx) (rs : List Rx) (i : Nat) (caps : Caps) :
    runsSeq env s (r :: rs) i caps =
      (runs env s r i caps).flatMap fun x => runsSeq env s rs x.1 x.2 := by rw [runsSeq]

theorem runsAlt_nil (env : CharEnv) (s : Str) (i : Nat) (caps : Caps) :
    runsAlt env s [] i caps = [] := by rw [runsAlt]

theorem runsAlt_cons (env : CharEnv) (s : Str) (r : Rx) (rs : List Rx) (i : Nat) (caps : Caps) :
    runsAlt env s (r :: rs) i caps = runs env s r i caps ++ runsAlt env s rs i caps := by rw [runsAlt]

theorem runs_group (env : CharEnv) (s : Str) (idx : Nat) (r : Rx) (i : Nat) (caps : Caps) :
    runs env s (.group idx r) i caps =
      (runs env s r i caps).map fun x => (x.1, (idx, i, x.1) :: x.2.filter (fun e => e.1 != idx)) := by
  rw [runs]

theorem runs_bos (env : CharEnv) (s : Str) (i : Nat) (caps : Caps) :
    runs env s .bos i caps = if i = 0 then [(i, caps)] else [] := by
  rw [runs]; by_cases h : i = 0 <;> simp [h]

theorem runs_eos (env : CharEnv) (s : Str) (i : Nat) (caps : Caps) :
    runs env s .eos i caps = if i = s.length then [(i, caps)] else [] := by
  rw [runs]; by_cases h : i = s.length <;> simp [h]

theorem runsSeq_char {env : CharEnv} {s : Str} {r : Rx} {P : Nat → Bool} (h : IsChar env s r P)
    (rs : List Rx) (i : Nat) (caps : Caps) :
    runsSeq env s (r :: rs) i caps =
      match s[i]? with
      | some x => if P x then runsSeq env s rs (i + 1) caps else []
      | none => [] := by
  rw [runsSeq_cons, h i caps]; unfold charBody
  cases s[i]? with
  | none => rfl
  | some x => by_cases hx : P x = true <;> simp [hx]

/-- The same at a position from which the text is known to go on with a given character, or to end: the form in which
    a proof that walks along the rest of the text meets the engine. -/
theorem runsSeq_char_cons {env : CharEnv} {s : Str} {r : Rx} {P : Nat → Bool} (h : IsChar env s r P)
    (rs : List Rx) {i x : Nat} {t : Str} (c : Caps) (hd : s.drop i = x :: t) :
    runsSeq env s (r :: rs) i c = if P x = true then runsSeq env s rs (i + 1) c else [] := by
  rw [runsSeq_char h, getElem?_of_drop_cons hd]

theorem runsSeq_char_nil {env : CharEnv} {s : Str} {r : Rx} {P : Nat → Bool} (h : IsChar env s r P)
    (rs : List Rx) {i : Nat} (c : Caps) (hd : s.drop i = []) :
    runsSeq env s (r :: rs) i c = [] := by
  rw [runsSeq_char h, getElem?_of_drop_nil hd]

theorem isChar_lit_exact (env : CharEnv) (s : Str) (ch : Nat) : IsChar env s (.lit ch false) (fun x => x == ch) :=
  isChar_congr (isChar_lit env s ch false) (fun _ => by simp)

theorem runsSeq_lit_cons (env : CharEnv) {s : Str} {i x : Nat} {t : Str} (hd : s.drop i = x :: t) (ch : Nat)
    (rs : List Rx) (c : Caps) :
    runsSeq env s (.lit ch false :: rs) i c = if x = ch then runsSeq env s rs (i + 1) c else [] := by
  rw [runsSeq_char_cons (isChar_lit_exact env s ch) rs c hd]
  by_cases h : x = ch <;> simp [h]

theorem runsSeq_lit_nil (env : CharEnv) {s : Str} {i : Nat} (hd : s.drop i = []) (ch : Nat) (rs : List Rx) (c : Caps) :
    runsSeq env s (.lit ch false :: rs) i c = [] :=
  runsSeq_char_nil (isChar_lit_exact env s ch) rs c hd

/-- A greedy repeated one-character test followed by a continuation that cannot succeed while the
    next character still satisfies the test (the usual case: the continuation starts with a
    character outside the class, or with the end of the input): only the longest run continues. -/
theorem runsSeq_rep_char_cut {env : CharEnv} {s : Str} {r : Rx} {P : Nat → Bool} (h : IsChar env s r P)
    (mn : Nat) (rs : List Rx) (i : Nat) (caps : Caps)
    (hcut : ∀ j x, s[j]? = some x → P x = true → runsSeq env s rs j caps = []) :
    runsSeq env s (.rep mn none true r :: rs) i caps =
      if mn ≤ spanLen s P i then runsSeq env s rs (i + spanLen s P i) caps else [] := by
  rw [runsSeq_cons, runs_rep_char h]
  simp only [room]
  by_cases hmn : mn ≤ spanLen s P i
  · rw [if_pos hmn]
    have := flatMap_down_cut caps (fun x => runsSeq env s rs x.1 x.2) (spanLen s P i - mn) (i + mn) (by
      intro j h1 h2
      obtain ⟨x, hx, hPx⟩ := span_inside s P (j - i) i (by omega)
      rw [show i + (j - i) = j by omega] at hx
      exact hcut j x hx hPx)
    rw [show i + mn + (spanLen s P i - mn) = i + spanLen s P i by omega] at this
    exact this
  · rw [if_neg hmn, down_empty caps (by omega)]; rfl

/-- The same under an upper bound `mx`: the continuation is reached only if the whole span fits. -/
theorem runsSeq_rep_char_cut_max {env : CharEnv} {s : Str} {r : Rx} {P : Nat → Bool} (h : IsChar env s r P)
    (mn mx : Nat) (rs : List Rx) (i : Nat) (caps : Caps)
    (hcut : ∀ j x, s[j]? = some x → P x = true → runsSeq env s rs j caps = []) :
    runsSeq env s (.rep mn (some mx) true r :: rs) i caps =
      if mn ≤ spanLen s P i ∧ spanLen s P i ≤ mx then runsSeq env s rs (i + spanLen s P i) caps
      else [] := by
  rw [runsSeq_cons, runs_rep_char h]
  simp only [room, Nat.sub_zero]
  have hin : ∀ j, i ≤ j → j < i + spanLen s P i →
      (fun x : Nat × Caps => runsSeq env s rs x.1 x.2) (j, caps) = [] := by
    intro j h1 h2
    obtain ⟨x, hx, hPx⟩ := span_inside s P (j - i) i (by omega)
    rw [show i + (j - i) = j by omega] at hx
    exact hcut j x hx hPx
  by_cases hfit : mn ≤ spanLen s P i ∧ spanLen s P i ≤ mx
  · rw [if_pos hfit, show min (spanLen s P i) mx = spanLen s P i by omega]
    have := flatMap_down_cut caps (fun x => runsSeq env s rs x.1 x.2) (spanLen s P i - mn) (i + mn)
      (fun j h1 h2 => hin j (by omega) (by omega))
    rw [show i + mn + (spanLen s P i - mn) = i + spanLen s P i by omega] at this
    exact this
  · rw [if_neg hfit]
    exact flatMap_down_nil caps _ _ _ (fun j h1 h2 => hin j (by omega) (by omega))

theorem runsSeq_single (env : CharEnv) (s : Str) (r : Rx) (i : Nat) (caps : Caps) :
    runsSeq env s [r] i caps = runs env s r i caps := by
  rw [runsSeq_cons]
  simp only [runsSeq_nil, List.flatMap_singleton']

theorem runsSeq_eos (env : CharEnv) (s : Str) (i : Nat) (caps : Caps) :
    runsSeq env s [.eos] i caps = if i = s.length then [(i, caps)] else [] := by
  rw [runsSeq_single, runs_eos]

theorem runsSeq_bos (env : CharEnv) (s : Str) (rs : List Rx) (caps : Caps) :
    runsSeq env s (.bos :: rs) 0 caps = runsSeq env s rs 0 caps := by
  rw [runsSeq_cons, runs_bos]; simp

theorem flatMap_singleton_fun {α} (f : α → List α) (h : ∀ x, f x = [x]) :
    ∀ l : List α, l.flatMap f = l
  | [] => rfl
  | x :: l => by rw [List.flatMap_cons, h x, flatMap_singleton_fun f h l]; rfl

theorem iter_opt (body : Nat → Caps → List (Nat × Caps)) (f pos : Nat) (caps : Caps) :
    iter body 0 (some 1) true (f + 2) 0 pos caps = body pos caps ++ [(pos, caps)] := by
  have h1 : ∀ p' c', iter body 0 (some 1) true (f + 1) 1 p' c' = [(p', c')] := by
    intro p' c'; rw [iter]; simp
  rw [iter]
  simp only [Nat.lt_add_one, if_true, h1, Nat.zero_le, ge_iff_le]
  congr 1
  apply flatMap_singleton_fun
  rintro ⟨p', c'⟩
  simp

/-- A greedy `( … )?`: the body's results first, then the empty iteration.  Two units of fuel suffice,
    and `runs` always supplies at least two. -/
theorem runs_opt (env : CharEnv) (s : Str) (r : Rx) (i : Nat) (caps : Caps) :
    runs env s (.rep 0 (some 1) true r) i caps = runs env s r i caps ++ [(i, caps)] := by
  rw [runs]
  exact iter_opt _ _ i caps

/-! ### At most one run; one step of a greedy star -/

/-- The runs of an expression that has at most one: none, or the one that ends at `e`. -/
def one (o : Option Nat) (c : Caps) : List (Nat × Caps) :=
  match o with
  | some e => [(e, c)]
  | none => []

theorem iter_star_succ (body : Nat → Caps → List (Nat × Caps)) (fuel count pos : Nat) (caps : Caps) :
    iter body 0 none true (fuel + 1) count pos caps =
      ((body pos caps).flatMap fun x =>
        if x.1 > pos then iter body 0 none true fuel (count + 1) x.1 x.2 else [x]) ++ [(pos, caps)] := by
  rw [iter_succ]
  simp [canMore]

/-! ### Looking a capture up -/

theorem capSpan_cons_self (idx a b : Nat) (c : Caps) :
    capSpan ((idx, a, b) :: c) idx = some (a, b) := by
  simp [capSpan]

theorem capSpan_cons_ne {idx idx' a b : Nat} (c : Caps) (h : idx' ≠ idx) :
    capSpan ((idx', a, b) :: c) idx = capSpan c idx := by
  unfold capSpan
  rw [List.find?_cons]
  have : ((idx', a, b).1 == idx) = false := by simpa using h
  rw [this]

theorem capSpan_filter_ne {idx idx' : Nat} (c : Caps) (h : idx' ≠ idx) :
    capSpan (c.filter fun e => e.1 != idx') idx = capSpan c idx := by
  unfold capSpan
  congr 1
  induction c with
  | nil => rfl
  | cons e c ih =>
    by_cases he : e.1 = idx'
    · have h1 : (e.1 != idx') = false := by simp [he]
      have h2 : (e.1 == idx) = false := by simp [he, h]
      rw [List.filter_cons, h1, List.find?_cons, h2]; simpa using ih
    · have h1 : (e.1 != idx') = true := by simp [he]
      rw [List.filter_cons, h1]
      simp only [if_true, List.find?_cons]
      cases (e.1 == idx) <;> simp [ih]

theorem drop_of_getElem? {s : Str} {i x : Nat} (h : s[i]? = some x) : ∃ t, s.drop i = x :: t := by
  cases hd : s.drop i with
  | nil => rw [getElem?_of_drop_nil hd] at h; cases h
  | cons y t => rw [getElem?_of_drop_cons hd] at h; cases h; exact ⟨t, rfl⟩

/-! ### `Rx.search` where `matchAt` is known -/

theorem search_here {env : CharEnv} {r : Rx} {s : Str} {i j : Nat} {c : Caps} (hi : i ≤ s.length)
    (hm : matchAt env r s i = some (j, c)) : Rx.search env r s i = some (i, j, c) := by
  unfold Rx.search
  obtain ⟨k, hk⟩ : ∃ k, s.length + 2 - i = k + 1 := ⟨s.length + 1 - i, by omega⟩
  rw [hk, searchFrom, hm]

theorem search_end {env : CharEnv} {r : Rx} {s : Str} (hm : matchAt env r s s.length = none) :
    Rx.search env r s s.length = none := by
  unfold Rx.search
  have : s.length + 2 - s.length = 1 + 1 := by omega
  rw [this, searchFrom, hm]
  simp

end RxBasic

namespace RefineInputs
open Rx RxBasic

/-! ### Setting a capture; sequences, alternatives, options and groups inside a sequence -/

/-- The captures after group `idx` matched `[a, b)`. -/
def setCap (idx a b : Nat) (caps : Caps) : Caps := (idx, a, b) :: caps.filter (fun e => e.1 != idx)

theorem capSpan_setCap_self (idx a b : Nat) (c : Caps) : capSpan (setCap idx a b c) idx = some (a, b) :=
  capSpan_cons_self idx a b _

theorem capSpan_setCap_ne {idx idx' a b : Nat} (c : Caps) (h : idx' ≠ idx) :
    capSpan (setCap idx' a b c) idx = capSpan c idx := by
  unfold setCap
  rw [capSpan_cons_ne _ h, capSpan_filter_ne _ h]

theorem runs_group_setCap (env : CharEnv) (s : Str) (idx : Nat) (r : Rx) (i : Nat) (caps : Caps) :
    runs env s (.group idx r) i caps = (runs env s r i caps).map fun x => (x.1, setCap idx i x.1 x.2) :=
  runs_group env s idx r i caps

theorem runsSeq_append (env : CharEnv) (s : Str) : ∀ (A K : List Rx) (i : Nat) (c : Caps),
    runsSeq env s (A ++ K) i c = (runsSeq env s A i c).flatMap fun x => runsSeq env s K x.1 x.2
  | [], K, i, c => by simp [runsSeq_nil]
  | r :: A, K, i, c => by
    rw [List.cons_append, runsSeq_cons, runsSeq_cons, List.flatMap_assoc]
    congr 1
    funext x
    exact runsSeq_append env s A K x.1 x.2

theorem runsSeq_seq (env : CharEnv) (s : Str) (A K : List Rx) (i : Nat) (c : Caps) :
    runsSeq env s (.seq A :: K) i c = runsSeq env s (A ++ K) i c := by
  rw [runsSeq_cons, runs_seq, runsSeq_append]

theorem runsSeq_alt2 (env : CharEnv) (s : Str) (A B : Rx) (K : List Rx) (i : Nat) (c : Caps) :
    runsSeq env s (.alt [A, B] :: K) i c = runsSeq env s (A :: K) i c ++ runsSeq env s (B :: K) i c := by
  rw [runsSeq_cons, runs_alt, runsAlt_cons, runsAlt_cons, runsAlt_nil, List.append_nil,
    List.flatMap_append, runsSeq_cons, runsSeq_cons]

theorem runsSeq_opt (env : CharEnv) (s : Str) (r : Rx) (K : List Rx) (i : Nat) (c : Caps) :
    runsSeq env s (.rep 0 (some 1) true r :: K) i c = runsSeq env s (r :: K) i c ++ runsSeq env s K i c := by
  rw [runsSeq_cons, runs_opt, List.flatMap_append, runsSeq_cons]
  simp

theorem runsSeq_group (env : CharEnv) (s : Str) (k : Nat) (r : Rx) (K : List Rx) (i : Nat) (c : Caps) :
    runsSeq env s (.group k r :: K) i c =
      (runs env s r i c).flatMap fun x => runsSeq env s K x.1 (setCap k i x.1 x.2) := by
  rw [runsSeq_cons, runs_group_setCap, List.flatMap_map]

end RefineInputs
end SoupVerif
