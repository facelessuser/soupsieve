/-
  For property C13 (`:lang()` extended filtering): lemmas about the model's loop, the RFC 4647 specification
  and `Embeds`, and — defined here — the hand-written text-level reading of the two wildcard substitutions
  (`isStarRun`, `tailStrip`, `collapse`, `wildStripText`) with its subtag-level description, the regex-level
  strip `wildStripRx` the driver runs, and `allStrings` for the examples.
-/
import SoupVerif.Model.Lang
import SoupVerif.Spec.Rfc4647
import SoupVerif.Generated.Regexes
import SoupVerif.Lemmas.StrLit
import SoupVerif.Lemmas.Lower
namespace SoupVerif
namespace LangLemmas
open Spec

theorem star_toStr : ("*".toStr : Str) = star := by decide

theorem star_ne_nil : star ≠ [] := by decide

/-- = `SoupVerif.lower_length`. -/
theorem lower_length (s : Str) : (lower s).length = s.length := SoupVerif.lower_length s

theorem splitOn_ne_nil (sep : Nat) (s : Str) : splitOn sep s ≠ [] := by
  cases s with
  | nil => simp [splitOn]
  | cons c cs =>
    unfold splitOn
    split
    · simp
    · split <;> simp

theorem splitOn_exists (s : Str) : ∃ p ps, splitOn 45 s = p :: ps := by
  cases h : splitOn 45 s with
  | nil => exact absurd h (splitOn_ne_nil 45 s)
  | cons p ps => exact ⟨p, ps, rfl⟩

theorem splitOn_dash (cs : Str) : splitOn 45 (45 :: cs) = [] :: splitOn 45 cs := by
  obtain ⟨p, ps, h⟩ := splitOn_exists cs
  simp [splitOn, h]

theorem splitOn_cons_ne {c : Nat} {cs p : Str} {ps : List Str} (hc : c ≠ 45)
    (h : splitOn 45 cs = p :: ps) : splitOn 45 (c :: cs) = (c :: p) :: ps := by
  simp [splitOn, h, hc]

theorem splitOn_head_nil {s : Str} {ps : List Str} (h : splitOn 45 s = [] :: ps) :
    s = [] ∨ ∃ rest, s = 45 :: rest := by
  cases s with
  | nil => exact Or.inl rfl
  | cons a s' =>
    by_cases ha : a = 45
    · exact Or.inr ⟨s', by rw [ha]⟩
    · obtain ⟨p, ps', h'⟩ := splitOn_exists s'
      rw [splitOn_cons_ne ha h'] at h
      simp at h

theorem splitOn_head_star {s : Str} {ps : List Str} (h : splitOn 45 s = star :: ps) :
    s = [42] ∨ ∃ rest, s = 42 :: 45 :: rest := by
  cases s with
  | nil => simp [splitOn, star] at h
  | cons a s' =>
    by_cases ha : a = 45
    · subst ha; rw [splitOn_dash] at h; simp [star] at h
    · obtain ⟨p, ps', h'⟩ := splitOn_exists s'
      rw [splitOn_cons_ne ha h'] at h
      simp only [star, List.cons.injEq] at h
      obtain ⟨⟨rfl, rfl⟩, rfl⟩ := h
      rcases splitOn_head_nil h' with rfl | ⟨rest, rfl⟩
      · exact Or.inl rfl
      · exact Or.inr ⟨rest, rfl⟩

/-- `lower` fixes `-`, so splitting commutes with lower-casing. -/
theorem splitOn_lower (s : Str) : splitOn 45 (lower s) = (splitOn 45 s).map lower := by
  induction s with
  | nil => rfl
  | cons c cs ih =>
    obtain ⟨p, ps, hp⟩ := splitOn_exists cs
    show splitOn 45 (lowerCp c :: lower cs) = _
    by_cases hc : c = 45
    · subst hc; rw [show lowerCp 45 = 45 from rfl, splitOn_dash, splitOn_dash, ih]; rfl
    · have hc' : lowerCp c ≠ 45 := fun h => hc ((lowerCp_eq_iff (by decide) c).1 h)
      rw [splitOn_cons_ne hc' (by rw [ih, hp]; rfl), splitOn_cons_ne hc hp]; rfl

theorem filterLoop_nil (ss : List Str) : Lang.filterLoop [] ss = true := by
  rw [Lang.filterLoop]

theorem filterLoop_cons_nil (r : Str) (rs : List Str) : Lang.filterLoop (r :: rs) [] = false := by
  rw [Lang.filterLoop]

theorem filterLoop_cons_cons (r : Str) (rs : List Str) (s : Str) (ss : List Str) :
    Lang.filterLoop (r :: rs) (s :: ss) =
      if r.isEmpty then false
      else if s == r then Lang.filterLoop rs ss
      else if s.length == 1 then false
      else Lang.filterLoop (r :: rs) ss := by
  rw [Lang.filterLoop]

theorem rfcLoop_filter_star (rs ts : List Str) : rfcLoop rs ts = rfcLoop (rs.filter (· != star)) ts := by
  induction rs generalizing ts with
  | nil => rfl
  | cons r rs ih =>
    cases h : r == star
    · simp only [List.filter_cons, bne, h, Bool.not_false, if_true, rfcLoop, Bool.false_eq_true, if_false,
        funext ih]
    · simp only [List.filter_cons, bne, h, Bool.not_true, Bool.false_eq_true, if_false, rfcLoop, if_true, ih]

theorem rfcLoop_append_star (rs : List Str) (ts : List Str) :
    rfcLoop (rs ++ [star]) ts = rfcLoop rs ts := by
  rw [rfcLoop_filter_star (rs ++ [star]), rfcLoop_filter_star rs]
  simp [List.filter_append]

theorem stripWild_idem (rs : List Str) : stripWild (stripWild rs) = stripWild rs := by
  cases rs with
  | nil => rfl
  | cons r rs => simp [stripWild, List.filter_filter]

theorem stripWild_wellFormed (r : Str) (rs : List Str) (h : ∀ x ∈ rs, x ≠ []) :
    WellFormedRange (stripWild (r :: rs)) := by
  intro x hx
  simp only [List.mem_filter] at hx
  exact ⟨h x hx.1, by simpa using hx.2⟩

theorem stripWild_of_wellFormed (rs : List Str) (h : WellFormedRange rs) : stripWild rs = rs := by
  cases rs with
  | nil => rfl
  | cons r rs =>
    simp only [stripWild, List.cons.injEq, true_and, List.filter_eq_self]
    intro x hx
    simpa using (h x hx).2

theorem stripWild_map_lower (rs : List Str) :
    stripWild (rs.map lower) = (stripWild rs).map lower := by
  cases rs with
  | nil => rfl
  | cons r rs =>
    simp only [List.map_cons, stripWild, List.filter_map, List.cons.injEq, true_and]
    congr 1
    apply List.filter_congr
    intro x _
    have h : (lower x == star) = (x == star) := by
      rw [Bool.eq_iff_iff, beq_iff_eq, beq_iff_eq]; exact lower_eq_star x
    simp [bne, h]

theorem stripWild_tail_no_star {range : List Str} {r : Str} {rs : List Str}
    (h : stripWild range = r :: rs) : ∀ x ∈ rs, x ≠ star := by
  cases range with
  | nil => cases h
  | cons a as =>
    simp only [stripWild, List.cons.injEq] at h
    intro x hx
    rw [← h.2, List.mem_filter] at hx
    simpa using hx.2

theorem Embeds.skip_any {rs : List Str} {t : Str} {ts : List Str}
    (ht : isSingleton t = false) (h : Embeds rs ts) : Embeds rs (t :: ts) := by
  cases rs with
  | nil => exact Embeds.done _
  | cons r rs => exact Embeds.skip r rs t ts ht h

theorem Embeds.not_cons_nil {r : Str} {rs : List Str} : ¬ Embeds (r :: rs) [] := by
  intro h; cases h

/-- Dropping a leading range subtag that is not a singleton keeps an embedding: its match
    position becomes a skipped position. -/
theorem Embeds.drop_head {r : Str} (hr : isSingleton r = false) {rs : List Str} :
    ∀ {ts : List Str}, Embeds (r :: rs) ts → Embeds rs ts := by
  intro ts
  induction ts with
  | nil => intro h; cases h
  | cons t ts ih =>
    intro h
    cases h with
    | here _ _ _ h' => exact Embeds.skip_any hr h'
    | skip _ _ _ _ ht h' => exact Embeds.skip_any ht (ih h')

/-- Greedy exchange: if `r :: rs` embeds in `r :: ts` in any way, then `rs` embeds in `ts`
    (so taking the first possible match never loses). -/
theorem Embeds.cons_same {r : Str} {rs ts : List Str} (h : Embeds (r :: rs) (r :: ts)) :
    Embeds rs ts := by
  cases h with
  | here _ _ _ h' => exact h'
  | skip _ _ _ _ ht h' => exact Embeds.drop_head ht h'

theorem rfcLoop_iff_embeds (rs ts : List Str) (h1 : ∀ r ∈ rs, r ≠ star) :
    rfcLoop rs ts = true ↔ Embeds rs ts := by
  induction rs generalizing ts with
  | nil => simp [rfcLoop_nil, Embeds.done]
  | cons r rs ihr =>
    have hs : (r == star) = false := by simpa using h1 r (by simp)
    have h1' : ∀ x ∈ rs, x ≠ star := fun x hx => h1 x (by simp [hx])
    induction ts with
    | nil => rw [rfcLoop_cons_nil, hs]; simp [Embeds.not_cons_nil]
    | cons t ts ih =>
      rw [rfcLoop_cons_cons, hs]
      by_cases htr : t = r
      · subst htr
        simp only [Bool.false_eq_true, if_false, beq_self_eq_true, if_true]
        rw [ihr ts h1']
        exact ⟨fun h => Embeds.here _ _ _ h, Embeds.cons_same⟩
      · have htr' : (t == r) = false := by simpa using htr
        simp only [Bool.false_eq_true, if_false, htr']
        cases hsing : isSingleton t with
        | true =>
          simp only [if_true, Bool.false_eq_true, false_iff]
          intro h
          cases h with
          | here _ _ _ _ => exact htr rfl
          | skip _ _ _ _ ht _ => rw [hsing] at ht; cases ht
        | false =>
          simp only [Bool.false_eq_true, if_false, ih]
          exact ⟨fun h => Embeds.skip _ _ _ _ hsing h, fun h => by
            cases h with
            | here _ _ _ _ => exact absurd rfl htr
            | skip _ _ _ _ _ h' => exact h'⟩

theorem embedsB_iff (rs ts : List Str) : embedsB rs ts = true ↔ Embeds rs ts := by
  fun_induction embedsB rs ts with
  | case1 ts => simp [Embeds.done]
  | case2 r rs => simp [Embeds.not_cons_nil]
  | case3 r rs t ts ih1 ih2 =>
    simp only [Bool.or_eq_true, Bool.and_eq_true, beq_iff_eq, Bool.not_eq_true', ih1, ih2]
    constructor
    · rintro (⟨rfl, h⟩ | ⟨ht, h⟩)
      · exact Embeds.here _ _ _ h
      · exact Embeds.skip _ _ _ _ ht h
    · intro h
      cases h with
      | here _ _ _ h' => exact Or.inl ⟨rfl, h'⟩
      | skip _ _ _ _ ht h' => exact Or.inr ⟨ht, h'⟩

instance (rs ts : List Str) : Decidable (Embeds rs ts) :=
  decidable_of_iff _ (embedsB_iff rs ts)

instance (range tag : List Str) : Decidable (extFilterDecl range tag) := by
  unfold extFilterDecl
  split <;> infer_instance

theorem embedsAt_zero (r t : Str) (rs ts : List Str) (ps : List Nat) :
    EmbedsAt (r :: rs) (t :: ts) (0 :: ps) ↔ t = r ∧ EmbedsAt rs ts ps := by
  simp [EmbedsAt]

theorem embedsAt_succ (r t : Str) (rs ts : List Str) (p : Nat) (ps : List Nat) :
    EmbedsAt (r :: rs) (t :: ts) ((p + 1) :: ps) ↔
      isSingleton t = false ∧ EmbedsAt (r :: rs) ts (p :: ps) := by
  simp [EmbedsAt, and_assoc]

theorem embedsAt_of_embeds {rs ts : List Str} (h : Embeds rs ts) : ∃ ps, EmbedsAt rs ts ps := by
  induction h with
  | done ts => exact ⟨[], trivial⟩
  | here r rs ts _ ih =>
    obtain ⟨ps, hps⟩ := ih
    exact ⟨0 :: ps, (embedsAt_zero ..).2 ⟨rfl, hps⟩⟩
  | skip r rs t ts ht _ ih =>
    obtain ⟨_ | ⟨p, ps⟩, hps⟩ := ih
    · exact hps.elim
    · exact ⟨(p + 1) :: ps, (embedsAt_succ ..).2 ⟨ht, hps⟩⟩

theorem embeds_of_embedsAt (rs ts : List Str) (ps : List Nat) (h : EmbedsAt rs ts ps) : Embeds rs ts := by
  induction ts generalizing rs ps with
  | nil =>
    match rs, ps, h with
    | [], [], _ => exact Embeds.done _
    | _ :: _, p :: _, h => simp [EmbedsAt] at h
  | cons t ts ih =>
    match rs, ps, h with
    | [], [], _ => exact Embeds.done _
    | r :: rs, 0 :: ps, h =>
      obtain ⟨rfl, h'⟩ := (embedsAt_zero ..).1 h
      exact Embeds.here _ _ _ (ih rs ps h')
    | r :: rs, (p + 1) :: ps, h =>
      obtain ⟨ht, h'⟩ := (embedsAt_succ ..).1 h
      exact Embeds.skip _ _ _ _ ht (ih _ _ h')

/-! ### Decidability of the hypotheses (for examples) -/

instance decWellFormedRange : (rs : List Str) → Decidable (WellFormedRange rs)
  | [] => isFalse (fun h => h)
  | _ :: rs => inferInstanceAs (Decidable (∀ x ∈ rs, x ≠ [] ∧ x ≠ star))

instance decEmbedsAt : (rs ts : List Str) → (ps : List Nat) → Decidable (EmbedsAt rs ts ps)
  | [], _, [] => isTrue trivial
  | r :: rs, ts, p :: ps =>
    have := decEmbedsAt rs (ts.drop (p + 1)) ps
    inferInstanceAs (Decidable ((∀ x ∈ ts.take p, isSingleton x = false) ∧ ts[p]? = some r ∧
      EmbedsAt rs (ts.drop (p + 1)) ps))
  | [], _, _ :: _ => isFalse (fun h => h)
  | _ :: _, _, [] => isFalse (fun h => h)

/-! ### Text-level effect of the two regex substitutions

Hand-written readings of the two substitutions (`\Z` = end of text); `Refine/Lang.lean` proves that they
are what the regex-engine model computes with the regexes regenerated from the source, for every text. -/

/-- `s ∈ ("-*")*`. -/
def isStarRun : Str → Bool
  | [] => true
  | [_] => false
  | a :: b :: rest => a == 45 && b == 42 && isStarRun rest

/-- `RE_WILD_TAIL.sub('', s)`, `RE_WILD_TAIL = (?:-\*)+\Z`: cut the text at the leftmost position
    from which it is a non-empty run of `-*` up to the end. -/
def tailStrip : Str → Str
  | [] => []
  | c :: cs => if isStarRun (c :: cs) then [] else c :: tailStrip cs

/-- `RE_WILD_STRIP.sub('-', s)`, `RE_WILD_STRIP = (?:(?:-\*-)(?:\*(?:-|\Z))*|-\*\Z)`.
    The flag says "inside the `(?:\*(?:-|\Z))*` loop of a match that already emitted its `-`". -/
def collapse : Bool → Str → Str
  | true, 42 :: 45 :: rest => collapse true rest              -- loop: `*-`
  | true, [42] => []                                          -- loop: `*\Z`
  | _, 45 :: 42 :: 45 :: rest => 45 :: collapse true rest     -- `-*-` ↦ `-`, enter the loop
  | _, [45, 42] => [45]                                       -- `-*\Z` ↦ `-`
  | _, a :: rest => a :: collapse false rest                  -- no match here: copy
  | _, [] => []

/-- `RE_WILD_STRIP.sub('-', RE_WILD_TAIL.sub('', s))`. -/
def wildStripText (s : Str) : Str := collapse false (tailStrip s)

/-- What `tailStrip` does on the subtag level (`splitOn_tailStrip`): the subtags from the first point on from which
    all are `*` go. -/
def dropTrailingStars : List Str → List Str
  | [] => []
  | r :: rs => if (r :: rs).all (· == star) then [] else r :: dropTrailingStars rs

theorem isStarRun_head {c : Nat} {cs : Str} (h : isStarRun (c :: cs) = true) : c = 45 := by
  cases cs with
  | nil => simp [isStarRun] at h
  | cons b rest => simp [isStarRun] at h; exact h.1.1

theorem isStarRun_dash : ∀ cs : Str, isStarRun (45 :: cs) = (splitOn 45 cs).all (· == star)
  | [] => by decide
  | [b] => by
    by_cases hb : b = 45
    · subst hb; decide
    · rw [splitOn_cons_ne hb rfl]; simp [isStarRun, star]
  | b :: c :: rest => by
    by_cases hc : c = 45
    · subst hc
      have ih := isStarRun_dash rest
      by_cases hb : b = 45
      · subst hb; rw [splitOn_dash, splitOn_dash]; simp [isStarRun, star]
      · rw [splitOn_cons_ne hb (splitOn_dash rest)]
        rw [isStarRun, ih]; simp [star]
    · have h1 : isStarRun (c :: rest) = false := by
        cases rest <;> simp [isStarRun, hc]
      obtain ⟨p, ps, h'⟩ := splitOn_exists rest
      by_cases hb : b = 45
      · subst hb; rw [splitOn_dash, splitOn_cons_ne hc h']; simp [isStarRun, star]
      · rw [splitOn_cons_ne hb (splitOn_cons_ne hc h')]
        simp [isStarRun, h1, star]

theorem dropTrailingStars_all {l : List Str} (h : l.all (· == star) = true) :
    dropTrailingStars l = [] := by
  cases l with
  | nil => rfl
  | cons r rs => simp only [dropTrailingStars, h, if_true]

theorem dropTrailingStars_not_all {r : Str} {rs : List Str}
    (h : (r :: rs).all (· == star) = false) :
    dropTrailingStars (r :: rs) = r :: dropTrailingStars rs := by
  simp only [dropTrailingStars, h, Bool.false_eq_true, if_false]

theorem dropTrailingStars_eq_nil {l : List Str} (h : dropTrailingStars l = []) :
    l.all (· == star) = true := by
  cases l with
  | nil => rfl
  | cons r rs =>
    cases hall : (r :: rs).all (· == star) with
    | true => rfl
    | false => rw [dropTrailingStars_not_all hall] at h; cases h

theorem splitOn_tailStrip {s p : Str} {ps : List Str} (hp : splitOn 45 s = p :: ps) :
    splitOn 45 (tailStrip s) = p :: dropTrailingStars ps := by
  fun_induction tailStrip s generalizing p ps with
  | case1 => cases hp; rfl
  | case2 c cs hrun =>
    obtain rfl := isStarRun_head hrun
    rw [isStarRun_dash] at hrun
    rw [splitOn_dash] at hp
    cases hp
    rw [dropTrailingStars_all hrun]; rfl
  | case3 c cs hrun ih =>
    obtain ⟨q, qs, hq⟩ := splitOn_exists cs
    by_cases hc : c = 45
    · subst hc
      rw [isStarRun_dash, hq, Bool.not_eq_true] at hrun
      rw [splitOn_dash, hq] at hp
      cases hp
      rw [splitOn_dash, ih hq, dropTrailingStars_not_all hrun]
    · rw [splitOn_cons_ne hc hq] at hp
      cases hp
      exact splitOn_cons_ne hc (ih hq)

theorem filter_dropTrailingStars (l : List Str) :
    (dropTrailingStars l).filter (· != star) = l.filter (· != star) := by
  fun_induction dropTrailingStars l with
  | case1 => rfl
  | case2 r rs hall =>
    symm
    rw [List.filter_nil, List.filter_eq_nil_iff]
    intro x hx
    simp [bne, List.all_eq_true.1 hall x hx]
  | case3 r rs hall ih => rw [List.filter_cons, List.filter_cons, ih]

theorem getLast_dropTrailingStars (l : List Str) :
    (dropTrailingStars l).getLast? ≠ some star := by
  fun_induction dropTrailingStars l with
  | case1 => simp
  | case2 r rs hall => simp
  | case3 r rs hall ih =>
    cases hd : dropTrailingStars rs with
    | nil =>
      have := dropTrailingStars_eq_nil hd
      simp only [List.all_cons, this, Bool.and_true, Bool.not_eq_true] at hall
      simp only [List.getLast?_singleton, ne_eq, Option.some.injEq]
      intro h; rw [h] at hall; simp at hall
    | cons d ds => rw [List.getLast?_cons_cons, ← hd]; exact ih

theorem collapse_flag {d : Str} (h1 : ∀ rest, d ≠ 42 :: 45 :: rest) (h2 : d ≠ [42]) (e : Bool) :
    collapse e d = collapse false d := by
  fun_cases collapse e d with
  | case1 rest => exact absurd rfl (h1 rest)
  | case2 => exact absurd rfl h2
  | case3 x rest => rw [collapse.eq_3]
  | case4 x => rfl
  | case5 x a rest c1 c2 c3 c4 => rw [collapse.eq_5 false a rest c3 c4 (by simp) (by simp)]
  | case6 x => rfl

theorem getLast?_cons_ne_star {p : Str} (hp : p ≠ star) (ps : List Str) :
    (p :: ps).getLast? ≠ some star ↔ ps.getLast? ≠ some star := by
  cases ps with
  | nil => simp [hp]
  | cons q qs => rw [List.getLast?_cons_cons]

theorem filter_cons_ne_star {p : Str} (hp : p ≠ star) (ps : List Str) :
    (p :: ps).filter (· != star) = p :: ps.filter (· != star) := by
  simp [hp]

theorem collapse_spec_flag (x : Bool) {p : Str} (ps : List Str) (hp : x = true → p ≠ star) :
    ((bif x then p :: ps else (p :: ps).tail).getLast? ≠ some star ↔ ps.getLast? ≠ some star) ∧
      (bif x then (p :: ps).filter (· != star) else stripWild (p :: ps)) = p :: ps.filter (· != star) := by
  cases x
  · exact ⟨Iff.rfl, rfl⟩
  · exact ⟨getLast?_cons_ne_star (hp rfl) ps, filter_cons_ne_star (hp rfl) ps⟩

/-- What `collapse` does on the subtag level: inside the loop (`e = true`) every `*` subtag goes, outside it
    the subtag the text starts in stays whatever it is — provided the text does not end in a `*` subtag
    that would go (which `tailStrip` guarantees). -/
theorem collapse_spec (e : Bool) (s : Str) :
    (bif e then splitOn 45 s else (splitOn 45 s).tail).getLast? ≠ some star →
      splitOn 45 (collapse e s) =
        bif e then (splitOn 45 s).filter (· != star) else stripWild (splitOn 45 s) := by
  fun_induction collapse e s with
  | case1 rest ih =>
    -- loop: `*-`
    obtain ⟨q, qs, hq⟩ := splitOn_exists rest
    have hs : splitOn 45 (42 :: 45 :: rest) = star :: splitOn 45 rest :=
      splitOn_cons_ne (by decide) (splitOn_dash rest)
    simp only [cond_true] at ih ⊢
    rw [hs, hq, List.getLast?_cons_cons, ← hq]
    intro hl
    rw [ih hl]
    rfl
  | case2 => intro hl; exact absurd (by decide) hl
  | case3 x rest ih =>
    -- `-*-` ↦ `-`, enter the loop
    obtain ⟨q, qs, hq⟩ := splitOn_exists rest
    have hs : splitOn 45 (45 :: 42 :: 45 :: rest) = [] :: star :: splitOn 45 rest := by
      rw [splitOn_dash, splitOn_cons_ne (by decide) (splitOn_dash rest)]; rfl
    obtain ⟨h1, h2⟩ := collapse_spec_flag x (star :: splitOn 45 rest) (fun _ => star_ne_nil.symm)
    rw [hs, h1, h2, hq, List.getLast?_cons_cons, ← hq, splitOn_dash]
    intro hl
    rw [ih hl]
    rfl
  | case4 x => cases x <;> intro hl <;> exact absurd (by decide) hl
  | case5 x a rest h1 h2 h3 h4 ih =>
    -- no match here: the character is copied, so the subtag it belongs to is not `*`
    obtain ⟨p, ps, hp⟩ := splitOn_exists rest
    simp only [cond_false, hp, List.tail_cons, stripWild] at ih
    by_cases ha : a = 45
    · subst ha
      have hne : p ≠ star := by
        rintro rfl
        rcases splitOn_head_star hp with h | ⟨r, h⟩
        · exact h4 rfl h
        · exact h3 r rfl h
      obtain ⟨e1, e2⟩ := collapse_spec_flag x (p :: ps) (fun _ => star_ne_nil.symm)
      rw [splitOn_dash, splitOn_dash, hp, e1, e2, getLast?_cons_ne_star hne, filter_cons_ne_star hne]
      intro hl; rw [ih hl]
    · have hne : x = true → a :: p ≠ star := by
        intro hx h
        simp only [star, List.cons.injEq] at h
        obtain ⟨rfl, rfl⟩ := h
        rcases splitOn_head_nil hp with h | ⟨r, h⟩
        · exact h2 hx rfl h
        · exact h1 r hx rfl h
      obtain ⟨e1, e2⟩ := collapse_spec_flag x ps hne
      rw [splitOn_cons_ne ha hp, e1, e2]
      intro hl; rw [splitOn_cons_ne ha (ih hl)]
  | case6 x => cases x <;> intro _ <;> rfl

/-! ### The regex model's strip (for examples that tie `wildStripText` to the two regexes) -/

/-- The wildcard strip as the driver instantiates it (`wildStripImpl` in `Driver/Main.lean`):
    the regex engine model run on the two regexes extracted from the source. -/
def wildStripRx (s : Str) : Str :=
  Rx.subAll asciiEnv Gen.cm_RE_WILD_STRIP [45] (Rx.subAll asciiEnv Gen.cm_RE_WILD_TAIL [] s)

/-- All texts over `alpha` of length at most `n`. -/
def allStrings (alpha : List Nat) : Nat → List Str
  | 0 => [[]]
  | n + 1 => [] :: (allStrings alpha n).flatMap (fun s => alpha.map (· :: s))

end LangLemmas
end SoupVerif
