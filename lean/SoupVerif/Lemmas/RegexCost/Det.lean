/-
  C07 lemmas: `Det r` ⇒ the ends of `r` from any start are pairwise distinct, and the
  follow-last set is sound.  The unique-decomposition theorem for the repeat loop.
-/
import SoupVerif.Lemmas.RegexCost.Excl
import Mathlib.Data.List.Nodup
set_option autoImplicit false
namespace SoupVerif
namespace Rx

/-- Semantic determinism of a list of ends from every start: no duplicates, and whenever one end
    is a proper prefix of another, the symbol after the shorter lies in `FL`. -/
def DetSem (sp : Specials) (s : Str) (E : Nat → List Nat) (FL : CSet) : Prop :=
  ∀ i, (E i).Nodup ∧ ∀ e1 e2, e1 ∈ E i → e2 ∈ E i → e1 < e2 → FL.mem sp s[e1]? = true

theorem detSem_of_single (sp : Specials) (s : Str) (E : Nat → List Nat) (FL : CSet)
    (h : ∀ i, (E i).length ≤ 1) : DetSem sp s E FL := by
  intro i
  have := h i
  match hE : E i with
  | [] => simp
  | [a] => simp
  | a :: b :: l => rw [hE] at this; simp at this

/-- A non-maximal end `p1` of a deterministic body is a dead end of the loop around it: the symbol there lies in the
    follow-last set, so unless the loop makes one round only no further round can start at `p1`. -/
theorem DetSem.dead_end {sp : Specials} {s : Str} {B : Nat → List Nat} {FL FI : CSet} {mx : Option Nat}
    (hB : DetSem sp s B FL) (hFI : ∀ q e, e ∈ B q → FI.mem sp s[q]? = true)
    (hD : mx = some 1 ∨ CSet.disjoint sp FL FI = true) {p p1 p2 : Nat} (h1 : p1 ∈ B p) (h2 : p2 ∈ B p)
    (hlt : p1 < p2) : mx = some 1 ∨ B p1 = [] :=
  hD.imp_right fun hD => List.eq_nil_iff_forall_not_mem.mpr fun x hx =>
    CSet.disjoint_sound hD _ ((hB p).2 p1 p2 h1 h2 hlt) (hFI p1 x hx)

/-- Ends of continuations `C m` from the distinct ends `m ∈ E` of a first part stay distinct when a continuation
    only moves forward and cannot move at all from a non-maximal `m`. -/
theorem nodup_flatMap_of_dead {E : List Nat} {C : Nat → List Nat} (hE : E.Nodup) (hC : ∀ m ∈ E, (C m).Nodup)
    (hge : ∀ m e, e ∈ C m → m ≤ e)
    (hkey : ∀ m1 m2 e, m1 ∈ E → m2 ∈ E → m1 < m2 → e ∈ C m1 → e = m1) : (E.flatMap C).Nodup := by
  rw [List.nodup_flatMap]
  refine ⟨hC, hE.pairwise_of_forall_ne fun m1 h1 m2 h2 hne => ?_⟩
  show List.Disjoint _ _
  intro e he1 he2
  rcases Nat.lt_or_gt_of_ne hne with hlt | hlt
  · have := hkey m1 m2 e h1 h2 hlt he1
    have := hge _ _ he2
    omega
  · have := hkey m2 m1 e h2 h1 hlt he2
    have := hge _ _ he1
    omega

theorem stepE_of_pos {body : Nat → List Nat} {mn : Nat} {mx : Option Nat} {g : Bool}
    {f c p p' : Nat} (h : p < p') :
    stepE body mn mx g f c p p' = iterE body mn mx g f (c + 1) p' := by
  unfold stepE
  have : (decide (p' > p) || decide (c + 1 < mn)) = true := by simp [h]
  rw [if_pos this]

theorem moreE_of_pos {body : Nat → List Nat} (hP : ∀ q e, e ∈ body q → q < e) {mn : Nat}
    {mx : Option Nat} {g : Bool} {f c p : Nat} :
    moreE body mn mx g f c p =
      if canMore mx c then (body p).flatMap (fun p' => iterE body mn mx g f (c + 1) p') else [] := by
  unfold moreE
  split
  · exact List.flatMap_congr (fun p' hp' => stepE_of_pos (hP p p' hp'))
  · rfl

/-- The unique-decomposition theorem: iterating a deterministic, non-nullable body whose
    follow-last set is disjoint from its first set is deterministic. -/
theorem iterE_detSem (sp : Specials) (s : Str) (B : Nat → List Nat) (FL FI CF : CSet) (mn : Nat) (mx : Option Nat)
    (g : Bool)
    (hB : DetSem sp s B FL)
    (hP : ∀ q e, e ∈ B q → q < e)
    (hFI : ∀ q e, e ∈ B q → FI.mem sp s[q]? = true)
    (hCF : ∀ q e, e ∈ B q → CF.mem sp s[q]? = true)
    (hD : mx = some 1 ∨ CSet.disjoint sp FL FI = true) :
    ∀ f c p,
      (iterE B mn mx g f c p).Nodup ∧
      ∀ e1 e2, e1 ∈ iterE B mn mx g f c p → e2 ∈ iterE B mn mx g f c p → e1 < e2 →
        (if mx == some mn then FL else CSet.union FL CF).mem sp s[e1]? = true := by
  have hge : ∀ f c p e, e ∈ iterE B mn mx g f c p → p ≤ e := by
    intro f c p e h
    rcases iterE_pos B hP mn mx g f c p e h with h | h <;> omega
  have hK : ∀ f c p p1 p2 e, p1 ∈ B p → p2 ∈ B p → p1 < p2 →
      e ∈ iterE B mn mx g f (c + 1) p1 → e = p1 := by
    intro f c p p1 p2 e h1 h2 hlt he
    rcases hB.dead_end hFI hD h1 h2 hlt with hD | hnil
    · subst hD
      cases f with
      | zero => simp [iterE_zero] at he
      | succ f =>
        rcases mem_iterE_succ.mp he with ⟨_, rfl⟩ | ⟨hcm, _⟩
        · rfl
        · simp [canMore] at hcm
    · rcases iterE_pos B hP mn mx g f _ _ _ he with hgt | ⟨rfl, _⟩
      · obtain ⟨p'', hp'', _⟩ :=
          iterE_consumes B (fun q e he => Nat.le_of_lt (hP q e he)) mn mx g f _ _ _ he hgt
        rw [hnil] at hp''; cases hp''
      · rfl
  intro f
  induction f with
  | zero => intro c p; simp [iterE_zero]
  | succ f ih =>
    intro c p
    constructor
    · rw [(iterE_perm B mn mx g f c p).nodup_iff, List.nodup_append]
      refine ⟨?_, ?_, ?_⟩
      · unfold stopE; split <;> simp
      · rw [moreE_of_pos hP]
        split
        · exact nodup_flatMap_of_dead (hB p).1 (fun p' _ => (ih _ _).1) (fun m e he => hge _ _ _ _ he)
            fun p1 p2 e h1 h2 hlt he => hK f c p p1 p2 e h1 h2 hlt he
        · simp
      · intro a ha b hb
        have ha' : a = p := by unfold stopE at ha; split at ha <;> simp at ha; exact ha
        rw [moreE_of_pos hP] at hb
        split at hb
        · obtain ⟨p', hp', hb'⟩ := List.mem_flatMap.mp hb
          have := hP p p' hp'
          have := hge _ _ _ _ hb'
          omega
        · simp at hb
    · intro e1 e2 h1 h2 hlt
      have hmem : ∀ e, e ∈ iterE B mn mx g (f + 1) c p →
          (c ≥ mn ∧ e = p) ∨ (canMore mx c = true ∧ ∃ p' ∈ B p, e ∈ iterE B mn mx g f (c + 1) p') := by
        intro e he
        rcases mem_iterE_succ.mp he with h | ⟨hcm, p', hp', hs⟩
        · exact Or.inl h
        · rw [stepE_of_pos (hP p p' hp')] at hs
          exact Or.inr ⟨hcm, p', hp', hs⟩
      rcases hmem e1 h1 with ⟨hc, rfl⟩ | ⟨_, p1, hp1, he1⟩
      · rcases hmem e2 h2 with ⟨_, rfl⟩ | ⟨hcm, p2, hp2, _⟩
        · omega
        · have hne : (mx == some mn) = false := by
            cases mx with
            | none => rfl
            | some m =>
              simp only [canMore, decide_eq_true_eq] at hcm
              simp; omega
          rw [hne]
          simp only [Bool.false_eq_true, if_false, CSet.mem_union, Bool.or_eq_true]
          exact Or.inr (hCF e1 p2 hp2)
      · rcases hmem e2 h2 with ⟨_, rfl⟩ | ⟨_, p2, hp2, he2⟩
        · have := hP e2 p1 hp1
          have := hge _ _ _ _ he1
          omega
        · have hFLT : ∀ o, FL.mem sp o = true →
              (if mx == some mn then FL else CSet.union FL CF).mem sp o = true := by
            intro o ho
            split
            · exact ho
            · rw [CSet.mem_union, ho]; rfl
          rcases Nat.lt_trichotomy p1 p2 with hlt' | heq | hlt'
          · have := hK f c p p1 p2 e1 hp1 hp2 hlt' he1
            subst this
            exact hFLT _ ((hB p).2 e1 p2 hp1 hp2 hlt')
          · subst heq
            exact (ih _ _).2 e1 e2 he1 he2 hlt
          · have := hK f c p p2 p1 e2 hp2 hp1 hlt' he2
            have := hge _ _ _ _ he1
            omega

theorem endsAlt_nil (env : CharEnv) (s : Str) (i : Nat) :
    ∀ rs : List Rx, (∀ y ∈ rs, ends env s y i = []) → endsAlt env s rs i = []
  | [], _ => rfl
  | r :: rs, h => by
    simp only [endsAlt]
    rw [h r (List.mem_cons_self ..), endsAlt_nil env s i rs (fun y hy => h y (List.mem_cons_of_mem _ hy))]
    rfl

mutual
theorem det_sound {sp : Specials} (env : CharEnv) (ok : EnvOK sp env) (s : Str) :
    ∀ r : Rx, Det sp r = true → DetSem sp s (fun i => ends env s r i) (fl sp r)
  | .lit .., _ | .notLit .., _ | .any _, _ | .set .., _ =>
    detSem_of_single sp s _ _ (leaf_length_le_one env s _ rfl)
  | .seq rs, h => by
    simp only [Det] at h
    intro i; simp only [ends, fl]; exact detSeq_sound env ok s rs h i
  | .alt rs, h => by
    simp only [Det] at h
    intro i; simp only [ends, fl]; exact detAlt_sound env ok s rs h i
  | .group _ r, h => by
    simp only [Det] at h
    intro i; simp only [ends, fl]; exact det_sound env ok s r h i
  | .rep mn mx g r, h => by
    simp only [Det, Bool.and_eq_true, Bool.or_eq_true, Bool.not_eq_true', beq_iff_eq] at h
    obtain ⟨⟨hd, hn⟩, hD⟩ := h
    intro i
    simp only [ends, fl]
    exact iterE_detSem sp s (fun p => ends env s r p) (fl sp r) (first sp r) (cfirst sp r) mn mx g
      (det_sound env ok s r hd)
      (fun q e he => nullable_sound env s r hn q e he)
      (fun q e he => first_sound env ok s r q e he)
      (fun q e he => cfirst_sound env ok s r q e he (nullable_sound env s r hn q e he))
      hD _ _ _
  | .bos, _ | .eol, _ | .eos, _ | .look .., _ =>
    detSem_of_single sp s _ _ (zw_length_le_one env s _ rfl)
theorem detSeq_sound {sp : Specials} (env : CharEnv) (ok : EnvOK sp env) (s : Str) :
    ∀ rs : List Rx, detSeq sp rs = true → DetSem sp s (fun i => endsSeq env s rs i) (flSeq sp rs)
  | [], _ => detSem_of_single sp s _ _ (fun i => by simp [endsSeq])
  | r :: rs, h => by
    simp only [detSeq, Bool.and_eq_true] at h
    obtain ⟨⟨hr, hrs⟩, hdis⟩ := h
    have ihr := det_sound env ok s r hr
    have ihs := detSeq_sound env ok s rs hrs
    -- a shorter end of `r` cannot be followed by a consuming match of the rest
    have hkey : ∀ i m1 m2 e, m1 ∈ ends env s r i → m2 ∈ ends env s r i → m1 < m2 →
        e ∈ endsSeq env s rs m1 → e = m1 := by
      intro i m1 m2 e h1 h2 hlt he
      have hfl := (ihr i).2 m1 m2 h1 h2 hlt
      have hge := (endsSeq_endOK env s rs m1 e he).1
      by_cases hgt : m1 < e
      · exact (CSet.disjoint_sound hdis _ hfl (cfirstSeq_sound env ok s rs m1 e he hgt)).elim
      · omega
    intro i
    simp only [endsSeq]
    constructor
    · exact nodup_flatMap_of_dead (ihr i).1 (fun m _ => (ihs m).1) (fun m e he => (endsSeq_endOK env s rs m e he).1)
        (hkey i)
    · intro e1 e2 h1 h2 hlt
      obtain ⟨m1, hm1, he1⟩ := List.mem_flatMap.mp h1
      obtain ⟨m2, hm2, he2⟩ := List.mem_flatMap.mp h2
      simp only [flSeq, CSet.mem_union, Bool.or_eq_true]
      rcases Nat.lt_trichotomy m1 m2 with hlt' | heq | hlt'
      · right
        have := hkey i m1 m2 e1 hm1 hm2 hlt' he1
        subst this
        cases hn : nullableSeq rs with
        | false => have := nullableSeq_sound env s rs hn e1 e1 he1; omega
        | true =>
          simp only [if_true, CSet.mem_inter, Bool.and_eq_true]
          exact ⟨(ihr i).2 e1 m2 hm1 hm2 hlt', firstSeq_sound env ok s rs e1 e1 he1⟩
      · subst heq
        exact Or.inl ((ihs m1).2 e1 e2 he1 he2 hlt)
      · have := hkey i m2 m1 e2 hm2 hm1 hlt' he2
        have := (endsSeq_endOK env s rs m1 e1 he1).1
        omega
theorem detAlt_sound {sp : Specials} (env : CharEnv) (ok : EnvOK sp env) (s : Str) :
    ∀ rs : List Rx, detAlt sp rs = true → DetSem sp s (fun i => endsAlt env s rs i) (flAlt sp rs)
  | [], _ => detSem_of_single sp s _ _ (fun i => by simp [endsAlt])
  | r :: rs, h => by
    simp only [detAlt, Bool.and_eq_true, List.all_eq_true] at h
    obtain ⟨⟨hr, hrs⟩, hex⟩ := h
    have ihr := det_sound env ok s r hr
    have ihs := detAlt_sound env ok s rs hrs
    intro i
    simp only [endsAlt, flAlt]
    cases hE : ends env s r i with
    | nil =>
      rw [List.nil_append]
      refine ⟨(ihs i).1, fun e1 e2 h1 h2 hlt => ?_⟩
      rw [CSet.mem_union, (ihs i).2 e1 e2 h1 h2 hlt, Bool.or_true]
    | cons a l =>
      have hnil : endsAlt env s rs i = [] := by
        apply endsAlt_nil
        intro y hy
        cases hy' : ends env s y i with
        | nil => rfl
        | cons b _ =>
          exact (excl_sound env ok s _ r y (hex y hy) i a b (by rw [hE]; exact List.mem_cons_self ..)
            (by rw [hy']; exact List.mem_cons_self ..)).elim
      rw [hnil, List.append_nil, ← hE]
      refine ⟨(ihr i).1, fun e1 e2 h1 h2 hlt => ?_⟩
      rw [CSet.mem_union, (ihr i).2 e1 e2 h1 h2 hlt, Bool.true_or]
end

theorem det_ends_nodup {sp : Specials} (env : CharEnv) (ok : EnvOK sp env) (s : Str) (r : Rx) (h : Det sp r = true)
    (i : Nat) : (ends env s r i).Nodup := (det_sound env ok s r h i).1

theorem starSafe_star_det {sp : Specials} {mn : Nat} {g : Bool} {b : Rx}
    (h : StarSafe sp (.rep mn none g b) = true) : Det sp (.rep mn none g b) = true := by
  simp only [StarSafe, Bool.and_eq_true, Bool.or_eq_true, Option.isSome_none,
    Bool.false_eq_true, or_false] at h
  exact h.2

theorem CSet.disjoint_empty_left (sp : Specials) (a : CSet) :
    CSet.disjoint sp CSet.empty a = true := by
  simp [CSet.disjoint, CSet.empty]

theorem CSet.disjoint_empty_right (sp : Specials) (a : CSet) :
    CSet.disjoint sp a CSet.empty = true := by
  simp [CSet.disjoint, CSet.empty]

/-- A leading `^` does not affect determinism: it has no follow-last symbols. -/
theorem det_bos_seq (sp : Specials) (r : Rx) : Det sp (.seq [.bos, r]) = Det sp r := by
  simp only [Det, detSeq, fl, cfirstSeq, CSet.disjoint_empty_left, CSet.disjoint_empty_right,
    Bool.true_and, Bool.and_true]

end Rx
end SoupVerif
