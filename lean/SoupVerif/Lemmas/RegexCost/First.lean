/-
  C07 lemmas: soundness of the character-set abstraction (ASCII columns, one exact column
  per special code point, one approximate column for all other non-ASCII code points) and of
  `nullable`, `first`, `cfirst`.
-/
import SoupVerif.Lemmas.RegexCost.Ends
set_option autoImplicit false
namespace SoupVerif
namespace Rx

theorem isSpecial_mem {sp : Specials} {c : Nat} (h : isSpecial sp c = true) :
    ∃ a, sp.lookup c = some a ∧ (c, a) ∈ sp := by
  unfold isSpecial at h
  cases hl : sp.lookup c with
  | none => rw [hl] at h; simp at h
  | some a => exact ⟨a, rfl, lookup_mem sp c a hl⟩

theorem key_mem_keys (sp : Specials) (o : Option Nat) : key sp o ∈ keys sp := by
  unfold keys
  rw [List.mem_append]
  cases o with
  | none => left; simp [key]
  | some c =>
    simp only [key]
    split
    · left; rw [List.mem_range]; omega
    · split
      · rename_i hs
        obtain ⟨a, _, hm⟩ := isSpecial_mem hs
        right; exact List.mem_map.mpr ⟨(c, a), hm, rfl⟩
      · left; simp

theorem CSet.disjoint_sound {sp : Specials} {a b : CSet} (h : CSet.disjoint sp a b = true)
    (o : Option Nat) (ha : a.mem sp o = true) (hb : b.mem sp o = true) : False := by
  unfold CSet.disjoint at h
  rw [List.all_eq_true] at h
  have := h (key sp o) (key_mem_keys sp o)
  simp only [CSet.mem] at ha hb
  simp [ha, hb] at this

theorem CSet.mem_union (sp : Specials) (a b : CSet) (o : Option Nat) :
    (CSet.union a b).mem sp o = (a.mem sp o || b.mem sp o) := rfl
theorem CSet.mem_inter (sp : Specials) (a b : CSet) (o : Option Nat) :
    (CSet.inter a b).mem sp o = (a.mem sp o && b.mem sp o) := rfl
theorem CSet.mem_all (sp : Specials) (o : Option Nat) : CSet.all.mem sp o = true := rfl
theorem CSet.mem_empty (sp : Specials) (o : Option Nat) : CSet.empty.mem sp o = false := rfl
theorem CSet.mem_compl (sp : Specials) (a : CSet) (o : Option Nat) :
    (CSet.compl a).mem sp o = !a.mem sp o := rfl

/-- An exact code point (ASCII or special) has its own key, from which it is recovered. -/
theorem key_exact {sp : Specials} {x : Nat} (h : isOther sp x = false) :
    (key sp (some x) == 128) = false ∧ (key sp (some x) == 129) = false ∧
      cpOfKey (key sp (some x)) = x := by
  simp only [key, cpOfKey]
  by_cases hx : x < 128
  · simp only [hx, if_true]
    refine ⟨by simp; omega, by simp; omega, trivial⟩
  · have hs : isSpecial sp x = true := by
      simp only [isOther, Bool.and_eq_false_iff, decide_eq_false_iff_not, Bool.not_eq_false'] at h
      rcases h with h | h
      · omega
      · exact h
    simp only [hx, if_false, hs, if_true]
    refine ⟨by simp; omega, by simp; omega, ?_⟩
    rw [if_neg (by omega)]; omega

theorem key_other {sp : Specials} {x : Nat} (h : isOther sp x = true) : key sp (some x) = 128 := by
  simp only [isOther, Bool.and_eq_true, decide_eq_true_eq, Bool.not_eq_true'] at h
  simp only [key]
  rw [if_neg (by omega), h.2]; rfl

theorem isOther_ge {sp : Specials} {x : Nat} (h : isOther sp x = true) : 128 ≤ x := by
  simp only [isOther, Bool.and_eq_true, decide_eq_true_eq] at h; exact h.1

theorem lowerCp_lt {c : Nat} (h : c < 128) : lowerCp c < 128 := by
  unfold lowerCp; split <;> omega

theorem lowerCp_ge {c : Nat} (h : 128 ≤ c) : lowerCp c = c := by
  unfold lowerCp; split <;> omega

theorem foldEnv_fold (sp : Specials) (c : Nat) :
    (foldEnv sp).fold c = match sp.lookup c with | some a => a | none => lowerCp c := rfl

theorem foldEnv_ok {sp : Specials} (wf : ∀ p ∈ sp, 128 ≤ p.1 ∧ p.2 < 128)
    (nd : ∀ c a, (c, a) ∈ sp → sp.lookup c = some a) : EnvOK sp (foldEnv sp) where
  wf := wf
  ascii := by
    intro c hc
    rw [foldEnv_fold]
    cases hl : sp.lookup c with
    | none => rfl
    | some a => have := (wf _ (lookup_mem sp c a hl)).1; simp only at this; omega
  special := by
    intro p hp
    rw [foldEnv_fold, nd p.1 p.2 hp]
  high := by
    intro c hc hs
    rw [foldEnv_fold]
    unfold isSpecial at hs
    cases hl : sp.lookup c with
    | none => simp only; rw [lowerCp_ge hc]; exact hc
    | some a => rw [hl] at hs; simp at hs

theorem asciiEnv_ok : EnvOK [] asciiEnv :=
  foldEnv_ok (sp := []) (fun _ h => by simp at h) (fun _ _ h => by simp at h)

theorem pyFoldEnv_ok : EnvOK foldSpecials pyFoldEnv :=
  foldEnv_ok (sp := foldSpecials) (by decide) (by
    intro c a h
    simp only [foldSpecials, List.mem_cons, Prod.mk.injEq, List.not_mem_nil, or_false] at h
    rcases h with ⟨rfl, rfl⟩ | ⟨rfl, rfl⟩ | ⟨rfl, rfl⟩ | ⟨rfl, rfl⟩ <;> rfl)

theorem EnvOK.fold_exact {sp : Specials} {env : CharEnv} (ok : EnvOK sp env) {x : Nat}
    (h : isOther sp x = false) : env.fold x = (foldEnv sp).fold x ∧ (foldEnv sp).fold x < 128 := by
  rw [foldEnv_fold]
  by_cases hx : x < 128
  · have hl : sp.lookup x = none := by
      cases hl : sp.lookup x with
      | none => rfl
      | some a => have := (ok.wf _ (lookup_mem sp x a hl)).1; simp only at this; omega
    rw [hl]
    exact ⟨ok.ascii x hx, lowerCp_lt hx⟩
  · have hs : isSpecial sp x = true := by
      simp only [isOther, Bool.and_eq_false_iff, decide_eq_false_iff_not, Bool.not_eq_false'] at h
      rcases h with h | h
      · omega
      · exact h
    obtain ⟨a, hl, hm⟩ := isSpecial_mem hs
    rw [hl]
    exact ⟨ok.special _ hm, (ok.wf _ hm).2⟩

theorem EnvOK.fold_other {sp : Specials} {env : CharEnv} (ok : EnvOK sp env) {x : Nat}
    (h : isOther sp x = true) : 128 ≤ env.fold x := by
  simp only [isOther, Bool.and_eq_true, decide_eq_true_eq, Bool.not_eq_true'] at h
  exact ok.high x h.1 h.2

theorem foldEnv_fold_other {sp : Specials} {x : Nat} (h : isOther sp x = true) :
    (foldEnv sp).fold x = x := by
  simp only [isOther, Bool.and_eq_true, decide_eq_true_eq, Bool.not_eq_true'] at h
  rw [foldEnv_fold]
  have := h.2
  unfold isSpecial at this
  cases hl : sp.lookup x with
  | none => exact lowerCp_ge h.1
  | some a => rw [hl] at this; simp at this

theorem EnvOK.fold_eq_iff {sp : Specials} {env : CharEnv} (ok : EnvOK sp env) {y c : Nat}
    (hc : isOther sp c = false) :
    (env.fold y == env.fold c) = ((foldEnv sp).fold y == (foldEnv sp).fold c) := by
  obtain ⟨e1, l1⟩ := ok.fold_exact hc
  rw [e1]
  cases hy : isOther sp y with
  | false => rw [(ok.fold_exact hy).1]
  | true =>
    have h1 := ok.fold_other hy
    have h2 := foldEnv_fold_other hy
    have h3 := isOther_ge hy
    have e1 : (env.fold y == (foldEnv sp).fold c) = false := by simp; omega
    have e2 : ((foldEnv sp).fold y == (foldEnv sp).fold c) = false := by simp; omega
    rw [e1, e2]

theorem itemHas_exact {sp : Specials} {env : CharEnv} (ok : EnvOK sp env) (ic : Bool) {c : Nat}
    (hc : isOther sp c = false) (it : SetItem) (hcat : ∀ k, it ≠ .cat k) :
    itemHas env ic c it = itemHas (foldEnv sp) ic c it := by
  cases it with
  | ch y =>
    simp only [itemHas]
    rw [ok.fold_eq_iff hc]
  | range lo hi =>
    simp only [itemHas]
    rw [(ok.fold_exact hc).1]
  | cat k => exact absurd rfl (hcat k)

theorem itemHas_high {sp : Specials} {env : CharEnv} (ok : EnvOK sp env) (ic : Bool) {c : Nat}
    (hc : isOther sp c = true) (it : SetItem) (h : itemHas env ic c it = true) :
    itemHigh sp it = true := by
  have hge := isOther_ge hc
  have hf := ok.fold_other hc
  cases it with
  | ch y =>
    simp only [itemHas] at h
    simp only [itemHigh]
    cases ic
    · simp at h; subst h; exact hc
    · simp only [if_true, beq_iff_eq] at h
      cases hy : isOther sp y with
      | true => rfl
      | false =>
        obtain ⟨e1, l1⟩ := ok.fold_exact hy
        omega
  | range lo hi =>
    simp only [itemHas, Bool.or_eq_true, Bool.and_eq_true, decide_eq_true_eq] at h
    simp only [itemHigh, decide_eq_true_eq]
    omega
  | cat k => rfl

theorem itemApx_upper {sp : Specials} {env : CharEnv} (ok : EnvOK sp env) (ic : Bool) (x : Nat)
    (it : SetItem) (h : itemHas env ic x it = true) :
    itemApx sp true ic (key sp (some x)) it = true := by
  unfold itemApx
  cases hx : isOther sp x with
  | false =>
    obtain ⟨k1, k2, k3⟩ := key_exact hx
    simp only [k1, k2, Bool.false_eq_true, if_false, k3]
    cases it with
    | cat k => rfl
    | ch y => simp only []; rw [← itemHas_exact ok ic hx _ (by intro k; simp)]; exact h
    | range lo hi => simp only []; rw [← itemHas_exact ok ic hx _ (by intro k; simp)]; exact h
  | true =>
    rw [key_other hx]
    have := itemHas_high ok ic hx it h
    simp [this]

theorem itemApx_lower {sp : Specials} {env : CharEnv} (ok : EnvOK sp env) (ic : Bool) (x : Nat)
    (it : SetItem) (h : itemApx sp false ic (key sp (some x)) it = true) :
    itemHas env ic x it = true := by
  unfold itemApx at h
  cases hx : isOther sp x with
  | false =>
    obtain ⟨k1, k2, k3⟩ := key_exact hx
    simp only [k1, k2, Bool.false_eq_true, if_false, k3] at h
    cases it with
    | cat k => simp at h
    | ch y => simp only [] at h; rw [itemHas_exact ok ic hx _ (by intro k; simp)]; exact h
    | range lo hi => simp only [] at h; rw [itemHas_exact ok ic hx _ (by intro k; simp)]; exact h
  | true =>
    rw [key_other hx] at h
    simp at h

theorem any_mono {α : Type} (l : List α) (f g : α → Bool) (h : ∀ x, f x = true → g x = true)
    (hf : l.any f = true) : l.any g = true := by
  rw [List.any_eq_true] at hf ⊢
  obtain ⟨x, hx, hfx⟩ := hf
  exact ⟨x, hx, h x hfx⟩

theorem litOk_exact {sp : Specials} {env : CharEnv} (ok : EnvOK sp env) (ic : Bool) {x : Nat}
    (c : Nat) (hx : isOther sp x = false) :
    (if ic = true then env.fold x == env.fold c else x == c) =
      (if ic = true then (foldEnv sp).fold x == (foldEnv sp).fold c else x == c) := by
  cases ic
  · rfl
  · simp only [if_true]; rw [Bool.beq_comm, ok.fold_eq_iff hx, Bool.beq_comm]

theorem litOk_high {sp : Specials} {env : CharEnv} (ok : EnvOK sp env) (ic : Bool) {x c : Nat}
    (hx : isOther sp x = true)
    (h : (if ic = true then env.fold x == env.fold c else x == c) = true) : isOther sp c = true := by
  cases ic
  · simp at h; subst h; exact hx
  · simp only [if_true, beq_iff_eq] at h
    cases hc : isOther sp c with
    | true => rfl
    | false =>
      obtain ⟨e1, l1⟩ := ok.fold_exact hc
      have := ok.fold_other hx
      omega

theorem leafApx_exact {sp : Specials} {env : CharEnv} (ok : EnvOK sp env) (u : Bool) {r : Rx} {x : Nat}
    (hx : isOther sp x = false) (hr : ∀ n is ic, r ≠ .set n is ic) :
    leafApx sp u r (key sp (some x)) = charOk env r x := by
  obtain ⟨k1, k2, k3⟩ := key_exact hx
  cases r <;> simp only [leafApx, charOk, k1, k2, k3, Bool.false_eq_true, if_false]
  · rw [litOk_exact ok _ _ hx]
  · rw [litOk_exact ok _ _ hx]
  · exact absurd rfl (hr _ _ _)

theorem key_ne_eof (sp : Specials) (x : Nat) : (key sp (some x) == 129) = false := by
  cases hx : isOther sp x with
  | false => exact (key_exact hx).2.1
  | true => rw [key_other hx]; rfl

theorem leafApx_upper {sp : Specials} {env : CharEnv} (ok : EnvOK sp env) (r : Rx) (x : Nat)
    (h : charOk env r x = true) : leafApx sp true r (key sp (some x)) = true := by
  cases r <;> simp only [charOk, Bool.false_eq_true] at h
  case set neg items ic =>
    simp only [leafApx, key_ne_eof, Bool.false_eq_true, if_false]
    unfold setHas at h
    cases neg
    · simp only [Bool.bne_false] at h ⊢
      exact any_mono _ _ _ (fun it => itemApx_upper ok ic x it) h
    · simp only [bne_self_eq_false, Bool.bne_true, Bool.not_eq_true'] at h ⊢
      cases hany : items.any (itemApx sp false ic (key sp (some x))) with
      | false => rfl
      | true =>
        have := any_mono _ _ _ (fun it => itemApx_lower ok ic x it) hany
        rw [h] at this; exact absurd this (by simp)
  case lit c ic =>
    cases hx : isOther sp x with
    | false => rw [leafApx_exact ok true hx (by intros; simp)]; exact h
    | true => rw [key_other hx]; simp [leafApx, litOk_high ok ic hx h]
  all_goals
    cases hx : isOther sp x with
    | false => rw [leafApx_exact ok true hx (by intros; simp)]; simpa only [charOk] using h
    | true => rw [key_other hx]; simp [leafApx]

theorem leafApx_lower {sp : Specials} {env : CharEnv} (ok : EnvOK sp env) (r : Rx) (x : Nat)
    (h : leafApx sp false r (key sp (some x)) = true) : charOk env r x = true := by
  cases r
  case set neg items ic =>
    simp only [leafApx, key_ne_eof, Bool.false_eq_true, if_false] at h
    simp only [charOk]
    unfold setHas
    cases neg
    · simp only [Bool.bne_false] at h ⊢
      exact any_mono _ _ _ (fun it => itemApx_lower ok ic x it) h
    · simp only [Bool.bne_true, Bool.not_eq_true', Bool.not_false] at h ⊢
      cases hany : items.any (itemHas env ic x) with
      | false => rfl
      | true =>
        have := any_mono _ _ _ (fun it => itemApx_upper ok ic x it) hany
        rw [h] at this; exact absurd this (by simp)
  case lit c ic =>
    cases hx : isOther sp x with
    | false => rw [leafApx_exact ok false hx (by intros; simp)] at h; exact h
    | true => rw [key_other hx] at h; simp [leafApx] at h
  case notLit c ic =>
    cases hx : isOther sp x with
    | false => rw [leafApx_exact ok false hx (by intros; simp)] at h; exact h
    | true =>
      rw [key_other hx] at h
      have hc : isOther sp c = false := by simpa [leafApx] using h
      simp only [charOk]
      cases hb : (if ic = true then env.fold x == env.fold c else x == c) with
      | false => rfl
      | true => have := litOk_high ok ic hx hb; rw [hc] at this; exact absurd this (by simp)
  case any d =>
    cases hx : isOther sp x with
    | false => rw [leafApx_exact ok false hx (by intros; simp)] at h; exact h
    | true =>
      have := isOther_ge hx
      simp only [charOk, Bool.or_eq_true, bne_iff_ne]; right; omega
  all_goals simp [leafApx] at h

theorem leafApx_eof (sp : Specials) (u : Bool) (r : Rx) : leafApx sp u r 129 = false := by
  cases r <;> simp [leafApx]

theorem iterE_pos (body : Nat → List Nat) (hb : ∀ q e, e ∈ body q → q < e) (mn : Nat)
    (mx : Option Nat) (g : Bool) (f c p e : Nat) (h : e ∈ iterE body mn mx g f c p) :
    p < e ∨ (e = p ∧ c ≥ mn) := by
  have hr := iterE_end h
  clear h
  induction hr with
  | stop hc => exact .inr ⟨rfl, hc⟩
  | more _ hp' _ ih => have := hb _ _ hp'; left; omega

theorem iterE_consumes (body : Nat → List Nat) (hb : ∀ q e, e ∈ body q → q ≤ e) (mn : Nat)
    (mx : Option Nat) (g : Bool) (f c p e : Nat) (h : e ∈ iterE body mn mx g f c p) :
    p < e → ∃ p' ∈ body p, p < p' := by
  have hr := iterE_end h
  clear h
  induction hr with
  | stop => exact fun h => absurd h (Nat.lt_irrefl _)
  | @more c p p' e _ hp' _ ih =>
    intro hlt
    by_cases hpp : p < p'
    · exact ⟨p', hp', hpp⟩
    · obtain rfl : p' = p := by have := hb p p' hp'; omega
      exact ih hlt

theorem iterE_first (body : Nat → List Nat) (mn : Nat) (hmn : 0 < mn)
    (mx : Option Nat) (g : Bool) (f p e : Nat) (h : e ∈ iterE body mn mx g f 0 p) :
    ∃ p', p' ∈ body p := by
  cases iterE_end h with
  | stop hc => omega
  | more _ hp' _ => exact ⟨_, hp'⟩

theorem first_leaf {sp : Specials} {env : CharEnv} (ok : EnvOK sp env) {s : Str} {r : Rx} (hl : isLeaf r = true)
    {i e : Nat} (h : e ∈ ends env s r i) : (leafApx sp true r).mem sp s[i]? = true := by
  obtain ⟨_, x, hx, hc⟩ := (mem_ends_leaf hl).mp h
  rw [hx]; exact leafApx_upper ok r x hc

mutual
theorem nullable_sound (env : CharEnv) (s : Str) :
    ∀ (r : Rx), nullable r = false → ∀ i e, e ∈ ends env s r i → i < e
  | .lit .., _, i, e, h | .notLit .., _, i, e, h | .any _, _, i, e, h | .set .., _, i, e, h => by
    have := (mem_ends_leaf rfl).mp h; omega
  | .seq rs, hn, i, e, h => by
    simp only [nullable] at hn; simp only [ends] at h; exact nullableSeq_sound env s rs hn i e h
  | .alt rs, hn, i, e, h => by
    simp only [nullable] at hn; simp only [ends] at h; exact nullableAlt_sound env s rs hn i e h
  | .group _ r, hn, i, e, h => by
    simp only [nullable] at hn; simp only [ends] at h; exact nullable_sound env s r hn i e h
  | .rep mn mx g r, hn, i, e, h => by
    simp only [nullable, Bool.or_eq_false_iff, beq_eq_false_iff_ne] at hn
    simp only [ends] at h
    rcases iterE_pos _ (fun q e he => nullable_sound env s r hn.2 q e he) mn mx g _ _ _ _ h with h | h
    · exact h
    · omega
  | .bos, hn, _, _, _ | .eol, hn, _, _, _ | .eos, hn, _, _, _ | .look .., hn, _, _, _ => by
    simp [nullable] at hn
theorem nullableSeq_sound (env : CharEnv) (s : Str) :
    ∀ (rs : List Rx), nullableSeq rs = false → ∀ i e, e ∈ endsSeq env s rs i → i < e
  | [], hn, _, _, _ => by simp [nullableSeq] at hn
  | r :: rs, hn, i, e, h => by
    simp only [endsSeq, List.mem_flatMap] at h
    obtain ⟨j, hj, he⟩ := h
    have h1 := ends_endOK env s r i j hj
    have h2 := endsSeq_endOK env s rs j e he
    simp only [nullableSeq, Bool.and_eq_false_iff] at hn
    rcases hn with hn | hn
    · have := nullable_sound env s r hn i j hj; omega
    · have := nullableSeq_sound env s rs hn j e he; omega
theorem nullableAlt_sound (env : CharEnv) (s : Str) :
    ∀ (rs : List Rx), nullableAlt rs = false → ∀ i e, e ∈ endsAlt env s rs i → i < e
  | [], _, _, _, h => by simp [endsAlt] at h
  | r :: rs, hn, i, e, h => by
    simp only [nullableAlt, Bool.or_eq_false_iff] at hn
    simp only [endsAlt, List.mem_append] at h
    rcases h with h | h
    · exact nullable_sound env s r hn.1 i e h
    · exact nullableAlt_sound env s rs hn.2 i e h
end

mutual
theorem first_sound {sp : Specials} (env : CharEnv) (ok : EnvOK sp env) (s : Str) :
    ∀ (r : Rx) (i e : Nat), e ∈ ends env s r i → (first sp r).mem sp s[i]? = true
  | .lit .., i, e, h | .notLit .., i, e, h | .any _, i, e, h | .set .., i, e, h => by
    simp only [first]; exact first_leaf ok rfl h
  | .seq rs, i, e, h => by simp only [ends] at h; simp only [first]; exact firstSeq_sound env ok s rs i e h
  | .alt rs, i, e, h => by simp only [ends] at h; simp only [first]; exact firstAlt_sound env ok s rs i e h
  | .group _ r, i, e, h => by simp only [ends] at h; simp only [first]; exact first_sound env ok s r i e h
  | .rep mn mx g r, i, e, h => by
    simp only [first]
    split
    · rfl
    · rename_i hmn
      simp only [ends] at h
      obtain ⟨p', hp'⟩ := iterE_first _ mn (by simp at hmn; omega) mx g _ _ _ h
      exact first_sound env ok s r i p' hp'
  | .bos, _, _, _ => rfl
  | .eol, i, e, h => by
    simp only [ends] at h
    split at h
    · rename_i hc
      simp only [first, CSet.mem]
      simp only [Bool.or_eq_true, beq_iff_eq, Bool.and_eq_true] at hc
      rcases hc with hc | ⟨_, hc⟩
      · have : s[i]? = none := List.getElem?_eq_none (by omega)
        rw [this]; rfl
      · rw [hc]; rfl
    · simp at h
  | .eos, i, e, h => by
    simp only [ends] at h
    split at h
    · rename_i hc
      simp only [beq_iff_eq] at hc
      have : s[i]? = none := List.getElem?_eq_none (by omega)
      simp only [first, CSet.mem]; rw [this]; rfl
    · simp at h
  | .look true true r, i, e, h => by
    simp only [first]
    split
    · rename_i hl
      simp only [ends] at h
      rw [CSet.mem_compl]
      cases hx : s[i]? with
      | none => simp only [CSet.mem, key]; rw [leafApx_eof]; rfl
      | some x =>
        cases hm : (leafApx sp false r).mem sp (some x) with
        | false => rfl
        | true =>
          have hc := leafApx_lower ok r x hm
          have : (i + 1) ∈ ends env s r i := (mem_ends_leaf hl).mpr ⟨rfl, x, hx, hc⟩
          have hne : (ends env s r i).isEmpty = false := by
            cases hh : ends env s r i with
            | nil => rw [hh] at this; simp at this
            | cons _ _ => rfl
          rw [hne] at h; simp at h
    · rfl
  | .look true false r, i, e, h => by
    simp only [first]
    simp only [ends] at h
    cases hh : ends env s r i with
    | nil => rw [hh] at h; simp at h
    | cons e' _ =>
      exact first_sound env ok s r i e' (by rw [hh]; exact List.mem_cons_self ..)
  | .look false _ _, _, _, _ => rfl
theorem firstSeq_sound {sp : Specials} (env : CharEnv) (ok : EnvOK sp env) (s : Str) :
    ∀ (rs : List Rx) (i e : Nat), e ∈ endsSeq env s rs i → (firstSeq sp rs).mem sp s[i]? = true
  | [], _, _, _ => rfl
  | r :: rs, i, e, h => by
    simp only [endsSeq, List.mem_flatMap] at h
    obtain ⟨j, hj, he⟩ := h
    have h1 := first_sound env ok s r i j hj
    simp only [firstSeq]
    split
    · rw [CSet.mem_inter, CSet.mem_union, h1, Bool.true_and, Bool.or_eq_true]
      have hge := (ends_endOK env s r i j hj).1
      by_cases hij : i < j
      · exact Or.inl (cfirst_sound env ok s r i j hj hij)
      · have : j = i := by omega
        subst this
        exact Or.inr (firstSeq_sound env ok s rs j e he)
    · exact h1
theorem firstAlt_sound {sp : Specials} (env : CharEnv) (ok : EnvOK sp env) (s : Str) :
    ∀ (rs : List Rx) (i e : Nat), e ∈ endsAlt env s rs i → (firstAlt sp rs).mem sp s[i]? = true
  | [], _, _, h => by simp [endsAlt] at h
  | r :: rs, i, e, h => by
    simp only [endsAlt, List.mem_append] at h
    simp only [firstAlt, CSet.mem_union, Bool.or_eq_true]
    rcases h with h | h
    · exact Or.inl (first_sound env ok s r i e h)
    · exact Or.inr (firstAlt_sound env ok s rs i e h)
theorem cfirst_sound {sp : Specials} (env : CharEnv) (ok : EnvOK sp env) (s : Str) :
    ∀ (r : Rx) (i e : Nat), e ∈ ends env s r i → i < e → (cfirst sp r).mem sp s[i]? = true
  | .lit .., i, e, h, _ | .notLit .., i, e, h, _ | .any _, i, e, h, _ | .set .., i, e, h, _ => by
    simp only [cfirst]; exact first_leaf ok rfl h
  | .seq rs, i, e, h, hlt => by
    simp only [ends] at h; simp only [cfirst]; exact cfirstSeq_sound env ok s rs i e h hlt
  | .alt rs, i, e, h, hlt => by
    simp only [ends] at h; simp only [cfirst]; exact cfirstAlt_sound env ok s rs i e h hlt
  | .group _ r, i, e, h, hlt => by
    simp only [ends] at h; simp only [cfirst]; exact cfirst_sound env ok s r i e h hlt
  | .rep mn mx g r, i, e, h, hlt => by
    simp only [ends] at h; simp only [cfirst]
    obtain ⟨p', hp', hlt'⟩ := iterE_consumes _ (fun q e he => (ends_endOK env s r q e he).1) mn mx g _ _ _ _ h hlt
    exact cfirst_sound env ok s r i p' hp' hlt'
  | .bos, i, e, h, hlt | .eol, i, e, h, hlt | .eos, i, e, h, hlt | .look .., i, e, h, hlt => by
    have := mem_ends_zw rfl h; omega
theorem cfirstSeq_sound {sp : Specials} (env : CharEnv) (ok : EnvOK sp env) (s : Str) :
    ∀ (rs : List Rx) (i e : Nat), e ∈ endsSeq env s rs i → i < e → (cfirstSeq sp rs).mem sp s[i]? = true
  | [], i, e, h, hlt => by simp [endsSeq] at h; omega
  | r :: rs, i, e, h, hlt => by
    simp only [endsSeq, List.mem_flatMap] at h
    obtain ⟨j, hj, he⟩ := h
    simp only [cfirstSeq, CSet.mem_union, Bool.or_eq_true]
    have hge := (ends_endOK env s r i j hj).1
    by_cases hij : i < j
    · exact Or.inl (cfirst_sound env ok s r i j hj hij)
    · have : j = i := by omega
      subst this
      right
      cases hn : nullable r with
      | false => have := nullable_sound env s r hn j j hj; omega
      | true =>
        simp only [if_true, CSet.mem_inter, Bool.and_eq_true]
        exact ⟨first_sound env ok s r j j hj, cfirstSeq_sound env ok s rs j e he hlt⟩
theorem cfirstAlt_sound {sp : Specials} (env : CharEnv) (ok : EnvOK sp env) (s : Str) :
    ∀ (rs : List Rx) (i e : Nat), e ∈ endsAlt env s rs i → i < e → (cfirstAlt sp rs).mem sp s[i]? = true
  | [], _, _, h, _ => by simp [endsAlt] at h
  | r :: rs, i, e, h, hlt => by
    simp only [endsAlt, List.mem_append] at h
    simp only [cfirstAlt, CSet.mem_union, Bool.or_eq_true]
    rcases h with h | h
    · exact Or.inl (cfirst_sound env ok s r i e h hlt)
    · exact Or.inr (cfirstAlt_sound env ok s rs i e h hlt)
end

end Rx
end SoupVerif
