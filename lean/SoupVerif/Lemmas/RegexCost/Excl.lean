/-
  C07 lemmas: syntactic equality, mutual exclusion of alternatives.
-/
import SoupVerif.Lemmas.RegexCost.First
set_option autoImplicit false
namespace SoupVerif
namespace Rx

mutual
theorem beq_sound : ∀ (x y : Rx), beq x y = true → x = y
  | .lit c ic, y, h | .notLit c ic, y, h => by
    cases y <;> simp only [beq, Bool.false_eq_true, Bool.and_eq_true, beq_iff_eq] at h
    obtain ⟨rfl, rfl⟩ := h; rfl
  | .any d, y, h => by
    cases y <;> simp only [beq, Bool.false_eq_true, beq_iff_eq] at h
    subst h; rfl
  | .set n is ic, y, h => by
    cases y <;> simp only [beq, Bool.false_eq_true, Bool.and_eq_true, beq_iff_eq] at h
    obtain ⟨⟨rfl, rfl⟩, rfl⟩ := h; rfl
  | .seq rs, y, h | .alt rs, y, h => by
    cases y <;> simp only [beq, Bool.false_eq_true] at h
    rw [beqList_sound rs _ h]
  | .group k r, y, h => by
    cases y <;> simp only [beq, Bool.false_eq_true, Bool.and_eq_true, beq_iff_eq] at h
    obtain ⟨rfl, h⟩ := h; rw [beq_sound r _ h]
  | .rep mn mx g r, y, h => by
    cases y <;> simp only [beq, Bool.false_eq_true, Bool.and_eq_true, beq_iff_eq] at h
    obtain ⟨⟨⟨rfl, rfl⟩, rfl⟩, h⟩ := h; rw [beq_sound r _ h]
  | .bos, y, h | .eol, y, h | .eos, y, h => by
    cases y <;> simp only [beq, Bool.false_eq_true] at h; rfl
  | .look a n r, y, h => by
    cases y <;> simp only [beq, Bool.false_eq_true, Bool.and_eq_true, beq_iff_eq] at h
    obtain ⟨⟨rfl, rfl⟩, h⟩ := h; rw [beq_sound r _ h]
theorem beqList_sound : ∀ (xs ys : List Rx), beqList xs ys = true → xs = ys
  | [], ys, h => by cases ys <;> simp only [beqList, Bool.false_eq_true] at h; rfl
  | x :: xs, ys, h => by
    cases ys <;> simp only [beqList, Bool.false_eq_true, Bool.and_eq_true] at h
    rw [beq_sound x _ h.1, beqList_sound xs _ h.2]
end

/-! ## Repeats of a single leaf (maximal munch) -/

def leafAt (env : CharEnv) (s : Str) (r : Rx) (q : Nat) : Prop :=
  ∃ x, s[q]? = some x ∧ charOk env r x = true

theorem iterE_leaf (env : CharEnv) (s : Str) (l : Rx) (hl : isLeaf l = true) (mn : Nat)
    (mx : Option Nat) (g : Bool) (f c p e : Nat) (h : e ∈ iterE (fun q => ends env s l q) mn mx g f c p) :
    p ≤ e ∧ (∀ q, p ≤ q → q < e → leafAt env s l q) ∧ mn ≤ c + (e - p) ∧
      (∀ b, mx = some b → c + (e - p) ≤ max b c) := by
  have hr := iterE_end h
  clear h
  induction hr with
  | stop hc => exact ⟨Nat.le_refl _, fun q h1 h2 => by omega, by omega, fun b _ => by omega⟩
  | @more c p p' e hcm hp' _ ih =>
    -- one more character of the class at `p`, then the rest from `p + 1`
    obtain ⟨rfl, hm⟩ := (mem_ends_leaf hl).mp hp'
    obtain ⟨i1, i2, i3, i4⟩ := ih
    refine ⟨by omega, fun q h1 h2 => ?_, by omega, fun b hb => ?_⟩
    · by_cases hq : q = p
      · exact hq ▸ hm
      · exact i2 q (by omega) h2
    · have := i4 b hb
      subst hb
      simp only [canMore, decide_eq_true_eq] at hcm
      omega

theorem ends_opt {env : CharEnv} {s : Str} {g : Bool} {a : Rx} {i e : Nat}
    (h : e ∈ ends env s (.rep 0 (some 1) g a) i) : e = i ∨ e ∈ ends env s a i := by
  simp only [ends] at h
  rcases mem_iterE_succ.mp h with ⟨_, rfl⟩ | ⟨_, p', hp', hs⟩
  · exact Or.inl rfl
  · right
    rcases mem_stepE.mp hs with ⟨_, h2⟩ | ⟨_, _, rfl⟩
    · rcases mem_iterE_succ.mp h2 with ⟨_, rfl⟩ | ⟨hcm, _⟩
      · exact hp'
      · simp [canMore] at hcm
    · exact hp'

theorem ends_seq_cons {env : CharEnv} {s : Str} {a : Rx} {as : List Rx} {i e : Nat} :
    e ∈ ends env s (.seq (a :: as)) i ↔ ∃ j ∈ ends env s a i, e ∈ ends env s (.seq as) j := by
  simp only [ends, endsSeq, List.mem_flatMap]

theorem ends_look_neg {env : CharEnv} {s : Str} {r : Rx} {i e : Nat}
    (h : e ∈ ends env s (.look true true r) i) : ends env s r i = [] := by
  simp only [ends] at h
  cases hh : ends env s r i with
  | nil => rfl
  | cons _ _ => rw [hh] at h; simp at h

theorem exclGuard_sound (env : CharEnv) (s : Str) (x y : Rx) (h : exclGuard x y = true)
    (i e1 e2 : Nat) (h1 : e1 ∈ ends env s x i) (h2 : e2 ∈ ends env s y i) : False := by
  unfold exclGuard at h
  split at h
  · rename_i x' rest
    have := beq_sound _ _ h; subst this
    obtain ⟨j, hj, _⟩ := ends_seq_cons.mp h2
    have := ends_look_neg hj
    rw [this] at h1; simp at h1
  · simp at h

theorem exclMunch_sound (env : CharEnv) (s : Str) (x y : Rx) (h : exclMunch x y = true)
    (i e1 e2 : Nat) (h1 : e1 ∈ ends env s x i) (h2 : e2 ∈ ends env s y i) : False := by
  unfold exclMunch at h
  split at h
  · rename_i a b g c c' m mx' g' c''
    simp only [Bool.and_eq_true, decide_eq_true_eq] at h
    obtain ⟨⟨⟨hl, hc'⟩, hc''⟩, hbm⟩ := h
    have := beq_sound _ _ hc'; subst this
    have := beq_sound _ _ hc''; subst this
    obtain ⟨j, hj, hj2⟩ := ends_seq_cons.mp h1
    obtain ⟨j2, hj2, _⟩ := ends_seq_cons.mp hj2
    have hno := ends_look_neg hj2
    have hjj := mem_ends_zw (r := .look true true _) rfl hj2
    subst hjj
    simp only [ends] at hj h2
    obtain ⟨a1, _, _, a4⟩ := iterE_leaf env s _ hl _ _ _ _ _ _ _ hj
    obtain ⟨b1, b2, b3, _⟩ := iterE_leaf env s _ hl _ _ _ _ _ _ _ h2
    have := a4 b rfl
    obtain ⟨x, hx, hcx⟩ := b2 j2 a1 (by omega)
    have hmem := (mem_ends_leaf (env := env) (s := s) (i := j2) (e := j2 + 1) hl).mpr ⟨rfl, x, hx, hcx⟩
    rw [hno] at hmem; simp at hmem
  · simp at h

theorem exclBehind_sound (env : CharEnv) (s : Str) (x y : Rx) (h : exclBehind x y = true)
    (i e1 e2 : Nat) (h1 : e1 ∈ ends env s x i) (h2 : e2 ∈ ends env s y i) : False := by
  unfold exclBehind at h
  split at h
  · rename_i r
    split at h
    · rename_i w hw
      simp only [decide_eq_true_eq] at h
      simp only [ends, width] at h1
      simp only [ends, hw] at h2
      have hi : i = 0 := by
        split at h1
        · rename_i hok
          simp only [Nat.sub_zero, beq_iff_eq] at hok
          exact hok
        · rename_i hok
          simp only [Nat.sub_zero, beq_iff_eq] at hok
          simp at h1
      split at h2
      · rename_i hok
        simp only [bne_iff_ne, ne_eq, Bool.not_eq_false, Bool.and_eq_true, decide_eq_true_eq] at hok
        omega
      · simp at h2
    · simp at h
  · simp at h

theorem optSplit_sound (env : CharEnv) (s : Str) (x x1 x2 : Rx) (h : optSplit x = some (x1, x2))
    (i e : Nat) (h1 : e ∈ ends env s x i) : e ∈ ends env s x1 i ∨ e ∈ ends env s x2 i := by
  unfold optSplit at h
  split at h
  · rename_i g a as
    simp only [Option.some.injEq, Prod.mk.injEq] at h
    obtain ⟨rfl, rfl⟩ := h
    obtain ⟨j, hj, hj2⟩ := ends_seq_cons.mp h1
    rcases ends_opt hj with rfl | hj'
    · exact Or.inr hj2
    · exact Or.inl (ends_seq_cons.mpr ⟨j, hj', hj2⟩)
  · simp at h

theorem leafStrip_sound (env : CharEnv) (s : Str) (x y x' y' : Rx)
    (h : leafStrip x y = some (x', y')) (i e1 e2 : Nat)
    (h1 : e1 ∈ ends env s x i) (h2 : e2 ∈ ends env s y i) :
    e1 ∈ ends env s x' (i + 1) ∧ e2 ∈ ends env s y' (i + 1) := by
  unfold leafStrip at h
  split at h
  · rename_i a as b bs
    split at h
    · rename_i hc
      simp only [Option.some.injEq, Prod.mk.injEq] at h
      obtain ⟨rfl, rfl⟩ := h
      simp only [Bool.and_eq_true] at hc
      obtain ⟨hl, hb⟩ := hc
      have := beq_sound _ _ hb; subst this
      obtain ⟨j, hj, hj2⟩ := ends_seq_cons.mp h1
      obtain ⟨j', hj', hj2'⟩ := ends_seq_cons.mp h2
      obtain ⟨rfl, _⟩ := (mem_ends_leaf hl).mp hj
      obtain ⟨rfl, _⟩ := (mem_ends_leaf hl).mp hj'
      exact ⟨hj2, hj2'⟩
    · simp at h
  · simp at h

theorem excl_sound {sp : Specials} (env : CharEnv) (ok : EnvOK sp env) (s : Str) :
    ∀ fuel x y, excl sp fuel x y = true →
      ∀ i e1 e2, e1 ∈ ends env s x i → e2 ∈ ends env s y i → False := by
  intro fuel
  induction fuel with
  | zero => intro x y h; simp [excl] at h
  | succ fuel ih =>
    intro x y h i e1 e2 h1 h2
    simp only [excl, Bool.or_eq_true] at h
    rcases h with ((((h | h) | h) | h) | h) | h
    · exact CSet.disjoint_sound h s[i]? (first_sound env ok s x i e1 h1) (first_sound env ok s y i e2 h2)
    · exact exclGuard_sound env s x y h i e1 e2 h1 h2
    · exact exclMunch_sound env s x y h i e1 e2 h1 h2
    · exact exclBehind_sound env s x y h i e1 e2 h1 h2
    · cases hs : optSplit x with
      | none => rw [hs] at h; simp at h
      | some pr =>
        obtain ⟨x1, x2⟩ := pr
        rw [hs] at h
        simp only [Bool.and_eq_true] at h
        rcases optSplit_sound env s x x1 x2 hs i e1 h1 with h1' | h1'
        · exact ih _ _ h.1 _ _ _ h1' h2
        · exact ih _ _ h.2 _ _ _ h1' h2
    · cases hs : leafStrip x y with
      | none => rw [hs] at h; simp at h
      | some pr =>
        obtain ⟨x', y'⟩ := pr
        rw [hs] at h
        obtain ⟨a, b⟩ := leafStrip_sound env s x y x' y' hs i e1 e2 h1 h2
        exact ih _ _ h _ _ _ a b

end Rx
end SoupVerif
