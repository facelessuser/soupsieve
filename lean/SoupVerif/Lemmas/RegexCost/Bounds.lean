/-
  C07 lemmas: polynomial bounds on the number of paths and on the work, with `N = |s| + 1`.

  Paths, `pcoef r · N ^ pdeg r` (`ends_poly`): a leaf or a zero-width atom has at most one end, `(1, 0)`;
  a sequence, alternation or repeat that is `Det` has distinct ends, hence at most `N`: `(1, 1)`
  (`det_length_le`); otherwise a sequence multiplies the coefficients and adds the degrees, an
  alternation adds the coefficients and takes the larger degree, a group is its body, and a repeat
  bounded by `m` that is not `Det` makes at most `m` rounds, each multiplying by the ends of the body:
  `((m + 1) · c ^ m, m · d)` (`iterE_bounded_length`).  `StarSafe` rules out the remaining case, an
  unbounded repeat that is not `Det`.

  Work, `wcoef r · N ^ wdeg r` (`work_poly_aux`): atoms cost 1; a group or look-around adds 1 to its
  body; a sequence costs its head plus, for every end of the head, the rest: `wcoef r + pcoef r ·
  wcoefSeq rs` with degree `max (wdeg r) (pdeg r + wdegSeq rs)`; an alternation adds.  In a `Det`
  repeat every loop state sits at a distinct position, so the loop costs at most `N + 1` bodies:
  `(2 · (1 + c), d + 1)` (`workIter_det`); a bounded repeat that is not `Det`:
  `((m + 1) · (1 + c) · pc ^ m, d + m · pd)` (`workIter_bounded`).
-/
import SoupVerif.Lemmas.RegexCost.Det
import Mathlib.Data.List.Perm.Subperm
import Mathlib.Data.List.Range
import Mathlib.Tactic.Ring
set_option autoImplicit false
namespace SoupVerif
namespace Rx

theorem nodup_length_le (l : List Nat) (a b : Nat) (h : l.Nodup) (hb : ∀ e ∈ l, a ≤ e ∧ e < b) :
    l.length ≤ b - a := by
  have hs : l ⊆ List.range' a (b - a) := by
    intro e he; have := hb e he; rw [List.mem_range'_1]; omega
  have := (List.subperm_of_subset h hs).length_le
  simpa using this

theorem sum_map_le_mul {α : Type} (l : List α) (f : α → Nat) (B : Nat) (h : ∀ x ∈ l, f x ≤ B) :
    (l.map f).sum ≤ l.length * B := by
  induction l with
  | nil => simp
  | cons x xs ih =>
    simp only [List.map_cons, List.sum_cons, List.length_cons]
    have h1 := h x (List.mem_cons_self ..)
    have h2 := ih (fun y hy => h y (List.mem_cons_of_mem _ hy))
    rw [Nat.succ_mul]; omega

theorem exists_max (l : List Nat) (h : l ≠ []) : ∃ m ∈ l, ∀ x ∈ l, x ≤ m := by
  induction l with
  | nil => exact absurd rfl h
  | cons x xs ih =>
    by_cases hxs : xs = []
    · subst hxs; exact ⟨x, List.mem_cons_self .., by simp⟩
    · obtain ⟨m, hm, hmax⟩ := ih hxs
      by_cases hxm : x ≤ m
      · refine ⟨m, List.mem_cons_of_mem _ hm, ?_⟩
        intro y hy
        rcases List.mem_cons.mp hy with rfl | hy
        · exact hxm
        · exact hmax y hy
      · refine ⟨x, List.mem_cons_self .., ?_⟩
        intro y hy
        rcases List.mem_cons.mp hy with rfl | hy
        · exact Nat.le_refl _
        · have := hmax y hy; omega

theorem sum_le_with_max (w : Nat → Nat) (K pm : Nat) :
    ∀ l : List Nat, pm ∈ l → l.Nodup → (∀ x ∈ l, x ≠ pm → w x ≤ K) →
      (l.map w).sum ≤ w pm + K * (l.length - 1)
  | [], h, _, _ => by simp at h
  | x :: xs, h, hnd, hw => by
    simp only [List.map_cons, List.sum_cons, List.length_cons, Nat.add_sub_cancel]
    rw [List.nodup_cons] at hnd
    by_cases hx : x = pm
    · subst hx
      have : (xs.map w).sum ≤ xs.length * K :=
        sum_map_le_mul xs w K (fun y hy => hw y (List.mem_cons_of_mem _ hy)
          (fun e => hnd.1 (e ▸ hy)))
      rw [Nat.mul_comm] at this; omega
    · have hmem : pm ∈ xs := by
        rcases List.mem_cons.mp h with h | h
        · exact absurd h.symm hx
        · exact h
      have ih := sum_le_with_max w K pm xs hmem hnd.2 (fun y hy => hw y (List.mem_cons_of_mem _ hy))
      have h1 := hw x (List.mem_cons_self ..) hx
      have hlen : 1 ≤ xs.length := List.length_pos_of_mem hmem
      have : K * xs.length = K * (xs.length - 1) + K := by
        rw [← Nat.mul_succ]; congr 1; omega
      omega

theorem le_mul_pow {N x c a C b : Nat} (hN : 0 < N) (h : x ≤ c * N ^ a) (hc : c ≤ C) (hab : a ≤ b) :
    x ≤ C * N ^ b :=
  Nat.le_trans h (Nat.mul_le_mul hc (Nat.pow_le_pow_right hN hab))

theorem le_coef_pow {N x c a b : Nat} (hN : 0 < N) (h : x ≤ c * N ^ a) (hab : a ≤ b) :
    x ≤ c * N ^ b :=
  le_mul_pow hN h (Nat.le_refl c) hab

/-- Distinct ends lie in `i … |s|`: a `Det` expression has at most `|s| + 1` of them. -/
theorem det_length_le {sp : Specials} (env : CharEnv) (ok : EnvOK sp env) (s : Str) (r : Rx) (h : Det sp r = true)
    (i : Nat) : (ends env s r i).length ≤ s.length + 1 := by
  have hnd := det_ends_nodup env ok s r h i
  by_cases hi : i ≤ s.length
  · have := nodup_length_le _ 0 (s.length + 1) hnd (fun e he => by
      have := ends_endOK env s r i e he; omega)
    simpa using this
  · have := nodup_length_le _ i (i + 1) hnd (fun e he => by
      have := ends_endOK env s r i e he; omega)
    omega

/-! ## Bounded repeats: at most `m` rounds, each multiplying by the number of ends of the body -/

theorem workIter_bounded (B : Nat → List Nat) (W : Nat → Nat) (P K : Nat) (hP1 : 1 ≤ P)
    (hB : ∀ q, (B q).length ≤ P) (hK : ∀ q, 1 + W q ≤ K) (mn m : Nat) :
    ∀ f c p d, m ≤ c + d → workIter B W mn (some m) f c p ≤ (d + 1) * K * P ^ d := by
  have hK1 : 1 ≤ K := Nat.le_trans (Nat.le_add_right 1 (W 0)) (hK 0)
  have hone : ∀ d, 1 ≤ (d + 1) * K * P ^ d := by
    intro d
    calc 1 = 1 * 1 * 1 := rfl
      _ ≤ (d + 1) * K * P ^ d :=
        Nat.mul_le_mul (Nat.mul_le_mul (by omega) hK1) (Nat.one_le_pow _ _ hP1)
  intro f
  induction f with
  | zero => intro c p d _; exact hone d
  | succ f ih =>
    intro c p d hd
    rw [workIter_succ]
    by_cases hc : c < m
    · obtain ⟨d', rfl⟩ : ∃ d', d = d' + 1 := ⟨d - 1, by omega⟩
      have hcm : canMore (some m) c = true := by simp [canMore, hc]
      rw [if_pos hcm]
      have hstep : ∀ p' ∈ B p, stepW B W mn (some m) f c p p' ≤ (d' + 1) * K * P ^ d' := by
        intro p' _
        unfold stepW
        split
        · exact ih _ _ _ (by omega)
        · exact hone d'
      have h2 := sum_map_le_mul (B p) _ _ hstep
      have h3 : (B p).length * ((d' + 1) * K * P ^ d') ≤ P * ((d' + 1) * K * P ^ d') :=
        Nat.mul_le_mul_right _ (hB p)
      have h4 : P * ((d' + 1) * K * P ^ d') = (d' + 1) * K * P ^ (d' + 1) := by ring
      have h5 : (d' + 1 + 1) * K * P ^ (d' + 1) = (d' + 1) * K * P ^ (d' + 1) + K * P ^ (d' + 1) := by ring
      have h6 : K ≤ K * P ^ (d' + 1) := Nat.le_mul_of_pos_right K (Nat.one_le_pow _ _ hP1)
      have := hK p
      omega
    · have hcm : canMore (some m) c = false := by simp [canMore, hc]
      rw [hcm]
      simpa using hone d

/-- The same bound for the number of ends, which the work of a body of weight 0 dominates. -/
theorem iterE_bounded_length (B : Nat → List Nat) (P : Nat) (hP1 : 1 ≤ P)
    (hB : ∀ q, (B q).length ≤ P) (mn m : Nat) (g : Bool) :
    ∀ f c p d, m ≤ c + d → (iterE B mn (some m) g f c p).length ≤ (d + 1) * P ^ d := by
  intro f c p d hd
  have h := workIter_bounded B (fun _ => 0) P 1 hP1 hB (fun _ => Nat.le_refl _) mn m f c p d hd
  rw [Nat.mul_one] at h
  exact Nat.le_trans (iterE_length_le_workIter B (fun _ => 0) mn (some m) g f c p) h

mutual
theorem pcoef_pos {sp : Specials} : ∀ r : Rx, 1 ≤ pcoef sp r
  | .lit .. | .notLit .. | .any _ | .set .. | .bos | .eol | .eos | .look .. => by simp [pcoef]
  | .seq rs => by simp only [pcoef]; split; exact Nat.le_refl _; exact pcoefSeq_pos rs
  | .alt rs => by simp only [pcoef]; split; exact Nat.le_refl _; exact pcoefAlt_pos rs
  | .group _ r => by simp only [pcoef]; exact pcoef_pos r
  | .rep mn mx g r => by
    simp only [pcoef]; split
    · exact Nat.le_refl _
    · cases mx with
      | none => exact Nat.le_refl _
      | some m =>
        simp only
        calc 1 = 1 * 1 := rfl
          _ ≤ (m + 1) * pcoef sp r ^ m :=
            Nat.mul_le_mul (by omega) (Nat.one_le_pow _ _ (pcoef_pos r))
theorem pcoefSeq_pos {sp : Specials} : ∀ rs : List Rx, 1 ≤ pcoefSeq sp rs
  | [] => by simp [pcoefSeq]
  | r :: rs => by
    simp only [pcoefSeq]
    calc 1 = 1 * 1 := rfl
      _ ≤ pcoef sp r * pcoefSeq sp rs := Nat.mul_le_mul (pcoef_pos r) (pcoefSeq_pos rs)
theorem pcoefAlt_pos {sp : Specials} : ∀ rs : List Rx, 1 ≤ pcoefAlt sp rs
  | [] => by simp [pcoefAlt]
  | r :: rs => by simp only [pcoefAlt]; have := pcoef_pos (sp := sp) r; omega
end

mutual
/-- The number of ends (= backtracking paths) of a `StarSafe` expression is at most
    `pcoef · (|s| + 1) ^ pdeg`. -/
theorem ends_poly {sp : Specials} (env : CharEnv) (ok : EnvOK sp env) (s : Str) :
    ∀ r : Rx, StarSafe sp r = true → ∀ i,
      (ends env s r i).length ≤ pcoef sp r * (s.length + 1) ^ pdeg sp r
  | .lit .., _, i | .notLit .., _, i | .any _, _, i | .set .., _, i => by
    simpa [pcoef, pdeg] using leaf_length_le_one env s _ rfl i
  | .seq rs, h, i => by
    simp only [StarSafe] at h
    simp only [pcoef, pdeg]
    split
    · rename_i hd
      have := det_length_le env ok s (.seq rs) (by simpa [Det] using hd) i
      simpa using this
    · simp only [ends]; exact endsSeq_poly env ok s rs h i
  | .alt rs, h, i => by
    simp only [StarSafe] at h
    simp only [pcoef, pdeg]
    split
    · rename_i hd
      have := det_length_le env ok s (.alt rs) (by simpa [Det] using hd) i
      simpa using this
    · simp only [ends]; exact endsAlt_poly env ok s rs h i
  | .group _ r, h, i => by
    simp only [StarSafe] at h
    simp only [pcoef, pdeg, ends]; exact ends_poly env ok s r h i
  | .rep mn mx g r, h, i => by
    simp only [StarSafe, Bool.and_eq_true, Bool.or_eq_true] at h
    obtain ⟨hr, hor⟩ := h
    simp only [pcoef, pdeg]
    split
    · rename_i hd
      have := det_length_le env ok s (.rep mn mx g r) hd i
      simpa using this
    · rename_i hd
      cases mx with
      | none => rcases hor with h | h; exact absurd h hd; simp at h
      | some m =>
        simp only [ends]
        have hN : 0 < s.length + 1 := Nat.succ_pos _
        have hP1 : 1 ≤ pcoef sp r * (s.length + 1) ^ pdeg sp r := by
          calc 1 = 1 * 1 := rfl
            _ ≤ _ := Nat.mul_le_mul (pcoef_pos r) (Nat.one_le_pow _ _ hN)
        have := iterE_bounded_length (fun p => ends env s r p) _ hP1
          (fun q => ends_poly env ok s r hr q) mn m g (s.length - i + mn + 2) 0 i m (by omega)
        refine Nat.le_trans this (Nat.le_of_eq ?_)
        rw [Nat.mul_pow, ← Nat.pow_mul, Nat.mul_comm (pdeg sp r) m, Nat.mul_assoc]
  | .bos, _, i | .eol, _, i | .eos, _, i | .look .., _, i => by
    simpa [pcoef, pdeg] using zw_length_le_one env s _ rfl i
theorem endsSeq_poly {sp : Specials} (env : CharEnv) (ok : EnvOK sp env) (s : Str) :
    ∀ rs : List Rx, starSafeList sp rs = true → ∀ i,
      (endsSeq env s rs i).length ≤ pcoefSeq sp rs * (s.length + 1) ^ pdegSeq sp rs
  | [], _, i => by simp [endsSeq, pcoefSeq, pdegSeq]
  | r :: rs, h, i => by
    simp only [starSafeList, Bool.and_eq_true] at h
    simp only [endsSeq, pcoefSeq, pdegSeq]
    rw [List.length_flatMap]
    have h1 := sum_map_le_mul (ends env s r i) _ _ (fun j _ => endsSeq_poly env ok s rs h.2 j)
    have h2 := ends_poly env ok s r h.1 i
    refine Nat.le_trans h1 (Nat.le_trans (Nat.mul_le_mul_right _ h2) (Nat.le_of_eq ?_))
    rw [Nat.pow_add]; ring
theorem endsAlt_poly {sp : Specials} (env : CharEnv) (ok : EnvOK sp env) (s : Str) :
    ∀ rs : List Rx, starSafeList sp rs = true → ∀ i,
      (endsAlt env s rs i).length ≤ pcoefAlt sp rs * (s.length + 1) ^ pdegAlt sp rs
  | [], _, i => by simp [endsAlt]
  | r :: rs, h, i => by
    simp only [starSafeList, Bool.and_eq_true] at h
    simp only [endsAlt, pcoefAlt, pdegAlt, List.length_append]
    have hN : 0 < s.length + 1 := Nat.succ_pos _
    have h1 := le_coef_pow hN (ends_poly env ok s r h.1 i) (Nat.le_max_left (pdeg sp r) (pdegAlt sp rs))
    have h2 := le_coef_pow hN (endsAlt_poly env ok s rs h.2 i) (Nat.le_max_right (pdeg sp r) (pdegAlt sp rs))
    rw [Nat.add_mul]; omega
end

/-! ## Work of a deterministic repeat: every loop state sits at a distinct position -/

theorem stepW_of_pos {B : Nat → List Nat} {W : Nat → Nat} {mn : Nat} {mx : Option Nat}
    {f c p p' : Nat} (h : p < p') :
    stepW B W mn mx f c p p' = workIter B W mn mx f (c + 1) p' := by
  unfold stepW
  have : (decide (p' > p) || decide (c + 1 < mn)) = true := by simp [h]
  rw [if_pos this]

theorem workIter_det (sp : Specials) (s : Str) (B : Nat → List Nat) (W : Nat → Nat) (FL FI : CSet) (mn : Nat)
    (mx : Option Nat)
    (hB : DetSem sp s B FL)
    (hP : ∀ q e, e ∈ B q → q < e)
    (hle : ∀ q e, e ∈ B q → e ≤ s.length)
    (hFI : ∀ q e, e ∈ B q → FI.mem sp s[q]? = true)
    (hD : mx = some 1 ∨ CSet.disjoint sp FL FI = true)
    (K : Nat) (hK : ∀ q, 1 + W q ≤ K) :
    ∀ f c p, workIter B W mn mx f c p ≤ K * ((s.length + 1 - p) + 1) := by
  have hK1 : 1 ≤ K := Nat.le_trans (Nat.le_add_right 1 (W 0)) (hK 0)
  have hbase : ∀ p, K ≤ K * ((s.length + 1 - p) + 1) := fun p =>
    Nat.le_mul_of_pos_right K (Nat.succ_pos _)
  have hdead : ∀ f c p p1 p2, p1 ∈ B p → p2 ∈ B p → p1 < p2 →
      workIter B W mn mx f (c + 1) p1 ≤ K := by
    intro f c p p1 p2 h1 h2 hlt
    cases f with
    | zero => exact hK1
    | succ f =>
      rw [workIter_succ]
      rcases hB.dead_end hFI hD h1 h2 hlt with hD | hnil
      · subst hD
        have : canMore (some 1) (c + 1) = false := by simp [canMore]
        rw [this]; simpa using hK1
      · rw [hnil]
        have := hK p1
        split <;> simp <;> omega
  intro f
  induction f with
  | zero => intro c p; exact Nat.le_trans hK1 (hbase p)
  | succ f ih =>
    intro c p
    rw [workIter_succ]
    split
    · have hWp := hK p
      have hcongr : (B p).map (stepW B W mn mx f c p) =
          (B p).map (fun p' => workIter B W mn mx f (c + 1) p') :=
        List.map_congr_left (fun p' hp' => stepW_of_pos (hP p p' hp'))
      rw [hcongr]
      by_cases hnil : B p = []
      · rw [hnil]; simp only [List.map_nil, List.sum_nil, Nat.add_zero]
        exact Nat.le_trans hWp (hbase p)
      · obtain ⟨pm, hpm, hmax⟩ := exists_max (B p) hnil
        have hsum := sum_le_with_max (fun p' => workIter B W mn mx f (c + 1) p') K pm (B p) hpm
          (hB p).1 (fun x hx hne => hdead f c p x pm hx hpm (by
            have := hmax x hx; omega))
        have hih := ih (c + 1) pm
        have hlen := nodup_length_le (B p) (p + 1) (pm + 1) (hB p).1 (fun e he => by
          have := hP p e he; have := hmax e he; omega)
        have h1 := hP p pm hpm
        have h2 := hle p pm hpm
        have harith : ((s.length + 1 - pm) + 1) + ((B p).length - 1) + 1 ≤ (s.length + 1 - p) + 1 := by
          omega
        have hmul := Nat.mul_le_mul_left K harith
        have hexp : K * (((s.length + 1 - pm) + 1) + ((B p).length - 1) + 1) =
            K * ((s.length + 1 - pm) + 1) + K * ((B p).length - 1) + K := by ring
        omega
    · simpa using Nat.le_trans hK1 (hbase p)

theorem one_add_le {N w c d : Nat} (hN : 0 < N) (h : w ≤ c * N ^ d) : 1 + w ≤ (1 + c) * N ^ d := by
  have : 1 ≤ N ^ d := Nat.one_le_pow _ _ hN
  rw [Nat.add_mul]; omega

mutual
/-- The work of an exhaustive search of a `StarSafe` expression is at most `wcoef · (|s| + 1) ^ wdeg`
    (`C07.work_poly`). -/
theorem work_poly_aux {sp : Specials} (env : CharEnv) (ok : EnvOK sp env) (s : Str) :
    ∀ r : Rx, StarSafe sp r = true → ∀ i,
      work env s r i ≤ wcoef sp r * (s.length + 1) ^ wdeg sp r
  | .lit .., _, _ | .notLit .., _, _ | .any _, _, _ | .set .., _, _ | .bos, _, _ | .eol, _, _
  | .eos, _, _ => by simp [work, wcoef, wdeg]
  | .seq rs, h, i => by
    simp only [StarSafe] at h
    simp only [work, wcoef, wdeg]; exact workSeq_poly env ok s rs h i
  | .alt rs, h, i => by
    simp only [StarSafe] at h
    simp only [work, wcoef, wdeg]; exact workAlt_poly env ok s rs h i
  | .group _ r, h, i => by
    simp only [StarSafe] at h
    simp only [work, wcoef, wdeg]
    exact one_add_le (Nat.succ_pos _) (work_poly_aux env ok s r h i)
  | .rep mn mx g r, h, i => by
    simp only [StarSafe, Bool.and_eq_true, Bool.or_eq_true] at h
    obtain ⟨hr, hor⟩ := h
    have hN : 0 < s.length + 1 := Nat.succ_pos _
    have hK : ∀ q, 1 + work env s r q ≤ (1 + wcoef sp r) * (s.length + 1) ^ wdeg sp r :=
      fun q => one_add_le hN (work_poly_aux env ok s r hr q)
    simp only [work, wcoef, wdeg]
    split
    · rename_i hd
      simp only [Det, Bool.and_eq_true, Bool.or_eq_true, Bool.not_eq_true', beq_iff_eq] at hd
      obtain ⟨⟨hdr, hn⟩, hD⟩ := hd
      have := workIter_det sp s (fun p => ends env s r p) (fun p => work env s r p) (fl sp r) (first sp r)
        mn mx (det_sound env ok s r hdr)
        (fun q e he => nullable_sound env s r hn q e he)
        (fun q e he => by
          have h1 := nullable_sound env s r hn q e he
          have h2 := ends_endOK env s r q e he
          omega)
        (fun q e he => first_sound env ok s r q e he)
        hD _ hK (s.length - i + mn + 2) 0 i
      refine Nat.le_trans this ?_
      have h2 : (s.length + 1 - i) + 1 ≤ 2 * (s.length + 1) := by omega
      refine Nat.le_trans (Nat.mul_le_mul_left _ h2) (Nat.le_of_eq ?_)
      rw [Nat.pow_succ]; ring
    · rename_i hd
      cases mx with
      | none => rcases hor with h | h; exact absurd h hd; simp at h
      | some m =>
        simp only
        have hP1 : 1 ≤ pcoef sp r * (s.length + 1) ^ pdeg sp r := by
          calc 1 = 1 * 1 := rfl
            _ ≤ _ := Nat.mul_le_mul (pcoef_pos r) (Nat.one_le_pow _ _ hN)
        have := workIter_bounded (fun p => ends env s r p) (fun p => work env s r p) _ _ hP1
          (fun q => ends_poly env ok s r hr q) hK mn m (s.length - i + mn + 2) 0 i m (by omega)
        refine Nat.le_trans this (Nat.le_of_eq ?_)
        rw [Nat.mul_pow, ← Nat.pow_mul, Nat.pow_add, Nat.mul_comm (pdeg sp r) m]; ring
  | .look true _ r, h, i => by
    simp only [StarSafe] at h
    simp only [work, wcoef, wdeg]
    exact one_add_le (Nat.succ_pos _) (work_poly_aux env ok s r h i)
  | .look false _ r, h, i => by
    simp only [StarSafe] at h
    simp only [work, wcoef, wdeg]
    have hN : 0 < s.length + 1 := Nat.succ_pos _
    have h1 : 1 ≤ (1 + wcoef sp r) * (s.length + 1) ^ wdeg sp r := by
      calc 1 = 1 * 1 := rfl
        _ ≤ _ := Nat.mul_le_mul (by omega) (Nat.one_le_pow _ _ hN)
    cases width r with
    | none => exact h1
    | some w =>
      simp only
      split
      · exact one_add_le hN (work_poly_aux env ok s r h _)
      · exact h1
theorem workSeq_poly {sp : Specials} (env : CharEnv) (ok : EnvOK sp env) (s : Str) :
    ∀ rs : List Rx, starSafeList sp rs = true → ∀ i,
      workSeq env s rs i ≤ wcoefSeq sp rs * (s.length + 1) ^ wdegSeq sp rs
  | [], _, _ => by simp [workSeq, wcoefSeq, wdegSeq]
  | r :: rs, h, i => by
    simp only [starSafeList, Bool.and_eq_true] at h
    simp only [workSeq, wcoefSeq, wdegSeq]
    have hN : 0 < s.length + 1 := Nat.succ_pos _
    have h1 := le_coef_pow hN (work_poly_aux env ok s r h.1 i)
      (Nat.le_max_left (wdeg sp r) (pdeg sp r + wdegSeq sp rs))
    have h2 := sum_map_le_mul (ends env s r i) (fun j => workSeq env s rs j) _
      (fun j _ => workSeq_poly env ok s rs h.2 j)
    have h3 := ends_poly env ok s r h.1 i
    have h4 : (ends env s r i).length * (wcoefSeq sp rs * (s.length + 1) ^ wdegSeq sp rs) ≤
        (pcoef sp r * wcoefSeq sp rs) * (s.length + 1) ^ (pdeg sp r + wdegSeq sp rs) := by
      refine Nat.le_trans (Nat.mul_le_mul_right _ h3) (Nat.le_of_eq ?_)
      rw [Nat.pow_add]; ring
    have h5 := le_coef_pow hN h4 (Nat.le_max_right (wdeg sp r) (pdeg sp r + wdegSeq sp rs))
    rw [Nat.add_mul]; omega
theorem workAlt_poly {sp : Specials} (env : CharEnv) (ok : EnvOK sp env) (s : Str) :
    ∀ rs : List Rx, starSafeList sp rs = true → ∀ i,
      workAlt env s rs i ≤ wcoefAlt sp rs * (s.length + 1) ^ wdegAlt sp rs
  | [], _, _ => by simp [workAlt, wcoefAlt, wdegAlt]
  | r :: rs, h, i => by
    simp only [starSafeList, Bool.and_eq_true] at h
    simp only [workAlt, wcoefAlt, wdegAlt]
    have hN : 0 < s.length + 1 := Nat.succ_pos _
    have h1 := le_coef_pow hN (work_poly_aux env ok s r h.1 i) (Nat.le_max_left (wdeg sp r) (wdegAlt sp rs))
    have h2 := le_coef_pow hN (workAlt_poly env ok s rs h.2 i) (Nat.le_max_right (wdeg sp r) (wdegAlt sp rs))
    rw [Nat.add_mul]; omega
end

end Rx
end SoupVerif
