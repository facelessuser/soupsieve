/-
  C07 lemmas: `ends` is the projection of `runs`; `paths ≤ work`; ends are monotone and
  bounded by the input length.
-/
import SoupVerif.Spec.RegexCost
import SoupVerif.Lemmas.RxBasic
namespace SoupVerif
namespace Rx

theorem iter_map_fst (body : Nat → Caps → List (Nat × Caps)) (bodyE : Nat → List Nat)
    (h : ∀ p c, (body p c).map (·.1) = bodyE p) (mn : Nat) (mx : Option Nat) (g : Bool) :
    ∀ fuel count pos caps,
      (iter body mn mx g fuel count pos caps).map (·.1) = iterE bodyE mn mx g fuel count pos := by
  intro fuel
  induction fuel with
  | zero => intro count pos caps; simp [iter, iterE]
  | succ f ih =>
    intro count pos caps
    have hmore : ∀ (l : List (Nat × Caps)),
        (l.flatMap fun (x : Nat × Caps) =>
          if x.1 > pos || count + 1 < mn then iter body mn mx g f (count + 1) x.1 x.2
          else if count + 1 ≥ mn then [(x.1, x.2)] else []).map (·.1) =
        (l.map (·.1)).flatMap fun p' =>
          if p' > pos || count + 1 < mn then iterE bodyE mn mx g f (count + 1) p'
          else if count + 1 ≥ mn then [p'] else [] := by
      intro l
      induction l with
      | nil => simp
      | cons x xs ihl =>
        simp only [List.flatMap_cons, List.map_append, List.map_cons, ihl]
        congr 1
        split
        · exact ih _ _ _
        · split <;> simp
    have hstop : (if count ≥ mn then [(pos, caps)] else []).map (·.1) =
        (if count ≥ mn then [pos] else []) := by split <;> simp
    simp only [iter, iterE]
    rw [← h pos caps]
    cases mx with
    | none =>
      cases g <;> simp only [List.map_append, Bool.false_eq_true, if_false, if_true, hstop, hmore]
    | some m =>
      by_cases hc : count < m <;>
      cases g <;> simp only [List.map_append, Bool.false_eq_true, if_false, if_true, hstop, hmore,
        hc, decide_true, decide_false, List.map_nil]

mutual
theorem runs_map_fst (env : CharEnv) (s : Str) :
    ∀ (r : Rx) (i : Nat) (caps : Caps), (runs env s r i caps).map (·.1) = ends env s r i
  | .lit c ic, i, caps | .notLit c ic, i, caps => by
    simp only [runs, ends]; cases s[i]? <;> simp only [List.map_nil]
    generalize (if ic then _ else _ : Bool) = b; cases b <;> simp
  | .any _, i, caps | .set .., i, caps => by
    simp only [runs, ends]; cases s[i]? <;> simp only [List.map_nil]; split <;> simp
  | .seq rs, i, caps => by simp only [runs, ends]; exact runsSeq_map_fst env s rs i caps
  | .alt rs, i, caps => by simp only [runs, ends]; exact runsAlt_map_fst env s rs i caps
  | .group idx r, i, caps => by
    simp only [runs, ends, List.map_map]
    rw [← runs_map_fst env s r i caps]; rfl
  | .rep mn mx g r, i, caps => by
    simp only [runs, ends]
    exact iter_map_fst _ _ (fun p c => runs_map_fst env s r p c) mn mx g _ _ _ _
  | .bos, i, caps | .eol, i, caps | .eos, i, caps => by simp only [runs, ends]; split <;> simp
  | .look true neg r, i, caps => by
    simp only [runs, ends]
    rw [← runs_map_fst env s r i caps]
    simp only [List.isEmpty_map]
    split <;> simp
  | .look false neg r, i, caps => by
    simp only [runs, ends]
    cases width r with
    | none => simp
    | some w =>
      simp only
      rw [← runs_map_fst env s r (i - w) caps]
      simp only [List.any_map]
      split <;> simp_all [Function.comp_def]
theorem runsSeq_map_fst (env : CharEnv) (s : Str) :
    ∀ (rs : List Rx) (i : Nat) (caps : Caps), (runsSeq env s rs i caps).map (·.1) = endsSeq env s rs i
  | [], i, caps => by simp [runsSeq, endsSeq]
  | r :: rs, i, caps => by
    simp only [runsSeq, endsSeq]
    rw [← runs_map_fst env s r i caps, List.map_flatMap, List.flatMap_map]
    congr 1; funext x
    exact runsSeq_map_fst env s rs x.1 x.2
theorem runsAlt_map_fst (env : CharEnv) (s : Str) :
    ∀ (rs : List Rx) (i : Nat) (caps : Caps), (runsAlt env s rs i caps).map (·.1) = endsAlt env s rs i
  | [], i, caps => by simp [runsAlt, endsAlt]
  | r :: rs, i, caps => by
    simp only [runsAlt, endsAlt, List.map_append]
    rw [runs_map_fst env s r i caps, runsAlt_map_fst env s rs i caps]
end

theorem paths_eq (env : CharEnv) (s : Str) (r : Rx) (i : Nat) :
    paths env s r i = (ends env s r i).length := by
  unfold paths; rw [← runs_map_fst env s r i [], List.length_map]

export RxBasic (canMore)

/-- One round of `iterE` in state (`c` rounds done, at `p`), in pieces (`iterE_succ`): what the loop yields after a body
    match ending at `p'` (`stepE`), over all body matches (`moreE`), and by stopping here (`stopE`). -/
def stepE (body : Nat → List Nat) (mn : Nat) (mx : Option Nat) (g : Bool) (f c p p' : Nat) :
    List Nat :=
  if p' > p || c + 1 < mn then iterE body mn mx g f (c + 1) p'
  else if c + 1 ≥ mn then [p'] else []

def moreE (body : Nat → List Nat) (mn : Nat) (mx : Option Nat) (g : Bool) (f c p : Nat) : List Nat :=
  if canMore mx c then (body p).flatMap (stepE body mn mx g f c p) else []

def stopE (mn c p : Nat) : List Nat := if c ≥ mn then [p] else []

theorem iterE_succ (body : Nat → List Nat) (mn : Nat) (mx : Option Nat) (g : Bool) (f c p : Nat) :
    iterE body mn mx g (f + 1) c p =
      if g then moreE body mn mx g f c p ++ stopE mn c p
      else stopE mn c p ++ moreE body mn mx g f c p := rfl

theorem iterE_perm (body : Nat → List Nat) (mn : Nat) (mx : Option Nat) (g : Bool) (f c p : Nat) :
    (iterE body mn mx g (f + 1) c p).Perm (stopE mn c p ++ moreE body mn mx g f c p) := by
  rw [iterE_succ]; cases g
  · exact List.Perm.refl _
  · exact List.perm_append_comm

theorem mem_iterE_succ {body : Nat → List Nat} {mn : Nat} {mx : Option Nat} {g : Bool} {f c p e : Nat} :
    e ∈ iterE body mn mx g (f + 1) c p ↔
      (c ≥ mn ∧ e = p) ∨
      (canMore mx c = true ∧ ∃ p' ∈ body p, e ∈ stepE body mn mx g f c p p') := by
  rw [(iterE_perm body mn mx g f c p).mem_iff, List.mem_append]
  apply or_congr
  · unfold stopE; split <;> simp [*]
  · unfold moreE; split <;> simp [*]

theorem mem_stepE {body : Nat → List Nat} {mn : Nat} {mx : Option Nat} {g : Bool} {f c p p' e : Nat} :
    e ∈ stepE body mn mx g f c p p' ↔
      ((p' > p ∨ c + 1 < mn) ∧ e ∈ iterE body mn mx g f (c + 1) p') ∨
      (¬ (p' > p ∨ c + 1 < mn) ∧ c + 1 ≥ mn ∧ e = p') := by
  unfold stepE
  by_cases h : p' > p ∨ c + 1 < mn
  · have : (decide (p' > p) || decide (c + 1 < mn)) = true := by simpa using h
    simp [this, h]
  · have : ¬ (decide (p' > p) || decide (c + 1 < mn)) = true := by simpa using h
    rw [if_neg this]
    simp only [h, false_and, false_or, not_false_eq_true, true_and]
    split <;> simp [*]

/-- `e` is an end of the repeat loop in state `(c, p)` — `c` rounds done, at position `p`: the loop may stop once
    `mn` rounds are done, or go on after one more match of the body.  (Every element of `iterE` is one; the loop
    itself also refuses a round that is empty and not needed, and runs out of fuel.) -/
inductive IterEnd (body : Nat → List Nat) (mn : Nat) (mx : Option Nat) : Nat → Nat → Nat → Prop
  | stop {c p : Nat} : mn ≤ c → IterEnd body mn mx c p p
  | more {c p p' e : Nat} : canMore mx c = true → p' ∈ body p → IterEnd body mn mx (c + 1) p' e →
      IterEnd body mn mx c p e

theorem iterE_end {body : Nat → List Nat} {mn : Nat} {mx : Option Nat} {g : Bool} :
    ∀ {f c p e : Nat}, e ∈ iterE body mn mx g f c p → IterEnd body mn mx c p e := by
  intro f
  induction f with
  | zero => intro c p e h; cases h
  | succ f ih =>
    intro c p e h
    rcases mem_iterE_succ.mp h with ⟨hc, rfl⟩ | ⟨hcm, p', hp', hs⟩
    · exact .stop hc
    · rcases mem_stepE.mp hs with ⟨_, h2⟩ | ⟨_, hc, rfl⟩
      · exact .more hcm hp' (ih h2)
      · exact .more hcm hp' (.stop hc)

/-- The zero-width atoms: anchors and look-arounds (their only possible end is the start, `mem_ends_zw`). -/
def isZW : Rx → Bool
  | .bos | .eol | .eos | .look _ _ _ => true
  | _ => false

theorem ends_leaf (env : CharEnv) (s : Str) (r : Rx) (h : isLeaf r = true) (i : Nat) :
    ends env s r i =
      match s[i]? with
      | some x => if charOk env r x then [i + 1] else []
      | none => [] := by
  cases r <;> simp only [isLeaf, Bool.false_eq_true] at h <;> simp only [ends, charOk]
  · rfl
  · rename_i c ic
    cases s[i]? with
    | none => rfl
    | some x =>
      simp only
      by_cases hb : (if ic = true then env.fold x == env.fold c else x == c) = true <;> simp [hb]
  · rfl
  · rfl

theorem mem_ends_leaf {env : CharEnv} {s : Str} {r : Rx} (h : isLeaf r = true) {i e : Nat} :
    e ∈ ends env s r i ↔ e = i + 1 ∧ ∃ x, s[i]? = some x ∧ charOk env r x = true := by
  rw [ends_leaf env s r h]
  cases s[i]? with
  | none => simp
  | some x =>
    simp only
    split <;> simp [*]

theorem ends_zw (env : CharEnv) (s : Str) (r : Rx) (h : isZW r = true) (i : Nat) :
    ends env s r i = [i] ∨ ends env s r i = [] := by
  cases r <;> simp only [isZW, Bool.false_eq_true] at h
  · simp only [ends]; split <;> simp
  · simp only [ends]; split <;> simp
  · simp only [ends]; split <;> simp
  · rename_i a n r
    cases a
    · simp only [ends]; cases width r <;> simp only [] <;> first | (split <;> simp) | simp
    · simp only [ends]; split <;> simp

theorem mem_ends_zw {env : CharEnv} {s : Str} {r : Rx} (h : isZW r = true) {i e : Nat}
    (he : e ∈ ends env s r i) : e = i := by
  rcases ends_zw env s r h i with h' | h' <;> rw [h'] at he <;> simp at he
  exact he

theorem iterE_zero (body : Nat → List Nat) (mn : Nat) (mx : Option Nat) (g : Bool) (c p : Nat) :
    iterE body mn mx g 0 c p = [] := rfl

theorem iterE_endOK (n : Nat) (body : Nat → List Nat)
    (hb : ∀ q e, e ∈ body q → q ≤ e ∧ (e = q ∨ e ≤ n)) (mn : Nat) (mx : Option Nat) (g : Bool)
    (f c p e : Nat) (h : e ∈ iterE body mn mx g f c p) : p ≤ e ∧ (e = p ∨ e ≤ n) := by
  have hr := iterE_end h
  clear h
  induction hr with
  | stop => exact ⟨Nat.le_refl _, .inl rfl⟩
  | more _ hp' _ ih => have := hb _ _ hp'; omega

theorem leaf_endOK (env : CharEnv) (s : Str) (r : Rx) (hl : isLeaf r = true) (i e : Nat)
    (h : e ∈ ends env s r i) : i ≤ e ∧ (e = i ∨ e ≤ s.length) := by
  obtain ⟨rfl, x, hx, _⟩ := (mem_ends_leaf hl).mp h
  have : i < s.length := by
    rcases List.getElem?_eq_some_iff.mp hx with ⟨hlt, _⟩
    exact hlt
  omega

mutual
theorem ends_endOK (env : CharEnv) (s : Str) :
    ∀ (r : Rx) (i e : Nat), e ∈ ends env s r i → i ≤ e ∧ (e = i ∨ e ≤ s.length)
  | .lit .., i, e, h | .notLit .., i, e, h | .any _, i, e, h | .set .., i, e, h =>
    leaf_endOK env s _ rfl i e h
  | .seq rs, i, e, h => by simp only [ends] at h; exact endsSeq_endOK env s rs i e h
  | .alt rs, i, e, h => by simp only [ends] at h; exact endsAlt_endOK env s rs i e h
  | .group _ r, i, e, h => by simp only [ends] at h; exact ends_endOK env s r i e h
  | .rep mn mx g r, i, e, h => by
    simp only [ends] at h
    exact iterE_endOK s.length _ (fun q e he => ends_endOK env s r q e he) mn mx g _ _ _ _ h
  | .bos, i, e, h | .eol, i, e, h | .eos, i, e, h | .look .., i, e, h => by
    have := mem_ends_zw rfl h; omega
theorem endsSeq_endOK (env : CharEnv) (s : Str) :
    ∀ (rs : List Rx) (i e : Nat), e ∈ endsSeq env s rs i → i ≤ e ∧ (e = i ∨ e ≤ s.length)
  | [], i, e, h => by simp [endsSeq] at h; omega
  | r :: rs, i, e, h => by
    simp only [endsSeq, List.mem_flatMap] at h
    obtain ⟨j, hj, he⟩ := h
    have h1 := ends_endOK env s r i j hj
    have h2 := endsSeq_endOK env s rs j e he
    omega
theorem endsAlt_endOK (env : CharEnv) (s : Str) :
    ∀ (rs : List Rx) (i e : Nat), e ∈ endsAlt env s rs i → i ≤ e ∧ (e = i ∨ e ≤ s.length)
  | [], i, e, h => by simp [endsAlt] at h
  | r :: rs, i, e, h => by
    simp only [endsAlt, List.mem_append] at h
    rcases h with h | h
    · exact ends_endOK env s r i e h
    · exact endsAlt_endOK env s rs i e h
end

theorem sum_map_le_sum_map {α : Type} (l : List α) (f g : α → Nat) (h : ∀ x ∈ l, f x ≤ g x) :
    (l.map f).sum ≤ (l.map g).sum := by
  induction l with
  | nil => simp
  | cons x xs ih =>
    simp only [List.map_cons, List.sum_cons]
    have h1 := h x (List.mem_cons_self ..)
    have h2 := ih (fun y hy => h y (List.mem_cons_of_mem _ hy))
    omega

/-- The summand of `workIter` for one body match ending at `p'` (`workIter_succ`), as `stepE` is for `iterE`. -/
def stepW (bodyE : Nat → List Nat) (bodyW : Nat → Nat) (mn : Nat) (mx : Option Nat)
    (f c p p' : Nat) : Nat :=
  if p' > p || c + 1 < mn then workIter bodyE bodyW mn mx f (c + 1) p' else 1

theorem workIter_succ (bodyE : Nat → List Nat) (bodyW : Nat → Nat) (mn : Nat) (mx : Option Nat)
    (f c p : Nat) :
    workIter bodyE bodyW mn mx (f + 1) c p =
      1 + (if canMore mx c then
            bodyW p + ((bodyE p).map (stepW bodyE bodyW mn mx f c p)).sum else 0) := rfl

theorem iterE_length_le_workIter (bodyE : Nat → List Nat) (bodyW : Nat → Nat) (mn : Nat)
    (mx : Option Nat) (g : Bool) :
    ∀ f c p, (iterE bodyE mn mx g f c p).length ≤ workIter bodyE bodyW mn mx f c p := by
  intro f
  induction f with
  | zero => intro c p; simp [iterE_zero]
  | succ f ih =>
    intro c p
    rw [(iterE_perm bodyE mn mx g f c p).length_eq, List.length_append, workIter_succ]
    have h1 : (stopE mn c p).length ≤ 1 := by unfold stopE; split <;> simp
    have h2 : (moreE bodyE mn mx g f c p).length ≤
        (if canMore mx c then bodyW p + ((bodyE p).map (stepW bodyE bodyW mn mx f c p)).sum else 0) := by
      unfold moreE
      split
      · rw [List.length_flatMap]
        refine Nat.le_trans (sum_map_le_sum_map _ _ (stepW bodyE bodyW mn mx f c p) ?_) (Nat.le_add_left _ _)
        intro p' _
        unfold stepE stepW
        split
        · exact ih _ _
        · split <;> simp
      · simp
    omega

theorem leaf_length_le_one (env : CharEnv) (s : Str) (r : Rx) (hl : isLeaf r = true) (i : Nat) :
    (ends env s r i).length ≤ 1 := by
  rw [ends_leaf env s r hl]
  cases s[i]? with
  | none => simp
  | some x => simp only []; split <;> simp

theorem zw_length_le_one (env : CharEnv) (s : Str) (r : Rx) (hl : isZW r = true) (i : Nat) :
    (ends env s r i).length ≤ 1 := by
  rcases ends_zw env s r hl i with h | h <;> rw [h] <;> simp

mutual
theorem ends_length_le_work (env : CharEnv) (s : Str) :
    ∀ (r : Rx) (i : Nat), (ends env s r i).length ≤ work env s r i
  | .lit .., i | .notLit .., i | .any _, i | .set .., i => by
    simp only [work]; exact leaf_length_le_one env s _ rfl i
  | .seq rs, i => by simp only [ends, work]; exact endsSeq_length_le_work env s rs i
  | .alt rs, i => by simp only [ends, work]; exact endsAlt_length_le_work env s rs i
  | .group _ r, i => by
    simp only [ends, work]; have := ends_length_le_work env s r i; omega
  | .rep mn mx g r, i => by
    simp only [ends, work]; exact iterE_length_le_workIter _ _ mn mx g _ _ _
  | .bos, i | .eol, i | .eos, i => by simp only [work]; exact zw_length_le_one env s _ rfl i
  | .look true n r, i => by
    rcases ends_zw env s (.look true n r) rfl i with h | h <;> rw [h] <;> simp [work]
  | .look false n r, i => by
    rcases ends_zw env s (.look false n r) rfl i with h | h <;> rw [h] <;> simp only [work]
    · cases width r <;> simp only [] <;> first | (split <;> simp) | simp
    · simp
theorem endsSeq_length_le_work (env : CharEnv) (s : Str) :
    ∀ (rs : List Rx) (i : Nat), (endsSeq env s rs i).length ≤ workSeq env s rs i
  | [], i => by simp [endsSeq, workSeq]
  | r :: rs, i => by
    simp only [endsSeq, workSeq]
    rw [List.length_flatMap]
    exact Nat.le_trans (sum_map_le_sum_map _ _ _ (fun j _ => endsSeq_length_le_work env s rs j))
      (Nat.le_add_left _ _)
theorem endsAlt_length_le_work (env : CharEnv) (s : Str) :
    ∀ (rs : List Rx) (i : Nat), (endsAlt env s rs i).length ≤ workAlt env s rs i
  | [], i => by simp [endsAlt, workAlt]
  | r :: rs, i => by
    simp only [endsAlt, workAlt, List.length_append]
    have := ends_length_le_work env s r i
    have := endsAlt_length_le_work env s rs i
    omega
end

theorem paths_le_work (env : CharEnv) (s : Str) (r : Rx) (i : Nat) :
    paths env s r i ≤ work env s r i := by
  rw [paths_eq]; exact ends_length_le_work env s r i

theorem le_sum_map_of_mem {α : Type} {l : List α} (f : α → Nat) {a : α} (h : a ∈ l) :
    f a ≤ (l.map f).sum := by
  induction l with
  | nil => simp at h
  | cons y ys ih =>
    simp only [List.map_cons, List.sum_cons]
    rcases List.mem_cons.mp h with rfl | h
    · exact Nat.le_add_right _ _
    · exact Nat.le_trans (ih h) (Nat.le_add_left _ _)

theorem work_le_seq_second {env : CharEnv} {s : Str} {a b : Rx} {rs : List Rx} {i j : Nat}
    (hj : j ∈ ends env s a i) : work env s b j ≤ work env s (.seq (a :: b :: rs)) i := by
  simp only [work, workSeq]
  have h := le_sum_map_of_mem (fun j => work env s b j +
    ((ends env s b j).map fun j => workSeq env s rs j).sum) hj
  omega

end Rx
end SoupVerif
