/-
  C17 helpers: relations and the iframe cut under the HTML-only context.
-/
import SoupVerif.Lemmas.StateLawsSem
import SoupVerif.Lemmas.TreeWalk
import SoupVerif.Lemmas.List
namespace SoupVerif.StateLaws
open SoupVerif

variable (c : Ctx) (l : Loc) (e : Elem)

theorem ancestorsCut_true (ps : List Loc) :
    c.ancestorsCut true ps = ps.takeWhile (fun p => !c.locIsIframe p) := by
  induction ps with
  | nil => rfl
  | cons p ps ih =>
    unfold Ctx.ancestorsCut
    rw [ih, List.takeWhile_cons]
    cases c.locIsIframe p <;> rfl

theorem ancestorsCut_false (ps : List Loc) : c.ancestorsCut false ps = ps := c.ancestorsCut_false ps

/-- No member of the cut chain is an iframe, the chain is a prefix
    of the real one, and when it is a proper prefix the next real ancestor is an iframe. -/
theorem ancestorsCut_stops_at_iframe (ps : List Loc) :
    (∀ p ∈ c.ancestorsCut true ps, c.locIsIframe p = false) ∧
    (∃ rest, ps = c.ancestorsCut true ps ++ rest ∧
      ∀ q, rest.head? = some q → c.locIsIframe q = true) := by
  rw [ancestorsCut_true]
  refine ⟨?_, ps.dropWhile (fun p => !c.locIsIframe p), (List.takeWhile_append_dropWhile).symm, ?_⟩
  · intro p hp
    have := mem_takeWhile_p _ _ _ hp
    simpa using this
  · intro q hq
    have := List.head?_dropWhile_not (fun p => !c.locIsIframe p) ps
    rw [hq] at this
    simpa using this

theorem ancestors_true : c.ancestors l true = l.ancestors.takeWhile (fun p => !c.locIsIframe p) :=
  ancestorsCut_true c _

theorem ancestors_no_iframe (p : Loc) (hp : p ∈ c.ancestors l true) : c.locIsIframe p = false :=
  (ancestorsCut_stops_at_iframe c l.ancestors).1 p hp

/-- Descendant combinator inside an HTML-only list: ancestors with `no_iframe=True`. -/
theorem relationWalk_desc (on : Loc → Bool) :
    relationWalk c.htmlOnly l .desc on =
      ((c.ancestors l true).takeWhile (fun p => !p.isDoc)).any on := by
  unfold relationWalk
  simp only [htmlOnly_iframeRestrict, htmlOnly_ancestors]

/-- Child combinator inside an HTML-only list: the parent with `no_iframe=True`. -/
theorem relationWalk_child (on : Loc → Bool) :
    relationWalk c.htmlOnly l .child on =
      (match c.parent l true with
       | some p => !p.isDoc && on p
       | none => false) := by
  unfold relationWalk
  simp only [htmlOnly_iframeRestrict, htmlOnly_parent]
  rfl

/-- The parent (iframe cut, not the document object) satisfies `P`. -/
def parentIs (c : Ctx) (l : Loc) (P : Loc → Bool) : Bool :=
  match c.parent l true with
  | some p => !p.isDoc && P p
  | none => false

/-- Some ancestor (iframe cut, below the document object) satisfies `P`. -/
def ancestorIs (c : Ctx) (l : Loc) (P : Loc → Bool) : Bool :=
  ((c.ancestors l true).takeWhile (fun p => !p.isDoc)).any P

theorem relPart_child (s : Sel) (hs : s.relType = .child) :
    relPart c.htmlOnly l (isL [s]) =
      parentIs c l (fun t => match t.elem? with
        | some te => matchSel c.htmlOnly t te s
        | none => false) := by
  unfold relPart parentIs
  have h1 : (isL [s]).nonEmpty = true := rfl
  have h2 : headRel (isL [s]) = .child := hs
  rw [h1, h2, relationWalk_child]
  simp only [Bool.not_true, Bool.false_or, matchList_isL, matchAny_cons, matchAny_nil, Bool.or_false]
  rfl

theorem relPart_desc (s : Sel) (hs : s.relType = .desc) :
    relPart c.htmlOnly l (isL [s]) =
      ancestorIs c l (fun t => match t.elem? with
        | some te => matchSel c.htmlOnly t te s
        | none => false) := by
  unfold relPart ancestorIs
  have h1 : (isL [s]).nonEmpty = true := rfl
  have h2 : headRel (isL [s]) = .desc := hs
  rw [h1, h2, relationWalk_desc]
  simp only [Bool.not_true, Bool.false_or, matchList_isL, matchAny_cons, matchAny_nil, Bool.or_false]
  rfl

/-- `get_descendants(el, no_iframe=True)` never looks inside an iframe: every location it yields
    is reached from `l` through non-iframe locations only (and `l` itself is not an iframe). -/
theorem descendants_iframe_cut (d : Loc) (hd : d ∈ c.descendants l true) :
    c.locIsIframe l = false ∧ IsDescVia (fun x => !c.locIsIframe x) l d := by
  unfold Ctx.descendants at hd
  cases hi : c.locIsIframe l with
  | true => rw [hi] at hd; simp at hd
  | false =>
    rw [hi] at hd
    simp only [Bool.and_false, Bool.false_eq_true, if_false, Bool.true_and] at hd
    exact ⟨rfl, descendants_via _ _ l d (Nat.le_refl _) hd⟩

theorem tagDescendants_iframe_cut (d : Loc) (hd : d ∈ c.tagDescendants l true) :
    c.locIsIframe l = false ∧ IsDescVia (fun x => !c.locIsIframe x) l d :=
  descendants_iframe_cut c l d (List.mem_filter.mp hd).1

end SoupVerif.StateLaws
