/-
  Capture groups whose body cannot match the empty string record non-empty spans.

  `groupsConsume r` (`Lemmas/ParseCost/Caps.lean`): every capture group of `r` (outside look-arounds, whose captures
  the engine model discards) has a non-`nullable` body.  Then (`runs_adds` with `strict`) every span in the captures of a successful `matchAt` is non-empty
  (`matchAt_capSpan_pos`), and by `ParseCost.matchAt_capSpan` it lies inside the match.  Used by
  `Properties/C06Gen.lean` to show that the match objects `css_unescape`'s replacement function sees for the
  regenerated `RE_CSS_ESC` / `RE_CSS_STR_ESC` are "real": a group that took part is a truthy string.
-/
import SoupVerif.Lemmas.ParseCost.Caps
set_option autoImplicit false
namespace SoupVerif
namespace CapsReal
open Rx SoupVerif.Parser ParserProgress

/-- All recorded spans are non-empty. -/
def CapsPos (c : Caps) : Prop := ∀ e ∈ c, e.2.1 < e.2.2

def RunsPos (l : List (Nat × Caps)) : Prop := ∀ x ∈ l, CapsPos x.2

theorem RunsPos.single {p : Nat} {caps : Caps} (h : CapsPos caps) : RunsPos [(p, caps)] := by
  intro x hx
  simp only [List.mem_singleton] at hx
  subst hx
  exact h

theorem RunsPos.of_adds {i : Nat} {caps : Caps} {l : List (Nat × Caps)} (hc : CapsPos caps)
    (h : ∀ x ∈ l, ParseCost.Adds true i caps x) : RunsPos l :=
  fun x hx e he => ((h x hx).2 e he).elim (hc e) fun h' => h'.2.2.2 rfl

theorem runs_pos (env : CharEnv) (s : Str) (r : Rx) (i : Nat) (caps : Caps) (hg : groupsConsume r = true)
    (hc : CapsPos caps) : RunsPos (runs env s r i caps) :=
  .of_adds hc (ParseCost.runs_adds env s true r i caps fun _ => hg)

theorem runsSeq_pos (env : CharEnv) (s : Str) :
    ∀ (rs : List Rx) (i : Nat) (caps : Caps), groupsConsumeL rs = true → CapsPos caps →
      RunsPos (runsSeq env s rs i caps) :=
  fun rs i caps hg hc => .of_adds hc (ParseCost.runsSeq_adds env s true rs i caps fun _ => hg)

theorem runsAlt_pos (env : CharEnv) (s : Str) :
    ∀ (rs : List Rx) (i : Nat) (caps : Caps), groupsConsumeL rs = true → CapsPos caps →
      RunsPos (runsAlt env s rs i caps) :=
  fun rs i caps hg hc => .of_adds hc (ParseCost.runsAlt_adds env s true rs i caps fun _ => hg)

/-- `m.span(idx)` of a successful match is a non-empty span inside the match, for an expression all of whose groups
    consume. -/
theorem matchAt_capSpan_pos {env : CharEnv} {r : Rx} {s : Str} {i j : Nat} {c : Caps}
    (hg : groupsConsume r = true) (h : matchAt env r s i = some (j, c)) {idx a b : Nat}
    (hs : capSpan c idx = some (a, b)) : i ≤ a ∧ a < b ∧ b ≤ j := by
  have h1 := ParseCost.matchAt_capSpan h hs
  have hm : (j, c) ∈ runs env s r i [] := by unfold matchAt at h; exact List.mem_of_mem_head? h
  have hp : CapsPos c := runs_pos env s r i [] hg (fun _ he => by simp at he) (j, c) hm
  obtain ⟨k, hk⟩ := ParseCost.capSpan_mem hs
  exact ⟨h1.1, hp _ hk, h1.2.2⟩

end CapsReal
end SoupVerif
