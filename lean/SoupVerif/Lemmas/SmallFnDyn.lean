/-
  Equations for the operations of `Model/SmallFnDyn.lean` (the dynamic values the small `CSSMatch` tests are
  translated over) on values of a known kind: what the proofs about the translated functions rewrite with.
-/
import SoupVerif.Model.SmallFnDyn
namespace SoupVerif
namespace PySmallFn

theorem ite_bool (b : Bool) (x y : V) : V.ite (.bool b) x y = if b then x else y := by
  cases b <;> rfl

theorem ite_bool_str (b : Bool) (x y : Str) : V.ite (.bool b) (.str x) (.str y) = .str (if b then x else y) := by
  cases b <;> rfl

theorem ite_str (s : Str) (x y : V) : V.ite (.str s) x y = if !s.isEmpty then x else y := rfl

theorem and_bool (a b : Bool) : pyAnd (.bool a) (.bool b) = .bool (a && b) := by cases a <;> rfl

theorem or_bool (a b : Bool) : pyOr (.bool a) (.bool b) = .bool (a || b) := by cases a <;> rfl

theorem not_bool (a : Bool) : pyNot (.bool a) = .bool (!a) := rfl

theorem eq_str (a b : Str) : pyEq (.str a) (.str b) = .bool (a == b) := rfl

theorem eq_nat (a b : Nat) : pyEq (.int a) (.int b) = .bool (a == b) :=
  congrArg V.bool (by rw [Bool.eq_iff_iff, beq_iff_eq, beq_iff_eq, Int.natCast_inj])

theorem isNone_node (l : Loc) : pyIsNone (.node l) = .bool false := rfl

theorem isNone_optNat (o : Option Nat) : pyIsNone (V.ofOptNat o) = .bool o.isNone := by cases o <;> rfl

theorem isNotNone_optNat (o : Option Nat) : pyIsNotNone (V.ofOptNat o) = .bool o.isSome := by cases o <;> rfl

theorem eq_optNat (o : Option Nat) (n : Nat) : pyEq (V.ofOptNat o) (.int n) = .bool (o == some n) := by
  cases o with
  | none => rfl
  | some m => exact (eq_nat m n).trans (by rw [Option.some_beq_some])

theorem eq_optNat_zero (o : Option Nat) : pyEq (V.ofOptNat o) (.int 0) = .bool (o == some 0) := eq_optNat o 0

/-- `x0 not in (None, 0)` -/
theorem notIn_none_zero (o : Option Nat) :
    pyNotInTuple (V.ofOptNat o) [.none, .int 0] = .bool (o.any (· != 0)) := by
  cases o with
  | none => rfl
  | some m => cases m <;> rfl

/-- `x in (s₀, s₁, …)` for strings. -/
theorem inTuple_strs (x : Str) (l : List Str) : pyInTuple (.str x) (l.map V.str) = .bool (l.any (· == x)) := by
  have herr : (l.map V.str).any V.isErr = false := by simp [V.isErr]
  unfold pyInTuple
  rw [herr]
  show pyInList (.str x) (l.map V.str) = _
  clear herr
  induction l with
  | nil => rfl
  | cons y l ih =>
    rw [List.map_cons, pyInList, eq_str, List.any_cons, BEq.comm (a := y)]
    cases x == y
    · exact ih
    · rfl

end PySmallFn
end SoupVerif
