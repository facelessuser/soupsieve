/-
  Lemmas for `Properties/C04`: the pure functions unfolded into the pieces `Model/Memo.lean` re-uses, that the
  locations they reach stay in the document (`InDoc`, `Lemmas/TreeWalk`: one document, positions are Python
  identity), and the radio-group test without an asker.
-/
import SoupVerif.Model.Memo
import SoupVerif.Lemmas.TreeWalk
namespace SoupVerif
namespace MemoLemmas
open Memo

theorem matchIndeterminate_eq (c : Ctx) (l : Loc) :
    matchIndeterminate c l = (match l.elem? with
      | none => false
      | some e =>
        match parentForm c l with
        | none => false
        | some form => !indeterminateScan c form (c.attrByName e "name".toStr) l) := rfl

theorem metaLang_eq (c : Ctx) (start : Loc) :
    metaLang c start = (match findHead c start with
      | none => none
      | some head => scanHead c head) := by
  show (match findHtml c start with
    | none => none
    | some html =>
      match findChildTag c html "head" with
      | none => none
      | some head => scanHead c head) = _
  unfold findHead
  cases findHtml c start <;> rfl

theorem langOf_eq (c : Ctx) (l : Loc) :
    langOf c l = (match (langWalk c (l :: c.ancestors l c.isHtml) l).1 with
      | some v => some v
      | none =>
        if metaCond c (langWalk c (l :: c.ancestors l c.isHtml) l).2 then
          metaLang c (langWalk c (l :: c.ancestors l c.isHtml) l).2
        else none) := rfl

theorem langOfM_eq (c : Ctx) (σ : State) (l : Loc) :
    langOfM c σ l = (match (langWalk c (l :: c.ancestors l c.isHtml) l).1 with
      | some v => (some v, σ)
      | none =>
        match (σ.metaLang.filter (fun p => p.1 == (langWalk c (l :: c.ancestors l c.isHtml) l).2.pos)).getLast? with
        | some (_, v) => (v, σ)
        | none =>
          if metaCond c (langWalk c (l :: c.ancestors l c.isHtml) l).2 then
            match findHead c (langWalk c (l :: c.ancestors l c.isHtml) l).2 with
            | none => (none, σ)
            | some head =>
              (scanHead c head, { σ with metaLang := σ.metaLang ++
                [((langWalk c (l :: c.ancestors l c.isHtml) l).2.pos, scanHead c head)] })
          else (none, σ)) := rfl

theorem matchLang_eq (c : Ctx) (l : Loc) (langs : List LangSel) :
    matchLang c l langs = (match langOf c l with
      | none => false
      | some v =>
        let tag := match v with | .str s => s | .list ls => joinWith [32] ls
        langs.all fun pats => pats.languages.any fun p => Lang.extendedFilter c.wildStrip p tag) := rfl

/-- The `root` of the `<meta>` search is `el` or one of its ancestors. -/
theorem langWalk_last (c : Ctx) : ∀ (L : List Loc) (init : Loc),
    (langWalk c L init).2 = init ∨ (langWalk c L init).2 ∈ L := by
  intro L
  induction L with
  | nil => intro init; exact Or.inl rfl
  | cons l rest ih =>
    intro init
    have tail : (langWalk c rest l).2 ∈ l :: rest :=
      (ih l).elim (fun h => by rw [h]; exact List.mem_cons_self) (List.mem_cons_of_mem _)
    unfold langWalk
    cases l.elem? with
    | none => exact Or.inr tail
    | some e =>
      dsimp only
      cases langAttr c e with
      | some v => exact Or.inr List.mem_cons_self
      | none => exact Or.inr tail

theorem langWalk_last_inDoc {d : Doc} (c : Ctx) (l : Loc) (hl : InDoc d l) :
    InDoc d (langWalk c (l :: c.ancestors l c.isHtml) l).2 := by
  rcases langWalk_last c (l :: c.ancestors l c.isHtml) l with h | h
  · rw [h]; exact hl
  · rcases List.mem_cons.mp h with h | h
    · rw [h]; exact hl
    · exact hl.ctxAncestor h

theorem defaultForm_inDoc {d : Doc} (c : Ctx) (l form : Loc) (hl : InDoc d l)
    (h : defaultForm c l = some form) : InDoc d form :=
  hl.ctxAncestor (List.mem_of_find?_eq_some h)

theorem parentForm_inDoc {d : Doc} (c : Ctx) (l form : Loc) (hl : InDoc d l)
    (h : parentForm c l = some form) : InDoc d form := by
  unfold parentForm at h
  simp only at h
  split at h
  · rename_i f hf
    have : f = form := Option.some.inj h
    subst this
    exact hl.ctxAncestor (List.mem_of_find?_eq_some hf)
  · exact hl.ctxAncestor (List.mem_of_getLast? h)

/-- Does the group `(form, name)` have no checked radio at all (nobody excluded). -/
def groupIndeterminate (c : Ctx) (form : Loc) (name : Option NVal) : Bool :=
  !((c.tagDescendants form true).any (isCheckedRadioOf c form name))

/-- Is the asking element itself a checked radio of the group it asks about. -/
def askerChecked (c : Ctx) (l : Loc) : Bool :=
  match l.elem? with
  | none => false
  | some e =>
    match parentForm c l with
    | none => false
    | some form => isCheckedRadioOf c form (c.attrByName e "name".toStr) l

/-- Skipping `child is el` changes nothing when `el` is not a checked radio of the group. -/
theorem indeterminateScan_eq {d : Doc} (c : Ctx) (form : Loc) (name : Option NVal) (l : Loc)
    (hform : InDoc d form) (hl : InDoc d l) (hside : isCheckedRadioOf c form name l = false) :
    (!indeterminateScan c form name l) = groupIndeterminate c form name := by
  unfold indeterminateScan groupIndeterminate
  congr 1
  rw [Bool.eq_iff_iff, List.any_eq_true, List.any_eq_true]
  constructor
  · rintro ⟨ch, hch, h⟩
    refine ⟨ch, hch, ?_⟩
    split at h
    · simp at h
    · exact h
  · rintro ⟨ch, hch, h⟩
    refine ⟨ch, hch, ?_⟩
    split
    · rename_i hs
      have : ch = l := (hform.tagDescendant hch).eq_of_pos hl ((Loc.same_iff _ _).mp hs)
      subst this
      rw [hside] at h
      exact absurd h (by simp)
    · exact h

end MemoLemmas
end SoupVerif
