/-
  C06 helpers: tokens make progress, classification of one loop iteration, and what a run of the parser
  guarantees and needs (definitions).

  Every iteration of the loop either stops, raises a documented error inside the pattern, continues after a
  token that made progress (`LexOK`: no token expression is nullable), or makes exactly one nested
  `parse_selectors` call (`stepOf_spec`, read off the table form of the step in `Dispatch.lean`: the action of the
  token's key, each handler by its equation).  The post-conditions `SelPost` / `LoopPost` (errors lie inside their
  pattern, positions only advance, the custom map only gets lighter, `W`) and the fuel needed (`needSel`,
  `needLoop`) are defined here; they are proved in `Rules.lean` (`run_rules`) and `Stable.lean` (`stable_all`).
-/
import SoupVerif.Lemmas.ParserProgress.Step
import SoupVerif.Lemmas.ParserProgress.Dispatch
import SoupVerif.Lemmas.ParserProgress.Comb
import SoupVerif.Lemmas.ParserProgress.CustomMap
namespace SoupVerif
namespace ParserProgress
open Rx SoupVerif.Parser ParseDisp

/-- What the tokenizer needs from the lexicon: no token expression matches the empty string. -/
structure LexOK (L : Lexicon) : Prop where
  tokens : ∀ t ∈ L.tokens, t.2 = false → nullable t.1.rx = false
  special : ∀ e ∈ L.special, nullable e.2.rx = false

/-- A token is the match at `i` of an expression of the lexicon: of a plain slot among `toks`, or of a
    sub-pattern of the special slot. -/
theorem matchToken_some (P : PEnv) (i : Nat) {t : Token} :
    ∀ toks : List (TokenRx × Bool), matchToken P i toks = some t →
      ∃ tr : TokenRx, ((tr, false) ∈ toks ∨ ∃ nm, (nm, tr) ∈ P.L.special) ∧
        matchAt P.env tr.rx P.pattern i = some (t.stop, t.caps) ∧ t.name = tr.name ∧ t.start = i
  | [], h => by cases h
  | (tr, isSpecial) :: rest, h => by
    have ih (h' : matchToken P i rest = some t) :
        ∃ tr' : TokenRx, ((tr', false) ∈ (tr, isSpecial) :: rest ∨ ∃ nm, (nm, tr') ∈ P.L.special) ∧
          matchAt P.env tr'.rx P.pattern i = some (t.stop, t.caps) ∧ t.name = tr'.name ∧ t.start = i :=
      (matchToken_some P i rest h').imp fun _ hx => ⟨hx.1.imp_left (List.mem_cons_of_mem _), hx.2⟩
    unfold matchToken at h
    cases isSpecial with
    | true =>
      simp only [if_true] at h
      split at h
      · split at h
        · rename_i e sub hfind
          split at h
          · rename_i j c2 hm
            cases h
            exact ⟨sub, .inr ⟨e, List.mem_of_find?_eq_some hfind⟩, hm, rfl, rfl⟩
          · exact ih h
        · exact ih h
      · exact ih h
    | false =>
      simp only [Bool.false_eq_true, if_false] at h
      split at h
      · rename_i j c hm
        cases h
        exact ⟨tr, .inl (List.mem_cons_self ..), hm, rfl, rfl⟩
      · exact ih h

theorem matchToken_spec (P : PEnv) (i : Nat) (hsp : ∀ e ∈ P.L.special, nullable e.2.rx = false)
    (toks : List (TokenRx × Bool)) (hn : ∀ t ∈ toks, t.2 = false → nullable t.1.rx = false)
    (t : Token) (h : matchToken P i toks = some t) : t.start = i ∧ i < t.stop ∧ t.stop ≤ P.pattern.length := by
  obtain ⟨tr, hmem, hm, _, hst⟩ := matchToken_some P i toks h
  have hnull : nullable tr.rx = false := by
    rcases hmem with hmem | ⟨nm, hmem⟩
    · exact hn _ hmem rfl
    · exact hsp _ hmem
  exact ⟨hst, matchAt_progress hnull hm⟩

/-- The kinds `parse_selectors` / `selector_iter` can raise: not `pyBug`, and not one of the two
    `process_custom` errors. -/
def NoBug (k : ErrKind) : Prop := (∀ w, k ≠ .pyBug w) ∧ k ≠ .badCustomName ∧ k ≠ .customCollision

/-- `NoBug` as a test on the constructor: for a given kind `NoBug.of_documented rfl` proves it. -/
def documented : ErrKind → Bool
  | .pyBug _ | .badCustomName | .customCollision => false
  | _ => true

theorem NoBug.of_documented {k : ErrKind} (h : documented k = true) : NoBug k := by
  refine ⟨fun w hw => ?_, fun hw => ?_, fun hw => ?_⟩ <;> subst hw <;> cases h

theorem documented_ite {c : Prop} [Decidable c] {a b : ErrKind} (ha : documented a = true)
    (hb : documented b = true) : documented (if c then a else b) = true := by
  split <;> assumption

/-- An error raised by the parser of `P.pattern` itself: documented kind, offset inside. -/
def ErrHere (P : PEnv) (e : Err) : Prop :=
  e.pattern = P.pattern ∧ e.offset ≤ P.pattern.length ∧ NoBug e.kind

theorem errHere_mk (P : PEnv) (k : ErrKind) (off : Nat) (hk : NoBug k) (ho : off ≤ P.pattern.length) :
    ErrHere P (P.err k off) := ⟨rfl, ho, hk⟩

/-- The three outcomes of `nextToken`: end of input, a token of the lexicon, or one of the five
    "malformed …" / "invalid character" errors at a position inside the pattern. -/
theorem nextToken_outcome (P : PEnv) (i : Nat) :
    nextToken P i = .ok none ∨ (∃ t, matchToken P i P.L.tokens = some t ∧ nextToken P i = .ok (some t)) ∨
      ∃ k, documented k = true ∧ i < P.pattern.length ∧ nextToken P i = .error (P.err k i) := by
  unfold nextToken
  by_cases h1 : i + 1 > P.pattern.length
  · rw [if_pos h1]; exact .inl rfl
  rw [if_neg h1]
  by_cases h2 : (matchAt P.env P.L.reWsEnd P.pattern i).isSome = true
  · rw [if_pos h2]; exact .inl rfl
  rw [if_neg h2]
  cases hm : matchToken P i P.L.tokens with
  | some t => exact .inr (.inl ⟨t, rfl, rfl⟩)
  | none =>
    exact .inr (.inr ⟨_, documented_ite rfl (documented_ite rfl (documented_ite rfl (documented_ite rfl rfl))),
      by omega, rfl⟩)

theorem nextToken_error {P : PEnv} {i : Nat} {e : Err} (h : nextToken P i = .error e) : ErrHere P e := by
  rcases nextToken_outcome P i with h' | ⟨t, _, h'⟩ | ⟨k, hk, hi, h'⟩ <;> rw [h'] at h <;> cases h
  exact errHere_mk P k i (.of_documented hk) (Nat.le_of_lt hi)

theorem nextToken_some {P : PEnv} (hL : LexOK P.L) {i : Nat} {t : Token}
    (h : nextToken P i = .ok (some t)) : t.start = i ∧ i < t.stop ∧ t.stop ≤ P.pattern.length := by
  rcases nextToken_outcome P i with h' | ⟨t', hm, h'⟩ | ⟨k, _, _, h'⟩ <;> rw [h'] at h <;> cases h
  exact matchToken_spec P i hL.special _ hL.tokens _ hm

/-- `pattern.replace('\x00', '\ufffd')` of `process_selectors`, applied to the pattern and to the definition of a
    custom selector before it is parsed (the same map as `Escape.nulToFFFD`). -/
def nulFix (text : Str) : Str := text.map (fun c => if c == 0 then 0xFFFD else c)

/-- `is_open` of `parse_selectors`: the call reads a parenthesised list and ends at its `)`. -/
def isOpen (fl : Nat) : Bool := (fl &&& FLG_OPEN) != 0

/-- Classification of the step taken on a token ending at `stop`: what it does to the position, the index, the
    custom map and `closed`.  A nested list in the same pattern is opened with `FLG_OPEN`; only `)` closes. -/
def StepOK (P : PEnv) (s : LS) (stop : Nat) : Step → Prop
  | .done (.error e) => ErrHere P e
  | .done (.ok s') => s'.pos = stop ∧ s'.index = s.index ∧ s'.custom = s.custom ∧ s'.closed = true
  | .cont s' => s'.pos = stop ∧ s'.index = stop ∧ s'.custom = s.custom ∧ s'.closed = s.closed
  | .nest pat pos idx fl c k =>
      (pat = P.pattern ∧ pos = stop ∧ idx = stop ∧ c = s.custom ∧ isOpen fl = true ∧
        ∀ r : SelRes, (k r).pos = r.2.1 ∧ (k r).index = stop ∧ (k r).custom = r.2.2 ∧ (k r).closed = s.closed)
      ∨ (∃ pseudo text, s.custom.get? pseudo = some (.src text) ∧ pat = nulFix text ∧
          c = s.custom.erase pseudo ∧ pos = startIndex ⟨P.env, P.L, P.B, pat⟩ ∧ idx = 0 ∧
          ∀ r : SelRes, (k r).pos = stop ∧ (k r).index = stop ∧
            (k r).custom = r.2.2.set pseudo (.compiled r.1) ∧ (k r).closed = s.closed)

/-- The flags of a nested list in the same pattern: `FLG_PSEUDO ||| FLG_OPEN`, for `:not(` / `:has(` / `:is(`
    with one more bit. -/
theorem isOpen_nested (x : Nat) (hx : x = FLG_NOT ∨ x = FLG_RELATIVE ∨ x = FLG_FORGIVE ∨ x = 0) :
    isOpen (FLG_PSEUDO ||| FLG_OPEN ||| x) = true := by
  rcases hx with rfl | rfl | rfl | rfl <;> decide

theorem StepOK_ite {P : PEnv} {s : LS} {stop : Nat} {c : Prop} [Decidable c] {a b : Step}
    (ha : StepOK P s stop a) (hb : StepOK P s stop b) : StepOK P s stop (if c then a else b) := by
  split <;> assumption

/-- What one iteration does: a step on a token that ends further on and inside the pattern (`StepOK`), the
    end of the loop at the end of input, or an error of the tokenizer. -/
def StepSpec (P : PEnv) (s : LS) (st : Step) : Prop :=
  (∃ stop, s.pos < stop ∧ stop ≤ P.pattern.length ∧ StepOK P s stop st) ∨ st = .done (.ok s) ∨
    (∃ e, st = .done (.error e) ∧ ErrHere P e)

theorem StepOK.raise {P : PEnv} {s : LS} {stop : Nat} {k : ErrKind} {off : Nat}
    (hk : documented k = true) (ho : off ≤ P.pattern.length) : StepOK P s stop (.done (.error (P.err k off))) :=
  errHere_mk P k off (.of_documented hk) ho

/-- What the branch of a key does, read off the table (`modelAction`): each handler by its equation (`runCall_*`). -/
theorem runAction_ok {env : CharEnv} {L : Lexicon} {B : Builtins} {pattern : Str} {flags : Nat} {s : LS} {t : Token}
    (hidx : s.index ≤ pattern.length) (hstart : t.start ≤ pattern.length)
    (hle : t.stop ≤ pattern.length) (key : String) :
    StepOK ⟨env, L, B, pattern⟩ s t.stop
      (runAction env L B pattern flags { s with pos := t.stop } t (modelAction key)) := by
  have ite {c : Prop} [Decidable c] {a b : Option Action}
      (ha : StepOK ⟨env, L, B, pattern⟩ s t.stop (runAction env L B pattern flags { s with pos := t.stop } t a))
      (hb : StepOK ⟨env, L, B, pattern⟩ s t.stop (runAction env L B pattern flags { s with pos := t.stop } t b)) :
      StepOK ⟨env, L, B, pattern⟩ s t.stop
        (runAction env L B pattern flags { s with pos := t.stop } t (if c then a else b)) := by
    split <;> assumption
  have notImpl : StepOK ⟨env, L, B, pattern⟩ s t.stop
      (runAction env L B pattern flags { s with pos := t.stop } t (some (.raiseNotImplemented .mStart))) :=
    StepOK.raise (documented_ite rfl rfl) hstart
  unfold modelAction
  refine ite notImpl (ite ?amp (ite ?custom (ite ?pseudo_class (ite notImpl (ite ?contains (ite ?nth (ite ?lang
    (ite ?dir (ite ?close (ite ?combine (ite ?attr (ite ?tag (ite ?class_id ?other)))))))))))))
  case amp => exact ⟨rfl, rfl, rfl, rfl⟩
  case other => exact ⟨rfl, rfl, rfl, rfl⟩
  case contains => rw [runAction, runCall_contains]; exact ⟨rfl, rfl, rfl, rfl⟩
  case lang => rw [runAction, runCall_lang]; exact ⟨rfl, rfl, rfl, rfl⟩
  case dir => rw [runAction, runCall_dir]; exact ⟨rfl, rfl, rfl, rfl⟩
  case attr => rw [runAction, runCall_attribute]; exact ⟨rfl, rfl, rfl, rfl⟩
  case class_id => rw [runAction, runCall_class_id]; exact ⟨rfl, rfl, rfl, rfl⟩
  case tag =>
    rw [runAction, runCall_tag]
    exact StepOK_ite (StepOK.raise rfl hstart) ⟨rfl, rfl, rfl, rfl⟩
  case custom =>
    rw [runAction, runCall_custom]
    simp only []
    split
    · exact StepOK.raise rfl hle
    · exact ⟨rfl, rfl, rfl, rfl⟩
    · rename_i text heq
      exact Or.inr ⟨_, text, heq, rfl, rfl, rfl, rfl, fun ⟨_, _, _⟩ => ⟨rfl, rfl, rfl, rfl⟩⟩
  case pseudo_class =>
    rw [runAction, runCall_pseudo_class]
    simp only []
    refine StepOK_ite (Or.inl ⟨rfl, rfl, rfl, rfl, isOpen_nested _ ?_, fun ⟨_, _, _⟩ => ⟨rfl, rfl, rfl, rfl⟩⟩)
      (StepOK_ite ⟨rfl, rfl, rfl, rfl⟩ (StepOK_ite
        (Or.inl ⟨rfl, rfl, rfl, rfl, isOpen_nested 0 (.inr (.inr (.inr rfl))), fun ⟨_, _, _⟩ => ⟨rfl, rfl, rfl, rfl⟩⟩)
        (StepOK_ite ⟨rfl, rfl, rfl, rfl⟩ (StepOK_ite (StepOK.raise rfl hstart) (StepOK.raise rfl hstart)))))
    split
    · exact .inl rfl
    · split
      · exact .inr (.inl rfl)
      · split
        · exact .inr (.inr (.inl rfl))
        · exact .inr (.inr (.inr rfl))
  case nth =>
    rw [runAction, runCall_nth]
    simp only []
    refine StepOK_ite (StepOK_ite ?_ ⟨rfl, rfl, rfl, rfl⟩) ⟨rfl, rfl, rfl, rfl⟩
    exact Or.inl ⟨rfl, rfl, rfl, rfl, isOpen_nested 0 (.inr (.inr (.inr rfl))), fun ⟨_, _, _⟩ => ⟨rfl, rfl, rfl, rfl⟩⟩
  case close =>
    refine StepOK_ite (StepOK.raise rfl hstart) (StepOK_ite ?_ (StepOK.raise rfl hstart))
    show _ ∧ _ ∧ _ ∧ _
    split <;> exact ⟨rfl, rfl, rfl, rfl⟩
  case combine =>
    rw [runAction_combine]
    generalize hr : (if ((flags &&& FLG_RELATIVE) != 0) = true then parseHasCombinator _ _ _ _
      else parseCombinator _ _ _ _ _ _) = r
    have hpost : CombPost ⟨env, L, B, pattern⟩ s.index { s with pos := t.stop } r :=
      hr ▸ CombPost_ite (parseHasCombinator_post ..) (parseCombinator_post ..)
    rcases r with e | s'
    · exact hpost.2 ▸ errHere_mk _ _ _ (hpost.1.elim (· ▸ .of_documented rfl) (· ▸ .of_documented rfl)) hidx
    · exact ⟨hpost.2.2.2.2.1, rfl, hpost.2.2.2.2.2, hpost.2.2.1⟩

theorem stepOf_spec {env : CharEnv} {L : Lexicon} {B : Builtins} {pattern : Str} {flags : Nat} {s : LS}
    (hL : LexOK L) (hidx : s.index ≤ pattern.length) :
    StepSpec ⟨env, L, B, pattern⟩ s (stepOf env L B pattern flags s) := by
  rw [stepOf_eq_runAction]
  generalize hnt : nextToken ⟨env, L, B, pattern⟩ s.pos = nt
  rcases nt with e | (_ | t)
  · exact .inr (.inr ⟨e, rfl, nextToken_error hnt⟩)
  · exact .inr (.inl rfl)
  · obtain ⟨hst, hlt, hle⟩ := nextToken_some (P := ⟨env, L, B, pattern⟩) hL hnt
    exact .inl ⟨t.stop, hlt, hle, runAction_ok hidx (by simp only [] at hle; omega) hle t.name⟩

theorem finishSel_error {env : CharEnv} {L : Lexicon} {B : Builtins} {pattern : Str} {flags : Nat} {s : LS}
    {e : Err} (hidx : s.index ≤ pattern.length) (h : finishSel env L B pattern flags s = .error e) :
    ErrHere ⟨env, L, B, pattern⟩ e := by
  unfold finishSel at h
  simp only [] at h
  split at h
  · cases h; exact errHere_mk _ _ _ (.of_documented rfl) hidx
  · split at h
    · cases h
      refine errHere_mk _ _ _ (.of_documented rfl) ?_
      rw [(cleanupLS_frame flags s).1]; exact hidx
    · cases h

theorem finishSel_ok {env : CharEnv} {L : Lexicon} {B : Builtins} {pattern : Str} {flags : Nat} {s : LS}
    {l : SelList} {p : Nat} {c : Custom} (h : finishSel env L B pattern flags s = .ok (l, p, c)) :
    p = s.pos ∧ c = s.custom := by
  unfold finishSel at h
  simp only [] at h
  split at h
  · cases h
  · split at h
    · cases h
    · cases h
      exact ⟨(cleanupLS_frame flags s).2.1, (cleanupLS_frame flags s).2.2⟩

/-- What expanding one entry can cost: parsing the definition `t` needs `needSel t … ≤ 2·|t| + 2` plus the weight
    of the rest of the map; a compiled entry is only looked up. -/
def cvWeight : CustomVal → Nat
  | .src t => 2 * t.length + 2
  | .compiled _ => 0

/-- The weight of a custom map: fuel reserved for expanding the not yet compiled custom selectors. -/
def W : Custom → Nat
  | [] => 0
  | e :: c => cvWeight e.2 + W c

theorem W_erase_le (c : Custom) (k : Str) : W (c.erase k) ≤ W c := by
  induction c with
  | nil => exact Nat.le_refl _
  | cons e c ih =>
    rw [Custom.erase_cons]
    split <;> simp only [W] <;> omega

theorem W_get_src (c : Custom) (k : Str) (t : Str) (h : c.get? k = some (.src t)) :
    W (c.erase k) + (2 * t.length + 2) ≤ W c := by
  induction c with
  | nil => cases h
  | cons e c ih =>
    rw [Custom.get?_cons] at h
    rw [Custom.erase_cons]
    split at h
    · -- the entry found: the rest of the map only gets lighter
      have := W_erase_le c k
      injection h with hv
      rw [if_pos ‹_›]
      simp only [W, hv, cvWeight]
      omega
    · have := ih h
      rw [if_neg ‹_›]
      simp only [W]
      omega

theorem W_append (a b : Custom) : W (a ++ b) = W a + W b := by
  induction a with
  | nil => simp [W]
  | cons e a ih => simp only [List.cons_append, W, ih]; omega

theorem W_map_compiled (c : Custom) (k : Str) (l : SelList) : W (c.map (replAt k (.compiled l))) ≤ W c := by
  induction c with
  | nil => exact Nat.le_refl _
  | cons e c ih =>
    simp only [List.map_cons, W, replAt]
    split <;> simp only [cvWeight] <;> omega

theorem W_set_compiled (c : Custom) (k : Str) (l : SelList) : W (c.set k (.compiled l)) ≤ W c := by
  rw [Custom.set_eq]
  split
  · exact W_map_compiled c k l
  · rw [W_append]; simp [W, cvWeight]

theorem startIndex_le (P : PEnv) : startIndex P ≤ P.pattern.length := by
  unfold startIndex
  split
  · rename_i j c h; exact matchAt_le_length h (Nat.zero_le _)
  · exact Nat.zero_le _

/-- The offset an error reports lies inside the pattern it reports. -/
def ErrOK (e : Err) : Prop := e.offset ≤ e.pattern.length

theorem ErrHere.ok {P : PEnv} {e : Err} (h : ErrHere P e) : ErrOK e := by
  unfold ErrOK; rw [h.1]; exact h.2.1

/-- Fuel the loop needs from state `s`.  Fuel is handed down, not used up: an iteration gives the nested call and
    the rest of the loop what it received less one, and `parseSelectors` gives its loop one less again.  A token
    takes at least one character, and on it the loop goes one level down for the iteration and at most one more for
    a nested list: two per remaining character; one for the iteration that meets the end of input; `W` for the
    custom selectors still to be expanded. -/
def needLoop (pattern : Str) (s : LS) : Nat := 2 * (pattern.length - s.pos) + 1 + W s.custom
/-- Fuel `parseSelectors` needs: that of its loop and one for entering it.  `Parser.compile` allots
    `2·|pattern| + 4·Σ(|definition| + 2) + 8`, which is at least this (`C06.allotted_ge_need`); the factor 4 on the
    definitions is slack. -/
def needSel (pattern : Str) (pos : Nat) (c : Custom) : Nat := 2 * (pattern.length - pos) + 2 + W c

/-- What `parseSelectors` returns, for any fuel: an error with its offset inside its pattern, or a position not
    behind the start, inside the pattern, and a custom map that is not heavier. -/
def SelPost (pattern : Str) (pos : Nat) (c : Custom) : M SelRes → Prop
  | .error e => ErrOK e
  | .ok (_, p', c') => pos ≤ p' ∧ p' ≤ pattern.length ∧ W c' ≤ W c

/-- The same for `parseLoop` from state `s`. -/
def LoopPost (pattern : Str) (s : LS) : M LS → Prop
  | .error e => ErrOK e
  | .ok s' => s.pos ≤ s'.pos ∧ s'.pos ≤ pattern.length ∧ s'.index ≤ pattern.length ∧
      W s'.custom ≤ W s.custom

/-- An error, if there is one, is of a kind the parser documents (`NoBug`). -/
def NoBugR {α : Type} (r : M α) : Prop := ∀ e, r = .error e → NoBug e.kind

theorem NoBugR.ok {α : Type} (a : α) : NoBugR (.ok a : M α) := fun _ h => by cases h

theorem NoBugR.error {α : Type} {e : Err} (h : NoBug e.kind) : NoBugR (.error e : M α) :=
  fun _ h' => Except.error.inj h' ▸ h

theorem needLoop_lt {pattern : Str} {s s' : LS} (hlt : s.pos < s'.pos) (hle : s'.pos ≤ pattern.length)
    (hw : W s'.custom ≤ W s.custom) : needLoop pattern s' < needLoop pattern s := by
  unfold needLoop; omega

theorem LoopPost.weaken {pattern : Str} {s s' : LS} {r : M LS} (h : LoopPost pattern s' r)
    (hp : s.pos ≤ s'.pos) (hw : W s'.custom ≤ W s.custom) : LoopPost pattern s r := by
  rcases r with e | s''
  · exact h
  · obtain ⟨h1, h2, h3, h4⟩ := h
    exact ⟨by omega, h2, h3, by omega⟩

theorem nulFix_length (t : Str) : (nulFix t).length = t.length := by simp [nulFix]

end ParserProgress

namespace C06
open ParserProgress

/-- The fuel `Parser.compile` allots. -/
def allotted (pattern : Str) (custom : List (Str × Str)) : Nat :=
  2 * (nulFix pattern).length + 4 * (custom.foldl (fun n e => n + e.2.length + 2) 0) + 8

end C06
