/-
  C06 helpers: what the two combinator handlers of `parse_selectors` (`Parser.parseCombinator`,
  `Parser.parseHasCombinator`) can do, as one post-condition (`CombPost`) read off their branches.
-/
import SoupVerif.Model.Parser
namespace SoupVerif
namespace ParserProgress
open SoupVerif.Parser

/-- Outcome of a combinator handler called with `index` in state `s`: one of the two syntax errors, raised at
    `index` for the parser's own pattern; or a state with a fresh compound in which only the selector lists
    and the relation type have moved. -/
def CombPost (P : PEnv) (index : Nat) (s : LS) : M LS → Prop
  | .error e => (e.kind = .combinatorNeedsSelector ∨ e.kind = .multipleCombinators) ∧ e = P.err e.kind index
  | .ok s' => s'.sel = .empty ∧ s'.hasSelector = false ∧ s'.closed = s.closed ∧ s'.index = s.index ∧
      s'.pos = s.pos ∧ s'.custom = s.custom

theorem CombPost_ite {P : PEnv} {index : Nat} {s : LS} {c : Prop} [Decidable c] {a b : M LS}
    (ha : CombPost P index s a) (hb : CombPost P index s b) : CombPost P index s (if c then a else b) := by
  split <;> assumption

theorem parseHasCombinator_post (P : PEnv) (t : Token) (s : LS) (index : Nat) :
    CombPost P index s (parseHasCombinator P t s index) :=
  CombPost_ite (CombPost_ite ⟨.inl rfl, rfl⟩ ⟨rfl, rfl, rfl, rfl, rfl, rfl⟩)
    (CombPost_ite ⟨rfl, rfl, rfl, rfl, rfl, rfl⟩
      (CombPost_ite ⟨.inr rfl, rfl⟩ ⟨rfl, rfl, rfl, rfl, rfl, rfl⟩))

theorem parseCombinator_post (P : PEnv) (t : Token) (s : LS) (isPseudo isForgive : Bool) (index : Nat) :
    CombPost P index s (parseCombinator P t s isPseudo isForgive index) :=
  CombPost_ite (CombPost_ite ⟨.inl rfl, rfl⟩ ⟨rfl, rfl, rfl, rfl, rfl, rfl⟩)
    (CombPost_ite ⟨rfl, rfl, rfl, rfl, rfl, rfl⟩ ⟨rfl, rfl, rfl, rfl, rfl, rfl⟩)

end ParserProgress
end SoupVerif
