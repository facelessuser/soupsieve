/-
  C06 helpers: what a match of the regex-engine model guarantees about positions (`matchAt_le`, `matchAt_progress`,
  from the cost lemmas on `ends` / `nullable`).  The unfolding equations of the loop are in `Loop.lean`.
-/
import SoupVerif.Generated.Lexicon
import SoupVerif.Lemmas.ParserProgress.Loop
import SoupVerif.Lemmas.RegexCost.First
import SoupVerif.Lemmas.CssUnescape
namespace SoupVerif
namespace ParserProgress
open Rx SoupVerif.Parser

theorem matchAt_mem_ends {env : CharEnv} {r : Rx} {s : Str} {i j : Nat} {c : Caps}
    (h : matchAt env r s i = some (j, c)) : j ∈ ends env s r i := by
  unfold matchAt at h
  have hm : (j, c) ∈ runs env s r i [] := List.mem_of_mem_head? h
  rw [← runs_map_fst env s r i []]
  exact List.mem_map.mpr ⟨(j, c), hm, rfl⟩

theorem matchAt_le {env : CharEnv} {r : Rx} {s : Str} {i j : Nat} {c : Caps}
    (h : matchAt env r s i = some (j, c)) : i ≤ j ∧ (j = i ∨ j ≤ s.length) :=
  ends_endOK env s r i j (matchAt_mem_ends h)

theorem matchAt_le_length {env : CharEnv} {r : Rx} {s : Str} {i j : Nat} {c : Caps}
    (h : matchAt env r s i = some (j, c)) (hi : i ≤ s.length) : j ≤ s.length := by
  have := matchAt_le h; omega

theorem matchAt_progress {env : CharEnv} {r : Rx} {s : Str} {i j : Nat} {c : Caps}
    (hn : nullable r = false) (h : matchAt env r s i = some (j, c)) : i < j ∧ j ≤ s.length := by
  have h1 := nullable_sound env s r hn i j (matchAt_mem_ends h)
  have h2 := matchAt_le h
  omega

end ParserProgress
