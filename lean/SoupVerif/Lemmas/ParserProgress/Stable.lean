/-
  C06 helpers: the fuel argument.  Every run satisfies `SelPost` / `LoopPost` (`sel_post`, `loop_post`, read off
  `run_rules`); from `needSel` (resp. `needLoop`) on, one more unit of fuel changes nothing and the result is not
  `pyBug` (`stable_all`).  The second statement relates the runs at `f` and `f + 1`, so it is no instance of `Rules`
  and has an induction of its own, over the same classification of one iteration (`stepOf_spec`).
-/
import SoupVerif.Lemmas.ParserProgress.Rules
namespace SoupVerif
namespace ParserProgress
open Rx SoupVerif.Parser

section
variable (env : CharEnv) (L : Lexicon) (B : Builtins)

/-- Rules that ask nothing: `run_rules` then gives the post-conditions alone. -/
theorem noRules : Rules env L B ParseCost.unitWeight (fun _ _ _ _ _ _ _ => True) (fun _ _ _ _ => True) where
  selOut _ _ _ _ _ _ := trivial
  loopOut _ _ _ _ := trivial
  selErr _ _ _ _ _ _ _ _ _ _ := trivial
  selFin _ _ _ _ _ _ _ _ _ _ _ := trivial
  stop _ _ _ _ := trivial
  raise _ _ _ _ _ := trivial
  close _ _ _ _ _ _ _ _ _ := trivial
  cont _ _ _ _ _ _ _ _ _ _ _ := trivial
  nestErr _ _ _ _ _ _ _ _ _ _ _ := trivial
  nestOk _ _ _ _ _ _ _ _ _ _ _ _ _ _ _ _ _ _ _ _ := trivial
  customErr _ _ _ _ _ _ _ _ _ _ _ _ _ := trivial
  customOk _ _ _ _ _ _ _ _ _ _ _ _ _ _ _ _ _ _ _ _ _ _ _ := trivial

/-- At fuel `f`, for `parseSelectors`: from `needSel` on, one more unit of fuel changes nothing and the result is no
    `pyBug`. -/
def SelStable (f : Nat) : Prop :=
  ∀ (pattern : Str) (pos idx fl : Nat) (c : Custom), pos ≤ pattern.length → idx ≤ pattern.length →
    needSel pattern pos c ≤ f →
      parseSelectors env L B pattern (f + 1) pos idx fl c = parseSelectors env L B pattern f pos idx fl c ∧
      NoBugR (parseSelectors env L B pattern f pos idx fl c)

/-- … and for `parseLoop`, from `needLoop` on. -/
def LoopStable (f : Nat) : Prop :=
  ∀ (pattern : Str) (flags : Nat) (s : LS), s.pos ≤ pattern.length → s.index ≤ pattern.length →
    needLoop pattern s ≤ f →
      parseLoop env L B pattern (f + 1) flags s = parseLoop env L B pattern f flags s ∧
      NoBugR (parseLoop env L B pattern f flags s)

variable {env L B}

theorem sel_post (hL : LexOK L) (f : Nat) (pattern : Str) (pos idx fl : Nat) (c : Custom)
    (hp : pos ≤ pattern.length) (hi : idx ≤ pattern.length) :
    SelPost pattern pos c (parseSelectors env L B pattern f pos idx fl c) :=
  ((run_rules hL (noRules env L B) f).1 pattern pos idx fl c hp hi).1

theorem loop_post (hL : LexOK L) (f : Nat) (pattern : Str) (flags : Nat) (s : LS)
    (hp : s.pos ≤ pattern.length) (hi : s.index ≤ pattern.length) :
    LoopPost pattern s (parseLoop env L B pattern f flags s) :=
  ((run_rules hL (noRules env L B) f).2 pattern flags s hp hi).1

theorem selStable_succ (hL : LexOK L) {f : Nat} (hl : LoopStable env L B f) : SelStable env L B (f + 1) := by
  intro pattern pos idx fl c hp hi hneed
  have hneed' : needLoop pattern (initLS pos idx fl c) ≤ f := by
    unfold needSel at hneed; unfold needLoop; show 2 * (pattern.length - pos) + 1 + W c ≤ f; omega
  obtain ⟨heq, hnb⟩ := hl pattern fl (initLS pos idx fl c) hp hi hneed'
  rw [parseSelectors_succ, parseSelectors_succ, heq]
  refine ⟨rfl, ?_⟩
  intro e he
  have h1 := loop_post (env := env) (B := B) hL f pattern fl (initLS pos idx fl c) hp hi
  generalize parseLoop env L B pattern f fl (initLS pos idx fl c) = r at hnb he h1
  rcases r with e' | s'
  · cases he; exact hnb _ rfl
  · exact (finishSel_error h1.2.2.1 he).2.2

/-- `LoopStable (f + 1)` at `s`, said of the step the iteration takes (`parseLoop_succ`). -/
def StepStable (f : Nat) (pattern : Str) (flags : Nat) (s : LS) (st : Step) : Prop :=
  needLoop pattern s ≤ f + 1 →
    runStep (fun p => parseSelectors env L B p (f + 1)) (parseLoop env L B pattern (f + 1) flags) st =
      runStep (fun p => parseSelectors env L B p f) (parseLoop env L B pattern f flags) st ∧
    NoBugR (runStep (fun p => parseSelectors env L B p f) (parseLoop env L B pattern f flags) st)

theorem StepStable.nest (hL : LexOK L) {f : Nat} (hs : SelStable env L B f) (hl : LoopStable env L B f)
    {pattern : Str} {flags : Nat} {s : LS} {pat : Str} {pos idx fl : Nat} {c : Custom} {k : SelRes → LS}
    (hpos : pos ≤ pat.length) (hidx : idx ≤ pat.length) (hlt : needSel pat pos c < needLoop pattern s)
    (hk : ∀ l p' c', pos ≤ p' → p' ≤ pat.length → W c' ≤ W c →
      (k (l, p', c')).pos ≤ pattern.length ∧ (k (l, p', c')).index ≤ pattern.length ∧
      needLoop pattern (k (l, p', c')) < needLoop pattern s) :
    StepStable (env := env) (L := L) (B := B) f pattern flags s (.nest pat pos idx fl c k) := by
  intro hneed
  simp only [runStep]
  obtain ⟨heq, hnb⟩ := hs pat pos idx fl c hpos hidx (by omega)
  rw [heq]
  have hS1 := sel_post (env := env) (B := B) hL f pat pos idx fl c hpos hidx
  generalize parseSelectors env L B pat f pos idx fl c = r at hS1 hnb
  rcases r with e | ⟨l, p', c'⟩
  · exact ⟨rfl, .error (hnb _ rfl)⟩
  · obtain ⟨k1, k2, k5⟩ := hk l p' c' hS1.1 hS1.2.1 hS1.2.2
    exact hl pattern flags _ k1 k2 (by omega)

variable (env L B)

theorem loopStable_succ (hL : LexOK L) {f : Nat} (hs : SelStable env L B f) (hl : LoopStable env L B f) :
    LoopStable env L B (f + 1) := by
  intro pattern flags s hp hi
  rw [parseLoop_succ env L B pattern (f + 1), parseLoop_succ env L B pattern f]
  show StepStable (env := env) (L := L) (B := B) f pattern flags s _
  have hspec := stepOf_spec (env := env) (B := B) (flags := flags) hL hi
  generalize stepOf env L B pattern flags s = st at hspec ⊢
  rcases hspec with ⟨stop, hlt, hle, hok⟩ | rfl | ⟨e, rfl, he⟩
  · simp only [] at hle
    cases st with
    | done r =>
      cases r with
      | error e => exact fun _ => ⟨rfl, .error hok.2.2⟩
      | ok s' => exact fun _ => ⟨rfl, .ok s'⟩
    | cont s' =>
      obtain ⟨h1, h2, h3, _⟩ := hok
      have hw : W s'.custom ≤ W s.custom := Nat.le_of_eq (congrArg W h3)
      have := needLoop_lt (pattern := pattern) (s := s) (s' := s') (by omega) (by omega) hw
      exact fun hneed => hl pattern flags s' (by omega) (by omega) (by omega)
    | nest pat pos idx fl c k =>
      rcases hok with ⟨rfl, rfl, rfl, rfl, _, hk⟩ | ⟨pseudo, text, hget, rfl, rfl, rfl, rfl, hk⟩
      · -- nested list in the same pattern
        refine .nest hL hs hl hle hle (by unfold needSel needLoop; omega) fun l p' c' g1 g2 g3 => ?_
        obtain ⟨k1, k2, k3, _⟩ := hk (l, p', c')
        simp only [] at k1 k3
        have hw : W (k (l, p', c')).custom ≤ W s.custom := by rw [k3]; exact g3
        exact ⟨by omega, by omega, needLoop_lt (by omega) (by omega) hw⟩
      · -- expansion of a custom selector: its definition leaves the map, which pays for parsing it
        have hlen := nulFix_length text
        have hw := W_get_src s.custom pseudo text hget
        refine .nest hL hs hl (startIndex_le ⟨env, L, B, nulFix text⟩) (Nat.zero_le _)
          (by unfold needSel needLoop; omega) fun l p' c' g1 g2 g3 => ?_
        obtain ⟨k1, k2, k3, _⟩ := hk (l, p', c')
        simp only [] at k3
        have hw' : W (k (l, p', c')).custom ≤ W s.custom := by
          have := W_set_compiled c' pseudo l
          rw [k3]; omega
        exact ⟨by omega, by omega, needLoop_lt (by omega) (by omega) hw'⟩
  · exact fun _ => ⟨rfl, .ok s⟩
  · exact fun _ => ⟨rfl, .error he.2.2⟩

theorem stable_all (hL : LexOK L) : ∀ f, SelStable env L B f ∧ LoopStable env L B f
  | 0 => ⟨fun _ _ _ _ _ _ _ h => by unfold needSel at h; omega, fun _ _ _ _ _ h => by unfold needLoop at h; omega⟩
  | f + 1 =>
    have ih := stable_all hL f
    ⟨selStable_succ hL ih.2, loopStable_succ env L B hL ih.1 ih.2⟩

/-- From `needSel` on, `parseSelectors` does not depend on the fuel and does not report `pyBug`. -/
theorem sel_stable {env L B} (hL : LexOK L) {f : Nat} {pattern : Str} {pos idx : Nat} (fl : Nat) {c : Custom}
    (hp : pos ≤ pattern.length) (hi : idx ≤ pattern.length) (hf : needSel pattern pos c ≤ f) :
    parseSelectors env L B pattern (f + 1) pos idx fl c = parseSelectors env L B pattern f pos idx fl c ∧
      NoBugR (parseSelectors env L B pattern f pos idx fl c) :=
  (stable_all env L B hL f).1 pattern pos idx fl c hp hi hf

end

end ParserProgress
end SoupVerif
