/-
  C06 helpers: `process_custom` — its two errors, and the weight `W` of the map it
  builds (the custom-selector part of the fuel that `Parser.compile` allots).
-/
import SoupVerif.Lemmas.ParserProgress.Fuel
namespace SoupVerif
namespace ParserProgress
open Rx SoupVerif.Parser

def customKeys (c : Custom) : List Str := c.map (·.1)

theorem customKeys_map_replAt (c : Custom) (k : Str) (v : CustomVal) : customKeys (c.map (replAt k v)) = customKeys c := by
  induction c with
  | nil => rfl
  | cons e c ih =>
    simp only [customKeys, List.map_cons] at ih ⊢
    rw [ih]
    congr 1
    unfold replAt
    split
    · rename_i h; exact (eq_of_beq h).symm
    · rfl

theorem map_replAt_of_not_mem (c : Custom) (k : Str) (v : CustomVal) (h : k ∉ customKeys c) :
    c.map (replAt k v) = c := by
  refine (List.map_congr_left fun e he => ?_).trans (List.map_id c)
  unfold replAt
  rw [if_neg fun hk => h (List.mem_map.mpr ⟨e, he, eq_of_beq hk⟩)]
  rfl

theorem W_map_replAt_le (c : Custom) (k : Str) (v : CustomVal) (hn : (customKeys c).Nodup) :
    W (c.map (replAt k v)) ≤ W c + cvWeight v := by
  induction c with
  | nil => simp [W]
  | cons e c ih =>
    simp only [customKeys, List.map_cons, List.nodup_cons] at hn
    by_cases hk : (e.1 == k) = true
    · have hek : e.1 = k := eq_of_beq hk
      rw [List.map_cons, map_replAt_of_not_mem c k v (by rw [← hek]; exact hn.1)]
      simp only [replAt, hk, if_true, W]
      omega
    · have hk' : (e.1 == k) = false := by simpa using hk
      have := ih hn.2
      simp only [List.map_cons, replAt, hk', Bool.false_eq_true, if_false, W] at this ⊢
      omega

theorem W_set_le (c : Custom) (k : Str) (v : CustomVal) (hn : (customKeys c).Nodup) :
    W (c.set k v) ≤ W c + cvWeight v := by
  rw [Custom.set_eq]
  split
  · exact W_map_replAt_le c k v hn
  · rw [W_append]; simp [W]

theorem customKeys_set_nodup (c : Custom) (k : Str) (v : CustomVal) (hn : (customKeys c).Nodup) :
    (customKeys (c.set k v)).Nodup := by
  rw [Custom.set_eq]
  split
  · rw [customKeys_map_replAt]; exact hn
  · rename_i h
    simp only [customKeys, List.map_append, List.map_cons, List.map_nil]
    rw [List.nodup_append]
    refine ⟨hn, List.pairwise_singleton _ _, ?_⟩
    intro a ha b hb
    simp only [List.mem_singleton] at hb
    subst hb
    rintro rfl
    apply h
    obtain ⟨e, he, rfl⟩ := List.mem_map.mp ha
    exact List.any_eq_true.mpr ⟨e, he, by simp⟩

/-- Total length budget of the definitions: `Σ (2·|definition| + 2)`. -/
def defWeight (custom : List (Str × Str)) : Nat := (custom.map fun e => 2 * e.2.length + 2).sum

/-- One step of the `for key, value in custom.items()` loop. -/
def customStep (env : CharEnv) (L : Lexicon) (acc : Custom) (kv : Str × Str) : M Custom :=
  let name := lower kv.1
  if !(Rx.isMatch env L.reCustom name) then .error { kind := .badCustomName, pattern := [], offset := 0 }
  else
    let key := lower (cssUnescape env L name)
    if acc.any (fun e => e.1 == key) then .error { kind := .customCollision, pattern := [], offset := 0 }
    else .ok (acc.set key (.src kv.2))

theorem processCustom_eq (env : CharEnv) (L : Lexicon) (custom : List (Str × Str)) :
    processCustom env L custom = custom.foldlM (customStep env L) [] := rfl

theorem customStep_error {env : CharEnv} {L : Lexicon} {acc : Custom} {kv : Str × Str} {e : Err}
    (h : customStep env L acc kv = .error e) :
    (e.kind = .badCustomName ∨ e.kind = .customCollision) ∧ e.pattern = [] ∧ e.offset = 0 := by
  unfold customStep at h
  simp only [] at h
  split at h
  · cases h; exact ⟨Or.inl rfl, rfl, rfl⟩
  · split at h
    · cases h; exact ⟨Or.inr rfl, rfl, rfl⟩
    · cases h

theorem customStep_ok {env : CharEnv} {L : Lexicon} {acc acc' : Custom} {kv : Str × Str}
    (hn : (customKeys acc).Nodup) (h : customStep env L acc kv = .ok acc') :
    W acc' ≤ W acc + (2 * kv.2.length + 2) ∧ (customKeys acc').Nodup := by
  unfold customStep at h
  simp only [] at h
  split at h
  · cases h
  · split at h
    · cases h
    · cases h
      exact ⟨W_set_le acc _ (.src kv.2) hn, customKeys_set_nodup acc _ _ hn⟩

theorem foldlM_customStep (env : CharEnv) (L : Lexicon) :
    ∀ (custom : List (Str × Str)) (acc : Custom), (customKeys acc).Nodup →
      match custom.foldlM (customStep env L) acc with
      | .error e => (e.kind = .badCustomName ∨ e.kind = .customCollision) ∧ e.pattern = [] ∧ e.offset = 0
      | .ok c => W c ≤ W acc + defWeight custom ∧ (customKeys c).Nodup
  | [], acc, hn => by
    simp only [List.foldlM_nil, defWeight, List.map_nil, List.sum_nil]
    exact ⟨Nat.le_refl _, hn⟩
  | kv :: rest, acc, hn => by
    rw [List.foldlM_cons]
    generalize hstep : customStep env L acc kv = r
    rcases r with e | acc'
    · exact customStep_error hstep
    · obtain ⟨hw, hn'⟩ := customStep_ok hn hstep
      have ih := foldlM_customStep env L rest acc' hn'
      show match (List.foldlM (customStep env L) acc' rest) with | .error e => _ | .ok c => _
      generalize List.foldlM (customStep env L) acc' rest = r at ih ⊢
      rcases r with e | c
      · exact ih
      · refine ⟨?_, ih.2⟩
        have := ih.1
        simp only [defWeight, List.map_cons, List.sum_cons] at this ⊢
        omega

theorem processCustom_error {env : CharEnv} {L : Lexicon} {custom : List (Str × Str)} {e : Err}
    (h : processCustom env L custom = .error e) :
    (e.kind = .badCustomName ∨ e.kind = .customCollision) ∧ e.pattern = [] ∧ e.offset = 0 := by
  have := foldlM_customStep env L custom [] List.nodup_nil
  rw [← processCustom_eq, h] at this
  exact this

theorem processCustom_ok {env : CharEnv} {L : Lexicon} {custom : List (Str × Str)} {c : Custom}
    (h : processCustom env L custom = .ok c) : W c ≤ defWeight custom := by
  have := foldlM_customStep env L custom [] List.nodup_nil
  rw [← processCustom_eq, h] at this
  simpa [W] using this.1

theorem foldl_len (custom : List (Str × Str)) : ∀ a : Nat,
    2 * custom.foldl (fun n e => n + e.2.length + 2) a = 2 * a + defWeight custom + 2 * custom.length := by
  induction custom with
  | nil => intro a; simp [defWeight]
  | cons e rest ih =>
    intro a
    have := ih (a + e.2.length + 2)
    simp only [List.foldl_cons, defWeight, List.map_cons, List.sum_cons, List.length_cons] at this ⊢
    omega

theorem defWeight_le_allotted (custom : List (Str × Str)) :
    defWeight custom ≤ 4 * custom.foldl (fun n e => n + e.2.length + 2) 0 := by
  have := foldl_len custom 0
  omega

end ParserProgress
end SoupVerif
