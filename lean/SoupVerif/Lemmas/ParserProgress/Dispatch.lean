/-
  One iteration of the parser loop in TABLE form (about the model only; no Mathlib): on a token named `k` the loop
  performs `runAction (modelAction k)` (`Model/ParseDispatch.lean`).  `stepOf` / `parseLoop` are one long chain of
  tests on the token name; `modelAction` names the branch and `runAction` / `runCall` give its meaning, so a fact about
  one kind of token is read off `parseLoop_token`, the action of its key (`modelAction_keys`) and, for a
  handler call, the equation of the handler (`runCall_*`, `runAction_combine`), without walking the chain again.
  The other two outcomes of the tokenizer — end of input, an error — are `parseLoop_of_none` / `parseLoop_of_error`.
-/
import SoupVerif.Model.ParseDispatch
import SoupVerif.Lemmas.ParserProgress.Loop
namespace SoupVerif
namespace ParseDisp
open Rx SoupVerif.Parser SoupVerif.ParserProgress

theorem ite_eq_runAction {env : CharEnv} {L : Lexicon} {B : Builtins} {pattern : Str} {flags : Nat} {s : LS}
    {t : Token} {c : Prop} [Decidable c] {x y : Step} {a b : Option Action}
    (hx : c → x = runAction env L B pattern flags s t a) (hy : ¬c → y = runAction env L B pattern flags s t b) :
    (if c then x else y) = runAction env L B pattern flags s t (if c then a else b) := by
  split
  · exact hx ‹_›
  · exact hy ‹_›

/-- The `combine` branch with the two calls the loop makes: the handler the flags choose, then `index = m.end(0)`. -/
theorem runAction_combine (env : CharEnv) (L : Lexicon) (B : Builtins) (pattern : Str) (flags : Nat) (s : LS) (t : Token) :
    runAction env L B pattern flags s t
        (some (.combine ("parse_has_combinator", ["selectors", "rel_type", "index"], ["has_selector", "sel", "rel_type"])
          ("parse_combinator", ["selectors", "relations", "is_pseudo", "is_forgive", "index"], ["has_selector", "sel"]))) =
      match (if ((flags &&& FLG_RELATIVE) != 0) = true then parseHasCombinator ⟨env, L, B, pattern⟩ t s s.index
             else parseCombinator ⟨env, L, B, pattern⟩ t s ((flags &&& FLG_PSEUDO) != 0)
               ((flags &&& FLG_FORGIVE) != 0) s.index) with
      | .error e => .done (.error e)
      | .ok s' => .cont { s' with index := t.stop } := by
  simp only [runAction, runCombinator]
  by_cases hr : ((flags &&& FLG_RELATIVE) != 0) = true
  · simp only [hr, if_true, Bool.true_and, beq_self_eq_true]
    generalize parseHasCombinator _ _ _ _ = r
    rcases r with e | s' <;> rfl
  · simp only [hr, if_false, Bool.false_and, Bool.not_false, Bool.true_and, beq_self_eq_true, Bool.false_eq_true, if_true]
    generalize parseCombinator _ _ _ _ _ _ = r
    rcases r with e | s' <;> rfl

/-- The model's step function factors through the dispatch table: one loop iteration is the meaning
    (`runAction`) of the action `modelAction` names for the token's key. -/
theorem stepOf_eq_runAction (env : CharEnv) (L : Lexicon) (B : Builtins) (pattern : Str) (flags : Nat) (s : LS) :
    stepOf env L B pattern flags s =
      match nextToken ⟨env, L, B, pattern⟩ s.pos with
      | .error e => .done (.error e)
      | .ok none => .done (.ok s)
      | .ok (some t) => runAction env L B pattern flags { s with pos := t.stop } t (modelAction t.name) := by
  unfold stepOf
  simp only []
  generalize nextToken ⟨env, L, B, pattern⟩ s.pos = nt
  rcases nt with e | (_ | t)
  · rfl
  · rfl
  · simp only [modelAction]
    -- `at_rule` and `pseudo_element` raise the same exception; `notImplementedKind` tells them apart by the key
    refine ite_eq_runAction (fun h => ?_) fun h1 => ?_
    · simp only [runAction, notImplementedKind, h, if_true, Offset.eval]
    refine ite_eq_runAction (fun _ => rfl) fun _ => ?_
    refine ite_eq_runAction (fun _ => rfl) fun _ => ?_
    refine ite_eq_runAction (fun _ => rfl) fun _ => ?_
    refine ite_eq_runAction (fun _ => ?_) fun _ => ?_
    · simp only [runAction, notImplementedKind, h1, Bool.false_eq_true, if_false, Offset.eval]
    refine ite_eq_runAction (fun _ => rfl) fun _ => ?_
    refine ite_eq_runAction (fun _ => rfl) fun _ => ?_
    refine ite_eq_runAction (fun _ => rfl) fun _ => ?_
    refine ite_eq_runAction (fun _ => rfl) fun _ => ?_
    refine ite_eq_runAction (fun _ => rfl) fun _ => ?_
    refine ite_eq_runAction (fun _ => ?_) fun _ => ?_
    · exact (runAction_combine ..).symm
    refine ite_eq_runAction (fun _ => rfl) fun _ => ?_
    refine ite_eq_runAction (fun _ => rfl) fun _ => ?_
    exact ite_eq_runAction (fun _ => rfl) fun _ => rfl

/-- One turn of the loop on a token: the branch `modelAction` names for its key, then the recursive calls. -/
theorem parseLoop_token (env : CharEnv) (L : Lexicon) (B : Builtins) (pattern : Str) (fuel flags : Nat) (st : LS)
    (t : Token) (h : nextToken ⟨env, L, B, pattern⟩ st.pos = .ok (some t)) :
    parseLoop env L B pattern (fuel + 1) flags st =
      runStep (fun p => parseSelectors env L B p fuel) (parseLoop env L B pattern fuel flags)
        (runAction env L B pattern flags { st with pos := t.stop } t (modelAction t.name)) := by
  rw [parseLoop_succ, stepOf_eq_runAction, h]

/-- … at the end of input (`StopIteration`), with any fuel: the loop returns its state. -/
theorem parseLoop_of_none (env : CharEnv) (L : Lexicon) (B : Builtins) (pattern : Str) (fuel flags : Nat) (st : LS)
    (h : nextToken ⟨env, L, B, pattern⟩ st.pos = .ok none) : parseLoop env L B pattern fuel flags st = .ok st := by
  cases fuel with
  | zero => rw [parseLoop]
  | succ fuel => rw [parseLoop_succ, stepOf_eq_runAction, h]; rfl

theorem parseLoop_of_error (env : CharEnv) (L : Lexicon) (B : Builtins) (pattern : Str) (fuel flags : Nat) (st : LS)
    {e : Err} (h : nextToken ⟨env, L, B, pattern⟩ st.pos = .error e) :
    parseLoop env L B pattern (fuel + 1) flags st = .error e := by
  rw [parseLoop_succ, stepOf_eq_runAction, h]; rfl

theorem modelAction_keys :
    modelAction "at_rule" = some (.raiseNotImplemented .mStart) ∧
    modelAction "amp" = some (.setScope SEL_SCOPE) ∧
    modelAction "pseudo_class_custom" = some (.callHandler "parse_pseudo_class_custom" [] ["has_selector"]) ∧
    modelAction "pseudo_class" =
      some (.callHandler "parse_pseudo_class" ["iselector", "is_html"] ["has_selector", "is_html"]) ∧
    modelAction "pseudo_element" = some (.raiseNotImplemented .mStart) ∧
    modelAction "pseudo_contains" = some (.callHandler "parse_pseudo_contains" [] ["has_selector"]) ∧
    modelAction "pseudo_nth_type" = some (.callHandler "parse_pseudo_nth" ["iselector"] ["has_selector"]) ∧
    modelAction "pseudo_nth_child" = some (.callHandler "parse_pseudo_nth" ["iselector"] ["has_selector"]) ∧
    modelAction "pseudo_lang" = some (.callHandler "parse_pseudo_lang" [] ["has_selector"]) ∧
    modelAction "pseudo_dir" = some (.callHandler "parse_pseudo_dir" [] ["has_selector"]) ∧
    modelAction "pseudo_close" = some (.pseudoClose .mStart .mStart) ∧
    modelAction "combine" =
      some (.combine ("parse_has_combinator", ["selectors", "rel_type", "index"], ["has_selector", "sel", "rel_type"])
        ("parse_combinator", ["selectors", "relations", "is_pseudo", "is_forgive", "index"], ["has_selector", "sel"])) ∧
    modelAction "attribute" = some (.callHandler "parse_attribute_selector" [] ["has_selector"]) ∧
    modelAction "tag" = some (.tagGuarded .mStart ("parse_tag_pattern", [], ["has_selector"])) ∧
    modelAction "class" = some (.callHandler "parse_class_id" [] ["has_selector"]) ∧
    modelAction "id" = some (.callHandler "parse_class_id" [] ["has_selector"]) := by
  decide +kernel


variable (env : CharEnv) (L : Lexicon) (B : Builtins) (pattern : Str) (flags : Nat) (s : LS) (t : Token)

theorem runCall_custom :
    runCall env L B pattern s t ("parse_pseudo_class_custom", [], ["has_selector"]) =
      (let P : PEnv := ⟨env, L, B, pattern⟩
       let pseudo := lower (cssUnescape env L ((t.group P "name").getD []))
       match s.custom.get? pseudo with
       | none => .done (.error (P.err .undefinedCustom t.stop))
       | some (.compiled l) => .cont { s with sel := s.sel.addSub l, hasSelector := true, index := t.stop }
       | some (.src text) =>
         let pat2 := text.map (fun c => if c == 0 then 0xFFFD else c)
         .nest pat2 (startIndex ⟨env, L, B, pat2⟩) 0 FLG_PSEUDO (s.custom.erase pseudo) fun (l, _, custom'') =>
           { s with sel := s.sel.addSub l, hasSelector := true, custom := custom''.set pseudo (.compiled l),
                    index := t.stop }) := by
  unfold runCall
  rw [if_pos (by simp)]
  rfl

theorem runCall_pseudo_class :
    runCall env L B pattern s t ("parse_pseudo_class", ["iselector", "is_html"], ["has_selector", "is_html"]) =
      (let P : PEnv := ⟨env, L, B, pattern⟩
       let pseudo := lower (cssUnescape env L ((t.group P "name").getD []))
       let complex := match t.group P "open" with
         | some o => !o.isEmpty
         | none => false
       if complex && inList L.pseudoComplex pseudo then
         let fl := FLG_PSEUDO ||| FLG_OPEN |||
           (if pseudo == ":not".toStr then FLG_NOT
            else if pseudo == ":has".toStr then FLG_RELATIVE
            else if pseudo == ":where".toStr || pseudo == ":is".toStr then FLG_FORGIVE else 0)
         .nest pattern t.stop t.stop fl s.custom fun (l, pos', custom') =>
           { s with sel := s.sel.addSub l, hasSelector := true, pos := pos', custom := custom', index := t.stop }
       else if !complex && inList L.pseudoSimple pseudo then
         .cont { s with sel := applySimplePseudo P pseudo s.sel, hasSelector := true, index := t.stop }
       else if complex && inList L.pseudoComplexNoMatch pseudo then
         .nest pattern t.stop t.stop (FLG_PSEUDO ||| FLG_OPEN) s.custom fun (_, pos', custom') =>
           { s with sel := s.sel.setNoMatch, hasSelector := true, pos := pos', custom := custom', index := t.stop }
       else if !complex && inList L.pseudoSimpleNoMatch pseudo then
         .cont { s with sel := s.sel.setNoMatch, hasSelector := true, index := t.stop }
       else if inList L.pseudoSupported pseudo then .done (.error (P.err .invalidPseudoSyntax t.start))
       else .done (.error (P.err .unknownPseudo t.start))) := by
  unfold runCall
  rw [if_neg (by simp), if_pos (by simp)]
  rfl

theorem runCall_contains :
    runCall env L B pattern s t ("parse_pseudo_contains", [], ["has_selector"]) =
      .cont { s with
        sel := s.sel.addContains
          ⟨parseValues ⟨env, L, B, pattern⟩ ((t.group ⟨env, L, B, pattern⟩ "values").getD []),
           lower (cssUnescape env L ((t.group ⟨env, L, B, pattern⟩ "name").getD [])) == ":-soup-contains-own".toStr⟩,
        hasSelector := true, index := t.stop } := by
  simp [runCall]

theorem runCall_nth :
    runCall env L B pattern s t ("parse_pseudo_nth", ["iselector"], ["has_selector"]) =
      (let P : PEnv := ⟨env, L, B, pattern⟩
       let isChild := match t.group P "pseudo_nth_child" with
         | some g => !g.isEmpty
         | none => false
       let name := lower (cssUnescape env L ((t.group P "name").getD []))
       let anb := parseAnB P (lower ((t.group P (if isChild then "nth_child" else "nth_type")).getD []))
       if isChild then
         let ofPresent := match t.group P "of" with
           | some g => !g.isEmpty
           | none => false
         let k : SelRes → LS := fun (nthSel, pos', custom') =>
           let sel :=
             if name == ":nth-child".toStr then s.sel.addNth [nthOf anb.1 anb.2.1 anb.2.2 false false nthSel]
             else if name == ":nth-last-child".toStr then s.sel.addNth [nthOf anb.1 anb.2.1 anb.2.2 false true nthSel]
             else s.sel
           { s with sel := sel, hasSelector := true, pos := pos', custom := custom', index := t.stop }
         if ofPresent then .nest pattern t.stop t.stop (FLG_PSEUDO ||| FLG_OPEN) s.custom k
         else .cont (k (B.nthOfSDefault, s.pos, s.custom))
       else
         let e := SelList.mk [] false false
         let sel :=
           if name == ":nth-of-type".toStr then s.sel.addNth [nthOf anb.1 anb.2.1 anb.2.2 true false e]
           else if name == ":nth-last-of-type".toStr then s.sel.addNth [nthOf anb.1 anb.2.1 anb.2.2 true true e]
           else s.sel
         .cont { s with sel := sel, hasSelector := true, index := t.stop }) := by
  unfold runCall
  rw [if_neg (by simp), if_neg (by simp), if_neg (by simp), if_pos (by simp)]
  rfl

theorem runCall_lang :
    runCall env L B pattern s t ("parse_pseudo_lang", [], ["has_selector"]) =
      .cont { s with
        sel := s.sel.addLang ⟨parseValues ⟨env, L, B, pattern⟩ ((t.group ⟨env, L, B, pattern⟩ "values").getD [])⟩,
        hasSelector := true, index := t.stop } := by
  simp [runCall]

theorem runCall_dir :
    runCall env L B pattern s t ("parse_pseudo_dir", [], ["has_selector"]) =
      .cont { s with
        sel := s.sel.addSub (.mk [(SelB.empty.setFlags
          (if lower ((t.group ⟨env, L, B, pattern⟩ "dir").getD []) == "ltr".toStr then SEL_DIR_LTR
           else SEL_DIR_RTL)).freeze] false true),
        hasSelector := true, index := t.stop } := by
  simp [runCall]

theorem runCall_attribute :
    runCall env L B pattern s t ("parse_attribute_selector", [], ["has_selector"]) =
      .cont { s with sel := parseAttribute ⟨env, L, B, pattern⟩ t s.sel, hasSelector := true, index := t.stop } := by
  simp [runCall]

theorem runCall_tag :
    runCall env L B pattern s t ("parse_tag_pattern", [], ["has_selector"]) =
      .cont { s with
        sel := s.sel.setTag
          ⟨cssUnescape env L ((t.group ⟨env, L, B, pattern⟩ "tag_name").getD []),
           match t.group ⟨env, L, B, pattern⟩ "tag_ns" with
           | some n => if n.isEmpty then none else some (cssUnescape env L (n.take (n.length - 1)))
           | none => none⟩,
        hasSelector := true, index := t.stop } := by
  unfold runCall
  rw [if_neg (by simp), if_neg (by simp), if_neg (by simp), if_neg (by simp), if_neg (by simp), if_neg (by simp),
    if_neg (by simp), if_pos (by simp)]
  rfl

theorem runCall_class_id :
    runCall env L B pattern s t ("parse_class_id", [], ["has_selector"]) =
      .cont { s with
        sel := (if (slice pattern t.start t.stop).head? == some 46
          then s.sel.addClass (cssUnescape env L ((slice pattern t.start t.stop).drop 1))
          else s.sel.addId (cssUnescape env L ((slice pattern t.start t.stop).drop 1))),
        hasSelector := true, index := t.stop } := by
  simp [runCall]

end ParseDisp
end SoupVerif
