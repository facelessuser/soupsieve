/-
  Rule induction for the parser's recursion.

  `parseSelectors` and `parseLoop` call each other on fuel.  `selRun` / `loopRun` of `Spec/ParseCost.lean` are the same
  recursion returning, beside the model's result (`run_fst`), the weight of the iterations executed, for any
  per-iteration weight.  `run_rules` is the induction over that recursion, for results and weights at once: a pair of
  predicates that the rules of `Rules` preserve holds of every run, for every fuel.  The rules are the cases of one
  iteration as `stepOf_spec` classifies it (end of input, an error, `)`, a plain token, a nested list, the definition
  of a custom selector) and carry what `StepOK` says about position, index, custom map and `closed`, and the basic
  post-condition (`SelPost` / `LoopPost`) of the run inside, which the induction proves on the way.  A statement
  about all runs is an instance of `Rules`: what each rule means for it.
-/
import SoupVerif.Spec.ParseCost
import SoupVerif.Lemmas.ParserProgress.Fuel
set_option autoImplicit false
namespace SoupVerif
namespace ParseCost
open Rx SoupVerif.Parser ParserProgress

theorem selRun_zero (w : Weight) (env : CharEnv) (L : Lexicon) (B : Builtins) (pattern : Str)
    (pos idx fl : Nat) (c : Custom) :
    selRun w env L B pattern 0 pos idx fl c =
      (.error { kind := .pyBug "RecursionError", pattern := pattern, offset := 0 }, 0) := by
  rw [selRun]

theorem selRun_succ (w : Weight) (env : CharEnv) (L : Lexicon) (B : Builtins) (pattern : Str)
    (fuel pos idx fl : Nat) (c : Custom) :
    selRun w env L B pattern (fuel + 1) pos idx fl c =
      match (loopRun w env L B pattern fuel fl (initLS pos idx fl c)).1 with
      | .error e => (.error e, (loopRun w env L B pattern fuel fl (initLS pos idx fl c)).2)
      | .ok s => (finishSel env L B pattern fl s, (loopRun w env L B pattern fuel fl (initLS pos idx fl c)).2) := by
  rw [selRun]; rfl

theorem loopRun_zero (w : Weight) (env : CharEnv) (L : Lexicon) (B : Builtins) (pattern : Str)
    (flags : Nat) (s : LS) : loopRun w env L B pattern 0 flags s = (.ok s, 0) := by
  rw [loopRun]

theorem loopRun_succ (w : Weight) (env : CharEnv) (L : Lexicon) (B : Builtins) (pattern : Str)
    (fuel flags : Nat) (s : LS) :
    loopRun w env L B pattern (fuel + 1) flags s =
      match stepOf env L B pattern flags s with
      | .done r => (r, w pattern s)
      | .cont s' =>
        ((loopRun w env L B pattern fuel flags s').1, w pattern s + (loopRun w env L B pattern fuel flags s').2)
      | .nest pat pos idx fl c k =>
        match (selRun w env L B pat fuel pos idx fl c).1 with
        | .error e => (.error e, w pattern s + (selRun w env L B pat fuel pos idx fl c).2)
        | .ok x =>
          ((loopRun w env L B pattern fuel flags (k x)).1,
            w pattern s + (selRun w env L B pat fuel pos idx fl c).2 +
              (loopRun w env L B pattern fuel flags (k x)).2) := by
  rw [loopRun]; rfl

theorem run_fst (w : Weight) (env : CharEnv) (L : Lexicon) (B : Builtins) : ∀ fuel : Nat,
    (∀ pattern pos idx fl c,
      (selRun w env L B pattern fuel pos idx fl c).1 = parseSelectors env L B pattern fuel pos idx fl c) ∧
    (∀ pattern flags s,
      (loopRun w env L B pattern fuel flags s).1 = parseLoop env L B pattern fuel flags s)
  | 0 => by
    refine ⟨fun pattern pos idx fl c => ?_, fun pattern flags s => ?_⟩
    · rw [selRun_zero, parseSelectors]
    · rw [loopRun_zero, parseLoop]
  | fuel + 1 => by
    obtain ⟨ihS, ihL⟩ := run_fst w env L B fuel
    refine ⟨fun pattern pos idx fl c => ?_, fun pattern flags s => ?_⟩
    · rw [selRun_succ, parseSelectors_succ, ihL]
      cases parseLoop env L B pattern fuel fl (initLS pos idx fl c) <;> rfl
    · rw [loopRun_succ, parseLoop_succ]
      cases stepOf env L B pattern flags s with
      | done r => rfl
      | cont s' => exact ihL pattern flags s'
      | nest pat pos idx fl c k =>
        simp only [runStep]
        rw [ihS]
        cases parseSelectors env L B pat fuel pos idx fl c with
        | error e => rfl
        | ok x => exact ihL pattern flags (k x)

theorem selRun_fst (w : Weight) (env : CharEnv) (L : Lexicon) (B : Builtins) (pattern : Str)
    (fuel pos idx fl : Nat) (c : Custom) :
    (selRun w env L B pattern fuel pos idx fl c).1 = parseSelectors env L B pattern fuel pos idx fl c :=
  (run_fst w env L B fuel).1 pattern pos idx fl c

theorem loopRun_fst (w : Weight) (env : CharEnv) (L : Lexicon) (B : Builtins) (pattern : Str)
    (fuel flags : Nat) (s : LS) :
    (loopRun w env L B pattern fuel flags s).1 = parseLoop env L B pattern fuel flags s :=
  (run_fst w env L B fuel).2 pattern flags s

end ParseCost

namespace ParserProgress
open Rx SoupVerif.Parser ParseCost

/-- The predicates `PS` (runs of `parseSelectors`: pattern, position, index, flags, custom map, result, weight)
    and `PL` (runs of `parseLoop`: pattern, state, result, weight) are preserved by every rule of the recursion;
    `w` is the weight of one iteration. -/
structure Rules (env : CharEnv) (L : Lexicon) (B : Builtins) (w : Weight)
    (PS : Str → Nat → Nat → Nat → Custom → M SelRes → Nat → Prop)
    (PL : Str → LS → M LS → Nat → Prop) : Prop where
  /-- no fuel: `parseSelectors` reports it -/
  selOut : ∀ pattern pos idx fl c, pos ≤ pattern.length → PS pattern pos idx fl c
    (.error { kind := .pyBug "RecursionError", pattern := pattern, offset := 0 }) 0
  /-- no fuel: `parseLoop` returns its state -/
  loopOut : ∀ pattern s, s.pos ≤ pattern.length → s.index ≤ pattern.length → PL pattern s (.ok s) 0
  /-- `parseSelectors` passes on an error of its loop -/
  selErr : ∀ pattern pos idx fl c e n, pos ≤ pattern.length → idx ≤ pattern.length →
    PL pattern (initLS pos idx fl c) (.error e) n → PS pattern pos idx fl c (.error e) n
  /-- … and hands the state its loop ends in to `finishSel` -/
  selFin : ∀ pattern pos idx fl c s' n, pos ≤ pattern.length → idx ≤ pattern.length →
    LoopPost pattern (initLS pos idx fl c) (.ok s') → PL pattern (initLS pos idx fl c) (.ok s') n →
    PS pattern pos idx fl c (finishSel env L B pattern fl s') n
  /-- end of input -/
  stop : ∀ pattern s, s.pos ≤ pattern.length → s.index ≤ pattern.length → PL pattern s (.ok s) (w pattern s)
  /-- an error of the tokenizer or of a handler -/
  raise : ∀ pattern s e, s.pos ≤ pattern.length → ErrHere ⟨env, L, B, pattern⟩ e →
    PL pattern s (.error e) (w pattern s)
  /-- `)` -/
  close : ∀ pattern s s', s.index ≤ pattern.length → s.pos < s'.pos → s'.pos ≤ pattern.length →
    s'.index = s.index → s'.custom = s.custom → s'.closed = true → PL pattern s (.ok s') (w pattern s)
  /-- a token handled without a nested call: the loop goes on from `s'` -/
  cont : ∀ pattern s s' r n, s.pos < s'.pos → s'.pos ≤ pattern.length → s'.index = s'.pos →
    s'.custom = s.custom → s'.closed = s.closed → PL pattern s' r n → PL pattern s r (w pattern s + n)
  /-- a nested list in the same pattern, opened at `stop`, fails -/
  nestErr : ∀ pattern s stop fl e n1, s.pos < stop → stop ≤ pattern.length → isOpen fl = true → ErrOK e →
    PS pattern stop stop fl s.custom (.error e) n1 → PL pattern s (.error e) (w pattern s + n1)
  /-- … or returns `(l, p', c')`, and the loop goes on from `s'` at `p'` with the map `c'` -/
  nestOk : ∀ pattern s stop fl l p' c' n1 s' r n2, s.pos < stop → isOpen fl = true →
    SelPost pattern stop s.custom (.ok (l, p', c')) →
    s'.pos = p' → s'.index = stop → s'.custom = c' → s'.closed = s.closed →
    PS pattern stop stop fl s.custom (.ok (l, p', c')) n1 → PL pattern s' r n2 →
    PL pattern s r (w pattern s + n1 + n2)
  /-- the definition `text` of the custom selector `pseudo`, parsed with the entry taken out of the map, fails -/
  customErr : ∀ pattern s stop pseudo text fl e n1, s.pos < stop → stop ≤ pattern.length →
    s.custom.get? pseudo = some (.src text) → ErrOK e →
    PS (nulFix text) (startIndex ⟨env, L, B, nulFix text⟩) 0 fl (s.custom.erase pseudo) (.error e) n1 →
    PL pattern s (.error e) (w pattern s + n1)
  /-- … or returns `(l, _, c')`, and the loop goes on from `s'` behind the token with `l` stored for `pseudo` -/
  customOk : ∀ pattern s stop pseudo text fl l p' c' n1 s' r n2, s.pos < stop → stop ≤ pattern.length →
    s.custom.get? pseudo = some (.src text) →
    SelPost (nulFix text) (startIndex ⟨env, L, B, nulFix text⟩) (s.custom.erase pseudo) (.ok (l, p', c')) →
    s'.pos = stop → s'.index = stop → s'.custom = c'.set pseudo (.compiled l) → s'.closed = s.closed →
    PS (nulFix text) (startIndex ⟨env, L, B, nulFix text⟩) 0 fl (s.custom.erase pseudo) (.ok (l, p', c')) n1 →
    PL pattern s' r n2 → PL pattern s r (w pattern s + n1 + n2)

variable {env : CharEnv} {L : Lexicon} {B : Builtins} {w : Weight}
  {PS : Str → Nat → Nat → Nat → Custom → M SelRes → Nat → Prop} {PL : Str → LS → M LS → Nat → Prop}

/-- Every run satisfies the basic post-condition (`SelPost` / `LoopPost`: errors inside their pattern, positions only
    advance, the custom map only gets lighter) and whatever the rules preserve. -/
theorem run_rules (hL : LexOK L) (R : Rules env L B w PS PL) : ∀ f : Nat,
    (∀ pattern pos idx fl c, pos ≤ pattern.length → idx ≤ pattern.length →
      SelPost pattern pos c (parseSelectors env L B pattern f pos idx fl c) ∧
      PS pattern pos idx fl c (parseSelectors env L B pattern f pos idx fl c)
        (selRun w env L B pattern f pos idx fl c).2) ∧
    (∀ pattern flags s, s.pos ≤ pattern.length → s.index ≤ pattern.length →
      LoopPost pattern s (parseLoop env L B pattern f flags s) ∧
      PL pattern s (parseLoop env L B pattern f flags s) (loopRun w env L B pattern f flags s).2)
  | 0 => by
    refine ⟨fun pattern pos idx fl c hp _ => ?_, fun pattern flags s hp hi => ?_⟩
    · rw [selRun_zero, parseSelectors]; exact ⟨Nat.zero_le _, R.selOut _ _ _ _ _ hp⟩
    · rw [loopRun_zero, parseLoop]; exact ⟨⟨Nat.le_refl _, hp, hi, Nat.le_refl _⟩, R.loopOut _ _ hp hi⟩
  | f + 1 => by
    obtain ⟨ihS, ihL⟩ := run_rules hL R f
    refine ⟨fun pattern pos idx fl c hp hi => ?_, fun pattern flags s hp hi => ?_⟩
    · obtain ⟨hpost, hpl⟩ := ihL pattern fl (initLS pos idx fl c) hp hi
      rw [selRun_succ, parseSelectors_succ, loopRun_fst]
      cases hr : parseLoop env L B pattern f fl (initLS pos idx fl c) with
      | error e => rw [hr] at hpl hpost; exact ⟨hpost, R.selErr _ _ _ _ _ _ _ hp hi hpl⟩
      | ok s' =>
        rw [hr] at hpl hpost
        refine ⟨?_, R.selFin _ _ _ _ _ _ _ hp hi hpost hpl⟩
        obtain ⟨h2, h3, h4, h5⟩ := hpost
        show SelPost pattern pos c (finishSel env L B pattern fl s')
        generalize hf : finishSel env L B pattern fl s' = r
        rcases r with e | ⟨l, p', c'⟩
        · exact (finishSel_error h4 hf).ok
        · obtain ⟨rfl, rfl⟩ := finishSel_ok hf
          exact ⟨h2, h3, h5⟩
    · rw [loopRun_succ, parseLoop_succ]
      have hspec := stepOf_spec (env := env) (B := B) (flags := flags) hL hi
      generalize stepOf env L B pattern flags s = st at hspec ⊢
      rcases hspec with ⟨stop, hlt, hle, hok⟩ | rfl | ⟨e, rfl, he⟩
      · simp only [] at hle
        cases st with
        | done r =>
          cases r with
          | error e => exact ⟨hok.ok, R.raise _ _ _ hp hok⟩
          | ok s' =>
            obtain ⟨h1, h2, h3, h4⟩ := hok
            exact ⟨⟨by omega, by omega, by omega, Nat.le_of_eq (congrArg W h3)⟩,
              R.close _ _ _ hi (by omega) (by omega) h2 h3 h4⟩
        | cont s' =>
          obtain ⟨h1, h2, h3, h4⟩ := hok
          obtain ⟨hpost, hpl⟩ := ihL pattern flags s' (by omega) (by omega)
          exact ⟨hpost.weaken (by omega) (Nat.le_of_eq (congrArg W h3)),
            R.cont _ _ _ _ _ (by omega) (by omega) (by omega) h3 h4 hpl⟩
        | nest pat pos idx fl c k =>
          simp only [runStep, selRun_fst]
          rcases hok with ⟨e1, e2, e3, e4, ho, hk⟩ | ⟨pseudo, text, hget, e1, e2, e3, e4, hk⟩
          · -- a nested list: the loop goes on where the list ended, with the map it returned
            simp only [] at e1
            rw [e1, e2, e3, e4]
            obtain ⟨hP, hS⟩ := ihS pattern stop stop fl s.custom hle hle
            cases hr : parseSelectors env L B pattern f stop stop fl s.custom with
            | error e => rw [hr] at hS hP; exact ⟨hP, R.nestErr _ _ _ _ _ _ hlt hle ho hP hS⟩
            | ok x =>
              obtain ⟨l, p', c'⟩ := x
              rw [hr] at hS hP
              obtain ⟨k1, k2, k3, k4⟩ := hk (l, p', c')
              simp only [] at k1 k3
              obtain ⟨g1, g2, g3⟩ := hP
              obtain ⟨hpost, hpl⟩ := ihL pattern flags (k (l, p', c')) (by rw [k1]; exact g2) (by rw [k2]; exact hle)
              exact ⟨hpost.weaken (by rw [k1]; exact Nat.le_trans (Nat.le_of_lt hlt) g1) (by rw [k3]; exact g3),
                R.nestOk _ _ _ _ _ _ _ _ _ _ _ hlt ho ⟨g1, g2, g3⟩ k1 k2 k3 k4 hS hpl⟩
          · -- a custom selector: the map pays for parsing the definition, which is stored back compiled
            simp only [] at e1 e3
            rw [e3, e4, e2, e1]
            have hst := startIndex_le ⟨env, L, B, nulFix text⟩
            obtain ⟨hP, hS⟩ := ihS (nulFix text) _ 0 fl (s.custom.erase pseudo) hst (Nat.zero_le _)
            cases hr : parseSelectors env L B (nulFix text) f _ 0 fl (s.custom.erase pseudo) with
            | error e => rw [hr] at hS hP; exact ⟨hP, R.customErr _ _ _ _ _ _ _ _ hlt hle hget hP hS⟩
            | ok x =>
              obtain ⟨l, p', c'⟩ := x
              rw [hr] at hS hP
              obtain ⟨k1, k2, k3, k4⟩ := hk (l, p', c')
              simp only [] at k1 k3
              obtain ⟨hpost, hpl⟩ := ihL pattern flags (k (l, p', c')) (by rw [k1]; exact hle) (by rw [k2]; exact hle)
              refine ⟨hpost.weaken (by rw [k1]; exact Nat.le_of_lt hlt) ?_,
                R.customOk _ _ _ _ _ _ _ _ _ _ _ _ _ hlt hle hget hP k1 k2 k3 k4 hS hpl⟩
              have := W_set_compiled c' pseudo l
              have := W_erase_le s.custom pseudo
              have : W c' ≤ W (s.custom.erase pseudo) := hP.2.2
              rw [k3]; omega
      · exact ⟨⟨Nat.le_refl _, hp, hi, Nat.le_refl _⟩, R.stop _ _ hp hi⟩
      · exact ⟨he.ok, R.raise _ _ _ hp he⟩

end ParserProgress
end SoupVerif
