/-
  C06 helpers: the loop of `parse_selectors` as a one-step function (about the model only; no Mathlib).

  With `Step`, `stepOf`, `runStep` (`Model/ParserStep.lean`) a statement about the recursion is proved once for all token
  kinds.  `parseLoop_succ` / `parseSelectors_succ` are the unfolding equations: the model's `parseLoop (fuel+1)` IS
  `runStep … (stepOf …)` (proved, not assumed); `cleanupLS_frame`: the clean-up after the loop leaves `index`, `pos` and
  the custom map alone.
-/
import SoupVerif.Model.ParserStep
namespace SoupVerif
namespace ParserProgress
open Rx SoupVerif.Parser

theorem ite_eq_runStep {a b} {c : Prop} [Decidable c] {x y : Step} {l r : M LS}
    (hx : l = runStep a b x) (hy : r = runStep a b y) :
    (if c then l else r) = runStep a b (if c then x else y) := by
  split <;> assumption

theorem parseLoop_succ (env : CharEnv) (L : Lexicon) (B : Builtins) (pattern : Str) (fuel flags : Nat) (s : LS) :
    parseLoop env L B pattern (fuel + 1) flags s =
      runStep (fun p => parseSelectors env L B p fuel) (parseLoop env L B pattern fuel flags)
        (stepOf env L B pattern flags s) := by
  rw [parseLoop.eq_2]
  unfold stepOf
  simp only []
  generalize nextToken ⟨env, L, B, pattern⟩ s.pos = nt
  rcases nt with e | (_ | t)
  · rfl
  · rfl
  · simp only []
    -- one `ite_eq_runStep` per `if key == …` / nested `if` of `parseLoop`, in its order (`stepOf` has the same
    -- chain); a branch that is not closed by `rfl` holds a nested call or a `match`, and is taken apart first
    refine ite_eq_runStep rfl ?_
    refine ite_eq_runStep rfl ?_
    refine ite_eq_runStep ?_ ?_
    · generalize s.custom.get? _ = g
      rcases g with _ | (text | l)
      · rfl
      · simp only [runStep]
        generalize parseSelectors env L B _ fuel _ _ _ _ = r
        rcases r with e | ⟨l, p, c⟩ <;> rfl
      · rfl
    refine ite_eq_runStep ?_ ?_
    · refine ite_eq_runStep ?_ ?_
      · simp only [runStep]
        generalize parseSelectors env L B _ fuel _ _ _ _ = r
        rcases r with e | ⟨l, p, c⟩ <;> rfl
      refine ite_eq_runStep rfl ?_
      refine ite_eq_runStep ?_ ?_
      · simp only [runStep]
        generalize parseSelectors env L B _ fuel _ _ _ _ = r
        rcases r with e | ⟨l, p, c⟩ <;> rfl
      refine ite_eq_runStep rfl ?_
      exact ite_eq_runStep rfl rfl
    refine ite_eq_runStep rfl ?_
    refine ite_eq_runStep rfl ?_
    refine ite_eq_runStep ?_ ?_
    · refine ite_eq_runStep ?_ ?_
      · generalize Token.group _ t "of" = og
        rcases og with _ | o
        · rfl
        · simp only []
          rcases o with _ | ⟨c0, o⟩
          · rfl
          · simp only [List.isEmpty_cons, Bool.not_false, if_true, runStep]
            generalize parseSelectors env L B _ fuel _ _ _ _ = r
            rcases r with e | ⟨l, p, c⟩ <;> rfl
      · rfl
    refine ite_eq_runStep rfl ?_
    refine ite_eq_runStep rfl ?_
    refine ite_eq_runStep ?_ ?_
    · refine ite_eq_runStep rfl ?_
      exact ite_eq_runStep rfl rfl
    refine ite_eq_runStep ?_ ?_
    · generalize (if ((flags &&& FLG_RELATIVE) != 0) = true then parseHasCombinator _ _ _ _ else parseCombinator _ _ _ _ _ _) = r
      rcases r with e | s' <;> rfl
    refine ite_eq_runStep rfl ?_
    refine ite_eq_runStep ?_ ?_
    · exact ite_eq_runStep rfl rfl
    exact ite_eq_runStep rfl rfl

theorem parseSelectors_succ (env : CharEnv) (L : Lexicon) (B : Builtins) (pattern : Str)
    (fuel pos index flags : Nat) (custom : Custom) :
    parseSelectors env L B pattern (fuel + 1) pos index flags custom =
      match parseLoop env L B pattern fuel flags (initLS pos index flags custom) with
      | .error e => .error e
      | .ok s => finishSel env L B pattern flags s := by
  rw [parseSelectors.eq_2]; rfl

theorem cleanupLS_frame (flags : Nat) (s : LS) :
    (cleanupLS flags s).index = s.index ∧ (cleanupLS flags s).pos = s.pos ∧
      (cleanupLS flags s).custom = s.custom := by
  -- each of the four branches updates fields other than these three
  have ite {c : Prop} [Decidable c] {a b : LS} (ha : a.index = s.index ∧ a.pos = s.pos ∧ a.custom = s.custom)
      (hb : b.index = s.index ∧ b.pos = s.pos ∧ b.custom = s.custom) :
      (if c then a else b).index = s.index ∧ (if c then a else b).pos = s.pos ∧
        (if c then a else b).custom = s.custom := by
    split <;> assumption
  exact ite (ite ⟨rfl, rfl, rfl⟩ ⟨rfl, rfl, rfl⟩) (ite ⟨rfl, rfl, rfl⟩ ⟨rfl, rfl, rfl⟩)

end ParserProgress
end SoupVerif
