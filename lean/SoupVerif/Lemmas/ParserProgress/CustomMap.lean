/-
  The custom-selector map of the parser (`Parser.Custom`: `self.custom`, a list of entries): what `get?`, `erase`
  and `set` do on a map given entry by entry, and how a look-up sees an `erase` or a `set` (about the model only;
  no Mathlib).
-/
import SoupVerif.Model.Parser
namespace SoupVerif
namespace ParserProgress
open SoupVerif.Parser

theorem Custom.get?_cons (e : Str × CustomVal) (c : Custom) (k : Str) :
    Custom.get? (e :: c) k = if e.1 == k then some e.2 else Custom.get? c k := by
  unfold Custom.get?
  rw [List.find?_cons]
  cases e.1 == k <;> rfl

theorem Custom.erase_cons (e : Str × CustomVal) (c : Custom) (k : Str) :
    Custom.erase (e :: c) k = if e.1 == k then Custom.erase c k else e :: Custom.erase c k := by
  unfold Custom.erase
  rw [List.filter_cons]
  cases h : e.1 == k <;> simp [bne, h]

/-- What `Custom.set` does to an entry when the key is present. -/
def replAt (k : Str) (v : CustomVal) (e : Str × CustomVal) : Str × CustomVal := if e.1 == k then (k, v) else e

theorem Custom.set_eq (c : Custom) (k : Str) (v : CustomVal) :
    c.set k v = if c.any (fun e => e.1 == k) then c.map (replAt k v) else c ++ [(k, v)] := rfl

theorem Custom.set_fresh (c : Custom) (k : Str) (v : CustomVal) (h : c.any (fun e => e.1 == k) = false) :
    c.set k v = c ++ [(k, v)] := by
  rw [Custom.set_eq, h]; rfl

theorem Custom.get?_erase_self (c : Custom) (k : Str) : (c.erase k).get? k = none := by
  unfold Custom.get? Custom.erase
  have : (c.filter (fun e => e.1 != k)).find? (fun e => e.1 == k) = none := by
    rw [List.find?_eq_none]
    intro e he
    have := (List.mem_filter.mp he).2
    simpa using this
  rw [this]; rfl

end ParserProgress

namespace Refine
namespace Compile
open SoupVerif.Parser

theorem get?_erase_ne (c : Custom) (k k' : Str) (h : k' ≠ k) : (c.erase k).get? k' = c.get? k' := by
  unfold Custom.erase Custom.get?
  induction c with
  | nil => rfl
  | cons e rest ih =>
    simp only [List.filter_cons, List.find?_cons]
    by_cases he : e.1 = k
    · have h1 : (e.1 != k) = false := by simp [he]
      have h2 : (e.1 == k') = false := by rw [he]; simpa using (Ne.symm h)
      simp only [h1, h2, Bool.false_eq_true, if_false]
      exact ih
    · have h1 : (e.1 != k) = true := by simpa using he
      simp only [h1, if_true, List.find?_cons]
      by_cases hk : (e.1 == k') = true
      · simp only [hk]
      · have hk' : (e.1 == k') = false := by simpa using hk
        simp only [hk']
        exact ih

theorem find?_map_set (c : Custom) (k k' : Str) (v : CustomVal) :
    ((c.map (fun e => if e.1 == k then (k, v) else e)).find? (fun e => e.1 == k')).map (·.2) =
      if k' = k then (if c.any (fun e => e.1 == k) then some v else none)
      else (c.find? (fun e => e.1 == k')).map (·.2) := by
  induction c with
  | nil => simp
  | cons e rest ih =>
    simp only [List.map_cons, List.find?_cons, List.any_cons]
    by_cases he : e.1 = k
    · have he' : (e.1 == k) = true := by simpa using he
      simp only [he', if_true, Bool.true_or]
      by_cases hk : k' = k
      · subst hk
        simp
      · have h1 : (k == k') = false := by simpa using (Ne.symm hk)
        have h2 : (e.1 == k') = false := by rw [he]; exact h1
        simp only [h1, h2, if_neg hk]
        simpa [if_neg hk] using ih
    · have he' : (e.1 == k) = false := by simpa using he
      simp only [he', Bool.false_eq_true, if_false, Bool.false_or]
      by_cases hk : (e.1 == k') = true
      · have hkk : k' ≠ k := by
          intro e'; subst e'
          rw [he'] at hk; cases hk
        simp only [hk, if_neg hkk]
      · have hk' : (e.1 == k') = false := by simpa using hk
        simp only [hk']
        exact ih

theorem get?_set (c : Custom) (k k' : Str) (v : CustomVal) :
    (c.set k v).get? k' = if k' = k then some v else c.get? k' := by
  unfold Custom.set Custom.get?
  by_cases ha : c.any (fun e => e.1 == k) = true
  · rw [if_pos ha, find?_map_set, ha]
    simp
  · rw [if_neg ha]
    have hnone : c.find? (fun e => e.1 == k) = none := by
      rw [List.find?_eq_none]
      intro x hx hxk
      exact ha (List.any_eq_true.mpr ⟨x, hx, hxk⟩)
    rw [List.find?_append]
    by_cases hk : k' = k
    · subst hk
      simp [hnone]
    · have h1 : (k == k') = false := by simpa using (Ne.symm hk)
      rw [if_neg hk]
      cases hf : c.find? (fun e => e.1 == k') with
      | some x => simp
      | none => simp [h1]

theorem get?_set_eq (c : Custom) (k : Str) (v : CustomVal) : (c.set k v).get? k = some v := by
  rw [get?_set, if_pos rfl]

theorem get?_set_ne (c : Custom) (k k' : Str) (v : CustomVal) (h : k' ≠ k) :
    (c.set k v).get? k' = c.get? k' := by
  rw [get?_set, if_neg h]

end Compile
end Refine
end SoupVerif

#print axioms SoupVerif.Refine.Compile.get?_set
