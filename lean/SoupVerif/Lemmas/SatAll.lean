/-
  The predicate `All`: a property of every simple selector occurring in a selector.  `Css.Simple.all` is its
  Bool-valued form; the Prop-valued one exists because the side condition `SatMain.Good c P` of the main
  induction quantifies over locations and is not decidable.  Here: `All` from `all`, and monotonicity.
-/
import SoupVerif.Spec.CssCompile
namespace SoupVerif
namespace Css

mutual
/-- `p` holds for every simple selector nested inside `s` (not for `s` itself). -/
def Simple.All (p : Simple → Prop) : Simple → Prop
  | .neg L => listAll p L
  | .is L => listAll p L
  | .has L => relsAll p L
  | _ => True
def partsAll (p : Simple → Prop) : List Simple → Prop
  | [] => True
  | s :: rest => (p s ∧ s.All p) ∧ partsAll p rest
def Compound.All (p : Simple → Prop) : Compound → Prop
  | .mk _ parts => partsAll p parts
def Complex.All (p : Simple → Prop) : Complex → Prop
  | .one cp => cp.All p
  | .comb L _ R => L.All p ∧ R.All p
def listAll (p : Simple → Prop) : List Complex → Prop
  | [] => True
  | x :: rest => x.All p ∧ listAll p rest
def relsAll (p : Simple → Prop) : List RelSel → Prop
  | [] => True
  | r :: rest => r.All p ∧ relsAll p rest
def RelSel.All (p : Simple → Prop) : RelSel → Prop
  | .mk _ x => x.All p
end

variable {p q : Simple → Prop}

mutual
theorem Simple.All.imp (h : ∀ s, p s → q s) : ∀ (s : Simple), s.All p → s.All q
  | .neg L, ha | .is L, ha => listAll_imp h L ha
  | .has L, ha => relsAll_imp h L ha
  | .id _, _ | .cls _, _ | .attr _ _ _, _ | .root, _ | .empty, _ | .firstChild, _ | .lastChild, _
  | .onlyChild, _ | .firstOfType, _ | .lastOfType, _ | .onlyOfType, _ => trivial
theorem partsAll_imp (h : ∀ s, p s → q s) : ∀ (ps : List Simple), partsAll p ps → partsAll q ps
  | [], _ => trivial
  | s :: rest, ha => ⟨⟨h s ha.1.1, Simple.All.imp h s ha.1.2⟩, partsAll_imp h rest ha.2⟩
theorem Compound.All.imp (h : ∀ s, p s → q s) : ∀ (cp : Compound), cp.All p → cp.All q
  | .mk _ parts, ha => partsAll_imp h parts ha
theorem Complex.All.imp (h : ∀ s, p s → q s) : ∀ (x : Complex), x.All p → x.All q
  | .one cp, ha => Compound.All.imp h cp ha
  | .comb L _ R, ha => ⟨Complex.All.imp h L ha.1, Compound.All.imp h R ha.2⟩
theorem listAll_imp (h : ∀ s, p s → q s) : ∀ (L : List Complex), listAll p L → listAll q L
  | [], _ => trivial
  | x :: rest, ha => ⟨Complex.All.imp h x ha.1, listAll_imp h rest ha.2⟩
theorem relsAll_imp (h : ∀ s, p s → q s) : ∀ (L : List RelSel), relsAll p L → relsAll q L
  | [], _ => trivial
  | r :: rest, ha => ⟨RelSel.All.imp h r ha.1, relsAll_imp h rest ha.2⟩
theorem RelSel.All.imp (h : ∀ s, p s → q s) : ∀ (r : RelSel), r.All p → r.All q
  | .mk _ x, ha => Complex.All.imp h x ha
end

variable {b : Simple → Bool}

mutual
theorem Simple.All.of_all : ∀ (s : Simple), s.all b = true → s.All (fun s => b s = true)
  | .neg L, ha | .is L, ha => listAll_of_all L ha
  | .has L, ha => relsAll_of_all L ha
  | .id _, _ | .cls _, _ | .attr _ _ _, _ | .root, _ | .empty, _ | .firstChild, _ | .lastChild, _
  | .onlyChild, _ | .firstOfType, _ | .lastOfType, _ | .onlyOfType, _ => trivial
theorem partsAll_of_all : ∀ (ps : List Simple), allParts b ps = true → partsAll (fun s => b s = true) ps
  | [], _ => trivial
  | s :: rest, ha => by
    simp only [allParts, Bool.and_eq_true] at ha
    exact ⟨⟨ha.1.1, Simple.All.of_all s ha.1.2⟩, partsAll_of_all rest ha.2⟩
theorem Compound.All.of_all : ∀ (cp : Compound), cp.all b = true → cp.All (fun s => b s = true)
  | .mk _ parts, ha => partsAll_of_all parts ha
theorem Complex.All.of_all : ∀ (x : Complex), x.all b = true → x.All (fun s => b s = true)
  | .one cp, ha => Compound.All.of_all cp ha
  | .comb L _ R, ha => by
    simp only [Complex.all, Bool.and_eq_true] at ha
    exact ⟨Complex.All.of_all L ha.1, Compound.All.of_all R ha.2⟩
theorem listAll_of_all : ∀ (L : List Complex), allList b L = true → listAll (fun s => b s = true) L
  | [], _ => trivial
  | x :: rest, ha => by
    simp only [allList, Bool.and_eq_true] at ha
    exact ⟨Complex.All.of_all x ha.1, listAll_of_all rest ha.2⟩
theorem relsAll_of_all : ∀ (L : List RelSel), allRels b L = true → relsAll (fun s => b s = true) L
  | [], _ => trivial
  | r :: rest, ha => by
    simp only [allRels, Bool.and_eq_true] at ha
    exact ⟨RelSel.All.of_all r ha.1, relsAll_of_all rest ha.2⟩
theorem RelSel.All.of_all : ∀ (r : RelSel), r.all b = true → r.All (fun s => b s = true)
  | .mk _ x, ha => Complex.All.of_all x ha
end

mutual
theorem Simple.All.and : ∀ (s : Simple), s.All p → s.All q → s.All (fun s => p s ∧ q s)
  | .neg L, h1, h2 | .is L, h1, h2 => listAll_and L h1 h2
  | .has L, h1, h2 => relsAll_and L h1 h2
  | .id _, _, _ | .cls _, _, _ | .attr _ _ _, _, _ | .root, _, _ | .empty, _, _ | .firstChild, _, _
  | .lastChild, _, _ | .onlyChild, _, _ | .firstOfType, _, _ | .lastOfType, _, _
  | .onlyOfType, _, _ => trivial
theorem partsAll_and : ∀ (ps : List Simple), partsAll p ps → partsAll q ps →
    partsAll (fun s => p s ∧ q s) ps
  | [], _, _ => trivial
  | s :: rest, h1, h2 =>
    ⟨⟨⟨h1.1.1, h2.1.1⟩, Simple.All.and s h1.1.2 h2.1.2⟩, partsAll_and rest h1.2 h2.2⟩
theorem Compound.All.and : ∀ (cp : Compound), cp.All p → cp.All q → cp.All (fun s => p s ∧ q s)
  | .mk _ parts, h1, h2 => partsAll_and parts h1 h2
theorem Complex.All.and : ∀ (x : Complex), x.All p → x.All q → x.All (fun s => p s ∧ q s)
  | .one cp, h1, h2 => Compound.All.and cp h1 h2
  | .comb L _ R, h1, h2 => ⟨Complex.All.and L h1.1 h2.1, Compound.All.and R h1.2 h2.2⟩
theorem listAll_and : ∀ (L : List Complex), listAll p L → listAll q L →
    listAll (fun s => p s ∧ q s) L
  | [], _, _ => trivial
  | x :: rest, h1, h2 => ⟨Complex.All.and x h1.1 h2.1, listAll_and rest h1.2 h2.2⟩
theorem relsAll_and : ∀ (L : List RelSel), relsAll p L → relsAll q L →
    relsAll (fun s => p s ∧ q s) L
  | [], _, _ => trivial
  | r :: rest, h1, h2 => ⟨RelSel.All.and r h1.1 h2.1, relsAll_and rest h1.2 h2.2⟩
theorem RelSel.All.and : ∀ (r : RelSel), r.All p → r.All q → r.All (fun s => p s ∧ q s)
  | .mk _ x, h1, h2 => Complex.All.and x h1 h2
end

mutual
theorem Simple.All.of_forall (h : ∀ s, p s) : ∀ (s : Simple), s.All p
  | .neg L | .is L => listAll_of_forall h L
  | .has L => relsAll_of_forall h L
  | .id _ | .cls _ | .attr _ _ _ | .root | .empty | .firstChild | .lastChild | .onlyChild | .firstOfType
  | .lastOfType | .onlyOfType => trivial
theorem partsAll_of_forall (h : ∀ s, p s) : ∀ (ps : List Simple), partsAll p ps
  | [] => trivial
  | s :: rest => ⟨⟨h s, Simple.All.of_forall h s⟩, partsAll_of_forall h rest⟩
theorem Compound.All.of_forall (h : ∀ s, p s) : ∀ (cp : Compound), cp.All p
  | .mk _ parts => partsAll_of_forall h parts
theorem Complex.All.of_forall (h : ∀ s, p s) : ∀ (x : Complex), x.All p
  | .one cp => Compound.All.of_forall h cp
  | .comb L _ R => ⟨Complex.All.of_forall h L, Compound.All.of_forall h R⟩
theorem listAll_of_forall (h : ∀ s, p s) : ∀ (L : List Complex), listAll p L
  | [] => trivial
  | x :: rest => ⟨Complex.All.of_forall h x, listAll_of_forall h rest⟩
theorem relsAll_of_forall (h : ∀ s, p s) : ∀ (L : List RelSel), relsAll p L
  | [] => trivial
  | r :: rest => ⟨RelSel.All.of_forall h r, relsAll_of_forall h rest⟩
theorem RelSel.All.of_forall (h : ∀ s, p s) : ∀ (r : RelSel), r.All p
  | .mk _ x => Complex.All.of_forall h x
end

theorem Complex.All.of_all_or {Q : Prop} (x : Complex) (h : x.all b = true ∨ Q) :
    x.All (fun s => b s = true ∨ Q) := by
  rcases h with h | h
  · exact Complex.All.imp (fun _ hs => Or.inl hs) x (Complex.All.of_all x h)
  · exact Complex.All.of_forall (fun _ => Or.inr h) x

theorem Compound.withImplied_all (cp : Compound) : cp.withImplied.all b = cp.all b := by
  cases cp with
  | mk tag parts => cases tag <;> rfl

theorem Complex.withImplied_all : ∀ (x : Complex), x.withImplied.all b = x.all b
  | .one cp => by simp only [Complex.withImplied, Complex.all, Compound.withImplied_all]
  | .comb L k R => by
    simp only [Complex.withImplied, Complex.all, Compound.withImplied_all,
      Complex.withImplied_all L]

end Css
end SoupVerif
