/-
  The attribute scan of `match_indeterminate` (`radioCheckedScan`) as a closed formula over the attribute list, and its key
  test against the name test of a bare attribute selector.  `Properties/C04` (the asker is not a checked radio) and
  `Properties/C17` (the scan agrees with the guard of `:indeterminate`) both read the scan through `radioCheckedScan_eq`.
-/
import SoupVerif.Lemmas.StateLawsSem
import SoupVerif.Lemmas.StrLit
namespace SoupVerif.C17
open SoupVerif StateLaws C11 Names

/-- The attribute name as the scan compares it: lower-cased unless the document is XML. -/
def scanKey (x : Bool) (a : Attr) : Str := if !x then lower a.key else a.key

/-- The value is the string `radio`, exactly in XML (`x`), up to ASCII case otherwise; a list never is. -/
def valIsRadio (x : Bool) : NVal → Bool
  | .str s => (if x then s else lower s) == "radio".toStr
  | .list _ => false

/-- The three tests of the scan's `elif` chain on one attribute: `type=radio`, `name=<group>`, `checked`. -/
def scanRadioAttr (x : Bool) (a : Attr) : Bool :=
  scanKey x a == "type".toStr && valIsRadio x (normalizeValue a.val)
def scanNameAttr (x : Bool) (name : Option NVal) (a : Attr) : Bool :=
  scanKey x a == "name".toStr && some (normalizeValue a.val) == name
def scanCheckedAttr (x : Bool) (a : Attr) : Bool := scanKey x a == "checked".toStr

theorem key_ne_of_eq {a b : Str} (k : Str) (h : (a == b) = false) (hk : (k == a) = true) : (k == b) = false := by
  have : k = a := by simpa using hk
  subst this; exact h

/-- One attribute of the scan.  The `elif` chain of the loop body is three independent tests, each raising its own
    flag: the keys `type`, `name`, `checked` are distinct. -/
theorem radioCheckedScan_cons (x : Bool) (name : Option NVal) (a : Attr) (rest : List Attr) (r c h : Bool) :
    radioCheckedScan x name (a :: rest) r c h =
      (if (r || scanRadioAttr x a) && (c || scanCheckedAttr x a) && (h || scanNameAttr x name a) then true
       else radioCheckedScan x name rest (r || scanRadioAttr x a) (c || scanCheckedAttr x a)
        (h || scanNameAttr x name a)) := by
  conv => lhs; unfold radioCheckedScan
  simp only []
  -- both sides are one function of the three flags after this attribute: compare the flags
  refine congrArg (fun t : Bool × Bool × Bool =>
      if t.1 && t.2.1 && t.2.2 then true else radioCheckedScan x name rest t.1 t.2.1 t.2.2)
    (a₂ := (r || scanRadioAttr x a, c || scanCheckedAttr x a, h || scanNameAttr x name a)) ?_
  unfold scanRadioAttr scanNameAttr scanCheckedAttr scanKey
  generalize (if (!x) = true then lower a.key else a.key) = k
  generalize normalizeValue a.val = v
  have htn : (k == "type".toStr) = true → (k == "name".toStr) = false := key_ne_of_eq k (by decide_lit)
  have htc : (k == "type".toStr) = true → (k == "checked".toStr) = false := key_ne_of_eq k (by decide_lit)
  have hnc : (k == "name".toStr) = true → (k == "checked".toStr) = false := key_ne_of_eq k (by decide_lit)
  -- by the value (a string or a list), then by which key the attribute has
  cases v <;> simp only [valIsRadio] <;> cases h1 : (k == "type".toStr) <;>
    simp only [Bool.false_and, Bool.true_and, Bool.false_eq_true, if_false, Bool.or_false]
  case str.true s =>
    rw [htn h1, htc h1]
    cases ((if x = true then s else lower s) == "radio".toStr) <;> simp
  case list.true => rw [htn h1, htc h1]; simp
  all_goals
    cases h2 : (k == "name".toStr)
    · cases (k == "checked".toStr) <;> simp
    · rw [hnc h2]; cases (some _ == name) <;> simp

/-- The scan as a closed formula: a control counts as a checked radio of the group iff SOME attribute
    says `type=radio`, SOME attribute is `checked` and SOME attribute is `name=<group>`. -/
theorem radioCheckedScan_eq (x : Bool) (name : Option NVal) :
    ∀ (attrs : List Attr) (r c h : Bool), (r && c && h) = false →
      radioCheckedScan x name attrs r c h =
        ((r || attrs.any (scanRadioAttr x)) && (c || attrs.any (scanCheckedAttr x)) &&
          (h || attrs.any (scanNameAttr x name))) := by
  intro attrs
  induction attrs with
  | nil =>
    intro r c h hn
    unfold radioCheckedScan
    simp only [List.any_nil, Bool.or_false, hn]
  | cons a rest ih =>
    intro r c h hn
    rw [radioCheckedScan_cons]
    simp only [List.any_cons]
    split
    · rename_i hall
      simp only [Bool.and_eq_true] at hall
      obtain ⟨⟨h1, h2⟩, h3⟩ := hall
      simp only [Bool.or_eq_true] at h1 h2 h3
      rcases h1 with h1 | h1 <;> rcases h2 with h2 | h2 <;> rcases h3 with h3 | h3 <;> simp [h1, h2, h3]
    · rename_i hall
      rw [ih _ _ _ (by simpa using hall)]
      simp only [Bool.or_assoc]

/-- The key test of the scan is the name test of the bare attribute selector, for lower-case keywords. -/
theorem scanKey_eq_nameEq (c : Ctx) (a : Attr) (n : Str) (hl : lower n = n) :
    (scanKey c.isXml a == n) = nameEq c n a.key := by
  unfold scanKey nameEq
  cases c.isXml
  · simp only [Bool.not_false, if_true, Bool.false_eq_true, if_false, hl]; exact str_beq_comm _ _
  · simp only [Bool.not_true, Bool.false_eq_true, if_false, if_true]; exact str_beq_comm _ _

theorem hasAttr_eq_any_key (c : Ctx) (e : Elem) (n : String) (hl : lower n.toStr = n.toStr) :
    hasAttr c e n = e.attrs.any (fun a => scanKey c.isXml a == n.toStr) := by
  unfold hasAttr attrVal
  rw [man_bare_all]
  simp only [Option.isSome_map, scanKey_eq_nameEq c _ _ hl]
  induction e.attrs with
  | nil => rfl
  | cons a t ih => simp only [List.find?_cons, List.any_cons]; cases nameEq c n.toStr a.key <;> simp [ih]

theorem radioCheckedScan_of_not_checked (c : Ctx) (e : Elem) (name : Option NVal)
    (h : hasAttr c e "checked" = false) : radioCheckedScan c.isXml name e.attrs false false false = false := by
  have hc : e.attrs.any (scanCheckedAttr c.isXml) = false :=
    (hasAttr_eq_any_key c e "checked" (by decide_lit)).symm.trans h
  rw [radioCheckedScan_eq _ _ _ _ _ _ rfl, hc]
  simp

end SoupVerif.C17
