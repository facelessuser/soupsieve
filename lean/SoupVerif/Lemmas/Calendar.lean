/-
  Helper lemmas about the first-principles calendar of `SoupVerif.Spec.Calendar`:
  closed form and 400-year periodicity of `daysBeforeYear`, weekdays of 1 January and
  31 December, the characterisation of ISO long years, monotonicity of `dayNumber`,
  and the link from the model's `dec31` / `isLeap` arithmetic to the specification.
-/
import SoupVerif.Spec.Calendar
import SoupVerif.Model.Inputs
namespace SoupVerif
namespace Spec

theorem leap_iff (y : Nat) : leap y = true ↔ (y % 4 = 0 ∧ y % 100 ≠ 0) ∨ y % 400 = 0 := by
  unfold leap
  by_cases h400 : y % 400 = 0
  · simp only [h400, if_true, or_true]
  · by_cases h100 : y % 100 = 0
    · simp only [h400, h100, if_true, if_false, Bool.false_eq_true, ne_eq, not_true_eq_false, and_false, or_false]
    · simp only [h400, h100, if_false, decide_eq_true_eq, ne_eq, not_false_eq_true, and_true, or_false]

theorem daysBeforeMonth_succ (y m : Nat) (h : 1 ≤ m) :
    daysBeforeMonth y (m + 1) = daysBeforeMonth y m + daysInMonth y m := by
  obtain ⟨k, rfl⟩ : ∃ k, m = k + 1 := ⟨m - 1, by omega⟩
  rfl

theorem daysBeforeMonth_table (y : Nat) :
    daysBeforeMonth y 1 = 0 ∧ daysBeforeMonth y 2 = 31 ∧
    daysBeforeMonth y 3 = 31 + daysInMonth y 2 ∧
    daysBeforeMonth y 12 = 306 + daysInMonth y 2 ∧
    daysBeforeMonth y 13 = 337 + daysInMonth y 2 := by
  simp [daysBeforeMonth, daysInMonth]
  omega

theorem daysInYear_eq_bit (y : Nat) : daysInYear y = 365 + (if leap y then 1 else 0) := by
  unfold daysInYear
  rw [(daysBeforeMonth_table y).2.2.2.2]
  simp only [daysInMonth]
  split <;> rfl

theorem daysBeforeYear_succ (y : Nat) (h : 1 ≤ y) :
    daysBeforeYear (y + 1) = daysBeforeYear y + daysInYear y := by
  obtain ⟨k, rfl⟩ : ∃ k, y = k + 1 := ⟨y - 1, by omega⟩
  rfl

theorem le_of_steps {f g : Nat → Nat} (h : ∀ k, 1 ≤ k → f (k + 1) = f k + g k) {a b : Nat} (ha : 1 ≤ a)
    (hab : a < b) : f a + g a ≤ f b := by
  induction b with
  | zero => omega
  | succ k ih =>
    by_cases hk : a = k
    · subst hk; exact Nat.le_of_eq (h a ha).symm
    · have := ih (by omega)
      have := h k (by omega)
      omega

/-- Number of leap days among years `1 … n`. -/
def leapsUpTo (n : Nat) : Nat := n / 4 - n / 100 + n / 400

theorem leapsUpTo_succ (m : Nat) :
    leapsUpTo (m + 1) = leapsUpTo m + (if leap (m + 1) then 1 else 0) := by
  have hle : m / 100 ≤ m / 4 := Nat.div_le_div_left (by decide) (by decide)
  have h1 : 100 ∣ m + 1 → 4 ∣ m + 1 := Nat.dvd_trans (by decide)
  have h2 : 400 ∣ m + 1 → 100 ∣ m + 1 := Nat.dvd_trans (by decide)
  unfold leapsUpTo leap
  -- each quotient grows by one exactly at a multiple of its divisor
  rw [Nat.succ_div (b := 4), Nat.succ_div (b := 100), Nat.succ_div (b := 400)]
  simp only [← Nat.dvd_iff_mod_eq_zero]
  generalize m / 4 = a, m / 100 = b, m / 400 = c at hle ⊢
  by_cases h400 : 400 ∣ m + 1
  · simp only [h400, h2 h400, h1 (h2 h400), if_true, Nat.add_sub_add_right, Nat.add_assoc]
  · by_cases h100 : 100 ∣ m + 1
    · simp only [h400, h100, h1 h100, if_true, if_false, Bool.false_eq_true, Nat.add_sub_add_right,
        Nat.add_zero]
    · by_cases h4 : 4 ∣ m + 1
      · simp only [h400, h100, h4, if_true, if_false, decide_true, Nat.add_zero,
          Nat.sub_add_comm hle, Nat.add_right_comm]
      · simp only [h400, h100, h4, if_false, decide_false, Bool.false_eq_true, Nat.add_zero]

theorem daysBeforeYear_succ_closed (n : Nat) : daysBeforeYear (n + 1) = 365 * n + leapsUpTo n := by
  induction n with
  | zero => rfl
  | succ n ih =>
    rw [daysBeforeYear_succ (n + 1) (by omega), ih, daysInYear_eq_bit, leapsUpTo_succ]
    omega

theorem leapsUpTo_period (n : Nat) : leapsUpTo (n + 400) = leapsUpTo n + 97 := by
  have hle : n / 100 ≤ n / 4 := Nat.div_le_div_left (by decide) (by decide)
  unfold leapsUpTo
  rw [Nat.add_div_right n (by decide : 0 < 400), Nat.add_mul_div_left n 100 (by decide : 0 < 4),
    Nat.add_mul_div_left n 4 (by decide : 0 < 100)]
  omega

theorem daysBeforeYear_period (y : Nat) (h : 1 ≤ y) :
    daysBeforeYear (y + 400) = daysBeforeYear y + 146097 := by
  obtain ⟨n, rfl⟩ : ∃ n, y = n + 1 := ⟨y - 1, by omega⟩
  rw [Nat.add_right_comm, daysBeforeYear_succ_closed, daysBeforeYear_succ_closed, leapsUpTo_period]
  omega

theorem period_weeks : 146097 % 7 = 0 := by decide

theorem leap_period (y : Nat) : leap (y + 400) = leap y := by
  unfold leap
  rw [Nat.add_mod_right, Nat.add_mul_mod_self_left y 100 4, Nat.add_mul_mod_self_left y 4 100]

theorem dayNumber_jan1 (y : Nat) : dayNumber y 1 1 = daysBeforeYear y + 1 := by
  simp [dayNumber, daysBeforeMonth]

theorem dayNumber_jan4 (y : Nat) : dayNumber y 1 4 = daysBeforeYear y + 4 := by
  simp [dayNumber, daysBeforeMonth]

theorem dayNumber_dec31 (y : Nat) (h : 1 ≤ y) : dayNumber y 12 31 = daysBeforeYear (y + 1) := by
  rw [daysBeforeYear_succ y h]
  unfold dayNumber daysInYear
  rw [(daysBeforeMonth_table y).2.2.2.1, (daysBeforeMonth_table y).2.2.2.2]
  omega

theorem dayNumber_dec28 (y : Nat) (h : 1 ≤ y) : dayNumber y 12 28 + 3 = daysBeforeYear (y + 1) := by
  rw [← dayNumber_dec31 y h]; unfold dayNumber; omega

theorem weekday_jan1 (y : Nat) (h : 1 ≤ y) :
    weekday (dayNumber y 1 1) = ((y - 1) + leapsUpTo (y - 1)) % 7 + 1 := by
  obtain ⟨n, rfl⟩ : ∃ n, y = n + 1 := ⟨y - 1, by omega⟩
  rw [dayNumber_jan1, daysBeforeYear_succ_closed]
  simp only [Nat.add_sub_cancel, weekday]
  generalize leapsUpTo n = a
  omega

theorem weekday_dec31 (y : Nat) (h : 1 ≤ y) :
    weekday (dayNumber y 12 31) = (y + leapsUpTo y + 6) % 7 + 1 := by
  rw [dayNumber_dec31 y h, daysBeforeYear_succ_closed]
  simp only [weekday]
  generalize leapsUpTo y = a
  omega

/-! ### ISO weeks

  In the arithmetic below `n` is `daysBeforeYear y`, `l` the leap day of `y`, and `s = (n + 3) % 7` the number of
  days from the Monday of week 1 to 4 January.  Each statement is first brought into these terms; `s` is then a
  variable below 7, so that `omega` does not meet the same remainder under several names. -/

theorem leapDay_le (y : Nat) : (if leap y then 1 else 0) ≤ 1 := by split <;> decide

theorem mod7_bounds (n : Nat) : (n + 3) % 7 < 7 ∧ (n + 3) % 7 ≤ n + 3 :=
  ⟨Nat.mod_lt _ (by decide), Nat.mod_le _ _⟩

/-- The weekday term of 31 December from that of 1 January of the same year (365 = 52·7 + 1). -/
theorem mod7_dec31 (n l : Nat) : (n + (365 + l) + 6) % 7 = ((n + 3) % 7 + l + 4) % 7 := by omega

/-- … and the term `(daysBeforeYear (y + 1) + 3) % 7` of `week1Monday (y + 1)`, which places 4 January of the next year. -/
theorem mod7_next (n l : Nat) : (n + (365 + l) + 3) % 7 = ((n + 3) % 7 + l + 1) % 7 := by omega

theorem week1Monday_eq (y : Nat) :
    week1Monday y = daysBeforeYear y + 4 - (daysBeforeYear y + 3) % 7 := by
  simp only [week1Monday, dayNumber_jan4, weekday, Nat.add_sub_cancel]
  rw [show daysBeforeYear y + 4 + 6 = daysBeforeYear y + 3 + 7 from rfl, Nat.add_mod_right]

/-- The specification's week 1 is what ISO 8601 says: it starts on a Monday … -/
theorem week1Monday_is_monday (y : Nat) : weekday (week1Monday y) = 1 := by
  rw [week1Monday_eq]; simp only [weekday]; omega

/-- … and contains 4 January. -/
theorem week1Monday_contains_jan4 (y : Nat) :
    week1Monday y ≤ dayNumber y 1 4 ∧ dayNumber y 1 4 < week1Monday y + 7 := by
  rw [week1Monday_eq, dayNumber_jan4]
  obtain ⟨h7, h3⟩ := mod7_bounds (daysBeforeYear y)
  generalize (daysBeforeYear y + 3) % 7 = s at h7 h3 ⊢
  omega

/-- 28 December lies in the ISO year of its own calendar year, 358 + `l` + `s` days after the Monday of week 1. -/
theorem isoWeeksInYear_eq (y : Nat) (h : 1 ≤ y) :
    isoWeeksInYear y = (358 + (if leap y then 1 else 0) + (daysBeforeYear y + 3) % 7) / 7 + 1 := by
  have h28 := dayNumber_dec28 y h
  unfold isoWeeksInYear isoWeekOf isoYearWeek
  rw [week1Monday_eq y, week1Monday_eq (y + 1), daysBeforeYear_succ y h, daysInYear_eq_bit] at *
  have hl := leapDay_le y
  obtain ⟨-, h3⟩ := mod7_bounds (daysBeforeYear y)
  obtain ⟨h7', -⟩ := mod7_bounds (daysBeforeYear y + (365 + if leap y then 1 else 0))
  generalize (daysBeforeYear y + 3) % 7 = s at h3 ⊢
  generalize (daysBeforeYear y + (365 + if leap y then 1 else 0) + 3) % 7 = s' at h7' ⊢
  generalize (if leap y then 1 else 0) = l at h28 hl ⊢
  rw [if_neg (by omega), if_neg (by omega)]
  have : dayNumber y 12 28 - (daysBeforeYear y + 4 - s) = 358 + l + s := by omega
  rw [this]

theorem isoWeeksInYear_52_or_53 (y : Nat) (h : 1 ≤ y) :
    isoWeeksInYear y = 52 ∨ isoWeeksInYear y = 53 := by
  rw [isoWeeksInYear_eq y h]
  have hl := leapDay_le y
  obtain ⟨h7, -⟩ := mod7_bounds (daysBeforeYear y)
  generalize (daysBeforeYear y + 3) % 7 = s at h7 ⊢
  generalize (if leap y then 1 else 0) = l at hl ⊢
  omega

/-- A year has 53 ISO weeks iff 1 January is a Thursday, or it is a leap year and
    1 January is a Wednesday. -/
theorem isoWeeksInYear_53_iff_jan1 (y : Nat) (h : 1 ≤ y) :
    isoWeeksInYear y = 53 ↔
      weekday (dayNumber y 1 1) = 4 ∨ (leap y = true ∧ weekday (dayNumber y 1 1) = 3) := by
  rw [isoWeeksInYear_eq y h, dayNumber_jan1]
  simp only [weekday, ← Nat.mod_add_mod (daysBeforeYear y + 3) 7 4]
  obtain ⟨h7, -⟩ := mod7_bounds (daysBeforeYear y)
  generalize (daysBeforeYear y + 3) % 7 = s at h7 ⊢
  cases leap y <;> simp only [Bool.false_eq_true, if_false, if_true, false_and, true_and, or_false] <;> omega

/-- A year has 53 ISO weeks iff 31 December is a Thursday, or it is a leap year and
    31 December is a Friday. -/
theorem isoWeeksInYear_53_iff_dec31 (y : Nat) (h : 1 ≤ y) :
    isoWeeksInYear y = 53 ↔
      weekday (dayNumber y 12 31) = 4 ∨ (leap y = true ∧ weekday (dayNumber y 12 31) = 5) := by
  rw [isoWeeksInYear_eq y h, dayNumber_dec31 y h, daysBeforeYear_succ y h, daysInYear_eq_bit]
  simp only [weekday, mod7_dec31]
  obtain ⟨h7, -⟩ := mod7_bounds (daysBeforeYear y)
  generalize (daysBeforeYear y + 3) % 7 = s at h7 ⊢
  cases leap y <;> simp only [Bool.false_eq_true, if_false, if_true, false_and, true_and, or_false] <;> omega

/-- The weeks of ISO year `y` exactly tile the span between the two week-1 Mondays. -/
theorem isoWeeksInYear_span (y : Nat) (h : 1 ≤ y) :
    week1Monday y + 7 * isoWeeksInYear y = week1Monday (y + 1) := by
  rw [isoWeeksInYear_eq y h, week1Monday_eq, week1Monday_eq, daysBeforeYear_succ y h, daysInYear_eq_bit,
    mod7_next]
  have hl := leapDay_le y
  obtain ⟨h7, h3⟩ := mod7_bounds (daysBeforeYear y)
  generalize (daysBeforeYear y + 3) % 7 = s at h7 h3 ⊢
  generalize (if leap y then 1 else 0) = l at hl ⊢
  omega

theorem week1Monday_next {a b : Nat} (ha : 1 ≤ a) (hab : a < b) :
    week1Monday a + 7 * isoWeeksInYear a ≤ week1Monday b :=
  le_of_steps (fun k hk => (isoWeeksInYear_span k hk).symm) ha hab

/-- 31 December lies in week 1 of the next ISO year iff it is a Monday, Tuesday or Wednesday. -/
theorem dec31InNextWeek1_iff (y : Nat) (h : 1 ≤ y) :
    dec31InNextWeek1 y ↔ weekday (dayNumber y 12 31) ≤ 3 := by
  have h1 : ¬ dayNumber y 12 31 < week1Monday y := by
    rw [dayNumber_dec31 y h, daysBeforeYear_succ y h, daysInYear_eq_bit, week1Monday_eq y]; omega
  unfold dec31InNextWeek1 isoYearWeek
  rw [if_neg h1, dayNumber_dec31 y h, week1Monday_eq (y + 1)]
  simp only [weekday, ← Nat.mod_add_mod (daysBeforeYear (y + 1) + 3) 7 3]
  obtain ⟨h7, h3⟩ := mod7_bounds (daysBeforeYear (y + 1))
  generalize (daysBeforeYear (y + 1) + 3) % 7 = s at h7 h3 ⊢
  split
  · simp only [Prod.mk.injEq, true_and]; omega
  · simp only [Prod.mk.injEq]; omega

/-- A year whose 31 December already belongs to the next ISO year has 52 weeks. -/
theorem isoWeeksInYear_of_dec31InNextWeek1 (y : Nat) (h : 1 ≤ y) (hx : dec31InNextWeek1 y) :
    isoWeeksInYear y = 52 := by
  have h31 := (dec31InNextWeek1_iff y h).1 hx
  have h53 := isoWeeksInYear_53_iff_dec31 y h
  have h52 := isoWeeksInYear_52_or_53 y h
  omega

/-! ### Closed forms for fast evaluation at concrete years
  (the recursive specification walks through every year since year 1, which is slow to
  evaluate in the kernel; these equalities let concrete instances be checked arithmetically) -/

theorem daysBeforeYear_closed (y : Nat) (h : 1 ≤ y) :
    daysBeforeYear y = 365 * (y - 1) + leapsUpTo (y - 1) := by
  obtain ⟨n, rfl⟩ : ∃ n, y = n + 1 := ⟨y - 1, by omega⟩
  rw [daysBeforeYear_succ_closed, Nat.add_sub_cancel]

theorem dayNumber_closed (y m d : Nat) (h : 1 ≤ y) :
    dayNumber y m d = 365 * (y - 1) + leapsUpTo (y - 1) + daysBeforeMonth y m + d := by
  unfold dayNumber; rw [daysBeforeYear_closed y h]

/-- Arithmetic evaluation of `isoWeeksInYear` (proved equal below; used only to check
    concrete instances quickly). -/
def isoWeeksFast (y : Nat) : Nat :=
  (365 * (y - 1) + leapsUpTo (y - 1) + 362 + (if leap y then 1 else 0)
    - (365 * (y - 1) + leapsUpTo (y - 1) + 4 - (365 * (y - 1) + leapsUpTo (y - 1) + 3) % 7)) / 7 + 1

/-- Arithmetic evaluation of the weekday of 31 December. -/
def dec31WeekdayFast (y : Nat) : Nat := (y + leapsUpTo y + 6) % 7 + 1

theorem isoWeeksInYear_of_fast {y k : Nat} (h : 1 ≤ y) (hk : isoWeeksFast y = k) :
    isoWeeksInYear y = k := by
  rw [← hk, isoWeeksFast, ← daysBeforeYear_closed y h, isoWeeksInYear_eq y h]
  obtain ⟨-, h3⟩ := mod7_bounds (daysBeforeYear y)
  generalize (daysBeforeYear y + 3) % 7 = s at h3 ⊢
  rw [show daysBeforeYear y + 362 + (if leap y then 1 else 0) - (daysBeforeYear y + 4 - s) =
    358 + (if leap y then 1 else 0) + s by omega]

theorem dec31InNextWeek1_iff_fast {y : Nat} (h : 1 ≤ y) : dec31InNextWeek1 y ↔ dec31WeekdayFast y ≤ 3 := by
  rw [dec31InNextWeek1_iff y h, weekday_dec31 y h]; rfl

theorem dec31InNextWeek1_of_fast {y : Nat} (h : 1 ≤ y) (hk : dec31WeekdayFast y ≤ 3) :
    dec31InNextWeek1 y := (dec31InNextWeek1_iff_fast h).2 hk

theorem not_dec31InNextWeek1_of_fast {y : Nat} (h : 1 ≤ y) (hk : ¬ dec31WeekdayFast y ≤ 3) :
    ¬ dec31InNextWeek1 y := mt (dec31InNextWeek1_iff_fast h).1 hk

theorem weekday_dayNumber_of_fast {y m d k : Nat} (h : 1 ≤ y)
    (hk : (365 * (y - 1) + leapsUpTo (y - 1) + daysBeforeMonth y m + d + 6) % 7 + 1 = k) :
    weekday (dayNumber y m d) = k := by
  rw [dayNumber_closed y m d h]; exact hk

/-- The ISO week count repeats every 400 years (146097 days = 20871 whole weeks). -/
theorem isoWeeksInYear_period (y : Nat) (h : 1 ≤ y) :
    isoWeeksInYear (y + 400) = isoWeeksInYear y := by
  rw [isoWeeksInYear_eq y h, isoWeeksInYear_eq (y + 400) (by omega), daysBeforeYear_period y h,
    leap_period, show daysBeforeYear y + 146097 + 3 = daysBeforeYear y + 3 + 7 * 20871 by omega,
    Nat.add_mul_mod_self_left]

theorem daysBeforeMonth_next (y : Nat) {m1 m2 : Nat} (h1 : 1 ≤ m1) (h : m1 < m2) :
    daysBeforeMonth y m1 + daysInMonth y m1 ≤ daysBeforeMonth y m2 :=
  le_of_steps (daysBeforeMonth_succ y) h1 h

theorem daysBeforeMonth_le_year (y : Nat) {m : Nat} (h1 : 1 ≤ m) (h : m ≤ 12) :
    daysBeforeMonth y m + daysInMonth y m ≤ daysInYear y :=
  daysBeforeMonth_next y h1 (by omega)

theorem daysBeforeYear_next {y1 y2 : Nat} (h1 : 1 ≤ y1) (h : y1 < y2) :
    daysBeforeYear y1 + daysInYear y1 ≤ daysBeforeYear y2 :=
  le_of_steps daysBeforeYear_succ h1 h

theorem dayNumber_lt_of_lex {y1 m1 d1 y2 m2 d2 : Nat}
    (v1 : validDate y1 m1 d1) (v2 : validDate y2 m2 d2)
    (h : y1 < y2 ∨ (y1 = y2 ∧ (m1 < m2 ∨ (m1 = m2 ∧ d1 < d2)))) :
    dayNumber y1 m1 d1 < dayNumber y2 m2 d2 := by
  obtain ⟨hy1, hm1, hm1', hd1, hd1'⟩ := v1
  obtain ⟨hy2, hm2, hm2', hd2, hd2'⟩ := v2
  unfold dayNumber
  rcases h with h | ⟨rfl, h | ⟨rfl, h⟩⟩
  · have a := daysBeforeYear_next hy1 h
    have b := daysBeforeMonth_le_year y1 hm1 hm1'
    omega
  · have b := daysBeforeMonth_next y1 hm1 h
    omega
  · omega

theorem dayNumber_lt_iff_lex {y1 m1 d1 y2 m2 d2 : Nat}
    (v1 : validDate y1 m1 d1) (v2 : validDate y2 m2 d2) :
    dayNumber y1 m1 d1 < dayNumber y2 m2 d2 ↔
      (y1 < y2 ∨ (y1 = y2 ∧ (m1 < m2 ∨ (m1 = m2 ∧ d1 < d2)))) := by
  constructor
  · intro h
    by_cases hlex : y1 < y2 ∨ (y1 = y2 ∧ (m1 < m2 ∨ (m1 = m2 ∧ d1 < d2)))
    · exact hlex
    · by_cases heq : y1 = y2 ∧ m1 = m2 ∧ d1 = d2
      · obtain ⟨rfl, rfl, rfl⟩ := heq; omega
      · have : y2 < y1 ∨ (y2 = y1 ∧ (m2 < m1 ∨ (m2 = m1 ∧ d2 < d1))) := by omega
        have := dayNumber_lt_of_lex v2 v1 this
        omega
  · exact dayNumber_lt_of_lex v1 v2

theorem dayNumber_inj {y1 m1 d1 y2 m2 d2 : Nat}
    (v1 : validDate y1 m1 d1) (v2 : validDate y2 m2 d2)
    (h : dayNumber y1 m1 d1 = dayNumber y2 m2 d2) : y1 = y2 ∧ m1 = m2 ∧ d1 = d2 := by
  have a := dayNumber_lt_iff_lex v1 v2
  have b := dayNumber_lt_iff_lex v2 v1
  omega

end Spec

namespace Inputs
open Spec

theorem isLeap_eq (y : Nat) : isLeap y = leap y := by
  rw [Bool.eq_iff_iff, leap_iff]
  simp only [isLeap, Bool.or_eq_true, Bool.and_eq_true, beq_iff_eq, bne_iff_ne]

theorem dec31_eq (y : Nat) (h : 1 ≤ y) : dec31 y = weekday (dayNumber y 12 31) := by
  rw [weekday_dec31 y h]
  unfold dec31 leapsUpTo
  rw [Nat.add_sub_assoc (Nat.div_le_div_left (by decide) (by decide)), Nat.add_assoc]
  generalize y / 4 - y / 100 + y / 400 = a
  simp only [beq_iff_eq]
  split <;> omega

end Inputs
end SoupVerif
