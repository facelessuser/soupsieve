/-
  Tree facts relating the zipper walks of `Model/Tree.lean` (and the matcher's `Ctx` walks with
  `no_iframe = False`) to the sets of the standard defined in `Spec/Css.lean`.
-/
import SoupVerif.Spec.Css
import SoupVerif.Lemmas.TreeWalk
namespace SoupVerif
namespace SatTree
open Css

theorem ctx_tagChildren_false (c : Ctx) (l : Loc) : c.tagChildren l false = childElems l := by
  simp [Ctx.tagChildren, Ctx.contents, childElems]
  rfl

theorem ancestorsAux_takeWhile : ∀ (up : List Frame) (n : Node),
    (Loc.ancestorsAux n up).takeWhile (fun p => !p.isDoc) = ancestorElemsAux n up := by
  intro up
  induction up with
  | nil => intro n; simp [Loc.ancestorsAux, ancestorElemsAux]
  | cons f rest ih =>
    intro n
    simp only [Loc.ancestorsAux, ancestorElemsAux, List.takeWhile_cons]
    have hd : (⟨Loc.plug f n, rest⟩ : Loc).isDoc = f.info.isDoc := rfl
    rw [hd, ih]
    cases f.info.isDoc <;> simp

theorem ancestors_takeWhile (l : Loc) :
    l.ancestors.takeWhile (fun p => !p.isDoc) = ancestorElems l :=
  ancestorsAux_takeWhile l.up l.focus

theorem parentElem_eq (l : Loc) :
    parentElem l = (match l.parent? with
      | some p => if p.isDoc then none else some p
      | none => none) := by
  unfold parentElem Loc.parent?
  cases l.up with
  | nil => rfl
  | cons f rest => rfl

theorem descElemsKids_nil (e : Elem) (up : List Frame) (left : List Node) :
    descElemsKids e up left [] = [] := by
  conv => lhs; unfold descElemsKids

theorem descElemsKids_cons (e : Elem) (up : List Frame) (left : List Node) (k : Node)
    (right : List Node) :
    descElemsKids e up left (k :: right) =
      (match k with
       | .elem _ _ => [(⟨k, ⟨left, e, right⟩ :: up⟩ : Loc)]
       | .str _ _ => []) ++
      descElemsNode (⟨left, e, right⟩ :: up) k ++ descElemsKids e up (k :: left) right := by
  cases k <;> (conv => lhs; unfold descElemsKids)

theorem descElemsNode_elem (up : List Frame) (e : Elem) (ks : List Node) :
    descElemsNode up (.elem e ks) = descElemsKids e up [] ks := by
  conv => lhs; unfold descElemsNode

theorem descElemsNode_str (up : List Frame) (k : StrKind) (s : Str) :
    descElemsNode up (.str k s) = [] := by
  conv => lhs; unfold descElemsNode

theorem descElems_eq :
    (∀ (e : Elem) (up : List Frame) (left ks : List Node),
        descElemsKids e up left ks = (descAux (fun _ => true) e up left ks).filter Loc.isTag) ∧
    (∀ (n : Node) (up : List Frame) (self : Loc),
        descElemsNode up n = (descNode (fun _ => true) n up self).filter Loc.isTag) := by
  apply descAux.mutual_induct (fun _ => true)
    (fun e up left ks =>
      descElemsKids e up left ks = (descAux (fun _ => true) e up left ks).filter Loc.isTag)
    (fun n up self =>
      descElemsNode up n = (descNode (fun _ => true) n up self).filter Loc.isTag)
  · intro up self e ks _ ih
    rw [descNode_elem, descElemsNode_elem, if_pos rfl]; exact ih
  · intro up self e ks hent
    exact absurd rfl hent
  · intro up self k s
    rw [descNode_str, descElemsNode_str]; rfl
  · intro e up left
    rw [descAux_nil, descElemsKids_nil]; rfl
  · intro e up left k right here ih2 ih1
    rw [descAux_cons, descElemsKids_cons, ih1, ih2]
    cases k with
    | elem e' ks' => simp [List.filter_cons, Loc.isTag, Node.isTag, here]
    | str sk s => simp [Loc.isTag, Node.isTag, here]

theorem descendantElems_eq (l : Loc) :
    descendantElems l = (l.descendants (fun _ => true)).filter Loc.isTag := by
  unfold descendantElems Loc.descendants
  cases hf : l.focus with
  | elem e ks =>
    simp only
    rw [descElemsNode_elem]; exact descElems_eq.1 e l.up [] ks
  | str k s => simp only; rw [descElemsNode_str]; rfl

theorem ctx_tagDescendants_false (c : Ctx) (l : Loc) :
    c.tagDescendants l false = descendantElems l := by
  rw [descendantElems_eq, Ctx.tagDescendants, Ctx.descendants_false]

theorem ancestorElemsAux_isElem (up : List Frame) (n : Node) (t : Loc) (h : t ∈ ancestorElemsAux n up) :
    isElem t = true := by
  rw [← ancestorsAux_takeWhile] at h
  obtain ⟨te, hte⟩ := C17.ancestorsAux_elem up n t ((List.takeWhile_sublist _).mem h)
  unfold isElem Node.isTag
  unfold Loc.elem? Node.elem? at hte
  split at hte <;> simp_all

theorem parentElem_mem_ancestorElems (l t : Loc) (h : parentElem l = some t) : t ∈ ancestorElems l := by
  obtain ⟨n, up⟩ := l
  cases up with
  | nil => simp [parentElem] at h
  | cons f rest =>
    simp only [parentElem, ancestorElems, ancestorElemsAux] at h ⊢
    split at h
    · simp at h
    · rename_i hd
      rw [if_neg hd, ← Option.some.inj h]
      exact List.mem_cons_self ..

theorem leftOf_step (k : Comb) (l t : Loc) (h : t ∈ leftOf k l) :
    isElem t = true ∧ (t ∈ l.ancestors ∨ t ∈ l.prevSiblings) := by
  have anc : t ∈ ancestorElems l → isElem t = true ∧ (t ∈ l.ancestors ∨ t ∈ l.prevSiblings) := fun ha =>
    ⟨ancestorElemsAux_isElem _ _ t ha, Or.inl ((List.takeWhile_sublist _).mem (ancestors_takeWhile l ▸ ha))⟩
  have sib : t ∈ precedingElemSiblings l → isElem t = true ∧ (t ∈ l.ancestors ∨ t ∈ l.prevSiblings) := fun hs =>
    ⟨(List.mem_filter.mp hs).2, Or.inr (List.mem_filter.mp hs).1⟩
  cases k with
  | desc => exact anc h
  | child => exact anc (parentElem_mem_ancestorElems l t (Option.mem_toList.mp h))
  | sib => exact sib h
  | adj => exact sib (mem_head?_toList h)

theorem rightOf_step (k : Comb) (l t : Loc) (h : t ∈ rightOf k l) :
    isElem t = true ∧ (IsDesc l t ∨ t ∈ l.nextSiblings) := by
  have sib : t ∈ followingElemSiblings l → isElem t = true ∧ (IsDesc l t ∨ t ∈ l.nextSiblings) := fun hs =>
    ⟨(List.mem_filter.mp hs).2, Or.inr (List.mem_filter.mp hs).1⟩
  cases k with
  | desc =>
    simp only [rightOf, descendantElems_eq, List.mem_filter] at h
    exact ⟨h.2, Or.inl (Loc.descendants_sound _ l t h.1)⟩
  | child => exact ⟨(List.mem_filter.mp h).2, Or.inl (IsDesc.child (List.mem_filter.mp h).1)⟩
  | sib => exact sib h
  | adj => exact sib (mem_head?_toList h)

theorem leftOf_isElem (k : Comb) (l t : Loc) (h : t ∈ leftOf k l) : isElem t = true := (leftOf_step k l t h).1

theorem rightOf_isElem (k : Comb) (l t : Loc) (h : t ∈ rightOf k l) : isElem t = true := (rightOf_step k l t h).1

theorem Closed.leftOf {P} (hP : Closed P) (k : Comb) (l t : Loc) (hl : P l) (h : t ∈ leftOf k l) :
    P t :=
  (leftOf_step k l t h).2.elim (hP.ancestors l t hl) (fun hs => hP.sibling l t hl (Or.inl hs))

theorem Closed.rightOf {P} (hP : Closed P) (k : Comb) (l t : Loc) (hl : P l) (h : t ∈ rightOf k l) :
    P t :=
  (rightOf_step k l t h).2.elim (fun hd => hP.isDesc hd hl) (fun hs => hP.sibling l t hl (Or.inr hs))

end SatTree
end SoupVerif
