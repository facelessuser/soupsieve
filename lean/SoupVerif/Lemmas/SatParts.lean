/-
  What appending one simple selector to the builder (`Css.addSimple`) does to the matcher's verdict,
  field by field; for a leaf (`#v`, `.v`, an attribute selector): its CSS reading, with no hypothesis on tree or
  context (`LeafOK`, `partsOk_leaf`).
-/
import SoupVerif.Lemmas.SatLeaf
import SoupVerif.Lemmas.SatNth
namespace SoupVerif
namespace SatParts
open Css SatTree SatCore SatLeaf SatNth

variable (c : Ctx) (l : Loc) (e : Elem) (p : Parts)

theorem partsOk_ids (v : Str) :
    partsOk c l e { p with ids := p.ids ++ [v] } = (partsOk c l e p && matchId c e [v]) := by
  simp only [partsOk, matchId_append]
  ac_rfl

theorem partsOk_classes (v : Str) :
    partsOk c l e { p with classes := p.classes ++ [v] } =
      (partsOk c l e p && matchClasses c e [v]) := by
  simp only [partsOk, matchClasses_append]
  ac_rfl

theorem partsOk_attrs (a : AttrSel) :
    partsOk c l e { p with attrs := p.attrs ++ [a] } =
      (partsOk c l e p && matchAttributes c e [a]) := by
  simp only [partsOk, C11.matchAttributes_append]
  ac_rfl

theorem partsOk_subs (s : SelList) :
    partsOk c l e { p with subs := p.subs ++ [s] } = (partsOk c l e p && matchList c l e s) := by
  simp only [partsOk, matchSubs_append, matchSubs_cons, matchSubs_nil, Bool.and_true]
  ac_rfl

theorem partsOk_nth (ns : List NthSel) :
    partsOk c l e { p with nth := p.nth ++ ns } = (partsOk c l e p && matchNths c l e ns) := by
  simp only [partsOk, matchNths_append]
  ac_rfl

theorem partsOk_root (hp : p.flags < 4) :
    partsOk c l e { p with flags := p.flags ||| SEL_ROOT } = (partsOk c l e p && matchRoot c l) := by
  obtain ⟨_, h2, h3⟩ := flags_or_root p.flags hp
  simp only [partsOk, h2, h3]
  generalize matchRoot c l = r
  generalize hasFlag p.flags SEL_ROOT = a
  cases r <;> cases a <;> simp

theorem partsOk_empty (hp : p.flags < 4) :
    partsOk c l e { p with flags := p.flags ||| SEL_EMPTY } = (partsOk c l e p && matchEmpty l) := by
  obtain ⟨_, h2, h3⟩ := flags_or_empty p.flags hp
  simp only [partsOk, h2, h3]
  generalize matchEmpty l = r
  generalize hasFlag p.flags SEL_EMPTY = a
  generalize (!hasFlag p.flags SEL_ROOT || matchRoot c l) = a1
  generalize matchNths c l e p.nth = a2
  cases r <;> cases a <;> cases a1 <;> cases a2 <;> simp

omit c l e in
theorem addSimple_attr_flags (ns name : Str) (test : Option AttrTest) :
    (addSimple p (.attr ns name test)).flags = p.flags := by
  simp only [addSimple]
  split <;> (try split) <;> rfl

/-- What the matcher checks for one attribute selector appended to the builder: the CSS reading
    `Css.satAttr` (SOME designated attribute passes the value test; `!=` is the negation of `=`). -/
theorem partsOk_attr (hT : TemplatesOk c.env) (ns name : Str) (test : Option AttrTest)
    (hfold : ∀ t, test = some t → caseInsensitive c name t.flag = true → c.env.fold = lowerCp) :
    partsOk c l e (addSimple p (.attr ns name test)) = (partsOk c l e p && satAttr c e ns name test) := by
  cases test with
  | none =>
    simp only [addSimple, Bool.false_eq_true, if_false]
    rw [partsOk_attrs, attr_presence]
  | some t =>
    cases hop : (t.op == AttrOp.ne) with
    | true =>
      simp only [addSimple, hop, if_true]
      rw [partsOk_subs, attr_ne_sub, attr_neg c e ns name t hT (hfold t rfl) hop]
    | false =>
      simp only [addSimple, hop, Bool.false_eq_true, if_false]
      rw [partsOk_attrs, attr_pos c e ns name t hT (hfold t rfl) hop]

/-- What the matcher needs of a leaf (`#v`, `.v`, an attribute selector) to read it as the specification does: an id
    is not empty, a case-INSENSITIVE attribute comparison has an ASCII-folding matcher environment. -/
def LeafOK (c : Ctx) : Simple → Prop
  | .id v => v ≠ []
  | .cls _ => True
  | .attr _ name test => ∀ t, test = some t → caseInsensitive c name t.flag = true → c.env.fold = lowerCp
  | _ => False

omit l e in
theorem addSimple_leaf_flags (s : Simple) (h : LeafOK c s) : (addSimple p s).flags = p.flags := by
  cases s with
  | id v => rfl
  | cls v => rfl
  | attr ns name test => exact addSimple_attr_flags p ns name test
  | _ => exact absurd h (by simp [LeafOK])

/-- A leaf appended to the builder: one more conjunct, its CSS reading.  No hypothesis on the tree or the context
    beyond `LeafOK` (the leaf cases of `SatMain.simple_ok`, which carry the hypotheses the relational cases need). -/
theorem partsOk_leaf (hT : TemplatesOk c.env) (s : Simple) (h : LeafOK c s) :
    partsOk c l e (addSimple p s) = (partsOk c l e p && satSimple c l e s) := by
  cases s with
  | id v =>
    simp only [addSimple, satSimple]
    rw [partsOk_ids, id_single c e v h]
  | cls v =>
    simp only [addSimple, satSimple]
    rw [partsOk_classes, class_single]
  | attr ns name test =>
    rw [partsOk_attr c l e p hT ns name test h]
    simp only [satSimple]
  | _ => exact absurd h (by simp [LeafOK])

theorem partsOk_init : partsOk c l e {} = true := by
  simp [partsOk, hasFlag, matchNths_nil, matchId_nil, matchClasses_nil, matchSubs_nil,
    C11.matchAttributes_nil]

end SatParts
end SoupVerif
