/-
  Facts about the tree walks of `Model/Tree.lean`: positions of children, descendants and ancestors; parent,
  children and siblings of one location; reachability (`IsDesc`, `IsDescVia`); sets of locations closed under the
  tree steps (`SatTree.Closed`), the tree below a top (`in_tree`, `top_eq_iff`), the locations of one document
  (`MemoLemmas.InDoc`: equal positions, equal locations).
-/
import SoupVerif.Model.Match
import SoupVerif.Lemmas.List
namespace SoupVerif

/-- Position denoted by a frame stack. -/
def posOf (up : List Frame) : List Nat := (up.map (fun f => f.left.length)).reverse

theorem Loc.pos_eq_posOf (l : Loc) : l.pos = posOf l.up := rfl

theorem posOf_nil : posOf [] = [] := rfl

theorem posOf_cons (f : Frame) (up : List Frame) : posOf (f :: up) = posOf up ++ [f.left.length] := by
  simp [posOf]

theorem posOf_length (up : List Frame) : (posOf up).length = up.length := by simp [posOf]

theorem Loc.pos_length (l : Loc) : l.pos.length = l.up.length := posOf_length l.up

/-- Document order on positions: lexicographic, a proper prefix (an ancestor) comes first.
    This is core's `<` on `List Nat`. -/
def lexLt (p q : List Nat) : Prop := p < q

instance : DecidableRel lexLt := fun p q => inferInstanceAs (Decidable (p < q))

theorem lexLt_irrefl (p : List Nat) : ¬ lexLt p p := List.lt_irrefl p

theorem lexLt_trans {p q r : List Nat} (h1 : lexLt p q) (h2 : lexLt q r) : lexLt p r :=
  List.lt_trans h1 h2

theorem lexLt_ne {p q : List Nat} (h : lexLt p q) : p ≠ q := fun he => lexLt_irrefl q (he ▸ h)

theorem lexLt_prefix (B : List Nat) (i : Nat) (s : List Nat) : lexLt B (B ++ i :: s) := by
  have : B ++ [] < B ++ i :: s := List.append_left_lt (List.nil_lt_cons i s)
  simpa [lexLt] using this

theorem lexLt_branch (B : List Nat) {n i : Nat} (s t : List Nat) (h : n < i) :
    lexLt (B ++ n :: s) (B ++ i :: t) :=
  List.append_left_lt (List.cons_lt_cons_iff.mpr (Or.inl h))

theorem childrenAux_length (e : Elem) (up : List Frame) :
    ∀ (ks left : List Node), (Loc.childrenAux e up left ks).length = ks.length := by
  intro ks
  induction ks with
  | nil => intro left; simp [Loc.childrenAux]
  | cons k right ih => intro left; simp [Loc.childrenAux, ih]

theorem childrenAux_focus (e : Elem) (up : List Frame) :
    ∀ (ks left : List Node), (Loc.childrenAux e up left ks).map Loc.focus = ks := by
  intro ks
  induction ks with
  | nil => intro left; simp [Loc.childrenAux]
  | cons k right ih => intro left; simp [Loc.childrenAux, ih]

theorem childrenAux_pos (e : Elem) (up : List Frame) :
    ∀ (ks left : List Node) (k : Nat) (ch : Loc),
      (Loc.childrenAux e up left ks)[k]? = some ch → ch.pos = posOf up ++ [left.length + k] := by
  intro ks
  induction ks with
  | nil => intro left k ch h; simp [Loc.childrenAux] at h
  | cons k0 right ih =>
    intro left k ch h
    cases k with
    | zero =>
      simp [Loc.childrenAux] at h
      subst h
      simp [Loc.pos_eq_posOf, posOf_cons]
    | succ k =>
      simp only [Loc.childrenAux, List.getElem?_cons_succ] at h
      have := ih (k0 :: left) k ch h
      rw [this]
      simp only [List.length_cons]
      congr 2
      omega

theorem childrenAux_mem (e : Elem) (up : List Frame) :
    ∀ (ks left : List Node) (ch : Loc), ch ∈ Loc.childrenAux e up left ks →
      ∃ f, ch.up = f :: up ∧ f.info = e ∧ left.length ≤ f.left.length := by
  intro ks
  induction ks with
  | nil => intro left ch h; simp [Loc.childrenAux] at h
  | cons k0 right ih =>
    intro left ch h
    simp only [Loc.childrenAux, List.mem_cons] at h
    rcases h with rfl | h
    · exact ⟨_, rfl, rfl, Nat.le_refl _⟩
    · obtain ⟨f, h1, h2, h3⟩ := ih (k0 :: left) ch h
      exact ⟨f, h1, h2, by simp at h3; omega⟩

theorem Loc.children_pos (l : Loc) (k : Nat) (ch : Loc) (h : l.children[k]? = some ch) :
    ch.pos = l.pos ++ [k] := by
  unfold Loc.children at h
  split at h
  · have := childrenAux_pos _ _ _ _ _ _ h
    simpa [Loc.pos_eq_posOf] using this
  · simp at h

theorem Loc.children_pos_get (l : Loc) (k : Nat) (hk : k < l.children.length) :
    (l.children[k]).pos = l.pos ++ [k] :=
  l.children_pos k _ (List.getElem?_eq_getElem hk)

theorem Loc.children_focus (l : Loc) : l.children.map Loc.focus = l.focus.kids := by
  unfold Loc.children Node.kids
  split <;> simp_all [childrenAux_focus]

theorem Loc.children_up (l : Loc) (ch : Loc) (h : ch ∈ l.children) : ∃ f, ch.up = f :: l.up := by
  unfold Loc.children at h
  split at h
  · obtain ⟨f, hf, _⟩ := childrenAux_mem _ _ _ _ _ h; exact ⟨f, hf⟩
  · simp at h

/-- Invariant of a stretch of the pre-order walk below the frame stack `up` (`base = posOf up`),
    starting at child index `lo`. -/
structure Below (base : List Nat) (lo : Nat) (L : List Loc) : Prop where
  shape : ∀ d ∈ L, ∃ i s, lo ≤ i ∧ d.pos = base ++ i :: s
  sorted : L.Pairwise (fun a b => lexLt a.pos b.pos)

theorem Below.nil (base : List Nat) (lo : Nat) : Below base lo [] :=
  ⟨by intro d h; simp at h, List.Pairwise.nil⟩

theorem descNode_elem (enter : Loc → Bool) (e : Elem) (ks : List Node) (up : List Frame) (self : Loc) :
    descNode enter (.elem e ks) up self = if enter self then descAux enter e up [] ks else [] := by
  conv => lhs; unfold descNode

theorem descNode_str (enter : Loc → Bool) (k : StrKind) (s : Str) (up : List Frame) (self : Loc) :
    descNode enter (.str k s) up self = [] := by
  conv => lhs; unfold descNode

theorem descAux_nil (enter : Loc → Bool) (e : Elem) (up : List Frame) (left : List Node) :
    descAux enter e up left [] = [] := by
  conv => lhs; unfold descAux

theorem descAux_cons (enter : Loc → Bool) (e : Elem) (up : List Frame) (left : List Node) (k : Node)
    (right : List Node) :
    descAux enter e up left (k :: right) =
      (⟨k, ⟨left, e, right⟩ :: up⟩ :: descNode enter k (⟨left, e, right⟩ :: up) ⟨k, ⟨left, e, right⟩ :: up⟩)
        ++ descAux enter e up (k :: left) right := by
  conv => lhs; unfold descAux

theorem desc_below (enter : Loc → Bool) :
    (∀ (e : Elem) (up : List Frame) (left ks : List Node),
        Below (posOf up) left.length (descAux enter e up left ks)) ∧
    (∀ (n : Node) (up : List Frame) (self : Loc), Below (posOf up) 0 (descNode enter n up self)) := by
  apply descAux.mutual_induct enter
    (fun e up left ks => Below (posOf up) left.length (descAux enter e up left ks))
    (fun n up self => Below (posOf up) 0 (descNode enter n up self))
  · intro up self e ks hent ih
    rw [descNode_elem, if_pos hent]; exact ih
  · intro up self e ks hent
    rw [descNode_elem, if_neg hent]; exact Below.nil _ _
  · intro up self k s
    rw [descNode_str]; exact Below.nil _ _
  · intro e up left
    rw [descAux_nil]; exact Below.nil _ _
  · intro e up left k right here ih2 ih1
    rw [descAux_cons]
    rw [posOf_cons] at ih2
    simp only [List.length_cons] at ih1
    have hhere : here.pos = posOf up ++ [left.length] := by
      simp [here, Loc.pos_eq_posOf, posOf_cons]
    have shapeN : ∀ d ∈ descNode enter k (⟨left, e, right⟩ :: up) here,
        ∃ s, d.pos = posOf up ++ left.length :: s ∧ s ≠ [] := by
      intro d hd
      obtain ⟨i, s, _, hp⟩ := ih2.shape d hd
      exact ⟨i :: s, by simpa using hp, by simp⟩
    constructor
    · intro d hd
      simp only [List.cons_append, List.mem_cons, List.mem_append] at hd
      rcases hd with rfl | hd | hd
      · exact ⟨left.length, [], Nat.le_refl _, hhere⟩
      · obtain ⟨s, hp, _⟩ := shapeN d hd
        exact ⟨left.length, s, Nat.le_refl _, hp⟩
      · obtain ⟨i, s, hi, hp⟩ := ih1.shape d hd
        exact ⟨i, s, by omega, hp⟩
    · simp only [List.cons_append, List.pairwise_cons, List.pairwise_append, List.mem_append]
      refine ⟨?_, ih2.sorted, ih1.sorted, ?_⟩
      · intro a ha
        rcases ha with ha | ha
        · obtain ⟨s, hp, hs⟩ := shapeN a ha
          rw [hhere, hp]
          cases s with
          | nil => exact absurd rfl hs
          | cons i s =>
            have := lexLt_prefix (posOf up ++ [left.length]) i s
            simpa using this
        · obtain ⟨i, s, hi, hp⟩ := ih1.shape a ha
          rw [hhere, hp]
          exact lexLt_branch (posOf up) [] s (by omega)
      · intro a ha b hb
        obtain ⟨s, hp, _⟩ := shapeN a ha
        obtain ⟨i, t, hi, hq⟩ := ih1.shape b hb
        rw [hp, hq]
        exact lexLt_branch (posOf up) s t (by omega)

/-- The walk `Loc.descendants enter l` visits positions `l.pos ++ i :: s`, in strictly increasing
    document order. -/
theorem Loc.descendants_below (enter : Loc → Bool) (l : Loc) : Below l.pos 0 (l.descendants enter) := by
  unfold Loc.descendants
  split
  · rename_i e ks _
    exact (desc_below enter).1 e l.up [] ks
  · exact Below.nil _ _

theorem descAux_eq_flatMap (enter : Loc → Bool) (e : Elem) (up : List Frame) :
    ∀ (ks left : List Node), descAux enter e up left ks =
      (Loc.childrenAux e up left ks).flatMap (fun ch => ch :: descNode enter ch.focus ch.up ch) := by
  intro ks
  induction ks with
  | nil => intro left; simp [descAux_nil, Loc.childrenAux]
  | cons k right ih =>
    intro left
    rw [descAux_cons, ih]
    simp [Loc.childrenAux]

theorem descNode_self (enter : Loc → Bool) (ch : Loc) :
    descNode enter ch.focus ch.up ch = if enter ch then ch.descendants enter else [] := by
  unfold Loc.descendants
  cases h : ch.focus with
  | elem e ks => simp [descNode_elem]
  | str k s => simp [descNode_str]

/-- The recursive equation of the pre-order walk: each child, followed (when `enter` allows) by
    that child's own descendants. -/
theorem Loc.descendants_unfold (enter : Loc → Bool) (l : Loc) :
    l.descendants enter =
      l.children.flatMap (fun ch => ch :: if enter ch then ch.descendants enter else []) := by
  have hfun : (fun ch : Loc => ch :: descNode enter ch.focus ch.up ch) =
      (fun ch => ch :: if enter ch then ch.descendants enter else []) := by
    funext ch; rw [descNode_self]
  conv => lhs; unfold Loc.descendants
  unfold Loc.children
  split
  · rename_i e ks hf
    simp only [hf]
    rw [descAux_eq_flatMap, hfun]
  · rename_i k s hf
    simp [hf]

/-- Reachability by `children` steps (one or more). -/
inductive IsDesc : Loc → Loc → Prop where
  | child {l ch : Loc} : ch ∈ l.children → IsDesc l ch
  | step {l ch d : Loc} : ch ∈ l.children → IsDesc ch d → IsDesc l d

theorem IsDesc.snoc {a b ch : Loc} (h : IsDesc a b) (hc : ch ∈ b.children) : IsDesc a ch := by
  induction h with
  | child h1 => exact IsDesc.step h1 (IsDesc.child hc)
  | step h1 _ ih => exact IsDesc.step h1 (ih hc)

theorem IsDesc.mem_descendants {l d : Loc} (h : IsDesc l d) : d ∈ l.descendants (fun _ => true) := by
  induction h with
  | child hc =>
    rw [Loc.descendants_unfold]
    exact List.mem_flatMap.mpr ⟨_, hc, by simp⟩
  | step hc _ ih =>
    rw [Loc.descendants_unfold]
    exact List.mem_flatMap.mpr ⟨_, hc, by simp [ih]⟩

namespace StateLaws

/-- Reachability by `children` steps that never passes *through* a location rejected by `enter`
    (the end point itself may be rejected: an iframe is yielded, its content is not). -/
inductive IsDescVia (enter : Loc → Bool) : Loc → Loc → Prop where
  | child {l ch : Loc} : ch ∈ l.children → IsDescVia enter l ch
  | step {l ch d : Loc} : ch ∈ l.children → enter ch = true → IsDescVia enter ch d → IsDescVia enter l d

theorem IsDescVia.isDesc {enter : Loc → Bool} {l d : Loc} (h : IsDescVia enter l d) : IsDesc l d := by
  induction h with
  | child hc => exact .child hc
  | step hc _ _ ih => exact .step hc ih

def nodeSize : Node → Nat
  | .elem _ ks => 1 + nodeSizes ks
  | .str _ _ => 1
where nodeSizes : List Node → Nat
  | [] => 0
  | k :: ks => nodeSize k + nodeSizes ks

theorem nodeSizes_mem {k : Node} {ks : List Node} (h : k ∈ ks) : nodeSize k ≤ nodeSize.nodeSizes ks := by
  induction ks with
  | nil => cases h
  | cons x xs ih =>
    rw [nodeSize.nodeSizes]
    rcases List.mem_cons.mp h with rfl | h'
    · omega
    · have := ih h'; omega

theorem child_smaller {l ch : Loc} (h : ch ∈ l.children) : nodeSize ch.focus < nodeSize l.focus := by
  have hf : ch.focus ∈ l.focus.kids := by
    rw [← Loc.children_focus]; exact List.mem_map_of_mem h
  cases hl : l.focus with
  | str k s => rw [hl] at hf; cases hf
  | elem e ks =>
    rw [hl] at hf
    simp only [Node.kids] at hf
    have := nodeSizes_mem hf
    rw [nodeSize]; omega

theorem descendants_via (enter : Loc → Bool) :
    ∀ (n : Nat) (l d : Loc), nodeSize l.focus ≤ n → d ∈ l.descendants enter → IsDescVia enter l d := by
  intro n
  induction n with
  | zero =>
    intro l d hn
    cases hl : l.focus <;> rw [hl, nodeSize] at hn <;> omega
  | succ n ih =>
    intro l d hn hd
    rw [Loc.descendants_unfold] at hd
    obtain ⟨ch, hch, hmem⟩ := List.mem_flatMap.mp hd
    rcases List.mem_cons.mp hmem with rfl | hrest
    · exact .child hch
    · cases hent : enter ch with
      | false => rw [hent] at hrest; simp at hrest
      | true =>
        rw [hent] at hrest
        have hlt := child_smaller hch
        exact .step hch hent (ih ch d (by omega) hrest)

end StateLaws

theorem Loc.descendants_sound (enter : Loc → Bool) (l d : Loc) (h : d ∈ l.descendants enter) :
    IsDesc l d :=
  (StateLaws.descendants_via enter _ l d (Nat.le_refl _) h).isDesc

/-- The unrestricted walk (the one `select` uses) yields exactly what `children` steps reach. -/
theorem Loc.mem_descendants_iff (l d : Loc) : d ∈ l.descendants (fun _ => true) ↔ IsDesc l d :=
  ⟨l.descendants_sound _ d, IsDesc.mem_descendants⟩

theorem ancestorsAux_spec : ∀ (up : List Frame) (n : Node) (a : Loc), a ∈ Loc.ancestorsAux n up →
    ∃ s, s ≠ [] ∧ posOf up = a.pos ++ s := by
  intro up
  induction up with
  | nil => intro n a h; simp [Loc.ancestorsAux] at h
  | cons f rest ih =>
    intro n a h
    simp only [Loc.ancestorsAux, List.mem_cons] at h
    rcases h with rfl | h
    · exact ⟨[f.left.length], by simp, by simp [posOf_cons, Loc.pos_eq_posOf]⟩
    · obtain ⟨s, hs, hp⟩ := ih _ a h
      exact ⟨s ++ [f.left.length], by simp, by rw [posOf_cons, hp, List.append_assoc]⟩

theorem Loc.ancestors_pos (l a : Loc) (h : a ∈ l.ancestors) : ∃ s, s ≠ [] ∧ l.pos = a.pos ++ s :=
  ancestorsAux_spec l.up l.focus a h

theorem C17.ancestorsAux_elem : ∀ (up : List Frame) (n : Node) (p : Loc), p ∈ Loc.ancestorsAux n up →
    ∃ pe, p.elem? = some pe
  | [], _, p, h => by simp [Loc.ancestorsAux] at h
  | f :: rest, n, p, h => by
    unfold Loc.ancestorsAux at h
    rcases List.mem_cons.mp h with rfl | h'
    · exact ⟨f.info, rfl⟩
    · exact C17.ancestorsAux_elem rest _ p h'

theorem Ctx.ancestorsCut_false (c : Ctx) : ∀ L : List Loc, c.ancestorsCut false L = L
  | [] => rfl
  | p :: ps => by unfold Ctx.ancestorsCut; rw [Ctx.ancestorsCut_false c ps]; rfl

theorem ancestorsAux_length : ∀ (up : List Frame) (n : Node), (Loc.ancestorsAux n up).length = up.length := by
  intro up
  induction up with
  | nil => intro n; simp [Loc.ancestorsAux]
  | cons f rest ih => intro n; simp [Loc.ancestorsAux, ih]

theorem ancestorsAux_get : ∀ (up : List Frame) (n : Node) (i : Nat) (a : Loc),
    (Loc.ancestorsAux n up)[i]? = some a → a.up = up.drop (i + 1) := by
  intro up
  induction up with
  | nil => intro n i a h; simp [Loc.ancestorsAux] at h
  | cons f rest ih =>
    intro n i a h
    cases i with
    | zero => simp [Loc.ancestorsAux] at h; subst h; simp
    | succ i =>
      simp only [Loc.ancestorsAux, List.getElem?_cons_succ] at h
      simpa using ih _ i a h

theorem ancestorsAux_getLast : ∀ (up : List Frame) (n : Node) (a : Loc),
    (Loc.ancestorsAux n up).getLast? = some a → a.up = [] := by
  intro up n a h
  rw [List.getLast?_eq_getElem?, ancestorsAux_length] at h
  have := ancestorsAux_get up n _ a h
  rw [this]
  cases up with
  | nil => simp
  | cons f rest => simp

theorem Loc.top_up (l : Loc) : l.top.up = [] := by
  unfold Loc.top Loc.ancestors
  cases h : (Loc.ancestorsAux l.focus l.up).getLast? with
  | some a => exact ancestorsAux_getLast _ _ a h
  | none =>
    simp only [Option.getD_none]
    have := congrArg List.length (List.getLast?_eq_none_iff.mp h)
    rw [ancestorsAux_length] at this
    exact List.eq_nil_of_length_eq_zero this

theorem Loc.top_of_up_nil (l : Loc) (h : l.up = []) : l.top = l := by
  unfold Loc.top Loc.ancestors
  rw [h]; simp [Loc.ancestorsAux]

/-- `tag is doc` (the top reached by `.parent`) iff `tag` has no parent. -/
theorem Loc.same_top_iff (l : Loc) : l.same l.top = true ↔ l.up = [] := by
  unfold Loc.same
  rw [beq_iff_eq]
  constructor
  · intro h
    have := congrArg List.length h
    rw [Loc.pos_length, Loc.pos_length, Loc.top_up] at this
    exact List.eq_nil_of_length_eq_zero this
  · intro h; rw [Loc.top_of_up_nil l h]

theorem Loc.same_iff (a b : Loc) : a.same b = true ↔ a.pos = b.pos := by
  unfold Loc.same; exact beq_iff_eq

/-- The matcher's walk `get_descendants(el, no_iframe)` visits positions below `l`, in document order
    (it is empty on a restricted iframe, else the plain walk with the iframe cut). -/
theorem Ctx.descendants_below (c : Ctx) (l : Loc) (ni : Bool) : Below l.pos 0 (c.descendants l ni) := by
  unfold Ctx.descendants
  split
  · exact Below.nil _ _
  · exact l.descendants_below _

/-- `select`'s walk (`no_iframe = False`) is the unrestricted pre-order walk. -/
theorem Ctx.descendants_false (c : Ctx) (l : Loc) :
    c.descendants l false = l.descendants (fun _ => true) := by
  unfold Ctx.descendants
  simp

theorem Ctx.tagDescendants_sublist (c : Ctx) (l : Loc) (ni : Bool) :
    (c.tagDescendants l ni).Sublist (c.descendants l ni) := List.filter_sublist

/-- `match` accepts only elements, never the document object. -/
theorem matchEl_true (c : Ctx) (sel : SelList) (l : Loc) (h : matchEl c sel l = true) :
    l.isTag = true ∧ l.isDoc = false := by
  unfold matchEl at h
  unfold Loc.isTag Node.isTag Loc.isDoc
  split at h <;> simp_all

namespace SatTree

theorem childrenAux_eq_nextSiblingsAux (e : Elem) (up : List Frame) :
    ∀ (R L : List Node), Loc.childrenAux e up L R = Loc.nextSiblingsAux e up L R := by
  intro R
  induction R with
  | nil => intro L; simp [Loc.childrenAux, Loc.nextSiblingsAux]
  | cons k R ih => intro L; simp [Loc.childrenAux, Loc.nextSiblingsAux, ih]

theorem childrenAux_split (e : Elem) (up : List Frame) :
    ∀ (left right : List Node),
      Loc.childrenAux e up [] (left.reverse ++ right) =
        (Loc.prevSiblingsAux e up left right).reverse ++ Loc.childrenAux e up left right := by
  intro left
  induction left with
  | nil => intro right; simp [Loc.prevSiblingsAux]
  | cons p left ih =>
    intro right
    have := ih (p :: right)
    simp only [List.reverse_cons, List.append_assoc, List.singleton_append]
    rw [this]
    simp [Loc.prevSiblingsAux, Loc.childrenAux]

/-- The parent's children list is: previous siblings (reversed: `prevSiblings` is nearest-first),
    the node itself, next siblings.  Structural equality of `Loc`s. -/
theorem parent_children (l : Loc) (f : Frame) (rest : List Frame) (h : l.up = f :: rest) :
    (⟨Loc.plug f l.focus, rest⟩ : Loc).children = l.prevSiblings.reverse ++ l :: l.nextSiblings := by
  obtain ⟨n, up⟩ := l
  simp only at h
  subst h
  obtain ⟨fl, fe, fr⟩ := f
  simp only [Loc.children, Loc.plug, Loc.prevSiblings, Loc.nextSiblings]
  rw [childrenAux_split]
  simp [Loc.childrenAux, childrenAux_eq_nextSiblingsAux]

theorem parent?_children (l p : Loc) (h : l.parent? = some p) :
    p.children = l.prevSiblings.reverse ++ l :: l.nextSiblings := by
  unfold Loc.parent? at h
  split at h
  · simp at h
  · rename_i f rest hu
    simp only [Option.some.injEq] at h
    subst h
    exact parent_children l f rest hu

theorem childrenAux_shape (e : Elem) (up : List Frame) :
    ∀ (ks acc : List Node) (ch : Loc), ch ∈ Loc.childrenAux e up acc ks →
      ∃ k left right, ch = ⟨k, ⟨left, e, right⟩ :: up⟩ ∧
        left.reverse ++ k :: right = acc.reverse ++ ks := by
  intro ks
  induction ks with
  | nil => intro acc ch h; simp [Loc.childrenAux] at h
  | cons k0 right ih =>
    intro acc ch h
    simp only [Loc.childrenAux, List.mem_cons] at h
    rcases h with rfl | h
    · exact ⟨k0, acc, right, rfl, rfl⟩
    · obtain ⟨k, left, r, h1, h2⟩ := ih (k0 :: acc) ch h
      exact ⟨k, left, r, h1, by simpa using h2⟩

theorem child_parent (l ch : Loc) (h : ch ∈ l.children) : ch.parent? = some l := by
  obtain ⟨n, up⟩ := l
  unfold Loc.children at h
  split at h
  · rename_i e ks hf
    simp only at hf
    subst hf
    obtain ⟨k, left, right, rfl, h2⟩ := childrenAux_shape e up ks [] ch h
    simp only [List.reverse_nil, List.nil_append] at h2
    simp [Loc.parent?, Loc.plug, h2]
  · simp at h

theorem same_self (l : Loc) : l.same l = true := by simp [Loc.same]

theorem prevSiblingsAux_mem (e : Elem) (up : List Frame) :
    ∀ (left right : List Node) (s : Loc), s ∈ Loc.prevSiblingsAux e up left right →
      ∃ f, s.up = f :: up ∧ f.left.length < left.length := by
  intro left
  induction left with
  | nil => intro right s h; simp [Loc.prevSiblingsAux] at h
  | cons p left ih =>
    intro right s h
    simp only [Loc.prevSiblingsAux, List.mem_cons] at h
    rcases h with rfl | h
    · exact ⟨_, rfl, by simp⟩
    · obtain ⟨f, h1, h2⟩ := ih _ s h
      exact ⟨f, h1, by simp; omega⟩

theorem nextSiblingsAux_mem (e : Elem) (up : List Frame) :
    ∀ (right left : List Node) (s : Loc), s ∈ Loc.nextSiblingsAux e up left right →
      ∃ f, s.up = f :: up ∧ left.length ≤ f.left.length := by
  intro right left s h
  rw [← childrenAux_eq_nextSiblingsAux] at h
  obtain ⟨f, h1, _, h3⟩ := childrenAux_mem e up right left s h
  exact ⟨f, h1, h3⟩

theorem not_same_of_frames {l s : Loc} {f g : Frame} {rest : List Frame} (hu : l.up = f :: rest)
    (hg : s.up = g :: rest) (hne : g.left.length ≠ f.left.length) : s.same l = false := by
  cases hsame : s.same l with
  | false => rfl
  | true =>
    rw [Loc.same_iff, Loc.pos_eq_posOf, Loc.pos_eq_posOf, hg, hu, posOf_cons, posOf_cons] at hsame
    have := List.append_cancel_left hsame
    simp at this
    omega

theorem prev_not_same (l s : Loc) (h : s ∈ l.prevSiblings) : s.same l = false := by
  unfold Loc.prevSiblings at h
  split at h
  · simp at h
  · rename_i f rest hu
    obtain ⟨g, hg, hlt⟩ := prevSiblingsAux_mem _ _ _ _ s h
    exact not_same_of_frames hu hg (by omega)

theorem next_not_same (l s : Loc) (h : s ∈ l.nextSiblings) : s.same l = false := by
  unfold Loc.nextSiblings at h
  split at h
  · simp at h
  · rename_i f rest hu
    obtain ⟨g, hg, hle⟩ := nextSiblingsAux_mem _ _ _ _ s h
    simp at hle
    exact not_same_of_frames hu hg (by omega)

theorem siblings_nil_of_top (l : Loc) (h : l.up = []) : l.prevSiblings = [] ∧ l.nextSiblings = [] := by
  simp [Loc.prevSiblings, Loc.nextSiblings, h]

theorem parent?_none_iff (l : Loc) : l.parent? = none ↔ l.up = [] := by
  unfold Loc.parent?
  cases l.up <;> simp

theorem ctx_ancestors_false (c : Ctx) (l : Loc) : c.ancestors l false = l.ancestors := by
  simp [Ctx.ancestors, Ctx.ancestorsCut_false]

theorem ctx_parent_false (c : Ctx) (l : Loc) : c.parent l false = l.parent? := by
  unfold Ctx.parent
  cases l.parent? <;> simp

/-- A set of locations closed under the two tree steps.  The induction of `SatMain` moves along `leftOf` /
    `rightOf`, and the locations at which matcher and meaning are compared must follow; the instances used
    are `fun l => l.top = T` (`closed_top`) and the locations of one document (`MemoLemmas.InDoc.closed`). -/
structure Closed (P : Loc → Prop) : Prop where
  parent : ∀ l p, P l → l.parent? = some p → P p
  child : ∀ l ch, P l → ch ∈ l.children → P ch

theorem exists_parent_of_up_ne (l : Loc) (h : l.up ≠ []) : ∃ p, l.parent? = some p := by
  cases hp : l.parent? with
  | some p => exact ⟨p, rfl⟩
  | none => exact absurd ((parent?_none_iff l).mp hp) h

theorem sibling_parent (l s : Loc) (h : s ∈ l.prevSiblings ∨ s ∈ l.nextSiblings) :
    ∃ p, l.parent? = some p ∧ s ∈ p.children := by
  have hne : l.up ≠ [] := by
    intro hu
    rw [(siblings_nil_of_top l hu).1, (siblings_nil_of_top l hu).2] at h
    simp at h
  obtain ⟨p, hp⟩ := exists_parent_of_up_ne l hne
  refine ⟨p, hp, ?_⟩
  rw [parent?_children l p hp]
  rcases h with h | h <;> simp [h]

theorem Closed.sibling {P} (hP : Closed P) (l s : Loc) (hl : P l)
    (h : s ∈ l.prevSiblings ∨ s ∈ l.nextSiblings) : P s := by
  obtain ⟨p, hp, hs⟩ := sibling_parent l s h
  exact hP.child p s (hP.parent l p hl hp) hs

theorem Closed.ancestorsAux {P} (hP : Closed P) : ∀ (up : List Frame) (n : Node),
    P ⟨n, up⟩ → ∀ a ∈ Loc.ancestorsAux n up, P a := by
  intro up
  induction up with
  | nil => intro n _ a h; simp [Loc.ancestorsAux] at h
  | cons f rest ih =>
    intro n hn a h
    have hp : P ⟨Loc.plug f n, rest⟩ := hP.parent ⟨n, f :: rest⟩ _ hn rfl
    simp only [Loc.ancestorsAux, List.mem_cons] at h
    rcases h with rfl | h
    · exact hp
    · exact ih _ hp a h

theorem Closed.ancestors {P} (hP : Closed P) (l a : Loc) (hl : P l) (h : a ∈ l.ancestors) : P a :=
  hP.ancestorsAux l.up l.focus hl a h

theorem Closed.isDesc {P} (hP : Closed P) {l t : Loc} (h : IsDesc l t) (hl : P l) : P t := by
  induction h with
  | child hc => exact hP.child _ _ hl hc
  | step hc _ ih => exact ih (hP.child _ _ hl hc)

theorem closed_true : Closed (fun _ => True) := ⟨fun _ _ _ _ => trivial, fun _ _ _ _ => trivial⟩

theorem top_parent (l p : Loc) (h : l.parent? = some p) : l.top = p.top := by
  obtain ⟨n, up⟩ := l
  cases up with
  | nil => simp [Loc.parent?] at h
  | cons f rest =>
    simp only [Loc.parent?, Option.some.injEq] at h
    subst h
    simp [Loc.top, Loc.ancestors, Loc.ancestorsAux, List.getLast?_cons]

theorem top_child (l ch : Loc) (h : ch ∈ l.children) : ch.top = l.top :=
  top_parent ch l (child_parent l ch h)

theorem closed_top (T : Loc) : Closed (fun l => l.top = T) :=
  ⟨fun l p hl hp => by rw [← top_parent l p hp]; exact hl,
   fun l ch hl hc => by rw [top_child l ch hc]; exact hl⟩

theorem in_treeAux : ∀ (up : List Frame) (n : Node) (T : Loc), (⟨n, up⟩ : Loc).top = T →
    (⟨n, up⟩ : Loc) = T ∨ IsDesc T ⟨n, up⟩
  | [], n, T, h => Or.inl (by rw [← h, Loc.top_of_up_nil _ rfl])
  | f :: rest, n, T, h => by
    have hp : (⟨n, f :: rest⟩ : Loc).parent? = some ⟨Loc.plug f n, rest⟩ := rfl
    have hmem : (⟨n, f :: rest⟩ : Loc) ∈ (⟨Loc.plug f n, rest⟩ : Loc).children := by
      rw [parent?_children _ _ hp]; simp
    rcases in_treeAux rest _ T (by rw [← top_parent _ _ hp]; exact h) with hT | hd
    · exact Or.inr (hT ▸ IsDesc.child hmem)
    · exact Or.inr (hd.snoc hmem)

theorem in_tree (l T : Loc) (h : l.top = T) : l = T ∨ IsDesc T l := in_treeAux l.up l.focus T h

theorem mem_tree_iff (T l : Loc) : l ∈ T :: T.descendants (fun _ => true) ↔ l = T ∨ IsDesc T l := by
  rw [List.mem_cons, Loc.mem_descendants_iff]

theorem top_eq_iff {T : Loc} (hT : T.up = []) (l : Loc) : l.top = T ↔ l = T ∨ IsDesc T l :=
  ⟨in_tree l T, fun h => h.elim (fun e => e ▸ Loc.top_of_up_nil T hT)
    (fun hd => (closed_top T).isDesc hd (Loc.top_of_up_nil T hT))⟩

end SatTree

namespace MemoLemmas

/-- `l` is the location of document `d` at its own position: following `l.pos` from the top
    arrives at `l`.  Two such locations with the same position are equal (`InDoc.eq_of_pos`):
    position equality is Python's `is` on the nodes of one tree. -/
def InDoc (d : Doc) (l : Loc) : Prop := d.locAt? l.pos = some l

theorem go_nil (l : Loc) : Doc.locAt?.go l [] = some l := by
  unfold Doc.locAt?.go; rfl

theorem go_cons (l : Loc) (i : Nat) (rest : List Nat) :
    Doc.locAt?.go l (i :: rest) = (match l.children[i]? with
      | some ch => Doc.locAt?.go ch rest
      | none => none) := by
  conv => lhs; unfold Doc.locAt?.go
  rfl

theorem go_append (p q : List Nat) : ∀ l : Loc,
    Doc.locAt?.go l (p ++ q) = (Doc.locAt?.go l p).bind (fun x => Doc.locAt?.go x q) := by
  induction p with
  | nil => intro l; simp [go_nil]
  | cons i rest ih =>
    intro l
    rw [List.cons_append, go_cons, go_cons]
    cases l.children[i]? with
    | none => rfl
    | some ch => exact ih ch

theorem InDoc.eq_of_pos {d : Doc} {a b : Loc} (ha : InDoc d a) (hb : InDoc d b) (h : a.pos = b.pos) :
    a = b := by
  unfold InDoc at ha hb
  rw [h] at ha
  rw [ha] at hb
  exact Option.some.inj hb

theorem InDoc.of_locAt {d : Doc} {l x : Loc} (hl : InDoc d l) (hx : d.locAt? l.pos = some x) : x = l := by
  unfold InDoc at hl
  rw [hl] at hx
  exact (Option.some.inj hx).symm

theorem InDoc.top (d : Doc) : InDoc d d.topLoc := by
  unfold InDoc Doc.locAt?
  exact go_nil _

theorem InDoc.child {d : Doc} {p ch : Loc} (hp : InDoc d p) (hc : ch ∈ p.children) : InDoc d ch := by
  obtain ⟨k, hk⟩ := List.getElem?_of_mem hc
  have hpos := p.children_pos k ch hk
  unfold InDoc Doc.locAt? at *
  rw [hpos, go_append, hp]
  simp only [Option.bind_some, go_cons, hk, go_nil]

theorem InDoc.desc {d : Doc} {p x : Loc} (hp : InDoc d p) (hx : IsDesc p x) : InDoc d x := by
  induction hx with
  | child hc => exact hp.child hc
  | step hc _ ih => exact ih (hp.child hc)

theorem go_top : ∀ (p : List Nat) (x l : Loc), Doc.locAt?.go x p = some l → l.top = x.top
  | [], x, l, h => by rw [go_nil] at h; rw [Option.some.inj h]
  | i :: rest, x, l, h => by
    rw [go_cons] at h
    cases hc : x.children[i]? with
    | none => rw [hc] at h; cases h
    | some ch =>
      rw [hc] at h
      rw [go_top rest ch l h, SatTree.top_child x ch (List.mem_of_getElem? hc)]

/-- The locations of a document are those whose top is the document's: the three ways of saying "one tree"
    (`InDoc d`, `·.top = T`, a set `Closed` under parent and child steps) meet here. -/
theorem inDoc_iff_top (d : Doc) (l : Loc) : InDoc d l ↔ l.top = d.topLoc := by
  constructor
  · intro h
    rw [go_top _ _ _ h]
    exact Loc.top_of_up_nil _ rfl
  · intro h
    rcases SatTree.in_tree l _ h with rfl | hd
    · exact InDoc.top d
    · exact (InDoc.top d).desc hd

theorem inDoc_of_top (l : Loc) : InDoc ⟨false, l.top.focus⟩ l := by
  rw [inDoc_iff_top]
  have hu := l.top_up
  generalize l.top = T at hu ⊢
  cases T
  simp only at hu
  subst hu
  rfl

theorem InDoc.parent {d : Doc} {l p : Loc} (hl : InDoc d l) (h : l.parent? = some p) : InDoc d p :=
  (inDoc_iff_top d p).mpr ((SatTree.top_parent l p h).symm.trans ((inDoc_iff_top d l).mp hl))

theorem InDoc.closed (d : Doc) : SatTree.Closed (InDoc d) :=
  ⟨fun _ _ hl h => hl.parent h, fun _ _ hl h => hl.child h⟩

theorem ancestorsAux_inDoc (d : Doc) : ∀ (up : List Frame) (n : Node), InDoc d ⟨n, up⟩ →
    ∀ a ∈ Loc.ancestorsAux n up, InDoc d a :=
  (InDoc.closed d).ancestorsAux

theorem InDoc.ancestor {d : Doc} {l a : Loc} (hl : InDoc d l) (h : a ∈ l.ancestors) : InDoc d a :=
  ancestorsAux_inDoc d l.up l.focus hl a h

theorem ancestorsCut_subset (c : Ctx) (b : Bool) : ∀ (L : List Loc) (a : Loc),
    a ∈ c.ancestorsCut b L → a ∈ L
  | p :: ps, a, h => by
    unfold Ctx.ancestorsCut at h
    split at h
    · cases h
    · exact (List.mem_cons.mp h).imp_right (ancestorsCut_subset c b ps a) |> List.mem_cons.mpr

theorem InDoc.ctxAncestor {d : Doc} {c : Ctx} {l a : Loc} {b : Bool} (hl : InDoc d l)
    (h : a ∈ c.ancestors l b) : InDoc d a :=
  hl.ancestor (ancestorsCut_subset c b _ a h)

theorem InDoc.ctxDescendant {d : Doc} {c : Ctx} {l x : Loc} {b : Bool} (hl : InDoc d l)
    (h : x ∈ c.descendants l b) : InDoc d x := by
  unfold Ctx.descendants at h
  split at h
  · simp at h
  · exact hl.desc (l.descendants_sound _ x h)

theorem InDoc.tagDescendant {d : Doc} {c : Ctx} {l x : Loc} {b : Bool} (hl : InDoc d l)
    (h : x ∈ c.tagDescendants l b) : InDoc d x :=
  hl.ctxDescendant (List.mem_filter.mp h).1

end MemoLemmas

namespace SatHas
open SatTree

theorem children_nodup (p : Loc) : p.children.Nodup := by
  rw [List.Nodup, List.pairwise_iff_getElem]
  intro i j hi hj hij heq
  have h1 := p.children_pos_get i hi
  have h2 := p.children_pos_get j hj
  rw [heq, h2] at h1
  have := List.append_cancel_left h1
  simp at this
  omega

theorem self_mem_parent_children (l p : Loc) (h : l.parent? = some p) : l ∈ p.children := by
  rw [parent?_children l p h]; simp

/-- Two locations of one tree at the same position (`a is b`) are equal. -/
theorem eq_of_same (a b : Loc) (ht : a.top = b.top) (hs : a.same b = true) : a = b :=
  (ht ▸ MemoLemmas.inDoc_of_top a).eq_of_pos (MemoLemmas.inDoc_of_top b) ((Loc.same_iff a b).mp hs)

theorem next_parent (u t : Loc) (h : t ∈ u.nextSiblings) :
    ∃ p, u.parent? = some p ∧ t.parent? = some p := by
  obtain ⟨p, hp, ht⟩ := sibling_parent u t (Or.inr h)
  exact ⟨p, hp, child_parent p t ht⟩

theorem prev_parent (t u : Loc) (h : u ∈ t.prevSiblings) :
    ∃ p, t.parent? = some p ∧ u.parent? = some p := by
  obtain ⟨p, hp, hu⟩ := sibling_parent t u (Or.inl h)
  exact ⟨p, hp, child_parent p u hu⟩

/-- A location is determined by its place among the children of its parent. -/
theorem siblings_of_split (p l : Loc) (X Y : List Loc) (hp : l.parent? = some p)
    (h : p.children = X ++ l :: Y) : l.prevSiblings = X.reverse ∧ l.nextSiblings = Y := by
  have hnd := children_nodup p
  rw [h] at hnd
  obtain ⟨hx, hy⟩ := nodup_split_unique _ _ _ _ l hnd (h.symm.trans (parent?_children l p hp))
  exact ⟨by rw [hx, List.reverse_reverse], hy.symm⟩

theorem split_next (u t : Loc) (M D : List Loc) (h : u.nextSiblings = M ++ t :: D) :
    t.prevSiblings = M.reverse ++ u :: u.prevSiblings := by
  obtain ⟨p, hpu, hpt⟩ := next_parent u t (by rw [h]; simp)
  have := (siblings_of_split p t (u.prevSiblings.reverse ++ u :: M) D hpt
    (by rw [parent?_children u p hpu, h]; simp)).1
  simpa using this

theorem split_prev (t u : Loc) (M A : List Loc) (h : t.prevSiblings = M ++ u :: A) :
    u.nextSiblings = M.reverse ++ t :: t.nextSiblings := by
  obtain ⟨p, hpt, hpu⟩ := prev_parent t u (by rw [h]; simp)
  exact (siblings_of_split p u A.reverse (M.reverse ++ t :: t.nextSiblings) hpu
    (by rw [parent?_children t p hpt, h]; simp)).2

theorem next_iff_prev (u t : Loc) : t ∈ u.nextSiblings ↔ u ∈ t.prevSiblings := by
  constructor
  · intro h
    obtain ⟨M, D, hMD⟩ := List.append_of_mem h
    rw [split_next u t M D hMD]; simp
  · intro h
    obtain ⟨M, A, hMA⟩ := List.append_of_mem h
    rw [split_prev t u M A hMA]; simp

theorem ancestorsAux_isDesc : ∀ (up : List Frame) (n : Node) (a : Loc),
    a ∈ Loc.ancestorsAux n up → IsDesc a ⟨n, up⟩ := by
  intro up
  induction up with
  | nil => intro n a h; simp [Loc.ancestorsAux] at h
  | cons f rest ih =>
    intro n a h
    have hmem : (⟨n, f :: rest⟩ : Loc) ∈ (⟨Loc.plug f n, rest⟩ : Loc).children :=
      self_mem_parent_children ⟨n, f :: rest⟩ _ rfl
    simp only [Loc.ancestorsAux, List.mem_cons] at h
    rcases h with rfl | h
    · exact IsDesc.child hmem
    · exact (ih _ a h).snoc hmem

theorem isDesc_up_ne {u t : Loc} (h : IsDesc u t) : t.up ≠ [] := by
  induction h with
  | @child l ch hc =>
    obtain ⟨f, hf⟩ := l.children_up ch hc
    rw [hf]; simp
  | step _ _ ih => exact ih

end SatHas

namespace SatRootCond

theorem same_false_of_length {a b : Loc} (h : a.up.length ≠ b.up.length) : a.same b = false := by
  cases hs : a.same b with
  | false => rfl
  | true =>
    have := congrArg List.length ((Loc.same_iff a b).mp hs)
    rw [Loc.pos_length, Loc.pos_length] at this
    exact absurd this h

theorem child_up_length (T r : Loc) (h : r ∈ T.children) : r.up.length = T.up.length + 1 := by
  obtain ⟨f, hf⟩ := Loc.children_up T r h
  rw [hf]; rfl

end SatRootCond

end SoupVerif
