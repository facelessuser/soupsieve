/-
  The regex engine on runs of literal characters (`Rx.lit`), as the attribute-value templates of
  `parse_attribute_selector` use them: one literal (`runs_lit`), literals followed by anything
  (`runsSeq_lits_cont`), the template `v\Z` (`lits_match`), `^` at position 0 (`bos_noop`).  `litsEq` is the
  engine's comparison of a subject with a literal string, character by character (`chEq`).
-/
import SoupVerif.Model.Regex
import SoupVerif.Lemmas.Lower
namespace SoupVerif
namespace C11
open Rx

/-- One-character comparison of the engine. -/
def chEq (env : CharEnv) (ic : Bool) (x c : Nat) : Bool :=
  if ic then env.fold x == env.fold c else x == c

/-- A subject equals a literal string up to the engine's character comparison. -/
def litsEq (env : CharEnv) (ic : Bool) : List Nat → Str → Bool
  | [], [] => true
  | c :: v, x :: t => chEq env ic x c && litsEq env ic v t
  | _, _ => false

theorem litsEq_nil (env : CharEnv) (ic : Bool) (s : Str) : litsEq env ic [] s = (s == []) := by
  cases s <;> rfl

theorem runs_lit (env : CharEnv) (s : Str) (ch : Nat) (ic : Bool) (i : Nat) (caps : Caps) :
    runs env s (.lit ch ic) i caps =
      match s[i]? with
      | some x => if chEq env ic x ch then [(i + 1, caps)] else []
      | none => [] := by
  rw [runs]; rfl

theorem runs_lit_ne_nil (env : CharEnv) (s : Str) (ch : Nat) (ic : Bool) (i : Nat) (caps : Caps) :
    runs env s (.lit ch ic) i caps ≠ [] ↔ ∃ x, s[i]? = some x ∧ chEq env ic x ch = true := by
  rw [runs_lit]
  cases s[i]? with
  | none => simp
  | some x => cases chEq env ic x ch <;> simp

theorem runsSeq_lits_cont (env : CharEnv) (ic : Bool) (s : Str) (caps : Caps) (rest : List Rx) :
    ∀ (v : List Nat) (i : Nat),
      runsSeq env s (v.map (fun c => Rx.lit c ic) ++ rest) i caps =
        if litsEq env ic v ((s.drop i).take v.length) then runsSeq env s rest (i + v.length) caps
        else []
  | [], i => by simp [litsEq]
  | ch :: v, i => by
    simp only [List.map_cons, List.cons_append, List.length_cons]
    rw [runsSeq, runs_lit]
    by_cases hlt : i < s.length
    · have hget : s[i]? = some s[i] := List.getElem?_eq_getElem hlt
      have hdrop : s.drop i = s[i] :: s.drop (i + 1) := List.drop_eq_getElem_cons hlt
      rw [hget, hdrop]
      simp only [List.take_succ_cons, litsEq]
      by_cases hc : chEq env ic s[i] ch = true
      · simp only [hc, if_true, List.flatMap_cons, List.flatMap_nil, List.append_nil, Bool.true_and]
        rw [runsSeq_lits_cont env ic s caps rest v (i + 1)]
        have : i + 1 + v.length = i + (v.length + 1) := by omega
        rw [this]
      · have hc' : chEq env ic s[i] ch = false := by simpa using hc
        simp [hc']
    · have hnone : s[i]? = none := List.getElem?_eq_none (by omega)
      have hdrop : s.drop i = [] := List.drop_eq_nil_of_le (by omega)
      rw [hnone, hdrop]
      simp [litsEq]

theorem litsEq_length (env : CharEnv) (ic : Bool) : ∀ (v : List Nat) (t : Str),
    litsEq env ic v t = true → t.length = v.length
  | [], [], _ => rfl
  | [], _ :: _, h => by simp [litsEq] at h
  | _ :: _, [], h => by simp [litsEq] at h
  | _ :: v, _ :: t, h => by
    simp only [litsEq, Bool.and_eq_true] at h
    simp [litsEq_length env ic v t h.2]

theorem runsSeq_lits (env : CharEnv) (ic : Bool) (s : Str) (caps : Caps) :
    ∀ (v : List Nat) (i : Nat), i ≤ s.length →
      runsSeq env s (v.map (Rx.lit · ic) ++ [.eos]) i caps =
        if litsEq env ic v (s.drop i) then [(s.length, caps)] else [] := by
  intro v i hi
  rw [runsSeq_lits_cont]
  -- `\Z` after the literals: they must reach the end, so the compared piece is the whole rest
  by_cases hl : i + v.length = s.length
  · have ht : (s.drop i).take v.length = s.drop i := List.take_of_length_le (by simp; omega)
    simp [ht, hl, runsSeq, runs]
  · have hf : litsEq env ic v (s.drop i) = false := by
      cases h : litsEq env ic v (s.drop i) with
      | false => rfl
      | true => have := litsEq_length env ic v _ h; simp at this; omega
    simp [hf, hl, runsSeq, runs]

theorem litsEq_map (env : CharEnv) (ic : Bool) (f : Nat → Nat) (hf : ∀ x c, chEq env ic x c = (f x == f c)) :
    ∀ (v : List Nat) (t : Str), litsEq env ic v t = (t.map f == v.map f)
  | [], [] => rfl
  | [], _ :: _ => rfl
  | _ :: _, [] => rfl
  | c :: v, x :: t => by
    simp only [litsEq, hf, litsEq_map env ic f hf v t, List.map_cons]
    exact Bool.eq_iff_iff.mpr (by simp)

theorem litsEq_exact (env : CharEnv) : ∀ (v : List Nat) (s : Str), litsEq env false v s = (s == v) :=
  fun v s => by simpa using litsEq_map env false id (fun _ _ => rfl) v s

theorem litsEq_ic : ∀ (v : List Nat) (s : Str), litsEq asciiEnv true v s = (lower s == lower v) :=
  litsEq_map asciiEnv true lowerCp (fun _ _ => rfl)

theorem isMatch_seq (env : CharEnv) (rs : List Rx) (s : Str) :
    Rx.isMatch env (.seq rs) s = !(runsSeq env s rs 0 []).isEmpty := by
  simp only [Rx.isMatch, Rx.matchAt, runs]
  cases runsSeq env s rs 0 [] <;> rfl

/-- The literal template, any environment: the subject equals the literal string under the
    engine's character comparison. -/
theorem lits_match (env : CharEnv) (ic : Bool) (v : List Nat) (s : Str) :
    Rx.isMatch env (.seq (v.map (Rx.lit · ic) ++ [.eos])) s = litsEq env ic v s := by
  rw [isMatch_seq, runsSeq_lits env ic s [] v 0 (Nat.zero_le _)]
  simp only [List.drop_zero]
  cases litsEq env ic v s <;> rfl

theorem bos_noop (env : CharEnv) (rs : List Rx) (s : Str) :
    Rx.isMatch env (.seq (.bos :: rs)) s = Rx.isMatch env (.seq rs) s := by
  rw [isMatch_seq, isMatch_seq]
  simp [runsSeq, runs]

end C11
end SoupVerif
