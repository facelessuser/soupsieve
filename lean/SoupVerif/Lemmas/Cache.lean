/-
  Lemmas for C15 (Properties/C15.lean): association lists, the object protocol of
  `Immutable` instances, the LRU machine, `ImmutableDict` order independence.
-/
import SoupVerif.Model.Cache
import Batteries.Data.List.Perm
namespace SoupVerif
namespace CacheLemmas
open Cache Gen.Classes

/-! ### Association lists made by `zip` over duplicate-free keys: a key finds the value at its place -/

theorem filterMap_lookup_zip {κ β γ : Type} (key : κ → String) (g : κ → β → γ) (E : List (String × β)) :
    ∀ (ks : List κ) (args : List β), (ks.map key).Nodup → ks.length = args.length →
      (∀ k ∈ ks, E.lookup (key k) = ((ks.map key).zip args).lookup (key k)) →
      ks.filterMap (fun k => (E.lookup (key k)).map (g k)) = List.zipWith g ks args
  | [], [], _, _, _ => rfl
  | k :: ks, a :: as, hn, hl, hE => by
    have hn' := List.nodup_cons.mp hn
    have h0 : E.lookup (key k) = some a := by simpa using hE k List.mem_cons_self
    rw [List.filterMap_cons, h0, Option.map_some, List.zipWith_cons_cons,
      filterMap_lookup_zip key g E ks as hn'.2 (Nat.succ.inj hl)]
    intro k' hk'
    have hne : (key k' == key k) = false := beq_eq_false_iff_ne.mpr fun e => hn'.1 (e ▸ List.mem_map_of_mem hk')
    rw [hE k' (List.mem_cons_of_mem _ hk'), List.map_cons, List.zip_cons_cons, List.lookup_cons, hne]

theorem zip_map_zipWith {κ β γ : Type} (f : κ → String) (g : κ → β → γ) :
    ∀ (ks : List κ) (args : List β),
      (ks.map f).zip (List.zipWith g ks args) = List.zipWith (fun k v => (f k, g k v)) ks args
  | [], _ => by simp
  | _ :: _, [] => by simp
  | k :: ks, a :: as => by simp [zip_map_zipWith f g ks as]

theorem lookup_zip_append_getElem {β : Type} (X : List (String × β)) :
    ∀ (ks : List String) (vs : List β), ks.Nodup →
      ∀ i (h : i < ks.length) (h' : i < vs.length), (ks.zip vs ++ X).lookup ks[i] = some vs[i]
  | k :: ks, v :: vs, _, 0, _, _ => by simp
  | k :: ks, v :: vs, hn, i + 1, h, h' => by
    have hn' := List.nodup_cons.mp hn
    have hne : (ks[i]'(Nat.lt_of_succ_lt_succ h) == k) = false :=
      beq_eq_false_iff_ne.mpr fun he => hn'.1 (he ▸ List.getElem_mem _)
    simp only [List.zip_cons_cons, List.cons_append, List.getElem_cons_succ, List.lookup, hne]
    exact lookup_zip_append_getElem X ks vs hn'.2 i _ _

theorem lookup_zip_append_of_not_mem {β : Type} (n : String) (X : List (String × β)) :
    ∀ (ks : List String) (vs : List β), n ∉ ks → (ks.zip vs ++ X).lookup n = X.lookup n
  | [], _, _ => by simp
  | _ :: _, [], _ => by simp
  | k :: ks, v :: vs, h => by
    have h' : n ≠ k ∧ n ∉ ks := by simpa using h
    simp only [List.zip_cons_cons, List.cons_append, List.lookup, beq_eq_false_iff_ne.mpr h'.1]
    exact lookup_zip_append_of_not_mem n X ks vs h'.2

theorem getAll_eq_some {V : Type} (o : Obj V) :
    ∀ (names : List String) (vals : List V), names.length = vals.length →
      (∀ i (h : i < names.length) (h' : i < vals.length), getattr o names[i] = some vals[i]) →
      getAll o names = some vals
  | [], [], _, _ => rfl
  | n :: ns, v :: vs, hl, h => by
    have h0 : getattr o n = some v := h 0 (Nat.zero_lt_succ _) (Nat.zero_lt_succ _)
    rw [getAll, h0, getAll_eq_some o ns vs (Nat.succ.inj hl)
      fun i hi hi' => h (i + 1) (Nat.succ_lt_succ hi) (Nat.succ_lt_succ hi')]

section Obj
variable {V : Type}

/-- The facts about one class under which `cls(*state)` rebuilds an object from `_pickle`'s state and
    `__eq__`/`_hash` range over the same values.  A conjunction of decidable facts, so that it is
    checked on the generated classes by evaluation (`C15.wf_data`); the proofs read it through the
    named projections below. -/
def WF (c : ClassInfo) : Prop :=
  c.initShapeOk = true ∧ c.hashIsLastSlot = true ∧ c.slotsButLast = c.initParams ∧
  c.kwargs.map (·.name) = c.initParams ∧ c.kwargs.map (·.param) = c.initParams ∧
  c.initParams.Nodup ∧ c.slots.filter (· != "_hash") = c.initParams ∧
  (∀ k ∈ c.kwargs, k.expr ≠ .unknown)

instance (c : ClassInfo) : Decidable (WF c) := by unfold WF; infer_instance

/-- The slot values of `cls(*args)`, in slot order. -/
def normArgs (vo : ValOps V) (c : ClassInfo) (args : List V) : List V :=
  List.zipWith (fun k v => normKwarg vo k.expr v) c.kwargs args

theorem WF.pickled {c : ClassInfo} (h : WF c) : c.slotsButLast = c.initParams := h.2.2.1
theorem WF.names {c : ClassInfo} (h : WF c) : c.kwargs.map (·.name) = c.initParams := h.2.2.2.1
theorem WF.params {c : ClassInfo} (h : WF c) : c.kwargs.map (·.param) = c.initParams := h.2.2.2.2.1
theorem WF.nodup {c : ClassInfo} (h : WF c) : c.initParams.Nodup := h.2.2.2.2.2.1
theorem WF.compared {c : ClassInfo} (h : WF c) : c.slots.filter (· != "_hash") = c.initParams := h.2.2.2.2.2.2.1

theorem WF.kwargs_length {c : ClassInfo} (h : WF c) : c.kwargs.length = c.initParams.length := by
  rw [← h.names, List.length_map]

theorem WF.hash_not_param {c : ClassInfo} (h : WF c) : "_hash" ∉ c.initParams := by
  intro hm
  rw [← h.compared] at hm
  simp at hm

theorem normArgs_length (vo : ValOps V) {c : ClassInfo} (h : WF c) (args : List V)
    (hl : args.length = c.initParams.length) : (normArgs vo c args).length = c.initParams.length := by
  unfold normArgs
  rw [List.length_zipWith, h.kwargs_length, hl, Nat.min_self]

/-- The constructor binds each parameter name to the normalised argument in the same position. -/
theorem kwargsBound_eq (vo : ValOps V) {c : ClassInfo} (h : WF c) (args : List V)
    (hl : args.length = c.initParams.length) :
    kwargsBound vo c args = c.initParams.zip (normArgs vo c args) := by
  have hlen : c.kwargs.length = args.length := by rw [h.kwargs_length, hl]
  unfold kwargsBound normArgs
  rw [← h.names, zip_map_zipWith, h.names, ← h.params]
  exact filterMap_lookup_zip (·.param) _ _ c.kwargs args (h.params ▸ h.nodup) hlen fun _ _ => rfl

theorem construct_slots (vo : ValOps V) {c : ClassInfo} (h : WF c) (args : List V)
    (hl : args.length = c.initParams.length) :
    (construct vo c args).slots =
      c.initParams.zip (normArgs vo c args) ++
        [("_hash", vo.ofInt (initHash vo c.initHashKind (c.initParams.zip (normArgs vo c args))))] := by
  simp only [construct, kwargsBound_eq vo h args hl]

theorem getattr_construct (vo : ValOps V) {c : ClassInfo} (h : WF c) (args : List V)
    (hl : args.length = c.initParams.length) (i : Nat) (hi : i < c.initParams.length)
    (hi' : i < (normArgs vo c args).length) :
    getattr (construct vo c args) c.initParams[i] = some (normArgs vo c args)[i] := by
  unfold getattr
  rw [construct_slots vo h args hl]
  exact lookup_zip_append_getElem _ _ _ h.nodup i hi hi'

theorem getattr_hash_construct (vo : ValOps V) {c : ClassInfo} (h : WF c) (args : List V)
    (hl : args.length = c.initParams.length) :
    getattr (construct vo c args) "_hash" =
      some (vo.ofInt (initHash vo c.initHashKind (c.initParams.zip (normArgs vo c args)))) := by
  unfold getattr
  rw [construct_slots vo h args hl, lookup_zip_append_of_not_mem _ _ _ _ h.hash_not_param]
  simp [List.lookup]

/-- `_pickle` on a constructed object returns its class and its slot values. -/
theorem reduce_construct (vo : ValOps V) {c : ClassInfo} (h : WF c) (args : List V)
    (hl : args.length = c.initParams.length) :
    reduce c (construct vo c args) = some (c.name, normArgs vo c args) := by
  unfold reduce
  rw [h.pickled, getAll_eq_some (construct vo c args) c.initParams (normArgs vo c args)
    (normArgs_length vo h args hl).symm
    (fun i hi hi' => getattr_construct vo h args hl i hi hi')]
  rfl

theorem normKwarg_idem (vo : ValOps V) (hv : vo.Lawful) (e : KwargExpr) (v : V) :
    normKwarg vo e (normKwarg vo e v) = normKwarg vo e v := by
  cases e with
  | param => rfl
  | tupleOfParam => exact hv.toTuple_idem v
  | tupleOfParamOrEmpty =>
    simp only [normKwarg]
    by_cases hn : vo.isNone v = true
    · simp [hn, hv.empty_notNone, hv.toTuple_empty]
    · simp [hn, hv.toTuple_notNone, hv.toTuple_idem]
  | unknown => rfl

theorem zipWith_absorb {κ β γ : Type} (g : κ → β → β) (g' : κ → β → γ)
    (hg : ∀ k v, g' k (g k v) = g' k v) :
    ∀ (ks : List κ) (args : List β), List.zipWith g' ks (List.zipWith g ks args) = List.zipWith g' ks args
  | [], _ => by simp
  | _ :: _, [] => by simp
  | k :: ks, a :: as => by
    simp only [List.zipWith_cons_cons, hg, zipWith_absorb g g' hg ks as]

theorem normArgs_idem (vo : ValOps V) (hv : vo.Lawful) (c : ClassInfo) (args : List V) :
    normArgs vo c (normArgs vo c args) = normArgs vo c args :=
  zipWith_absorb _ _ (fun k v => normKwarg_idem vo hv k.expr v) c.kwargs args

/-- Constructing from the slot values gives the same object (the constructors only normalise). -/
theorem construct_normArgs (vo : ValOps V) (hv : vo.Lawful) {c : ClassInfo} (h : WF c)
    (args : List V) (hl : args.length = c.initParams.length) :
    construct vo c (normArgs vo c args) = construct vo c args := by
  simp only [construct, kwargsBound_eq vo h args hl, kwargsBound_eq vo h _ (normArgs_length vo h args hl),
    normArgs_idem vo hv]

/-- `cls(*_pickle(o)[1]) = o` for every object built by the constructor. -/
theorem rebuild_construct (vo : ValOps V) (hv : vo.Lawful) {c : ClassInfo} (h : WF c)
    (args : List V) (hl : args.length = c.initParams.length) :
    rebuild vo c (construct vo c args) = some (construct vo c args) := by
  unfold rebuild
  rw [reduce_construct vo h args hl]
  simp only [Option.map_some, construct_normArgs vo hv h args hl]

end Obj

section EqHash
variable {V : Type}

/-- On constructed objects `__eq__` compares the slot values pairwise. -/
theorem eqObj_construct_iff (vo : ValOps V) {c : ClassInfo} (h : WF c) (xs ys : List V)
    (hx : xs.length = c.initParams.length) (hy : ys.length = c.initParams.length) :
    eqObj vo c (construct vo c xs) (construct vo c ys) = true ↔
      ∀ i (h₁ : i < (normArgs vo c ys).length) (h₂ : i < (normArgs vo c xs).length),
        vo.eq (normArgs vo c ys)[i] (normArgs vo c xs)[i] = true := by
  have lx := normArgs_length vo h xs hx
  have ly := normArgs_length vo h ys hy
  have hcls : ((construct vo c ys).cls == (construct vo c xs).cls) = true := beq_self_eq_true c.name
  unfold eqObj
  rw [h.compared, hcls, Bool.true_and, List.all_eq_true, List.forall_mem_iff_forall_getElem]
  refine forall_congr' fun i => ⟨fun hall h₁ h₂ => ?_, fun hall hi => ?_⟩
  · have := hall (ly ▸ h₁)
    rwa [getattr_construct vo h ys hy i (ly ▸ h₁) h₁, getattr_construct vo h xs hx i (ly ▸ h₁) h₂] at this
  · rw [getattr_construct vo h ys hy i hi (ly ▸ hi), getattr_construct vo h xs hx i hi (lx ▸ hi)]
    exact hall (ly ▸ hi) (lx ▸ hi)

theorem initHash_values (vo : ValOps V) {c : ClassInfo} (h : WF c)
    (hk : c.initHashKind = .tupleOfValuesOverKwargs) (args : List V)
    (hl : args.length = c.initParams.length) :
    initHash vo c.initHashKind (c.initParams.zip (normArgs vo c args)) =
      vo.tupleHash ((normArgs vo c args).map vo.hash) := by
  rw [hk]
  show vo.tupleHash ((c.initParams.zip (normArgs vo c args)).map (vo.hash ∘ Prod.snd)) = _
  rw [← List.map_map, List.map_snd_zip (Nat.le_of_eq (normArgs_length vo h args hl))]

/-- Equal objects have equal stored hashes, when the hash ranges over the slot values only. -/
theorem hash_congr_construct (vo : ValOps V) (hv : vo.Lawful) {c : ClassInfo} (h : WF c)
    (hk : c.initHashKind = .tupleOfValuesOverKwargs) (xs ys : List V)
    (hx : xs.length = c.initParams.length) (hy : ys.length = c.initParams.length)
    (he : eqObj vo c (construct vo c xs) (construct vo c ys) = true) :
    getattr (construct vo c xs) "_hash" = getattr (construct vo c ys) "_hash" := by
  rw [getattr_hash_construct vo h xs hx, getattr_hash_construct vo h ys hy,
    initHash_values vo h hk xs hx, initHash_values vo h hk ys hy]
  have lx := normArgs_length vo h xs hx
  have ly := normArgs_length vo h ys hy
  have hall := (eqObj_construct_iff vo h xs ys hx hy).mp he
  have : (normArgs vo c xs).map vo.hash = (normArgs vo c ys).map vo.hash := by
    apply List.ext_getElem
    · simp [lx, ly]
    · intro i h₁ h₂
      simp only [List.getElem_map]
      exact (hv.hash_eq _ _ (hall i (by simpa using h₂) (by simpa using h₁))).symm
  rw [this]

end EqHash

section Frozen
variable {V : Type}

theorem applyOp_frozen (vo : ValOps V) (c : ClassInfo)
    (hs : c.setattrKind = .raisesAttributeError) (hd : c.delattrKind = .raisesAttributeError)
    (o : Obj V) (op : ObjOp V) : (applyOp vo c o op).1 = o := by
  cases op <;> simp only [applyOp, hs, hd, if_true] <;> (repeat' split) <;> rfl

theorem run_frozen (vo : ValOps V) (c : ClassInfo)
    (hs : c.setattrKind = .raisesAttributeError) (hd : c.delattrKind = .raisesAttributeError)
    (ops : List (ObjOp V)) (o : Obj V) : run vo c ops o = o :=
  List.foldlRecOn (motive := (· = o)) ops _ rfl fun o' h op _ => (applyOp_frozen vo c hs hd o' op).trans h

end Frozen

section LRU
variable {K E W : Type} [DecidableEq K]

def keys (l : List (K × W)) : List K := l.map Prod.fst

omit [DecidableEq K] in
@[simp] theorem keys_cons (p : K × W) (l : List (K × W)) : keys (p :: l) = p.1 :: keys l := rfl
omit [DecidableEq K] in
@[simp] theorem keys_nil : keys ([] : List (K × W)) = [] := rfl

theorem find_some_mem (k : K) : ∀ (l : List (K × W)) (v : W), find k l = some v → (k, v) ∈ l
  | [], _, h => by simp [find] at h
  | (k', v') :: rest, v, h => by
    simp only [find] at h
    split at h
    · next he => cases h; subst he; simp
    · exact List.mem_cons_of_mem _ (find_some_mem k rest v h)

theorem find_eq_none_iff (k : K) : ∀ (l : List (K × W)), find k l = none ↔ k ∉ keys l
  | [] => by simp [find]
  | (k', v') :: rest => by
    simp only [find, keys_cons, List.mem_cons, not_or]
    split
    · next he => simp [he]
    · next he =>
      rw [find_eq_none_iff k rest]
      constructor
      · intro h; exact ⟨fun e => he e.symm, h⟩
      · intro h; exact h.2

theorem find_isSome_of_mem (k : K) (l : List (K × W)) (h : k ∈ keys l) : ∃ v, find k l = some v := by
  cases hf : find k l with
  | some v => exact ⟨v, rfl⟩
  | none => exact absurd h ((find_eq_none_iff k l).mp hf)

/-- `remove` drops the first entry of `k`: on the keys it is `List.erase`. -/
theorem keys_remove_erase (k : K) : ∀ l : List (K × W), keys (remove k l) = (keys l).erase k
  | [] => rfl
  | (k', v') :: rest => by
    simp only [remove, keys_cons]
    split
    · next he => rw [he, List.erase_cons_head]
    · next he => rw [keys_cons, List.erase_cons_tail (by simpa using he), keys_remove_erase k rest]

theorem remove_sublist (k : K) : ∀ (l : List (K × W)), (remove k l).Sublist l
  | [] => List.Sublist.refl _
  | (k', v') :: rest => by
    simp only [remove]
    split
    · exact List.sublist_cons_self _ _
    · exact (remove_sublist k rest).cons_cons _

theorem length_remove (k : K) (l : List (K × W)) (h : k ∈ keys l) : (remove k l).length + 1 = l.length := by
  have h1 := List.length_erase_of_mem h
  have h2 := List.length_pos_of_mem h
  rw [← keys_remove_erase] at h1
  simp only [keys, List.length_map] at h1 h2
  omega

/-- What every reachable state of the LRU machine satisfies (`inv_runOps`): each entry holds the parse of its key,
    no key twice, at most `N` entries, and `currsize` counts them. -/
structure Inv (N : Nat) (parse : K → Except E W) (s : State K W) : Prop where
  sound : ∀ p ∈ s.entries, parse p.1 = .ok p.2
  nodup : (keys s.entries).Nodup
  bounded : s.entries.length ≤ N
  size : s.currsize = s.entries.length

omit [DecidableEq K] in
theorem inv_empty (N : Nat) (parse : K → Except E W) : Inv N parse (State.empty : State K W) :=
  ⟨by simp [State.empty], by simp [State.empty], by simp [State.empty], rfl⟩

omit [DecidableEq K] in
theorem entries_miss_eq_take (N : Nat) (e : List (K × W)) (p : K × W) (hb : e.length ≤ N) :
    (if e.length + 1 > N then (p :: e).dropLast else p :: e) = (p :: e).take N := by
  split
  · next h =>
    have : e.length = N := by omega
    rw [List.dropLast_eq_take]
    simp [this]
  · next h =>
    rw [List.take_of_length_le (by simp; omega)]

theorem inv_compile (N : Nat) (parse : K → Except E W) (s : State K W) (k : K)
    (h : Inv N parse s) : Inv N parse (compile N parse s k).1 := by
  have hb := h.bounded
  have hs := h.size
  unfold compile
  split
  · next v hf =>
    -- hit: the entry of `k` moves to the front
    have hm := find_some_mem k _ v hf
    have hlen := length_remove k _ (List.mem_map_of_mem (f := Prod.fst) hm)
    refine ⟨?_, ?_, ?_, ?_⟩
    · exact List.forall_mem_cons.mpr ⟨h.sound _ hm, fun p hp => h.sound p ((remove_sublist k _).subset hp)⟩
    · rw [keys_cons, keys_remove_erase]
      exact List.nodup_cons.mpr ⟨h.nodup.not_mem_erase, h.nodup.erase k⟩
    · simp only [List.length_cons]; omega
    · simp only [List.length_cons]; omega
  · next hf =>
    split
    · exact ⟨h.sound, h.nodup, hb, hs⟩
    · next v hp =>
      -- miss: the new entry in front of the old ones, the last of which goes when the cache is full
      have hsound : ∀ p ∈ (k, v) :: s.entries, parse p.1 = .ok p.2 := List.forall_mem_cons.mpr ⟨hp, h.sound⟩
      have hnd : (keys ((k, v) :: s.entries)).Nodup :=
        List.nodup_cons.mpr ⟨(find_eq_none_iff k _).mp hf, h.nodup⟩
      split
      · have hsub := List.dropLast_sublist ((k, v) :: s.entries)
        refine ⟨fun p hp' => hsound p (hsub.subset hp'), hnd.sublist (hsub.map _), ?_, ?_⟩ <;>
          simp only [List.length_dropLast, List.length_cons] <;> omega
      · refine ⟨hsound, hnd, ?_, ?_⟩ <;> simp only [List.length_cons] <;> omega

theorem inv_step (N : Nat) (parse : K → Except E W) (s : State K W) (op : CacheOp K)
    (h : Inv N parse s) : Inv N parse (step N parse s op) := by
  cases op with
  | compile k => exact inv_compile N parse s k h
  | purge => exact inv_empty N parse

theorem inv_runFrom (N : Nat) (parse : K → Except E W) (ops : List (CacheOp K)) (s : State K W)
    (h : Inv N parse s) : Inv N parse (runFrom N parse s ops) :=
  List.foldlRecOn ops _ h fun s hs op _ => inv_step N parse s op hs

theorem inv_runOps (N : Nat) (parse : K → Except E W) (ops : List (CacheOp K)) :
    Inv N parse (runOps N parse ops) :=
  inv_runFrom N parse ops _ (inv_empty N parse)

theorem compile_result (N : Nat) (parse : K → Except E W) (s : State K W) (k : K)
    (h : Inv N parse s) : (compile N parse s k).2 = parse k := by
  unfold compile
  split
  · next v hf => exact (h.sound _ (find_some_mem k _ v hf)).symm
  · split
    · next e he => exact he.symm
    · next v hv => split <;> exact hv.symm

/-! #### The keys of the machine are the first `N` of a duplicate-free recency list (`Rel`) -/

theorem filter_ne_eq_erase {r : List K} (hn : r.Nodup) (k : K) : r.filter (· ≠ k) = r.erase k := by
  rw [hn.erase_eq_filter]
  exact List.filter_congr fun x _ => by simp [bne]; rfl

theorem erase_take_of_mem (k : K) : ∀ (r : List K) (n : Nat), k ∈ r.take n →
    (r.take n).erase k = (r.erase k).take (n - 1)
  | [], _, h => by simp at h
  | _ :: _, 0, h => by simp at h
  | a :: r, m + 1, h => by
    by_cases hak : a = k
    · rw [hak, List.take_succ_cons, List.erase_cons_head, List.erase_cons_head]; rfl
    · have hk : k ∈ r.take m := (List.mem_cons.mp h).resolve_left (Ne.symm hak)
      obtain ⟨m', rfl⟩ : ∃ m', m = m' + 1 := ⟨m - 1, by cases m <;> simp_all⟩
      rw [List.take_succ_cons, List.erase_cons_tail (by simpa using hak),
        List.erase_cons_tail (by simpa using hak), erase_take_of_mem k r (m' + 1) hk]
      rfl

theorem take_erase_of_not_mem (k : K) : ∀ (r : List K) (n : Nat), k ∉ r.take n → (r.erase k).take n = r.take n
  | [], _, _ => by simp
  | a :: r, 0, _ => by simp
  | a :: r, m + 1, h => by
    have h' : k ≠ a ∧ k ∉ r.take m := by simpa using h
    rw [List.erase_cons_tail (by simpa using h'.1.symm), List.take_succ_cons, List.take_succ_cons,
      take_erase_of_not_mem k r m h'.2]

/-- The refinement relation between the machine and the recency list. -/
structure Rel (N : Nat) (s : State K W) (r : List K) : Prop where
  keys_eq : keys s.entries = r.take N
  nodup : r.Nodup

theorem rel_step (N : Nat) (parse : K → Except E W) (s : State K W) (r : List K) (op : CacheOp K)
    (hi : Inv N parse s) (h : Rel N s r) : Rel N (step N parse s op) (recStep parse r op) := by
  cases op with
  | purge => exact ⟨by simp [step, purge, State.empty, recStep], by simp [recStep]⟩
  | compile k =>
    simp only [step, recStep]
    cases hf : find k s.entries with
    | some v =>
      have hm := find_some_mem k _ v hf
      have hk : k ∈ r.take N := h.keys_eq ▸ List.mem_map_of_mem (f := Prod.fst) hm
      simp only [compile, hf, hi.sound _ hm]
      refine ⟨?_, List.nodup_cons.mpr ⟨by simp, h.nodup.filter _⟩⟩
      obtain ⟨n, rfl⟩ : ∃ n, N = n + 1 := ⟨N - 1, by cases N <;> simp_all⟩
      rw [keys_cons, keys_remove_erase, h.keys_eq, erase_take_of_mem k r _ hk, filter_ne_eq_erase h.nodup]
      rfl
    | none =>
      cases hp : parse k with
      | error e => simp only [compile, hf, hp]; exact ⟨h.keys_eq, h.nodup⟩
      | ok v =>
        have hk : k ∉ r.take N := h.keys_eq ▸ (find_eq_none_iff k _).mp hf
        simp only [compile, hf, hp]
        refine ⟨?_, List.nodup_cons.mpr ⟨by simp, h.nodup.filter _⟩⟩
        have : keys (((k, v) :: s.entries).take N) = (k :: r.filter (· ≠ k)).take N := by
          rw [keys, List.map_take, ← keys, keys_cons, h.keys_eq, filter_ne_eq_erase h.nodup]
          cases N with
          | zero => rfl
          | succ n =>
            rw [List.take_succ_cons, List.take_succ_cons, List.take_take, Nat.min_eq_left (Nat.le_succ n),
              take_erase_of_not_mem k r n fun hm => hk (List.take_subset_take_left r (Nat.le_succ n) hm)]
        rw [← entries_miss_eq_take N s.entries (k, v) hi.bounded] at this
        split <;> simpa [*] using this

theorem rel_runFrom (N : Nat) (parse : K → Except E W) (ops : List (CacheOp K)) (s : State K W) (r : List K)
    (hi : Inv N parse s) (h : Rel N s r) : Rel N (runFrom N parse s ops) (ops.foldl (recStep parse) r) :=
  (List.foldl_rel (r := fun s r => Inv N parse s ∧ Rel N s r) ⟨hi, h⟩ fun op _ s r hs =>
    ⟨inv_step N parse s op hs.1, rel_step N parse s r op hs.1 hs.2⟩).2

end LRU

/-! ### `ImmutableDict`: equality and hash do not depend on the insertion order -/

theorem itemLe_iff (a b : Nat × Nat) : itemLe a b = true ↔ a.1 < b.1 ∨ (a.1 = b.1 ∧ a.2 ≤ b.2) := by
  simp only [itemLe, Bool.or_eq_true, decide_eq_true_eq, Bool.and_eq_true, beq_iff_eq]

theorem itemLe_trans (a b c : Nat × Nat) : itemLe a b = true → itemLe b c = true → itemLe a c = true := by
  simp only [itemLe_iff]; omega

theorem itemLe_total (a b : Nat × Nat) : (itemLe a b || itemLe b a) = true := by
  simp only [Bool.or_eq_true, itemLe_iff]; omega

theorem itemLe_antisymm (a b : Nat × Nat) : itemLe a b = true → itemLe b a = true → a = b := by
  simp only [itemLe_iff]
  intro h₁ h₂
  apply Prod.ext <;> omega

theorem mergeSort_eq_of_perm (m₁ m₂ : Items) (h : m₁.Perm m₂) :
    m₁.mergeSort itemLe = m₂.mergeSort itemLe := by
  apply List.Perm.eq_of_pairwise (le := fun a b => itemLe a b = true)
  · intro a b _ _; exact itemLe_antisymm a b
  · exact List.pairwise_mergeSort itemLe_trans itemLe_total m₁
  · exact List.pairwise_mergeSort itemLe_trans itemLe_total m₂
  · exact (List.mergeSort_perm m₁ itemLe).trans (h.trans (List.mergeSort_perm m₂ itemLe).symm)

theorem dictHash_perm (kind : DictHashKind) (th : List Nat → Nat) (ih : Nat × Nat → Nat)
    (m₁ m₂ : Items) (h : m₁.Perm m₂) : dictHash kind th ih m₁ = dictHash kind th ih m₂ := by
  cases kind with
  | sortedItems => simp only [dictHash, mergeSort_eq_of_perm m₁ m₂ h]
  | sortedItemsTypeAndValue => simp only [dictHash, mergeSort_eq_of_perm m₁ m₂ h]
  | unknown => rfl

theorem mem_of_lookup : ∀ (m : Items) (k v : Nat), m.lookup k = some v → (k, v) ∈ m
  | [], _, _, h => by simp at h
  | (k', v') :: m, k, v, h => by
    simp only [List.lookup] at h
    split at h
    · next he =>
      have : k = k' := by simpa using he
      cases h; subst this; simp
    · exact List.mem_cons_of_mem _ (mem_of_lookup m k v h)

theorem nodup_of_keys_nodup : ∀ (m : Items), (m.map Prod.fst).Nodup → m.Nodup
  | [], _ => List.nodup_nil
  | p :: m, h => by
    have h' : p.1 ∉ m.map Prod.fst ∧ (m.map Prod.fst).Nodup := List.nodup_cons.mp h
    exact List.nodup_cons.mpr ⟨fun hm => h'.1 (List.mem_map_of_mem hm), nodup_of_keys_nodup m h'.2⟩

/-- `Mapping.__eq__` on dicts (duplicate-free keys): equal dicts have the same items, in some order. -/
theorem perm_of_dictEq (m₁ m₂ : Items) (h₁ : (m₁.map Prod.fst).Nodup)
    (h : dictEq m₁ m₂ = true) : m₁.Perm m₂ := by
  unfold dictEq at h
  simp only [Bool.and_eq_true, beq_iff_eq, List.all_eq_true] at h
  have hsub : m₁ ⊆ m₂ := fun p hp => mem_of_lookup m₂ p.1 p.2 (h.2 p hp)
  exact (List.subperm_of_subset (nodup_of_keys_nodup m₁ h₁) hsub).perm_of_length_le (by omega)

end CacheLemmas
end SoupVerif
