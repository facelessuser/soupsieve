/-
  C17 helpers: what the combinators of `StateLawsShape` mean to the matcher.

  Atoms an HTML-state selector looks at on one element (`isHtmlTag`, `tagIs`, `hasAttr`, `attrEq`)
  and the evaluation lemmas that turn `matchList c.htmlOnly l e <shape>` into a Boolean formula
  over those atoms.  On the way, what the context `c.htmlOnly` leaves alone (the `htmlOnly_*` equations): the
  walks of the tree, the attribute look-ups, the atoms and the flag tests (`:default`, `:indeterminate`, …) read the same under `c.htmlOnly` as under `c`.
-/
import SoupVerif.Lemmas.StateLawsShape
import SoupVerif.Lemmas.MatchAlgebra
import SoupVerif.Lemmas.Lits
import SoupVerif.Lemmas.Names
namespace SoupVerif.StateLaws
open SoupVerif C11 Names

/-- The element's name as `get_tag` reports it equals the (lower-case) keyword `n`. -/
def tagIs (c : Ctx) (e : Elem) (n : String) : Bool := c.tagName e == n.toStr

/-- The values of ALL the attributes an attribute selector `[n]` designates, as the value pattern
    sees them (a list value joined with spaces), in document order.  (In a tree made by a parser
    there is at most one; an `attrs` dictionary edited by hand can hold `type` and `TYPE`.) -/
def attrVals (c : Ctx) (e : Elem) (n : String) : List Str :=
  (matchAttributeValues c e n.toStr []).map nvalJoin

/-- The value of the first attribute an attribute selector `[n]` finds, as the value pattern sees
    it (a list value joined with spaces). -/
def attrVal (c : Ctx) (e : Elem) (n : String) : Option Str :=
  (matchAttributeName c e n.toStr []).map nvalJoin

theorem attrVal_eq_head? (c : Ctx) (e : Elem) (n : String) :
    attrVal c e n = (attrVals c e n).head? := by
  unfold attrVal attrVals
  rw [matchAttributeName_eq_head?, List.head?_map]

/-- `[n]` -/
def hasAttr (c : Ctx) (e : Elem) (n : String) : Bool := (attrVal c e n).isSome

theorem hasAttr_eq_any (c : Ctx) (e : Elem) (n : String) :
    hasAttr c e n = (attrVals c e n).any fun _ => true := by
  unfold hasAttr; rw [attrVal_eq_head?]
  cases attrVals c e n <;> rfl

/-- `[n=v]` with the engine's character comparison — SOME attribute `[n]` designates has the
    value `v`: `ic = true` folds both sides with the regex engine's case folding (`c.env.fold`),
    `ic = false` is plain equality. -/
def attrEq (c : Ctx) (e : Elem) (n : String) (ic : Bool) (v : String) : Bool :=
  (attrVals c e n).any fun s => litsEq c.env ic v.toStr s

/-- `[type=v]`: case-insensitive, except in a document parsed as XML (XHTML) where the
    `xml_type_pattern` makes it exact. -/
def typeIs (c : Ctx) (e : Elem) (v : String) : Bool := attrEq c e "type" (!c.isXml) v

/-- `[n=""]`: some attribute `[n]` designates is empty. -/
def attrEmpty (c : Ctx) (e : Elem) (n : String) : Bool := (attrVals c e n).any fun s => s == []

theorem attrEq_empty (c : Ctx) (e : Elem) (n : String) (ic : Bool) :
    attrEq c e n ic "" = attrEmpty c e n := by
  unfold attrEq attrEmpty
  congr 1; funext s
  show litsEq c.env ic [] s = _
  rw [litsEq_nil]

theorem attrEq_ascii_ic (c : Ctx) (e : Elem) (n v : String) (henv : c.env = asciiEnv) :
    attrEq c e n true v = (attrVals c e n).any fun s => lower s == lower v.toStr := by
  unfold attrEq; rw [henv]
  congr 1; funext s
  exact litsEq_ic _ _

theorem attrEq_exact (c : Ctx) (e : Elem) (n v : String) :
    attrEq c e n false v = (attrVals c e n).any fun s => s == v.toStr := by
  unfold attrEq
  congr 1; funext s
  exact litsEq_exact _ _ _

/-- When `[n]` designates at most one attribute (every tree made by a parser: attribute names are
    the keys of a dictionary), the tests read that attribute. -/
theorem attrEq_of_unique (c : Ctx) (e : Elem) (n : String) (ic : Bool) (v : String)
    (hu : (attrVals c e n).length ≤ 1) :
    attrEq c e n ic v = (match attrVal c e n with
      | none => false
      | some s => litsEq c.env ic v.toStr s) := by
  unfold attrEq; rw [attrVal_eq_head?]
  match h : attrVals c e n, hu with
  | [], _ => rfl
  | [s], _ => simp
  | _ :: _ :: _, hu => simp at hu

theorem attrEmpty_of_unique (c : Ctx) (e : Elem) (n : String)
    (hu : (attrVals c e n).length ≤ 1) :
    attrEmpty c e n = (attrVal c e n == some []) := by
  unfold attrEmpty; rw [attrVal_eq_head?]
  match h : attrVals c e n, hu with
  | [], _ => rfl
  | [s], _ => cases s <;> rfl
  | _ :: _ :: _, hu => simp at hu

variable (c : Ctx) (l : Loc) (e : Elem)

@[simp] theorem htmlOnly_isHtml : c.htmlOnly.isHtml = c.isHtml := rfl
@[simp] theorem htmlOnly_isXml : c.htmlOnly.isXml = c.isXml := rfl
@[simp] theorem htmlOnly_env : c.htmlOnly.env = c.env := rfl
@[simp] theorem htmlOnly_iframeRestrict : c.htmlOnly.iframeRestrict = true := rfl
@[simp] theorem htmlOnly_idem : c.htmlOnly.htmlOnly = c.htmlOnly := c.htmlOnly_idem
@[simp] theorem htmlOnly_tagName : c.htmlOnly.tagName e = c.tagName e := rfl
@[simp] theorem htmlOnly_tagNs : c.htmlOnly.tagNs e = c.tagNs e := rfl
@[simp] theorem htmlOnly_isHtmlTag : c.htmlOnly.isHtmlTag e = c.isHtmlTag e := rfl
@[simp] theorem htmlOnly_locIsIframe (p : Loc) : c.htmlOnly.locIsIframe p = c.locIsIframe p := rfl
theorem htmlOnly_ancestorsCut (b : Bool) (ps : List Loc) :
    c.htmlOnly.ancestorsCut b ps = c.ancestorsCut b ps := by
  induction ps with
  | nil => rfl
  | cons p ps ih =>
    unfold Ctx.ancestorsCut
    rw [ih]; rfl
@[simp] theorem htmlOnly_ancestors (b : Bool) : c.htmlOnly.ancestors l b = c.ancestors l b :=
  htmlOnly_ancestorsCut c b _
@[simp] theorem htmlOnly_parent (b : Bool) : c.htmlOnly.parent l b = c.parent l b := rfl
@[simp] theorem htmlOnly_attrByName (n : Str) : c.htmlOnly.attrByName e n = c.attrByName e n := rfl
@[simp] theorem htmlOnly_isRoot : c.htmlOnly.isRoot l = c.isRoot l := rfl

theorem htmlOnly_matchAttributeName (a : Str) :
    matchAttributeName c.htmlOnly e a [] = matchAttributeName c e a [] := rfl

theorem htmlOnly_matchAttributeValues (a : Str) :
    matchAttributeValues c.htmlOnly e a [] = matchAttributeValues c e a [] := rfl

@[simp] theorem htmlOnly_attrVal (n : String) : attrVal c.htmlOnly e n = attrVal c e n := by
  unfold attrVal; rw [htmlOnly_matchAttributeName]

@[simp] theorem htmlOnly_attrVals (n : String) : attrVals c.htmlOnly e n = attrVals c e n := by
  unfold attrVals; rw [htmlOnly_matchAttributeValues]

@[simp] theorem htmlOnly_hasAttr (n : String) : hasAttr c.htmlOnly e n = hasAttr c e n := by
  unfold hasAttr; rw [htmlOnly_attrVal]

@[simp] theorem htmlOnly_attrEq (n : String) (ic : Bool) (v : String) :
    attrEq c.htmlOnly e n ic v = attrEq c e n ic v := by
  unfold attrEq; rw [htmlOnly_attrVals]; rfl

theorem htmlOnly_tagDescendants (b : Bool) : c.htmlOnly.tagDescendants l b = c.tagDescendants l b := rfl

theorem htmlOnly_firstSubmit (xs : List Loc) : firstSubmit c.htmlOnly xs = firstSubmit c xs := by
  induction xs with
  | nil => rfl
  | cons x xs ih =>
    unfold firstSubmit
    rw [ih]; rfl

theorem htmlOnly_defaultForm : defaultForm c.htmlOnly l = defaultForm c l := by
  unfold defaultForm; rw [htmlOnly_ancestors]; rfl

theorem htmlOnly_matchDefault : matchDefault c.htmlOnly l = matchDefault c l := by
  unfold matchDefault
  rw [htmlOnly_defaultForm]
  cases defaultForm c l with
  | none => rfl
  | some f => simp only [htmlOnly_firstSubmit, htmlOnly_tagDescendants]

theorem htmlOnly_parentForm (x : Loc) : parentForm c.htmlOnly x = parentForm c x := by
  unfold parentForm; simp only [htmlOnly_ancestors]; rfl

theorem htmlOnly_matchIndeterminate : matchIndeterminate c.htmlOnly l = matchIndeterminate c l := by
  unfold matchIndeterminate
  simp only [htmlOnly_parentForm, htmlOnly_tagDescendants, htmlOnly_attrByName, htmlOnly_tagName,
    htmlOnly_isXml, htmlOnly_isHtmlTag]
theorem htmlOnly_matchPlaceholderShown :
    matchPlaceholderShown c.htmlOnly l = matchPlaceholderShown c l := rfl
theorem htmlOnly_matchRange (f : Nat) : matchRange c.htmlOnly e f = matchRange c e f := rfl

theorem matchList_htmlOnly (A : List Sel) (n : Bool) :
    matchList c.htmlOnly l e (.mk A n true) = matchList c l e (.mk A n true) := by
  rw [matchList_mk, matchList_mk]; rfl

theorem matchList_htmlOnly' (L : SelList) (h : L.isHtml = true) :
    matchList c.htmlOnly l e L = matchList c l e L := by
  cases L with
  | mk A n hh =>
    have : hh = true := h
    subst this
    exact matchList_htmlOnly c l e A n

theorem matchList_html (hc : c.isHtml = true) (A : List Sel) (n : Bool) :
    matchList c l e (.mk A n true) = (!A.isEmpty && (matchAny c.htmlOnly l e A != n)) :=
  (matchList_mk_true c l e A n).trans ((congrArg (· && _) hc).trans (Bool.true_and _))

/-- The relation conjunct of `match_selectors`. -/
def relPart (c : Ctx) (l : Loc) (rel : SelList) : Bool :=
  !rel.nonEmpty || relationWalk c l (headRel rel) (fun t =>
    match t.elem? with
    | some te => matchList c t te rel
    | none => false)

theorem matchSel_cmpG (tag : Option SelTag) (attrs : List AttrSel) (nth : List NthSel)
    (subs : List SelList) (rel : SelList) (rt : Rel) (flags : Nat) :
    matchSel c l e (cmpG tag attrs nth subs rel rt flags) =
      (matchTag c e tag && matchAttributes c e attrs && matchNths c l e nth &&
        matchSubs c l e subs && relPart c l rel && flagPart c l e flags) := by
  rw [matchSel_mk]
  simp only [simplePart, SatCore.matchId_nil, SatCore.matchClasses_nil, C19.matchContains_nil, List.isEmpty_nil,
    Bool.true_or, Bool.true_and, Bool.and_true]
  rw [← Bool.and_assoc, Bool.and_right_comm]
  simp only [← Bool.and_assoc]
  rfl

@[simp] theorem relPart_E : relPart c l E = true := rfl

theorem flagPart_default : flagPart c l e SEL_DEFAULT = matchDefault c l := by
  simp [flagPart, hasFlag, SEL_DEFAULT, SEL_DEFINED, SEL_ROOT, SEL_SCOPE, SEL_PLACEHOLDER_SHOWN,
    SEL_EMPTY, RANGES, SEL_IN_RANGE, SEL_OUT_OF_RANGE, SEL_INDETERMINATE, DIR_FLAGS, SEL_DIR_LTR,
    SEL_DIR_RTL]

theorem flagPart_indeterminate : flagPart c l e SEL_INDETERMINATE = matchIndeterminate c l := by
  simp [flagPart, hasFlag, SEL_DEFAULT, SEL_DEFINED, SEL_ROOT, SEL_SCOPE, SEL_PLACEHOLDER_SHOWN,
    SEL_EMPTY, RANGES, SEL_IN_RANGE, SEL_OUT_OF_RANGE, SEL_INDETERMINATE, DIR_FLAGS, SEL_DIR_LTR,
    SEL_DIR_RTL]

theorem flagPart_placeholder : flagPart c l e SEL_PLACEHOLDER_SHOWN = matchPlaceholderShown c l := by
  simp [flagPart, hasFlag, SEL_DEFAULT, SEL_DEFINED, SEL_ROOT, SEL_SCOPE, SEL_PLACEHOLDER_SHOWN,
    SEL_EMPTY, RANGES, SEL_IN_RANGE, SEL_OUT_OF_RANGE, SEL_INDETERMINATE, DIR_FLAGS, SEL_DIR_LTR,
    SEL_DIR_RTL]

theorem flagPart_in_range : flagPart c l e SEL_IN_RANGE = matchRange c e SEL_IN_RANGE := by
  simp [flagPart, hasFlag, SEL_DEFAULT, SEL_DEFINED, SEL_ROOT, SEL_SCOPE, SEL_PLACEHOLDER_SHOWN,
    SEL_EMPTY, RANGES, SEL_IN_RANGE, SEL_OUT_OF_RANGE, SEL_INDETERMINATE, DIR_FLAGS, SEL_DIR_LTR,
    SEL_DIR_RTL]

theorem flagPart_out_of_range : flagPart c l e SEL_OUT_OF_RANGE = matchRange c e SEL_OUT_OF_RANGE := by
  simp [flagPart, hasFlag, SEL_DEFAULT, SEL_DEFINED, SEL_ROOT, SEL_SCOPE, SEL_PLACEHOLDER_SHOWN,
    SEL_EMPTY, RANGES, SEL_IN_RANGE, SEL_OUT_OF_RANGE, SEL_INDETERMINATE, DIR_FLAGS, SEL_DIR_LTR,
    SEL_DIR_RTL]

theorem flagPart_root : flagPart c l e SEL_ROOT = matchRoot c l := by
  simp [flagPart, hasFlag, SEL_DEFAULT, SEL_DEFINED, SEL_ROOT, SEL_SCOPE, SEL_PLACEHOLDER_SHOWN,
    SEL_EMPTY, RANGES, SEL_IN_RANGE, SEL_OUT_OF_RANGE, SEL_INDETERMINATE, DIR_FLAGS, SEL_DIR_LTR,
    SEL_DIR_RTL]

theorem flagPart_empty : flagPart c l e SEL_EMPTY = matchEmpty l := by
  simp [flagPart, hasFlag, SEL_DEFAULT, SEL_DEFINED, SEL_ROOT, SEL_SCOPE, SEL_PLACEHOLDER_SHOWN,
    SEL_EMPTY, RANGES, SEL_IN_RANGE, SEL_OUT_OF_RANGE, SEL_INDETERMINATE, DIR_FLAGS, SEL_DIR_LTR,
    SEL_DIR_RTL]

theorem flagPart_dir (ltr : Bool) :
    flagPart c l e (if ltr then SEL_DIR_LTR else SEL_DIR_RTL) =
      matchDir c l (if ltr then SEL_DIR_LTR else SEL_DIR_RTL) := by
  cases ltr <;>
    simp [flagPart, hasFlag, SEL_DEFAULT, SEL_DEFINED, SEL_ROOT, SEL_SCOPE, SEL_PLACEHOLDER_SHOWN,
      SEL_EMPTY, RANGES, SEL_IN_RANGE, SEL_OUT_OF_RANGE, SEL_INDETERMINATE, DIR_FLAGS, SEL_DIR_LTR,
      SEL_DIR_RTL]

theorem matchSel_cmp (tag : Option SelTag) (attrs : List AttrSel) (subs : List SelList) :
    matchSel c l e (cmp tag attrs subs) =
      (matchTag c e tag && matchAttributes c e attrs && matchSubs c l e subs) := by
  rw [matchSel_cmpG, matchNths_nil, relPart_E, flagPart_zero]; simp

theorem matchList_isL (s : List Sel) : matchList c l e (isL s) = matchAny c l e s := by
  rw [matchList_pos]; simp

theorem matchList_notL (s : List Sel) :
    matchList c l e (notL s) = (!s.isEmpty && !matchAny c l e s) := by
  rw [matchList_neg]; simp

theorem nsGet_htmlOnly_html : c.htmlOnly.nsGet "html".toStr = some NS_XHTML := by
  simp [Ctx.nsGet, Ctx.htmlOnly]

theorem nsGet_htmlOnly_nil : c.htmlOnly.nsGet [] = none := by
  have : ("html".toStr : Str) ≠ [] := by decide
  simp [Ctx.nsGet, Ctx.htmlOnly, this]

/-- `name` (no prefix): no default namespace is declared in the HTML-only map, so only the name
    counts.  `n` is a lower-case keyword other than `*`. -/
theorem matchTag_T (n : String) (hl : lower n.toStr = n.toStr) (hs : (n.toStr == "*".toStr) = false) :
    matchTag c.htmlOnly e (T n) = tagIs c e n := by
  show (matchNamespace c.htmlOnly e ⟨n.toStr, none⟩ && matchTagname c.htmlOnly e ⟨n.toStr, none⟩) = _
  have h1 : matchNamespace c.htmlOnly e ⟨n.toStr, none⟩ = true := by
    simp [matchNamespace, nsGet_htmlOnly_nil]
  rw [h1, Bool.true_and]
  simp only [matchTagname, htmlOnly_isXml, htmlOnly_tagName, hl, ite_self, hs, Bool.or_false, tagIs]
  exact str_beq_comm _ _

theorem matchNamespace_html (n : Str) :
    matchNamespace c.htmlOnly e ⟨n, some "html".toStr⟩ = c.isHtmlTag e := by
  have h1 : ("html".toStr : Str).isEmpty = false := by decide
  have h2 : ("html".toStr : Str) ≠ [42] := by decide
  simp [matchNamespace, nsGet_htmlOnly_html, h1, h2, Ctx.isHtmlTag]

/-- `html|name` -/
theorem matchTag_HT (n : String) (hl : lower n.toStr = n.toStr) (hs : (n.toStr == "*".toStr) = false) :
    matchTag c.htmlOnly e (HT n) = (c.isHtmlTag e && tagIs c e n) := by
  show (matchNamespace c.htmlOnly e ⟨n.toStr, some "html".toStr⟩ &&
    matchTagname c.htmlOnly e ⟨n.toStr, some "html".toStr⟩) = _
  rw [matchNamespace_html]
  simp only [matchTagname, htmlOnly_isXml, htmlOnly_tagName, hl, ite_self, hs, Bool.or_false, tagIs]
  rw [str_beq_comm]

/-- `html|*` -/
theorem matchTag_HT_star : matchTag c.htmlOnly e (HT "*") = c.isHtmlTag e := by
  show (matchNamespace c.htmlOnly e ⟨"*".toStr, some "html".toStr⟩ &&
    matchTagname c.htmlOnly e ⟨"*".toStr, some "html".toStr⟩) = _
  rw [matchNamespace_html]
  have hl : lower [42] = [42] := by decide
  simp [matchTagname, hl]

/-- `matchAttributes_cons` for a list of at least two: in this form `state_simp` does not loop on a singleton. -/
theorem matchAttributes_cons2 (a b : AttrSel) (rest : List AttrSel) :
    matchAttributes c e (a :: b :: rest) = (matchAttributes c e [a] && matchAttributes c e (b :: rest)) :=
  matchAttributes_cons c e a (b :: rest)

theorem isMatch_tmpl (env : CharEnv) (ic : Bool) (v s : Str) :
    Rx.isMatch env (tmpl ic v) s = litsEq env ic v s := by
  unfold tmpl; rw [bos_noop, lits_match]

/-- `[n]`, in any context: the bare name test reads neither the prefix map nor the iframe flag. -/
theorem matchAttributes_A (n : String) : matchAttributes c e [A n] = hasAttr c e n := by
  rw [xml_type_pattern_choice, hasAttr_eq_any]
  unfold attrVals
  rw [List.any_map]
  congr 1; funext w
  simp

/-- `[type=v]` -/
theorem matchAttributes_Aty (v : String) : matchAttributes c.htmlOnly e [Aty v] = typeIs c e v := by
  rw [xml_type_pattern_choice]
  show (matchAttributeValues c.htmlOnly e "type".toStr []).any _ = _
  rw [htmlOnly_matchAttributeValues]
  unfold typeIs attrEq attrVals
  rw [List.any_map]
  congr 1; funext w
  cases hx : c.isXml <;> simp [hx, isMatch_tmpl]

/-- `[n=v]`, `[n=v i]` (`n` other than `type`) -/
theorem matchAttributes_Aval (n : String) (ic : Bool) (v : String) :
    matchAttributes c.htmlOnly e [Aval n ic v] = attrEq c e n ic v := by
  rw [xml_type_pattern_choice]
  show (matchAttributeValues c.htmlOnly e n.toStr []).any _ = _
  rw [htmlOnly_matchAttributeValues]
  unfold attrEq attrVals
  rw [List.any_map]
  congr 1; funext w
  simp [isMatch_tmpl]

theorem matchAny_types (vs : List String) :
    matchAny c.htmlOnly l e (vs.map (fun v => cmp none [Aty v] [])) = vs.any (typeIs c e) := by
  induction vs with
  | nil => simp [matchAny_nil]
  | cons v vs ih =>
    rw [List.map_cons, matchAny_cons, ih, matchSel_cmp, matchTag_none, matchAttributes_Aty,
      matchSubs_nil]
    simp

theorem typeIn_eq (vs : List String) :
    matchList c.htmlOnly l e (typeIn vs) =
      (!hasAttr c e "type" || attrEmpty c e "type" || vs.any (typeIs c e)) := by
  unfold typeIn
  rw [matchList_isL, matchAny_cons, matchAny_cons, matchAny_types]
  simp only [matchSel_cmp, matchTag_none, matchAttributes_nil, matchSubs_cons, matchSubs_nil,
    matchList_notL, matchAny_cons, matchAny_nil, matchAttributes_A, htmlOnly_hasAttr, matchAttributes_Aty,
    Bool.true_and, Bool.and_true, Bool.or_false, List.isEmpty_cons, Bool.not_false]
  rw [Bool.or_assoc]
  congr 2
  unfold typeIs
  rw [attrEq_empty]

end SoupVerif.StateLaws
