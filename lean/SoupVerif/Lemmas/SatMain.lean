/-
  The induction behind `Properties/C01Sat`: the matcher on the compiled IR equals the meaning of
  the selector, for every constructor of the C01 grammar.
-/
import SoupVerif.Lemmas.SatParts
import SoupVerif.Lemmas.SatAll
namespace SoupVerif
namespace SatMain
open Css SatTree SatCore SatLeaf SatNth SatParts

/-- Side conditions, per simple selector, under which matcher and meaning agree:
    * `#v`, `:not(L)` are grammatical (`v`, `L` non-empty);
    * a case-insensitive attribute comparison needs the regex engine's case folding to be the
      ASCII one (`lowerCp`);
    * `:root` needs the matcher's notion of root to agree with "has no parent element" on the
      locations of interest (`P`). -/
def Good (c : Ctx) (P : Loc → Prop) : Simple → Prop
  | .id v => v ≠ []
  | .neg L => L ≠ []
  | .attr _ name (some t) => caseInsensitive c name t.flag = true → c.env.fold = lowerCp
  | .root => ∀ l, P l → isElem l = true → matchRoot c l = isRootElem l
  | _ => True

variable {c : Ctx} {P : Loc → Prop}

theorem compileSels_isEmpty (L : List Complex) : (compileSels L).isEmpty = L.isEmpty := by
  cases L <;> simp [compileSels]

theorem any_left (hP : Closed P) (k : Comb) (l : Loc) (hl : P l) (f g : Loc → Bool)
    (h : ∀ t, P t → isElem t = true → f t = g t) : (leftOf k l).any f = (leftOf k l).any g :=
  any_congr_mem _ _ _ fun t ht => h t (hP.leftOf k l t hl ht) (leftOf_isElem k l t ht)

theorem any_right (hP : Closed P) (k : Comb) (l : Loc) (hl : P l) (f g : Loc → Bool)
    (h : ∀ t, P t → isElem t = true → f t = g t) : (rightOf k l).any f = (rightOf k l).any g :=
  any_congr_mem _ _ _ fun t ht => h t (hP.rightOf k l t hl ht) (rightOf_isElem k l t ht)

theorem compileCompound_relType (cp : Compound) (relation : SelList) (rt : Rel) :
    (compileCompound cp relation rt).relType = rt := by
  cases cp
  simp only [compileCompound, Parts.toSel, Sel.relType]

theorem compileRT_relType (x : Complex) (rt : Rel) : (compileRT x rt).relType = rt := by
  cases x <;> simp only [compileRT, compileCompound_relType]

theorem compileFwd_relType : ∀ (x : Complex) (rt : Rel) (tail : SelList),
    (compileFwd x rt tail).relType = rt
  | .one cp, rt, tail => by simp only [compileFwd, compileCompound_relType]
  | .comb L k R, rt, tail => by
    simp only [compileFwd]
    exact compileFwd_relType L _ _

-- not every member of the mutual block uses all three section hypotheses
set_option linter.unusedSectionVars false

section
variable (hP : Closed P) (hifr : c.iframeRestrict = false) (hT : TemplatesOk c.env)
include hP hifr hT

mutual
theorem simple_ok (s : Simple) (hg : Good c P s) (ha : s.All (Good c P))
    (l : Loc) (e : Elem) (kids : List Node) (hf : l.focus = .elem e kids) (hl : P l)
    (p : Parts) (hp : p.flags < 4) :
    (addSimple p s).flags < 4 ∧
      partsOk c l e (addSimple p s) = (partsOk c l e p && satSimple c l e s) := by
  cases s with
  | id v => exact ⟨hp, partsOk_leaf c l e p hT _ hg⟩
  | cls v => exact ⟨hp, partsOk_leaf c l e p hT _ trivial⟩
  | attr ns name test =>
    have hl : LeafOK c (.attr ns name test) := fun t ht => by subst ht; exact hg
    exact ⟨(addSimple_leaf_flags c p _ hl).symm ▸ hp, partsOk_leaf c l e p hT _ hl⟩
  | neg L =>
    refine ⟨hp, ?_⟩
    simp only [addSimple, satSimple]
    rw [partsOk_subs, matchList_neg]
    simp only [Bool.not_false, Bool.true_or, Bool.true_and, Bool.false_eq_true, if_false]
    rw [sels_ok L ha l e kids hf hl, compileSels_isEmpty]
    simp [List.isEmpty_eq_false_iff.mpr hg]
  | is L =>
    refine ⟨hp, ?_⟩
    simp only [addSimple, satSimple]
    rw [partsOk_subs, matchList_pos]
    cases L with
    | nil => simp [matchAny_cons, matchAny_nil, matchSel_null, satAny]
    | cons x r =>
      simp only [Bool.not_false, Bool.true_or, Bool.true_and, Bool.false_eq_true, if_false]
      rw [sels_ok (x :: r) ha l e kids hf hl]
  | has L =>
    refine ⟨hp, ?_⟩
    simp only [addSimple, satSimple]
    rw [partsOk_subs, matchList_pos]
    simp only [Bool.not_false, Bool.true_or, Bool.true_and, Bool.false_eq_true, if_false]
    rw [rels_ok L ha l e kids hf hl]
  | root =>
    refine ⟨(flags_or_root p.flags hp).1, ?_⟩
    simp only [addSimple, satSimple]
    rw [partsOk_root c l e p hp, hg l hl (isElem_iff.mpr ⟨_, _, hf⟩)]
  | empty =>
    refine ⟨(flags_or_empty p.flags hp).1, ?_⟩
    simp only [addSimple, satSimple]
    rw [partsOk_empty c l e p hp, empty_eq]
  | firstChild | lastChild | onlyChild | firstOfType | lastOfType | onlyOfType =>
    refine ⟨hp, ?_⟩
    simp only [addSimple, satSimple]
    rw [partsOk_nth]
    simp [matchNths_cons, matchNths_nil, nth_edge c l e (congrArg Node.elem? hf), any_true_eq]
theorem parts_ok (ps : List Simple) (ha : partsAll (Good c P) ps)
    (l : Loc) (e : Elem) (kids : List Node) (hf : l.focus = .elem e kids) (hl : P l)
    (p : Parts) (hp : p.flags < 4) :
    (compileParts p ps).flags < 4 ∧
      partsOk c l e (compileParts p ps) = (partsOk c l e p && satParts c l e ps) := by
  cases ps with
  | nil => exact ⟨hp, by simp [compileParts, satParts]⟩
  | cons s rest =>
    obtain ⟨⟨hg, has⟩, hrest⟩ := ha
    obtain ⟨h1, h2⟩ := simple_ok s hg has l e kids hf hl p hp
    obtain ⟨h3, h4⟩ := parts_ok rest hrest l e kids hf hl (addSimple p s) h1
    refine ⟨h3, ?_⟩
    simp only [compileParts, satParts]
    rw [h4, h2, Bool.and_assoc]
theorem compound_ok (cp : Compound) (ha : cp.All (Good c P))
    (l : Loc) (e : Elem) (kids : List Node) (hf : l.focus = .elem e kids) (hl : P l)
    (relation : SelList) (rt : Rel) :
    matchSel c l e (compileCompound cp relation rt) = (satCompound c l cp && relOk c l relation) := by
  cases cp with
  | mk tag parts =>
    obtain ⟨h1, h2⟩ := parts_ok parts ha l e kids hf hl {} flags_init
    simp only [compileCompound, satCompound, hf]
    rw [matchSel_toSel c l e _ _ _ _ h1, h2, partsOk_init, Bool.true_and]
    congr 2
    cases tag <;> rfl
theorem complex_ok (x : Complex) (ha : x.All (Good c P))
    (l : Loc) (e : Elem) (kids : List Node) (hf : l.focus = .elem e kids) (hl : P l) (rt : Rel) :
    matchSel c l e (compileRT x rt) = sat c l x := by
  cases x with
  | one cp =>
    simp only [compileRT, sat]
    rw [compound_ok cp ha l e kids hf hl, relOk_empty, Bool.and_true]
  | comb L k R =>
    simp only [compileRT, sat]
    rw [compound_ok R ha.2 l e kids hf hl, relOk_single]
    congr 1
    rw [compileRT_relType, walk_left c l k _ hifr]
    apply any_left hP k l hl
    intro t ht hel
    obtain ⟨te, tk, htf⟩ := isElem_focus hel
    rw [onRel_single c _ t te tk htf, complex_ok L ha.1 t te tk htf ht]
theorem sels_ok (L : List Complex) (ha : listAll (Good c P) L)
    (l : Loc) (e : Elem) (kids : List Node) (hf : l.focus = .elem e kids) (hl : P l) :
    matchAny c l e (compileSels L) = satAny c l L := by
  cases L with
  | nil => simp [compileSels, satAny, matchAny_nil]
  | cons x rest =>
    simp only [compileSels, satAny, matchAny_cons]
    rw [complex_ok x ha.1 l e kids hf hl, sels_ok rest ha.2 l e kids hf hl]
theorem rels_ok (L : List RelSel) (ha : relsAll (Good c P) L)
    (l : Loc) (e : Elem) (kids : List Node) (hf : l.focus = .elem e kids) (hl : P l) :
    matchAny c l e (compileRels L) = satHasAny c l L := by
  cases L with
  | nil => simp [compileRels, satHasAny, matchAny_nil]
  | cons r rest =>
    simp only [compileRels, satHasAny, matchAny_cons]
    rw [rel_ok r ha.1 l e kids hf hl, rels_ok rest ha.2 l e kids hf hl]
theorem rel_ok (r : RelSel) (ha : r.All (Good c P))
    (l : Loc) (e : Elem) (kids : List Node) (_hf : l.focus = .elem e kids) (hl : P l) :
    matchSel c l e (compileRel r) = satRel c l r := by
  cases r with
  | mk k x =>
    simp only [compileRel, satRel]
    have h := matchSel_toSel c l e {} none
      (.mk [compileFwd x k.hasRel emptyList] false false) .none flags_init
    have h2 : Sel.mk none [] [] [] [] [] (.mk [compileFwd x k.hasRel emptyList] false false) .none
        [] [] 0 = ({} : Parts).toSel none (.mk [compileFwd x k.hasRel emptyList] false false) .none :=
      rfl
    rw [h2, h, partsOk_init, relOk_single]
    simp only [matchTag, Bool.true_and]
    rw [compileFwd_relType, walk_right c l k _ hifr]
    apply any_right hP k l hl
    intro t ht hel
    obtain ⟨te, tk, htf⟩ := isElem_focus hel
    rw [onRel_single c _ t te tk htf]
    exact fwd_ok x ha k.hasRel emptyList (fun _ => true) (fun u _ _ => relOk_empty c u) t te tk htf ht
/-- `tail` is the compiled continuation (what is still to be matched to the right), `done` the specification's;
    `hdone` keeps the two equal while the chain is walked. -/
theorem fwd_ok (x : Complex) (ha : x.All (Good c P)) (rt : Rel) (tail : SelList)
    (done : Loc → Bool) (hdone : ∀ t, P t → isElem t = true → relOk c t tail = done t)
    (t : Loc) (te : Elem) (kids : List Node) (hf : t.focus = .elem te kids) (hl : P t) :
    matchSel c t te (compileFwd x rt tail) = satFwd c x done t := by
  cases x with
  | one cp =>
    simp only [compileFwd, satFwd]
    rw [compound_ok cp ha t te kids hf hl, hdone t hl (isElem_iff.mpr ⟨_, _, hf⟩)]
  | comb L k R =>
    simp only [compileFwd, satFwd]
    apply fwd_ok L ha.1 rt _ _ _ t te kids hf hl
    intro u hu _
    rw [relOk_single]
    rw [compileCompound_relType, walk_right c u k _ hifr]
    apply any_right hP k u hu
    intro v hv hel
    obtain ⟨ve, vk, hvf⟩ := isElem_focus hel
    rw [onRel_single c _ v ve vk hvf, compound_ok R ha.2 v ve vk hvf hv, hdone v hv hel]
end

end

end SatMain
end SoupVerif
