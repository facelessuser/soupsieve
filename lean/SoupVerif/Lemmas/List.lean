/- List facts, and the code points of attribute names the models compare with, used by several
  property files. -/
import SoupVerif.Lemmas.StrLit
namespace SoupVerif

theorem SatLeaf.id_toStr : ("id".toStr : Str) = [105, 100] := by decide_lit
theorem SatLeaf.class_toStr : ("class".toStr : Str) = [99, 108, 97, 115, 115] := by decide_lit
theorem SatLeaf.type_toStr : ("type".toStr : Str) = [116, 121, 112, 101] := by decide_lit

theorem lookup_mem {α β} [BEq α] [LawfulBEq α] : ∀ (l : List (α × β)) (k : α) (v : β), l.lookup k = some v → (k, v) ∈ l
  | [], _, _, h => by simp [List.lookup] at h
  | (k', v') :: ps, k, v, h => by
    simp only [List.lookup] at h
    split at h
    · rename_i heq
      simp only [beq_iff_eq] at heq
      simp only [Option.some.injEq] at h
      subst heq; subst h; exact List.mem_cons_self ..
    · exact List.mem_cons_of_mem _ (lookup_mem ps k v h)

theorem takeWhile_true {α} : ∀ (l : List α), l.takeWhile (fun _ => true) = l
  | [] => rfl
  | x :: l => by simp [takeWhile_true l]

theorem mem_takeWhile_p {α} (p : α → Bool) : ∀ (l : List α) (a : α), a ∈ l.takeWhile p → p a = true := by
  intro l
  induction l with
  | nil => intro a h; simp at h
  | cons x xs ih =>
    intro a h
    simp only [List.takeWhile] at h
    split at h
    · rcases List.mem_cons.mp h with rfl | h'
      · assumption
      · exact ih a h'
    · simp at h

theorem any_true_eq {α} (L : List α) : (!L.any (fun _ => true)) = L.isEmpty := by
  cases L <;> simp

theorem any_toList {α} (o : Option α) (f : α → Bool) :
    o.toList.any f = (match o with | some x => f x | none => false) := by
  cases o <;> simp

theorem any_congr_mem {α} (L : List α) (f g : α → Bool) (h : ∀ x ∈ L, f x = g x) :
    L.any f = L.any g := by
  induction L with
  | nil => rfl
  | cons x rest ih =>
    simp only [List.any_cons]
    rw [h x (List.mem_cons_self ..), ih (fun y hy => h y (List.mem_cons_of_mem _ hy))]

theorem filter_len_le_one_split {α} (p : α → Bool) (A B : List α) (x : α) (hx : p x = true)
    (h : ((A ++ x :: B).filter p).length ≤ 1) : (∀ a ∈ A, p a = false) ∧ (∀ b ∈ B, p b = false) := by
  simp only [List.filter_append, List.filter_cons, hx, if_true, List.length_append,
    List.length_cons] at h
  have hA : (A.filter p).length = 0 := by omega
  have hB : (B.filter p).length = 0 := by omega
  have hA' := List.filter_eq_nil_iff.mp (List.eq_nil_of_length_eq_zero hA)
  have hB' := List.filter_eq_nil_iff.mp (List.eq_nil_of_length_eq_zero hB)
  exact ⟨fun a ha => by simpa using hA' a ha, fun b hb => by simpa using hB' b hb⟩

theorem find?_split {α} (p : α → Bool) (A B : List α) (x : α) (hx : p x = true)
    (hA : ∀ a ∈ A, p a = false) : (A ++ x :: B).find? p = some x := by
  induction A with
  | nil => simp [hx]
  | cons a A ih =>
    have := hA a (List.mem_cons_self ..)
    simp only [List.cons_append, List.find?_cons, this]
    exact ih (fun b hb => hA b (List.mem_cons_of_mem _ hb))

theorem nodup_split_unique {α} : ∀ (X X' Y Y' : List α) (t : α),
    (X ++ t :: Y).Nodup → X ++ t :: Y = X' ++ t :: Y' → X = X' ∧ Y = Y' := by
  intro X
  induction X with
  | nil =>
    intro X' Y Y' t hnd h
    cases X' with
    | nil => simp at h; exact ⟨rfl, h⟩
    | cons x X' =>
      simp only [List.nil_append, List.cons_append, List.cons.injEq] at h
      obtain ⟨rfl, rfl⟩ := h
      simp at hnd
  | cons x X ih =>
    intro X' Y Y' t hnd h
    cases X' with
    | nil =>
      simp only [List.nil_append, List.cons_append, List.cons.injEq] at h
      obtain ⟨rfl, rfl⟩ := h
      simp at hnd
    | cons x' X' =>
      simp only [List.cons_append, List.cons.injEq] at h
      obtain ⟨rfl, h⟩ := h
      simp only [List.cons_append, List.nodup_cons] at hnd
      obtain ⟨h1, h2⟩ := ih X' Y Y' t hnd.2 h
      exact ⟨by rw [h1], h2⟩

theorem head?_filter_eq_some {α} (p : α → Bool) (L : List α) (t : α) :
    (L.filter p).head? = some t ↔
      p t = true ∧ ∃ M D, L = M ++ t :: D ∧ ∀ m ∈ M, p m = false := by
  rw [List.head?_filter, List.find?_eq_some_iff_append]
  simp

theorem head?_append_of_some {α} {l l' : List α} {v : α} (h : l.head? = some v) :
    (l ++ l').head? = some v := by
  cases l with
  | nil => cases h
  | cons a l => simpa using h

theorem toList_map {α β : Type} (f : α → β) (o : Option α) : (o.map f).toList = o.toList.map f := by
  cases o <;> rfl

theorem findSome?_congr' {α β : Type} (f g : α → Option β) :
    ∀ (l : List α), (∀ a ∈ l, f a = g a) → l.findSome? f = l.findSome? g
  | [], _ => rfl
  | a :: l, h => by
    rw [List.findSome?_cons, List.findSome?_cons, h a (by simp),
      findSome?_congr' f g l (fun b hb => h b (by simp [hb]))]

theorem isEmpty_false_of_length {α : Type} {l : List α} {n : Nat} (hn : n = l.length) (h : 1 ≤ n) : l.isEmpty = false := by
  cases l with
  | nil => simp at hn; omega
  | cons _ _ => rfl

theorem isEmpty_true_of_length {α : Type} {l : List α} {n : Nat} (hn : n = l.length) (h : ¬ 1 ≤ n) : l.isEmpty = true := by
  cases l with
  | nil => rfl
  | cons _ _ => simp at hn; omega

theorem head?_append_of_ne_nil {α} (x r : List α) (h : x ≠ []) : (x ++ r).head? = x.head? := by
  cases x with
  | nil => exact absurd rfl h
  | cons _ _ => rfl

theorem take_takeWhile {α} (P : α → Bool) : ∀ t : List α, t.take (t.takeWhile P).length = t.takeWhile P
  | [] => rfl
  | c :: cs => by
    rw [List.takeWhile_cons]
    cases P c with
    | true => simp only [if_true, List.length_cons, List.take_succ_cons, take_takeWhile P cs]
    | false => rfl

theorem drop_takeWhile {α} (P : α → Bool) : ∀ t : List α, t.drop (t.takeWhile P).length = t.dropWhile P
  | [] => rfl
  | c :: cs => by
    rw [List.takeWhile_cons, List.dropWhile_cons]
    cases P c with
    | true => simp only [if_true, List.length_cons, List.drop_succ_cons, drop_takeWhile P cs]
    | false => rfl

theorem mem_head?_toList {α} {L : List α} {t : α} (h : t ∈ L.head?.toList) : t ∈ L :=
  List.mem_of_mem_head? (Option.mem_toList.mp h)

theorem any_takeWhile_of_last {α} (P q : α → Bool) :
    ∀ (L : List α), (∀ pre d post, L = pre ++ d :: post → q d = false → post = [] ∧ P d = false) →
      (L.takeWhile q).any P = L.any P
  | [], _ => rfl
  | x :: xs, H => by
    rw [List.takeWhile_cons]
    cases hq : q x with
    | true =>
      simp only [if_true, List.any_cons]
      rw [any_takeWhile_of_last P q xs (fun pre d post h hd => H (x :: pre) d post (by rw [h]; rfl) hd)]
    | false =>
      obtain ⟨hpost, hP⟩ := H [] x xs rfl hq
      subst hpost
      simp [hP]

theorem find?_congr {α} {p q : α → Bool} (l : List α) (h : ∀ x ∈ l, p x = q x) :
    l.find? p = l.find? q := by
  induction l with
  | nil => rfl
  | cons x xs ih =>
    simp only [List.find?_cons, h x (List.mem_cons_self ..)]
    rw [ih (fun y hy => h y (List.mem_cons_of_mem _ hy))]

end SoupVerif
