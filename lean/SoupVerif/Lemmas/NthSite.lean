/-
  The one place where the matcher calls `Nth.matchOne` (`matchNth` in Model/Match.lean, the model of
  `CSSMatch.match_nth`): the data of the call — the sibling list, the order of the walk, which nodes are counted,
  the position of the element — the fact that `el` occurs exactly once in the list walked, that the hypotheses of
  `NthLemmas.matchOne_eq` hold there (`wellformed`), and `matchNth_sat`: the record matches iff `el` passes `of S`
  and its position is designated, with the keyword reading `matchNth_const_iff`.
  `Properties/C02Site.lean` draws the `An+B` readings from `matchNth_sat`; `Lemmas/SatNth.lean` reads the records of `:first-child` & co. (`sels := emptyList`) off `matchNth_const_iff`.
-/
import SoupVerif.Lemmas.SatCore
import SoupVerif.Lemmas.Nth
namespace SoupVerif
namespace C02Site
open SatTree NthSpec

/-- The sibling list `match_nth` walks: the parent's contents, or a fake parent holding just `el`. -/
def sibs (l : Loc) : List Loc :=
  match l.parent? with
  | some p => p.children
  | none => [l]

/-- `get_children(parent, reverse=last)`. -/
def walk (l : Loc) (last : Bool) : List Loc := if last then (sibs l).reverse else sibs l

/-- The nodes the walk passes before it reaches `l` … -/
def before (l : Loc) (last : Bool) : List Loc :=
  if last then l.nextSiblings.reverse else l.prevSiblings.reverse

/-- … and the ones after it (never looked at). -/
def after (l : Loc) (last : Bool) : List Loc :=
  if last then l.prevSiblings else l.nextSiblings

/-- Which nodes `match_nth` counts: elements that pass `of S` and, for `-of-type`, have the type of
    `el` (`e` is the element of `el`). -/
def counted (c : Ctx) (e : Elem) (ofType : Bool) (sels : SelList) (ch : Loc) : Bool :=
  match ch.elem? with
  | none => false
  | some ce => (!sels.nonEmpty || matchList c ch ce sels) && (!ofType || sameType c e ce)

/-- The position of `l` among its siblings: 1 + the number of counted siblings before it
    (after it, for `:nth-last-*`). -/
def position (c : Ctx) (l : Loc) (e : Elem) (ofType last : Bool) (sels : SelList) : Nat :=
  ((if last then l.nextSiblings else l.prevSiblings).filter (counted c e ofType sels)).length + 1

/-- The `of S` pre-check on `el` itself. -/
def preCheck (c : Ctx) (l : Loc) (e : Elem) (sels : SelList) : Bool :=
  !sels.nonEmpty || matchList c l e sels

theorem matchNth_eq (c : Ctx) (l : Loc) (e : Elem) (a : Int) (var : Bool) (b : Int)
    (ofType last : Bool) (sels : SelList) :
    matchNth c l e (.mk a var b ofType last sels) =
      if preCheck c l e sels then
        Nth.matchOne (counted c e ofType sels) (fun ch => ch.same l) a b var (walk l last)
      else false := by
  conv => lhs; unfold matchNth
  have hp : preCheck c l e sels = !(sels.nonEmpty && !matchList c l e sels) := by
    unfold preCheck; cases sels.nonEmpty <;> cases matchList c l e sels <;> rfl
  rw [hp]
  cases (sels.nonEmpty && !matchList c l e sels) <;> rfl

theorem sibs_split (l : Loc) : sibs l = l.prevSiblings.reverse ++ l :: l.nextSiblings := by
  unfold sibs
  cases hp : l.parent? with
  | some p => exact parent?_children l p hp
  | none =>
    have hup := (parent?_none_iff l).mp hp
    obtain ⟨h1, h2⟩ := siblings_nil_of_top l hup
    simp [h1, h2]

theorem walk_split (l : Loc) (last : Bool) : walk l last = before l last ++ l :: after l last := by
  unfold walk before after
  rw [sibs_split]
  cases last <;> simp

theorem before_not_same (l : Loc) (last : Bool) : ∀ x ∈ before l last, x.same l = false := by
  intro x hx
  unfold before at hx
  cases last with
  | false => exact prev_not_same l x (List.mem_reverse.mp hx)
  | true => exact next_not_same l x (List.mem_reverse.mp hx)

theorem after_not_same (l : Loc) (last : Bool) : ∀ x ∈ after l last, x.same l = false := by
  intro x hx
  unfold after at hx
  cases last with
  | false => exact next_not_same l x hx
  | true => exact prev_not_same l x hx

/-- **`el` occurs exactly once** in the list `match_nth` walks: the members for which `child is el`
    holds are `l`, once. -/
theorem occurs_once (l : Loc) (last : Bool) : (walk l last).filter (fun ch => ch.same l) = [l] := by
  rw [walk_split, List.filter_append, List.filter_cons]
  have h1 : (before l last).filter (fun ch => ch.same l) = [] :=
    List.filter_eq_nil_iff.mpr (fun x hx => by simp [before_not_same l last x hx])
  have h2 : (after l last).filter (fun ch => ch.same l) = [] :=
    List.filter_eq_nil_iff.mpr (fun x hx => by simp [after_not_same l last x hx])
  rw [h1, h2, same_self l]; rfl

theorem occurs_once_in_parent (l p : Loc) (hp : l.parent? = some p) :
    p.children.filter (fun ch => ch.same l) = [l] := by
  have h := occurs_once l false
  unfold walk sibs at h
  rw [hp] at h
  exact h

theorem counted_self (c : Ctx) (l : Loc) (e : Elem) (he : l.elem? = some e) (ofType : Bool)
    (sels : SelList) (hpre : preCheck c l e sels = true) : counted c e ofType sels l = true := by
  unfold counted
  rw [he]
  unfold preCheck at hpre
  simp only [hpre, SoupVerif.sameType_refl, Bool.or_true, Bool.and_self]

/-- **The hypotheses of `NthLemmas.matchOne_eq` hold at the call site**, for every located element, every
    nth record whose `of S` pre-check passes. -/
theorem wellformed (c : Ctx) (l : Loc) (e : Elem) (he : l.elem? = some e) (ofType last : Bool)
    (sels : SelList) (hpre : preCheck c l e sels = true) :
    walk l last = before l last ++ l :: after l last ∧
    (∀ x ∈ before l last, (fun ch : Loc => ch.same l) x = false) ∧
    (fun ch : Loc => ch.same l) l = true ∧
    counted c e ofType sels l = true :=
  ⟨walk_split l last, before_not_same l last, same_self l, counted_self c l e he ofType sels hpre⟩

theorem position_eq (c : Ctx) (l : Loc) (e : Elem) (ofType last : Bool) (sels : SelList) :
    position c l e ofType last sels = ((before l last).filter (counted c e ofType sels)).length + 1 := by
  unfold position before
  cases last <;> simp [List.filter_reverse]

/-- **`match_nth` on one record**, both readings of `var`: the record matches iff `el` passes `of S` and its
    position is designated — `a·n + b = position` for some `n ≥ 0` with an `n`, `a = position` without. -/
theorem matchNth_sat (c : Ctx) (l : Loc) (e : Elem) (he : l.elem? = some e) (a : Int) (var : Bool) (b : Int)
    (ofType last : Bool) (sels : SelList) :
    matchNth c l e (.mk a var b ofType last sels) =
      (preCheck c l e sels &&
        if var then nthSatB a b (position c l e ofType last sels)
        else decide (a = ((position c l e ofType last sels : Nat) : Int))) := by
  rw [matchNth_eq]
  cases hpre : preCheck c l e sels with
  | false => rfl
  | true =>
    obtain ⟨h1, h2, h3, h4⟩ := wellformed c l e he ofType last sels hpre
    rw [if_pos rfl, Bool.true_and, position_eq, h1]
    exact NthLemmas.matchOne_eq _ _ a b _ l _ var h2 h3 h4

/-- **Keyword form** (`var = false`: `:first-child`, `:last-of-type`, … with `idx = a`). -/
theorem matchNth_const_iff (c : Ctx) (l : Loc) (e : Elem) (he : l.elem? = some e) (a b : Int)
    (ofType last : Bool) (sels : SelList) :
    matchNth c l e (.mk a false b ofType last sels) = true ↔
      preCheck c l e sels = true ∧ a = ((position c l e ofType last sels : Nat) : Int) := by
  rw [matchNth_sat c l e he, Bool.and_eq_true, if_neg Bool.false_ne_true, decide_eq_true_iff]

end C02Site
end SoupVerif
