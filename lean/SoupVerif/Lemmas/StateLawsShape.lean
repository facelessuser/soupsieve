/-
  C17 helpers: the *shape* of the generated built-in selector lists.

  A small combinator vocabulary for the IR (`cmp`, `isL`, `notL`, `A`, `Aty`, `Aval`, `T`, `HT`)
  in which each `Gen.CSS_*` term is re-stated in a form that reads like its CSS source (that of
  `CSS_NTH_OF_S_DEFAULT` is `default_shape`, `Refine/C02ParseSem.lean`).  Every shape fact is proved by `rfl`, once
  the string literals are turned into lists (`shape_rfl`), against the term generated from the live Python module,
  so any edit of the Python definitions breaks the corresponding fact.
-/
import SoupVerif.Generated.Builtins
import SoupVerif.Lemmas.StrLit
namespace SoupVerif.StateLaws
open SoupVerif

/-- The `[a=v]` template `^v\Z` of `parse_attribute_selector` (literals, one IGNORECASE flag). -/
def tmpl (ic : Bool) (v : Str) : Rx := .seq (.bos :: (v.map (Rx.lit · ic) ++ [.eos]))

/-- `ct.SelectorList()` -/
abbrev E : SelList := .mk [] false false

abbrev cmpG (tag : Option SelTag) (attrs : List AttrSel) (nth : List NthSel) (subs : List SelList)
    (rel : SelList) (rt : Rel) (flags : Nat) : Sel :=
  .mk tag [] [] attrs nth subs rel rt [] [] flags

abbrev cmp (tag : Option SelTag) (attrs : List AttrSel) (subs : List SelList) : Sel :=
  cmpG tag attrs [] subs E .none 0

/-- `:is(…)` entry of `subs` (also the body of a relation). -/
abbrev isL (s : List Sel) : SelList := .mk s false false
/-- `:not(…)` entry of `subs`. -/
abbrev notL (s : List Sel) : SelList := .mk s true false

/-- `[n]` -/
abbrev A (n : String) : AttrSel := ⟨n.toStr, [], none, none⟩
/-- `[type=v]`: case-insensitive pattern plus the case-sensitive `xml_type_pattern`. -/
abbrev Aty (v : String) : AttrSel := ⟨"type".toStr, [], some (tmpl true v.toStr), some (tmpl false v.toStr)⟩
/-- `[n=v]` / `[n=v i]` for an attribute other than `type`: one pattern. -/
abbrev Aval (n : String) (ic : Bool) (v : String) : AttrSel := ⟨n.toStr, [], some (tmpl ic v.toStr), none⟩

/-- `name` -/
abbrev T (n : String) : Option SelTag := some ⟨n.toStr, none⟩
/-- `html|name` -/
abbrev HT (n : String) : Option SelTag := some ⟨n.toStr, some "html".toStr⟩

/-- `:is(input:not([type=hidden]), button, select, textarea, fieldset, optgroup, option, fieldset)`: the source
    (`CSS_DISABLED`, `CSS_ENABLED` of css_parser.py) names `fieldset` twice. -/
def ctl8 : SelList :=
  isL [cmp (T "input") [] [notL [cmp none [Aty "hidden"] []]], cmp (T "button") [] [],
       cmp (T "select") [] [], cmp (T "textarea") [] [], cmp (T "fieldset") [] [],
       cmp (T "optgroup") [] [], cmp (T "option") [] [], cmp (T "fieldset") [] []]

/-- `:is(input:not([type=hidden]), button, select, textarea, fieldset)` -/
def ctl5 : SelList :=
  isL [cmp (T "input") [] [notL [cmp none [Aty "hidden"] []]], cmp (T "button") [] [],
       cmp (T "select") [] [], cmp (T "textarea") [] [], cmp (T "fieldset") [] []]

/-- `html|optgroup[disabled] >` / `html|fieldset[disabled] >` -/
def disabledParent (n : String) : SelList := isL [cmpG (HT n) [A "disabled"] [] [] E .child 0]

/-- `html|fieldset[disabled] > html|*:not(legend:nth-of-type(1)) ` (descendant combinator) -/
def notFirstLegendInDisabledFieldset : SelList :=
  isL [cmpG (HT "*") [] []
        [notL [cmpG (T "legend") [] [NthSel.mk 1 false 0 true false E] [] E .none 0]]
        (disabledParent "fieldset") .desc 0]

/-- `:is(:not([type]), [type=""], [type=text], …)` over a list of type keywords. -/
def typeIn (vs : List String) : SelList :=
  isL (cmp none [] [notL [cmp none [A "type"] []]] :: cmp none [Aty ""] [] ::
        vs.map (fun v => cmp none [Aty v] []))

/-- The shared compound of `:in-range` / `:out-of-range`, up to the range flag:
    `html|input:is([type="date"], [type="month"], [type="week"], [type="time"],
                   [type="datetime-local"], [type="number"], [type="range"]):is([min], [max])`. -/
def rangeCompound (flag : Nat) : Sel :=
  cmpG (HT "input") [] []
    [isL (["date", "month", "week", "time", "datetime-local", "number", "range"].map
            (fun v => cmp none [Aty v] [])),
     isL [cmp none [A "min"] [], cmp none [A "max"] []]] E .none flag

/-- A shape fact holds by unfolding.  Written as `"href".toStr` the elaborator (and then the kernel) decodes every
    name from the UTF-8 bytes of its literal; so the vocabulary is unfolded first and each literal replaced by the
    list of its characters (`toStr_ofList`). -/
macro "shape_rfl" : tactic =>
  `(tactic| (simp only [A, Aty, Aval, T, HT, ctl8, ctl5, disabledParent, notFirstLegendInDisabledFieldset, typeIn,
      rangeCompound, List.map]; (repeat rw [toStr_ofList]); rfl))

/-- `html|*:is(a, area)[href]` -/
theorem shape_LINK : Gen.CSS_LINK =
    .mk [cmp (HT "*") [A "href"] [isL [cmp (T "a") [] [], cmp (T "area") [] []]]] false true := by shape_rfl

/-- `html|*:is(input[type=checkbox], input[type=radio])[checked], html|option[selected]` -/
theorem shape_CHECKED : Gen.CSS_CHECKED =
    .mk [cmp (HT "*") [A "checked"]
            [isL [cmp (T "input") [Aty "checkbox"] [], cmp (T "input") [Aty "radio"] []]],
         cmp (HT "option") [A "selected"] []] false true := by shape_rfl

/-- `:checked, html|form html|*:is(button, input)[type="submit"]` (last one flagged `SEL_DEFAULT`) -/
theorem shape_DEFAULT : Gen.CSS_DEFAULT =
    .mk [cmp none [] [Gen.CSS_CHECKED],
         cmpG (HT "*") [Aty "submit"] [] [isL [cmp (T "button") [] [], cmp (T "input") [] []]]
           (isL [cmpG (HT "form") [] [] [] E .desc 0]) .none SEL_DEFAULT] false true := by shape_rfl

/-- ```
    html|input[type="checkbox"][indeterminate],
    html|input[type="radio"]:is(:not([name]), [name=""]):not([checked]),
    html|progress:not([value]),
    html|input[type="radio"][name]:not([name='']):not([checked])      -- flagged SEL_INDETERMINATE
    ``` -/
theorem shape_INDETERMINATE : Gen.CSS_INDETERMINATE =
    .mk [cmp (HT "input") [Aty "checkbox", A "indeterminate"] [],
         cmp (HT "input") [Aty "radio"]
           [isL [cmp none [] [notL [cmp none [A "name"] []]], cmp none [Aval "name" false ""] []],
            notL [cmp none [A "checked"] []]],
         cmp (HT "progress") [] [notL [cmp none [A "value"] []]],
         cmpG (HT "input") [Aty "radio", A "name"] []
           [notL [cmp none [Aval "name" false ""] []], notL [cmp none [A "checked"] []]]
           E .none SEL_INDETERMINATE] false true := by shape_rfl

/-- ```
    html|*:is(input:not([type=hidden]), button, select, textarea, fieldset, optgroup, option, fieldset)[disabled],
    html|optgroup[disabled] > html|option,
    html|fieldset[disabled] > html|*:is(input:not([type=hidden]), button, select, textarea, fieldset),
    html|fieldset[disabled] > html|*:not(legend:nth-of-type(1)) html|*:is(input:not([type=hidden]), button, select, textarea, fieldset)
    ``` -/
theorem shape_DISABLED : Gen.CSS_DISABLED =
    .mk [cmp (HT "*") [A "disabled"] [ctl8],
         cmpG (HT "option") [] [] [] (disabledParent "optgroup") .none 0,
         cmpG (HT "*") [] [] [ctl5] (disabledParent "fieldset") .none 0,
         cmpG (HT "*") [] [] [ctl5] notFirstLegendInDisabledFieldset .none 0] false true := by shape_rfl

/-- `html|*:is(input:not([type=hidden]), …, fieldset):not(:disabled)` -/
theorem shape_ENABLED : Gen.CSS_ENABLED =
    .mk [cmp (HT "*") [] [ctl8, notL [cmp none [] [Gen.CSS_DISABLED]]]] false true := by shape_rfl

/-- `html|*:is(input, textarea, select)[required]` -/
theorem shape_REQUIRED : Gen.CSS_REQUIRED =
    .mk [cmp (HT "*") [A "required"]
          [isL [cmp (T "input") [] [], cmp (T "textarea") [] [], cmp (T "select") [] []]]] false true := by shape_rfl

/-- `html|*:is(input, textarea, select):not([required])` -/
theorem shape_OPTIONAL : Gen.CSS_OPTIONAL =
    .mk [cmp (HT "*") []
          [isL [cmp (T "input") [] [], cmp (T "textarea") [] [], cmp (T "select") [] []],
           notL [cmp none [A "required"] []]]] false true := by shape_rfl

/-- ```
    html|input:is(:not([type]), [type=""], [type=text], [type=search], [type=url], [type=tel],
                  [type=email], [type=password], [type=number])
              [placeholder]:not([placeholder='']):is(:not([value]), [value=""]),
    html|textarea[placeholder]:not([placeholder=''])                 -- flagged SEL_PLACEHOLDER_SHOWN
    ``` -/
theorem shape_PLACEHOLDER_SHOWN : Gen.CSS_PLACEHOLDER_SHOWN =
    .mk [cmp (HT "input") [A "placeholder"]
           [typeIn ["text", "search", "url", "tel", "email", "password", "number"],
            notL [cmp none [Aval "placeholder" false ""] []],
            isL [cmp none [] [notL [cmp none [A "value"] []]], cmp none [Aval "value" false ""] []]],
         cmpG (HT "textarea") [A "placeholder"] [] [notL [cmp none [Aval "placeholder" false ""] []]]
           E .none SEL_PLACEHOLDER_SHOWN] false true := by shape_rfl

/-- ```
    html|*:is(textarea, input:is(:not([type]), [type=""], [type=text], …, [type=week]))
          :not([readonly], :disabled),
    html|*:is([contenteditable=""], [contenteditable="true" i])
    ``` -/
theorem shape_READ_WRITE : Gen.CSS_READ_WRITE =
    .mk [cmp (HT "*") []
           [isL [cmp (T "textarea") [] [],
                 cmp (T "input") []
                   [typeIn ["text", "search", "url", "tel", "email", "number", "password", "date",
                            "datetime-local", "month", "time", "week"]]],
            notL [cmp none [A "readonly"] [], cmp none [] [Gen.CSS_DISABLED]]],
         cmp (HT "*") []
           [isL [cmp none [Aval "contenteditable" false ""] [],
                 cmp none [Aval "contenteditable" true "true"] []]]] false true := by shape_rfl

/-- `html|*:not(:read-write)` -/
theorem shape_READ_ONLY : Gen.CSS_READ_ONLY =
    .mk [cmp (HT "*") [] [notL [cmp none [] [Gen.CSS_READ_WRITE]]]] false true := by shape_rfl

theorem shape_IN_RANGE : Gen.CSS_IN_RANGE = .mk [rangeCompound SEL_IN_RANGE] false true := by shape_rfl
theorem shape_OUT_OF_RANGE : Gen.CSS_OUT_OF_RANGE = .mk [rangeCompound SEL_OUT_OF_RANGE] false true := by shape_rfl

end SoupVerif.StateLaws
