/-
  `:has()`: the forward reading of the specification (`Css.satRel` / `Css.satFwd`, `Spec/Css.lean`)
  against the declarative one (`Css.satRelDeclarative` / `Css.satScoped`, `Spec/CssHas.lean`).

  The helper lemmas: the four combinator relations `rightOf` / `leftOf` are converse to each other (on
  `Lemmas/TreeWalk`: locations of one tree are determined by their position, the sibling splits), and the
  forward chains.  The converse directions hold in a tree whose only document object is its top: the hypothesis
  `C01Has.DocOnlyTop`, defined here.
-/
import SoupVerif.Spec.CssHas
import SoupVerif.Lemmas.SatTree
namespace SoupVerif
namespace SatHas
open Css SatTree

theorem mem_head?_toList_iff {α} (L : List α) (t : α) : t ∈ L.head?.toList ↔ L.head? = some t := by
  simp [Option.mem_toList]

/-- The only document object of the tree is its top. -/
def _root_.SoupVerif.C01Has.DocOnlyTop (T : Loc) : Prop := ∀ n : Loc, n.top = T → n.isDoc = true → n.up = []

open C01Has (DocOnlyTop)

theorem _root_.SoupVerif.C01Has.DocOnlyTop.notDoc {T : Loc} (hT : DocOnlyTop T) (n : Loc) (ht : n.top = T)
    (hu : n.up ≠ []) :
    n.isDoc = false := by
  cases h : n.isDoc with
  | false => rfl
  | true => exact absurd (hT n ht h) hu

theorem adj_next_prev (u t : Loc) (hu : isElem u = true)
    (h : (followingElemSiblings u).head? = some t) : (precedingElemSiblings t).head? = some u := by
  unfold followingElemSiblings at h
  unfold precedingElemSiblings
  obtain ⟨_, M, D, hMD, hM⟩ := (head?_filter_eq_some _ _ _).mp h
  refine (head?_filter_eq_some _ _ _).mpr ⟨hu, M.reverse, u.prevSiblings, split_next u t M D hMD, ?_⟩
  intro m hm
  exact hM m (List.mem_reverse.mp hm)

theorem adj_prev_next (u t : Loc) (ht : isElem t = true)
    (h : (precedingElemSiblings t).head? = some u) : (followingElemSiblings u).head? = some t := by
  unfold precedingElemSiblings at h
  unfold followingElemSiblings
  obtain ⟨_, M, A, hMA, hM⟩ := (head?_filter_eq_some _ _ _).mp h
  refine (head?_filter_eq_some _ _ _).mpr ⟨ht, M.reverse, t.nextSiblings, split_prev t u M A hMA, ?_⟩
  intro m hm
  exact hM m (List.mem_reverse.mp hm)

theorem ancestorElems_unfold (t : Loc) :
    ancestorElems t = (match parentElem t with
      | none => []
      | some p => p :: ancestorElems p) := by
  obtain ⟨n, up⟩ := t
  cases up with
  | nil => simp [ancestorElems, ancestorElemsAux, parentElem]
  | cons f rest =>
    simp only [ancestorElems, ancestorElemsAux, parentElem]
    split <;> rfl

theorem ancestorElemsAux_trans : ∀ (up : List Frame) (n : Node) (a u : Loc),
    a ∈ ancestorElemsAux n up → u ∈ ancestorElems a → u ∈ ancestorElemsAux n up := by
  intro up
  induction up with
  | nil => intro n a u h; simp [ancestorElemsAux] at h
  | cons f rest ih =>
    intro n a u h hu
    simp only [ancestorElemsAux] at h ⊢
    split at h
    · simp at h
    · rename_i hdoc
      rw [if_neg hdoc]
      simp only [List.mem_cons] at h
      rcases h with rfl | h
      · exact List.mem_cons_of_mem _ hu
      · exact List.mem_cons_of_mem _ (ih _ a u h hu)

theorem ancestorElems_trans (t a u : Loc) (h : a ∈ ancestorElems t) (hu : u ∈ ancestorElems a) :
    u ∈ ancestorElems t :=
  ancestorElemsAux_trans t.up t.focus a u h hu

theorem parentElem_of_child (u t : Loc) (hd : u.isDoc = false) (h : t ∈ u.children) :
    parentElem t = some u := by
  rw [parentElem_eq, child_parent u t h]
  simp [hd]

theorem child_of_parentElem (u t : Loc) (h : parentElem t = some u) : t ∈ u.children := by
  rw [parentElem_eq] at h
  split at h
  · rename_i p hp
    split at h
    · simp at h
    · simp only [Option.some.injEq] at h
      subst h
      exact self_mem_parent_children t p hp
  · simp at h

theorem child_ancestorElems (u t : Loc) (hd : u.isDoc = false) (h : t ∈ u.children) :
    u ∈ ancestorElems t := by
  rw [ancestorElems_unfold, parentElem_of_child u t hd h]
  simp

theorem isDesc_ancestorElems {T : Loc} (hT : DocOnlyTop T) {u t : Loc} (h : IsDesc u t) :
    u.top = T → u.isDoc = false → u ∈ ancestorElems t := by
  induction h with
  | child hc => intro _ hd; exact child_ancestorElems _ _ hd hc
  | @step l ch d hc _ ih =>
    intro ht hd
    obtain ⟨f, hf⟩ := l.children_up ch hc
    have hch : ch.isDoc = false :=
      hT.notDoc ch (by rw [top_child l ch hc]; exact ht) (by rw [hf]; simp)
    exact ancestorElems_trans d ch l (ih (by rw [top_child l ch hc]; exact ht) hch)
      (child_ancestorElems l ch hd hc)

theorem ancestorElems_isDesc (u t : Loc) (h : u ∈ ancestorElems t) : IsDesc u t := by
  rw [← ancestors_takeWhile] at h
  exact ancestorsAux_isDesc t.up t.focus u ((List.takeWhile_sublist _).mem h)

theorem mem_descendantElems_iff (u t : Loc) :
    t ∈ descendantElems u ↔ IsDesc u t ∧ isElem t = true := by
  rw [descendantElems_eq, List.mem_filter, Loc.mem_descendants_iff]
  rfl

theorem left_of_right {T : Loc} (hT : DocOnlyTop T) (k : Comb) (u t : Loc) (hu : u.top = T)
    (hel : isElem u = true) (hd : u.isDoc = false) (h : t ∈ rightOf k u) : u ∈ leftOf k t := by
  cases k with
  | desc =>
    simp only [rightOf, mem_descendantElems_iff] at h
    exact isDesc_ancestorElems hT h.1 hu hd
  | child =>
    simp only [rightOf, childElems, List.mem_filter] at h
    simp only [leftOf, Option.mem_toList]
    exact parentElem_of_child u t hd h.1
  | sib =>
    simp only [rightOf, followingElemSiblings, List.mem_filter] at h
    simp only [leftOf, precedingElemSiblings, List.mem_filter]
    exact ⟨(next_iff_prev u t).mp h.1, hel⟩
  | adj =>
    simp only [rightOf, Option.mem_toList] at h
    simp only [leftOf, Option.mem_toList]
    exact adj_next_prev u t hel h

theorem right_of_left (k : Comb) (u t : Loc) (hel : isElem t = true) (h : u ∈ leftOf k t) :
    t ∈ rightOf k u := by
  cases k with
  | desc =>
    simp only [rightOf, mem_descendantElems_iff]
    exact ⟨ancestorElems_isDesc u t h, hel⟩
  | child =>
    simp only [leftOf, Option.mem_toList] at h
    simp only [rightOf, childElems, List.mem_filter]
    exact ⟨child_of_parentElem u t h, hel⟩
  | sib =>
    simp only [leftOf, precedingElemSiblings, List.mem_filter] at h
    simp only [rightOf, followingElemSiblings, List.mem_filter]
    exact ⟨(next_iff_prev u t).mpr h.1, hel⟩
  | adj =>
    simp only [leftOf, Option.mem_toList] at h
    simp only [rightOf, Option.mem_toList]
    exact adj_prev_next u t hel h

theorem rightOf_up_ne (k : Comb) (u t : Loc) (h : t ∈ rightOf k u) : t.up ≠ [] := by
  rcases (rightOf_step k u t h).2 with hd | hs
  · exact isDesc_up_ne hd
  · obtain ⟨p, _, hp⟩ := next_parent u t hs
    intro hup
    rw [(parent?_none_iff t).mpr hup] at hp
    simp at hp

/-- `ChainF c x t0 t`: `t0` matches the leftmost compound of `x`, following the combinators of `x`
    to the right leads to `t`, every element on the way matching its compound. -/
inductive ChainF (c : Ctx) : Complex → Loc → Loc → Prop where
  | one {cp : Compound} {t : Loc} : satCompound c t cp = true → ChainF c (.one cp) t t
  | comb {L : Complex} {k : Comb} {R : Compound} {t0 u t : Loc} :
      ChainF c L t0 u → t ∈ rightOf k u → satCompound c t R = true → ChainF c (.comb L k R) t0 t

theorem satCompound_isElem (c : Ctx) (t : Loc) (cp : Compound) (h : satCompound c t cp = true) :
    isElem t = true := by
  cases cp with
  | mk tag parts =>
    unfold satCompound at h
    unfold isElem Node.isTag
    split at h
    · rename_i hf; rw [hf]
    · simp at h

theorem ChainF.last_isElem {c : Ctx} {x : Complex} {t0 t : Loc} (h : ChainF c x t0 t) :
    isElem t = true := by
  cases h with
  | one hs => exact satCompound_isElem c _ _ hs
  | comb _ _ hs => exact satCompound_isElem c _ _ hs

theorem ChainF.first_isElem {c : Ctx} {x : Complex} {t0 t : Loc} (h : ChainF c x t0 t) :
    isElem t0 = true := by
  induction h with
  | one hs => exact satCompound_isElem c _ _ hs
  | comb _ _ _ ih => exact ih

theorem satFwd_iff (c : Ctx) : ∀ (x : Complex) (done : Loc → Bool) (t0 : Loc),
    satFwd c x done t0 = true ↔ ∃ t, ChainF c x t0 t ∧ done t = true
  | .one cp, done, t0 => by
    rw [satFwd, Bool.and_eq_true]
    constructor
    · rintro ⟨h1, h2⟩
      exact ⟨t0, .one h1, h2⟩
    · rintro ⟨t, hch, hd⟩
      cases hch with
      | one hs => exact ⟨hs, hd⟩
  | .comb L k R, done, t0 => by
    rw [satFwd, satFwd_iff c L]
    constructor
    · rintro ⟨u, hu, hany⟩
      obtain ⟨v, hv, hvv⟩ := List.any_eq_true.mp hany
      rw [Bool.and_eq_true] at hvv
      exact ⟨v, .comb hu hv hvv.1, hvv.2⟩
    · rintro ⟨t, hch, hd⟩
      cases hch with
      | comb hL hr hs =>
        exact ⟨_, hL, List.any_eq_true.mpr ⟨t, hr, by rw [hs, hd]; rfl⟩⟩

/-- A forward chain starting to the right of the anchor is a match of `:scope k0 X`. -/
theorem fwd_scoped {T : Loc} (hT : DocOnlyTop T) (c : Ctx) (l : Loc) (k0 : Comb) {x : Complex}
    {t0 t : Loc} (h : ChainF c x t0 t) :
    t0.top = T → t0.up ≠ [] → l ∈ leftOf k0 t0 →
      satScoped c l k0 x t = true ∧ t.top = T ∧ t.up ≠ [] := by
  induction h with
  | one hs =>
    intro ht hup hl
    refine ⟨?_, ht, hup⟩
    rw [satScoped, hs, Bool.true_and]
    exact List.any_eq_true.mpr ⟨l, hl, same_self l⟩
  | @comb L k R t0 u t hL hr hs ih =>
    intro ht hup hl
    obtain ⟨hsc, hut, huu⟩ := ih ht hup hl
    have hud : u.isDoc = false := hT.notDoc u hut huu
    have hleft : u ∈ leftOf k t := left_of_right hT k u t hut hL.last_isElem hud hr
    refine ⟨?_, (closed_top T).rightOf k u t hut hr, rightOf_up_ne k u t hr⟩
    rw [satScoped, hs, Bool.true_and]
    exact List.any_eq_true.mpr ⟨u, hleft, hsc⟩

/-- A match of `:scope k0 X` in the anchor's tree ends a forward chain that starts to the right
    of the anchor. -/
theorem scoped_fwd (c : Ctx) (l : Loc) (k0 : Comb) : ∀ (x : Complex) (t : Loc),
    satScoped c l k0 x t = true → t.top = l.top → ∃ t0, ChainF c x t0 t ∧ l ∈ leftOf k0 t0
  | .one cp, t, h, ht => by
    rw [satScoped, Bool.and_eq_true] at h
    obtain ⟨hs, hany⟩ := h
    obtain ⟨a, ha, hsame⟩ := List.any_eq_true.mp hany
    have hat : a.top = l.top := by
      rw [← ht]; exact (closed_top t.top).leftOf k0 t a rfl ha
    have : a = l := eq_of_same a l hat hsame
    subst this
    exact ⟨t, .one hs, ha⟩
  | .comb L k R, t, h, ht => by
    rw [satScoped, Bool.and_eq_true] at h
    obtain ⟨hs, hany⟩ := h
    obtain ⟨u, hu, hsc⟩ := List.any_eq_true.mp hany
    have hut : u.top = l.top := by
      rw [← ht]; exact (closed_top t.top).leftOf k t u rfl hu
    obtain ⟨t0, hch, hl⟩ := scoped_fwd c l k0 L u hsc hut
    exact ⟨t0, .comb hch (right_of_left k u t (satCompound_isElem c t R hs) hu) hs, hl⟩

theorem mem_treeNodes_iff (l t : Loc) : t ∈ treeNodes l.top ↔ t.top = l.top := by
  unfold treeNodes
  rw [mem_tree_iff, top_eq_iff l.top_up]

theorem satRel_iff_declarative (c : Ctx) (l : Loc) (hel : isElem l = true) (hdoc : l.isDoc = false)
    (hT : DocOnlyTop l.top) (k : Comb) (x : Complex) :
    satRel c l (.mk k x) = true ↔ satRelDeclarative c l (.mk k x) = true := by
  rw [satRel, satRelDeclarative]
  constructor
  · intro h
    obtain ⟨t0, ht0, hf⟩ := List.any_eq_true.mp h
    obtain ⟨t, hch, _⟩ := (satFwd_iff c x _ t0).mp hf
    have ht0T : t0.top = l.top := (closed_top l.top).rightOf k l t0 rfl ht0
    have hleft : l ∈ leftOf k t0 := left_of_right hT k l t0 rfl hel hdoc ht0
    obtain ⟨hsc, htT, _⟩ := fwd_scoped hT c l k hch ht0T (rightOf_up_ne k l t0 ht0) hleft
    refine List.any_eq_true.mpr ⟨t, (mem_treeNodes_iff l t).mpr htT, ?_⟩
    rw [hch.last_isElem, hsc]; rfl
  · intro h
    obtain ⟨t, ht, hb⟩ := List.any_eq_true.mp h
    rw [Bool.and_eq_true] at hb
    obtain ⟨t0, hch, hl⟩ := scoped_fwd c l k x t hb.2 ((mem_treeNodes_iff l t).mp ht)
    refine List.any_eq_true.mpr ⟨t0, right_of_left k l t0 hch.first_isElem hl, ?_⟩
    exact (satFwd_iff c x _ t0).mpr ⟨t, hch, rfl⟩

end SatHas
end SoupVerif
