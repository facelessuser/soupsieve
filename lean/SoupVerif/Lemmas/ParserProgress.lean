/-
  C06 helper lemmas: the loop of `parse_selectors` as a step function (`Loop`), its table form (`Dispatch`), positions of a match (`Step`), what the combinator handlers can
  do (`Comb`: `CombPost`), the classification of one iteration and the post-conditions (`Fuel`), the induction over
  the recursion (`Rules`: `run_rules`), the fuel argument (`Stable`), `process_custom` (`Custom`), look-ups in the
  custom-selector map (`CustomMap`).
-/
import SoupVerif.Lemmas.ParserProgress.Loop
import SoupVerif.Lemmas.ParserProgress.Step
import SoupVerif.Lemmas.ParserProgress.Dispatch
import SoupVerif.Lemmas.ParserProgress.Comb
import SoupVerif.Lemmas.ParserProgress.Fuel
import SoupVerif.Lemmas.ParserProgress.Custom
import SoupVerif.Lemmas.ParserProgress.CustomMap
import SoupVerif.Lemmas.ParserProgress.Rules
import SoupVerif.Lemmas.ParserProgress.Stable
