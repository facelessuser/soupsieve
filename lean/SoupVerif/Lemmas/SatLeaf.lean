/-
  The matcher's leaf tests (id, class, attribute, `:empty`) against their meaning in `Spec/Css`.
-/
import SoupVerif.Lemmas.SatCore
namespace SoupVerif
namespace SatLeaf
open Css SatTree SatCore

theorem id_single (c : Ctx) (e : Elem) (v : Str) (hv : v ≠ []) :
    matchId c e [v] = (idOf c e == some v) := by
  simp only [matchId, List.all_cons, List.all_nil, Bool.and_true, idOf, id_toStr]
  cases c.attrByName e [105, 100] with
  | none =>
    have : ([] : Str) ≠ v := fun h => hv h.symm
    simp [this]
  | some nv =>
    cases nv with
    | str s => exact Bool.eq_iff_iff.mpr (by simp)
    | list L => simp

theorem class_single (c : Ctx) (e : Elem) (v : Str) :
    matchClasses c e [v] = hasClass c e v := by
  simp only [matchClasses, List.all_cons, List.all_nil, Bool.and_true, getClasses, hasClass,
    class_toStr]
  cases c.attrByName e [99, 108, 97, 115, 115] with
  | none => simp
  | some nv =>
    cases nv with
    | str s => exact SatWords.splitWs_contains v s
    | list L => rfl

/-- What the regular-expression templates have to mean (discharged by `C01Attr.attrPattern_sem`). -/
def TemplatesOk (env : CharEnv) : Prop :=
  ∀ (op : AttrOp) (v s : Str) (ic : Bool), (ic = true → env.fold = lowerCp) →
    Rx.isMatch env (Parser.attrPattern op.text v ic (v.any isCssWs)) s = valTest op v ic s

theorem attr_presence (c : Ctx) (e : Elem) (ns name : Str) :
    matchAttributes c e [compileAttr ns name none] = satAttr c e ns name none := by
  simp only [matchAttributes, List.all_cons, List.all_nil, Bool.and_true, compileAttr, satAttr]
  simp

/-- **The case rule, on the IR**: of the two patterns `parse_attribute_selector` compiles for `[ns|name op v flag]`,
    the one `match_attributes` runs in the document `c` is the operator's template with IGNORECASE exactly when the
    comparison is case-insensitive in `c` (`Css.caseInsensitive`: flag `i`; no flag, `type`, not XML). -/
theorem pattern_compileAttr (c : Ctx) (ns name : Str) (t : AttrTest) :
    (if c.isXml && (compileAttr ns name (some t)).xmlTypePattern.isSome
      then (compileAttr ns name (some t)).xmlTypePattern else (compileAttr ns name (some t)).pattern) =
      some (Parser.attrPattern t.op.text t.value (caseInsensitive c name t.flag) (t.value.any isCssWs)) := by
  obtain ⟨op, v, fl⟩ := t
  cases fl <;> cases hx : c.isXml <;> cases h : lower name == [116, 121, 112, 101] <;>
    simp only [compileAttr, caseInsensitive, hx, h] <;> rfl

/-- The value test the matcher performs for `[ns|name op v flag]` (for `!=` this is the `=` test of
    the inner `:not`): SOME attribute designated by `ns|name` has a value that passes it. -/
theorem attr_value (c : Ctx) (e : Elem) (ns name : Str) (t : AttrTest) (hT : TemplatesOk c.env)
    (hfold : caseInsensitive c name t.flag = true → c.env.fold = lowerCp) :
    matchAttributes c e [compileAttr ns name (some t)] =
      ((matchAttributeValues c e name ns).any fun v =>
        valTest t.op t.value (caseInsensitive c name t.flag) (nvalJoin v)) := by
  rw [C11.xml_type_pattern_choice, pattern_compileAttr]
  exact congrArg _ (funext fun v => hT _ _ _ _ hfold)

theorem attrOnly_match (c : Ctx) (l : Loc) (e : Elem) (a : AttrSel) :
    matchSel c l e (attrOnlySel a) = matchAttributes c e [a] := by
  have h := matchSel_toSel c l e { attrs := [a] } none emptyList .none flags_init
  have h2 : attrOnlySel a = ({ attrs := [a] } : Parts).toSel none emptyList .none := rfl
  rw [h2, h]
  simp [partsOk, matchTag, matchNths_nil, matchId_nil, matchClasses_nil, matchSubs_nil, relOk_empty,
    hasFlag]

theorem attr_ne_sub (c : Ctx) (l : Loc) (e : Elem) (a : AttrSel) :
    matchList c l e (.mk [attrOnlySel a] true false) = !matchAttributes c e [a] := by
  rw [matchList_neg]
  simp [matchAny_cons, matchAny_nil, attrOnly_match]

/-- `[a op v]` with any operator but `!=`. -/
theorem attr_pos (c : Ctx) (e : Elem) (ns name : Str) (t : AttrTest) (hT : TemplatesOk c.env)
    (hfold : caseInsensitive c name t.flag = true → c.env.fold = lowerCp)
    (hop : (t.op == AttrOp.ne) = false) :
    matchAttributes c e [compileAttr ns name (some t)] = satAttr c e ns name (some t) := by
  rw [attr_value c e ns name t hT hfold]
  unfold satAttr
  simp [hop]

/-- `[a!=v]`. -/
theorem attr_neg (c : Ctx) (e : Elem) (ns name : Str) (t : AttrTest) (hT : TemplatesOk c.env)
    (hfold : caseInsensitive c name t.flag = true → c.env.fold = lowerCp)
    (hop : (t.op == AttrOp.ne) = true) :
    (!matchAttributes c e [compileAttr ns name (some t)]) = satAttr c e ns name (some t) := by
  rw [attr_value c e ns name t hT hfold]
  unfold satAttr
  simp [hop]

theorem empty_eq (l : Loc) : matchEmpty l = isEmptyElem l := by
  unfold matchEmpty isEmptyElem
  rw [List.any_eq_not_all_not, Bool.not_not]
  congr 1
  funext ch
  simp [isElem, Loc.isTag]

end SatLeaf
end SoupVerif
