/-
  The string operations of `Model/PyStr.lean` on a string that is there: the three slices the translated functions
  take (`s[:-1]`, `s[1:]`, `s[1:-1]`), `startswith` / `endswith` of one character as tests on the first / last code
  point, and `int(text, 10)`: what it returns is `Parser.parseInt` of the text.
-/
import SoupVerif.Model.PyStr
import SoupVerif.Model.Parser
namespace SoupVerif
namespace PyStr

theorem slice_init (s : Str) : slice (some s) none (some (-1)) = pure (s.take (s.length - 1)) := by
  simp [slice, sliceIdx]; rfl

theorem slice_tail (s : Str) : slice (some s) (some 1) none = .ok (s.drop 1) := by
  cases s <;> simp [slice, sliceIdx]

theorem slice_inner (s : Str) : slice (some s) (some 1) (some (-1)) = .ok (Parser.slice s 1 (s.length - 1)) := by
  cases s <;> simp [slice, sliceIdx, Parser.slice, List.drop_take]

/-- `s.startswith(c)` for a one-character `c`. -/
theorem isPrefixOf_single (c : Nat) (s : Str) : List.isPrefixOf [c] s = (s.head? == some c) := by
  cases s with
  | nil => rfl
  | cons d ds => simp [List.isPrefixOf]; exact BEq.comm

/-- `s.endswith(c)` for a one-character `c`. -/
theorem isSuffixOf_single (c : Nat) (s : Str) : List.isSuffixOf [c] s = (s.getLast? == some c) := by
  unfold List.isSuffixOf
  rw [List.reverse_singleton, isPrefixOf_single, List.head?_reverse]

/-- A value `int(text, 10)` returns is the hand model's reading of the text. -/
theorem int10_sound (s : Str) (v : Int) (h : int10 s = .ok v) : Parser.parseInt s = v := by
  unfold PyStr.int10 at h
  split at h
  · split at h
    · cases h; rfl
    · cases h
  · split at h
    · cases h; rfl
    · cases h
  · rename_i hn45 _
    split at h
    · cases h; first | rfl | simp [Parser.parseInt, PyStr.digitsVal]
    · cases h

end PyStr
end SoupVerif
