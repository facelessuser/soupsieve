/-
  `Css.foldCase` one character at a time (`fc`, `foldCase_*`), then general lemmas about the
  regular-expression building blocks of the attribute-value templates
  (`Parser.attrPattern`): the two never/always classes, dot-star, literal runs with an arbitrary
  continuation, the look-arounds of `~=`, the optional `-.*` tail of `|=`, each as a step of one shape: a sequence
  that begins with the piece has a run at `i` iff a condition on the subject at `i` holds and the rest has a run at
  the position behind the piece (`guard_seq`, `dotStar_seq`, `lits_seq`, `lit_seq`, `left_seq`, `right_seq`; at the end
  `runsSeq_eos`, `seq_dotStar_last`, `dash_tail`); and the pure list facts that link the position-based reading of the
  engine to the specification functions of `Spec/CssValue.lean`.
-/
import SoupVerif.Lemmas.Lits
import SoupVerif.Spec.CssValue
import SoupVerif.Model.Parser
import SoupVerif.Lemmas.RxBasic
import SoupVerif.Lemmas.List
namespace SoupVerif
namespace AttrTemplates
open Rx RxBasic

/-- One-character version of `Css.foldCase`. -/
def fc (ic : Bool) (c : Nat) : Nat := if ic then lowerCp c else c

theorem foldCase_eq_map (ic : Bool) (s : Str) : Css.foldCase ic s = s.map (fc ic) := by
  cases ic
  · have h : fc false = id := by funext c; simp [fc]
    simp [Css.foldCase, h]
  · have h : fc true = lowerCp := by funext c; simp [fc]
    simp [Css.foldCase, h, lower]

theorem foldCase_length (ic : Bool) (s : Str) : (Css.foldCase ic s).length = s.length := by
  simp [foldCase_eq_map]

theorem foldCase_nil (ic : Bool) : Css.foldCase ic [] = [] := by
  simp [foldCase_eq_map]

theorem foldCase_cons (ic : Bool) (x : Nat) (s : Str) :
    Css.foldCase ic (x :: s) = fc ic x :: Css.foldCase ic s := by
  simp [foldCase_eq_map]

theorem foldCase_eq_nil (ic : Bool) (s : Str) : Css.foldCase ic s = [] ↔ s = [] := by
  simp [foldCase_eq_map]

theorem foldCase_take (ic : Bool) (n : Nat) (s : Str) :
    Css.foldCase ic (s.take n) = (Css.foldCase ic s).take n := by
  simp [foldCase_eq_map, List.map_take]

theorem foldCase_drop (ic : Bool) (n : Nat) (s : Str) :
    Css.foldCase ic (s.drop n) = (Css.foldCase ic s).drop n := by
  simp [foldCase_eq_map, List.map_drop]

theorem foldCase_getElem? (ic : Bool) (s : Str) (k : Nat) :
    (Css.foldCase ic s)[k]? = (s[k]?).map (fc ic) := by
  simp [foldCase_eq_map]

theorem foldCase_false (s : Str) : Css.foldCase false s = s := rfl
theorem foldCase_true (s : Str) : Css.foldCase true s = lower s := rfl

theorem isCssWs_fc (ic : Bool) (c : Nat) : isCssWs (fc ic c) = isCssWs c := by
  cases ic
  · rfl
  · exact isCssWs_lowerCp c

theorem lowerCp_eq_lowerCp_of_not_upper (x c : Nat) (hx : ¬ (65 ≤ x ∧ x ≤ 90)) (hx' : ¬ (97 ≤ x ∧ x ≤ 122)) :
    lowerCp x = lowerCp c ↔ x = c := by
  unfold lowerCp
  split <;> split <;> omega

theorem chEq_eq (env : CharEnv) (ic : Bool) (hfold : ic = true → env.fold = lowerCp) (x c : Nat) :
    C11.chEq env ic x c = (fc ic x == fc ic c) := by
  cases ic
  · rfl
  · simp [C11.chEq, fc, hfold rfl]

theorem litsEq_fold (env : CharEnv) (ic : Bool) (hfold : ic = true → env.fold = lowerCp) (v : List Nat)
    (t : Str) : C11.litsEq env ic v t = (Css.foldCase ic t == Css.foldCase ic v) := by
  rw [C11.litsEq_map env ic (fc ic) (chEq_eq env ic hfold), foldCase_eq_map, foldCase_eq_map]

/-- `[^\s\S]` contains no character. -/
theorem setHas_none (env : CharEnv) (ic : Bool) (c : Nat) :
    Rx.setHas env true [.cat .space, .cat .notSpace] ic c = false := by
  simp [Rx.setHas, Rx.itemHas, Rx.catHas]

theorem runs_noMatchSet (env : CharEnv) (s : Str) (ic : Bool) (i : Nat) (caps : Caps) :
    runs env s (Parser.noMatchSet ic) i caps = [] := by
  unfold Parser.noMatchSet
  rw [runs]
  cases s[i]? with
  | none => rfl
  | some x => simp [setHas_none]

theorem lowerCp_beq_of_lt_65 (x c : Nat) (hx : x < 65) : (lowerCp x == lowerCp c) = (x == c) :=
  Bool.eq_iff_iff.mpr (by
    simpa only [beq_iff_eq] using lowerCp_eq_lowerCp_of_not_upper x c (by omega) (by omega))

/-- `[ \t\r\n\f]`, with or without IGNORECASE, is CSS white space. -/
theorem setHas_ws (env : CharEnv) (ic : Bool) (hfold : ic = true → env.fold = lowerCp) (c : Nat) :
    Rx.setHas env false [.ch 32, .ch 9, .ch 13, .ch 10, .ch 12] ic c = isCssWs c := by
  -- a character below `A` is matched exactly, with or without IGNORECASE
  have key : ∀ x, x < 65 → Rx.itemHas env ic c (.ch x) = (c == x) := by
    intro x hx
    cases ic
    · exact BEq.comm
    · simp only [Rx.itemHas, if_true, hfold rfl, lowerCp_beq_of_lt_65 x c hx]
      exact BEq.comm
  simp only [Rx.setHas, List.any_cons, List.any_nil, Bool.or_false, Bool.bne_false, isCssWs,
    key 32 (by omega), key 9 (by omega), key 13 (by omega), key 10 (by omega), key 12 (by omega),
    Bool.or_assoc]

/-- There is a character at position `k` and it is CSS white space. -/
def wsAt (s : Str) (k : Nat) : Bool :=
  match s[k]? with
  | some x => isCssWs x
  | none => false

theorem wsAt_foldCase (ic : Bool) (s : Str) (k : Nat) : wsAt (Css.foldCase ic s) k = wsAt s k := by
  unfold wsAt
  rw [foldCase_getElem?]
  cases s[k]? with
  | none => rfl
  | some x => simp [isCssWs_fc]

theorem runs_wsSet (env : CharEnv) (ic : Bool) (hfold : ic = true → env.fold = lowerCp)
    (s : Str) (i : Nat) (caps : Caps) :
    runs env s (Parser.wsSet ic) i caps = if wsAt s i then [(i + 1, caps)] else [] := by
  unfold Parser.wsSet wsAt
  rw [runs]
  cases s[i]? with
  | none => rfl
  | some x => simp only [setHas_ws env ic hfold]

theorem runsSeq_cons_ne_nil (env : CharEnv) (s : Str) (r : Rx) (rs : List Rx) (i : Nat) (caps : Caps) :
    runsSeq env s (r :: rs) i caps ≠ [] ↔
      ∃ p ∈ runs env s r i caps, runsSeq env s rs p.1 p.2 ≠ [] := by
  rw [runsSeq]
  simp only [ne_eq, List.flatMap_eq_nil_iff, Classical.not_forall]
  constructor
  · rintro ⟨p, hp, h⟩; exact ⟨p, hp, h⟩
  · rintro ⟨p, hp, h⟩; exact ⟨p, hp, h⟩

theorem isMatch_seq_iff (env : CharEnv) (rs : List Rx) (s : Str) :
    Rx.isMatch env (.seq rs) s = true ↔ runsSeq env s rs 0 [] ≠ [] := by
  rw [C11.isMatch_seq]
  cases runsSeq env s rs 0 [] <;> simp

/-- `.*` / `.*?` with DOTALL from `i` reaches exactly the positions `i ≤ j ≤ |s|`. -/
theorem mem_dotStar (env : CharEnv) (s : Str) (g : Bool) (i : Nat) (caps : Caps) (j : Nat) (c : Caps)
    (hi : i ≤ s.length) :
    (j, c) ∈ runs env s (.rep 0 none g (.any true)) i caps ↔ c = caps ∧ i ≤ j ∧ j ≤ s.length := by
  -- every character passes: the span from `i` is the rest of the string
  have hspan : i + RxBasic.room s (fun x => true || x != 10) none 0 i = s.length := by
    simp only [RxBasic.room, RxBasic.spanLen, Bool.true_or, takeWhile_true, List.length_drop]
    omega
  cases g
  · rw [RxBasic.runs_rep_char_lazy (RxBasic.isChar_any env s true), RxBasic.mem_up, hspan, Nat.add_zero]
  · rw [RxBasic.runs_rep_char (RxBasic.isChar_any env s true), RxBasic.mem_down, hspan, Nat.add_zero]

theorem dotStar_ne_nil (env : CharEnv) (s : Str) (g : Bool) (i : Nat) (caps : Caps) :
    runs env s (.rep 0 none g (.any true)) i caps ≠ [] := by
  rw [runs, iter]
  cases g <;> simp

theorem dotStar_seq (env : CharEnv) (s : Str) (g : Bool) (rs : List Rx) (i : Nat) (caps : Caps)
    (hi : i ≤ s.length) :
    runsSeq env s (.rep 0 none g (.any true) :: rs) i caps ≠ [] ↔
      ∃ j, i ≤ j ∧ j ≤ s.length ∧ runsSeq env s rs j caps ≠ [] := by
  rw [runsSeq_cons_ne_nil]
  constructor
  · rintro ⟨⟨j, c⟩, hm, h⟩
    rw [mem_dotStar env s g i caps j c hi] at hm
    obtain ⟨rfl, h1, h2⟩ := hm
    exact ⟨j, h1, h2, h⟩
  · rintro ⟨j, h1, h2, h⟩
    exact ⟨(j, caps), (mem_dotStar env s g i caps j caps hi).mpr ⟨rfl, h1, h2⟩, h⟩

/-- A leading `.*?` (the position is 0): the rest starts anywhere. -/
theorem dotStar_seq0 (env : CharEnv) (s : Str) (g : Bool) (rs : List Rx) (caps : Caps) :
    runsSeq env s (.rep 0 none g (.any true) :: rs) 0 caps ≠ [] ↔
      ∃ j, j ≤ s.length ∧ runsSeq env s rs j caps ≠ [] := by
  rw [dotStar_seq env s g rs 0 caps (Nat.zero_le _)]
  exact exists_congr fun j => and_iff_right (Nat.zero_le j)

/-- A trailing `.*` asks nothing. -/
theorem seq_dotStar_last (env : CharEnv) (s : Str) (g : Bool) (i : Nat) (caps : Caps) :
    runsSeq env s [.rep 0 none g (.any true)] i caps ≠ [] ↔ True := by
  rw [runsSeq_cons_ne_nil, iff_true]
  cases h : runs env s (.rep 0 none g (.any true)) i caps with
  | nil => exact absurd h (dotStar_ne_nil env s g i caps)
  | cons p t => exact ⟨p, List.mem_cons_self .., by simp [runsSeq]⟩

theorem runsSeq_eos (env : CharEnv) (s : Str) (i : Nat) (caps : Caps) :
    runsSeq env s [.eos] i caps ≠ [] ↔ i = s.length := by
  by_cases h : i = s.length <;> simp [runsSeq, runs, h]

theorem guard_seq (env : CharEnv) (s : Str) (r : Rx) (rs : List Rx) (i : Nat) (caps : Caps) (b : Bool)
    (h : runs env s r i caps = if b then [(i, caps)] else []) :
    runsSeq env s (r :: rs) i caps ≠ [] ↔ b = true ∧ runsSeq env s rs i caps ≠ [] := by
  rw [runsSeq, h]
  cases b <;> simp

/-- `v` stands in `s` at position `i`: how the engine's position-based runs meet the list predicates of the spec. -/
def occursAt (v s : Str) (i : Nat) : Bool := (s.drop i).take v.length == v

theorem lits_cont (env : CharEnv) (ic : Bool) (hfold : ic = true → env.fold = lowerCp)
    (s : Str) (caps : Caps) (rest : List Rx) (v : Str) (i : Nat) :
    runsSeq env s (Parser.lits v ic ++ rest) i caps =
      if occursAt (Css.foldCase ic v) (Css.foldCase ic s) i then
        runsSeq env s rest (i + v.length) caps
      else [] := by
  unfold Parser.lits
  rw [C11.runsSeq_lits_cont, litsEq_fold env ic hfold, foldCase_take, foldCase_drop]
  unfold occursAt
  rw [foldCase_length]

theorem occursAt_length {v s : Str} {i : Nat} (hi : i ≤ s.length) (h : occursAt v s i = true) :
    i + v.length ≤ s.length := by
  unfold occursAt at h
  have h' := congrArg List.length (eq_of_beq h)
  simp only [List.length_take, List.length_drop] at h'
  omega

theorem runs_lookbehind_bos (env : CharEnv) (s : Str) (i : Nat) (caps : Caps) :
    runs env s (.look false false .bos) i caps = if i == 0 then [(i, caps)] else [] := by
  rw [runs]
  simp only [Rx.width, runs]
  by_cases h : i = 0 <;> simp [h]

theorem runs_lookbehind_ws (env : CharEnv) (ic : Bool) (hfold : ic = true → env.fold = lowerCp)
    (s : Str) (i : Nat) (caps : Caps) :
    runs env s (.look false false (Parser.wsSet ic)) i caps =
      if decide (1 ≤ i) && wsAt s (i - 1) then [(i, caps)] else [] := by
  rw [runs]
  have hw : Rx.width (Parser.wsSet ic) = some 1 := rfl
  simp only [hw, runs_wsSet env ic hfold]
  by_cases h : 1 ≤ i
  · have h' : i - 1 + 1 = i := by omega
    cases hws : wsAt s (i - 1) <;> simp [h, h']
  · simp [h]

theorem runs_lookahead_ws_eos (env : CharEnv) (ic : Bool) (hfold : ic = true → env.fold = lowerCp)
    (s : Str) (i : Nat) (caps : Caps) :
    runs env s (.look true false (.alt [Parser.wsSet ic, .eos])) i caps =
      if wsAt s i || i == s.length then [(i, caps)] else [] := by
  rw [runs]
  simp only [runs, runsAlt, runs_wsSet env ic hfold]
  cases hws : wsAt s i <;> by_cases h : i = s.length <;> simp [h]

theorem runs_alt2 (env : CharEnv) (s : Str) (a b : Rx) (i : Nat) (caps : Caps) :
    runs env s (.alt [a, b]) i caps = runs env s a i caps ++ runs env s b i caps := by
  rw [runs, runsAlt, runsAlt, runsAlt, List.append_nil]

/-- Left boundary of a word: start of the string, or just after white space. -/
def leftOk (s : Str) (i : Nat) : Bool := i == 0 || (decide (1 ≤ i) && wsAt s (i - 1))

/-- Right boundary of a word: end of the string, or just before white space. -/
def rightOk (s : Str) (i : Nat) : Bool := wsAt s i || i == s.length

theorem left_seq (env : CharEnv) (ic : Bool) (hfold : ic = true → env.fold = lowerCp)
    (s : Str) (rs : List Rx) (i : Nat) (caps : Caps) :
    runsSeq env s (.alt [.look false false .bos, .look false false (Parser.wsSet ic)] :: rs) i caps ≠ [] ↔
      leftOk s i = true ∧ runsSeq env s rs i caps ≠ [] := by
  refine guard_seq env s _ rs i caps (leftOk s i) ?_
  rw [runs_alt2, runs_lookbehind_bos, runs_lookbehind_ws env ic hfold]
  unfold leftOk
  by_cases h : i = 0
  · subst h; simp
  · have h1 : 1 ≤ i := by omega
    cases hws : wsAt s (i - 1) <;> simp [h, h1]

theorem right_seq (env : CharEnv) (ic : Bool) (hfold : ic = true → env.fold = lowerCp)
    (s : Str) (rs : List Rx) (i : Nat) (caps : Caps) :
    runsSeq env s (.look true false (.alt [Parser.wsSet ic, .eos]) :: rs) i caps ≠ [] ↔
      rightOk s i = true ∧ runsSeq env s rs i caps ≠ [] :=
  guard_seq env s _ rs i caps (rightOk s i) (runs_lookahead_ws_eos env ic hfold s i caps)

theorem lit_seq (env : CharEnv) (s : Str) (ch : Nat) (ic : Bool) (rs : List Rx) (i : Nat) (caps : Caps) :
    runsSeq env s (.lit ch ic :: rs) i caps ≠ [] ↔
      ∃ x, s[i]? = some x ∧ C11.chEq env ic x ch = true ∧ runsSeq env s rs (i + 1) caps ≠ [] := by
  rw [runsSeq_cons, C11.runs_lit]
  cases s[i]? with
  | none => simp
  | some x => cases C11.chEq env ic x ch <;> simp

/-- `(?:-.*)?\Z` at `j`: we are at the end, or at a hyphen. -/
theorem dash_tail (env : CharEnv) (ic : Bool) (hfold : ic = true → env.fold = lowerCp) (s : Str) (j : Nat)
    (caps : Caps) :
    runsSeq env s [.rep 0 (some 1) true (.seq [.lit 45 ic, .rep 0 none true (.any true)]), .eos] j caps ≠ [] ↔
      j = s.length ∨ (Css.foldCase ic s)[j]? = some 45 := by
  rw [RefineInputs.runsSeq_opt, RefineInputs.runsSeq_seq, ne_eq, List.append_eq_nil_iff,
    Classical.not_and_iff_not_or_not, or_comm]
  refine or_congr (runsSeq_eos env s j caps) ?_
  rw [List.cons_append, ← ne_eq, lit_seq, foldCase_getElem?]
  have h45 : fc ic 45 = 45 := by cases ic <;> rfl
  constructor
  · rintro ⟨x, hx, hc, -⟩
    rw [chEq_eq env ic hfold, h45, beq_iff_eq] at hc
    rw [hx, Option.map_some, hc]
  · intro h
    cases hx : s[j]? with
    | none => rw [hx] at h; cases h
    | some x =>
      rw [hx, Option.map_some, Option.some.injEq] at h
      -- after the hyphen `.*` runs to the end
      have hlt := lt_of_getElem?_some hx
      exact ⟨x, rfl, by rw [chEq_eq env ic hfold, h45, h, beq_self_eq_true],
        (dotStar_seq env s true _ (j + 1) caps hlt).mpr ⟨s.length, hlt, Nat.le_refl _, (runsSeq_eos ..).mpr rfl⟩⟩

theorem occursAt_zero (v s : Str) : occursAt v s 0 = v.isPrefixOf s := by
  apply Bool.eq_iff_iff.mpr
  unfold occursAt
  rw [List.drop_zero, List.isPrefixOf_iff_prefix, List.prefix_iff_eq_take, beq_iff_eq]
  exact eq_comm

theorem occursAt_succ (v : Str) (c : Nat) (s : Str) (j : Nat) :
    occursAt v (c :: s) (j + 1) = occursAt v s j := rfl

theorem occursAt_drop (v s : Str) (j : Nat) : occursAt v s j = v.isPrefixOf (s.drop j) := by
  rw [← occursAt_zero]; rfl

theorem exists_occursAt_end_iff (v s : Str) :
    (∃ j, j ≤ s.length ∧ occursAt v s j = true ∧ j + v.length = s.length) ↔ v.isSuffixOf s = true := by
  rw [List.isSuffixOf_iff_suffix, List.suffix_iff_eq_drop]
  constructor
  · rintro ⟨j, _, ho, hl⟩
    have hj : s.length - v.length = j := by omega
    rw [hj]
    unfold occursAt at ho
    have ho' := eq_of_beq ho
    rw [← ho', List.take_of_length_le]
    rw [List.length_drop]; omega
  · intro h
    have hl : v.length ≤ s.length := by
      have := congrArg List.length h
      rw [List.length_drop] at this
      omega
    refine ⟨s.length - v.length, by omega, ?_, by omega⟩
    unfold occursAt
    rw [← h, beq_iff_eq]
    exact List.take_length

theorem isInfix_iff_occursAt (v : Str) : ∀ s : Str,
    isInfix v s = true ↔ ∃ j, j ≤ s.length ∧ occursAt v s j = true
  | [] => by
    rw [isInfix]
    constructor
    · intro h
      have : v = [] := List.isEmpty_iff.mp h
      subst this
      exact ⟨0, Nat.le_refl _, rfl⟩
    · rintro ⟨j, hj, h⟩
      have hj0 : j = 0 := by simpa using hj
      subst hj0
      rw [occursAt_zero] at h
      cases v with
      | nil => rfl
      | cons a v => simp at h
  | c :: s => by
    rw [isInfix, Bool.or_eq_true, isInfix_iff_occursAt v s, ← occursAt_zero]
    constructor
    · rintro (h | ⟨j, hj, h⟩)
      · exact ⟨0, Nat.zero_le _, h⟩
      · exact ⟨j + 1, by simpa using hj, h⟩
    · rintro ⟨j, hj, h⟩
      cases j with
      | zero => exact Or.inl h
      | succ j => exact Or.inr ⟨j, by simpa using hj, h⟩

theorem dash_iff (v s : Str) :
    (occursAt v s 0 = true ∧ (0 + v.length = s.length ∨ s[0 + v.length]? = some 45)) ↔
      ((s == v) = true ∨ (v ++ [45]).isPrefixOf s = true) := by
  rw [occursAt_zero, List.isPrefixOf_iff_prefix, List.isPrefixOf_iff_prefix, beq_iff_eq, Nat.zero_add]
  constructor
  · rintro ⟨⟨t, rfl⟩, h⟩
    rcases h with h | h
    · left
      rw [List.length_append] at h
      have : t = [] := List.eq_nil_of_length_eq_zero (by omega)
      rw [this, List.append_nil]
    · right
      rw [List.getElem?_append_right (Nat.le_refl _), Nat.sub_self] at h
      cases t with
      | nil => simp at h
      | cons a t =>
        simp at h
        subst h
        exact ⟨t, by simp⟩
  · rintro (rfl | ⟨t, rfl⟩)
    · exact ⟨List.prefix_refl _, Or.inl rfl⟩
    · refine ⟨⟨45 :: t, by simp⟩, Or.inr ?_⟩
      simp

/-- `v` stands at `j` as a whole white-space separated word (what the `~=` template tests at one position). -/
def wordAt (v s : Str) (j : Nat) : Bool := leftOk s j && occursAt v s j && rightOk s (j + v.length)

theorem wsAt_zero_cons (c : Nat) (s : Str) : wsAt (c :: s) 0 = isCssWs c := rfl
theorem wsAt_succ_cons (c : Nat) (s : Str) (k : Nat) : wsAt (c :: s) (k + 1) = wsAt s k := by
  simp [wsAt]

theorem wsAt_lt {s : Str} {k : Nat} (h : wsAt s k = true) : k < s.length := by
  rcases Nat.lt_or_ge k s.length with h' | h'
  · exact h'
  · simp [wsAt, List.getElem?_eq_none h'] at h

/-- The string is empty or starts with white space. -/
def endOrWs : Str → Bool
  | [] => true
  | c :: _ => isCssWs c

theorem wordHere_eq (v s : Str) :
    Css.wordHere v s = (v.isPrefixOf s && endOrWs (s.drop v.length)) := by
  unfold Css.wordHere
  cases s.drop v.length <;> rfl

theorem endOrWs_drop (s : Str) (k : Nat) (hk : k ≤ s.length) : endOrWs (s.drop k) = rightOk s k := by
  unfold rightOk
  by_cases h : k < s.length
  · rw [List.drop_eq_getElem_cons h]
    have hne : (k == s.length) = false := by simp; omega
    simp [endOrWs, wsAt, List.getElem?_eq_getElem h, hne]
  · have hk' : k = s.length := by omega
    subst hk'
    simp [endOrWs, wsAt]

theorem wordHere_drop (v s : Str) (j : Nat) (hj : j ≤ s.length) :
    Css.wordHere v (s.drop j) = (occursAt v s j && rightOk s (j + v.length)) := by
  rw [wordHere_eq, ← occursAt_drop]
  cases ho : occursAt v s j with
  | false => rfl
  | true =>
    have hl := occursAt_length hj ho
    rw [List.drop_drop, endOrWs_drop s (j + v.length) hl]

theorem hasWordFrom_iff (v : Str) : ∀ (s : Str) (b : Bool),
    Css.hasWordFrom v b s = true ↔
      (b = true ∧ Css.wordHere v s = true) ∨
        ∃ j, j < s.length ∧ wsAt s j = true ∧ Css.wordHere v (s.drop (j + 1)) = true
  | [], b => by
    rw [Css.hasWordFrom, Bool.and_eq_true]
    constructor
    · exact Or.inl
    · rintro (h | ⟨j, hj, _⟩)
      · exact h
      · simp at hj
  | c :: s, b => by
    rw [Css.hasWordFrom, Bool.or_eq_true, Bool.and_eq_true, hasWordFrom_iff v s (isCssWs c)]
    constructor
    · rintro (h | ⟨h1, h2⟩ | ⟨j, hj, h1, h2⟩)
      · exact Or.inl h
      · exact Or.inr ⟨0, by simp, h1, h2⟩
      · exact Or.inr ⟨j + 1, by simpa using hj, by rw [wsAt_succ_cons]; exact h1, h2⟩
    · rintro (h | ⟨j, hj, h1, h2⟩)
      · exact Or.inl h
      · cases j with
        | zero => exact Or.inr (Or.inl ⟨h1, h2⟩)
        | succ j =>
          rw [wsAt_succ_cons] at h1
          exact Or.inr (Or.inr ⟨j, by simpa using hj, h1, h2⟩)

theorem hasWord_iff_wordAt (v s : Str) :
    Css.hasWord v s = true ↔ ∃ j, j ≤ s.length ∧ wordAt v s j = true := by
  unfold Css.hasWord
  rw [hasWordFrom_iff]
  constructor
  · rintro (⟨-, h⟩ | ⟨j, hj, h1, h2⟩)
    · refine ⟨0, Nat.zero_le _, ?_⟩
      have := wordHere_drop v s 0 (Nat.zero_le _)
      rw [List.drop_zero, h] at this
      unfold wordAt leftOk
      rw [Bool.and_assoc, ← this]; rfl
    · refine ⟨j + 1, hj, ?_⟩
      rw [wordHere_drop v s (j + 1) hj] at h2
      unfold wordAt leftOk
      rw [Bool.and_assoc, h2]
      simp [h1]
  · rintro ⟨j, hj, h⟩
    unfold wordAt at h
    rw [Bool.and_assoc, Bool.and_eq_true, ← wordHere_drop v s j hj] at h
    cases j with
    | zero => exact Or.inl ⟨rfl, by simpa using h.2⟩
    | succ j =>
      have h1 : wsAt s j = true := by simpa [leftOk] using h.1
      exact Or.inr ⟨j, wsAt_lt h1, h1, h.2⟩

theorem wordAt_foldCase (ic : Bool) (v s : Str) (j : Nat) :
    wordAt (Css.foldCase ic v) (Css.foldCase ic s) j =
      (leftOk s j && occursAt (Css.foldCase ic v) (Css.foldCase ic s) j && rightOk s (j + v.length)) := by
  unfold wordAt leftOk rightOk
  simp only [wsAt_foldCase, foldCase_length]

theorem isWordOf_iff_wordAt (v s : Str) :
    Css.IsWordOf v s ↔ ∃ j, j ≤ s.length ∧ wordAt v s j = true := by
  constructor
  · rintro ⟨a, b, rfl, ha, hb⟩
    refine ⟨a.length, by simp <;> omega, ?_⟩
    have hocc : occursAt v (a ++ v ++ b) a.length = true := by
      unfold occursAt
      rw [List.append_assoc, List.drop_left, List.take_left, beq_self_eq_true]
    have hleft : leftOk (a ++ v ++ b) a.length = true := by
      unfold leftOk
      rcases ha with rfl | ⟨a', c, rfl, hc⟩
      · rfl
      · simp [wsAt, hc]
    have hright : rightOk (a ++ v ++ b) (a.length + v.length) = true := by
      unfold rightOk
      rcases hb with rfl | ⟨c, b', rfl, hc⟩
      · simp
      · have : (a ++ v ++ c :: b')[a.length + v.length]? = some c := by
          rw [← List.length_append, List.getElem?_append_right (Nat.le_refl _)]
          simp
        simp [wsAt, hc]
    unfold wordAt
    rw [hleft, hocc, hright]; rfl
  · rintro ⟨j, hj, h⟩
    unfold wordAt at h
    rw [Bool.and_eq_true, Bool.and_eq_true] at h
    obtain ⟨⟨hl, ho⟩, hr⟩ := h
    have hlen := occursAt_length hj ho
    have hv : (s.drop j).take v.length = v := eq_of_beq ho
    refine ⟨s.take j, s.drop (j + v.length), ?_, ?_, ?_⟩
    · conv => lhs; rw [← List.take_append_drop j s, ← List.take_append_drop v.length (s.drop j)]
      rw [hv, List.drop_drop, List.append_assoc]
    · unfold leftOk at hl
      cases j with
      | zero => left; rfl
      | succ j =>
        right
        have hw : wsAt s j = true := by simpa using hl
        have hlt := wsAt_lt hw
        refine ⟨s.take j, s[j], ?_, ?_⟩
        · rw [List.take_add_one, List.getElem?_eq_getElem hlt]; rfl
        · simpa [wsAt, List.getElem?_eq_getElem hlt] using hw
    · unfold rightOk at hr
      by_cases hlt : j + v.length < s.length
      · right
        have hne : (j + v.length == s.length) = false := by simp; omega
        rw [hne, Bool.or_false] at hr
        refine ⟨s[j + v.length], s.drop (j + v.length + 1), List.drop_eq_getElem_cons hlt, ?_⟩
        simpa [wsAt, List.getElem?_eq_getElem hlt] using hr
      · left
        exact List.drop_eq_nil_of_le (by omega)

theorem runsSeq_noMatch (env : CharEnv) (s : Str) (ic : Bool) (rs : List Rx) (i : Nat) (caps : Caps) :
    runsSeq env s (Parser.noMatchSet ic :: rs) i caps = [] := by
  rw [runsSeq, runs_noMatchSet]; rfl

theorem runsSeq_cons_nil (env : CharEnv) (s : Str) (r : Rx) (rs : List Rx) (i : Nat) (caps : Caps)
    (h : ∀ j c, runsSeq env s rs j c = []) : runsSeq env s (r :: rs) i caps = [] := by
  rw [runsSeq, List.flatMap_eq_nil_iff]
  intro p _
  exact h p.1 p.2

theorem lits_seq (env : CharEnv) (ic : Bool) (hfold : ic = true → env.fold = lowerCp)
    (s : Str) (caps : Caps) (rest : List Rx) (v : Str) (i : Nat) :
    runsSeq env s (Parser.lits v ic ++ rest) i caps ≠ [] ↔
      occursAt (Css.foldCase ic v) (Css.foldCase ic s) i = true ∧
        runsSeq env s rest (i + v.length) caps ≠ [] := by
  rw [lits_cont env ic hfold]
  cases occursAt (Css.foldCase ic v) (Css.foldCase ic s) i <;> simp

theorem isMatch_of_runs_nil (env : CharEnv) (r : Rx) (s : Str) (h : runs env s r 0 [] = []) :
    Rx.isMatch env r s = false := by
  simp [Rx.isMatch, Rx.matchAt, h]

end AttrTemplates
end SoupVerif
