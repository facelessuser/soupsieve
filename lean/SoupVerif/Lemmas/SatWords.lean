/-
  The model's word splitter (`splitWs`, Python `str.split` restricted to CSS white space) against
  the specification's word test (`Css.hasWord`, Selectors-4 §6.1 `[att~=v]`).
-/
import SoupVerif.Lemmas.StrLit
import SoupVerif.Spec.CssValue
namespace SoupVerif
namespace SatWords
open Css

theorem wordHere_nil_left (s : Str) :
    wordHere [] s = (match s with | [] => true | c :: _ => isCssWs c) := by
  cases s <;> simp [wordHere]

theorem wordHere_cons_nil (d : Nat) (p : Str) : wordHere (d :: p) [] = false := by
  simp [wordHere]

theorem wordHere_cons_cons (d c : Nat) (p cs : Str) :
    wordHere (d :: p) (c :: cs) = (d == c && wordHere p cs) := by
  simp [wordHere, List.isPrefixOf, Bool.and_assoc]

theorem wordHere_nil_right (p : Str) : wordHere p [] = true ↔ p = [] := by
  cases p <;> simp [wordHere]

theorem hasWordFrom_true (v s : Str) :
    hasWordFrom v true s = (wordHere v s || hasWordFrom v false s) := by
  cases s <;> simp [hasWordFrom]

theorem hasWordFrom_false_cons (v : Str) (c : Nat) (cs : Str) :
    hasWordFrom v false (c :: cs) = hasWordFrom v (isCssWs c) cs := by
  simp [hasWordFrom]

theorem go_mem_shape (v : Str) : ∀ (s cur : Str), (∀ c ∈ cur, isCssWs c = false) →
    v ∈ splitWs.go s cur → v ≠ [] ∧ ∀ c ∈ v, isCssWs c = false := by
  intro s
  induction s with
  | nil =>
    intro cur hcur hv
    cases cur with
    | nil => simp [splitWs.go] at hv
    | cons d cur =>
      simp only [splitWs.go, List.isEmpty_cons, Bool.false_eq_true, if_false,
        List.mem_singleton] at hv
      subst hv
      refine ⟨by simp, ?_⟩
      intro c hc
      exact hcur c (List.mem_reverse.mp hc)
  | cons c cs ih =>
    intro cur hcur hv
    by_cases hc : isCssWs c = true
    · cases cur with
      | nil =>
        simp only [splitWs.go, hc, if_true, List.isEmpty_nil] at hv
        exact ih [] (by simp) hv
      | cons d cur =>
        simp only [splitWs.go, hc, if_true, List.isEmpty_cons, Bool.false_eq_true, if_false,
          List.mem_cons] at hv
        rcases hv with hv | hv
        · subst hv
          refine ⟨by simp, ?_⟩
          intro x hx
          exact hcur x (List.mem_reverse.mp hx)
        · exact ih [] (by simp) hv
    · simp only [splitWs.go, hc, Bool.false_eq_true, if_false] at hv
      refine ih (c :: cur) ?_ hv
      intro x hx
      rcases List.mem_cons.mp hx with rfl | hx
      · simpa using hc
      · exact hcur x hx

/-- Joint invariant of the two scanners: `cur` is the (reversed) word in progress. -/
theorem go_mem_iff (v : Str) (hne : v ≠ []) (hv : ∀ c ∈ v, isCssWs c = false) :
    ∀ (s cur : Str), v ∈ splitWs.go s cur ↔
      ((∃ p, v = cur.reverse ++ p ∧ wordHere p s = true) ∨ hasWordFrom v false s = true) := by
  intro s
  induction s with
  | nil =>
    intro cur
    have h2 : hasWordFrom v false [] = false := by simp [hasWordFrom]
    simp only [h2, Bool.false_eq_true, or_false, wordHere_nil_right]
    cases cur with
    | nil =>
      simp only [splitWs.go, List.isEmpty_nil, if_true, List.not_mem_nil, false_iff]
      rintro ⟨p, rfl, rfl⟩
      exact hne rfl
    | cons d cur =>
      simp only [splitWs.go, List.isEmpty_cons, Bool.false_eq_true, if_false, List.mem_singleton]
      constructor
      · intro h; exact ⟨[], by simpa using h, rfl⟩
      · rintro ⟨p, h, rfl⟩; simpa using h
  | cons c cs ih =>
    intro cur
    by_cases hc : isCssWs c = true
    · -- a separator: the word in progress ends here
      have hfirst : (∃ p, v = cur.reverse ++ p ∧ wordHere p (c :: cs) = true) ↔
          v = cur.reverse := by
        constructor
        · rintro ⟨p, h, hw⟩
          cases p with
          | nil => simpa using h
          | cons d p =>
            rw [wordHere_cons_cons] at hw
            simp only [Bool.and_eq_true, beq_iff_eq] at hw
            have : isCssWs d = false := hv d (by rw [h]; simp)
            rw [hw.1, hc] at this
            exact absurd this (by simp)
        · intro h
          exact ⟨[], by simpa using h, by simp [wordHere_nil_left, hc]⟩
      rw [hfirst, hasWordFrom_false_cons, hc, hasWordFrom_true]
      have ih0 := ih []
      simp only [List.reverse_nil, List.nil_append, exists_eq_left'] at ih0
      cases cur with
      | nil =>
        simp only [splitWs.go, hc, if_true, List.isEmpty_nil, List.reverse_nil]
        rw [ih0]
        simp [hne]
      | cons d cur =>
        simp only [splitWs.go, hc, if_true, List.isEmpty_cons, Bool.false_eq_true, if_false,
          List.mem_cons]
        rw [ih0]
        simp
    · -- an ordinary character: the word in progress grows
      have hc' : isCssWs c = false := by simpa using hc
      simp only [splitWs.go, hc, Bool.false_eq_true, if_false]
      rw [ih (c :: cur), hasWordFrom_false_cons, hc']
      apply or_congr_left
      constructor
      · rintro ⟨p, h, hw⟩
        refine ⟨c :: p, by simpa using h, ?_⟩
        simp [wordHere_cons_cons, hw]
      · rintro ⟨p, h, hw⟩
        cases p with
        | nil =>
          rw [wordHere_nil_left] at hw
          simp [hc'] at hw
        | cons d p =>
          rw [wordHere_cons_cons] at hw
          simp only [Bool.and_eq_true, beq_iff_eq] at hw
          obtain ⟨rfl, hw⟩ := hw
          exact ⟨p, by simpa using h, hw⟩

/-- The words of `splitWs s` are exactly the non-empty, white-space free `v` with
    `Css.hasWord v s`. -/
theorem mem_splitWs_iff (v s : Str) :
    v ∈ splitWs s ↔ v ≠ [] ∧ (∀ c ∈ v, isCssWs c = false) ∧ Css.hasWord v s = true := by
  unfold splitWs
  constructor
  · intro h
    obtain ⟨hne, hv⟩ := go_mem_shape v s [] (by simp) h
    refine ⟨hne, hv, ?_⟩
    have := (go_mem_iff v hne hv s []).mp h
    simpa [hasWord, hasWordFrom_true] using this
  · rintro ⟨hne, hv, h⟩
    apply (go_mem_iff v hne hv s []).mpr
    simpa [hasWord, hasWordFrom_true] using h

theorem splitWs_contains (v s : Str) :
    (splitWs s).contains v = (!v.isEmpty && !v.any isCssWs && Css.hasWord v s) := by
  rw [Bool.eq_iff_iff, List.contains_iff_mem, mem_splitWs_iff]
  simp [and_assoc]

example : (splitWs "a  bc\td".toStr).contains "bc".toStr = true := by decide_lit
example : (splitWs "a  bc\td".toStr).contains "b".toStr = false := by decide_lit
example : Css.hasWord "a b".toStr "a b".toStr = true := by decide_lit

end SatWords
end SoupVerif
