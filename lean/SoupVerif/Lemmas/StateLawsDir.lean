/-
  C17 helpers: the walk of `match_dir`.

  One level of the walk is factored into a verdict that does not depend on the requested
  directionality (`dirStep`): either a definite direction, or "ask the parent".  Along the chain `el :: ancestors` the
  verdicts compose to the direction the walk computes (`dirOf`), and `match_dir` compares it with the requested one
  (`matchDirWalk_true`, `matchDirWalk_subject`).
-/
import SoupVerif.Lemmas.StateLawsSem
namespace SoupVerif.StateLaws
open SoupVerif

/-- A definite directionality, `ltr` or `rtl` (not the `0` that stands for `auto`). -/
def IsDirVal (d : Nat) : Prop := d = SEL_DIR_LTR ∨ d = SEL_DIR_RTL

theorem IsDirVal.ne {d : Nat} (h : IsDirVal d) : (d == SEL_DIR_LTR) ≠ (d == SEL_DIR_RTL) := by
  rcases h with rfl | rfl <;> decide

theorem firstStrong_val (c : Ctx) : ∀ (s : Str) (d : Nat), firstStrong c s = some d → IsDirVal d
  | [], d, h => by simp [firstStrong] at h
  | ch :: rest, d, h => by
    unfold firstStrong at h
    split at h
    · exact Or.inl (Option.some.inj h).symm
    · split at h
      · exact Or.inr (Option.some.inj h).symm
      · exact firstStrong_val c rest d h

theorem findBidiKids_val (c : Ctx) (ks : List Node) : ∀ (d : Nat), findBidiKids c ks = some d → IsDirVal d := by
  fun_induction findBidiKids c ks with
  | case1 => intro d h; simp at h
  | case2 ks e sub direction name hcond ih => exact ih
  | case3 ks e sub direction name hcond v hv ih1 => intro d h; exact ih1 d (by rw [hv, h])
  | case4 ks e sub direction name hcond hn ih1 ih2 => exact ih2
  | case5 ks kind s hk ih => exact ih
  | case6 ks kind s hk v hv => intro d h; exact firstStrong_val c s d (by rw [hv, h])
  | case7 ks kind s hk hn ih => exact ih

theorem findBidi_val (c : Ctx) (l : Loc) (d : Nat) (h : findBidi c l = some d) : IsDirVal d := by
  unfold findBidi at h
  split at h
  · cases h
  · exact findBidiKids_val c _ d h

theorem dirOfAttr_val (v : Str) (d : Nat) (h : dirOfAttr v = some d) (h0 : d ≠ 0) : IsDirVal d := by
  unfold dirOfAttr at h
  split at h
  · exact Or.inl (Option.some.inj h).symm
  · split at h
    · exact Or.inr (Option.some.inj h).symm
    · split at h
      · exact absurd (Option.some.inj h).symm h0
      · simp at h

/-- Verdict of one level of `match_dir`. -/
inductive DirStep where
  | is (d : Nat)     -- `return d == directionality`
  | up               -- `return self.match_dir(self.get_parent(el, no_iframe=True), directionality)`
  deriving Repr, DecidableEq

/-- Reading a verdict for a requested directionality `d`; `W` is the parent's answer. -/
def DirStep.interp (d : Nat) (W : Bool) : DirStep → Bool
  | .is x => x == d
  | .up => W

/-- The facts one level of `match_dir` consults (none depends on the requested directionality). -/
structure DirAtoms where
  /-- `DIR_MAP.get(util.lower(dir))`: `some 0` = auto -/
  dirA : Option Nat
  isRoot : Bool
  /-- text-like `input` or `textarea` -/
  textLike : Bool
  /-- its value / text -/
  value : Str
  /-- first strong character of `value` -/
  fs : Option Nat
  /-- `find_bidi(el)` -/
  fb : Option Nat
  /-- `input[type=tel]` -/
  tel : Bool
  bdi : Bool

/-- `input`'s lower-cased `type` (`''` for other elements), as `match_dir` computes it. -/
def dirInputType (c : Ctx) (e : Elem) : Str :=
  if c.tagName e == "input".toStr then
    match (c.attrByName e "type".toStr).getD (.str []) with
    | .str s => lower s
    | .list _ => []
  else []

/-- The value whose first strong character decides `dir=auto` on a text control. -/
def dirAutoValue (c : Ctx) (l : Loc) (e : Elem) : Str :=
  if c.tagName e == "textarea".toStr then
    ((c.contents l true).filter (fun d => d.focus.isContentString)).flatMap (fun d => d.focus.strVal)
  else match (c.attrByName e "value".toStr).getD (.str []) with
    | .str s => s
    | .list _ => []

def dirAtoms (c : Ctx) (l : Loc) (e : Elem) : DirAtoms where
  dirA := match (c.attrByName e "dir".toStr).getD (.str []) with
    | .str s => dirOfAttr (lower s)
    | .list _ => none
  isRoot := c.isRoot l
  textLike := (c.tagName e == "input".toStr &&
      ["text", "search", "tel", "url", "email"].any (fun t => t.toStr == dirInputType c e)) ||
    c.tagName e == "textarea".toStr
  value := dirAutoValue c l e
  fs := firstStrong c (dirAutoValue c l e)
  fb := findBidi c l
  tel := c.tagName e == "input".toStr && dirInputType c e == "tel".toStr
  bdi := c.tagName e == "bdi".toStr

/-- The control flow of one level of `match_dir` over the atoms, a literal copy of the body of `matchDirWalk`
    (so that `matchDirWalk_cons` holds by unfolding); `k x` is `x == directionality`,
    `W` the recursive call on the parent. -/
def levelG (a : DirAtoms) (k : Nat → Bool) (W : Bool) : Bool :=
  match a.dirA with
  | some d =>
    if d != 0 then k d
    else
      if a.textLike then
        if !a.value.isEmpty then
          match a.fs with
          | some d => k d
          | none => k SEL_DIR_LTR
        else if a.isRoot then k SEL_DIR_LTR
        else W
      else
        match a.fb with
        | some d => k d
        | none => if a.isRoot then k SEL_DIR_LTR else W
  | none =>
    if a.isRoot then k SEL_DIR_LTR
    else
      if a.tel then k SEL_DIR_LTR
      else if a.bdi then
        match a.fb with
        | some d => k d
        | none => W
      else W

/-- The same control flow, returning a verdict. -/
def DirAtoms.step (a : DirAtoms) : DirStep :=
  match a.dirA with
  | some d =>
    if d != 0 then .is d
    else
      if a.textLike then
        if !a.value.isEmpty then
          match a.fs with
          | some d => .is d
          | none => .is SEL_DIR_LTR
        else if a.isRoot then .is SEL_DIR_LTR
        else .up
      else
        match a.fb with
        | some d => .is d
        | none => if a.isRoot then .is SEL_DIR_LTR else .up
  | none =>
    if a.isRoot then .is SEL_DIR_LTR
    else
      if a.tel then .is SEL_DIR_LTR
      else if a.bdi then
        match a.fb with
        | some d => .is d
        | none => .up
      else .up

theorem levelG_eq_interp (a : DirAtoms) (d : Nat) (W : Bool) :
    levelG a (· == d) W = a.step.interp d W := by
  unfold levelG DirAtoms.step
  cases a.dirA with
  | none =>
    cases a.isRoot <;> cases a.tel <;> cases a.bdi <;> cases a.fb <;> rfl
  | some d0 =>
    by_cases h0 : d0 = 0
    · subst h0
      cases a.textLike <;> cases a.value.isEmpty <;> cases a.fs <;> cases a.fb <;> cases a.isRoot <;> rfl
    · have : (d0 != 0) = true := by simpa using h0
      simp only [this, if_true]; rfl

def dirStep (c : Ctx) (l : Loc) (e : Elem) : DirStep := (dirAtoms c l e).step

/-- One level of the walk.  An element outside the XHTML namespace never matches itself
    (`inherit = false`: it is the subject) and is skipped as an ancestor (`inherit = true`). -/
theorem matchDirWalk_cons (c : Ctx) (d : Nat) (inh : Bool) (l : Loc) (ps : List Loc) :
    matchDirWalk c d inh (l :: ps) =
      match l.elem? with
      | none => false
      | some e =>
        if !c.isHtmlTag e then inh && matchDirWalk c d true ps
        else (dirStep c l e).interp d (matchDirWalk c d true ps) := by
  rw [matchDirWalk]
  cases l.elem? with
  | none => rfl
  | some e =>
    simp only
    cases c.isHtmlTag e
    · rfl
    · simp only [Bool.not_true, Bool.false_eq_true, if_false]
      rw [dirStep, ← levelG_eq_interp]
      rfl

theorem matchDirWalk_nil (c : Ctx) (d : Nat) (inh : Bool) : matchDirWalk c d inh [] = false := by
  rw [matchDirWalk]

theorem matchDirWalk_html_head (c : Ctx) (d : Nat) (inh : Bool) (l : Loc) (e : Elem) (ps : List Loc)
    (he : l.elem? = some e) (hh : c.isHtmlTag e = true) :
    matchDirWalk c d inh (l :: ps) = matchDirWalk c d true (l :: ps) := by
  rw [matchDirWalk_cons, matchDirWalk_cons, he]
  simp only [hh, Bool.not_true, Bool.false_eq_true, if_false]

theorem matchDirWalk_foreign_subject (c : Ctx) (d : Nat) (l : Loc) (e : Elem) (ps : List Loc)
    (he : l.elem? = some e) (hh : c.isHtmlTag e = false) :
    matchDirWalk c d false (l :: ps) = false := by
  rw [matchDirWalk_cons, he]
  simp only [hh, Bool.not_false, if_true, Bool.false_and]

theorem step_val (a : DirAtoms) (hfs : ∀ x, a.fs = some x → IsDirVal x)
    (hfb : ∀ x, a.fb = some x → IsDirVal x) (hda : ∀ x, a.dirA = some x → x ≠ 0 → IsDirVal x)
    (x : Nat) (h : a.step = .is x) : IsDirVal x := by
  unfold DirAtoms.step at h
  have hl : IsDirVal SEL_DIR_LTR := Or.inl rfl
  split at h
  · rename_i d0 hd
    split at h
    · rename_i h0
      cases h; exact hda _ hd (by simpa using h0)
    · split at h
      · split at h
        · split at h <;> cases h
          · exact hfs _ ‹_›
          · exact hl
        · split at h <;> cases h; exact hl
      · split at h
        · cases h; exact hfb _ ‹_›
        · split at h <;> cases h; exact hl
  · split at h
    · cases h; exact hl
    · split at h
      · cases h; exact hl
      · split at h
        · split at h <;> cases h; exact hfb _ ‹_›
        · cases h

theorem dirStep_val (c : Ctx) (l : Loc) (e : Elem) (x : Nat) (h : dirStep c l e = .is x) : IsDirVal x := by
  refine step_val (dirAtoms c l e) (fun y hy => firstStrong_val c _ y hy)
    (fun y hy => findBidi_val c l y hy) ?_ x h
  intro y hy h0
  have hy' : (match (c.attrByName e "dir".toStr).getD (.str []) with
      | .str s => dirOfAttr (lower s)
      | .list _ => none) = some y := hy
  split at hy'
  · exact dirOfAttr_val _ y hy' h0
  · simp at hy'

theorem step_root (a : DirAtoms) (hr : a.isRoot = true) : a.step ≠ .up := by
  unfold DirAtoms.step
  rw [hr]
  cases a.dirA with
  | none => simp
  | some d0 =>
    by_cases h0 : d0 = 0
    · subst h0
      cases a.textLike <;> cases a.value.isEmpty <;> cases a.fs <;> cases a.fb <;> simp
    · have : (d0 != 0) = true := by simpa using h0
      simp [this]

theorem dirStep_root (c : Ctx) (l : Loc) (e : Elem) (hr : c.isRoot l = true) : dirStep c l e ≠ .up :=
  step_root (dirAtoms c l e) hr

/-- A verdict read as a direction; `r` is what the parent computes. -/
def DirStep.orElse (r : Option Nat) : DirStep → Option Nat
  | .is x => some x
  | .up => r

theorem DirStep.interp_orElse (d : Nat) (r : Option Nat) (s : DirStep) :
    s.interp d (r == some d) = (s.orElse r == some d) := by
  cases s
  · exact (Option.some_beq_some ..).symm
  · rfl

/-- The directionality `match_dir` computes along a chain `el :: ancestors` seen from below (`inherit = true`): the
    verdict of the first HTML-namespace level that answers by itself; `none` when the chain ends, or meets a
    non-element, before one does.  Elements outside the XHTML namespace are passed over. -/
def dirOf (c : Ctx) : List Loc → Option Nat
  | [] => none
  | l :: ps =>
    match l.elem? with
    | none => none
    | some e => if c.isHtmlTag e then (dirStep c l e).orElse (dirOf c ps) else dirOf c ps

theorem dirOf_cons (c : Ctx) {l : Loc} {e : Elem} (ps : List Loc) (he : l.elem? = some e) :
    dirOf c (l :: ps) = if c.isHtmlTag e then (dirStep c l e).orElse (dirOf c ps) else dirOf c ps := by
  rw [dirOf, he]

theorem dirOf_cons_none (c : Ctx) {l : Loc} (ps : List Loc) (he : l.elem? = none) : dirOf c (l :: ps) = none := by
  rw [dirOf, he]

theorem matchDirWalk_true (c : Ctx) (d : Nat) (ls : List Loc) :
    matchDirWalk c d true ls = (dirOf c ls == some d) := by
  induction ls with
  | nil => rw [matchDirWalk_nil]; rfl
  | cons l ps ih =>
    rw [matchDirWalk_cons, dirOf, ih]
    cases l.elem? with
    | none => rfl
    | some e =>
      show (if _ then _ else _) = ((if _ then _ else _) == _)
      cases c.isHtmlTag e
      · exact Bool.true_and _
      · exact DirStep.interp_orElse d _ _

theorem matchDirWalk_subject (c : Ctx) (d : Nat) (l : Loc) (e : Elem) (ps : List Loc) (he : l.elem? = some e) :
    matchDirWalk c d false (l :: ps) = (c.isHtmlTag e && dirOf c (l :: ps) == some d) := by
  cases hh : c.isHtmlTag e
  · exact matchDirWalk_foreign_subject c d l e ps he hh
  · rw [matchDirWalk_html_head c d false l e ps he hh, matchDirWalk_true, Bool.true_and]

theorem dirOf_val (c : Ctx) (ls : List Loc) (x : Nat) (h : dirOf c ls = some x) : IsDirVal x := by
  induction ls with
  | nil => cases h
  | cons l ps ih =>
    cases he : l.elem? with
    | none => rw [dirOf_cons_none c ps he] at h; cases h
    | some e =>
      rw [dirOf_cons c ps he] at h
      split at h
      · cases hs : dirStep c l e with
        | up => rw [hs] at h; exact ih h
        | is y => rw [hs] at h; cases h; exact dirStep_val c l e x hs
      · exact ih h

/-- Elements (of any namespace) up to an HTML-namespace root: a direction is computed, since a root never defers. -/
theorem dirOf_isSome_of_root (c : Ctx) (pre : List Loc) (r : Loc) (post : List Loc)
    (hpre : ∀ p ∈ pre, ∃ e, p.elem? = some e)
    (hr : ∃ e, r.elem? = some e ∧ c.isHtmlTag e = true) (hroot : c.isRoot r = true) :
    (dirOf c (pre ++ r :: post)).isSome = true := by
  induction pre with
  | nil =>
    obtain ⟨e, he, hh⟩ := hr
    rw [List.nil_append, dirOf_cons c post he, if_pos hh]
    cases hs : dirStep c r e with
    | up => exact absurd hs (dirStep_root c r e hroot)
    | is x => rfl
  | cons p pre ih =>
    obtain ⟨e, he⟩ := hpre p (List.mem_cons_self ..)
    have ih' := ih (fun q hq => hpre q (List.mem_cons_of_mem _ hq))
    rw [List.cons_append, dirOf_cons c _ he]
    split
    · cases dirStep c p e with
      | up => exact ih'
      | is x => rfl
    · exact ih'

/-- When every HTML-namespace level defers to its parent (the walk runs off the end of the chain, or meets a
    non-element), no direction is computed. -/
theorem dirOf_none_of_all_up (c : Ctx) (ls : List Loc)
    (h : ∀ p ∈ ls, ∀ e, p.elem? = some e → c.isHtmlTag e = true → dirStep c p e = .up) :
    dirOf c ls = none := by
  induction ls with
  | nil => rfl
  | cons p ps ih =>
    have ih' := ih (fun q hq => h q (List.mem_cons_of_mem _ hq))
    cases he : p.elem? with
    | none => exact dirOf_cons_none c ps he
    | some e =>
      rw [dirOf_cons c ps he]
      split
      · rename_i hh; rw [h p (List.mem_cons_self ..) e he hh]; exact ih'
      · exact ih'

/-! The walk does not read the prefix map or the iframe flag: under `c.htmlOnly` it is the same. -/

section HtmlOnly
variable (c : Ctx) (l : Loc)

theorem htmlOnly_firstStrong (s : Str) : firstStrong c.htmlOnly s = firstStrong c s := by
  induction s with
  | nil => rfl
  | cons ch rest ih => unfold firstStrong; rw [ih]; rfl

theorem htmlOnly_findBidiKids (ks : List Node) : findBidiKids c.htmlOnly ks = findBidiKids c ks := by
  fun_induction findBidiKids c ks with
  | case1 => unfold findBidiKids; rfl
  | case2 ks e sub direction name hcond ih =>
    rw [findBidiKids]
    exact (if_pos hcond).trans ih
  | case3 ks e sub direction name hcond v hv ih1 =>
    rw [findBidiKids]
    refine (if_neg hcond).trans ?_
    rw [ih1, hv]
  | case4 ks e sub direction name hcond hn ih1 ih2 =>
    rw [findBidiKids]
    refine (if_neg hcond).trans ?_
    rw [ih1, hn]; exact ih2
  | case5 ks kind s hk ih =>
    rw [findBidiKids]
    simp only [hk, if_true, ih]
  | case6 ks kind s hk v hv =>
    rw [findBidiKids]
    simp only [hk, htmlOnly_firstStrong, hv, Bool.false_eq_true, if_false]
  | case7 ks kind s hk hn ih =>
    rw [findBidiKids]
    simp only [hk, htmlOnly_firstStrong, hn, ih, Bool.false_eq_true, if_false]

theorem htmlOnly_dirStep (p : Loc) (pe : Elem) : dirStep c.htmlOnly p pe = dirStep c p pe := by
  unfold dirStep
  congr 1
  unfold dirAtoms dirAutoValue dirInputType findBidi
  simp only [htmlOnly_attrByName, htmlOnly_tagName, htmlOnly_isRoot, htmlOnly_firstStrong,
    htmlOnly_findBidiKids]
  rfl

theorem htmlOnly_dirOf (ls : List Loc) : dirOf c.htmlOnly ls = dirOf c ls := by
  induction ls with
  | nil => rfl
  | cons p ps ih =>
    rw [dirOf, dirOf, ih]
    cases p.elem? with
    | none => rfl
    | some pe => simp only [htmlOnly_isHtmlTag, htmlOnly_dirStep]

theorem htmlOnly_matchDir (d : Nat) : matchDir c.htmlOnly l d = matchDir c l d := by
  unfold matchDir
  rw [htmlOnly_ancestors, matchDirWalk_cons, matchDirWalk_cons, matchDirWalk_true, matchDirWalk_true, htmlOnly_dirOf]
  cases l.elem? with
  | none => rfl
  | some e => simp only [htmlOnly_isHtmlTag, htmlOnly_dirStep]

end HtmlOnly

end SoupVerif.StateLaws
