/-
  The Python loop primitives the source-translated functions are built on (`Model/PyLoop.lean`, `Model/PyWhile.lean`,
  `Model/PyApiLoop.lean`, `Model/PyFlagLoop.lean`): their unfolding equations, an invariant rule for `while`, a
  cursor walk along a chain (siblings, ancestors) as `List.any`, and the flag loops `for x in xs: … break` as
  `List.any` / `List.all`.
-/
import SoupVerif.Model.PyLoop
import SoupVerif.Model.PyWhile
import SoupVerif.Model.PyApiLoop
import SoupVerif.Model.PyFlagLoop
namespace SoupVerif

namespace PyLoop

theorem whileLoop_done {σ : Type} (cond : σ → Bool) (body : σ → Except Exc σ) (fuel : Nat) (st : σ)
    (h : cond st = false) : whileLoop cond body fuel st = .ok (some st) := by
  cases fuel <;> simp [whileLoop, h]

theorem whileLoop_step {σ : Type} (cond : σ → Bool) (body : σ → Except Exc σ) (fuel : Nat) (st st' : σ)
    (h : cond st = true) (hb : body st = .ok st') :
    whileLoop cond body (fuel + 1) st = whileLoop cond body fuel st' := by
  simp [whileLoop, h, hb]

end PyLoop

namespace PyWhile

theorem whileBrk_zero {σ : Type} (cond : σ → Bool) (body : σ → σ × Bool) (st : σ) :
    whileBrk cond body 0 st = if cond st then none else some st := rfl

theorem whileBrk_succ {σ : Type} (cond : σ → Bool) (body : σ → σ × Bool) (n : Nat) (st : σ) :
    whileBrk cond body (n + 1) st =
      if cond st then
        match body st with
        | (st', true) => some st'
        | (st', false) => whileBrk cond body n st'
      else some st := rfl

theorem whileBrk_inv {σ : Type} (cond : σ → Bool) (body : σ → σ × Bool) (P : σ → Prop)
    (hstep : ∀ st, cond st = true → P st → P (body st).1) :
    ∀ (fuel : Nat) (st r : σ), P st → whileBrk cond body fuel st = some r → P r := by
  intro fuel
  induction fuel with
  | zero =>
    intro st r hP h
    rw [whileBrk_zero] at h
    split at h
    · cases h
    · cases h; exact hP
  | succ n ih =>
    intro st r hP h
    rw [whileBrk_succ] at h
    split at h
    · rename_i hc
      have hs := hstep st hc hP
      split at h
      · rename_i st' hb; rw [hb] at hs; cases h; exact hs
      · rename_i st' hb; rw [hb] at hs; exact ih st' r hs h
    · cases h; exact hP

end PyWhile

namespace PyApiLoop

theorem whileOpt_done {σ : Type} (cond : σ → Bool) (body : σ → Option σ) (fuel : Nat) (st : σ)
    (h : cond st = false) : whileOpt cond body fuel st = some st := by
  cases fuel <;> simp [whileOpt, h]

/-! ### A cursor walk: `while flag and cur is not None: if test(cur): flag = False else: cur = nav(cur)` -/

theorem seq_unfold {α : Type} (nav : α → Option α) (seq : α → List α)
    (hnav : ∀ x, nav x = (seq x).head?) (hseq : ∀ x y, nav x = some y → seq y = (seq x).tail) (x : α) :
    seq x = (match nav x with | none => [] | some y => y :: seq y) := by
  have h := hnav x
  cases hs : seq x with
  | nil => rw [hs] at h; rw [h]; rfl
  | cons y ys =>
    rw [hs] at h
    have ht := hseq x y h
    rw [hs] at ht
    rw [h]
    show y :: ys = y :: seq y
    rw [ht]; rfl

theorem walk_eq {α : Type} (cond : Bool × Option α → Bool) (body : Bool × Option α → Option (Bool × Option α))
    (test : α → Bool) (nav : α → Option α) (seq : α → List α)
    (hcond : ∀ s, cond s = (s.1 && s.2.isSome))
    (hbody : ∀ f x, body (f, some x) = if test x then some (false, some x) else some (f, nav x))
    (hnav : ∀ x, nav x = (seq x).head?)
    (hseq : ∀ x y, nav x = some y → seq y = (seq x).tail) :
    ∀ (rest : List α) (fuel : Nat) (cur : Option α),
      rest = (match cur with | none => [] | some y => y :: seq y) → rest.length ≤ fuel →
      (whileOpt cond body fuel (true, cur)).map (·.1) = some (!rest.any test) := by
  intro rest
  induction rest with
  | nil =>
    intro fuel cur h _
    cases cur with
    | none => cases fuel <;> simp [whileOpt, hcond]
    | some y => cases h
  | cons y ys ih =>
    intro fuel cur h hlen
    cases cur with
    | none => cases h
    | some y' =>
      injection h with hy hys
      subst hy
      cases fuel with
      | zero => simp at hlen
      | succ f =>
        simp only [whileOpt, hcond, Bool.true_and, Option.isSome_some, if_true, hbody]
        cases ht : test y with
        | true => simp [whileOpt_done cond body f (false, some y) (by rw [hcond]; rfl), ht]
        | false =>
          simp only [Bool.false_eq_true, if_false, Option.bind_some, List.any_cons, ht, Bool.false_or]
          exact ih f (nav y) (by rw [hys]; exact seq_unfold nav seq hnav hseq y)
            (Nat.le_of_succ_le_succ hlen)

end PyApiLoop

namespace PyFlagLoop

/-- `for x in xs: if p(x): flag = False; break` -/
theorem forBreak_clear {α : Type} (step : Bool → α → Bool × Bool) (p : α → Bool)
    (h : ∀ s x, step s x = if p x then (false, true) else (s, false)) (s : Bool) (xs : List α) :
    forBreak step s xs = (s && !xs.any p) := by
  induction xs generalizing s with
  | nil => simp [forBreak]
  | cons x xs ih =>
    simp only [forBreak, h]
    cases hp : p x <;> simp [ih, hp]

/-- `for x in xs: if p(x): flag = True; break` -/
theorem forBreak_set {α : Type} (step : Bool → α → Bool × Bool) (p : α → Bool)
    (h : ∀ s x, step s x = if p x then (true, true) else (s, false)) (s : Bool) (xs : List α) :
    forBreak step s xs = (s || xs.any p) := by
  induction xs generalizing s with
  | nil => simp [forBreak]
  | cons x xs ih =>
    simp only [forBreak, h]
    cases hp : p x <;> simp [ih, hp]

/-- A loop that, started with the flag down, raises it and breaks exactly at the first `q`. -/
theorem forBreak_any {α : Type} (step : Bool → α → Bool × Bool) (q : α → Bool)
    (h : ∀ x, step false x = (q x, q x)) (xs : List α) :
    forBreak step false xs = xs.any q := by
  induction xs with
  | nil => simp [forBreak]
  | cons x xs ih =>
    simp only [forBreak, h]
    cases hq : q x <;> simp [ih, hq]

/-- A loop without `break` that lowers the flag at every element failing `q`. -/
theorem forBreak_all {α : Type} (step : Bool → α → Bool × Bool) (q : α → Bool)
    (h : ∀ s x, step s x = (s && q x, false)) (s : Bool) (xs : List α) :
    forBreak step s xs = (s && xs.all q) := by
  induction xs generalizing s with
  | nil => simp [forBreak]
  | cons x xs ih =>
    simp only [forBreak, h, Bool.false_eq_true, if_false, ih, List.all_cons, Bool.and_assoc]

/-- A loop without `break` whose body only ever sets the flag. -/
theorem forBreak_or {α : Type} (f : Bool → α → Bool × Bool) (p : α → Bool)
    (hf : ∀ m x, f m x = (m || p x, false)) (m : Bool) (xs : List α) :
    forBreak f m xs = (m || xs.any p) := by
  induction xs generalizing m with
  | nil => simp [forBreak]
  | cons x xs ih => simp [forBreak, hf, ih, Bool.or_assoc]

/-- A loop whose body recomputes the flag and breaks when it is `False`. -/
theorem forBreak_all_break {α : Type} (g : Bool → α → Bool × Bool) (q : α → Bool)
    (hg : ∀ m x, g m x = (q x, !q x)) (m : Bool) (xs : List α) :
    forBreak g m xs = if xs.isEmpty then m else xs.all q := by
  induction xs generalizing m with
  | nil => simp [forBreak]
  | cons x xs ih =>
    simp only [forBreak, hg, ih]
    cases hq : q x <;> cases xs <;> simp [hq]

end PyFlagLoop
end SoupVerif
