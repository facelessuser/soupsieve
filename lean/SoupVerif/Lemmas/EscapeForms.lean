/-
  `css_parser.escape` writes one of the admissible spellings of `Spec/Spelling.lean`, and which one: `identForms v` for
  a NUL-free value `v` (`identForms_render`), `escForms s = identForms (nulToFFFD s)` for any `s` (`escForms_render`).
  The forms are admissible in front of ANY text, in range, every hexadecimal escape terminated, and (for `s ≠ ""`)
  satisfy the head rule of `IDENTIFIER`: so every fact about admissible spellings (`*_forms` in `Lemmas/Spelling.lean`,
  `Properties/C09*.lean`) holds of the text `escape s`.

  `escForm_cases` is the case analysis of `escapeChar`: which form each code point gets and what text that is; the
  characters `escape` emits (`escape_safe`, `escape_head`) are read off it.  `Forms` / `identOK` (an admissible
  identifier spelling in front of a text) are the vocabulary of `Properties/C09Compile.lean`.
-/
import SoupVerif.Lemmas.Spelling
namespace SoupVerif

namespace C09Compile
open Escape Spelling

abbrev Forms := List (Nat × EscForm)

/-- `f` is an admissible spelling of an identifier in front of the text `r`. -/
def identOK (f : Forms) (r : Str) : Prop :=
  validForms f r = true ∧ headOk f = true ∧ ∀ p ∈ f, rangeOk p.1 p.2 = true

end C09Compile

namespace C01Parse
open Escape Spelling SpellingLemmas EscapeLemmas
open C09Compile (Forms identOK)

/-- How `escape` writes one code point (`lead`: first position, or second after a leading `-`). -/
def escForm (lead : Bool) (c : Nat) : EscForm :=
  if (1 ≤ c && c ≤ 0x1F) || c == 0x7F then .hex (hexDigits c).length [] (some .space)
  else if lead && (0x30 ≤ c && c ≤ 0x39) then .hex (hexDigits c).length [] (some .space)
  else if c == 0x2D || c == 0x5F || c ≥ 0x80 || (0x30 ≤ c && c ≤ 0x39) ||
          (0x41 ≤ c && c ≤ 0x5A) || (0x61 ≤ c && c ≤ 0x7A) then .lit
  else .bs

def escFormsGo (sd : Bool) : Nat → Str → Forms
  | _, [] => []
  | i, c :: cs => (c, escForm (i == 0 || (sd && i == 1)) c) :: escFormsGo sd (i + 1) cs

/-- The canonical spelling of the identifier with value `s`: the forms `css_parser.escape` uses. -/
def identForms (s : Str) : Forms :=
  if s.length == 1 && startDash s then [(45, .bs)] else escFormsGo (startDash s) 0 s

theorem escForm_cases (lead : Bool) (c : Nat) (hc : c ≠ 0) :
    (escForm lead c = .hex (hexDigits c).length [] (some .space) ∧ 1 ≤ c ∧ c ≤ 0x7F ∧
      escapeChar lead c = 92 :: (hexDigits c ++ [32])) ∨
    (escForm lead c = .lit ∧ identContChar c = true ∧
      (lead = true → identStartChar c = true ∨ c = 45) ∧ escapeChar lead c = [c]) ∨
    (escForm lead c = .bs ∧ isHex c = false ∧ c ≠ 10 ∧ c ≠ 12 ∧ c ≠ 13 ∧ escapeChar lead c = [92, c]) := by
  have h0 : (c == 0) = false := by simp [hc]
  simp only [escForm, escapeChar, h0, Bool.false_eq_true, if_false, identContChar, identStartChar, isHex,
    Bool.or_eq_true, Bool.and_eq_true, decide_eq_true_eq, beq_iff_eq, Bool.or_eq_false_iff,
    Bool.and_eq_false_iff, decide_eq_false_iff_not]
  split
  · exact Or.inl ⟨rfl, by omega, by omega, rfl⟩
  · split
    · exact Or.inl ⟨rfl, by omega, by omega, rfl⟩
    · rename_i h2
      split
      · rename_i h3
        -- `h3` is the goal up to the order of the alternatives
        refine Or.inr (Or.inl ⟨rfl, ?_, ?_, rfl⟩)
        · rcases h3 with ((((h | h) | h) | h) | h) | h <;> simp [h]
        · rintro rfl
          simp only [true_and] at h2
          rcases h3 with ((((h | h) | h) | h) | h) | h <;> first | exact absurd h h2 | simp [h]
      · exact Or.inr (Or.inr ⟨rfl, by omega, by omega, by omega, by omega, rfl⟩)

end C01Parse

namespace EscapeLemmas
open Escape C01Parse

/-- Characters `escape` can emit: never NUL, never a raw newline / form feed / carriage return. -/
def SafeChar (d : Nat) : Prop := d ≠ 0 ∧ d ≠ 10 ∧ d ≠ 12 ∧ d ≠ 13

theorem escapeChar_nul (lead : Bool) : escapeChar lead 0 = [0xFFFD] := rfl

theorem escapeChar_safe (lead : Bool) (c : Nat) : ∀ d ∈ escapeChar lead c, SafeChar d := by
  unfold SafeChar
  by_cases h0 : c = 0
  · subst h0; intro d hd; simp [escapeChar_nul] at hd; omega
  rcases escForm_cases lead c h0 with ⟨_, _, _, he⟩ | ⟨_, hc, _, he⟩ | ⟨_, _, _, _, _, he⟩ <;> rw [he] <;> intro d hd
  · simp only [List.mem_cons, List.mem_append, List.not_mem_nil, or_false] at hd
    rcases hd with hd | hd | hd
    · omega
    · have := (isHex_iff d).1 (hexDigits_allHex c d hd); omega
    · omega
  · simp at hd; subst hd
    rw [identContChar_iff] at hc; omega
  · simp at hd; omega

theorem escapeChar_ne_nil (lead : Bool) (c : Nat) : escapeChar lead c ≠ [] := by
  by_cases h0 : c = 0
  · subst h0; simp [escapeChar_nul]
  rcases escForm_cases lead c h0 with ⟨_, _, _, he⟩ | ⟨_, _, _, he⟩ | ⟨_, _, _, _, _, he⟩ <;> rw [he] <;> simp

theorem escapeGo_safe (sd : Bool) (s : Str) : ∀ i, ∀ d ∈ escapeGo sd i s, SafeChar d := by
  induction s with
  | nil => intro i d hd; simp [escapeGo] at hd
  | cons c cs ih =>
    intro i d hd
    simp only [escapeGo, List.mem_append] at hd
    rcases hd with hd | hd
    · exact escapeChar_safe _ c d hd
    · exact ih _ d hd

theorem escapeGo_ne_nil (sd : Bool) (c : Nat) (cs : Str) (i : Nat) : escapeGo sd i (c :: cs) ≠ [] := by
  simp only [escapeGo]
  intro h
  exact escapeChar_ne_nil _ c (List.append_eq_nil_iff.1 h).1

theorem escape_safe (s : Str) : ∀ d ∈ escape s, SafeChar d := by
  rcases escape_eq_dash_or_go s with ⟨_, he⟩ | he
  · rw [he]; intro d hd; simp at hd; unfold SafeChar; omega
  · rw [he]; exact escapeGo_safe _ s 0

end EscapeLemmas

/-! ### `escape` never begins with a quote -/

namespace SpellingLemmas
open Escape EscapeLemmas C01Parse

theorem escapeChar_head (lead : Bool) (c : Nat) :
    ∀ h ∈ (escapeChar lead c).head?, h ≠ 34 ∧ h ≠ 39 := by
  by_cases h0 : c = 0
  · subst h0; simp [escapeChar_nul]
  rcases escForm_cases lead c h0 with ⟨_, _, _, he⟩ | ⟨_, hc, _, he⟩ | ⟨_, _, _, _, _, he⟩ <;> rw [he]
  · simp
  · rw [identContChar_iff] at hc; simp; omega
  · simp

theorem escape_head (s : Str) : ∀ h ∈ (escape s).head?, h ≠ 34 ∧ h ≠ 39 := by
  rcases escape_eq_dash_or_go s with ⟨_, he⟩ | he
  · rw [he]; simp
  · rw [he]
    cases s with
    | nil => simp [escapeGo]
    | cons c cs =>
      simp only [escapeGo]
      rw [head?_append_of_ne_nil _ _ (escapeChar_ne_nil _ c)]
      exact escapeChar_head _ c

end SpellingLemmas

namespace C01Parse
open Escape Spelling SpellingLemmas EscapeLemmas
open C09Compile (Forms identOK)

theorem renderForm_escForm (lead : Bool) (c : Nat) (hc : c ≠ 0) :
    renderForm c (escForm lead c) = escapeChar lead c := by
  rcases escForm_cases lead c hc with ⟨h, _, _, e⟩ | ⟨h, _, _, e⟩ | ⟨h, _, _, _, _, e⟩ <;>
    rw [h, e] <;> simp [renderForm, hexText_natural, wsText, WsUnit.text]

theorem formOk_escForm (lead : Bool) (c : Nat) (hc : c ≠ 0) (next : Option Nat) :
    formOk c (escForm lead c) next = true := by
  rcases escForm_cases lead c hc with ⟨h, _, h2, _⟩ | ⟨h, h1, _, _⟩ | ⟨h, h1, h2, h3, h4, _⟩ <;> rw [h]
  · have := hexDigits_length_le_two c (by omega)
    simp only [formOk, hexOk, termOk, Bool.and_true, Bool.and_eq_true, decide_eq_true_eq]
    omega
  · simpa [formOk] using h1
  · simp [formOk, h1, h2, h3, h4]

theorem rangeOk_escForm (lead : Bool) (c : Nat) (hc : c ≠ 0) : rangeOk c (escForm lead c) = true := by
  rcases escForm_cases lead c hc with ⟨h, h1, h2, _⟩ | ⟨h, _, _, _⟩ | ⟨h, _, _, _, _, _⟩ <;> rw [h]
  · simp only [rangeOk, isHexForm, Bool.not_true, Bool.false_or, Bool.and_eq_true, decide_eq_true_eq]
    omega
  · rfl
  · rfl

theorem startOk_escForm (c : Nat) (hc : c ≠ 0) (h45 : c ≠ 45) : startOk c (escForm true c) = true := by
  rcases escForm_cases true c hc with ⟨h, _, _, _⟩ | ⟨h, _, h1, _⟩ | ⟨h, _, _, _, _, _⟩ <;> rw [h]
  · rfl
  · rcases h1 rfl with h1 | h1
    · simpa [startOk] using h1
    · exact absurd h1 h45
  · rfl

theorem escForm_dash (lead : Bool) : escForm lead 45 = .lit := by
  cases lead <;> decide

theorem valueOf_escFormsGo (sd : Bool) : ∀ (s : Str) (i : Nat), valueOf (escFormsGo sd i s) = s
  | [], _ => rfl
  | c :: cs, i => by
    have := valueOf_escFormsGo sd cs (i + 1)
    simp only [valueOf] at this
    simp [escFormsGo, valueOf, this]

theorem render_escFormsGo (sd : Bool) : ∀ (s : Str) (i : Nat), (∀ c ∈ s, c ≠ 0) →
    renderIdentWith (escFormsGo sd i s) = escapeGo sd i s
  | [], _, _ => rfl
  | c :: cs, i, h => by
    rw [escFormsGo, renderIdentWith_cons, escapeGo, renderForm_escForm _ c (h c (by simp)),
      render_escFormsGo sd cs (i + 1) (fun d hd => h d (by simp [hd]))]

theorem validForms_escFormsGo (sd : Bool) (r : Str) : ∀ (s : Str) (i : Nat), (∀ c ∈ s, c ≠ 0) →
    validForms (escFormsGo sd i s) r = true
  | [], _, _ => rfl
  | c :: cs, i, h => by
    rw [escFormsGo, validForms_cons, formOk_escForm _ c (h c (by simp)),
      validForms_escFormsGo sd r cs (i + 1) (fun d hd => h d (by simp [hd]))]
    rfl

theorem rangeOk_escFormsGo (sd : Bool) : ∀ (s : Str) (i : Nat), (∀ c ∈ s, c ≠ 0) →
    ∀ p ∈ escFormsGo sd i s, rangeOk p.1 p.2 = true
  | [], _, _, p, hp => by simp [escFormsGo] at hp
  | c :: cs, i, h, p, hp => by
    rw [escFormsGo, List.mem_cons] at hp
    rcases hp with rfl | hp
    · exact rangeOk_escForm _ c (h c (by simp))
    · exact rangeOk_escFormsGo sd cs (i + 1) (fun d hd => h d (by simp [hd])) p hp

/-- The one-character identifier `-` is written `\-`; everything else goes through the loop. -/
theorem identForms_cases (s : Str) :
    (s = [45] ∧ identForms s = [(45, .bs)]) ∨
      (¬ (s.length == 1 && startDash s) = true ∧ identForms s = escFormsGo (startDash s) 0 s) := by
  cases h : (s.length == 1 && startDash s) with
  | true =>
    refine .inl ⟨?_, if_pos h⟩
    match s, h with
    | [c], h => rw [Option.some.inj (eq_of_beq ((Bool.and_eq_true _ _).mp h).2 : some c = some 45)]
  | false => exact .inr ⟨Bool.false_ne_true, if_neg (by rw [h]; exact Bool.false_ne_true)⟩

theorem identForms_value (s : Str) : valueOf (identForms s) = s := by
  rcases identForms_cases s with ⟨rfl, e⟩ | ⟨_, e⟩ <;> rw [e]
  · rfl
  · exact valueOf_escFormsGo _ s 0

theorem identForms_render (s : Str) (h0 : ∀ c ∈ s, c ≠ 0) : renderIdentWith (identForms s) = escape s := by
  rcases identForms_cases s with ⟨rfl, e⟩ | ⟨h, e⟩ <;> rw [e]
  · rfl
  · rw [escape, if_neg h]
    exact render_escFormsGo _ s 0 h0

theorem identForms_headOk (s : Str) (hne : s ≠ []) (h0 : ∀ c ∈ s, c ≠ 0) : headOk (identForms s) = true := by
  rcases identForms_cases s with ⟨rfl, e⟩ | ⟨h, e⟩ <;> rw [e]
  · rfl
  · match s, hne with
    | c :: cs, _ =>
      have hc := h0 c (by simp)
      by_cases h45 : c = 45
      · subst h45
        match cs, h with
        | [], h => simp [startDash] at h
        | c2 :: cs2, _ =>
          have hc2 := h0 c2 (by simp)
          simp only [escFormsGo, startDash, List.head?_cons, beq_self_eq_true, Bool.true_or, escForm_dash,
            headOk, isLit, Bool.and_self, if_true, Bool.true_and, Nat.zero_add, Bool.or_true]
          by_cases h2 : c2 = 45
          · subst h2; simp [escForm_dash]
          · simp [startOk_escForm c2 hc2 h2]
      · have hsd : startDash (c :: cs) = false := by simp [startDash, h45]
        simp only [escFormsGo, hsd, beq_self_eq_true, Bool.true_or, headOk]
        have : (c == 45) = false := by simp [h45]
        simp [this, startOk_escForm c hc h45]

theorem identForms_valid (s : Str) (h0 : ∀ c ∈ s, c ≠ 0) (r : Str) : validForms (identForms s) r = true := by
  rcases identForms_cases s with ⟨rfl, e⟩ | ⟨_, e⟩ <;> rw [e]
  · rfl
  · exact validForms_escFormsGo _ r s 0 h0

theorem identForms_range (s : Str) (h0 : ∀ c ∈ s, c ≠ 0) : ∀ p ∈ identForms s, rangeOk p.1 p.2 = true := by
  rcases identForms_cases s with ⟨rfl, e⟩ | ⟨_, e⟩ <;> rw [e]
  · intro p hp; simp at hp; subst hp; rfl
  · exact rangeOk_escFormsGo _ s 0 h0

theorem bareHex_escForm (lead : Bool) (c : Nat) : bareHex (escForm lead c) = false := by
  unfold escForm
  split
  · rfl
  split
  · rfl
  split <;> rfl

theorem bareHex_escFormsGo (sd : Bool) : ∀ (s : Str) (i : Nat), ∀ p ∈ escFormsGo sd i s, bareHex p.2 = false
  | [], _, p, hp => by simp [escFormsGo] at hp
  | c :: cs, i, p, hp => by
    rw [escFormsGo, List.mem_cons] at hp
    rcases hp with rfl | hp
    · exact bareHex_escForm _ c
    · exact bareHex_escFormsGo sd cs (i + 1) p hp

/-- Every hexadecimal escape `escape` writes carries its terminating space. -/
theorem identForms_bare (s : Str) : ∀ p ∈ identForms s, bareHex p.2 = false := by
  rcases identForms_cases s with ⟨rfl, e⟩ | ⟨_, e⟩ <;> rw [e]
  · intro p hp; simp at hp; subst hp; rfl
  · exact bareHex_escFormsGo _ s 0

theorem identForms_ok (s : Str) (hne : s ≠ []) (h0 : ∀ c ∈ s, c ≠ 0) (r : Str) : identOK (identForms s) r :=
  ⟨identForms_valid s h0 r, identForms_headOk s hne h0, identForms_range s h0⟩

theorem identForms_noNul (s : Str) (h0 : ∀ c ∈ s, c ≠ 0) : ∀ x ∈ renderIdentWith (identForms s), x ≠ 0 := by
  rw [identForms_render s h0]
  exact fun x hx => (escape_safe s x hx).1

end C01Parse

namespace C10Parse
open Escape Spelling SpellingLemmas EscapeLemmas
open C09Compile (Forms identOK)
open C01Parse (identForms)

theorem escapeChar_fix (lead : Bool) (c : Nat) :
    escapeChar lead (if c == 0 then 0xFFFD else c) = escapeChar lead c := by
  by_cases h : c = 0
  · subst h; cases lead <;> decide
  · simp [h]

theorem escapeGo_nulToFFFD (sd : Bool) : ∀ (s : Str) (i : Nat),
    escapeGo sd i (nulToFFFD s) = escapeGo sd i s
  | [], _ => rfl
  | c :: cs, i => by
    have ih := escapeGo_nulToFFFD sd cs (i + 1)
    simp only [nulToFFFD, List.map_cons, escapeGo] at ih ⊢
    rw [escapeChar_fix, ih]

theorem startDash_nulToFFFD (s : Str) : startDash (nulToFFFD s) = startDash s := by
  cases s with
  | nil => rfl
  | cons c cs =>
    by_cases h : c = 0
    · subst h; simp [startDash, nulToFFFD]
    · simp [startDash, nulToFFFD, h]

theorem escape_nulToFFFD (s : Str) : escape (nulToFFFD s) = escape s := by
  have hl : (nulToFFFD s).length = s.length := by simp [nulToFFFD]
  unfold escape
  rw [startDash_nulToFFFD, hl, escapeGo_nulToFFFD]
  by_cases h : (s.length == 1 && startDash s) = true
  · rw [if_pos h, if_pos h]
    simp only [Bool.and_eq_true, beq_iff_eq] at h
    match s, h.1, h.2 with
    | [c], _, h2 =>
      simp only [startDash, List.head?_cons, Option.some.injEq, beq_iff_eq] at h2
      subst h2; rfl
  · rw [if_neg h, if_neg h]

theorem nulToFFFD_noNul (s : Str) : ∀ c ∈ nulToFFFD s, c ≠ 0 := by
  intro c hc
  simp only [nulToFFFD, List.mem_map] at hc
  obtain ⟨d, _, rfl⟩ := hc
  by_cases h : d = 0 <;> simp [h]

theorem nulToFFFD_ne_nil {s : Str} (hs : s ≠ []) : nulToFFFD s ≠ [] := by
  cases s with
  | nil => exact absurd rfl hs
  | cons c cs => simp [nulToFFFD]

theorem nulToFFFD_id {s : Str} (h : ∀ c ∈ s, c ≠ 0) : nulToFFFD s = s := by
  unfold nulToFFFD
  conv => rhs; rw [← List.map_id s]
  apply List.map_congr_left
  intro c hc
  simp [h c hc]

/-- The forms `css_parser.escape` writes `s` in: NUL as a literal U+FFFD, control characters, DEL and a
    leading digit (also after a leading `-`) as `\hex ` (lower-case digits, no padding, a space as terminator),
    `-`, `_`, ASCII letters and digits and everything from U+0080 literally, any other ASCII character as `\c`;
    the string `-` as `\-`. -/
def escForms (s : Str) : Forms := identForms (nulToFFFD s)

theorem escForms_render (s : Str) : renderIdentWith (escForms s) = escape s := by
  rw [escForms, C01Parse.identForms_render _ (nulToFFFD_noNul s), escape_nulToFFFD]

theorem escForms_value (s : Str) : valueOf (escForms s) = nulToFFFD s :=
  C01Parse.identForms_value _

/-- Admissible in front of ANY text: every hex escape `escape` writes carries its terminating space, so no
    continuation can be read into it. -/
theorem escForms_ok (s : Str) (hs : s ≠ []) (r : Str) : identOK (escForms s) r :=
  C01Parse.identForms_ok _ (nulToFFFD_ne_nil hs) (nulToFFFD_noNul s) r

theorem escForms_of_noNul {s : Str} (h : ∀ c ∈ s, c ≠ 0) : escForms s = identForms s := by
  rw [escForms, nulToFFFD_id h]


theorem escForms_valid (s r : Str) : validForms (escForms s) r = true :=
  C01Parse.identForms_valid _ (nulToFFFD_noNul s) r

theorem escForms_range (s : Str) : ∀ p ∈ escForms s, rangeOk p.1 p.2 = true :=
  C01Parse.identForms_range _ (nulToFFFD_noNul s)

theorem escForms_bare (s : Str) : ∀ p ∈ escForms s, bareHex p.2 = false := C01Parse.identForms_bare _

end C10Parse

namespace EscapeLemmas
open Escape

theorem scanCont_escapeGo_stop (sd : Bool) (s r : Str) (i : Nat) (hr : continuesIdent r = false) :
    scanCont 0 (escapeGo sd i s ++ r) = (escapeGo sd i s, r) := by
  have h0 := C10Parse.nulToFFFD_noNul s
  rw [← C10Parse.escapeGo_nulToFFFD, ← C01Parse.render_escFormsGo sd _ i h0,
    SpellingLemmas.scanCont_forms _ r (C01Parse.validForms_escFormsGo sd r _ i h0), scanCont_stop r hr]
  simp

end EscapeLemmas

end SoupVerif
