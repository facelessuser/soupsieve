/-
  The `SelectorNth(1, False, 0, of_type, last, [])`
  records of `:first-child`, `:last-child`, `:first-of-type`, `:last-of-type` (and the `only-`
  pairs) against "no preceding / following element sibling (of the same type)".
-/
import SoupVerif.Lemmas.NthSite
namespace SoupVerif
namespace SatNth
open Css SatTree SatCore

/-- Which siblings `match_nth` counts for these records (`of S` list empty). -/
theorem counted_eq (c : Ctx) (e : Elem) (ofType : Bool) (ch : Loc) :
    C02Site.counted c e ofType emptyList ch = (isElem ch && (!ofType || sameTypeAs c e ch)) := by
  unfold C02Site.counted isElem sameTypeAs Loc.elem?
  cases ch.focus with
  | elem ce kids => simp [Node.elem?, Node.isTag, emptyList, SelList.nonEmpty, SelList.sels]
  | str k s => simp [Node.elem?, Node.isTag]

/-- `:first-child` & co. from the end-to-end statement about `matchNth`: position 1 = nothing counted before. -/
theorem nth_edge (c : Ctx) (l : Loc) (e : Elem) (he : l.elem? = some e) (ofType last : Bool) :
    matchNth c l e (nthRec ofType last) =
      !(if last then followingElemSiblings l else precedingElemSiblings l).any
        (fun s => !ofType || sameTypeAs c e s) := by
  have hs : (if last then followingElemSiblings l else precedingElemSiblings l) =
      (if last then l.nextSiblings else l.prevSiblings).filter isElem := by cases last <;> rfl
  rw [hs]
  rw [Bool.eq_iff_iff, nthRec, C02Site.matchNth_const_iff c l e he, C02Site.position]
  have hp : C02Site.preCheck c l e emptyList = true := rfl
  simp only [hp, true_and, Bool.not_eq_true', List.any_eq_false, List.mem_filter, and_imp]
  constructor
  · intro h x hx hel
    have h0 : (if last then l.nextSiblings else l.prevSiblings).filter (C02Site.counted c e ofType emptyList) = [] :=
      List.eq_nil_of_length_eq_zero (by omega)
    have := List.filter_eq_nil_iff.mp h0 x hx
    rw [counted_eq, hel] at this
    simpa using this
  · intro h
    have h0 : (if last then l.nextSiblings else l.prevSiblings).filter (C02Site.counted c e ofType emptyList) = [] := by
      apply List.filter_eq_nil_iff.mpr
      intro x hx
      rw [counted_eq]
      cases hel : isElem x with
      | false => simp
      | true => simp [h x hx hel]
    rw [h0]; rfl

end SatNth
end SoupVerif
