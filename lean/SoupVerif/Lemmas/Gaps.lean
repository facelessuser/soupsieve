/-
  Whitespace and comments between tokens (`Spec/Spelling.lean`: `skipWSC`, `dropComment`, `noGapStart`):
  `skipWSC` step by step, induction along its steps, and lower-casing (`skipWSC_lower`).  No Mathlib.
-/
import SoupVerif.Spec.Spelling
import SoupVerif.Lemmas.List
import SoupVerif.Lemmas.Lower
namespace SoupVerif
namespace SpellingLemmas
open Escape Spelling

theorem dropComment_cons (a : Nat) (rest : Str) :
    dropComment (a :: rest) =
      if a == 42 && rest.head? == some 47 then some rest.tail else dropComment rest := rfl

theorem dropComment_length (s t : Str) (h : dropComment s = some t) : t.length + 2 ≤ s.length := by
  induction s with
  | nil => simp [dropComment] at h
  | cons a rest ih =>
    rw [dropComment_cons] at h
    split at h
    · next hc =>
      cases rest with
      | nil => simp at hc
      | cons b t' => simp at h; subst h; simp
    · have := ih h; simp; omega

theorem dropComment_append (s t r : Str) (h : dropComment s = some t) :
    dropComment (s ++ r) = some (t ++ r) := by
  induction s with
  | nil => simp [dropComment] at h
  | cons a rest ih =>
    rw [dropComment_cons] at h
    rw [List.cons_append, dropComment_cons]
    have hne : rest ≠ [] := by
      intro he; subst he; simp [dropComment] at h
    have hhead : (rest ++ r).head? = rest.head? := head?_append_of_ne_nil rest r hne
    have htail : (rest ++ r).tail = rest.tail ++ r := by
      cases rest with
      | nil => exact absurd rfl hne
      | cons _ _ => rfl
    rw [hhead, htail]
    by_cases hc : (a == 42 && rest.head? == some 47) = true
    · rw [if_pos hc] at h ⊢; simp at h; simp [h]
    · rw [if_neg hc] at h ⊢; exact ih h

theorem dropComment_split (s t : Str) (h : dropComment s = some t) :
    ∃ p, s = p ++ t ∧ dropComment p = some [] := by
  induction s with
  | nil => simp [dropComment] at h
  | cons a rest ih =>
    rw [dropComment_cons] at h
    split at h
    · next hc =>
      cases rest with
      | nil => simp at hc
      | cons b t' =>
        simp at h hc; subst h
        refine ⟨[a, b], by simp, ?_⟩
        simp [dropComment, hc.1, hc.2]
    · next hc =>
      obtain ⟨p, hp, hd⟩ := ih h
      refine ⟨a :: p, by simp [hp], ?_⟩
      cases p with
      | nil => simp [dropComment] at hd
      | cons b p' =>
        rw [dropComment_cons]
        have : (a == 42 && (b :: p').head? == some 47) = false := by
          rw [hp] at hc; simpa using hc
        rw [this]; exact hd

theorem skipWSCF_nil (f : Nat) : skipWSCF f [] = [] := by cases f <;> rfl

theorem skipWSCF_succ_cons (f c : Nat) (cs : Str) :
    skipWSCF (f + 1) (c :: cs) =
      if isCssWs c then skipWSCF f cs
      else if c == 47 && cs.head? == some 42 then
        match dropComment cs.tail with
        | some t => skipWSCF f t
        | none => c :: cs
      else c :: cs := rfl

/-- The fuel of `skipWSC` is never exhausted. -/
theorem skipWSCF_fuel : ∀ f g (s : Str), s.length ≤ f → s.length ≤ g → skipWSCF f s = skipWSCF g s := by
  intro f
  induction f with
  | zero =>
    intro g s hf _
    have : s = [] := by cases s with | nil => rfl | cons _ _ => simp at hf
    subst this; rw [skipWSCF_nil, skipWSCF_nil]
  | succ f ih =>
    intro g s hf hg
    cases s with
    | nil => rw [skipWSCF_nil, skipWSCF_nil]
    | cons c cs =>
      cases g with
      | zero => simp at hg
      | succ g =>
        simp only [List.length_cons] at hf hg
        rw [skipWSCF_succ_cons, skipWSCF_succ_cons]
        split
        · exact ih g cs (by omega) (by omega)
        · split
          · cases hdc : dropComment cs.tail with
            | none => rfl
            | some t =>
              have h1 := dropComment_length _ _ hdc
              have h2 : cs.tail.length ≤ cs.length := by simp
              exact ih g t (by omega) (by omega)
          · rfl

theorem skipWSC_nil : skipWSC [] = [] := rfl

theorem skipWSC_cons (c : Nat) (cs : Str) :
    skipWSC (c :: cs) =
      if isCssWs c then skipWSC cs
      else if c == 47 && cs.head? == some 42 then
        match dropComment cs.tail with
        | some t => skipWSC t
        | none => c :: cs
      else c :: cs := by
  unfold skipWSC
  rw [List.length_cons, skipWSCF_succ_cons]
  split
  · rfl
  · split
    · cases hdc : dropComment cs.tail with
      | none => rfl
      | some t =>
        have h1 := dropComment_length _ _ hdc
        have h2 : cs.tail.length ≤ cs.length := by simp
        exact skipWSCF_fuel _ _ t (by omega) (by omega)
    · rfl

theorem skipWSC_ws (c : Nat) (cs : Str) (h : isCssWs c = true) : skipWSC (c :: cs) = skipWSC cs := by
  rw [skipWSC_cons, if_pos h]

theorem skipWSC_comment (cs t : Str) (h : dropComment cs = some t) :
    skipWSC (47 :: 42 :: cs) = skipWSC t := by
  rw [skipWSC_cons]; simp [isCssWs, h]

theorem skipWSC_open (cs : Str) (h : dropComment cs = none) :
    skipWSC (47 :: 42 :: cs) = 47 :: 42 :: cs := by
  rw [skipWSC_cons]; simp [isCssWs, h]

theorem skipWSC_other (c : Nat) (cs : Str) (hw : isCssWs c = false)
    (hc : (c == 47 && cs.head? == some 42) = false) : skipWSC (c :: cs) = c :: cs := by
  rw [skipWSC_cons, hw, hc]; simp

theorem skipWSC_drop_wsLen (t : Str) : skipWSC (t.drop (wsLen t)) = skipWSC t := by
  cases t with
  | nil => rfl
  | cons c cs =>
    simp only [wsLen]
    split
    · next hc =>
      simp only [Bool.and_eq_true, beq_iff_eq] at hc
      obtain ⟨rfl, h10⟩ := hc
      cases cs with
      | nil => cases h10
      | cons d ds =>
        cases h10
        rw [skipWSC_ws 13 _ rfl, skipWSC_ws 10 _ rfl]; rfl
    · split
      · next hw => rw [skipWSC_ws c cs hw]; rfl
      · rfl

/-- The four ways `skipWSC` can start. -/
inductive SkipStep (s : Str) : Prop
  | nil : s = [] → SkipStep s
  | ws (c : Nat) (cs : Str) : s = c :: cs → isCssWs c = true → skipWSC s = skipWSC cs → SkipStep s
  | comment (cs t : Str) : s = 47 :: 42 :: cs → dropComment cs = some t → skipWSC s = skipWSC t →
      SkipStep s
  | stop : s ≠ [] → skipWSC s = s → SkipStep s

theorem skipWSC_step (s : Str) : SkipStep s := by
  cases s with
  | nil => exact .nil rfl
  | cons c cs =>
    by_cases hw : isCssWs c = true
    · exact .ws c cs rfl hw (skipWSC_ws c cs hw)
    · have hw' : isCssWs c = false := by simpa using hw
      by_cases hc : (c == 47 && cs.head? == some 42) = true
      · simp only [Bool.and_eq_true, beq_iff_eq] at hc
        obtain ⟨h47, h42⟩ := hc
        subst h47
        cases cs with
        | nil => simp at h42
        | cons b cs' =>
          simp at h42; subst h42
          cases hdc : dropComment cs' with
          | none => exact .stop (by simp) (skipWSC_open cs' hdc)
          | some t => exact .comment cs' t rfl hdc (skipWSC_comment cs' t hdc)
      · have hc' : (c == 47 && cs.head? == some 42) = false := by simpa using hc
        exact .stop (by simp) (skipWSC_other c cs hw' hc')

theorem skipWSC_induction {P : Str → Prop} (hnil : P [])
    (hws : ∀ c cs, isCssWs c = true → skipWSC (c :: cs) = skipWSC cs → P cs → P (c :: cs))
    (hcomment : ∀ cs t, dropComment cs = some t → skipWSC (47 :: 42 :: cs) = skipWSC t → P t →
      P (47 :: 42 :: cs))
    (hstop : ∀ s, s ≠ [] → skipWSC s = s → P s) : ∀ s, P s := by
  have key : ∀ n (s : Str), s.length ≤ n → P s := by
    intro n
    induction n with
    | zero =>
      intro s hn
      have : s = [] := by cases s with | nil => rfl | cons _ _ => simp at hn
      subst this; exact hnil
    | succ n ih =>
      intro s hn
      cases skipWSC_step s with
      | nil h => subst h; exact hnil
      | ws c cs hs hw he => subst hs; exact hws c cs hw he (ih cs (by simp at hn; omega))
      | comment cs t hs hd he =>
        subst hs
        have hl := dropComment_length _ _ hd
        exact hcomment cs t hd he (ih t (by simp at hn; omega))
      | stop hne he => exact hstop s hne he
  exact fun s => key s.length s (Nat.le_refl _)

theorem skipWSC_idem : ∀ s : Str, skipWSC (skipWSC s) = skipWSC s := by
  refine skipWSC_induction rfl ?_ ?_ ?_
  · intro c cs _ he ih; rw [he]; exact ih
  · intro cs t _ he ih; rw [he]; exact ih
  · intro s _ he; rw [he, he]

theorem skipWSC_prefix : ∀ s : Str, ∃ g, skipWSC g = [] ∧ s = g ++ skipWSC s := by
  refine skipWSC_induction ⟨[], rfl, rfl⟩ ?_ ?_ ?_
  · intro c cs hw he ⟨g, hg, hsg⟩
    refine ⟨c :: g, by rw [skipWSC_ws c g hw]; exact hg, ?_⟩
    rw [he, List.cons_append, ← hsg]
  · intro cs t hd he ⟨g, hg, hsg⟩
    obtain ⟨p, hp, hpd⟩ := dropComment_split cs t hd
    refine ⟨47 :: 42 :: (p ++ g), ?_, ?_⟩
    · rw [skipWSC_comment (p ++ g) ([] ++ g) (dropComment_append p [] g hpd)]
      simpa using hg
    · rw [he, hp]
      simp only [List.cons_append, List.append_assoc]
      rw [← hsg]
  · intro s _ he
    exact ⟨[], rfl, by rw [he]; rfl⟩

theorem skipWSC_length_le (t : Str) : (skipWSC t).length ≤ t.length := by
  obtain ⟨g, _, hs⟩ := skipWSC_prefix t
  have := congrArg List.length hs
  rw [List.length_append] at this; omega

theorem skipWSC_of_noGapStart (r : Str) (h : noGapStart r = true) : skipWSC r = r := by
  cases r with
  | nil => rfl
  | cons c cs =>
    simp only [noGapStart, Bool.and_eq_true, Bool.not_eq_true'] at h
    exact skipWSC_other c cs h.1 h.2

/-! ### Lower-casing leaves comments and gaps alone (`/`, `*` and white space are below `A`) -/

theorem dropComment_lower : ∀ (t : Str), dropComment (lower t) = (dropComment t).map lower
  | [] => rfl
  | a :: rest => by
    have e : lower (a :: rest) = lowerCp a :: lower rest := rfl
    rw [e, dropComment_cons, dropComment_cons, lowerCp_eq_small a 42 (by omega),
      head?_lower_eq_small rest 47 (by omega)]
    split
    · cases rest <;> rfl
    · exact dropComment_lower rest

theorem skipWSC_lower : ∀ (n : Nat) (t : Str), t.length ≤ n → skipWSC (lower t) = lower (skipWSC t) := by
  intro n
  induction n with
  | zero =>
    intro t hn
    have : t = [] := by cases t with | nil => rfl | cons _ _ => simp at hn
    subst this; rfl
  | succ n ih =>
    intro t hn
    cases skipWSC_step t with
    | nil h => subst h; rfl
    | ws c cs hs hw he =>
      subst hs
      have e : lower (c :: cs) = lowerCp c :: lower cs := rfl
      rw [e, skipWSC_ws _ _ (by rw [isCssWs_lowerCp]; exact hw), he]
      exact ih cs (by simp at hn; omega)
    | comment cs u hs hd he =>
      subst hs
      have hl := dropComment_length _ _ hd
      have e : lower (47 :: 42 :: cs) = 47 :: 42 :: lower cs := rfl
      rw [e, skipWSC_comment (lower cs) (lower u) (by rw [dropComment_lower, hd]; rfl), he]
      exact ih u (by simp at hn; omega)
    | stop hne he =>
      rw [he]
      cases t with
      | nil => exact absurd rfl hne
      | cons c cs =>
        have e : lower (c :: cs) = lowerCp c :: lower cs := rfl
        rw [e]
        rw [skipWSC_cons] at he ⊢
        rw [isCssWs_lowerCp, lowerCp_eq_small c 47 (by omega), head?_lower_eq_small cs 42 (by omega)]
        by_cases hw : isCssWs c = true
        · exfalso
          rw [if_pos hw] at he
          have h1 := skipWSC_length_le cs
          have := congrArg List.length he
          simp only [List.length_cons] at this; omega
        · rw [if_neg hw] at he ⊢
          by_cases hc : (c == 47 && cs.head? == some 42) = true
          · rw [if_pos hc] at he ⊢
            have e2 : (lower cs).tail = lower cs.tail := by cases cs <;> rfl
            rw [e2, dropComment_lower]
            cases hd : dropComment cs.tail with
            | none => rfl
            | some u =>
              exfalso
              rw [hd] at he
              simp only at he
              have hl := dropComment_length _ _ hd
              have h1 := skipWSC_length_le u
              have := congrArg List.length he
              have h2 : cs.tail.length ≤ cs.length := by simp
              simp only [List.length_cons] at this; omega
          · rw [if_neg hc]

end SpellingLemmas
end SoupVerif
