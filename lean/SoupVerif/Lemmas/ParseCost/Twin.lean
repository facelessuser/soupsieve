/-
  C07 (parser level): the twin `compileRun` of `Spec/ParseCost.lean` computes the model's result — for
  EVERY weight, lexicon, fuel (`selRun` / `loopRun`: `run_fst` in `Lemmas/ParserProgress/Rules.lean`) — and the
  twins accumulate more under a pointwise larger weight.
-/
import SoupVerif.Lemmas.ParserProgress.Rules
set_option autoImplicit false
namespace SoupVerif
namespace ParseCost
open Rx SoupVerif.Parser ParserProgress

theorem compileRun_fst (w : Weight) (env : CharEnv) (L : Lexicon) (B : Builtins) (pattern : Str)
    (custom : List (Str × Str)) (flags : Nat) :
    (compileRun w env L B pattern custom flags).1 = compile env L B pattern custom flags := by
  unfold compileRun compile
  cases processCustom env L custom with
  | error e => rfl
  | ok c =>
    simp only [selRun_fst]
    show _ = (parseSelectors env L B _ _ _ 0 flags c >>= fun x => match x with | (l, _, _) => pure l)
    cases parseSelectors env L B _ _ _ 0 flags c with
    | error e => rfl
    | ok r => rfl

/-- A pointwise larger weight accumulates more (same control flow: the results agree). -/
theorem run_mono (env : CharEnv) (L : Lexicon) (B : Builtins) (w w' : Weight)
    (hw : ∀ pattern s, w pattern s ≤ w' pattern s) : ∀ fuel : Nat,
    (∀ pattern pos idx fl c,
      (selRun w env L B pattern fuel pos idx fl c).2 ≤ (selRun w' env L B pattern fuel pos idx fl c).2) ∧
    (∀ pattern flags s,
      (loopRun w env L B pattern fuel flags s).2 ≤ (loopRun w' env L B pattern fuel flags s).2)
  | 0 => by
    refine ⟨fun pattern pos idx fl c => ?_, fun pattern flags s => ?_⟩
    · rw [selRun_zero, selRun_zero]; exact Nat.le_refl _
    · rw [loopRun_zero, loopRun_zero]; exact Nat.le_refl _
  | fuel + 1 => by
    obtain ⟨ihS, ihL⟩ := run_mono env L B w w' hw fuel
    refine ⟨fun pattern pos idx fl c => ?_, fun pattern flags s => ?_⟩
    · rw [selRun_succ, selRun_succ, loopRun_fst, loopRun_fst]
      cases parseLoop env L B pattern fuel fl (initLS pos idx fl c) <;> exact ihL _ _ _
    · rw [loopRun_succ, loopRun_succ]
      have h0 := hw pattern s
      cases stepOf env L B pattern flags s with
      | done r => exact h0
      | cont s' => exact Nat.add_le_add h0 (ihL _ _ _)
      | nest pat pos idx fl c k =>
        simp only []
        rw [selRun_fst, selRun_fst]
        cases parseSelectors env L B pat fuel pos idx fl c with
        | error e => exact Nat.add_le_add h0 (ihS _ _ _ _ _)
        | ok x => exact Nat.add_le_add (Nat.add_le_add h0 (ihS _ _ _ _ _)) (ihL _ _ _)

end ParseCost
end SoupVerif
