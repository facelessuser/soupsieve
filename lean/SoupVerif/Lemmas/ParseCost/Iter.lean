/-
  C07 (parser level): the weight of one iteration is polynomial.

  Hypothesis `RxBound env L C K`: every regular expression of the lexicon costs at most
  `C·(|s|+1)^K` on any subject `s` from any start (`C07.tokenize_poly` for the generated lexicon).
  With `W = Wb C K n = C·(n+1)^K + 1` (one engine call on a subject of length ≤ `n`) and
  `X = n + 1`, every part of an iteration costs a small multiple of `X·W` (a `sub` or `search` makes
  one call per position), the tokenizer `|tokens|·(X+2)·W`; together
  `iterCost ≤ (3·|tokens| + 11)·X·W`.
-/
import SoupVerif.Lemmas.ParseCost.Steps
import SoupVerif.Lemmas.ParseCost.Caps
import Mathlib.Tactic.Ring
set_option autoImplicit false
namespace SoupVerif
namespace ParseCost
open Rx SoupVerif.Parser ParserProgress

/-- The hypothesis on the expressions of the lexicon (`lexRegexes L`) under which this file bounds an iteration. -/
def RxBound (env : CharEnv) (L : Lexicon) (C K : Nat) : Prop :=
  ∀ r ∈ lexRegexes L, ∀ (s : Str) (i : Nat), work env s r i ≤ C * (s.length + 1) ^ K

/-- Bound of one engine call on a subject of length ≤ `n`. -/
def Wb (C K n : Nat) : Nat := C * (n + 1) ^ K + 1

theorem Wb_mono (C K : Nat) {n m : Nat} (h : n ≤ m) : Wb C K n ≤ Wb C K m := by
  unfold Wb
  exact Nat.succ_le_succ (Nat.mul_le_mul_left _ (Nat.pow_le_pow_left (Nat.succ_le_succ h) _))

theorem Wb_pos (C K n : Nat) : 1 ≤ Wb C K n := Nat.le_add_left _ _

theorem ite_le {c : Prop} [Decidable c] {a b H : Nat} (ha : a ≤ H) (hb : b ≤ H) :
    (if c then a else b) ≤ H := by
  split <;> assumption

/-- The escape expressions are not nullable (so `css_unescape` cannot lengthen a string). -/
structure EscOK (L : Lexicon) : Prop where
  esc : nullable L.reCssEsc = false
  strEsc : nullable L.reCssStrEsc = false

section
variable {env : CharEnv} {L : Lexicon} {C K : Nat}

theorem matchCost_le (hW : RxBound env L C K) {r : Rx} (hr : r ∈ lexRegexes L) {s : Str} {n : Nat}
    (hs : s.length ≤ n) (i : Nat) : matchCost env r s i ≤ Wb C K n := by
  unfold matchCost
  have h1 := hW r hr s i
  have h2 := Wb_mono C K hs
  unfold Wb at h2 ⊢
  omega

theorem mem_lex_token {t : TokenRx} (h : (t, false) ∈ L.tokens) : t.rx ∈ lexRegexes L := by
  unfold lexRegexes
  refine List.mem_append_left _ (List.mem_append_left _ (List.mem_append_left _ ?_))
  exact List.mem_map.mpr ⟨(t, false), List.mem_filter.mpr ⟨h, rfl⟩, rfl⟩

theorem mem_lex_specialName : L.specialName.rx ∈ lexRegexes L := by
  unfold lexRegexes
  exact List.mem_append_left _ (List.mem_append_left _ (List.mem_append_right _ (List.mem_singleton.mpr rfl)))

theorem mem_lex_special {e : Str × TokenRx} (h : e ∈ L.special) : e.2.rx ∈ lexRegexes L := by
  unfold lexRegexes
  exact List.mem_append_left _ (List.mem_append_right _ (List.mem_map.mpr ⟨e, h, rfl⟩))

theorem mem_lex_fixed (r : Rx)
    (h : r = L.reCssEsc ∨ r = L.reCssStrEsc ∨ r = L.reNth.rx ∨ r = L.reValues.rx ∨ r = L.reWs ∨
      r = L.reWsBegin ∨ r = L.reWsEnd ∨ r = L.reCustom) : r ∈ lexRegexes L := by
  unfold lexRegexes
  refine List.mem_append_right _ ?_
  simp only [List.mem_cons, List.not_mem_nil, or_false]
  exact h

theorem mem_lex_esc (string : Bool) : (if string then L.reCssStrEsc else L.reCssEsc) ∈ lexRegexes L := by
  cases string
  · exact mem_lex_fixed _ (by simp)
  · exact mem_lex_fixed _ (by simp)

theorem subCost_go_le (hW : RxBound env L C K) {r : Rx} (hr : r ∈ lexRegexes L) (s : Str) :
    ∀ fuel i, subCost.go env r s fuel i ≤ fuel * Wb C K s.length := by
  intro fuel
  induction fuel with
  | zero => intro i; simp [subCost.go]
  | succ n ih =>
    intro i
    have hm := matchCost_le hW hr (Nat.le_refl s.length) i
    rw [Nat.succ_mul]
    unfold subCost.go
    split
    · exact Nat.zero_le _
    · have h0 : (0 : Nat) ≤ n * Wb C K s.length := Nat.zero_le _
      split
      · split
        · have := ih ‹_›; omega
        · split
          · have := ih (i + 1); omega
          · omega
      · split
        · have := ih (i + 1); omega
        · omega

theorem subCost_le (hW : RxBound env L C K) {r : Rx} (hr : r ∈ lexRegexes L) {s : Str} {n : Nat}
    (hs : s.length ≤ n) : subCost env r s ≤ (n + 1) * Wb C K n := by
  unfold subCost
  exact Nat.le_trans (subCost_go_le hW hr s _ _)
    (Nat.mul_le_mul (Nat.succ_le_succ hs) (Wb_mono C K hs))

theorem unescCost_le (hW : RxBound env L C K) {s : Str} {n : Nat} (hs : s.length ≤ n) (string : Bool) :
    unescCost env L s string ≤ (n + 1) * Wb C K n :=
  subCost_le hW (mem_lex_esc string) hs

theorem valueUnescCost_le (hW : RxBound env L C K) {v : Str} {n : Nat} (hv : v.length ≤ n) :
    valueUnescCost env L v ≤ (n + 1) * Wb C K n := by
  unfold valueUnescCost
  have hsl : (slice v 1 (v.length - 1)).length ≤ n := Nat.le_trans (slice_length_le v 1 _).2 hv
  split
  · split
    · exact unescCost_le hW hsl true
    · exact unescCost_le hW hv false
  · exact unescCost_le hW hv false

theorem group_span {s : Str} {t : TokenRx} {caps : Caps} {name : String} {g : Str}
    (h : Parser.group s t caps name = some g) :
    ∃ idx a b, capSpan caps idx = some (a, b) ∧ g = slice s a b := by
  unfold Parser.group at h
  split at h
  · rename_i nm idx hfind
    cases hc : capSpan caps idx with
    | none => rw [hc] at h; cases h
    | some ab =>
      rw [hc] at h
      simp only [Option.map_some, Option.some.injEq] at h
      exact ⟨idx, ab.1, ab.2, hc, h.symm⟩
  · cases h

theorem valueCostOf_le_span (P : PEnv) (hW : RxBound P.env P.L C K) {values : Str}
    {a j : Nat} {caps : Caps} (hm : matchAt P.env P.L.reValues.rx values a = some (j, caps))
    (hj : j ≤ values.length) : valueCostOf P values caps ≤ (j - a + 1) * Wb C K values.length := by
  unfold valueCostOf
  simp only []
  split <;> refine ite_le (Nat.zero_le _) ?_ <;> split
  all_goals first
    | exact Nat.zero_le _
    | (rename_i v hg
       obtain ⟨idx, a', b', hcap, rfl⟩ := group_span hg
       have hsp := matchAt_capSpan hm hcap
       have hl := (slice_length_le values a' b').1
       have h1 : (slice values a' b').length ≤ j - a := by omega
       exact Nat.le_trans (valueUnescCost_le hW (Nat.le_refl _))
         (Nat.mul_le_mul (by omega) (Wb_mono C K (by omega))))

theorem searchFrom_spec (hW : RxBound env L C K) {r : Rx} (hr : r ∈ lexRegexes L) (s : Str) :
    ∀ fuel i, i ≤ s.length →
      (∀ a j c, searchFrom env r s fuel i = some (a, j, c) →
        i ≤ a ∧ a ≤ s.length ∧ a - i < fuel ∧ matchAt env r s a = some (j, c) ∧
          searchFromCost env r s fuel i ≤ (a - i + 1) * Wb C K s.length) ∧
      (searchFrom env r s fuel i = none → searchFromCost env r s fuel i ≤ fuel * Wb C K s.length) := by
  intro fuel
  induction fuel with
  | zero =>
    intro i _
    refine ⟨fun a j c h => ?_, fun _ => ?_⟩
    · simp [searchFrom] at h
    · simp [searchFromCost]
  | succ n ih =>
    intro i hi
    have hm := matchCost_le hW hr (Nat.le_refl s.length) i
    unfold searchFrom searchFromCost
    cases hma : matchAt env r s i with
    | some jc =>
      obtain ⟨j, c⟩ := jc
      simp only []
      refine ⟨fun a j' c' h => ?_, fun h => (by cases h)⟩
      simp only [Option.some.injEq, Prod.mk.injEq] at h
      obtain ⟨rfl, rfl, rfl⟩ := h
      refine ⟨Nat.le_refl _, hi, by omega, hma, ?_⟩
      simp only [Nat.sub_self, Nat.zero_add, Nat.one_mul, Nat.add_zero]
      exact hm
    | none =>
      simp only []
      by_cases hlt : i < s.length
      · simp only [hlt, if_true]
        obtain ⟨ih1, ih2⟩ := ih (i + 1) hlt
        refine ⟨fun a j c h => ?_, fun h => ?_⟩
        · obtain ⟨g1, g2, g0, g3, g4⟩ := ih1 a j c h
          refine ⟨by omega, g2, by omega, g3, ?_⟩
          have : a - i + 1 = (a - (i + 1) + 1) + 1 := by omega
          rw [this, Nat.add_mul, Nat.one_mul]
          omega
        · have := ih2 h
          rw [Nat.succ_mul]; omega
      · simp only [hlt, if_false]
        refine ⟨fun a j c h => (by cases h), fun _ => ?_⟩
        rw [Nat.succ_mul]; omega

theorem searchCost_le (hW : RxBound env L C K) {r : Rx} (hr : r ∈ lexRegexes L) {s : Str} {n : Nat}
    (hs : s.length ≤ n) {i : Nat} (hi : i ≤ s.length) : searchCost env r s i ≤ (n + 2) * Wb C K n := by
  unfold searchCost
  obtain ⟨h1, h2⟩ := searchFrom_spec hW hr s (s.length + 2 - i) i hi
  refine Nat.le_trans ?_ (Nat.mul_le_mul (by omega : s.length + 2 - i ≤ n + 2) (Wb_mono C K hs))
  cases h : searchFrom env r s (s.length + 2 - i) i with
  | none => exact h2 h
  | some ajc =>
    obtain ⟨_, _, h3, _, h4⟩ := h1 ajc.1 ajc.2.1 ajc.2.2 h
    exact Nat.le_trans h4 (Nat.mul_le_mul_right _ (by omega))

/-- Potential argument for `parseValues`: the searches of successive iterations overlap in at
    most one position, the values are disjoint pieces of the text. -/
theorem parseValuesCost_go_le (P : PEnv) (hW : RxBound P.env P.L C K) (values : Str) :
    ∀ fuel i, parseValuesCost.go P values fuel i ≤
      4 * (values.length + 2 - i) * Wb C K values.length := by
  intro fuel
  induction fuel with
  | zero => intro i; simp [parseValuesCost.go]
  | succ n ih =>
    intro i
    unfold parseValuesCost.go
    split
    · exact Nat.zero_le _
    · rename_i hi
      have hi' : i ≤ values.length := by omega
      have hr : P.L.reValues.rx ∈ lexRegexes P.L := mem_lex_fixed _ (by simp)
      obtain ⟨hs1, hs2⟩ := searchFrom_spec hW hr values (values.length + 2 - i) i hi'
      have hsearch : Rx.search P.env P.L.reValues.rx values i =
          searchFrom P.env P.L.reValues.rx values (values.length + 2 - i) i := rfl
      have hcost : searchCost P.env P.L.reValues.rx values i =
          searchFromCost P.env P.L.reValues.rx values (values.length + 2 - i) i := rfl
      rw [hsearch, hcost]
      cases hsr : searchFrom P.env P.L.reValues.rx values (values.length + 2 - i) i with
      | none =>
        simp only []
        have := hs2 hsr
        refine Nat.le_trans (by omega : _ ≤ (values.length + 2 - i) * Wb C K values.length)
          (Nat.mul_le_mul_right _ (by omega))
      | some ajc =>
        obtain ⟨a, j, caps⟩ := ajc
        simp only []
        obtain ⟨g1, g2, _, g3, g4⟩ := hs1 a j caps hsr
        have hj : j ≤ values.length := matchAt_le_length g3 g2
        have haj : a ≤ j := (matchAt_le g3).1
        have hv := valueCostOf_le_span P hW g3 hj
        have hih := ih (if j > i then j else i + 1)
        have hcoef : (a - i + 1) + (j - a + 1) + 4 * (values.length + 2 - (if j > i then j else i + 1)) ≤
            4 * (values.length + 2 - i) := by
          split <;> omega
        refine Nat.le_trans ?_ (Nat.mul_le_mul_right _ hcoef)
        rw [Nat.add_mul, Nat.add_mul]
        omega

theorem parseValuesCost_le (P : PEnv) (hW : RxBound P.env P.L C K) {values : Str}
    {n : Nat} (hv : values.length ≤ n) :
    parseValuesCost P values ≤ 8 * ((n + 1) * Wb C K n) := by
  unfold parseValuesCost
  refine Nat.le_trans (parseValuesCost_go_le P hW values _ _) ?_
  have h1 := Wb_mono C K hv
  calc 4 * (values.length + 2 - 0) * Wb C K values.length
      ≤ (8 * (n + 1)) * Wb C K n := Nat.mul_le_mul (by omega) h1
    _ = 8 * ((n + 1) * Wb C K n) := by ring

theorem parseAnBCost_le (P : PEnv) (hW : RxBound P.env P.L C K) {content : Str}
    {n : Nat} (hc : content.length ≤ n) : parseAnBCost P content ≤ Wb C K n := by
  unfold parseAnBCost
  split
  · exact Nat.zero_le _
  · split
    · exact Nat.zero_le _
    · exact matchCost_le hW (mem_lex_fixed _ (by simp)) hc 0

theorem token_group_getD_le (P : PEnv) (t : Token) (name : String) :
    ((t.group P name).getD []).length ≤ P.pattern.length :=
  group_getD_length_le _ _ _ _

theorem nsCost_le (P : PEnv) (hW : RxBound P.env P.L C K) (t : Token) (name : String)
    {n : Nat} (hn : P.pattern.length ≤ n) : nsCost P (t.group P name) ≤ (n + 1) * Wb C K n := by
  unfold nsCost
  split
  · rename_i g hg
    split
    · exact Nat.zero_le _
    · have : g.length ≤ P.pattern.length := group_length_le _ _ _ _ hg
      exact unescCost_le hW (by rw [List.length_take]; omega) false
  · exact Nat.zero_le _

theorem attrValue_length_le (P : PEnv) (hE : EscOK P.L) (t : Token) :
    (attrValue P t).length ≤ P.pattern.length := by
  unfold attrValue
  simp only []
  have hraw := token_group_getD_le P t "value"
  have hu := fun (x : Str) (b : Bool) => cssUnescape_length_le (env := P.env) hE.esc hE.strEsc x b
  split
  · exact Nat.zero_le _
  · split
    · split
      · refine Nat.le_trans (hu _ _) (Nat.le_trans (slice_length_le _ _ _).2 hraw)
      · exact Nat.le_trans (hu _ _) hraw
    · exact Nat.le_trans (hu _ _) hraw

theorem parseAttributeCost_le (P : PEnv) (hW : RxBound P.env P.L C K) (hE : EscOK P.L)
    (t : Token) {n : Nat} (hn : P.pattern.length ≤ n) :
    parseAttributeCost P t ≤ 3 * ((n + 1) * Wb C K n) + (n + 2) * Wb C K n := by
  have h1 := nsCost_le P hW t "attr_ns" hn
  have hv := attrValue_length_le P hE t
  unfold parseAttributeCost
  simp only []
  have h2 := unescCost_le hW (Nat.le_trans (token_group_getD_le P t "attr_name") hn) false
  have h3 : (if ((t.group P "cmp").getD []).isEmpty = true then 0
      else valueUnescCost P.env P.L ((t.group P "value").getD [])) ≤ (n + 1) * Wb C K n := by
    split
    · exact Nat.zero_le _
    · exact valueUnescCost_le hW (Nat.le_trans (token_group_getD_le P t "value") hn)
  have h4 := searchCost_le hW (mem_lex_fixed P.L.reWs (by simp))
    (Nat.le_trans hv hn) (Nat.zero_le _)
  omega

theorem startCost_le (hW : RxBound env L C K) (B : Builtins) {pattern : Str} {n : Nat}
    (hn : pattern.length ≤ n) : startCost ⟨env, L, B, pattern⟩ ≤ Wb C K n :=
  matchCost_le hW (mem_lex_fixed _ (by simp)) hn 0

theorem defStartCost_le (P : PEnv) (hW : RxBound P.env P.L C K) (v : Option CustomVal)
    {n : Nat} (hn : ∀ text, v = some (.src text) → text.length ≤ n) : defStartCost P v ≤ Wb C K n := by
  unfold defStartCost
  split
  · rename_i text
    refine startCost_le hW P.B ?_
    rw [List.length_map]; exact hn text rfl
  · exact Nat.zero_le _

theorem matchTokenCost_le (P : PEnv) (hW : RxBound P.env P.L C K) (i : Nat) {n : Nat}
    (hn : P.pattern.length ≤ n) :
    ∀ toks : List (TokenRx × Bool), (∀ t ∈ toks, t ∈ P.L.tokens) →
      matchTokenCost P i toks ≤ toks.length * ((n + 3) * Wb C K n)
  | [], _ => by simp [matchTokenCost]
  | (t, isSpecial) :: rest, hsub => by
    have ih := matchTokenCost_le P hW i hn rest (fun x hx => hsub x (List.mem_cons_of_mem _ hx))
    have hW1 := Wb_pos C K n
    have hexp : (n + 3) * Wb C K n = (n + 1) * Wb C K n + Wb C K n + Wb C K n := by ring
    rw [List.length_cons, Nat.succ_mul, hexp]
    rw [hexp] at ih
    rw [matchTokenCost]
    cases isSpecial with
    | true =>
      rw [if_pos rfl]
      have h1 := matchCost_le hW (mem_lex_specialName (L := P.L)) hn i
      split
      · rename_i j caps hm
        simp only []
        have h2 := unescCost_le hW (Nat.le_trans (group_getD_length_le P.pattern P.L.specialName caps "name") hn) false
        split
        · rename_i e sub hfind
          have h3 := matchCost_le hW (mem_lex_special (List.mem_of_find?_eq_some hfind)) hn i
          simp only [] at h3
          -- `show` re-elaborates the sums: the unfolded body carries annotations that `omega`
          -- does not look through
          split <;> (show _ + (_ + (_ + _)) ≤ _; omega)
        · show _ + (_ + _) ≤ _; omega
      · omega
    | false =>
      simp only [Bool.false_eq_true, if_false]
      have h1 := matchCost_le hW (mem_lex_token (hsub (t, false) (List.mem_cons_self ..))) hn i
      split <;> omega

theorem nextTokenCost_le (P : PEnv) (hW : RxBound P.env P.L C K) (i : Nat) {n : Nat}
    (hn : P.pattern.length ≤ n) :
    nextTokenCost P i ≤ Wb C K n + P.L.tokens.length * ((n + 3) * Wb C K n) := by
  have h2 := matchTokenCost_le P hW i hn P.L.tokens (fun _ h => h)
  unfold nextTokenCost
  have h1 := matchCost_le hW (mem_lex_fixed P.L.reWsEnd (by simp)) hn i
  split
  · exact Nat.zero_le _
  · split <;> omega

theorem src_length_le_U {c : Custom} {k text : Str} (h : c.get? k = some (.src text)) : text.length ≤ U c := by
  have := U_get_src h; omega

theorem handlerCost_le (P : PEnv) (hW : RxBound P.env P.L C K) (hE : EscOK P.L)
    (t : Token) (s : LS) {n : Nat} (hn : P.pattern.length ≤ n) (hu : U s.custom ≤ n) :
    handlerCost P t s ≤ 9 * ((n + 1) * Wb C K n) := by
  have hW1 := Wb_pos C K n
  have hA : Wb C K n ≤ (n + 1) * Wb C K n := Nat.le_mul_of_pos_left _ (Nat.succ_pos _)
  have hB : (n + 1) * Wb C K n ≤ (n + 1) * (n + 1) * Wb C K n := by
    rw [Nat.mul_assoc]; exact Nat.le_mul_of_pos_left _ (Nat.succ_pos _)
  have hname := unescCost_le hW (Nat.le_trans (token_group_getD_le P t "name") hn) false
  have hvals := parseValuesCost_le P hW (Nat.le_trans (token_group_getD_le P t "values") hn)
  have hanb := parseAnBCost_le P hW (content := nthContent P t) (n := n) (by
    unfold nthContent; simp only []; rw [lower_length]
    exact Nat.le_trans (token_group_getD_le P t _) hn)
  have hattr := parseAttributeCost_le P hW hE t hn
  have hattr' : (n + 2) * Wb C K n = (n + 1) * Wb C K n + Wb C K n := by ring
  rw [hattr'] at hattr
  have hns := nsCost_le P hW t "tag_ns" hn
  have htag := unescCost_le hW (Nat.le_trans (token_group_getD_le P t "tag_name") hn) false
  have hcls := unescCost_le hW (s := (slice P.pattern t.start t.stop).drop 1) (n := n) (by
    rw [List.length_drop]
    have := (slice_length_le P.pattern t.start t.stop).2
    omega) false
  have hdef := fun k => defStartCost_le P hW (s.custom.get? k) (n := n)
    (fun text h => Nat.le_trans (src_length_le_U h) hu)
  unfold handlerCost
  simp only []
  have hdef' := hdef (lower (cssUnescape P.env P.L ((t.group P "name").getD [])))
  repeat' (first | refine ite_le ?_ ?_ | omega)

theorem iterCost_le (P : PEnv) (hW : RxBound P.env P.L C K) (hE : EscOK P.L)
    (s : LS) {n : Nat} (hn : P.pattern.length ≤ n) (hu : U s.custom ≤ n) :
    iterCost P s ≤ (3 * P.L.tokens.length + 11) * ((n + 1) * Wb C K n) := by
  have hW1 := Wb_pos C K n
  have hA : Wb C K n ≤ (n + 1) * Wb C K n := Nat.le_mul_of_pos_left _ (Nat.succ_pos _)
  have h1 := nextTokenCost_le P hW s.pos hn
  have h2 : outcomeCost P s (nextToken P s.pos) ≤ 9 * ((n + 1) * Wb C K n) := by
    unfold outcomeCost
    split
    · exact handlerCost_le P hW hE _ s hn hu
    · exact Nat.zero_le _
  have h3 : (n + 3) * Wb C K n ≤ 3 * ((n + 1) * Wb C K n) := by
    have : (n + 3) * Wb C K n = (n + 1) * Wb C K n + 2 * Wb C K n := by ring
    omega
  have h4 : P.L.tokens.length * ((n + 3) * Wb C K n) ≤
      3 * P.L.tokens.length * ((n + 1) * Wb C K n) := by
    calc P.L.tokens.length * ((n + 3) * Wb C K n)
        ≤ P.L.tokens.length * (3 * ((n + 1) * Wb C K n)) := Nat.mul_le_mul_left _ h3
      _ = 3 * P.L.tokens.length * ((n + 1) * Wb C K n) := by ring
  have h5 : (3 * P.L.tokens.length + 11) * ((n + 1) * Wb C K n) =
      3 * P.L.tokens.length * ((n + 1) * Wb C K n) + 11 * ((n + 1) * Wb C K n) := by ring
  unfold iterCost
  rw [h5]
  omega

end

end ParseCost
end SoupVerif
