/-
  C07 (parser level): capture spans lie inside the match, hence `css_unescape` does not
  lengthen its argument.

  One induction over the expression (`runs_adds`): a result `(j, caps')` of `runs … i caps` holds the captures
  it was given and spans recorded on the way, which lie in `[i, j]` and are non-empty where the body of every group
  consumes (`CapsReal.groupsConsume`).  Hence spans in `[lo, i]` before, spans in `[lo, j]` after (`runs_caps`),
  and non-empty spans stay non-empty (`CapsReal.runs_pos`, in `Lemmas/CapsReal.lean`).  So every replacement `css_unescape` makes (built
  from captured hex digits) is at most as long as the match it replaces, provided the escape
  expressions are not nullable.
-/
import SoupVerif.Lemmas.ParserProgress
import SoupVerif.Lemmas.Lower
set_option autoImplicit false
namespace SoupVerif
namespace ParseCost
open Rx SoupVerif.Parser ParserProgress

/-- All capture spans lie in `[lo, hi]` (and are well-formed). -/
def CapsIn (lo hi : Nat) (c : Caps) : Prop := ∀ e ∈ c, lo ≤ e.2.1 ∧ e.2.1 ≤ e.2.2 ∧ e.2.2 ≤ hi

theorem CapsIn.mono {lo hi hi' : Nat} {c : Caps} (h : CapsIn lo hi c) (hh : hi ≤ hi') : CapsIn lo hi' c :=
  fun e he => ⟨(h e he).1, (h e he).2.1, Nat.le_trans (h e he).2.2 hh⟩

/-- What a matcher started at `i` with captures in `[lo, i]` returns. -/
def RunsOK (lo i : Nat) (l : List (Nat × Caps)) : Prop := ∀ x ∈ l, i ≤ x.1 ∧ CapsIn lo x.1 x.2

theorem RunsOK.single {lo i : Nat} {caps : Caps} (h : CapsIn lo i caps) : RunsOK lo i [(i, caps)] := by
  intro x hx
  simp only [List.mem_singleton] at hx
  subst hx
  exact ⟨Nat.le_refl _, h⟩

theorem forall_mem_ite {α : Type} {P : α → Prop} {c : Prop} [Decidable c] {a b : List α}
    (ha : ∀ x ∈ a, P x) (hb : ∀ x ∈ b, P x) : ∀ x ∈ (if c then a else b), P x := by
  split <;> assumption

theorem iter_forall (Q : Nat → Caps → Prop) (body : Nat → Caps → List (Nat × Caps))
    (hbody : ∀ p c, Q p c → ∀ x ∈ body p c, Q x.1 x.2) (mn : Nat) (mx : Option Nat) (g : Bool) :
    ∀ fuel count pos caps, Q pos caps → ∀ x ∈ iter body mn mx g fuel count pos caps, Q x.1 x.2 := by
  intro fuel
  induction fuel with
  | zero => intro count pos caps _ x hx; simp [iter] at hx
  | succ f ih =>
    intro count pos caps hq y hy
    simp only [iter] at hy
    have hstop : y ∈ (if count ≥ mn then [(pos, caps)] else []) → Q y.1 y.2 := by
      intro h; split at h
      · rw [List.mem_singleton.mp h]; exact hq
      · simp at h
    have hmore : ∀ b : Bool, y ∈ (if b = true then
          (body pos caps).flatMap fun (x : Nat × Caps) =>
            if x.1 > pos || count + 1 < mn then iter body mn mx g f (count + 1) x.1 x.2
            else if count + 1 ≥ mn then [(x.1, x.2)] else []
        else []) → Q y.1 y.2 := by
      intro b h
      split at h
      · obtain ⟨x, hx, hyx⟩ := List.mem_flatMap.mp h
        have hx2 := hbody pos caps hq x hx
        split at hyx
        · exact ih _ _ _ hx2 y hyx
        · split at hyx
          · rw [List.mem_singleton.mp hyx]; exact hx2
          · simp at hyx
      · simp at h
    cases g <;> rcases List.mem_append.mp hy with h | h
    · exact hstop h
    · exact hmore _ h
    · exact hmore _ h
    · exact hstop h

end ParseCost

namespace CapsReal
open Rx
mutual
/-- Every capture group of the expression has a body that consumes at least one character. -/
def groupsConsume : Rx → Bool
  | .group _ r => !nullable r && groupsConsume r
  | .seq rs => groupsConsumeL rs
  | .alt rs => groupsConsumeL rs
  | .rep _ _ _ r => groupsConsume r
  | .lit _ _ | .notLit _ _ | .any _ | .set _ _ _ | .bos | .eol | .eos | .look _ _ _ => true
def groupsConsumeL : List Rx → Bool
  | [] => true
  | r :: rs => groupsConsume r && groupsConsumeL rs
end
end CapsReal

namespace ParseCost
open Rx SoupVerif.Parser ParserProgress CapsReal

/-- What a run from `i` with captures `old` returns: an end `x.1` not before `i`, and captures that are old or
    were recorded on the way, hence lie in `[i, x.1]`; non-empty ones if `strict`. -/
def Adds (strict : Bool) (i : Nat) (old : Caps) (x : Nat × Caps) : Prop :=
  i ≤ x.1 ∧ ∀ e ∈ x.2, e ∈ old ∨ (i ≤ e.2.1 ∧ e.2.1 ≤ e.2.2 ∧ e.2.2 ≤ x.1 ∧ (strict = true → e.2.1 < e.2.2))

theorem Adds.refl (strict : Bool) (i : Nat) (old : Caps) : Adds strict i old (i, old) :=
  ⟨Nat.le_refl _, fun _ he => .inl he⟩

theorem Adds.trans {strict : Bool} {i : Nat} {old : Caps} {x y : Nat × Caps} (h1 : Adds strict i old x)
    (h2 : Adds strict x.1 x.2 y) : Adds strict i old y :=
  ⟨Nat.le_trans h1.1 h2.1, fun e he => (h2.2 e he).elim
    (fun h => (h1.2 e h).imp_right fun ⟨a, b, c, d⟩ => ⟨a, b, Nat.le_trans c h2.1, d⟩)
    (fun ⟨a, b, c, d⟩ => .inr ⟨Nat.le_trans h1.1 a, b, c, d⟩)⟩

theorem Adds.single {strict : Bool} {i j : Nat} {old : Caps} (h : i ≤ j) : ∀ x ∈ [(j, old)], Adds strict i old x := by
  intro x hx
  rw [List.mem_singleton.mp hx]
  exact ⟨h, fun _ he => .inl he⟩

mutual
/-- The one induction over the expression about captures: a run only adds spans that lie between its start and
    its end (`runs_caps`), and non-empty ones where every group consumes (`CapsReal.runs_pos`). -/
theorem runs_adds (env : CharEnv) (s : Str) (strict : Bool) :
    ∀ (r : Rx) (i : Nat) (caps : Caps), (strict = true → groupsConsume r = true) →
      ∀ x ∈ runs env s r i caps, Adds strict i caps x
  | .lit .., i, caps, _ | .any _, i, caps, _ | .set .., i, caps, _ => by
    simp only [runs]; cases s[i]? <;> simp only []
    · exact nofun
    · exact forall_mem_ite (Adds.single (Nat.le_succ _)) nofun
  | .notLit c ic, i, caps, _ => by
    simp only [runs]; cases s[i]? <;> simp only []
    · exact nofun
    · exact forall_mem_ite nofun (Adds.single (Nat.le_succ _))
  | .seq rs, i, caps, hg => by
    simp only [runs]; exact runsSeq_adds env s strict rs i caps (by simpa only [groupsConsume] using hg)
  | .alt rs, i, caps, hg => by
    simp only [runs]; exact runsAlt_adds env s strict rs i caps (by simpa only [groupsConsume] using hg)
  | .group idx r, i, caps, hg => by
    simp only [runs]
    intro y hy
    obtain ⟨x, hx, rfl⟩ := List.mem_map.mp hy
    have hgr : strict = true → nullable r = false ∧ groupsConsume r = true := fun h => by
      simpa only [groupsConsume, Bool.and_eq_true, Bool.not_eq_true'] using hg h
    obtain ⟨hx1, hx2⟩ := runs_adds env s strict r i caps (fun h => (hgr h).2) x hx
    refine ⟨hx1, fun e he => ?_⟩
    rcases List.mem_cons.mp he with rfl | he
    · -- the span of the group itself: from the start to the end of its body
      refine .inr ⟨Nat.le_refl _, hx1, Nat.le_refl _, fun h => ?_⟩
      exact nullable_sound env s r (hgr h).1 i x.1
        (by rw [← runs_map_fst env s r i caps]; exact List.mem_map.mpr ⟨x, hx, rfl⟩)
    · exact hx2 e (List.mem_filter.mp he).1
  | .rep mn mx g r, i, caps, hg => by
    simp only [runs]
    intro x hx
    exact iter_forall (fun p c => Adds strict i caps (p, c)) _
      (fun p c hq y hy => hq.trans (runs_adds env s strict r p c (by simpa only [groupsConsume] using hg) y hy))
      mn mx g _ _ _ _ (Adds.refl ..) x hx
  | .bos, i, caps, _ | .eol, i, caps, _ | .eos, i, caps, _ | .look true .., i, caps, _ => by
    simp only [runs]; exact forall_mem_ite (Adds.single (Nat.le_refl _)) nofun
  | .look false neg r, i, caps, _ => by
    simp only [runs]
    cases width r with
    | none => exact nofun
    | some w => exact forall_mem_ite (Adds.single (Nat.le_refl _)) nofun
theorem runsSeq_adds (env : CharEnv) (s : Str) (strict : Bool) :
    ∀ (rs : List Rx) (i : Nat) (caps : Caps), (strict = true → groupsConsumeL rs = true) →
      ∀ x ∈ runsSeq env s rs i caps, Adds strict i caps x
  | [], i, caps, _ => by simp only [runsSeq]; exact Adds.single (Nat.le_refl _)
  | r :: rs, i, caps, hg => by
    have hg' : strict = true → groupsConsume r = true ∧ groupsConsumeL rs = true := fun h => by
      simpa only [groupsConsumeL, Bool.and_eq_true] using hg h
    simp only [runsSeq]
    intro y hy
    obtain ⟨x, hx, hyx⟩ := List.mem_flatMap.mp hy
    exact (runs_adds env s strict r i caps (fun h => (hg' h).1) x hx).trans
      (runsSeq_adds env s strict rs x.1 x.2 (fun h => (hg' h).2) y hyx)
theorem runsAlt_adds (env : CharEnv) (s : Str) (strict : Bool) :
    ∀ (rs : List Rx) (i : Nat) (caps : Caps), (strict = true → groupsConsumeL rs = true) →
      ∀ x ∈ runsAlt env s rs i caps, Adds strict i caps x
  | [], i, caps, _ => by simp only [runsAlt]; exact nofun
  | r :: rs, i, caps, hg => by
    have hg' : strict = true → groupsConsume r = true ∧ groupsConsumeL rs = true := fun h => by
      simpa only [groupsConsumeL, Bool.and_eq_true] using hg h
    simp only [runsAlt]
    exact List.forall_mem_append.mpr
      ⟨runs_adds env s strict r i caps (fun h => (hg' h).1), runsAlt_adds env s strict rs i caps (fun h => (hg' h).2)⟩
end

theorem Adds.runsOK {lo i : Nat} {caps : Caps} {l : List (Nat × Caps)} (hlo : lo ≤ i) (hc : CapsIn lo i caps)
    (h : ∀ x ∈ l, Adds false i caps x) : RunsOK lo i l :=
  fun x hx => ⟨(h x hx).1, fun e he => ((h x hx).2 e he).elim
    (fun ho => ⟨(hc e ho).1, (hc e ho).2.1, Nat.le_trans (hc e ho).2.2 (h x hx).1⟩)
    (fun ⟨a, b, c, _⟩ => ⟨Nat.le_trans hlo a, b, c⟩)⟩

theorem runs_caps (env : CharEnv) (s : Str) (lo : Nat) (r : Rx) (i : Nat) (caps : Caps) (hlo : lo ≤ i)
    (hc : CapsIn lo i caps) : RunsOK lo i (runs env s r i caps) :=
  Adds.runsOK hlo hc (runs_adds env s false r i caps nofun)
theorem runsSeq_caps (env : CharEnv) (s : Str) (lo : Nat) :
    ∀ (rs : List Rx) (i : Nat) (caps : Caps), lo ≤ i → CapsIn lo i caps → RunsOK lo i (runsSeq env s rs i caps) :=
  fun rs i caps hlo hc => Adds.runsOK hlo hc (runsSeq_adds env s false rs i caps nofun)
theorem runsAlt_caps (env : CharEnv) (s : Str) (lo : Nat) :
    ∀ (rs : List Rx) (i : Nat) (caps : Caps), lo ≤ i → CapsIn lo i caps → RunsOK lo i (runsAlt env s rs i caps) :=
  fun rs i caps hlo hc => Adds.runsOK hlo hc (runsAlt_adds env s false rs i caps nofun)

theorem matchAt_capsIn {env : CharEnv} {r : Rx} {s : Str} {i j : Nat} {c : Caps}
    (h : matchAt env r s i = some (j, c)) : CapsIn i j c := by
  unfold matchAt at h
  have hm : (j, c) ∈ runs env s r i [] := List.mem_of_mem_head? h
  exact (runs_caps env s i r i [] (Nat.le_refl _) (fun _ he => by simp at he) (j, c) hm).2

theorem capSpan_mem {c : Caps} {idx a b : Nat} (hs : capSpan c idx = some (a, b)) :
    ∃ k, (k, a, b) ∈ c := by
  unfold capSpan at hs
  cases hf : c.find? (fun e => e.1 == idx) with
  | none => rw [hf] at hs; cases hs
  | some e =>
    rw [hf] at hs
    simp only [Option.map_some, Option.some.injEq] at hs
    exact ⟨e.1, hs ▸ List.mem_of_find?_eq_some hf⟩

/-- `m.span(idx)` lies inside `m.span(0)`. -/
theorem matchAt_capSpan {env : CharEnv} {r : Rx} {s : Str} {i j : Nat} {c : Caps}
    (h : matchAt env r s i = some (j, c)) {idx a b : Nat} (hs : capSpan c idx = some (a, b)) :
    i ≤ a ∧ a ≤ b ∧ b ≤ j := by
  obtain ⟨k, hm⟩ := capSpan_mem hs
  exact matchAt_capsIn h _ hm

theorem slice_length_le (s : Str) (a b : Nat) : (slice s a b).length ≤ b - a ∧ (slice s a b).length ≤ s.length := by
  unfold slice
  simp only [List.length_take, List.length_drop]
  omega

theorem group_length_le (s : Str) (t : TokenRx) (caps : Caps) (name : String) {g : Str}
    (h : Parser.group s t caps name = some g) : g.length ≤ s.length := by
  unfold Parser.group at h
  split at h
  · cases hc : capSpan caps _ with
    | none => rw [hc] at h; cases h
    | some ab =>
      rw [hc] at h
      simp only [Option.map_some, Option.some.injEq] at h
      subst h
      exact (slice_length_le s ab.1 ab.2).2
  · cases h

theorem group_getD_length_le (s : Str) (t : TokenRx) (caps : Caps) (name : String) :
    ((Parser.group s t caps name).getD []).length ≤ s.length := by
  cases h : Parser.group s t caps name with
  | none => exact Nat.zero_le _
  | some g => exact group_length_le s t caps name h

theorem unescRepl_length_le {env : CharEnv} {r : Rx} {content : Str} {i j : Nat} {c : Caps}
    (h : matchAt env r content i = some (j, c)) (hij : i < j) : (C06.unescRepl content c).length ≤ j - i := by
  unfold C06.unescRepl C06.clampCp
  split
  · rename_i a b h1
    have := matchAt_capSpan h h1
    split
    · simp only [List.length_singleton]; omega
    · simp
  · split
    · rename_i a b h2
      have := matchAt_capSpan h h2
      have := (slice_length_le content (a + 1) b).1
      omega
    · split
      · simp only [List.length_singleton]; omega
      · simp

theorem subWith_go_length_le {env : CharEnv} {r : Rx} (hn : nullable r = false) (s : Str) :
    ∀ fuel i, i ≤ s.length → (subWith.go env r (C06.unescRepl s) s fuel i).length ≤ s.length - i := by
  intro fuel
  induction fuel with
  | zero => intro i _; simp [subWith.go]
  | succ n ih =>
    intro i hi
    unfold subWith.go
    split
    · simp
    · split
      · rename_i j caps hm
        obtain ⟨hij, hj⟩ := matchAt_progress hn hm
        have h1 := unescRepl_length_le hm hij
        have h2 := ih j hj
        simp only [hij, if_true, List.length_append]
        omega
      · split
        · rename_i ch hc
          have hlt : i < s.length := by
            rcases Nat.lt_or_ge i s.length with h | h
            · exact h
            · rw [List.getElem?_eq_none h] at hc; cases hc
          have h2 := ih (i + 1) hlt
          simp only [List.length_cons]
          omega
        · simp

/-- `css_unescape` does not lengthen its argument (for non-nullable escape expressions). -/
theorem cssUnescape_length_le {env : CharEnv} {L : Lexicon}
    (h1 : nullable L.reCssEsc = false) (h2 : nullable L.reCssStrEsc = false) (content : Str) (string : Bool) :
    (cssUnescape env L content string).length ≤ content.length := by
  rw [C06.cssUnescape_eq]
  unfold subWith
  have hn : nullable (if string then L.reCssStrEsc else L.reCssEsc) = false := by
    cases string <;> simp [h1, h2]
  have := subWith_go_length_le (env := env) hn content (content.length + 1) 0 (Nat.zero_le _)
  omega

end ParseCost
end SoupVerif
