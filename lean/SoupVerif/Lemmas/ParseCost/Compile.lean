/-
  C07 (parser level): a whole `compile`.

  For any lexicon whose tokens are not nullable (`LexOK`), whose escape expressions are not
  nullable (`EscOK`) and whose expressions all cost at most `C·(|s|+1)^K` (`RxBound`):
  * `compileSteps_le` : iterations ≤ `|pattern| + Σ (|definition| + 1) + 1`;
  * `compileCost_le`  : cost ≤ `(3·|tokens| + 13)·(C + 1)·(N + 1)^(K + 2)`, `N = inputSize`.
-/
import SoupVerif.Lemmas.ParseCost.Iter
set_option autoImplicit false
namespace SoupVerif
namespace ParseCost
open Rx SoupVerif.Parser ParserProgress

/-- `Σ (|definition| + 1)` over the custom selectors given to `compile`. -/
def defLen (custom : List (Str × Str)) : Nat := (custom.map fun e => e.2.length + 1).sum

/-- Fuel against characters, as in `W_eq_two_U`. -/
theorem defWeight_eq (custom : List (Str × Str)) : defWeight custom = 2 * defLen custom := by
  unfold defWeight defLen
  induction custom with
  | nil => rfl
  | cons e rest ih => simp only [List.map_cons, List.sum_cons, ih]; omega

theorem U_processCustom {env : CharEnv} {L : Lexicon} {custom : List (Str × Str)} {c : Custom}
    (h : processCustom env L custom = .ok c) : U c ≤ defLen custom := by
  have := processCustom_ok h
  rw [W_eq_two_U, defWeight_eq] at this
  omega

theorem defLen_le_inputSize (pattern : Str) (custom : List (Str × Str)) :
    pattern.length + defLen custom ≤ inputSize pattern custom := by
  unfold inputSize defLen
  have : ∀ l : List (Str × Str), (l.map fun e => e.2.length + 1).sum ≤
      (l.map fun e => e.1.length + e.2.length + 1).sum := by
    intro l
    induction l with
    | nil => exact Nat.le_refl _
    | cons e rest ih => simp only [List.map_cons, List.sum_cons]; omega
  have := this custom
  omega

section
variable (env : CharEnv) (L : Lexicon) (B : Builtins)

theorem compileRun_snd (w : Weight) (pattern : Str) (custom : List (Str × Str)) (flags : Nat) :
    (compileRun w env L B pattern custom flags).2 =
      match processCustom env L custom with
      | .error _ => 0
      | .ok c => (selRun w env L B (nulFix pattern) (C06.allotted pattern custom)
          (startIndex ⟨env, L, B, nulFix pattern⟩) 0 flags c).2 := by
  unfold compileRun
  cases processCustom env L custom with
  | error e => rfl
  | ok c =>
    simp only []
    split <;> rfl

/-- A whole `compile` under a weight that is at most `M` per iteration while the size is at most `N`: at most
    `M` times `|pattern| + Σ (|definition| + 1) + 1`, the bound on the number of iterations. -/
theorem compileRun_le (hL : LexOK L) (pattern : Str) (custom : List (Str × Str)) (flags : Nat)
    {w : Weight} {N M : Nat} (hw : WBound w N M) (hN : pattern.length + defLen custom ≤ N) :
    (compileRun w env L B pattern custom flags).2 ≤ M * (pattern.length + defLen custom + 1) := by
  rw [compileRun_snd]
  cases hc : processCustom env L custom with
  | error e => exact Nat.zero_le _
  | ok c =>
    simp only []
    have hu := U_processCustom hc
    have hlen := nulFix_length pattern
    have hst := startIndex_le ⟨env, L, B, nulFix pattern⟩
    simp only [] at hst
    obtain ⟨m, hS, hm⟩ := sel_cnt env L B hL w (C06.allotted pattern custom) (nulFix pattern) _ 0 flags c hst
      (Nat.zero_le _) hw (by omega)
    refine Nat.le_trans hm (Nat.mul_le_mul_left _ ?_)
    have hP := sel_post (env := env) (B := B) hL (C06.allotted pattern custom) (nulFix pattern) _ 0 flags c
      hst (Nat.zero_le _)
    generalize parseSelectors env L B (nulFix pattern) _ _ 0 flags c = r at hS hP
    generalize startIndex ⟨env, L, B, nulFix pattern⟩ = st0 at *
    rcases r with e | ⟨l, p', c'⟩
    · have : m + st0 ≤ (nulFix pattern).length + U c + 1 := hS
      omega
    · have : m + U c' + st0 + (isOpen flags).toNat ≤ p' + U c + 1 := hS
      obtain ⟨g1, g2, g3⟩ := hP
      omega

/-- **Counting bound.** The number of iterations of the `parse_selectors` loop in a whole
    `compile` — nested lists and custom-selector definitions included — is at most
    `|pattern| + Σ (|definition| + 1) + 1`. -/
theorem compileSteps_le (hL : LexOK L) (pattern : Str) (custom : List (Str × Str)) (flags : Nat) :
    compileSteps env L B pattern custom flags ≤ pattern.length + defLen custom + 1 := by
  have := compileRun_le env L B hL pattern custom flags (w := unitWeight) (M := 1)
    (fun _ _ _ => Nat.le_refl 1) (Nat.le_refl _)
  rwa [Nat.one_mul] at this

theorem Wb_le_pow (C K n : Nat) : Wb C K n ≤ (C + 1) * (n + 1) ^ K := by
  unfold Wb
  have : 1 ≤ (n + 1) ^ K := Nat.one_le_pow _ _ (Nat.succ_pos _)
  rw [Nat.add_mul, Nat.one_mul]
  omega

theorem customCost_le {C K : Nat} (hW : RxBound env L C K) (custom : List (Str × Str)) (N : Nat)
    (hN : (custom.map fun e => e.1.length + e.2.length + 1).sum ≤ N) :
    customCost env L custom ≤ 2 * N * Wb C K N := by
  unfold customCost
  induction custom generalizing N with
  | nil => exact Nat.zero_le _
  | cons e rest ih =>
    simp only [List.map_cons, List.sum_cons] at hN ⊢
    have hrest := ih ((rest.map fun e => e.1.length + e.2.length + 1).sum) (Nat.le_refl _)
    generalize (rest.map fun e => e.1.length + e.2.length + 1).sum = R at hN hrest
    have hlow : (lower e.1).length ≤ N := by rw [lower_length]; omega
    have h1 := matchCost_le hW (mem_lex_fixed L.reCustom (by simp)) (Nat.le_refl (lower e.1).length) 0
    have h2 := unescCost_le hW (Nat.le_refl (lower e.1).length) false
    rw [lower_length] at h1 h2
    -- everything on `e` costs at most `(|name| + 2)·Wb(N)`, the rest at most `2·R·Wb(N)`
    have hm1 : Wb C K e.1.length ≤ Wb C K N := Wb_mono C K (by omega)
    have hm2 : Wb C K R ≤ Wb C K N := Wb_mono C K (by omega)
    have e1 : (e.1.length + 1) * Wb C K e.1.length ≤ (e.1.length + 1) * Wb C K N :=
      Nat.mul_le_mul_left _ hm1
    have e2 : 2 * R * Wb C K R ≤ 2 * R * Wb C K N := Nat.mul_le_mul_left _ hm2
    have e3 : (e.1.length + 2) * Wb C K N + 2 * R * Wb C K N ≤ 2 * N * Wb C K N := by
      rw [← Nat.add_mul]; exact Nat.mul_le_mul_right _ (by omega)
    have e4 : (e.1.length + 2) * Wb C K N = (e.1.length + 1) * Wb C K N + Wb C K N := by ring
    omega

theorem compileCost_le {C K : Nat} (hL : LexOK L) (hE : EscOK L) (hW : RxBound env L C K)
    (pattern : Str) (custom : List (Str × Str)) (flags : Nat) :
    compileCost env L B pattern custom flags ≤
      (3 * L.tokens.length + 13) * (C + 1) * (inputSize pattern custom + 1) ^ (K + 2) := by
  generalize hN : inputSize pattern custom = N
  have hsz := defLen_le_inputSize pattern custom
  rw [hN] at hsz
  have hlen := nulFix_length pattern
  have h1 : customCost env L custom ≤ 2 * N * Wb C K N :=
    customCost_le env L hW custom N (by rw [← hN]; unfold inputSize; omega)
  have h2 : startCost ⟨env, L, B, nulFix pattern⟩ ≤ Wb C K N :=
    startCost_le hW B (by omega)
  have hWB : WBound (rxWeight env L B) N ((3 * L.tokens.length + 11) * ((N + 1) * Wb C K N)) := by
    intro pat s hs
    exact iterCost_le ⟨env, L, B, pat⟩ hW hE s (by simp only []; omega) (by omega)
  have h3 : (compileRun (rxWeight env L B) env L B pattern custom flags).2 ≤
      (3 * L.tokens.length + 11) * ((N + 1) * Wb C K N) * (N + 1) := by
    exact Nat.le_trans (compileRun_le env L B hL pattern custom flags hWB (by omega))
      (Nat.mul_le_mul_left _ (by omega))
  have hpow : (N + 1) ^ (K + 2) = (N + 1) * (N + 1) * (N + 1) ^ K := by ring
  have hWp := Wb_le_pow C K N
  show customCost env L custom + startCost ⟨env, L, B, nulFix pattern⟩ +
    (compileRun (rxWeight env L B) env L B pattern custom flags).2 ≤ _
  rw [hpow]
  generalize Wb C K N = W at *
  generalize (N + 1) ^ K = P at *
  generalize L.tokens.length = T at *
  -- everything ≤ (3T + 13)·X²·W and W ≤ (C+1)·P
  have hA : 2 * N * W + W + (3 * T + 11) * ((N + 1) * W) * (N + 1) ≤
      (3 * T + 13) * ((N + 1) * (N + 1)) * W := by
    have h : 2 * N + 1 ≤ 2 * ((N + 1) * (N + 1)) := by
      have := Nat.le_mul_self (N + 1); omega
    calc 2 * N * W + W + (3 * T + 11) * ((N + 1) * W) * (N + 1)
        = (2 * N + 1) * W + (3 * T + 11) * ((N + 1) * (N + 1)) * W := by ring
      _ ≤ 2 * ((N + 1) * (N + 1)) * W + (3 * T + 11) * ((N + 1) * (N + 1)) * W :=
          Nat.add_le_add_right (Nat.mul_le_mul_right _ h) _
      _ = (3 * T + 13) * ((N + 1) * (N + 1)) * W := by ring
  calc customCost env L custom + startCost ⟨env, L, B, nulFix pattern⟩ +
        (compileRun (rxWeight env L B) env L B pattern custom flags).2
      ≤ 2 * N * W + W + (3 * T + 11) * ((N + 1) * W) * (N + 1) := by omega
    _ ≤ (3 * T + 13) * ((N + 1) * (N + 1)) * W := hA
    _ ≤ (3 * T + 13) * ((N + 1) * (N + 1)) * ((C + 1) * P) := Nat.mul_le_mul_left _ hWp
    _ = (3 * T + 13) * (C + 1) * ((N + 1) * (N + 1) * P) := by ring

end

/-- The cost dominates the number of iterations: every iteration weighs at least 1. -/
theorem compileSteps_le_cost (env : CharEnv) (L : Lexicon) (B : Builtins) (pattern : Str)
    (custom : List (Str × Str)) (flags : Nat) :
    compileSteps env L B pattern custom flags ≤ compileCost env L B pattern custom flags := by
  unfold compileSteps compileCost
  rw [compileRun_snd, compileRun_snd]
  have hw : ∀ (pat : Str) (s : LS), unitWeight pat s ≤ rxWeight env L B pat s := by
    intro pat s
    show 1 ≤ 1 + _ + _
    omega
  cases processCustom env L custom with
  | error e => exact Nat.zero_le _
  | ok c =>
    simp only []
    exact Nat.le_trans ((run_mono env L B _ _ hw _).1 _ _ _ _ _) (Nat.le_add_left _ _)

end ParseCost
end SoupVerif
