/-
  C07 (parser level): the number of loop iterations of a whole parse, and what they weigh.

  With `U c` = Σ over the not yet compiled entries `(k ↦ source t)` of `c` of `|t| + 1`, and `n` the
  number of iterations counted by the twin (weight 1), by induction on the fuel for `parseSelectors`
  and `parseLoop` together (`cntRules`, an instance of `run_rules`):
      - `parseSelectors` from `pos` returning `(_, p', c')`:   `n ≤ (p' − pos) + (U c − U c') + 1`,
        and without the `+ 1` when the list was opened by `(` (its last iteration consumed the `)`);
      - on an error:                                           `n ≤ (|pattern| − pos) + U c + 1`;
      - for every weight `w`: if every iteration that can occur while `|pattern| + U table ≤ N`
        weighs at most `M` (`WBound`), the weight accumulated by the twin is at most `M · n`.
        (The size is invariant: a definition that is expanded is taken out of the table, so
        `|definition| + U (rest) ≤ U table`.)
    The argument is a potential argument: every iteration that continues consumed ≥ 1 character
    (`StepOK`, from `matchToken_spec`: no token expression is nullable), positions only advance, a custom definition is erased
    from the table before it is parsed and stored back compiled, so `U` pays for it once.
-/
import SoupVerif.Lemmas.ParseCost.Twin
set_option autoImplicit false
namespace SoupVerif
namespace ParseCost
open Rx SoupVerif.Parser ParserProgress

def cvLen : CustomVal → Nat
  | .src t => t.length + 1
  | .compiled _ => 0

/-- Total length (+1 per entry) of the definitions that are still source text. -/
def U : Custom → Nat
  | [] => 0
  | e :: c => cvLen e.2 + U c

/-- `W` (Lemmas/ParserProgress/Fuel.lean) counts fuel, `U` characters: the recursion goes at most two levels down
    per character (`needLoop`), so the fuel reserved for a definition is twice its length. -/
theorem W_eq_two_U (c : Custom) : W c = 2 * U c := by
  induction c with
  | nil => rfl
  | cons e c ih =>
    simp only [W, U, ih]
    cases e.2 <;> simp only [cvWeight, cvLen] <;> omega

theorem U_get_src {c : Custom} {k t : Str} (h : c.get? k = some (.src t)) :
    U (c.erase k) + (t.length + 1) ≤ U c := by
  have := W_get_src c k t h
  rw [W_eq_two_U, W_eq_two_U] at this; omega

theorem U_set_compiled (c : Custom) (k : Str) (l : SelList) : U (c.set k (.compiled l)) ≤ U c := by
  have := W_set_compiled c k l
  rw [W_eq_two_U, W_eq_two_U] at this; omega

theorem U_le_of_W_le {a b : Custom} (h : W a ≤ W b) : U a ≤ U b := by
  rw [W_eq_two_U, W_eq_two_U] at h; omega

theorem finishSel_ok_closed {env : CharEnv} {L : Lexicon} {B : Builtins} {pattern : Str} {flags : Nat}
    {s : LS} {x : SelRes} (h : finishSel env L B pattern flags s = .ok x) (ho : isOpen flags = true) :
    s.closed = true := by
  unfold finishSel at h
  simp only [] at h
  split at h
  · cases h
  · rename_i hc
    unfold isOpen at ho
    rw [ho] at hc
    simpa using hc

theorem initLS_frame (pos idx fl : Nat) (c : Custom) :
    (initLS pos idx fl c).pos = pos ∧ (initLS pos idx fl c).index = idx ∧
      (initLS pos idx fl c).custom = c ∧ (initLS pos idx fl c).closed = false :=
  ⟨rfl, rfl, rfl, rfl⟩

/-- `n` iterations for a `parseSelectors` call from `pos` with table weight `u`. -/
def SelCnt (len pos : Nat) (opn : Bool) (u : Nat) (r : M SelRes) (n : Nat) : Prop :=
  match r with
  | .error _ => n + pos ≤ len + u + 1
  | .ok (_, p', c') => n + U c' + pos + opn.toNat ≤ p' + u + 1

/-- `n` iterations for a `parseLoop` call from state `s`. -/
def LoopCnt (len : Nat) (s : LS) (r : M LS) (n : Nat) : Prop :=
  match r with
  | .error _ => n + s.pos ≤ len + U s.custom + 1
  | .ok s' => n + U s'.custom + s.pos + s'.closed.toNat ≤ s'.pos + U s.custom + 1

/-- Every iteration in a context of size ≤ `N` weighs at most `M`. -/
def WBound (w : Weight) (N M : Nat) : Prop :=
  ∀ (pattern : Str) (s : LS), pattern.length + U s.custom ≤ N → w pattern s ≤ M

theorem mul_acc2 {a b M n : Nat} (ha : a ≤ M) (hb : b ≤ M * n) : a + b ≤ M * (1 + n) := by
  rw [Nat.mul_add, Nat.mul_one]; omega

theorem mul_acc3 {a b c M n1 n2 : Nat} (ha : a ≤ M) (hb : b ≤ M * n1) (hc : c ≤ M * n2) :
    a + b + c ≤ M * (1 + n1 + n2) := by
  rw [Nat.mul_add, Nat.mul_add, Nat.mul_one]; omega

/-- One step of the potential argument: if getting from `s` to `s'` took `m` iterations, paid for
    by the advance of the position and the decrease of `U`, then the count for the rest of the
    loop from `s'` extends to a count from `s`. -/
theorem LoopCnt.step {len : Nat} {s s' : LS} {r : M LS} {n m : Nat} (hI : LoopCnt len s' r n)
    (hm : m + s.pos + U s'.custom ≤ s'.pos + U s.custom) : LoopCnt len s r (m + n) := by
  cases r with
  | error e =>
    have : n + s'.pos ≤ len + U s'.custom + 1 := hI
    show m + n + s.pos ≤ len + U s.custom + 1
    omega
  | ok s'' =>
    have : n + U s''.custom + s'.pos + s''.closed.toNat ≤ s''.pos + U s'.custom + 1 := hI
    show m + n + U s''.custom + s.pos + s''.closed.toNat ≤ s''.pos + U s.custom + 1
    omega

section
variable (env : CharEnv) (L : Lexicon) (B : Builtins)

/-- The potential argument, for any weight `w`: while `|pattern| + U table ≤ N` (invariant: a definition that is
    expanded leaves the table) and every iteration weighs at most `M`, a run weighs at most `M · m` for a count
    `m` that the advance of the position and the decrease of `U` pay for. -/
theorem cntRules (w : Weight) : Rules env L B w
    (fun pattern pos _ fl c r n => ∀ N M, WBound w N M → pattern.length + U c ≤ N →
      ∃ m, SelCnt pattern.length pos (isOpen fl) (U c) r m ∧ n ≤ M * m)
    (fun pattern s r n => ∀ N M, WBound w N M → pattern.length + U s.custom ≤ N → s.closed = false →
      ∃ m, LoopCnt pattern.length s r m ∧ n ≤ M * m) where
  selOut pattern pos _ _ c hp _ _ _ _ := ⟨0, by show 0 + pos ≤ _; omega, Nat.zero_le _⟩
  loopOut pattern s _ _ _ _ _ _ hc :=
    ⟨0, by show 0 + U s.custom + s.pos + s.closed.toNat ≤ _; rw [hc]; simp only [Bool.toNat_false]; omega,
      Nat.zero_le _⟩
  selErr pattern pos idx fl c e n _ _ h N M hw hN := h N M hw hN rfl
  selFin pattern pos idx fl c s' n _ _ hpost h N M hw hN := by
    obtain ⟨m, hl0, hn⟩ := h N M hw hN rfl
    refine ⟨m, ?_, hn⟩
    obtain ⟨h2, h3, h4, h5⟩ := hpost
    have hl1 : m + U s'.custom + pos + s'.closed.toNat ≤ s'.pos + U c + 1 := hl0
    have hu : U s'.custom ≤ U c := U_le_of_W_le h5
    have h2' : pos ≤ s'.pos := h2
    generalize hr : finishSel env L B pattern fl s' = r
    rcases r with e | ⟨l, p', c'⟩
    · show m + pos ≤ _
      have := Bool.toNat_le s'.closed
      omega
    · obtain ⟨rfl, rfl⟩ := finishSel_ok hr
      show m + U s'.custom + pos + (isOpen fl).toNat ≤ s'.pos + U c + 1
      cases ho : isOpen fl with
      | false => simp only [Bool.toNat_false]; omega
      | true =>
        rw [finishSel_ok_closed hr ho] at hl1
        simpa using hl1
  stop pattern s _ _ N M hw hN hc :=
    ⟨1, by show 1 + U s.custom + s.pos + s.closed.toNat ≤ _; rw [hc]; simp only [Bool.toNat_false]; omega,
      by have := hw pattern s hN; omega⟩
  raise pattern s e hp _ N M hw hN _ := ⟨1, by show 1 + s.pos ≤ _; omega, by have := hw pattern s hN; omega⟩
  close pattern s s' _ hlt hle _ h3 h4 N M hw hN _ :=
    ⟨1, by
      show 1 + U s'.custom + s.pos + s'.closed.toNat ≤ s'.pos + U s.custom + 1
      rw [h3, h4]; simp only [Bool.toNat_true]; omega,
      by have := hw pattern s hN; omega⟩
  cont pattern s s' r n hlt hle _ h3 h4 hI N M hw hN hc := by
    obtain ⟨m, hI, hn⟩ := hI N M hw (h3 ▸ hN) (h4.trans hc)
    exact ⟨1 + m, hI.step (by rw [h3]; omega), mul_acc2 (hw pattern s hN) hn⟩
  nestErr pattern s stop fl e n1 hlt hle _ _ hS N M hw hN _ := by
    obtain ⟨m1, hS, hn1⟩ := hS N M hw hN
    have : m1 + stop ≤ pattern.length + U s.custom + 1 := hS
    exact ⟨1 + m1, by show 1 + m1 + s.pos ≤ _; omega, mul_acc2 (hw pattern s hN) hn1⟩
  nestOk pattern s stop fl l p' c' n1 s' r n2 hlt ho hP k1 _ k3 k4 hS hI N M hw hN hc := by
    obtain ⟨m1, hS, hn1⟩ := hS N M hw hN
    obtain ⟨g1, g2, g3⟩ := hP
    have g3' := U_le_of_W_le g3
    obtain ⟨m2, hI, hn2⟩ := hI N M hw (by rw [k3]; omega) (k4.trans hc)
    have hS' : m1 + U c' + stop + (isOpen fl).toNat ≤ p' + U s.custom + 1 := hS
    rw [ho] at hS'
    simp only [Bool.toNat_true] at hS'
    exact ⟨1 + m1 + m2, hI.step (by rw [k1, k3]; omega), mul_acc3 (hw pattern s hN) hn1 hn2⟩
  customErr pattern s stop pseudo text fl e n1 hlt hle hget _ hS N M hw hN _ := by
    have hlen := nulFix_length text
    have hu := U_get_src hget
    obtain ⟨m1, hS, hn1⟩ := hS N M hw (by omega)
    have : m1 + startIndex ⟨env, L, B, nulFix text⟩ ≤ (nulFix text).length + U (s.custom.erase pseudo) + 1 := hS
    exact ⟨1 + m1, by show 1 + m1 + s.pos ≤ _; omega, mul_acc2 (hw pattern s hN) hn1⟩
  customOk pattern s stop pseudo text fl l p' c' n1 s' r n2 hlt hle hget hP k1 _ k3 k4 hS hI N M hw hN hc := by
    have hlen := nulFix_length text
    have hu := U_get_src hget
    obtain ⟨m1, hS, hn1⟩ := hS N M hw (by omega)
    obtain ⟨g1, g2, g3⟩ := hP
    have g3' := U_le_of_W_le g3
    have hset := U_set_compiled c' pseudo l
    obtain ⟨m2, hI, hn2⟩ := hI N M hw (by rw [k3]; omega) (k4.trans hc)
    have hS' : m1 + U c' + startIndex ⟨env, L, B, nulFix text⟩ + (isOpen fl).toNat ≤
        p' + U (s.custom.erase pseudo) + 1 := hS
    exact ⟨1 + m1 + m2, hI.step (by rw [k1, k3]; omega), mul_acc3 (hw pattern s hN) hn1 hn2⟩

theorem sel_cnt (hL : LexOK L) (w : Weight) (f : Nat) (pattern : Str) (pos idx fl : Nat) (c : Custom)
    (hp : pos ≤ pattern.length) (hi : idx ≤ pattern.length) {N M : Nat} (hw : WBound w N M)
    (hN : pattern.length + U c ≤ N) :
    ∃ m, SelCnt pattern.length pos (isOpen fl) (U c) (parseSelectors env L B pattern f pos idx fl c) m ∧
      (selRun w env L B pattern f pos idx fl c).2 ≤ M * m :=
  ((run_rules hL (cntRules env L B w) f).1 pattern pos idx fl c hp hi).2 N M hw hN

end

end ParseCost
end SoupVerif
