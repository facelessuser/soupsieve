/-
  `css_unescape` of the parser model as `RE.sub(replace, content)`: the replacement closure under a name
  (`C06.unescRepl`, with the code-point repair `C06.clampCp`) and the equation `C06.cssUnescape_eq`.  Imports only
  the model, so that both the C06 lemmas and the scanner refinements (`Refine/Unescape.lean`) can use it.
-/
import SoupVerif.Model.Parser
namespace SoupVerif
namespace C06
open Rx SoupVerif.Parser

/-- `if codepoint == 0 or codepoint > 0x10FFFF: codepoint = UNICODE_REPLACEMENT_CHAR` (the test `Escape.fixCp`
    makes in the model of `escape` / `unescape` of C10). -/
def clampCp (cp : Nat) : Nat := if cp == 0 || cp > 0x10FFFF then 0xFFFD else cp

/-- The `replace(m)` closure of `css_unescape`, as it appears in `Parser.cssUnescape`. -/
def unescRepl (content : Str) (caps : Caps) : Str :=
  match Rx.capSpan caps 1 with
  | some (a, b) =>
    if b > a then [clampCp (hexPrefixVal (slice content (a + 1) b))] else []
  | none =>
    match Rx.capSpan caps 2 with
    | some (a, b) => slice content (a + 1) b
    | none =>
      match Rx.capSpan caps 3 with
      | some _ => [0xFFFD]
      | none => []

theorem cssUnescape_eq (env : CharEnv) (L : Lexicon) (content : Str) (string : Bool) :
    Parser.cssUnescape env L content string =
      subWith env (if string then L.reCssStrEsc else L.reCssEsc) (unescRepl content) content := rfl

end C06
end SoupVerif
