/-
  Lemmas for C20 part A (`get_pattern_context`): the `finditer` matches tile the pattern (`Chain`) and end at
  `breakEnds`; the loop over such a chain (`run_passed`, `run_main`); the slices are `Spec.Ctx.lines`, and
  "strictly inside a match" is "at the `\n` of a `\r\n` pair"; the whole function (`gpc_single`, `gpc_multi`).
  Every induction over a string goes by line-break units (`BreakUnit`, `unitInduction`).
-/
import SoupVerif.Model.Context
import SoupVerif.Spec.Context
namespace SoupVerif
namespace CtxLemmas
open Context Spec.Ctx

/-- `u` is a line-break unit in front of `r`: `\r\n`, a `\r` that no `\n` follows, or `\n`. -/
inductive BreakUnit : Str → Str → Prop
  | crlf (r : Str) : BreakUnit [13, 10] r
  | cr (r : Str) : r.head? ≠ some 10 → BreakUnit [13] r
  | lf (r : Str) : BreakUnit [10] r

theorem BreakUnit.length_bounds {u r : Str} (h : BreakUnit u r) : 1 ≤ u.length ∧ u.length ≤ 2 := by
  cases h <;> simp

theorem unitInduction {motive : Str → Prop}
    (nil : motive [])
    (unit : ∀ u r, BreakUnit u r → motive r → motive (u ++ r))
    (other : ∀ c r, c ≠ 13 → c ≠ 10 → motive r → motive (c :: r)) : ∀ s, motive s := by
  have key : ∀ s : Str, motive s ∧ ∀ c, motive (c :: s) := by
    intro s
    induction s with
    | nil =>
      refine ⟨nil, fun c => ?_⟩
      by_cases h13 : c = 13
      · subst h13; exact unit _ _ (.cr [] (by simp)) nil
      · by_cases h10 : c = 10
        · subst h10; exact unit _ _ (.lf []) nil
        · exact other c [] h13 h10 nil
    | cons d r ih =>
      refine ⟨ih.2 d, fun c => ?_⟩
      by_cases h13 : c = 13
      · subst h13
        by_cases hd : d = 10
        · subst hd; exact unit _ _ (.crlf r) ih.1
        · exact unit _ _ (.cr (d :: r) (by simpa using hd)) (ih.2 d)
      · by_cases h10 : c = 10
        · subst h10; exact unit _ _ (.lf (d :: r)) (ih.2 d)
        · exact other c (d :: r) h13 h10 (ih.2 d)
  exact fun s => (key s).1

theorem sl_nil (pos last : Nat) : splitLinesAux [] pos last = [(last, pos, pos)] := by
  simp [splitLinesAux]

theorem sl_other (c : Nat) (r : Str) (pos last : Nat) (h1 : c ≠ 13) (h2 : c ≠ 10) :
    splitLinesAux (c :: r) pos last = splitLinesAux r (pos + 1) last := by
  cases r <;> simp [splitLinesAux, h1, h2]

theorem sl_unit {u r : Str} (h : BreakUnit u r) (pos last : Nat) :
    splitLinesAux (u ++ r) pos last
      = (last, pos, pos + u.length) :: splitLinesAux r (pos + u.length) (pos + u.length) := by
  cases h with
  | crlf => simp [splitLinesAux]
  | cr r hr =>
    cases r with
    | nil => simp [splitLinesAux]
    | cons d r' =>
      have : d ≠ 10 := by simpa using hr
      simp [splitLinesAux, this]
  | lf => cases r <;> simp [splitLinesAux]

theorem be_nil (pos : Nat) : breakEndsFrom pos [] = [] := by simp [breakEndsFrom]

theorem be_unit {u r : Str} (h : BreakUnit u r) (pos : Nat) :
    breakEndsFrom pos (u ++ r) = (pos + u.length) :: breakEndsFrom (pos + u.length) r := by
  cases h with
  | crlf => simp [breakEndsFrom]
  | cr r hr =>
    cases r with
    | nil => simp [breakEndsFrom]
    | cons d r' =>
      have : d ≠ 10 := by simpa using hr
      simp [breakEndsFrom, this]
  | lf => cases r <;> simp [breakEndsFrom]

theorem be_other (c : Nat) (r : Str) (pos : Nat) (h1 : c ≠ 13) (h2 : c ≠ 10) :
    breakEndsFrom pos (c :: r) = breakEndsFrom (pos + 1) r := by
  cases r <;> simp [breakEndsFrom, h1, h2]

theorem ln_nil : lines [] = [[]] := by simp [lines]

theorem ln_unit {u r : Str} (h : BreakUnit u r) : lines (u ++ r) = [] :: lines r := by
  cases h with
  | crlf => simp [lines]
  | cr r hr =>
    cases r with
    | nil => simp [lines]
    | cons d r' =>
      have : d ≠ 10 := by simpa using hr
      simp [lines, this]
  | lf => cases r <;> simp [lines]

theorem ln_other (c : Nat) (r : Str) (h1 : c ≠ 13) (h2 : c ≠ 10) :
    lines (c :: r) = prependFirst [c] (lines r) := by
  cases r <;> simp [lines, h1, h2]

/-- `Chain n l ms ends`: `ms` is a list of matches `(last, start, end)` that tile `[l, n]`:
    every non-final match has one or two characters and the next line starts where it ends, the final one
    is the empty match at `n`; `ends` lists the end offsets of the non-final matches. -/
inductive Chain (n : Nat) : Nat → List Match → List Nat → Prop
  | last {l : Nat} : l ≤ n → Chain n l [(l, n, n)] []
  | cons {l s e : Nat} {ms : List Match} {ends : List Nat} :
      l ≤ s → s < e → e ≤ s + 2 → e ≤ n → Chain n e ms ends →
      Chain n l ((l, s, e) :: ms) (e :: ends)

theorem splitLinesAux_chain : ∀ (s : Str) (pos last : Nat), last ≤ pos →
    Chain (pos + s.length) last (splitLinesAux s pos last) (breakEndsFrom pos s) := by
  intro s
  induction s using unitInduction with
  | nil => intro pos last h; rw [sl_nil, be_nil]; exact Chain.last h
  | unit u r hu ih =>
    intro pos last h
    have := hu.length_bounds
    rw [sl_unit hu, be_unit hu, List.length_append, ← Nat.add_assoc]
    exact Chain.cons h (by omega) (by omega) (by omega) (ih _ _ (Nat.le_refl _))
  | other c r h1 h2 ih =>
    intro pos last h
    rw [sl_other _ _ _ _ h1 h2, be_other _ _ _ h1 h2]
    have e : pos + (c :: r).length = pos + 1 + r.length := by simp; omega
    rw [e]
    exact ih (pos + 1) last (by omega)

theorem splitLines_chain (p : Str) : Chain p.length 0 (splitLines p) (breakEnds p) := by
  have := splitLinesAux_chain p 0 0 (Nat.le_refl _)
  simpa [splitLines, breakEnds] using this

theorem Chain.ms_ne_nil {n l ms ends} (h : Chain n l ms ends) : ms ≠ [] := by
  cases h <;> simp

theorem Chain.length_eq {n l ms ends} (h : Chain n l ms ends) : ms.length = ends.length + 1 := by
  induction h with
  | last _ => rfl
  | cons _ _ _ _ _ ih => simp [ih]

theorem Chain.of_ends_nil {n l ms ends} (h : Chain n l ms ends) (he : ends = []) :
    ms = [(l, n, n)] := by
  cases h with
  | last _ => rfl
  | cons _ _ _ _ _ => cases he

theorem Chain.start_le {n l ms ends} (h : Chain n l ms ends) : l ≤ n := by
  cases h with
  | last h => exact h
  | cons h1 h2 _ h3 _ => omega

theorem Chain.lt_ends {n l ms ends} (h : Chain n l ms ends) : ∀ x ∈ ends, l < x := by
  induction h with
  | last _ => intro x hx; cases hx
  | cons h1 h2 _ h3 _ ih =>
    intro x hx
    rcases List.mem_cons.mp hx with rfl | hx
    · omega
    · have := ih x hx; omega

theorem Chain.filter_nil {n l ms ends i} (h : Chain n l ms ends) (hi : i ≤ l) :
    ends.filter (· ≤ i) = [] := by
  rw [List.filter_eq_nil_iff]
  intro x hx
  have := h.lt_ends x hx
  simp; omega

/-- Offset `i` lies strictly inside some match (only possible inside a two-character match). -/
def inner (i : Nat) (ms : List Match) : Bool :=
  ms.any (fun m => decide (m.2.1 < i) && decide (i < m.2.2))

theorem Chain.inner_false {n l ms ends i} (h : Chain n l ms ends) (hi : i ≤ l) :
    inner i ms = false := by
  induction h with
  | last h => simp [inner]; omega
  | cons h1 h2 _ h3 _ ih =>
    have := ih (by omega)
    simp only [inner, List.any_cons] at this ⊢
    rw [this]; simp; omega

theorem Chain.ends_le {n l ms ends} (h : Chain n l ms ends) : ∀ x ∈ ends, x ≤ n := by
  induction h with
  | last _ => intro x hx; cases hx
  | cons _ _ _ h3 _ ih =>
    intro x hx
    rcases List.mem_cons.mp hx with rfl | hx
    · exact h3
    · exact ih x hx

theorem Chain.inner_pos {n l ms ends i} (h : Chain n l ms ends) (hin : inner i ms = true) :
    l < i := by
  by_cases hl : i ≤ l
  · rw [h.inner_false hl] at hin; cases hin
  · omega

theorem Chain.inner_ends {n l ms ends i} (h : Chain n l ms ends) (hin : inner i ms = true) :
    i ∉ ends ∧ i + 1 ∈ ends := by
  induction h with
  | last h => simp [inner] at hin; omega
  | @cons l s e ms ends h1 h2 h4 h3 hc ih =>
    simp only [inner, List.any_cons, Bool.or_eq_true, Bool.and_eq_true, decide_eq_true_eq] at hin
    rcases hin with ⟨a, b⟩ | hin
    · have hgt := hc.lt_ends
      refine ⟨?_, ?_⟩
      · intro hmem
        rcases List.mem_cons.mp hmem with rfl | hmem
        · omega
        · have := hgt i hmem; omega
      · have : i + 1 = e := by omega
        rw [this]; exact List.mem_cons_self
    · have hin' : inner i ms = true := hin
      have := hc.inner_pos hin'
      obtain ⟨a, b⟩ := ih hin'
      refine ⟨?_, List.mem_cons_of_mem _ b⟩
      intro hmem
      rcases List.mem_cons.mp hmem with rfl | hmem
      · omega
      · exact a hmem

theorem filter_le_pred {ends : List Nat} {i : Nat} (h : i ∉ ends) :
    ends.filter (· ≤ i) = ends.filter (· ≤ i - 1) := by
  apply List.filter_congr
  intro x hx
  have : x ≠ i := fun e => h (e ▸ hx)
  simp; omega

/-- `pattern[last:m.start(0)]` for a match that carries its own `last`. -/
def lineText (p : Str) (m : Match) : Str := slice p m.1 m.2.1

/-- `text` after `if len(text): text.append('\n')`. -/
def sepText (t : List Str) : List Str := if t.length ≠ 0 then t ++ [nl] else t

theorem sepText_of_ne {t : List Str} (h : t ≠ []) : sepText t = t ++ [nl] := by
  cases t with
  | nil => exact absurd rfl h
  | cons a b => simp [sepText]

theorem spaces_marked (c i s : Nat) :
    spaces ((c : Int) + ((if i > s then -1 else 0) + 3))
      = List.replicate (c + 3 - (if s < i then 1 else 0)) 32 := by
  unfold spaces
  congr 1
  by_cases h : s < i
  · simp [h]; omega
  · simp [h]; omega

theorem spaces_first (c : Nat) : spaces ((c : Int) + (-1)) = List.replicate (c - 1) 32 := by
  unfold spaces
  congr 1
  omega

theorem step_first {p : Str} {i : Nat} {st : LoopState} {l s e : Nat}
    (h1 : e - s = 0 ∧ st.text.length = 0) :
    step p i st (l, s, e) =
      { last := e, currentLine := st.currentLine + 1, col := i - st.last + 1,
        text := sepText st.text ++ [[] ++ slice p st.last s] ++
          [nl, List.replicate (i - st.last + 1 - 1) 32 ++ caret],
        line := st.currentLine } := by
  unfold step
  simp only [if_pos h1, emit, sepText, spaces_first]

theorem step_marked {p : Str} {i : Nat} {st : LoopState} {l s e : Nat}
    (h1 : ¬(e - s = 0 ∧ st.text.length = 0))
    (h2 : (st.last ≤ i ∧ i < e) ∨ (e - s = 0 ∧ i = e)) :
    step p i st (l, s, e) =
      { last := e, currentLine := st.currentLine + 1, col := i - st.last + 1,
        text := sepText st.text ++ [arrow ++ slice p st.last s] ++
          [nl, List.replicate (i - st.last + 1 + 3 - (if s < i then 1 else 0)) 32 ++ caret],
        line := st.currentLine } := by
  unfold step
  simp only [if_neg h1, if_pos h2, emit, sepText, spaces_marked]

theorem step_other {p : Str} {i : Nat} {st : LoopState} {l s e : Nat}
    (h1 : ¬(e - s = 0 ∧ st.text.length = 0))
    (h2 : ¬((st.last ≤ i ∧ i < e) ∨ (e - s = 0 ∧ i = e))) :
    step p i st (l, s, e) =
      { last := e, currentLine := st.currentLine + 1, col := st.col,
        text := sepText st.text ++ [pad ++ slice p st.last s], line := st.line } := by
  unfold step
  simp only [if_neg h1, if_neg h2, emit, sepText]

theorem joinWith_singleton (sep a : Str) : joinWith sep [a] = a := by simp [joinWith]

theorem joinWith_cons_ne (sep a : Str) {ps : List Str} (h : ps ≠ []) :
    joinWith sep (a :: ps) = a ++ sep ++ joinWith sep ps := by
  cases ps with
  | nil => exact absurd rfl h
  | cons b bs => simp [joinWith]

/-- Lines after the marked one: nothing changes but the text, which gets the indented lines. -/
theorem run_passed {p : Str} {i n : Nat} {l : Nat} {ms : List Match} {ends : List Nat}
    (h : Chain n l ms ends) : ∀ st : LoopState, i < l → st.last = l → st.text ≠ [] →
      (ms.foldl (step p i) st).line = st.line ∧
      (ms.foldl (step p i) st).col = st.col ∧
      (ms.foldl (step p i) st).text.flatten =
        (sepText st.text).flatten ++ joinWith nl ((ms.map (lineText p)).map (pad ++ ·)) := by
  induction h with
  | @last l hl =>
    intro st hi hlast ht
    have h1 : ¬(n - n = 0 ∧ st.text.length = 0) := by
      intro h; exact ht (List.length_eq_zero_iff.mp h.2)
    have h2 : ¬((st.last ≤ i ∧ i < n) ∨ (n - n = 0 ∧ i = n)) := by omega
    simp only [List.foldl_cons, List.foldl_nil, step_other h1 h2, List.map_cons, List.map_nil,
      joinWith_singleton, lineText, hlast, List.flatten_append, List.flatten_cons,
      List.flatten_nil, List.append_nil, and_self]
  | @cons l s e ms ends h1' h2' _ h3' hc ih =>
    intro st hi hlast ht
    have h1 : ¬(e - s = 0 ∧ st.text.length = 0) := by omega
    have h2 : ¬((st.last ≤ i ∧ i < e) ∨ (e - s = 0 ∧ i = e)) := by omega
    rw [List.foldl_cons, step_other h1 h2]
    have hne : sepText st.text ++ [pad ++ slice p st.last s] ≠ [] := by simp
    obtain ⟨a, b, c⟩ := ih
      ⟨e, st.currentLine + 1, st.col, sepText st.text ++ [pad ++ slice p st.last s], st.line⟩
      (by show i < e; omega) rfl hne
    refine ⟨a, b, ?_⟩
    rw [c, sepText_of_ne hne]
    have hms : (List.map (lineText p) ms).map (pad ++ ·) ≠ [] := by
      simpa using hc.ms_ne_nil
    simp only [List.map_cons, joinWith_cons_ne _ _ hms, lineText, hlast, List.flatten_append,
      List.flatten_cons, List.flatten_nil, List.append_nil, List.append_assoc]

theorem getLast?_cons_getD (e l : Nat) (f : List Nat) :
    (e :: f).getLast?.getD l = f.getLast?.getD e := by
  cases f with
  | nil => simp
  | cons a b =>
    rw [List.getLast?_cons_cons, List.getLast?_eq_some_getLast (List.cons_ne_nil a b)]
    rfl

theorem render_ne_nil (c : Str) (k : Nat) {ts : List Str} (h : ts ≠ []) : render c k ts ≠ [] := by
  cases ts with
  | nil => exact absurd rfl h
  | cons t ts => cases k <;> simp [render]

theorem inner_cons (i l s e : Nat) (ms : List Match) :
    inner i ((l, s, e) :: ms) = ((decide (s < i) && decide (i < e)) || inner i ms) := by
  simp [inner]

/-- The lines from the current one on, when the offset has not been passed yet. -/
theorem run_main {p : Str} {i n : Nat} {l : Nat} {ms : List Match} {ends : List Nat}
    (h : Chain n l ms ends) : ∀ st : LoopState, l ≤ i → i ≤ n → st.last = l →
      (st.text ≠ [] ∨ ends ≠ []) →
      (ms.foldl (step p i) st).line = st.currentLine + (ends.filter (· ≤ i)).length ∧
      (ms.foldl (step p i) st).col = i - (ends.filter (· ≤ i)).getLast?.getD l + 1 ∧
      (ms.foldl (step p i) st).text.flatten =
        (sepText st.text).flatten ++ joinWith nl
          (render (caretLine (i - (ends.filter (· ≤ i)).getLast?.getD l + 1 + 3
                      - (if inner i ms then 1 else 0)))
            (ends.filter (· ≤ i)).length (ms.map (lineText p))) := by
  induction h with
  | @last l hl =>
    intro st hli hin hlast ht
    have ht' : st.text ≠ [] := by
      rcases ht with ht | ht
      · exact ht
      · exact absurd rfl ht
    have h1 : ¬(n - n = 0 ∧ st.text.length = 0) := by
      intro h; exact ht' (List.length_eq_zero_iff.mp h.2)
    have h2 : (st.last ≤ i ∧ i < n) ∨ (n - n = 0 ∧ i = n) := by omega
    have hinn : inner i [(l, n, n)] = false := by simp [inner]; omega
    have hni : ¬ n < i := by omega
    simp only [List.foldl_cons, List.foldl_nil, step_marked h1 h2, List.filter_nil,
      List.length_nil, List.getLast?_nil, Option.getD_none, hinn, hni, if_false,
      List.map_cons, List.map_nil, render, lineText, hlast, Nat.add_zero, Nat.sub_zero,
      joinWith_cons_ne nl _ (List.cons_ne_nil _ _), joinWith_singleton, caretLine,
      List.flatten_append, List.flatten_cons, List.flatten_nil, List.append_nil,
      List.append_assoc, Bool.false_eq_true, and_self]
  | @cons l s e ms ends h1' h2' _ h3' hc ih =>
    intro st hli hin hlast _
    have h1 : ¬(e - s = 0 ∧ st.text.length = 0) := by omega
    by_cases hie : i < e
    · -- the marked line
      have h2 : (st.last ≤ i ∧ i < e) ∨ (e - s = 0 ∧ i = e) := by omega
      rw [List.foldl_cons, step_marked h1 h2]
      have hne : sepText st.text ++ [arrow ++ slice p st.last s] ++
          [nl, List.replicate (i - st.last + 1 + 3 - (if s < i then 1 else 0)) 32 ++ caret]
            ≠ [] := by simp
      obtain ⟨a, b, c⟩ := run_passed (p := p) (i := i) hc
        ⟨e, st.currentLine + 1, i - st.last + 1,
          sepText st.text ++ [arrow ++ slice p st.last s] ++
          [nl, List.replicate (i - st.last + 1 + 3 - (if s < i then 1 else 0)) 32 ++ caret],
          st.currentLine⟩ hie rfl hne
      have hf : (e :: ends).filter (· ≤ i) = [] := by
        rw [List.filter_cons, hc.filter_nil (Nat.le_of_lt hie)]; simp; omega
      have hinn : inner i ((l, s, e) :: ms) = decide (s < i) := by
        rw [inner_cons, hc.inner_false (Nat.le_of_lt hie)]; simp [hie]
      have hms : (List.map (lineText p) ms).map (pad ++ ·) ≠ [] := by
        simpa using hc.ms_ne_nil
      refine ⟨by rw [a, hf]; rfl, by rw [b, hf]; simp [hlast], ?_⟩
      rw [c, sepText_of_ne hne, hf, hinn]
      simp only [List.length_nil, List.getLast?_nil, Option.getD_none, List.map_cons, render,
        lineText, hlast, decide_eq_true_eq,
        joinWith_cons_ne nl _ (List.cons_ne_nil _ _), joinWith_cons_ne nl _ hms, caretLine,
        List.flatten_append, List.flatten_cons, List.flatten_nil, List.append_nil,
        List.append_assoc]
    · -- a line before the marked one
      have h2 : ¬((st.last ≤ i ∧ i < e) ∨ (e - s = 0 ∧ i = e)) := by omega
      rw [List.foldl_cons, step_other h1 h2]
      have hne : sepText st.text ++ [pad ++ slice p st.last s] ≠ [] := by simp
      obtain ⟨a, b, c⟩ := ih
        ⟨e, st.currentLine + 1, st.col, sepText st.text ++ [pad ++ slice p st.last s], st.line⟩
        (by omega) hin rfl (Or.inl hne)
      have hf : (e :: ends).filter (· ≤ i) = e :: ends.filter (· ≤ i) := by
        rw [List.filter_cons]; simp; omega
      have hinn : inner i ((l, s, e) :: ms) = inner i ms := by
        rw [inner_cons]; simp [hie]
      have hr : render (caretLine (i - (ends.filter (· ≤ i)).getLast?.getD e + 1 + 3
            - (if inner i ms then 1 else 0))) (ends.filter (· ≤ i)).length
              (ms.map (lineText p)) ≠ [] :=
        render_ne_nil _ _ (by simpa using hc.ms_ne_nil)
      refine ⟨by rw [a, hf]; simp; omega, by rw [b, hf, getLast?_cons_getD], ?_⟩
      rw [c, sepText_of_ne hne, hf, hinn, getLast?_cons_getD]
      simp only [List.length_cons, List.map_cons, render, lineText, hlast,
        joinWith_cons_ne nl _ hr,
        List.flatten_append, List.flatten_cons, List.flatten_nil, List.append_nil,
        List.append_assoc]

theorem prependFirst_cons (a t : Str) (ts : List Str) :
    prependFirst a (t :: ts) = (a ++ t) :: ts := rfl

theorem prependFirst_ne_nil (a : Str) (l : List Str) : prependFirst a l ≠ [] := by
  cases l <;> simp [prependFirst]

theorem prependFirst_nil_left {l : List Str} (h : l ≠ []) : prependFirst [] l = l := by
  cases l with
  | nil => exact absurd rfl h
  | cons t ts => simp [prependFirst]

theorem prependFirst_prependFirst (a b : Str) (l : List Str) :
    prependFirst a (prependFirst b l) = prependFirst (a ++ b) l := by
  cases l <;> simp [prependFirst]

theorem lines_ne_nil : ∀ s : Str, lines s ≠ [] := by
  intro s
  induction s using unitInduction with
  | nil => simp [ln_nil]
  | unit u r hu _ => simp [ln_unit hu]
  | other c r h1 h2 _ => rw [ln_other c r h1 h2]; exact prependFirst_ne_nil _ _

theorem slice_prefix (pre s : Str) (last : Nat) :
    slice (pre ++ s) last pre.length = pre.drop last := by
  simp [slice]

theorem lineTexts_aux : ∀ (s pre : Str) (last : Nat), last ≤ pre.length →
    (splitLinesAux s pre.length last).map (lineText (pre ++ s))
      = prependFirst (pre.drop last) (lines s) := by
  intro s
  induction s using unitInduction with
  | nil =>
    intro pre last h
    simp [sl_nil, ln_nil, lineText, prependFirst, slice]
  | unit u r hu ih =>
    intro pre last h
    have := ih (pre ++ u) (pre.length + u.length) (by simp)
    simp only [List.length_append, List.append_assoc] at this
    rw [sl_unit hu, ln_unit hu, List.map_cons, this]
    simp [lineText, slice_prefix, prependFirst_cons, prependFirst_nil_left (lines_ne_nil r)]
  | other c r h1 h2 ih =>
    intro pre last h
    have := ih (pre ++ [c]) last (by simp; omega)
    simp only [List.length_append, List.length_cons, List.length_nil, List.append_assoc,
      List.cons_append, List.nil_append] at this
    rw [sl_other _ _ _ _ h1 h2, ln_other _ _ h1 h2, this, prependFirst_prependFirst,
      List.drop_append_of_le_length h]

theorem lineTexts (p : Str) : (splitLines p).map (lineText p) = lines p := by
  have := lineTexts_aux p [] 0 (Nat.le_refl _)
  simpa [splitLines, prependFirst_nil_left (lines_ne_nil p)] using this

theorem get_pre0 (pre r : Str) (c : Nat) : (pre ++ c :: r)[pre.length]? = some c := by
  simp

theorem get_pre1 (pre r : Str) (c : Nat) : (pre ++ c :: r)[pre.length + 1]? = r.head? := by
  rw [List.getElem?_append_right (by omega)]
  have : pre.length + 1 - pre.length = 1 := by omega
  rw [this]
  cases r <;> simp

theorem inner_cons_iff (i l s e : Nat) (ms : List Match) :
    inner i ((l, s, e) :: ms) = true ↔ (s < i ∧ i < e) ∨ inner i ms = true := by
  rw [inner_cons]; simp

/-- At an offset `i` within a unit that starts at `|pre|`: `\r` stands in front of `i` and `\n` at `i` exactly
    when `i` lies strictly inside the unit (which is then `\r\n`). -/
theorem unit_crlf_iff {u r : Str} (hu : BreakUnit u r) (pre : Str) (i : Nat)
    (h1 : pre.length < i) (h2 : i ≤ pre.length + u.length) :
    ((pre ++ (u ++ r))[i - 1]? = some 13 ∧ (pre ++ (u ++ r))[i]? = some 10) ↔
      i < pre.length + u.length := by
  obtain ⟨j, rfl⟩ : ∃ j, i = pre.length + 1 + j := ⟨i - (pre.length + 1), by omega⟩
  rw [show pre.length + 1 + j - 1 = pre.length + j by omega]
  cases hu with
  | crlf =>
    have g1 : (pre ++ 13 :: 10 :: r)[pre.length + 1]? = some 10 := get_pre1 pre (10 :: r) 13
    obtain rfl | rfl : j = 0 ∨ j = 1 := by
      have : pre.length + 1 + j ≤ pre.length + 2 := h2
      omega
    · exact ⟨fun _ => Nat.lt_succ_self _, fun _ => ⟨get_pre0 pre (10 :: r) 13, g1⟩⟩
    · exact ⟨fun h => absurd (g1.symm.trans h.1) (by decide),
        fun (h : pre.length + 1 + 1 < pre.length + 2) => absurd h (Nat.lt_irrefl _)⟩
  | cr r hr =>
    obtain rfl : j = 0 := by
      have : pre.length + 1 + j ≤ pre.length + 1 := h2
      omega
    exact ⟨fun h => absurd ((get_pre1 pre r 13).symm.trans h.2) hr,
      fun (h : pre.length + 1 < pre.length + 1) => absurd h (Nat.lt_irrefl _)⟩
  | lf =>
    obtain rfl : j = 0 := by
      have : pre.length + 1 + j ≤ pre.length + 1 := h2
      omega
    exact ⟨fun h => absurd ((get_pre0 pre r 10).symm.trans h.1) (by decide),
      fun (h : pre.length + 1 < pre.length + 1) => absurd h (Nat.lt_irrefl _)⟩

theorem inner_aux : ∀ (s pre : Str) (last i : Nat),
    inner i (splitLinesAux s pre.length last) = true ↔
      (pre.length < i ∧ (pre ++ s)[i - 1]? = some 13 ∧ (pre ++ s)[i]? = some 10) := by
  intro s
  induction s using unitInduction with
  | nil =>
    intro pre last i
    rw [sl_nil]
    constructor
    · intro h; simp [inner] at h; omega
    · rintro ⟨h1, _, h3⟩
      rw [List.append_nil, List.getElem?_eq_none (by omega)] at h3
      cases h3
  | unit u r hu ih =>
    intro pre last i
    have := ih (pre ++ u) (pre.length + u.length) i
    simp only [List.length_append, List.append_assoc] at this
    rw [sl_unit hu, inner_cons_iff, this]
    by_cases h1 : pre.length < i
    · by_cases h2 : i ≤ pre.length + u.length
      · rw [unit_crlf_iff hu pre i h1 h2]; omega
      · exact ⟨fun h => h.elim (by omega) (fun h => ⟨h1, h.2⟩), fun h => Or.inr ⟨by omega, h.2⟩⟩
    · exact ⟨fun h => h.elim (by omega) (by omega), fun h => absurd h.1 h1⟩
  | other ch r h1 h2 ih =>
    intro pre last i
    have := ih (pre ++ [ch]) last i
    simp only [List.length_append, List.length_cons, List.length_nil, List.append_assoc,
      List.cons_append, List.nil_append] at this
    rw [sl_other _ _ _ _ h1 h2, this]
    have g0 := get_pre0 pre r ch
    constructor
    · rintro ⟨a, b⟩
      exact ⟨by omega, b⟩
    · rintro ⟨a, b, c⟩
      by_cases h1' : i = pre.length + 1
      · subst h1'
        rw [show pre.length + 1 - 1 = pre.length by omega, g0] at b
        simp at b; exact absurd b h1
      · exact ⟨by omega, b, c⟩

theorem inner_splitLines (p : Str) (i : Nat) : inner i (splitLines p) = inCrLf p i := by
  have := inner_aux p [] 0 i
  simp only [List.length_nil, List.nil_append] at this
  rw [Bool.eq_iff_iff]
  simp only [splitLines, this, inCrLf, Bool.and_eq_true, decide_eq_true_eq, beq_iff_eq, and_assoc]

theorem bbr_nil (i : Nat) : breaksBeforeRec [] i = 0 := by simp [breaksBeforeRec]

theorem bbr_unit {u r : Str} (h : BreakUnit u r) (i : Nat) :
    breaksBeforeRec (u ++ r) i = if u.length ≤ i then 1 + breaksBeforeRec r (i - u.length) else 0 := by
  cases h with
  | crlf => simp [breaksBeforeRec]
  | cr r hr =>
    cases r with
    | nil => simp [breaksBeforeRec]
    | cons d r' =>
      have : d ≠ 10 := by simpa using hr
      simp [breaksBeforeRec, this]
  | lf => cases r <;> simp [breaksBeforeRec]

theorem bbr_other (c : Nat) (r : Str) (i : Nat) (h1 : c ≠ 13) (h2 : c ≠ 10) :
    breaksBeforeRec (c :: r) i = if 1 ≤ i then breaksBeforeRec r (i - 1) else 0 := by
  cases r <;> simp [breaksBeforeRec, h1, h2]

theorem be_filter_nil (s : Str) (pos i : Nat) (h : i ≤ pos) :
    (breakEndsFrom pos s).filter (· ≤ i) = [] :=
  (splitLinesAux_chain s pos pos (Nat.le_refl _)).filter_nil h

theorem bb_aux : ∀ (s : Str) (pos i : Nat), pos ≤ i →
    ((breakEndsFrom pos s).filter (· ≤ i)).length = breaksBeforeRec s (i - pos) := by
  intro s
  induction s using unitInduction with
  | nil => intro pos i _; simp [be_nil, bbr_nil]
  | unit u r hu ih =>
    intro pos i h
    rw [be_unit hu, bbr_unit hu, List.filter_cons]
    by_cases h2 : pos + u.length ≤ i
    · have e : i - (pos + u.length) = i - pos - u.length := by omega
      have h2' : u.length ≤ i - pos := by omega
      simp [h2, h2', ih (pos + u.length) i h2, e]; omega
    · have h2' : ¬ u.length ≤ i - pos := by omega
      simp [h2, h2', be_filter_nil r (pos + u.length) i (by omega)]
  | other c r h1 h2 ih =>
    intro pos i h
    rw [be_other _ _ _ h1 h2, bbr_other _ _ _ h1 h2]
    by_cases h3 : pos + 1 ≤ i
    · have e : i - (pos + 1) = i - pos - 1 := by omega
      have h3' : 1 ≤ i - pos := by omega
      simp [h3', ih (pos + 1) i h3, e]
    · have h3' : ¬ 1 ≤ i - pos := by omega
      simp [h3', be_filter_nil r (pos + 1) i (by omega)]

theorem breaksBefore_eq_rec (p : Str) (i : Nat) : breaksBefore p i = breaksBeforeRec p i := by
  have := bb_aux p 0 i (Nat.zero_le _)
  simpa [breaksBefore, breakEnds] using this

theorem breakEnds_filter_self (a : Str) : (breakEnds a).filter (· ≤ a.length) = breakEnds a := by
  rw [List.filter_eq_self]
  intro x hx
  simpa using (splitLines_chain a).ends_le x hx

theorem numLines_eq (p : Str) : numLines p = (breakEnds p).length + 1 := by
  rw [numLines, ← lineTexts, List.length_map, (splitLines_chain p).length_eq]

theorem lineStart_le (p : Str) (i : Nat) : lineStart p i ≤ i := by
  unfold lineStart
  cases h : ((breakEnds p).filter (· ≤ i)).getLast? with
  | none => simp
  | some x =>
    have := List.mem_of_getLast? h
    simp at this
    simpa using this.2

theorem slice_all (p : Str) : slice p 0 p.length = p := by simp [slice]

/-- A pattern without a line break: first branch of the loop, once. -/
theorem gpc_single (p : Str) (i : Nat) (hb : breakEnds p = []) :
    getPatternContext p i = (p ++ [10] ++ caretLine i, 1, i + 1) := by
  have hc := splitLines_chain p
  rw [hb] at hc
  have hms : splitLines p = [(0, p.length, p.length)] := hc.of_ends_nil rfl
  unfold getPatternContext
  simp only [hms, List.foldl_cons, List.foldl_nil]
  rw [step_first (by simp [LoopState.init])]
  simp [LoopState.init, sepText, slice_all, caretLine, nl, caret]

theorem gpc_multi (p : Str) (i : Nat) (hi : i ≤ p.length) (hb : breakEnds p ≠ []) :
    getPatternContext p i =
      (joinWith [10] (render
          (caretLine (4 + (i - lineStart p i + 1) - 1 - (if inCrLf p i then 1 else 0)))
          (breaksBefore p i) (lines p)),
        1 + breaksBefore p i, i - lineStart p i + 1) := by
  rw [show ∀ x : Nat, 4 + (i - lineStart p i + 1) - 1 - x = i - lineStart p i + 1 + 3 - x from
    fun x => by omega]
  obtain ⟨a, b, c⟩ := run_main (p := p) (i := i) (splitLines_chain p) LoopState.init
    (Nat.zero_le _) hi rfl (Or.inr hb)
  show ((List.foldl (step p i) LoopState.init (splitLines p)).text.flatten,
    (List.foldl (step p i) LoopState.init (splitLines p)).line,
    (List.foldl (step p i) LoopState.init (splitLines p)).col) = _
  rw [a, b, c, lineTexts, inner_splitLines]
  simp only [breaksBefore, lineStart, LoopState.init, sepText, List.length_nil, ne_eq,
    not_true_eq_false, if_false, List.flatten_nil, List.nil_append]

end CtxLemmas
end SoupVerif
