/-
  For `Properties/C19`: substring tests, the `next_good` loop of `Model/TextWalk.lean` against the structural
  walk, the structural walk against `Loc.descendants`, and the structural text specification.  Defines the
  vocabulary of those statements: `keep` (what `tags` lets through), `cutLoc` / `cutOf` (the iframe cut).
-/
import SoupVerif.Model.TextWalk
import SoupVerif.Spec.Text
import SoupVerif.Lemmas.TreeWalk
namespace SoupVerif
namespace TextLemmas
open TextWalk Spec

theorem isInfix_iff (t s : Str) : isInfix t s = true ↔ t <:+: s := by
  induction s with
  | nil =>
    unfold isInfix
    cases t <;> simp
  | cons c s ih =>
    unfold isInfix
    rw [Bool.or_eq_true, ih, List.isPrefixOf_iff_prefix, List.infix_cons_iff]

theorem occursInB_eq_isInfix (t s : Str) : Spec.occursInB t s = isInfix t s := by
  induction s with
  | nil => unfold Spec.occursInB isInfix; rfl
  | cons c s ih => unfold Spec.occursInB isInfix; rw [ih]

theorem occursIn_iff_infix (t s : Str) : Spec.occursIn t s ↔ t <:+: s := by
  constructor
  · rintro ⟨pre, post, h⟩; exact ⟨pre, post, h.symm⟩
  · rintro ⟨pre, post, h⟩; exact ⟨pre, post, h.symm⟩

theorem isInfix_iff_occursIn (t s : Str) : isInfix t s = true ↔ Spec.occursIn t s := by
  rw [isInfix_iff, occursIn_iff_infix]

mutual
theorem length_preorderNode (cut : Elem → Bool) : ∀ n : Node,
    (preorderNode cut n).length = 1 + size n
  | .elem e kids => by
    unfold preorderNode size
    simp [length_preorderKids cut kids]; omega
  | .str k s => by unfold preorderNode size; simp
theorem length_preorderKids (cut : Elem → Bool) : ∀ ks : List Node,
    (preorderKids cut ks).length = sizeKids ks
  | [] => by unfold preorderKids sizeKids; rfl
  | k :: ks => by
    unfold preorderKids sizeKids
    simp [length_preorderNode cut k, length_preorderKids cut ks]
end

theorem skipLoop_nil (tags : Bool) (total i : Nat) (ng : Option Nat) :
    skipLoop tags total i ng [] = [] := by
  unfold skipLoop; rfl

/-- `child is not next_good`: `continue`. -/
theorem skipLoop_skip1 (tags : Bool) (total i g : Nat) (en : Entry) (rest : List Entry) (h : i ≠ g) :
    skipLoop tags total i (some g) (en :: rest) = skipLoop tags total (i + 1) (some g) rest := by
  conv => lhs; unfold skipLoop
  have : (i == g) = false := by simpa using h
  simp [this]

/-- `child is next_good`: `next_good = None` and the body runs as if it had been `None`. -/
theorem skipLoop_some_self (tags : Bool) (total g : Nat) (L : List Entry) :
    skipLoop tags total g (some g) L = skipLoop tags total g none L := by
  cases L with
  | nil => simp [skipLoop_nil]
  | cons en rest =>
    conv => lhs; unfold skipLoop
    conv => rhs; unfold skipLoop
    simp

/-- The filter of `get_descendants(…, tags)`: with `tags` only elements are yielded, without it every node. -/
def keep (tags : Bool) (n : Node) : Bool := n.isTag || !tags

theorem skipLoop_none_tag_cut (tags : Bool) (total i : Nat) (en : Entry) (rest : List Entry)
    (h1 : en.node.isTag = true) (h2 : en.isIframeCut = true) :
    skipLoop tags total i none (en :: rest) =
      en.node :: (if total ≤ i + 1 + en.subtreeSize then []
                  else skipLoop tags total (i + 1) (some (i + 1 + en.subtreeSize)) rest) := by
  conv => lhs; unfold skipLoop
  simp [h1, h2]

theorem skipLoop_none_tag_plain (tags : Bool) (total i : Nat) (en : Entry) (rest : List Entry)
    (h1 : en.node.isTag = true) (h2 : en.isIframeCut = false) :
    skipLoop tags total i none (en :: rest) = en.node :: skipLoop tags total (i + 1) none rest := by
  conv => lhs; unfold skipLoop
  simp [h1, h2]

theorem skipLoop_none_str (tags : Bool) (total i : Nat) (en : Entry) (rest : List Entry)
    (h1 : en.node.isTag = false) :
    skipLoop tags total i none (en :: rest) =
      (if tags then [] else [en.node]) ++ skipLoop tags total (i + 1) none rest := by
  conv => lhs; unfold skipLoop
  cases tags <;> simp [h1]

/-- Skipping a whole stretch: while `next_good` lies beyond, nothing is yielded. -/
theorem skipLoop_skip (tags : Bool) (total : Nat) (tail : List Entry) :
    ∀ (sub : List Entry) (j : Nat),
      skipLoop tags total j (some (j + sub.length)) (sub ++ tail) =
        skipLoop tags total (j + sub.length) (some (j + sub.length)) tail := by
  intro sub
  induction sub with
  | nil => intro j; simp
  | cons en sub ih =>
    intro j
    rw [List.cons_append, skipLoop_skip1 _ _ _ _ _ _ (by simp)]
    have h : j + (en :: sub).length = (j + 1) + sub.length := by simp; omega
    rw [h]
    exact ih (j + 1)

theorem entryOf_node (cut : Elem → Bool) (n : Node) : (entryOf cut n).node = n := rfl
theorem entryOf_size (cut : Elem → Bool) (n : Node) : (entryOf cut n).subtreeSize = size n := rfl
theorem entryOf_cut_elem (cut : Elem → Bool) (e : Elem) (ks : List Node) :
    (entryOf cut (.elem e ks)).isIframeCut = cut e := rfl

mutual
/-- Invariant of the loop across one node and its subtree. -/
theorem skipLoop_node (cut : Elem → Bool) (tags : Bool) : ∀ (k : Node) (total i : Nat) (tail : List Entry),
    total = i + (1 + size k) + tail.length →
    skipLoop tags total i none (preorderNode cut k ++ tail) =
      (k :: cutWalkNode cut k).filter (keep tags) ++ skipLoop tags total (i + 1 + size k) none tail
  | .elem e kids, total, i, tail, htot => by
    unfold preorderNode
    rw [List.cons_append]
    cases hc : cut e with
    | true =>
      rw [skipLoop_none_tag_cut _ _ _ _ _ rfl (by rw [entryOf_cut_elem, hc])]
      rw [entryOf_node, entryOf_size]
      unfold cutWalkNode
      simp only [hc, if_true]
      have hk : keep tags (.elem e kids) = true := by simp [keep, Node.isTag]
      simp only [List.filter_cons, hk, if_true, List.filter_nil, List.cons_append, List.nil_append]
      congr 1
      split
      · rename_i hle
        have : tail.length = 0 := by omega
        have : tail = [] := List.eq_nil_of_length_eq_zero this
        subst this
        rw [skipLoop_nil]
      · have hs : size (.elem e kids) = (preorderKids cut kids).length := by
          rw [length_preorderKids]; unfold size; rfl
        rw [hs, Nat.add_assoc i 1, ← Nat.add_assoc, skipLoop_skip, skipLoop_some_self]
    | false =>
      rw [skipLoop_none_tag_plain _ _ _ _ _ rfl (by rw [entryOf_cut_elem, hc])]
      rw [entryOf_node]
      have hs : size (.elem e kids) = sizeKids kids := by unfold size; rfl
      rw [skipLoop_kids cut tags kids total (i + 1) tail (by rw [htot, hs]; omega)]
      unfold cutWalkNode
      have hk : keep tags (.elem e kids) = true := by simp [keep, Node.isTag]
      simp only [hc, Bool.false_eq_true, if_false, List.filter_cons, hk, if_true, List.cons_append, hs]
  | .str k s, total, i, tail, _ => by
    unfold preorderNode
    rw [List.cons_append, List.nil_append, skipLoop_none_str _ _ _ _ _ rfl, entryOf_node]
    have hs : size (.str k s) = 0 := by unfold size; rfl
    unfold cutWalkNode
    rw [hs]
    cases tags <;> simp [keep, Node.isTag]
theorem skipLoop_kids (cut : Elem → Bool) (tags : Bool) : ∀ (ks : List Node) (total i : Nat) (tail : List Entry),
    total = i + sizeKids ks + tail.length →
    skipLoop tags total i none (preorderKids cut ks ++ tail) =
      (cutWalkKids cut ks).filter (keep tags) ++ skipLoop tags total (i + sizeKids ks) none tail
  | [], total, i, tail, _ => by
    unfold preorderKids cutWalkKids sizeKids
    simp
  | k :: ks, total, i, tail, htot => by
    have hs : sizeKids (k :: ks) = 1 + size k + sizeKids ks := by
      conv => lhs; unfold sizeKids
    unfold preorderKids cutWalkKids
    rw [List.append_assoc]
    rw [skipLoop_node cut tags k total i (preorderKids cut ks ++ tail)
      (by rw [htot, hs, List.length_append, length_preorderKids]; omega)]
    rw [skipLoop_kids cut tags ks total (i + 1 + size k) tail (by rw [htot, hs]; omega)]
    rw [List.filter_append, List.append_assoc, hs]
    congr 3
    omega
end

theorem filter_keep_false (l : List Node) : l.filter (keep false) = l :=
  List.filter_eq_self.mpr fun n _ => by simp [keep]

theorem keep_true : keep true = Node.isTag := by
  funext n; simp [keep]

theorem skipWalkT_preorder (cut : Elem → Bool) (tags : Bool) (n : Node) :
    skipWalkT tags (preorder cut n) = (cutWalkKids cut n.kids).filter (keep tags) := by
  unfold skipWalkT preorder
  have := skipLoop_kids cut tags n.kids (preorderKids cut n.kids).length 0 []
    (by rw [length_preorderKids]; simp)
  rw [List.append_nil] at this
  rw [this, skipLoop_nil, List.append_nil]

/-- `no_iframe and self.is_iframe(d)` on a location. -/
def cutLoc (cut : Elem → Bool) (d : Loc) : Bool :=
  match d.focus with
  | .elem e _ => cut e
  | .str _ _ => false

theorem desc_focus (cut : Elem → Bool) (enter : Loc → Bool) (henter : ∀ d, enter d = !cutLoc cut d) :
    (∀ (e : Elem) (up : List Frame) (left ks : List Node),
        (descAux enter e up left ks).map Loc.focus = cutWalkKids cut ks) ∧
    (∀ (n : Node) (up : List Frame) (self : Loc), self.focus = n →
        (descNode enter n up self).map Loc.focus = cutWalkNode cut n) := by
  apply descAux.mutual_induct enter
    (fun e up left ks => (descAux enter e up left ks).map Loc.focus = cutWalkKids cut ks)
    (fun n up self => self.focus = n → (descNode enter n up self).map Loc.focus = cutWalkNode cut n)
  · intro up self e ks hent ih hf
    rw [descNode_elem, if_pos hent, ih]
    rw [henter] at hent
    unfold cutLoc at hent
    rw [hf] at hent
    unfold cutWalkNode
    simp only [Bool.not_eq_true'] at hent
    simp [hent]
  · intro up self e ks hent hf
    rw [descNode_elem, if_neg hent]
    rw [henter] at hent
    unfold cutLoc at hent
    rw [hf] at hent
    unfold cutWalkNode
    simp only [Bool.not_eq_true', Bool.not_eq_false] at hent
    simp [hent]
  · intro up self k s _
    rw [descNode_str]; unfold cutWalkNode; rfl
  · intro e up left
    rw [descAux_nil]; unfold cutWalkKids; rfl
  · intro e up left k right here ih2 ih1
    rw [descAux_cons]
    conv => rhs; unfold cutWalkKids
    rw [List.map_append, List.map_cons, ih1, ih2 rfl]

theorem Loc.descendants_focus (cut : Elem → Bool) (enter : Loc → Bool)
    (henter : ∀ d, enter d = !cutLoc cut d) (l : Loc) :
    (l.descendants enter).map Loc.focus = cutWalkKids cut l.focus.kids := by
  unfold Loc.descendants
  split
  · rename_i e ks hf
    rw [hf]; exact (desc_focus cut enter henter).1 e l.up [] ks
  · rename_i k s hf
    rw [hf]; unfold Node.kids cutWalkKids; rfl

/-- The cut the matcher uses: `no_iframe and self.is_iframe(e)`. -/
def cutOf (c : Ctx) (noIframe : Bool) : Elem → Bool := fun e => noIframe && c.isIframe e

theorem cutLoc_cutOf (c : Ctx) (ni : Bool) (d : Loc) : cutLoc (cutOf c ni) d = (ni && c.locIsIframe d) := by
  unfold cutLoc cutOf Ctx.locIsIframe Loc.elem? Node.elem?
  cases d.focus <;> simp

theorem cutWalkNode_eq (cut : Elem → Bool) (n : Node) :
    cutWalkNode cut n = (match n with
      | .elem e ks => if cut e then [] else cutWalkKids cut ks
      | .str _ _ => []) := by
  cases n <;> (unfold cutWalkNode; rfl)

theorem Ctx.descendants_focus (c : Ctx) (l : Loc) (ni : Bool) :
    (c.descendants l ni).map Loc.focus = cutWalkNode (cutOf c ni) l.focus := by
  unfold Ctx.descendants
  rw [← cutLoc_cutOf, apply_ite (List.map Loc.focus),
    Loc.descendants_focus (cutOf c ni) _ (fun d => by rw [cutLoc_cutOf]), cutWalkNode_eq, cutLoc]
  cases l.focus <;> rfl

theorem filter_flatMap_focus (p : Node → Bool) (g : Node → Str) (L : List Loc) :
    (L.filter (fun d => p d.focus)).flatMap (fun d => g d.focus) =
      ((L.map Loc.focus).filter p).flatMap g := by
  induction L with
  | nil => rfl
  | cons d L ih =>
    simp only [List.filter_cons, List.map_cons]
    cases p d.focus <;> simp [ih]

theorem filter_map_focus (p : Node → Bool) (g : Node → Str) (L : List Loc) :
    (L.filter (fun d => p d.focus)).map (fun d => g d.focus) =
      ((L.map Loc.focus).filter p).map g := by
  induction L with
  | nil => rfl
  | cons d L ih =>
    simp only [List.filter_cons, List.map_cons]
    cases p d.focus <;> simp [ih]

mutual
theorem text_cutWalkNode (cut : Elem → Bool) : ∀ k : Node,
    ((k :: cutWalkNode cut k).filter Node.isContentString).flatMap Node.strVal = textOfNode cut k
  | .elem e kids => by
    unfold cutWalkNode textOfNode
    simp only [List.filter_cons, Node.isContentString, Bool.false_eq_true, if_false]
    split
    · rfl
    · exact text_cutWalkKids cut kids
  | .str k s => by
    unfold cutWalkNode
    cases k <;> first | rfl | exact List.append_nil s
theorem text_cutWalkKids (cut : Elem → Bool) : ∀ ks : List Node,
    ((cutWalkKids cut ks).filter Node.isContentString).flatMap Node.strVal = textOfKids cut ks
  | [] => by unfold cutWalkKids textOfKids; rfl
  | k :: ks => by
    unfold cutWalkKids textOfKids
    rw [List.filter_append, List.flatMap_append, text_cutWalkNode cut k, text_cutWalkKids cut ks]
end

theorem text_cutWalkNode_top (cut : Elem → Bool) (n : Node) :
    ((cutWalkNode cut n).filter Node.isContentString).flatMap Node.strVal = textOf cut n := by
  rw [cutWalkNode_eq]
  cases n with
  | elem e ks =>
    simp only [textOf]
    split
    · rfl
    · exact text_cutWalkKids cut ks
  | str k s => rfl

theorem ownTexts_kids (ks : List Node) :
    (ks.filter Node.isContentString).map Node.strVal = ks.filterMap ownTextOfChild := by
  induction ks with
  | nil => rfl
  | cons k ks ih =>
    cases k with
    | elem e sub => simpa [Node.isContentString, List.filterMap_cons, ownTextOfChild] using ih
    | str kind s =>
      cases kind
      case text =>
        show Node.strVal (.str .text s) :: List.map Node.strVal (List.filter Node.isContentString ks) = _
        rw [ih]; rfl
      all_goals exact ih

theorem eraseSpecialKids_eq_map (ks : List Node) : eraseSpecialKids ks = ks.map eraseSpecial := by
  induction ks with
  | nil => unfold eraseSpecialKids; rfl
  | cons k ks ih => unfold eraseSpecialKids; rw [ih]; rfl

theorem eraseSpecial_elem (e : Elem) (ks : List Node) :
    eraseSpecial (.elem e ks) = .elem e (eraseSpecialKids ks) := by
  conv => lhs; unfold eraseSpecial

theorem eraseSpecial_str_text (s : Str) : eraseSpecial (.str .text s) = .str .text s := rfl

theorem eraseSpecial_str_special (k : StrKind) (s : Str) (h : k ≠ .text) :
    eraseSpecial (.str k s) = .str k [] := by
  cases k <;> first | exact absurd rfl h | rfl

mutual
theorem textOfNode_erase (cut : Elem → Bool) : ∀ n : Node,
    textOfNode cut (eraseSpecial n) = textOfNode cut n
  | .elem e kids => by
    rw [eraseSpecial_elem]
    unfold textOfNode
    rw [textOfKids_erase cut kids]
  | .str k s => by cases k <;> rfl
theorem textOfKids_erase (cut : Elem → Bool) : ∀ ks : List Node,
    textOfKids cut (eraseSpecialKids ks) = textOfKids cut ks
  | [] => by unfold eraseSpecialKids; rfl
  | k :: ks => by
    unfold eraseSpecialKids textOfKids
    rw [textOfNode_erase cut k, textOfKids_erase cut ks]
end

/-! What looks at a string node through its kind, and at its payload only if it is text, does not see the
    erasure: on a string node each of the following is `rfl` kind by kind. -/

theorem textOf_erase (cut : Elem → Bool) (n : Node) : textOf cut (eraseSpecial n) = textOf cut n := by
  cases n with
  | elem e ks => rw [eraseSpecial_elem]; simp only [textOf, textOfKids_erase]
  | str k s => cases k <;> rfl

theorem ownTextOfChild_erase (k : Node) : ownTextOfChild (eraseSpecial k) = ownTextOfChild k := by
  cases k with
  | elem e ks => rw [eraseSpecial_elem]; rfl
  | str kind s => cases kind <;> rfl

theorem ownTexts_erase (cut : Elem → Bool) (n : Node) : ownTexts cut (eraseSpecial n) = ownTexts cut n := by
  cases n with
  | elem e ks =>
    rw [eraseSpecial_elem]
    simp only [ownTexts]
    split
    · rfl
    · rw [eraseSpecialKids_eq_map, List.filterMap_map]
      congr 1
      funext k
      exact ownTextOfChild_erase k
  | str k s => cases k <;> rfl

theorem blocksEmpty_erase (k : Node) : blocksEmpty (eraseSpecial k) = blocksEmpty k := by
  cases k with
  | elem e ks => rw [eraseSpecial_elem]; rfl
  | str kind s => cases kind <;> rfl

theorem kids_erase (n : Node) : (eraseSpecial n).kids = n.kids.map eraseSpecial := by
  cases n with
  | elem e ks => rw [eraseSpecial_elem]; simp [Node.kids, eraseSpecialKids_eq_map]
  | str k s => cases k <;> rfl

theorem isEmptyElem_erase (n : Node) : isEmptyElem (eraseSpecial n) = isEmptyElem n := by
  unfold isEmptyElem
  rw [kids_erase, List.any_map]
  congr 2
  funext k
  exact blocksEmpty_erase k

theorem elem?_erase (n : Node) : (eraseSpecial n).elem? = n.elem? := by
  cases n with
  | elem e ks => rw [eraseSpecial_elem]; rfl
  | str k s => cases k <;> rfl

end TextLemmas
end SoupVerif
