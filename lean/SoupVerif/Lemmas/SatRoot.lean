/-
  `:root`: the matcher's notion (`matchRoot`: the element `CSSMatch.__init__` found, or the child of
  an `iframe` in HTML, and no sibling that is an element, non-blank text or CDATA) against the
  specification's ("an element with no parent element"): as a checkable condition on one tree
  (`SatRoot.RootAgrees`, `rootCheck`), and from explicit conditions on the tree `CSSMatch.__init__` is given
  (`SatRootCond.rootAgrees_of_conditions`, second half of the file).
-/
import SoupVerif.Lemmas.SatTree
import SoupVerif.Model.Api
namespace SoupVerif
namespace SatRoot
open Css SatTree

/-- The matcher's `:root` agrees with "no parent element" on every element of the tree `T`. -/
def RootAgrees (c : Ctx) (T : Loc) : Prop :=
  ∀ l, l.top = T → isElem l = true → matchRoot c l = isRootElem l

/-- The same as a finite check over the tree. -/
def rootCheck (c : Ctx) (T : Loc) : Bool :=
  (T :: T.descendants (fun _ => true)).all fun l => !isElem l || (matchRoot c l == isRootElem l)

theorem rootAgrees_of_check (c : Ctx) (T : Loc) (h : rootCheck c T = true) : RootAgrees c T := by
  intro l hT hel
  have := List.all_eq_true.mp h l ((mem_tree_iff T l).mpr (in_tree l T hT))
  simpa [hel] using this

end SatRoot

/-!
  `:root`: explicit conditions on a tree under which the matcher's notion agrees with
  "an element with no parent element" (`SatRoot.RootAgrees`), for the context `CSSMatch.__init__`
  builds (`mkCtx`):
    (1) the only document object is the top of the tree;
    (2) no element sits directly below an `iframe` element of an HTML document (the matcher treats
        the content of an `iframe` as a document of its own);
    (3) when the top is the document object, at most one of its children is an element, a text
        node with non-blank content or a CDATA section (the matcher refuses `:root` to an element
        that has such a sibling — e.g. a fragment with two top-level elements has no `:root`).
  Condition (3) is necessary: see the two-element fragment and the `<html></html>x` example of
  `Properties/C01Sat`.
-/
namespace SatRootCond
open Css SatTree SatRoot

theorem mkCtx_root (E : Env) (isXml : Bool) (ns : List (Str × Str)) (scope : Loc) :
    (mkCtx E isXml ns scope).root =
      if !scope.top.isDoc then some scope.top else scope.top.children.find? Loc.isTag := rfl

theorem root_depth (E : Env) (isXml : Bool) (ns : List (Str × Str)) (scope r : Loc)
    (h : (mkCtx E isXml ns scope).root = some r) : r.up.length ≤ 1 := by
  rw [mkCtx_root] at h
  split at h
  · simp only [Option.some.injEq] at h; subst h; rw [Loc.top_up]; simp
  · have hm := List.mem_of_find?_eq_some h
    rw [child_up_length _ _ hm, Loc.top_up]; simp

theorem rootAgrees_of_conditions (E : Env) (isXml : Bool) (ns : List (Str × Str)) (scope : Loc)
    (hdoc : ∀ n : Loc, n.top = scope.top → n.isDoc = true → n.up = [])
    (hifr : ∀ l p : Loc, l.top = scope.top → l.parent? = some p →
      ((mkCtx E isXml ns scope).isHtml && (mkCtx E isXml ns scope).locIsIframe p) = false)
    (hone : scope.top.isDoc = true →
      (scope.top.children.filter (fun s => blocksRoot s.focus)).length ≤ 1) :
    RootAgrees (mkCtx E isXml ns scope) scope.top := by
  intro l hT hel
  have htag : l.focus.isTag = true := hel
  -- by the depth of `l`: the top, a child of the top, or deeper — where `l` has a parent element on the
  -- specification's side and cannot be the root `mkCtx` found (depth ≤ 1) on the matcher's
  cases hup : l.up with
  | nil =>
    -- `l` is the top of the tree
    have hl : l = scope.top := by rw [← hT, Loc.top_of_up_nil l hup]
    obtain ⟨hprev, hnext⟩ := siblings_nil_of_top l hup
    have hpar : l.parent? = none := (parent?_none_iff l).mpr hup
    simp only [matchRoot, Ctx.isRoot, hprev, hnext, hpar, List.any_nil, Bool.not_false,
      Bool.and_true, Bool.or_false, isRootElem, parentElem, hup, Option.isNone_none]
    rw [mkCtx_root, ← hl]
    cases hd : l.isDoc with
    | false => simp [same_self]
    | true =>
      simp only [Bool.not_true, Bool.false_eq_true, if_false]
      cases hfind : l.children.find? Loc.isTag with
      | none => rfl
      | some r =>
        have hm := List.mem_of_find?_eq_some hfind
        have := child_up_length l r hm
        simp only
        exact same_false_of_length (by omega)
  | cons f rest =>
    have hne : l.up ≠ [] := by rw [hup]; simp
    have hldoc : l.isDoc = false := by
      cases h : l.isDoc with
      | false => rfl
      | true => exact absurd (hdoc l hT h) hne
    have hpar : l.parent? = some ⟨Loc.plug f l.focus, rest⟩ := by
      unfold Loc.parent?; rw [hup]
    have hptop : (⟨Loc.plug f l.focus, rest⟩ : Loc).top = scope.top := by
      rw [← top_parent l _ hpar]; exact hT
    have hi := hifr l _ hT hpar
    have hpdoc : (⟨Loc.plug f l.focus, rest⟩ : Loc).isDoc = f.info.isDoc := rfl
    simp only [matchRoot, Ctx.isRoot, hpar, hi, Bool.or_false, isRootElem, parentElem, hup, hldoc,
      Bool.not_false, Bool.true_and]
    cases hrest : rest with
    | nil =>
      -- `l` is a child of the top
      subst hrest
      have hp : (⟨Loc.plug f l.focus, []⟩ : Loc) = scope.top := by
        rw [← hptop, Loc.top_of_up_nil _ rfl]
      have hch := parent?_children l _ hpar
      rw [hp] at hch
      rw [mkCtx_root]
      cases hfd : f.info.isDoc with
      | true =>
        have htd : scope.top.isDoc = true := by rw [← hp, hpdoc, hfd]
        have hb := hone htd
        rw [hch] at hb
        have hlb : blocksRoot l.focus = true := by simp [blocksRoot, htag]
        obtain ⟨hA, hB⟩ := filter_len_le_one_split (fun s => blocksRoot s.focus) _ _ l hlb hb
        have hAtag : ∀ a ∈ l.prevSiblings.reverse, Loc.isTag a = false := by
          intro a ha
          have := hA a ha
          simp only [blocksRoot, Bool.or_eq_false_iff] at this
          exact this.1.1
        have hfind : scope.top.children.find? Loc.isTag = some l := by
          rw [hch]; exact find?_split _ _ _ l htag hAtag
        simp only [htd, Bool.not_true, Bool.false_eq_true, if_false, hfind, same_self, Bool.true_and,
          if_true, Option.isNone_none]
        have h1 : l.prevSiblings.any (fun s => blocksRoot s.focus) = false := by
          rw [List.any_eq_false]; intro a ha
          simpa using hA a (List.mem_reverse.mpr ha)
        have h2 : l.nextSiblings.any (fun s => blocksRoot s.focus) = false := by
          rw [List.any_eq_false]; intro a ha
          simpa using hB a ha
        simp [h1, h2]
      | false =>
        have htd : scope.top.isDoc = false := by rw [← hp, hpdoc, hfd]
        simp only [htd, Bool.not_false, if_true, Bool.false_eq_true, if_false, Option.isNone_some]
        have : scope.top.same l = false := by
          apply same_false_of_length
          rw [Loc.top_up, hup]; simp
        simp [this]
    | cons g rest' =>
      -- deeper: the parent is an element, and `l` is not the root `mkCtx` found
      subst hrest
      have hpd : f.info.isDoc = false := by
        cases h : f.info.isDoc with
        | false => rfl
        | true =>
          have := hdoc _ hptop (by rw [hpdoc, h])
          simp at this
      simp only [hpd, Bool.false_eq_true, if_false, Option.isNone_some]
      cases hr : (mkCtx E isXml ns scope).root with
      | none => simp
      | some r =>
        have hd := root_depth E isXml ns scope r hr
        have : r.same l = false := by
          apply same_false_of_length
          rw [hup]; simp; omega
        simp [this]

end SatRootCond

end SoupVerif
