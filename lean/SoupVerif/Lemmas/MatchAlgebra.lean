/-
  The matcher as an algebra of Boolean tests.  Per field of the IR: what the test does on the empty list, on a
  cons and on an append (`matchAny`, `matchSubs`, `matchNths`, `matchId`, `matchClasses`, `matchAttributes`,
  `matchContains`, the `lang` guard, the flag tests).  `matchList_mk`: a selector list.  `matchSel_mk`: a compound is
  its type selector, its simple selectors (`simplePart`, multiplicative: `simplePart_append`) and its relation
  (`SatCore.relOk`).  Proofs about the hand model go through these equations; `matchSel` itself is unfolded here and
  in `Properties/C01GenMatch` (the translated `match_selectors` against it).  The file opens with the definition
  `Ctx.htmlOnly`, the context the built-in HTML-only selector lists are evaluated under, and ends with `matchEl` as
  `matchList` on an element and `match_lang` for one `:lang(…)` (`C13Parse.matchLang_one`).
-/
import SoupVerif.Model.Api
namespace SoupVerif

/-- The context an HTML-only selector list is evaluated under (`self.namespaces = {'html': NS_XHTML}`,
    `self.iframe_restrict = True`). -/
def Ctx.htmlOnly (c : Ctx) : Ctx :=
  { c with namespaces := [("html".toStr, NS_XHTML)], iframeRestrict := true }

theorem Ctx.htmlOnly_idem (c : Ctx) : c.htmlOnly.htmlOnly = c.htmlOnly := rfl

theorem matchTag_none (c : Ctx) (e : Elem) : matchTag c e none = true := rfl

theorem matchTagname_star (c : Ctx) (e : Elem) (p : Option Str) : matchTagname c e ⟨[42], p⟩ = true := by
  have hl : lower [42] = [42] := by decide
  unfold matchTagname
  cases c.isXml <;> simp [hl] <;> (right; decide)

theorem matchAny_nil (c : Ctx) (l : Loc) (e : Elem) : matchAny c l e [] = false := by
  unfold matchAny; rfl

theorem matchAny_cons (c : Ctx) (l : Loc) (e : Elem) (s : Sel) (rest : List Sel) :
    matchAny c l e (s :: rest) = (matchSel c l e s || matchAny c l e rest) := by
  conv => lhs; unfold matchAny

theorem matchSubs_nil (c : Ctx) (l : Loc) (e : Elem) : matchSubs c l e [] = true := by
  unfold matchSubs; rfl

theorem matchSubs_cons (c : Ctx) (l : Loc) (e : Elem) (s : SelList) (rest : List SelList) :
    matchSubs c l e (s :: rest) = (matchList c l e s && matchSubs c l e rest) := by
  conv => lhs; unfold matchSubs

theorem matchSel_null (c : Ctx) (l : Loc) (e : Elem) : matchSel c l e .null = false := by
  unfold matchSel; rfl

theorem sameType_refl (c : Ctx) (e : Elem) : sameType c e e = true := by
  simp [sameType]

theorem matchNths_nil (c : Ctx) (l : Loc) (e : Elem) : matchNths c l e [] = true := by
  unfold matchNths; rfl

/-- The `for selector in selectors … break` loop is an existential: `any`. -/
theorem matchAny_eq_any (c : Ctx) (l : Loc) (e : Elem) (A : List Sel) :
    matchAny c l e A = A.any (matchSel c l e) := by
  induction A with
  | nil => simp [matchAny_nil]
  | cons s rest ih => simp [matchAny_cons, ih]

/-- `match_subselectors` is a universal: `all`. -/
theorem matchSubs_eq_all (c : Ctx) (l : Loc) (e : Elem) (S : List SelList) :
    matchSubs c l e S = S.all (matchList c l e) := by
  induction S with
  | nil => simp [matchSubs_nil]
  | cons s rest ih => simp [matchSubs_cons, ih]

theorem matchAny_append (c : Ctx) (l : Loc) (e : Elem) (A B : List Sel) :
    matchAny c l e (A ++ B) = (matchAny c l e A || matchAny c l e B) := by
  simp [matchAny_eq_any]

theorem matchSubs_append (c : Ctx) (l : Loc) (e : Elem) (S T : List SelList) :
    matchSubs c l e (S ++ T) = (matchSubs c l e S && matchSubs c l e T) := by
  simp [matchSubs_eq_all]

theorem matchAny_perm (c : Ctx) (l : Loc) (e : Elem) {A B : List Sel} (h : List.Perm A B) :
    matchAny c l e A = matchAny c l e B := by
  induction h with
  | nil => rfl
  | cons x _ ih => simp [matchAny_cons, ih]
  | swap x y t => simp only [matchAny_cons]; cases matchSel c l e x <;> cases matchSel c l e y <;> rfl
  | trans _ _ ih1 ih2 => exact ih1.trans ih2

theorem SatCore.matchNths_cons (c : Ctx) (l : Loc) (e : Elem) (n : NthSel) (rest : List NthSel) :
    matchNths c l e (n :: rest) = (matchNth c l e n && matchNths c l e rest) := by
  conv => lhs; unfold matchNths

theorem SatCore.matchNths_append (c : Ctx) (l : Loc) (e : Elem) (A B : List NthSel) :
    matchNths c l e (A ++ B) = (matchNths c l e A && matchNths c l e B) := by
  induction A with
  | nil => simp [matchNths_nil]
  | cons n rest ih => simp [SatCore.matchNths_cons, ih, Bool.and_assoc]

theorem SatCore.matchId_nil (c : Ctx) (e : Elem) : matchId c e [] = true := rfl
theorem SatCore.matchClasses_nil (c : Ctx) (e : Elem) : matchClasses c e [] = true := rfl

theorem SatCore.matchId_append (c : Ctx) (e : Elem) (A B : List Str) :
    matchId c e (A ++ B) = (matchId c e A && matchId c e B) := by
  simp [matchId, List.all_append]

theorem SatCore.matchClasses_append (c : Ctx) (e : Elem) (A B : List Str) :
    matchClasses c e (A ++ B) = (matchClasses c e A && matchClasses c e B) := by
  simp [matchClasses, List.all_append]

theorem C11.matchAttributes_nil (c : Ctx) (e : Elem) : matchAttributes c e [] = true := rfl

theorem StateLaws.matchAttributes_cons (c : Ctx) (e : Elem) (a : AttrSel) (rest : List AttrSel) :
    matchAttributes c e (a :: rest) = (matchAttributes c e [a] && matchAttributes c e rest) := by
  simp [matchAttributes]

theorem C11.matchAttributes_append (c : Ctx) (e : Elem) (A B : List AttrSel) :
    matchAttributes c e (A ++ B) = (matchAttributes c e A && matchAttributes c e B) := by
  simp [matchAttributes, List.all_append]

/-- `match_attributes` on one attribute selector: SOME value yielded by `match_attribute_name`
    matches the pattern; `xml_type_pattern` is used exactly when the document is XML and the
    selector has one. -/
theorem C11.xml_type_pattern_choice (c : Ctx) (e : Elem) (a : AttrSel) :
    matchAttributes c e [a] =
      (matchAttributeValues c e a.attrName a.pfx).any fun v =>
        match (if c.isXml && a.xmlTypePattern.isSome then a.xmlTypePattern else a.pattern) with
        | none => true
        | some r => Rx.isMatch c.env r (nvalJoin v) := by
  simp only [matchAttributes, List.all_cons, List.all_nil, Bool.and_true]
  rfl

theorem C19.matchContains_nil (c : Ctx) (l : Loc) : matchContains c l [] = true := rfl

/-- Several text pseudo-classes on one compound: a conjunction, each list tested on its own. -/
theorem C19.matchContains_cons (c : Ctx) (l : Loc) (cl : ContainsSel) (rest : List ContainsSel) :
    matchContains c l (cl :: rest) = (matchContains c l [cl] && matchContains c l rest) := by
  unfold matchContains
  simp only [List.all_cons, List.all_nil, Bool.and_true]

theorem C19.matchContains_append (c : Ctx) (l : Loc) (A B : List ContainsSel) :
    matchContains c l (A ++ B) = (matchContains c l A && matchContains c l B) := by
  unfold matchContains
  rw [List.all_append]

/-- The `lang` conjunct of `matchSel` keeps its guard (`match_lang` fails on an element without a language even
    for an empty list); with the guard it is multiplicative like the others. -/
theorem langPart_append (c : Ctx) (l : Loc) (A B : List LangSel) :
    ((A ++ B).isEmpty || matchLang c l (A ++ B)) =
      ((A.isEmpty || matchLang c l A) && (B.isEmpty || matchLang c l B)) := by
  unfold matchLang
  cases langOf c l with
  | none => cases A <;> cases B <;> rfl
  | some v => cases A <;> cases B <;> simp [List.all_append, Bool.and_assoc]

/-- `matchList` unfolded, with the local context swap made explicit.  The `!A.isEmpty` conjunct is
    Python's `match = False` initialisation, which only the loop body overwrites: an *empty* list
    returns `False` even when `is_not` is set. -/
theorem matchList_mk (c : Ctx) (l : Loc) (e : Elem) (A : List Sel) (n h : Bool) :
    matchList c l e (.mk A n h) =
      (if (!h || c.isHtml) = true then
        (!A.isEmpty && (matchAny (if h = true then c.htmlOnly else c) l e A != n)) else false) := by
  conv => lhs; unfold matchList
  rfl

theorem matchList_mk_false (c : Ctx) (l : Loc) (e : Elem) (A : List Sel) (n : Bool) :
    matchList c l e (.mk A n false) = (!A.isEmpty && (matchAny c l e A != n)) := by
  rw [matchList_mk]; rfl

theorem matchList_mk_true (c : Ctx) (l : Loc) (e : Elem) (A : List Sel) (n : Bool) :
    matchList c l e (.mk A n true) = (c.isHtml && (!A.isEmpty && (matchAny c.htmlOnly l e A != n))) := by
  rw [matchList_mk]; cases c.isHtml <;> rfl

/-- For a list that is not negated the emptiness test is redundant. -/
theorem matchList_pos (c : Ctx) (l : Loc) (e : Elem) (A : List Sel) (h : Bool) :
    matchList c l e (.mk A false h) =
      ((!h || c.isHtml) && matchAny (if h = true then c.htmlOnly else c) l e A) := by
  rw [matchList_mk]
  cases A with
  | nil => simp [matchAny_nil]
  | cons s rest => split <;> simp_all

theorem matchList_neg (c : Ctx) (l : Loc) (e : Elem) (A : List Sel) (h : Bool) :
    matchList c l e (.mk A true h) =
      ((!h || c.isHtml) && !A.isEmpty && !matchAny (if h = true then c.htmlOnly else c) l e A) := by
  rw [matchList_mk]
  split
  · rename_i hg; rw [hg]
    cases matchAny (if h = true then c.htmlOnly else c) l e A <;> simp
  · rename_i hg; simp only [Bool.not_eq_true] at hg; rw [hg]; rfl

/-- The `subs.isEmpty ||` guard of `matchSel` is redundant: `matchSubs [] = true`. -/
theorem subs_guard (c : Ctx) (l : Loc) (e : Elem) (S : List SelList) :
    (S.isEmpty || matchSubs c l e S) = matchSubs c l e S := by
  cases S with
  | nil => simp [matchSubs_nil]
  | cons s rest => simp

theorem ids_guard (c : Ctx) (e : Elem) (ids : List Str) :
    (ids.isEmpty || matchId c e ids) = matchId c e ids := by
  cases ids <;> rfl

theorem classes_guard (c : Ctx) (e : Elem) (cl : List Str) :
    (cl.isEmpty || matchClasses c e cl) = matchClasses c e cl := by
  cases cl <;> rfl

theorem contains_guard (c : Ctx) (l : Loc) (cs : List ContainsSel) :
    (cs.isEmpty || matchContains c l cs) = matchContains c l cs := by
  cases cs <;> rfl

theorem hasFlag_or (j j' m : Nat) : hasFlag (j ||| j') m = (hasFlag j m || hasFlag j' m) := by
  unfold hasFlag
  rw [Nat.and_or_distrib_right, Bool.eq_iff_iff]
  simp only [bne_iff_ne, ne_eq, Bool.or_eq_true, Nat.or_eq_zero_iff]
  exact Decidable.not_and_iff_not_or_not

theorem and_or_of_not_hasFlag {j j' m : Nat} (h : hasFlag j' m = false) : (j ||| j') &&& m = j &&& m := by
  have : j' &&& m = 0 := by simpa [hasFlag] using h
  rw [Nat.and_or_distrib_right, this, Nat.or_zero]

namespace StateLaws

/-- The selector-flag conjuncts of `match_selectors`. -/
def flagPart (c : Ctx) (l : Loc) (e : Elem) (flags : Nat) : Bool :=
  (!hasFlag flags SEL_DEFINED || matchDefined c e) &&
  (!hasFlag flags SEL_ROOT || matchRoot c l) &&
  (!hasFlag flags SEL_SCOPE || matchScope c l) &&
  (!hasFlag flags SEL_PLACEHOLDER_SHOWN || matchPlaceholderShown c l) &&
  (!hasFlag flags SEL_EMPTY || matchEmpty l) &&
  (!hasFlag flags RANGES || matchRange c e (flags &&& RANGES)) &&
  (!hasFlag flags SEL_DEFAULT || matchDefault c l) &&
  (!hasFlag flags SEL_INDETERMINATE || matchIndeterminate c l) &&
  (!hasFlag flags DIR_FLAGS || matchDir c l (flags &&& DIR_FLAGS))

@[simp] theorem flagPart_zero (c : Ctx) (l : Loc) (e : Elem) : flagPart c l e 0 = true := by
  simp [flagPart, hasFlag]

/-- The flag conjuncts are multiplicative, as long as one side carries no flag of the two groups whose test reads
    the whole group (`RANGES`, `DIR_FLAGS`). -/
theorem flagPart_or (c : Ctx) (l : Loc) (e : Elem) (j j' : Nat) (hr : hasFlag j' RANGES = false)
    (hd : hasFlag j' DIR_FLAGS = false) :
    flagPart c l e (j ||| j') = (flagPart c l e j && flagPart c l e j') := by
  unfold flagPart
  rw [and_or_of_not_hasFlag hr, and_or_of_not_hasFlag hd]
  simp only [hasFlag_or, Bool.not_or, Bool.or_and_distrib_right, hr, hd, Bool.not_false, Bool.true_or,
    Bool.and_true]
  ac_rfl

end StateLaws

/-- What the relation list is tried on. -/
def SatCore.onRel (c : Ctx) (relation : SelList) (t : Loc) : Bool :=
  match t.elem? with
  | some te => matchList c t te relation
  | none => false

/-- The relation conjunct of `matchSel`. -/
def SatCore.relOk (c : Ctx) (l : Loc) (relation : SelList) : Bool :=
  !relation.nonEmpty || relationWalk c l (headRel relation) (SatCore.onRel c relation)

theorem relOk_nil (c : Ctx) (l : Loc) : SatCore.relOk c l (.mk [] false false) = true := rfl

open SatCore StateLaws

/-- The tests on the simple selectors of a compound: everything `matchSel` checks apart from the type selector and
    the relation.  Appending to a field conjoins a test (`simplePart_append`). -/
def simplePart (c : Ctx) (l : Loc) (e : Elem) (ids classes : List Str) (attrs : List AttrSel) (nth : List NthSel)
    (subs : List SelList) (contains : List ContainsSel) (lang : List LangSel) (flags : Nat) : Bool :=
  matchId c e ids && matchClasses c e classes && matchAttributes c e attrs && matchNths c l e nth &&
    matchSubs c l e subs && (lang.isEmpty || matchLang c l lang) && matchContains c l contains &&
    flagPart c l e flags

/-- `matchSel` of a compound, by field: the guards `x.isEmpty ||` of `match_selectors` are redundant except for
    `lang`. -/
theorem matchSel_mk (c : Ctx) (l : Loc) (e : Elem)
    (tag : Option SelTag) (ids classes : List Str) (attrs : List AttrSel) (nth : List NthSel)
    (subs : List SelList) (relation : SelList) (relType : Rel) (contains : List ContainsSel)
    (lang : List LangSel) (flags : Nat) :
    matchSel c l e (.mk tag ids classes attrs nth subs relation relType contains lang flags) =
      (matchTag c e tag && simplePart c l e ids classes attrs nth subs contains lang flags &&
        relOk c l relation) := by
  conv => lhs; unfold matchSel
  rw [subs_guard, ids_guard, classes_guard, contains_guard]
  unfold relOk onRel simplePart flagPart
  ac_rfl

theorem simplePart_nil (c : Ctx) (l : Loc) (e : Elem) : simplePart c l e [] [] [] [] [] [] [] 0 = true := by
  simp [simplePart, matchId, matchClasses, matchAttributes, matchNths_nil, matchSubs_nil, matchContains]

theorem simplePart_nth (c : Ctx) (l : Loc) (e : Elem) (rs : List NthSel) :
    simplePart c l e [] [] [] rs [] [] [] 0 = matchNths c l e rs := by
  simp [simplePart, matchId, matchClasses, matchAttributes, matchSubs_nil, matchContains]

theorem simplePart_contains (c : Ctx) (l : Loc) (e : Elem) (cs : List ContainsSel) :
    simplePart c l e [] [] [] [] [] cs [] 0 = matchContains c l cs := by
  simp [simplePart, matchId, matchClasses, matchAttributes, matchNths_nil, matchSubs_nil]

theorem simplePart_lang (c : Ctx) (l : Loc) (e : Elem) (ls : List LangSel) :
    simplePart c l e [] [] [] [] [] [] ls 0 = (ls.isEmpty || matchLang c l ls) := by
  simp [simplePart, matchId, matchClasses, matchAttributes, matchNths_nil, matchSubs_nil, matchContains]

/-- **The simple selectors are multiplicative**: two compounds' worth of simple selectors on one compound hold iff
    each lot holds (the second lot without a flag of `RANGES` / `DIR_FLAGS`, whose tests read the whole group). -/
theorem simplePart_append (c : Ctx) (l : Loc) (e : Elem) (ids ids' classes classes' : List Str)
    (attrs attrs' : List AttrSel) (nth nth' : List NthSel) (subs subs' : List SelList)
    (contains contains' : List ContainsSel) (lang lang' : List LangSel) (j j' : Nat)
    (hr : hasFlag j' RANGES = false) (hd : hasFlag j' DIR_FLAGS = false) :
    simplePart c l e (ids ++ ids') (classes ++ classes') (attrs ++ attrs') (nth ++ nth') (subs ++ subs')
        (contains ++ contains') (lang ++ lang') (j ||| j') =
      (simplePart c l e ids classes attrs nth subs contains lang j &&
        simplePart c l e ids' classes' attrs' nth' subs' contains' lang' j') := by
  unfold simplePart
  rw [matchId_append, matchClasses_append, C11.matchAttributes_append, matchNths_append, matchSubs_append,
    langPart_append, C19.matchContains_append, flagPart_or c l e j j' hr hd]
  ac_rfl

theorem simplePart_subs (c : Ctx) (l : Loc) (e : Elem) (ids classes : List Str) (attrs : List AttrSel)
    (nth : List NthSel) (S T : List SelList) (contains : List ContainsSel) (lang : List LangSel) (flags : Nat) :
    simplePart c l e ids classes attrs nth (S ++ T) contains lang flags =
      (simplePart c l e ids classes attrs nth S contains lang flags && matchSubs c l e T) := by
  unfold simplePart
  rw [matchSubs_append]
  ac_rfl

theorem matchEl_eq (c : Ctx) (sel : SelList) (l : Loc) :
    matchEl c sel l = (match l.focus with
      | .elem e _ => !e.isDoc && matchList c l e sel
      | _ => false) := rfl

namespace C13Parse

/-- `match_lang` for one `:lang(…)`: the element has a language (`langOf`: nearest `lang` / `xml:lang`, else the
    `<meta http-equiv="content-language">` fallback) and SOME range passes `extended_language_filter`. -/
theorem matchLang_one (c : Ctx) (l : Loc) (vs : List Str) :
    matchLang c l [⟨vs⟩] = true ↔
      ∃ v, langOf c l = some v ∧ ∃ r ∈ vs, Lang.extendedFilter c.wildStrip r (nvalJoin v) = true := by
  unfold matchLang
  cases h : langOf c l with
  | none => simp
  | some v =>
    cases v <;> simp [nvalJoin]

end C13Parse

end SoupVerif
